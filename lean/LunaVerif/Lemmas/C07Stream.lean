import LunaVerif.Lemmas.C07Refine
import LunaVerif.Props.C09Spec
/-!
# The simulation for every handler state (`cycle_refines_event_streams`) — part 1: the bus observer, the stream contract, handler-level facts

The cycle-level composition (control endpoint + request multiplexer + standard request handler) simulates the
event-level model (vocabulary: Lemmas/C07Refine.lean).  In GET_STATUS / GET_CONFIGURATION / GET_DESCRIPTOR the answer
to a data-stage IN token is not produced in one cycle: the handler starts the `StreamSerializer` "transmitter"
(`handle_simple_data_request`) or the descriptor handler, which then stream the payload bytes over the `tx` stream,
each byte held until `tx.ready`.

The two streamers stay INPUTS of the cycle-level model; the expansion of an event gives them their *stream
contract* (the one C27 proves of the serializer and C09 of the descriptor handlers, in C09's vocabulary
`Desc.respTrace`):

  * silent (`valid = 0`, `stall = 0`) unless started                                  (`calm`);
  * started in cycle `t` (the cycle of `data_requested`), they are silent for `lat ≥ 1` cycles and then present
    the bytes of the answer one after the other, `first` on byte 0, `last` on the final byte, each byte until a
    cycle with `tx.ready`; a zero-length answer is one cycle `valid ∧ last ∧ ¬first`; a missing descriptor one
    cycle `stall`, which the distributed descriptor handler raises in cycle `t` itself
                                                  (`streamWindow`, `GapsS.stallNow`, Lemmas/C07StreamMain.lean).

The response on the bus is observed the way `USBDataPacketGenerator` (C03 `prodIn`) reads the `tx` stream: a
packet starts with a `valid ∧ first` cycle (the data PID is sampled there), its payload is the bytes of the
`valid ∧ ready` cycles up to and including the one marked `last`                         (`obsStep`).
-/
namespace LunaVerif.CtrlCyc
open LunaVerif.Device

/-! ### Observing the bus -/

/-- What the handshake generator and the data packet generator see of one cycle. -/
structure Seen where
  resp    : Resp        -- handshake / zero-length packet requested in this cycle (`outResp`)
  valid   : Bool
  first   : Bool
  last    : Bool
  payload : Nat
  pid     : Nat         -- the DATA pid selected by `tx_pid_toggle`
deriving Repr, DecidableEq

def seen (o : CycOut) : Seen :=
  ⟨outResp o, o.txValid, o.txFirst, o.txLast, o.txPayload, if o.txPidToggle = 1 then PID_DATA1 else PID_DATA0⟩

/-- The observer: nothing yet / inside a data packet (pid, bytes taken so far) / the answer. -/
inductive Obs
  | idle
  | coll (pid : Nat) (acc : List Nat)
  | done (r : Resp)
deriving Repr, DecidableEq

def obsTake (pid : Nat) (acc : List Nat) (rdy : Bool) (v : Seen) : Obs :=
  if v.valid && rdy then
    if v.last then .done (.data pid (acc ++ [v.payload])) else .coll pid (acc ++ [v.payload])
  else .coll pid acc

def obsStep (ob : Obs) (rdy : Bool) (v : Seen) : Obs :=
  match ob with
  | .idle =>
      if v.resp.isNone then
        if v.valid && v.first then obsTake v.pid [] rdy v else .idle
      else .done v.resp
  | .coll pid acc => obsTake pid acc rdy v
  | .done r => .done r

def Obs.resp : Obs → Resp
  | .done r => r
  | _ => .none

def obsRun (cyc : Cfg) : Obs → CycState → List CycIn → Obs
  | ob, _, [] => ob
  | ob, cs, i :: is => obsRun cyc (obsStep ob i.txReady (seen (step cyc cs i).2)) (step cyc cs i).1 is

/-- What the device puts on the bus during a cycle sequence, payload bytes included (the observer `obsStep` collects the
bytes the packet generator takes from the `tx` stream); `cycResp` is the reading without payload. -/
def busResp (cyc : Cfg) (cs : CycState) (is : List CycIn) : Resp := (obsRun cyc .idle cs is).resp

theorem obsRun_append (cyc : Cfg) (ob : Obs) (cs : CycState) (a b : List CycIn) :
    obsRun cyc ob cs (a ++ b) = obsRun cyc (obsRun cyc ob cs a) (final cyc cs a) b := by
  induction a generalizing ob cs with
  | nil => rfl
  | cons i is ih => exact ih _ _

theorem obsRun_done (cyc : Cfg) (r : Resp) (cs : CycState) (is : List CycIn) :
    obsRun cyc (.done r) cs is = .done r := by
  induction is generalizing cs with
  | nil => rfl
  | cons i is ih => exact ih _

def obsOf (r : Resp) : Obs := if r.isNone then .idle else .done r

theorem obsOf_resp (r : Resp) : (obsOf r).resp = r := by
  cases r <;> simp [obsOf, Obs.resp, Resp.isNone]

/-! ### The stream contract: silent unless started -/

/-- An idle cycle's free inputs with the contract "a streamer that has not been started is silent" applied to
the streamer the handler state listens to. -/
def calm (d : DevState) (n : CycIn) : CycIn :=
  match d.hstate with
  | .getStatus | .getConfiguration => { n with tValid := false }
  | .getDescriptor => { n with dValid := false, dStall := false }
  | _ => n

/-- The same as a predicate on the handler's inputs. -/
def CalmH (hs : HState) (n : HIn) : Prop :=
  match hs with
  | .getStatus | .getConfiguration => n.tValid = false
  | .getDescriptor => n.dValid = false ∧ n.dStall = false
  | _ => True

theorem calmH_calm (d : DevState) (n : CycIn) : CalmH d.hstate (noiseH (calm d n)) := by
  unfold calm CalmH
  cases d.hstate <;> simp [noiseH]

theorem calm_of_noStream {d : DevState} (h : NoStream d) (n : CycIn) : calm d n = n := by
  obtain ⟨h1, h2, h3⟩ := h
  unfold calm
  cases hd : d.hstate <;> simp_all

def NoFirst (o : HOut) : Prop := (o.txValid && o.txFirst) = false

/-! ### Handler level, every handler state -/

theorem HRel.cases {d : DevState} {P : StdState → Prop}
    (H : ∀ sp tp, (d.hstate ≠ .idle → sp = d.startPos ∧ tp = d.txPid) → P ⟨d.hstate, sp, tp, d.expectingAck⟩)
    (h : StdState) (hr : HRel d h) : P h := by
  obtain ⟨h1, h2, h3⟩ := hr
  obtain ⟨hst, sp, tp, ea⟩ := h
  simp only at h1 h2 h3
  subst h1 h2
  exact H sp tp h3

/-- One cycle of the handler with inputs `x`, from any registers related to `d`: the registers end related to `d'`,
`r` is requested on the bus, no strobe goes to the device core, no first payload byte is offered. -/
def HStep (cyc : Cfg) (d d' : DevState) (x : HIn) (r : Resp) : Prop :=
  ∀ h, HRel d h → HRel d' (stdStep cyc h x).1 ∧ hResp (muxOut (stdStep cyc h x).2 x) = r ∧
    HQuiet (muxOut (stdStep cyc h x).2 x) ∧ NoFirst (muxOut (stdStep cyc h x).2 x)

/-- `HStep` with the register strobes that take device.py's registers from `d`'s to `d'`'s values in place of `HQuiet`,
and with the answer overridden when the control endpoint acknowledges a PING in the cycle (`ping`). -/
def HFacts (cyc : Cfg) (d d' : DevState) (x : HIn) (ping : Bool) (r : Resp) : Prop :=
  ∀ h, HRel d h →
    HRel d' (stdStep cyc h x).1 ∧
    (if ping = true then Resp.hs PID_ACK else hResp (muxOut (stdStep cyc h x).2 x)) = r ∧
    NoFirst (muxOut (stdStep cyc h x).2 x) ∧
    (if (muxOut (stdStep cyc h x).2 x).addressChanged then (muxOut (stdStep cyc h x).2 x).newAddress else d.address)
      = d'.address ∧
    (if (muxOut (stdStep cyc h x).2 x).configChanged then (muxOut (stdStep cyc h x).2 x).newConfig else d.config)
      = d'.config

theorem hfacts_of_quiet {cyc : Cfg} {d d' : DevState} {x : HIn} {r : Resp} (h : HStep cyc d d' x r)
    (ha : d'.address = d.address) (hcf : d'.config = d.config) : HFacts cyc d d' x false r := by
  intro hh hr
  obtain ⟨q1, q2, q3, q4⟩ := h hh hr
  exact ⟨q1, by simpa using q2, q4, by simp [q3.1, ha], by simp [q3.2, hcf]⟩

theorem hs_quiet (cyc : Cfg) (d : DevState) (n : HIn) (hc : CalmH d.hstate n) :
    HStep cyc d d (hin d n false false false) .none := by
  refine HRel.cases fun sp tp h3 => ?_
  by_cases hty : d.setup.type = TYPE_STANDARD
  · cases hd : d.hstate <;>
      simp_all [hRel_iff, stdStep, hin, stdComb, simpleDataOut, regWriteZlp, handleNewSetup, stdStateBody, muxOut,
        hResp, HQuiet, NoFirst, CalmH]
  · simp_all [hRel_iff, stdStep, hin, muxOut, fallbackOut, hResp, HQuiet, NoFirst]

/-- What the cycle of `data_requested` / `status_requested` itself shows: in the three streaming states the
answer to a data request follows as a stream (GET_DESCRIPTOR arms `expecting_ack`). -/
def reqNow (c : DevConfig) (d : DevState) (r : Req) : DevState × Resp :=
  if d.setup.type = TYPE_STANDARD ∧ r = .data then
    match d.hstate with
    | .getStatus | .getConfiguration => (d, .none)
    | .getDescriptor => ({ d with expectingAck := true }, .none)
    | _ => request c d r
  else request c d r

theorem reqNow_noStream (c : DevConfig) (d : DevState) (r : Req) (h : NoStream d) : reqNow c d r = request c d r := by
  obtain ⟨h1, h2, h3⟩ := h
  unfold reqNow
  split
  · cases hd : d.hstate <;> simp_all
  · rfl

theorem hs_req (c : DevConfig) (hx : c.extra = []) (cyc : Cfg) (d : DevState) (n : HIn) (r : Req)
    (hc : CalmH d.hstate n) :
    HStep cyc d (reqNow c d r).1 (hin d n (r == .data) (r == .status) false) (reqNow c d r).2 := by
  refine HRel.cases fun sp tp h3 => ?_
  unfold reqNow
  rw [request_noextra c hx]
  by_cases hty : d.setup.type = TYPE_STANDARD
  · cases hd : d.hstate <;> cases r <;>
      simp_all [hRel_iff, stdStep, hin, stdComb, simpleDataOut, regWriteZlp, handleNewSetup, stdStateBody, muxOut,
        hResp, HQuiet, NoFirst, CalmH, stdRequest, toIdle, dataPid]
  · cases r <;> simp_all [hRel_iff, stdStep, hin, muxOut, fallbackOut, hResp, HQuiet, NoFirst]

theorem hs_ack (cyc : Cfg) (d : DevState) (n : HIn) (hc : CalmH d.hstate n) :
    HFacts cyc d (ackStateM cyc.maxPacket d) (hin d n false false true) false .none := by
  refine HRel.cases fun sp tp h3 => ?_
  unfold ackStateM
  by_cases hty : d.setup.type = TYPE_STANDARD
  · cases hd : d.hstate <;> cases hea : d.expectingAck <;>
      simp_all [hRel_iff, stdStep, hin, stdComb, simpleDataOut, regWriteZlp, handleNewSetup, stdStateBody, muxOut,
        hResp, NoFirst, CalmH, stdAckM, toIdle]
  · simp_all [hRel_iff, stdStep, hin, muxOut, fallbackOut, hResp, NoFirst]

theorem hs_recv (cyc : Cfg) (d : DevState) (n : HIn) (su : Setup) (hc : CalmH d.hstate n) :
    HStep cyc d (recvState d su) (recvIn n su) .none := by
  refine HRel.cases fun sp tp h3 => ?_
  unfold recvState
  by_cases hty : su.type = TYPE_STANDARD
  · cases hd : d.hstate <;>
      simp_all [hRel_iff, recvIn, stdStep, stdComb, simpleDataOut, regWriteZlp, handleNewSetup, stdStateBody,
        muxOut, hResp, HQuiet, NoFirst, CalmH]
  · simp_all [hRel_iff, recvIn, stdStep, muxOut, fallbackOut, hResp, HQuiet, NoFirst]

/-! ### A started streamer -/

/-- The streamer (`fd`: the descriptor handler, else the transmitter) presents the beat `b`. -/
def beatH (fd : Bool) (b : Desc.Beat) (n : HIn) : HIn :=
  if fd then { n with dValid := b.valid, dFirst := b.first, dLast := b.last, dPayload := b.payload, dStall := b.stall }
  else { n with tValid := b.valid, tFirst := b.first, tLast := b.last, tPayload := b.payload }

def beatIn (fd : Bool) (b : Desc.Beat) (n : CycIn) : CycIn :=
  if fd then { n with dValid := b.valid, dFirst := b.first, dLast := b.last, dPayload := b.payload, dStall := b.stall }
  else { n with tValid := b.valid, tFirst := b.first, tLast := b.last, tPayload := b.payload }

theorem noiseH_beatIn (fd : Bool) (b : Desc.Beat) (n : CycIn) : noiseH (beatIn fd b n) = beatH fd b (noiseH n) := by
  cases fd <;> rfl

theorem beatIn_txReady (fd : Bool) (b : Desc.Beat) (n : CycIn) : (beatIn fd b n).txReady = n.txReady := by
  cases fd <;> rfl

/-- The standard handler is in a streaming state and listens to the streamer `fd`. -/
def StreamState (d : DevState) (fd : Bool) : Prop :=
  d.setup.type = TYPE_STANDARD ∧
    (if fd then d.hstate = .getDescriptor else (d.hstate = .getStatus ∨ d.hstate = .getConfiguration))

theorem calmH_quiet_beat {d : DevState} {fd : Bool} (hs : StreamState d fd) (n : HIn) :
    CalmH d.hstate (beatH fd Desc.Beat.quiet n) := by
  obtain ⟨_, h2⟩ := hs
  cases fd
  · rcases h2 with h | h <;> simp_all [CalmH, beatH, Desc.Beat.quiet]
  · simp_all [CalmH, beatH, Desc.Beat.quiet]

theorem hs_beat (cyc : Cfg) (d : DevState) (h : StdState) (n : HIn) (fd : Bool) (b : Desc.Beat) (hr : HRel d h)
    (hs : StreamState d fd) (hb : b.stall = false) :
    HRel d (stdStep cyc h (hin d (beatH fd b n) false false false)).1 ∧
    (let o := muxOut (stdStep cyc h (hin d (beatH fd b n) false false false)).2 (hin d (beatH fd b n) false false false)
     o.ack = false ∧ o.stall = false ∧ o.txValid = b.valid ∧ o.txFirst = b.first ∧ o.txLast = b.last ∧
     o.txPayload = b.payload ∧ o.txDataPid = d.txPid ∧ HQuiet o) := by
  revert h
  refine HRel.cases fun sp tp h3 => ?_
  obtain ⟨hty, hh⟩ := hs
  cases fd
  · rcases hh with hh | hh <;>
      simp_all [hRel_iff, stdStep, hin, beatH, stdComb, simpleDataOut, handleNewSetup, stdStateBody, muxOut, HQuiet]
  · simp_all [hRel_iff, stdStep, hin, beatH, stdComb, handleNewSetup, stdStateBody, muxOut, HQuiet]

theorem hs_stall (cyc : Cfg) (d : DevState) (n : HIn) (hs : StreamState d true) :
    HStep cyc d (toIdle { d with expectingAck := false }) (hin d (beatH true Desc.stallBeat n) false false false)
      (.hs PID_STALL) := by
  refine HRel.cases fun sp tp h3 => ?_
  obtain ⟨hty, hh⟩ := hs
  simp_all [hRel_iff, stdStep, hin, beatH, Desc.stallBeat, stdComb, handleNewSetup, stdStateBody, muxOut, HQuiet,
    NoFirst, hResp, toIdle]

/-- The distributed descriptor handler reports a missing descriptor in the very cycle it is started
(`data_requested` and `stall` together): STALL, back to IDLE, `expecting_ack` stays clear. -/
theorem hs_req_stall (cyc : Cfg) (d : DevState) (n : HIn) (hs : StreamState d true) :
    HStep cyc d (toIdle { d with expectingAck := false }) (hin d (beatH true Desc.stallBeat n) true false false)
      (.hs PID_STALL) := by
  refine HRel.cases fun sp tp h3 => ?_
  obtain ⟨hty, hh⟩ := hs
  simp_all [hRel_iff, stdStep, hin, beatH, Desc.stallBeat, stdComb, handleNewSetup, stdStateBody, muxOut, HQuiet,
    NoFirst, hResp, toIdle]

end LunaVerif.CtrlCyc
