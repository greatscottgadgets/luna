import LunaVerif.Lemmas.I2cStep
/-!
Byte-level invariant of the I2C initiator's read path (C52): with the ghost list `bits` = the
values of the synchronised SDA line sampled by `READ-DATA-SCL-H` since the read was accepted
(oldest first), the receive shift register holds them MSB first, exactly eight are taken, and
`data_o` is their value when the operation finishes.  The acknowledge the read then drives (`sda_o = ~r_ack` in the
acknowledge clock) is the third part of `write_msb_first_and_ack` (`WInv`, Lemmas/I2cWrite.lean).
-/
namespace LunaVerif.I2c

def val (bits : List Bool) : Nat := bits.foldl (fun a b => 2 * a + (if b then 1 else 0)) 0

theorem val_snoc (bits : List Bool) (b : Bool) : val (bits ++ [b]) = 2 * val bits + (if b then 1 else 0) := by
  simp [val, List.foldl_append]

/-- the cycle in which `READ-DATA-SCL-H` samples -/
def samples (c : Config) (s : State) : Bool :=
  s.fsm == .rdDataSclH && !stb s && s.sclO && (!c.clkStretch || s.sclI)

def rstep (c : Config) (s : State) (bits : List Bool) (i : In) : List Bool :=
  if s.fsm = .idle ∧ i.start = false ∧ i.stop = false ∧ i.write = false ∧ i.read = true then []
  else if samples c s then bits ++ [s.sdaI] else bits

def afterR (c : Config) : State × List Bool → List In → State × List Bool
  | sb, [] => sb
  | (s, b), i :: is => afterR c (step c s i, rstep c s b i) is

def RInv (s : State) (bits : List Bool) : Prop :=
  s.rShreg < 256 ∧ match s.fsm with
  | .rdDataSclL | .rdDataSdaH | .rdDataSclH => bits.length = s.bitno ∧ val bits = s.rShreg % 2 ^ s.bitno
  | .rdDataSdaN => bits.length = s.bitno + 1 ∧ val bits = s.rShreg % 2 ^ (s.bitno + 1)
  | .rdAckSclL | .rdAckSdaX | .rdAckSclH => bits.length = 8 ∧ val bits = s.rShreg
  | .rdAckSdaN => bits.length = 8 ∧ val bits = s.dataO
  | _ => True

theorem shift_in_mod (x y m : Nat) (hx : x < 2) (hm : 0 < m) : (x + y * 2) % (m * 2) = 2 * (y % m) + x := by
  have h1 := Nat.div_add_mod y m
  have h2 := Nat.mod_lt y hm
  have hq : m * 2 * (y / m) = 2 * (m * (y / m)) := by rw [Nat.mul_comm m 2, Nat.mul_assoc]
  have : x + y * 2 = 2 * (y % m) + x + m * 2 * (y / m) := by rw [hq]; omega
  rw [this, Nat.add_mul_mod_self_left, Nat.mod_eq_of_lt (by omega)]

theorem sample_arith (r k : Nat) (b : Bool) (hk : k < 8) :
    ((if b then 1 else 0) + r % 128 * 2) % 2 ^ (k + 1) = 2 * (r % 2 ^ k) + (if b then 1 else 0) := by
  have hd : 2 ^ k ∣ 128 := Nat.pow_dvd_pow 2 (show k ≤ 7 by omega)
  rw [← Nat.mod_mod_of_dvd r hd, Nat.pow_succ]
  exact shift_in_mod _ _ _ (by split <;> omega) (Nat.two_pow_pos k)

theorem rstep_other (c : Config) (s : State) (bits : List Bool) (i : In)
    (h1 : s.fsm ≠ .idle) (h2 : s.fsm ≠ .rdDataSclH) : rstep c s bits i = bits := by
  simp [rstep, samples, h1, h2]

theorem samples_eq_exits (c : Config) (s : State) (hf : s.fsm = .rdDataSclH) : samples c s = exits c s := by
  simp [samples, exits, hf, sclHighState, Bool.and_assoc]

theorem rstep_wait (c : Config) (s : State) (bits : List Bool) (i : In)
    (hi : s.fsm ≠ .idle) (he : exits c s = false) : rstep c s bits i = bits := by
  by_cases hf : s.fsm = .rdDataSclH
  · simp [rstep, hi, samples_eq_exits c s hf, he]
  · exact rstep_other c s bits i hi hf

/-- `RInv` does not mention SCL, and `bits` moves only at a handover, so waiting and releasing keep it.  At a handover
the new FSM state is known, so `RInv` of the new state is the one clause of the state entered.  The handovers that
do something: IDLE accepts the read with `bitno = 0` (`LoopInv.bit0`) and empties `bits`; `READ-DATA-SCL-H` shifts in
the bit that `rstep` appends (`sample_arith`, `val_snoc`); `READ-DATA-SDA-N` counts, and leaves the loop at
`bitno = 7`, when the eight low bits are the whole register; `READ-ACK-SCL-H` copies the register to `data_o`. -/
theorem rinv_step (c : Config) (s : State) (bits : List Bool) (i : In) (hl : LoopInv s) (h : RInv s bits) :
    RInv (step c s i) (rstep c s bits i) := by
  refine step_cases (P := fun s' => RInv s' (rstep c s bits i)) c s i
    (fun hi he => by rw [rstep_wait c s bits i hi he]; exact h)
    (fun hi he _ => by rw [rstep_wait c s bits i hi he]; exact h) fun hx => ?_
  obtain ⟨hlt, h⟩ := h
  cases hf : s.fsm <;> simp only [hf] at h
  case idle =>
    have hz : s.bitno = 0 := hl.bit0 (by rw [hf]; rfl)
    refine idle_cases (P := fun s' => RInv s' _) c s i hf ?_ (fun _ _ _ => ⟨hlt, trivial⟩) (fun h1 h2 h3 h4 => ?_)
      fun _ _ _ _ => ?_
    · rintro f (⟨_, rfl | rfl | rfl⟩ | ⟨_, _, rfl | rfl | rfl⟩) <;> exact ⟨hlt, trivial⟩
    · simp [RInv, rstep, tick_fields, hf, hz, hlt, val, h1, h2, h3, h4, Nat.mod_one]
    · simp [RInv, tick_fields, hf, hlt]
  case rdDataSclH =>
    have hk := sample_arith s.rShreg s.bitno s.sdaI hl.bitLt
    have hv := val_snoc bits s.sdaI
    have hsh : (if s.sdaI then 1 else 0) + s.rShreg % 128 * 2 < 256 := by split <;> omega
    have hr : rstep c s bits i = bits ++ [s.sdaI] := by
      simp [rstep, hf, samples_eq_exits c s hf, hx.resolve_left (by simp [hf])]
    simp [RInv, handover, hf, hr, tick_fields, hk, hv, hsh, h]
  case rdDataSdaN =>
    have hn : s.bitno ≠ 7 → (s.bitno + 1) % 8 = s.bitno + 1 := fun _ => by have := hl.bitLt; omega
    rw [rstep_other c s bits i (by simp [hf]) (by simp [hf])]
    by_cases h7 : s.bitno = 7
    · rw [h7, Nat.mod_eq_of_lt (show s.rShreg < 2 ^ (7 + 1) from hlt)] at h
      simp [RInv, handover, hf, tick_fields, h7, hlt, h]
    · simp [RInv, handover, hf, tick_fields, h7, hn, hlt, h]
  case wrDataSdaN =>
    rw [rstep_other c s bits i (by simp [hf]) (by simp [hf])]
    by_cases h7 : s.bitno = 7 <;> simp [RInv, handover, hf, tick_fields, h7, hlt]
  all_goals
    rw [rstep_other c s bits i (by simp [hf]) (by simp [hf])]
    simp [RInv, handover, hf, tick_fields, hlt, h]

theorem rinv_init : RInv init [] := ⟨Nat.zero_lt_succ _, trivial⟩

theorem rinv_reachable (c : Config) :
    ∀ (h : List In) (sb : State × List Bool), LoopInv sb.1 → RInv sb.1 sb.2 →
      RInv (afterR c sb h).1 (afterR c sb h).2
  | [], _, _, hr => hr
  | i :: is, (s, b), hl, hr => rinv_reachable c is _ (loopInv_step c s i hl) (rinv_step c s b i hl hr)

/-- **Read, byte level.**  After ANY input history, with `bits` the values of the synchronised SDA
line sampled (in `READ-DATA-SCL-H`, with SCL released and, with `clk_stretch`, seen high —
`read_samples_when_scl_high`) since the read was accepted: when the read reaches its acknowledge
clock exactly eight bits have been sampled and the shift register is their value, first bit most
significant; in the final state of the operation (`READ-ACK-SDA-N`) `data_o` is that value. -/
theorem read_returns_sampled_octet (c : Config) (h : List In) :
    let s := (afterR c (init, []) h).1
    let bits := (afterR c (init, []) h).2
    ((s.fsm = .rdAckSclL ∨ s.fsm = .rdAckSdaX ∨ s.fsm = .rdAckSclH) → bits.length = 8 ∧ s.rShreg = val bits) ∧
    (s.fsm = .rdAckSdaN → bits.length = 8 ∧ s.dataO = val bits) := by
  intro s bits
  have r : RInv s bits := rinv_reachable c h (init, []) loopInv_init rinv_init
  refine ⟨fun hs => ?_, fun hs => ?_⟩
  · rcases hs with hf | hf | hf <;> rw [RInv, hf] at r <;> exact ⟨r.2.1, r.2.2.symm⟩
  · rw [RInv, hs] at r
    exact ⟨r.2.1, r.2.2.symm⟩

end LunaVerif.I2c
