import LunaVerif.Lemmas.C09Block
import LunaVerif.Lemmas.C09Dist
import LunaVerif.Model.Usb2.DescriptorMux
/-!
Helper lemmas for C09: `GetDescriptorHandlerMux` as a pure function of the two handlers' output
traces (`muxTrace`), what it makes of the three combinations of responses that occur when the
two handlers own disjoint sets of descriptors, and its final state as the pair of the two handlers'
final states.
-/
namespace LunaVerif.Desc.Mux

/-- the mux's combinational outputs and next latch values from the two handlers' beats. -/
def muxBeat (ob od : Beat) (start l0 l1 : Bool) : Beat × Bool × Bool :=
  let stalled0 := ob.stall || (l0 && !start)
  let stalled1 := od.stall || (l1 && !start)
  let stall := stalled0 && stalled1
  let upd (latch hstall : Bool) : Bool :=
    if hstall && !stall then true else if start || stall then false else latch
  (⟨ob.valid || od.valid, ob.first || od.first, ob.last || od.last,
    if od.valid && !ob.valid then od.payload else ob.payload, stall⟩, upd l0 ob.stall, upd l1 od.stall)

def muxTrace : List Beat → List Beat → List Bool → Bool → Bool → List Beat
  | ob :: obs, od :: ods, st :: sts, l0, l1 =>
    (muxBeat ob od st l0 l1).1 :: muxTrace obs ods sts (muxBeat ob od st l0 l1).2.1 (muxBeat ob od st l0 l1).2.2
  | _, _, _, _, _ => []

def toDist (i : Block.In) : Dist.In := ⟨i.value, i.length, i.startPos, i.start, i.ready⟩

theorem run_eq (c : Config) (ins : List In) : ∀ s : State,
    run c s ins = muxTrace (Block.run c.block s.b ins) (Dist.run c.dist s.d (ins.map toDist))
      (ins.map (·.start)) s.latch0 s.latch1 := by
  induction ins with
  | nil => intro s; rfl
  | cons i is ih =>
    intro s
    simp only [run, List.map_cons, Block.run, Dist.run, muxTrace]
    rw [ih]
    rfl

theorem toDist_reqInputs (v l p : Nat) (rs : List Bool) :
    (Block.reqInputs v l p rs).map toDist = Dist.reqInputs v l p rs := by
  cases rs with
  | nil => rfl
  | cons r rs => simp [Block.reqInputs, Dist.reqInputs, toDist, List.map_map, Function.comp_def]

theorem start_reqInputs (v l p : Nat) (r : Bool) (rs : List Bool) :
    (Block.reqInputs v l p (r :: rs)).map (·.start) = true :: rs.map (fun _ => false) := by
  simp [Block.reqInputs, List.map_map, Function.comp_def]

/-! ### the three combinations, after the start cycle (`start` low) -/

/-- handler 0 answers, handler 1 has stalled (its latch is set): the mux shows handler 0. -/
theorem mux_left (rs : List Bool) : ∀ obs : List Beat, obs.length = rs.length → (∀ b ∈ obs, b.stall = false) →
    muxTrace obs (idleTrace rs) (rs.map (fun _ => false)) false true = obs := by
  induction rs with
  | nil => intro obs h _; cases obs with
    | nil => rfl
    | cons _ _ => simp at h
  | cons r rs ih =>
    intro obs hl hs
    cases obs with
    | nil => simp at hl
    | cons ob obs =>
      have h0 := hs ob (List.mem_cons_self ..)
      simp only [idleTrace_cons, List.map_cons, muxTrace]
      have hb : muxBeat ob Beat.quiet false false true = (ob, false, true) := by
        obtain ⟨v, f, l, pl, st⟩ := ob
        simp only at h0
        subst h0
        simp [muxBeat, Beat.quiet]
      rw [hb]
      simp only
      rw [ih obs (by simpa using hl) (fun b hb => hs b (List.mem_cons_of_mem _ hb))]

/-- handler 1 answers, handler 0 refuses (at any time; its latch value does not matter): the mux
shows handler 1. -/
theorem mux_right (rs : List Bool) : ∀ (obs ods : List Beat) (l0 : Bool),
    obs.length = rs.length → ods.length = rs.length →
    (∀ b ∈ obs, Mute b) → (∀ b ∈ ods, Honest b) →
    muxTrace obs ods (rs.map (fun _ => false)) l0 false = ods := by
  induction rs with
  | nil => intro obs ods l0 _ h _ _; cases ods with
    | nil => cases obs <;> rfl
    | cons _ _ => simp at h
  | cons r rs ih =>
    intro obs ods l0 hlb hld hm hh
    cases obs with
    | nil => simp at hlb
    | cons ob obs =>
      cases ods with
      | nil => simp at hld
      | cons od ods =>
        obtain ⟨m1, m2, m3, m4⟩ := hm ob (List.mem_cons_self ..)
        obtain ⟨g1, g2⟩ := hh od (List.mem_cons_self ..)
        simp only [List.map_cons, muxTrace]
        have hb : ∃ l0', muxBeat ob od false l0 false = (od, l0', false) := by
          obtain ⟨v, f, l, pl, st⟩ := ob
          obtain ⟨v', f', l', pl', st'⟩ := od
          simp only at m1 m2 m3 m4 g1 g2
          subst m1 m2 m3 m4 g1
          cases v' with
          | true => exact ⟨_, by simp [muxBeat]; rfl⟩
          | false => have := g2 rfl; subst this; exact ⟨_, by simp [muxBeat]; rfl⟩
        obtain ⟨l0', hb⟩ := hb
        rw [hb]
        simp only
        rw [ih obs ods l0' (by simpa using hlb) (by simpa using hld)
          (fun b hb => hm b (List.mem_cons_of_mem _ hb)) (fun b hb => hh b (List.mem_cons_of_mem _ hb))]

theorem mux_idle (rs : List Bool) :
    muxTrace (idleTrace rs) (idleTrace rs) (rs.map (fun _ => false)) false false = idleTrace rs :=
  mux_right rs _ _ false (List.length_map _) (List.length_map _) (idleTrace_all Mute mute_quiet rs)
    (idleTrace_all Honest honest_quiet rs)

/-- handler 1 has stalled (latch set), handler 0 stalls later: the mux stalls in that cycle, once. -/
theorem mux_both (n : Nat) : ∀ rs : List Bool,
    muxTrace (delayed n (pulseTrace stallBeat) rs) (idleTrace rs) (rs.map (fun _ => false)) false true
      = delayed n (pulseTrace stallBeat) rs := by
  induction n with
  | zero =>
    intro rs
    cases rs with
    | nil => rfl
    | cons r rs =>
      simp only [delayed, pulseTrace, idleTrace_cons, List.map_cons, muxTrace]
      have hb : muxBeat stallBeat Beat.quiet false false true = (stallBeat, false, false) := by
        simp [muxBeat, Beat.quiet, stallBeat]
      rw [hb]
      simp only
      rw [mux_idle]
  | succ n ih =>
    intro rs
    cases rs with
    | nil => rfl
    | cons r rs =>
      simp only [delayed, idleTrace_cons, List.map_cons, muxTrace]
      have hb : muxBeat Beat.quiet Beat.quiet false false true = (Beat.quiet, false, true) := by
        simp [muxBeat, Beat.quiet]
      rw [hb]
      simp only
      rw [ih]

/-! ### whole requests (start cycle first; the latches may hold anything from the previous request) -/

theorem muxBeat_start_stall1 (l0 l1 : Bool) : muxBeat Beat.quiet stallBeat true l0 l1 = (Beat.quiet, false, true) := by
  cases l0 <;> cases l1 <;> simp [muxBeat, Beat.quiet, stallBeat]

theorem muxBeat_start_quiet (l0 l1 : Bool) : muxBeat Beat.quiet Beat.quiet true l0 l1 = (Beat.quiet, false, false) := by
  cases l0 <;> cases l1 <;> simp [muxBeat, Beat.quiet]

/-- descriptor owned by handler 0: handler 1 stalls in the start cycle, the mux shows handler 0's answer. -/
theorem mux_owner0 (n : Nat) (rB : Response) (hr : rB ≠ .stall) (r : Bool) (rs : List Bool) (l0 l1 : Bool) :
    muxTrace (respTrace (n + 1) rB (r :: rs)) (respTrace 0 .stall (r :: rs)) (true :: rs.map (fun _ => false)) l0 l1
      = respTrace (n + 1) rB (r :: rs) := by
  show muxTrace (Beat.quiet :: respTrace n rB rs) (stallBeat :: idleTrace rs) _ l0 l1 = Beat.quiet :: respTrace n rB rs
  simp only [muxTrace, muxBeat_start_stall1]
  rw [mux_left rs _ (respTrace_length n rB rs) (fun b hb => (respTrace_honest n rB hr rs b hb).1)]

/-- descriptor owned by handler 1: handler 0 stalls after its lookup, the mux shows handler 1's answer. -/
theorem mux_owner1 (n m : Nat) (rD : Response) (hr : rD ≠ .stall) (r : Bool) (rs : List Bool) (l0 l1 : Bool) :
    muxTrace (respTrace (n + 1) .stall (r :: rs)) (respTrace (m + 1) rD (r :: rs)) (true :: rs.map (fun _ => false)) l0 l1
      = respTrace (m + 1) rD (r :: rs) := by
  show muxTrace (Beat.quiet :: respTrace n .stall rs) (Beat.quiet :: respTrace m rD rs) _ l0 l1
    = Beat.quiet :: respTrace m rD rs
  simp only [muxTrace, muxBeat_start_quiet]
  rw [mux_right rs _ _ false (respTrace_length n .stall rs) (respTrace_length m rD rs)
    (respTrace_mute n rs) (respTrace_honest m rD hr rs)]

/-- descriptor owned by nobody: the mux stalls exactly when the second handler has stalled too. -/
theorem mux_nobody (n : Nat) (r : Bool) (rs : List Bool) (l0 l1 : Bool) :
    muxTrace (respTrace (n + 1) .stall (r :: rs)) (respTrace 0 .stall (r :: rs)) (true :: rs.map (fun _ => false)) l0 l1
      = respTrace (n + 1) .stall (r :: rs) := by
  show muxTrace (Beat.quiet :: delayed n (pulseTrace stallBeat) rs) (stallBeat :: idleTrace rs) _ l0 l1
    = Beat.quiet :: delayed n (pulseTrace stallBeat) rs
  simp only [muxTrace, muxBeat_start_stall1]
  rw [mux_both n rs]

/-! ### the final state: the pair of the two handlers' final states -/

def final (c : Config) : State → List In → State
  | s, [] => s
  | s, i :: is => final c (step c s i).1 is

theorem isRun (c : Config) : IsRun (step c) (run c) (final c) :=
  ⟨fun _ => rfl, fun _ _ _ => rfl, fun _ => rfl, fun _ _ _ => rfl⟩

theorem final_parts (c : Config) (ins : List In) : ∀ s : State,
    (final c s ins).b = Block.final c.block s.b ins ∧ (final c s ins).d = Dist.final c.dist s.d (ins.map toDist) := by
  induction ins with
  | nil => intro s; exact ⟨rfl, rfl⟩
  | cons i is ih =>
    intro s
    simp only [final, Block.final, List.map_cons, Dist.final]
    exact ih _

end LunaVerif.Desc.Mux
