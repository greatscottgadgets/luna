import LunaVerif.Lemmas.C25RxCdc
/-!
# C25: the two FIFOs side by side -- the 12 MHz side sees what the 48 MHz side writes, in the order of writing

Each FIFO on its own is a delay line (`fifo_bins`, Lemmas/C25RxFifo): with its writes at least 17 cycles apart and 16 cycles
without a write at either end (`Sparse 16 16`), the `usb` side samples the write stream binned at the `usb` edges, three samples
late.  Both FIFOs are binned by the same clock, so the order of a payload write and a flags write survives the crossing; two
writes less than four cycles apart may share a sample, which is harmless when they are a payload write followed by the end flag
-- the last byte of a packet and its end flag, the one case in which both FIFOs carry something at a time; `Apart` admits
that case and no other close pair (`usbEvN_bins`).  Hence `cdc_events`: over the samples `usbEvN`
gives what it gives over the cycle-level write streams themselves, for every clock phase and any pair of empty, settled FIFOs.
`cdc_transfer` adds `cdc_split` (Lemmas/C25RxCdc), the error samples (`Late`, `late_bins`, `usbEvO_late`: an error that does not
follow a start flag on the write side is not sampled while `o_pkt_in_progress` is high) and the reading of the write streams
as write-side events (`usbEvN_events`, `gate`): the events of `Props/C25RxDrift` are the events of the 12 MHz side.

What a packet has to supply is spacing only.  `pays_spaced7_any`: in PKT_ACTIVE the payload writes are at least eight strobes
apart whatever the data bits (`SpacedGt 7`; `WF`, the sentinel position of the shift register); with strobes at least three
cycles apart this is more than the 16 cycles the FIFO needs (`sparse_spacedGt`, `sparse_flatV`).  `apart_blocks`: `Apart` from
a condition on consecutive bits (`ApartB`).

`err_seen_core`: the flags FIFO alone; `o_receive_error` high from the cycle in which the end flag is written: the first `usb`
edge from then on shows it while `o_pkt_in_progress` is still high (`err_at`).

`Seg`, `seg_quiet`: a predicate on a stretch of the three streams at whose ends both FIFOs are empty and settled, and the one
stretch for which it is proved, that in which nothing is written; nothing uses them.
-/
namespace LunaVerif.FsRxCdc
open LunaVerif.FsRx LunaVerif.FsCodec

/-! ### events from sample streams -/

/-- per-cycle values sampled at the `usb` edges -/
def smpB (φ : Nat) : Nat → List Bool → List Bool
  | _, [] => []
  | c, x :: xs => (if c == φ then [x] else []) ++ smpB φ ((c + 1) % 4) xs

theorem smpB_length (φ : Nat) (xs : List Bool) : ∀ c, (smpB φ c xs).length = edges φ c xs.length := by
  induction xs with
  | nil => intro c; rfl
  | cons x xs ih => intro c; simp only [smpB, List.length_append, ih, List.length_cons, edges]; split <;> simp

theorem smpB_append (φ : Nat) (x y : List Bool) : ∀ c, c < 4 →
    smpB φ c (x ++ y) = smpB φ c x ++ smpB φ ((c + x.length) % 4) y := by
  induction x with
  | nil => intro c hc; simp [smpB, Nat.mod_eq_of_lt hc]
  | cons o os ih =>
    intro c hc
    have hcc : ((c + 1) % 4 + os.length) % 4 = (c + (os.length + 1)) % 4 := by omega
    simp only [List.cons_append, smpB, ih _ (Nat.mod_lt _ (by omega : 4 > 0)), List.length_cons, hcc,
      List.append_assoc]

theorem smpB_const (φ : Nat) (v : Bool) (n : Nat) : ∀ c, smpB φ c (List.replicate n v) = List.replicate (edges φ c n) v := by
  induction n with
  | zero => intro c; rfl
  | succ n ih =>
    intro c
    rw [List.replicate_succ]
    simp only [smpB, ih, edges]
    split <;> simp [List.replicate_succ, Nat.add_comm 1]

theorem errSamples_smpB (φ : Nat) (os : List FsRx.Out) : ∀ c, errSamples φ c os = smpB φ c (os.map (·.rxErr)) := by
  induction os with
  | nil => intro c; rfl
  | cons o os ih => intro c; simp only [errSamples, List.map, smpB, ih]

theorem usbEvN_nones (j : Nat) (ip : Bool) (ps fs : List (Option Nat)) :
    usbEvN ip (List.replicate j none ++ ps) (List.replicate j none ++ fs) = usbEvN ip ps fs := by
  induction j with
  | zero => rfl
  | succ j ih =>
    rw [List.replicate_succ]
    simp only [List.cons_append, usbEvN, oStart, oEnd, ipNextO]
    simpa using ih

theorem usbEvN_nil_right (ip : Bool) (ps : List (Option Nat)) : usbEvN ip ps [] = [] := by
  cases ps <;> simp [usbEvN]

theorem usbEvN_idle (ip : Bool) (n m : Nat) : usbEvN ip (List.replicate n none) (List.replicate m none) = [] := by
  induction n generalizing m with
  | zero => simp [usbEvN]
  | succ n ih =>
    cases m with
    | zero => simp [List.replicate_succ, usbEvN]
    | succ m =>
      rw [List.replicate_succ, List.replicate_succ]
      simp only [usbEvN, oStart, oEnd, ipNextO]
      simpa using ih m

theorem ipFinalO_append (xs ys : List (Option Nat)) : ∀ i, ipFinalO i (xs ++ ys) = ipFinalO (ipFinalO i xs) ys := by
  induction xs with
  | nil => intro i; rfl
  | cons x xs ih => intro i; simp only [List.cons_append, ipFinalO, ih]

theorem ipFinalO_nones (n : Nat) (ip : Bool) : ipFinalO ip (List.replicate n none) = ip := by
  have := ipFinalO_nones_left n ip []
  simpa [ipFinalO] using this

/-! ### what the 12 MHz side sees is what was written, in the order of writing -/

/-- what one sample (payload, flags) makes the 12 MHz side see: one step of `usbEvN` -/
def smpEv (ip : Bool) (p f : Option Nat) : List EvU :=
  (if oStart f then [.start] else []) ++ (match p with | some v => if ip then [EvU.byte v] else [] | none => []) ++
  (if oEnd f then [.fin] else [])

theorem usbEvN_cons (ip : Bool) (p f : Option Nat) (ps fs : List (Option Nat)) :
    usbEvN ip (p :: ps) (f :: fs) = smpEv ip p f ++ usbEvN (ipNextO ip f) ps fs := by
  cases p <;> simp only [usbEvN, smpEv]

theorem usbEvN_append (ps1 : List (Option Nat)) : ∀ (ip : Bool) (fs1 ps2 fs2 : List (Option Nat)), fs1.length = ps1.length →
    usbEvN ip (ps1 ++ ps2) (fs1 ++ fs2) = usbEvN ip ps1 fs1 ++ usbEvN (ipFinalO ip fs1) ps2 fs2 := by
  induction ps1 with
  | nil =>
    intro ip fs1 ps2 fs2 h
    have : fs1 = [] := List.eq_nil_of_length_eq_zero (by simpa using h)
    subst this; simp [usbEvN, ipFinalO]
  | cons p ps ih =>
    intro ip fs1 ps2 fs2 h
    match fs1, h with
    | f :: fs, h =>
      simp only [List.cons_append, usbEvN_cons, ipFinalO, ih _ fs ps2 fs2 (by simpa using h), List.append_assoc]

/-- Two writes less than four cycles apart can fall between the same two `usb` edges and are then seen in one sample.  That is
as if they were seen one after the other when the first is a payload write and the second the end flag; `Apart` allows nothing
else (`g` = cycles since the last write, `lp` = that one was a payload write). -/
def Apart : Nat → Bool → List (Option Nat) → List (Option Nat) → Bool
  | g, lp, p :: ps, f :: fs =>
    match p, f with
    | none, none => Apart (g + 1) lp ps fs
    | some _, none => decide (3 ≤ g) && Apart 0 true ps fs
    | none, some v => (decide (3 ≤ g) || (lp && !v.testBit 1)) && Apart 0 false ps fs
    | some _, some _ => false
  | _, _, _, _ => true

theorem apart_quiet (n : Nat) : ∀ (g : Nat) (lp : Bool) (P F : List (Option Nat)),
    Apart g lp (List.replicate n none ++ P) (List.replicate n none ++ F) = Apart (g + n) lp P F := by
  induction n with
  | zero => intro g lp P F; rfl
  | succ n ih => intro g lp P F; rw [List.replicate_succ]; simp only [List.cons_append, Apart, ih]; congr 1; omega

/-- cycles since the last `usb` edge, that one included, when the clock is at `c` -/
def sinceEdge (φ c : Nat) : Nat := (c + 3 - φ) % 4 + 1

/-- **binning keeps the events**: `usbEvN` over the binned streams, with what is still waiting for its edge, is `usbEvN` over
the cycles.  Invariant: a write waiting (`ap`, `af`) is younger than the last edge, and after a payload write no flag waits. -/
theorem usbEvN_bins (φ : Nat) (hφ : φ < 4) (P : List (Option Nat)) : ∀ (F : List (Option Nat)) (c : Nat) (ip : Bool)
    (ap af : Option Nat) (g : Nat) (lp : Bool), F.length = P.length → c < 4 → Apart g lp P F = true →
    ((ap = none ∧ af = none) ∨ (g < sinceEdge φ c ∧ (lp = true → af = none))) →
    usbEvN ip (bins φ c ap P) (bins φ c af F) ++
        smpEv (ipFinalO ip (bins φ c af F)) (binsAcc φ c ap P) (binsAcc φ c af F) =
      smpEv ip ap af ++ usbEvN (ipNextO ip af) P F ∧
    ipNextO (ipFinalO ip (bins φ c af F)) (binsAcc φ c af F) = ipFinalO (ipNextO ip af) F := by
  induction P with
  | nil =>
    intro F c ip ap af g lp hl _ _ _
    have : F = [] := List.eq_nil_of_length_eq_zero (by simpa using hl)
    subst this
    simp [bins, binsAcc, usbEvN, ipFinalO]
  | cons p ps ih =>
    intro F c ip ap af g lp hl hc ha hinv
    match F, hl with
    | f :: fs, hl =>
      have hl' : fs.length = ps.length := by simpa using hl
      have hc' : (c + 1) % 4 < 4 := Nat.mod_lt _ (by omega)
      by_cases he : c = φ
      · -- an edge: what waited is seen, the write of this cycle is the first to wait for the next edge
        subst he
        have hbl : sinceEdge c ((c + 1) % 4) = 1 := by unfold sinceEdge; omega
        have key : ∃ g' lp', Apart g' lp' ps fs = true ∧
            ((p = none ∧ f = none) ∨ (g' < sinceEdge c ((c + 1) % 4) ∧ (lp' = true → f = none))) := by
          match p, f, ha with
          | none, none, ha => exact ⟨g + 1, lp, ha, Or.inl ⟨rfl, rfl⟩⟩
          | some _, none, ha =>
            simp only [Apart, Bool.and_eq_true] at ha
            exact ⟨0, true, ha.2, Or.inr ⟨by omega, fun _ => rfl⟩⟩
          | none, some v, ha =>
            simp only [Apart, Bool.and_eq_true] at ha
            exact ⟨0, false, ha.2, Or.inr ⟨by omega, fun h => by simp at h⟩⟩
          | some _, some _, ha => simp [Apart] at ha
        obtain ⟨g', lp', ha', hinv'⟩ := key
        obtain ⟨t1, t2⟩ := ih fs ((c + 1) % 4) (ipNextO ip af) p f g' lp' hl' hc' ha' hinv'
        simp only [bins, binsAcc, beq_self_eq_true, if_true, usbEvN_cons, ipFinalO, List.append_assoc, t1, t2]
        exact ⟨trivial, trivial⟩
      · -- no edge: the write of this cycle joins what waits
        have hce : (c == φ) = false := by simpa using he
        have hb3 : sinceEdge φ c ≤ 3 := by unfold sinceEdge; omega
        have hb1 : sinceEdge φ ((c + 1) % 4) = sinceEdge φ c + 1 := by unfold sinceEdge; omega
        simp only [bins, binsAcc, hce, Bool.false_eq_true, if_false]
        have empty_of : 3 ≤ g → ap = none ∧ af = none := fun h3 => hinv.resolve_right (fun h => by omega)
        match p, f, ha with
        | none, none, ha =>
          obtain ⟨t1, t2⟩ := ih fs ((c + 1) % 4) ip ap af (g + 1) lp hl' hc' ha
            (hinv.imp id (fun h => ⟨by omega, h.2⟩))
          simp only [Option.or_none, t1, t2, usbEvN_cons, ipFinalO]
          simp [smpEv, oStart, oEnd, ipNextO]
        | some d, none, ha =>
          simp only [Apart, Bool.and_eq_true, decide_eq_true_eq] at ha
          obtain ⟨rfl, rfl⟩ := empty_of ha.1
          obtain ⟨t1, t2⟩ := ih fs ((c + 1) % 4) ip (some d) none 0 true hl' hc' ha.2 (Or.inr ⟨by omega, fun _ => rfl⟩)
          simp only [Option.none_or, Option.or_none, t1, t2, usbEvN_cons, ipFinalO]
          simp [smpEv, oStart, oEnd, ipNextO]
        | none, some v, ha =>
          simp only [Apart, Bool.and_eq_true, Bool.or_eq_true, decide_eq_true_eq, Bool.not_eq_true'] at ha
          have haf : af = none ∧ (ap = none ∨ v.testBit 1 = false) := by
            rcases ha.1 with h3 | ⟨hlp, hv⟩
            · exact ⟨(empty_of h3).2, Or.inl (empty_of h3).1⟩
            · rcases hinv with h | h
              · exact ⟨h.2, Or.inl h.1⟩
              · exact ⟨h.2 hlp, Or.inr hv⟩
          obtain ⟨rfl, hx⟩ := haf
          obtain ⟨t1, t2⟩ := ih fs ((c + 1) % 4) ip ap (some v) 0 false hl' hc' ha.2
            (Or.inr ⟨by omega, fun h => by simp at h⟩)
          simp only [Option.none_or, Option.or_none, t1, t2, usbEvN_cons, ipFinalO]
          rcases hx with rfl | hv
          · simp [smpEv, oStart, oEnd, ipNextO]
          · simp [smpEv, oStart, oEnd, ipNextO, hv]
        | some _, some _, ha => simp [Apart] at ha

/-- **the two FIFOs side by side**: of two write streams, each with its writes at least 17 cycles apart and 16 cycles without
a write at either end (`Sparse 16 16`), and `Apart`, the 12 MHz side sees what was written, in the order of writing -- for every
clock phase and any pair of empty, settled FIFOs. -/
theorem cdc_events (φ : Nat) (hφ : φ < 4) (P F : List (Option Nat)) (hl : F.length = P.length)
    (hP : Sparse 16 16 P = true) (hF : Sparse 16 16 F = true) (g : Nat) (lp : Bool) (hA : Apart g lp P F = true)
    (c pp pf : Nat) (memp memf : List Nat) (hc : c < 4) (hpp : pp < 8) (hpf : pf < 8) (hmp : memp.length = 4)
    (hmf : memf.length = 4) (ip : Bool) :
    usbEvN ip ((runFifo φ c (settled pp memp) P).2.map rdyData) ((runFifo φ c (settled pf memf) F).2.map rdyData) =
      usbEvN ip P F ∧
    ipFinalO ip ((runFifo φ c (settled pf memf) F).2.map rdyData) = ipFinalO ip F := by
  obtain ⟨_, p2, p3⟩ := fifo_bins φ hφ P.length P (Nat.le_refl _) 16 (Nat.le_refl _) hP pp memp c hpp hmp hc
  obtain ⟨_, f2, f3⟩ := fifo_bins φ hφ F.length F (Nat.le_refl _) 16 (Nat.le_refl _) hF pf memf c hpf hmf hc
  obtain ⟨hb1, hb2⟩ := usbEvN_bins φ hφ P F c ip none none g lp hl hc hA (Or.inl ⟨rfl, rfl⟩)
  rw [p3, f3] at hb1
  rw [f3] at hb2
  have hlen : ((runFifo φ c (settled pf memf) F).2.map rdyData).length =
      ((runFifo φ c (settled pp memp) P).2.map rdyData).length := by
    simp [runFifo_length, hl]
  have h1 := usbEvN_append _ ip _ (List.replicate 3 none) (List.replicate 3 none) hlen
  rw [p2, f2, usbEvN_nones, usbEvN_idle, List.append_nil] at h1
  have h2 := ipFinalO_append ((runFifo φ c (settled pf memf) F).2.map rdyData) (List.replicate 3 none) ip
  rw [f2, ipFinalO_nones_left, ipFinalO_nones] at h2
  refine ⟨?_, ?_⟩
  · rw [← h1]; simpa [smpEv, oStart, oEnd, ipNextO] using hb1
  · rw [← h2]; simpa [ipNextO, oStart, oEnd] using hb2

/-! ### no error is reported unless it follows a start flag -/

/-- no error sample after a start flag has been sampled (`st` = one has been) -/
def Late : Bool → List (Option Nat) → List Bool → Bool
  | _, _, [] => true
  | st, [], e :: es => !(st && e) && Late st [] es
  | st, f :: fs, e :: es => !(st && e) && Late (st || oStart f) fs es

/-- then no error is reported: `o_pkt_in_progress` is high only after a start flag -/
theorem usbEvO_late (ps : List (Option Nat)) : ∀ (fs : List (Option Nat)) (es : List Bool) (ip st : Bool),
    (ip = true → st = true) → es.length = ps.length → Late st fs es = true → usbEvO ip ps fs es = usbEvN ip ps fs := by
  induction ps with
  | nil => intro fs es ip st _ _ _; simp [usbEvO, usbEvN]
  | cons p ps ih =>
    intro fs es ip st hi hl h
    match es, hl with
    | e :: es, hl =>
      cases fs with
      | nil => simp [usbEvO, usbEvN]
      | cons f fs =>
        simp only [Late, Bool.and_eq_true, Bool.not_eq_true', Bool.and_eq_false_iff] at h
        have he : (ip && e) = false := by
          cases ip
          · rfl
          · rcases h.1 with h1 | h1
            · rw [hi rfl] at h1; cases h1
            · simpa using h1
        simp only [usbEvO, usbEvN, he, Bool.false_eq_true, if_false, List.append_nil]
        rw [ih fs es _ (st || oStart f) ?_ (by simpa using hl) h.2]
        intro hn
        simp only [ipNextO] at hn
        split at hn
        · simp [*]
        · split at hn
          · cases hn
          · simp [hi hn]

theorem late_append (es : List Bool) : ∀ (fs X : List (Option Nat)) (st : Bool), es.length ≤ fs.length →
    Late st (fs ++ X) es = Late st fs es := by
  induction es with
  | nil => intro fs X st _; cases fs <;> cases X <;> rfl
  | cons e es ih =>
    intro fs X st hl
    match fs, hl with
    | f :: fs, hl => simp only [List.cons_append, Late, ih fs X _ (by simpa using hl)]

/-- cycle level to sample level, with the flags in flight (`Q`: bins closed but not yet sampled; `acc`: the bin still open):
an error sampled at an edge is that cycle's, a start flag in flight was written before (`st'`: a start flag has been
sampled; `st`: one has been written) -/
theorem late_bins (φ : Nat) (outs : List FsRx.Out) : ∀ (c : Nat) (acc : Option Nat) (Q : List (Option Nat)) (st st' : Bool),
    ((st' || Q.any oStart || oStart acc) = true → st = true) → errAfter st (outs.map seOf) = false →
    Late st' (Q ++ bins φ c acc (outs.map flgW)) (smpB φ c (outs.map (·.rxErr))) = true := by
  induction outs with
  | nil => intro c acc Q st st' _ _; simp [smpB, Late]
  | cons o os ih =>
    intro c acc Q st st' hs h
    simp only [List.map, seOf, errAfter, Bool.or_eq_false_iff] at h
    have hw : oStart (flgW o) = true → o.pktStart = true := by
      intro hq; cases hp : o.pktStart
      · cases he : o.pktEnd <;> simp [flgW, hp, he, oStart] at hq
        exact absurd hq (by decide)
      · rfl
    simp only [List.map, bins, smpB]
    by_cases hc : (c == φ) = true
    · -- an edge: the open bin closes behind those in flight, the oldest is sampled
      simp only [hc, if_true, List.singleton_append]
      rw [show Q ++ acc :: bins φ ((c + 1) % 4) (flgW o) (os.map flgW) =
        (Q ++ [acc]) ++ bins φ ((c + 1) % 4) (flgW o) (os.map flgW) by simp]
      have hs' : (st' || (Q ++ [acc]).any oStart) = true → st = true := by
        simpa only [List.any_append, List.any_cons, List.any_nil, Bool.or_false, Bool.or_assoc] using hs
      match hQ : Q ++ [acc], hs' with
      | [], _ => simp at hQ
      | q :: Q', hs' =>
        simp only [List.cons_append, Late, Bool.and_eq_true, Bool.not_eq_true']
        refine ⟨?_, ih _ _ Q' (st || o.pktStart) _ ?_ h.2⟩
        · cases hst : st'
          · rfl
          · have := hs' (by simp [hst]); rw [this] at h; simpa using h.1
        · intro hq
          rw [Bool.or_eq_true] at hq ⊢
          exact hq.imp (fun hq => hs' (by simpa only [List.any_cons, Bool.or_assoc] using hq)) hw
    · simp only [hc, if_false, List.nil_append, Bool.false_eq_true]
      refine ih _ _ Q (st || o.pktStart) _ ?_ h.2
      intro hq
      rw [Bool.or_eq_true] at hq ⊢
      rcases hq with hq | hq
      · exact .inl (hs (by simp only [hq, Bool.true_or]))
      · cases hacc : acc with
        | none => rw [hacc] at hq; exact .inr (hw (by simpa using hq))
        | some a => rw [hacc] at hq; exact .inl (hs (by rw [hacc, show oStart (some a) = true from by simpa using hq, Bool.or_true]))

/-! ### the write-side events behind the crossing -/

/-- the write-side events as the 12 MHz side takes them: a byte only while in progress -/
def gate : Bool → List Ev → List EvU
  | _, [] => []
  | _, .start :: r => .start :: gate true r
  | _, .fin :: r => .fin :: gate false r
  | ip, .byte b :: r => (if ip then [EvU.byte b] else []) ++ gate ip r

/-- `o_pkt_in_progress` after these events -/
def inProg : Bool → List Ev → Bool
  | ip, [] => ip
  | _, .start :: r => inProg true r
  | _, .fin :: r => inProg false r
  | ip, .byte _ :: r => inProg ip r

theorem gate_frame (bs : List Nat) (ip : Bool) :
    gate ip ([Ev.start] ++ bs.map Ev.byte ++ [.fin]) = [EvU.start] ++ bs.map EvU.byte ++ [.fin] ∧
    inProg ip ([Ev.start] ++ bs.map Ev.byte ++ [.fin]) = false := by
  have : ∀ bs : List Nat, gate true (bs.map Ev.byte ++ [.fin]) = bs.map EvU.byte ++ [.fin] ∧
      inProg true (bs.map Ev.byte ++ [.fin]) = false := by
    intro bs
    induction bs with
    | nil => exact ⟨rfl, rfl⟩
    | cons b bs ih => simp only [List.map, List.cons_append, gate, inProg, ih, if_true, List.nil_append, and_self]
  simp only [List.cons_append, List.nil_append, gate, inProg, this, and_self]

/-- start and end flag are never written in the same cycle (D5 against PKT_ACTIVE) -/
theorem run_outs_excl (ins : List FsRx.In) : ∀ (s : FsRx.St), ∀ o ∈ (FsRx.run s ins).2, (o.pktStart && o.pktEnd) = false := by
  induction ins with
  | nil => intro s o ho; simp [FsRx.run] at ho
  | cons i is ih =>
    intro s o ho
    simp only [FsRx.run, List.mem_cons] at ho
    rcases ho with rfl | ho
    · simp only [FsRx.step, FsRx.St.out, Back.out, Back.pktStart, Back.pktEnd]
      by_cases h : s.b.det = 5 <;> simp [h]
    · exact ih _ o ho

/-- in the order of writing, the two write streams carry the write-side events -/
theorem usbEvN_events (outs : List FsRx.Out) : ∀ (ip : Bool) (g : Nat) (lp : Bool),
    (∀ o ∈ outs, (o.pktStart && o.pktEnd) = false) → Apart g lp (outs.map payW) (outs.map flgW) = true →
    usbEvN ip (outs.map payW) (outs.map flgW) = gate ip (events outs) ∧
    ipFinalO ip (outs.map flgW) = inProg ip (events outs) := by
  induction outs with
  | nil => intro ip g lp _ _; exact ⟨rfl, rfl⟩
  | cons o os ih =>
    intro ip g lp hx ha
    have hx0 := hx o (by simp)
    have hx' : ∀ o ∈ os, (o.pktStart && o.pktEnd) = false := fun o ho => hx o (by simp [ho])
    have h2 : Nat.testBit 2 1 = true := rfl
    have h1 : Nat.testBit 1 1 = false := rfl
    simp only [List.map] at ha
    simp only [List.map, usbEvN_cons, events, ipFinalO]
    -- a cycle writes a byte, the start flag, the end flag, or nothing
    rcases Bool.eq_false_or_eq_true o.put with hp | hp
    · rw [show payW o = some o.payData by simp [payW, hp]] at ha ⊢
      have hf : flgW o = none := by
        cases h : flgW o with
        | none => rfl
        | some v => rw [h] at ha; simp [Apart] at ha
      rw [hf] at ha ⊢
      have hse : o.pktStart = false ∧ o.pktEnd = false := by
        simp only [flgW] at hf
        split at hf
        · exact absurd hf (by simp)
        · rename_i h; simpa using h
      simp only [Apart, Bool.and_eq_true] at ha
      obtain ⟨i1, i2⟩ := ih ip 0 true hx' ha.2
      simp [smpEv, evOf, gate, inProg, hp, hse.1, hse.2, oStart, oEnd, ipNextO, i1, i2]
    · rw [show payW o = none by simp [payW, hp]] at ha ⊢
      rcases Bool.eq_false_or_eq_true o.pktStart with hs | hs
      · have he : o.pktEnd = false := by simpa [hs] using hx0
        rw [show flgW o = some 2 by simp [flgW, hs, he]] at ha ⊢
        simp only [Apart, Bool.and_eq_true] at ha
        obtain ⟨i1, i2⟩ := ih true 0 false hx' ha.2
        simp [smpEv, evOf, gate, inProg, hp, hs, he, oStart, oEnd, ipNextO, h2, i1, i2]
      · rcases Bool.eq_false_or_eq_true o.pktEnd with he | he
        · rw [show flgW o = some 1 by simp [flgW, hs, he]] at ha ⊢
          simp only [Apart, Bool.and_eq_true] at ha
          obtain ⟨i1, i2⟩ := ih false 0 false hx' ha.2
          simp [smpEv, evOf, gate, inProg, hp, hs, he, oStart, oEnd, ipNextO, h1, i1, i2]
        · rw [show flgW o = none by simp [flgW, hs, he]] at ha ⊢
          obtain ⟨i1, i2⟩ := ih ip (g + 1) lp hx' ha
          simp [smpEv, evOf, hp, hs, he, oStart, oEnd, ipNextO, i1, i2]

/-- **the receive path behind its crossing shows the 12 MHz side what the 48 MHz side writes.**  From both FIFOs empty and
settled and `o_pkt_in_progress` low: if the two write streams of the run each have their writes at least 17 cycles apart, 16
cycles without a write at either end (`Sparse 16 16`), and are `Apart`, and `o_receive_error` is low in every cycle after one in which a start flag is written (`noErrorAfterStart`), then
what the 12 MHz side sees at its clock edges are the write-side events (no `.err`), and both FIFOs are empty and settled again. -/
theorem cdc_transfer (φ : Nat) (hφ : φ < 4) (rx : FsRx.St) (ins : List FsRx.In)
    (hP : Sparse 16 16 ((FsRx.run rx ins).2.map payW) = true) (hF : Sparse 16 16 ((FsRx.run rx ins).2.map flgW) = true)
    (hA : Apart 3 false ((FsRx.run rx ins).2.map payW) ((FsRx.run rx ins).2.map flgW) = true)
    (hN : noErrorAfterStart (FsRx.run rx ins).2)
    (c pp pf : Nat) (memp memf : List Nat) (hc : c < 4) (hpp : pp < 8) (hpf : pf < 8) (hmp : memp.length = 4)
    (hmf : memf.length = 4) :
    evsU (runCdc φ ⟨rx, settled pp memp, settled pf memf, false, c⟩ ins).2 = gate false (events (FsRx.run rx ins).2) ∧
    ∃ pp' memp' pf' memf', pp' < 8 ∧ pf' < 8 ∧ memp'.length = 4 ∧ memf'.length = 4 ∧
      (runCdc φ ⟨rx, settled pp memp, settled pf memf, false, c⟩ ins).1 =
        ⟨(FsRx.run rx ins).1, settled pp' memp', settled pf' memf', inProg false (events (FsRx.run rx ins).2),
          (c + ins.length) % 4⟩ := by
  obtain ⟨sp1, sp2⟩ := cdc_split φ ins ⟨rx, settled pp memp, settled pf memf, false, c⟩ hc
  simp only at sp1 sp2
  have hx := run_outs_excl ins rx
  unfold noErrorAfterStart at hN
  generalize (FsRx.run rx ins).2 = outs at *
  have hl : (outs.map flgW).length = (outs.map payW).length := by simp
  obtain ⟨⟨pp', memp', hpp', hmp', p1⟩, _, _⟩ :=
    fifo_bins φ hφ _ _ (Nat.le_refl _) 16 (Nat.le_refl _) hP pp memp c hpp hmp hc
  obtain ⟨⟨pf', memf', hpf', hmf', f1⟩, f2, _⟩ :=
    fifo_bins φ hφ _ _ (Nat.le_refl _) 16 (Nat.le_refl _) hF pf memf c hpf hmf hc
  obtain ⟨ce1, ce2⟩ := cdc_events φ hφ _ _ hl hP hF 3 false hA c pp pf memp memf hc hpp hpf hmp hmf false
  obtain ⟨ue1, ue2⟩ := usbEvN_events outs false 3 false hx hA
  refine ⟨?_, pp', memp', pf', memf', hpp', hpf', hmp', hmf', by rw [sp1, p1, f1, ce2, ue2]⟩
  -- the flags are sampled three edges after their bins close, so no error is sampled after a start flag
  have hlate := late_bins φ outs c none (List.replicate 3 none) false false (by simp [oStart]) hN
  rw [← f2, late_append _ _ _ _ (by simp [smpB_length, runFifo_length]), ← errSamples_smpB] at hlate
  rw [sp2, usbEvO_late _ _ _ false false (fun h => h) (by simp [errSamples_smpB, smpB_length, runFifo_length]) hlate, ce1, ue1]

/-! ### a stretch without writes -/

def Seg (φ : Nat) (ip : Bool) (P F : List (Option Nat)) (E : List Bool) (evs : List EvU) (ip' : Bool) : Prop :=
  F.length = P.length ∧ E.length = P.length ∧
  ∀ (c pp pf : Nat) (memp memf : List Nat), c < 4 → pp < 8 → pf < 8 → memp.length = 4 → memf.length = 4 →
    ∃ pp' memp' pf' memf', pp' < 8 ∧ pf' < 8 ∧ memp'.length = 4 ∧ memf'.length = 4 ∧
      (runFifo φ c (settled pp memp) P).1 = settled pp' memp' ∧
      (runFifo φ c (settled pf memf) F).1 = settled pf' memf' ∧
      usbEvO ip ((runFifo φ c (settled pp memp) P).2.map rdyData) ((runFifo φ c (settled pf memf) F).2.map rdyData)
        (smpB φ c E) = evs ∧
      ipFinalO ip ((runFifo φ c (settled pf memf) F).2.map rdyData) = ip'

/-- nothing written while in progress, no error: nothing seen -/
theorem seg_quiet (φ : Nat) (hφ : φ < 4) (n : Nat) :
    Seg φ true (List.replicate n none) (List.replicate n none) (List.replicate n false) [] true := by
  refine ⟨by simp, by simp, ?_⟩
  intro c pp pf memp memf hc hpp hpf hmp hmf
  obtain ⟨a1, a2⟩ := fifo_idle_run φ hφ pp hpp memp n c
  obtain ⟨b1, b2⟩ := fifo_idle_run φ hφ pf hpf memf n c
  refine ⟨pp, memp, pf, memf, hpp, hpf, hmp, hmf, a1, b1, ?_, ?_⟩
  · rw [a2, b2, smpB_const, usbEvO_noerr _ _ _ _ (fun _ he => List.eq_of_mem_replicate he) (by simp), usbEvN_idle]
  · rw [b2]; exact ipFinalO_nones _ _

/-! ### the error behind the flags FIFO -/

theorem apart_flags (F : List (Option Nat)) : ∀ (g : Nat) (lp : Bool), Sparse 16 g F = true →
    Apart g lp (List.replicate F.length none) F = true := by
  induction F with
  | nil => intro g lp _; rfl
  | cons f F ih =>
    intro g lp h
    rw [List.length_cons, List.replicate_succ]
    cases f with
    | none => exact ih (g + 1) lp h
    | some v =>
      simp only [Sparse, Bool.and_eq_true, decide_eq_true_eq] at h
      simp only [Apart, Bool.and_eq_true, Bool.or_eq_true, decide_eq_true_eq]
      exact ⟨Or.inl (by omega), ih 0 false h.2⟩

theorem ipFinalO_flatV (W : List (Nat × Option Nat)) : ∀ ip, ipFinalO ip (flatV 0 W) = ipFinalO ip (W.map (·.2)) := by
  induction W with
  | nil => intro ip; rfl
  | cons x W ih =>
    intro ip
    obtain ⟨n, w⟩ := x
    simp only [flatV, vblk, beq_self_eq_true, if_true, List.cons_append, List.map, ipFinalO, ipFinalO_nones_left, ih]

/-- an error sample taken while `o_pkt_in_progress` is high (sample `n`; the flag of that sample comes too late) is reported -/
theorem err_at (n : Nat) : ∀ (ip : Bool) (ps fs : List (Option Nat)) (es : List Bool),
    n < ps.length → n < fs.length → ipFinalO ip (fs.take n) = true → es[n]? = some true →
    EvU.err ∈ usbEvO ip ps fs es := by
  induction n with
  | zero =>
    intro ip ps fs es hp hf hi he
    match ps, fs, es, hp, hf, he with
    | p :: ps, f :: fs, e :: es, _, _, he =>
      simp only [List.take_zero, ipFinalO] at hi
      simp only [List.getElem?_cons_zero, Option.some.injEq] at he
      simp [usbEvO, hi, he]
  | succ n ih =>
    intro ip ps fs es hp hf hi he
    match ps, fs, es, hp, hf, he with
    | p :: ps, f :: fs, e :: es, hp, hf, he =>
      simp only [usbEvO]
      exact List.mem_append_right _ (ih _ ps fs es (by simpa using hp) (by simpa using hf) (by simpa [ipFinalO] using hi)
        (by simpa using he))

/-- **the error is seen while in progress**: the flags stream up to the cycle in which the end flag is written (`F1`: sparse, so
the flags FIFO is empty and settled then; it leaves `o_pkt_in_progress` high) and `k ≥ 4` more cycles, `o_receive_error` high in
all of them: the first `usb` edge among these shows the error while `o_pkt_in_progress` is still high -- the end flag is not
seen before three more edges.  Of the payload FIFO only the number of samples matters. -/
theorem err_seen_core (φ : Nat) (hφ : φ < 4) (P F1 F2 : List (Option Nat)) (E1 : List Bool) (k : Nat)
    (hF1 : Sparse 16 16 F1 = true) (hip : ipFinalO false F1 = true) (hE1 : E1.length = F1.length) (hk : 4 ≤ k)
    (hF2 : F2.length = k) (hP : P.length = F1.length + k) (sp : Fifo)
    (c0 pf : Nat) (memf : List Nat) (hc0 : c0 < 4) (hpf : pf < 8) (hmf : memf.length = 4) :
    EvU.err ∈ usbEvO false ((runFifo φ c0 sp P).2.map rdyData)
      ((runFifo φ c0 (settled pf memf) (F1 ++ F2)).2.map rdyData) (smpB φ c0 (E1 ++ List.replicate k true)) := by
  have hc1 : (c0 + F1.length) % 4 < 4 := Nat.mod_lt _ (by omega)
  -- up to the end flag's write: in progress
  obtain ⟨_, hi⟩ := cdc_events φ hφ (List.replicate F1.length none) F1 (by simp) (sparse_nones 16 _ 16 (by omega)) hF1
    16 false (apart_flags F1 16 false hF1) c0 pf pf memf memf hc0 hpf hpf hmf hmf false
  rw [hip] at hi
  -- the first edge after it
  have h4 : 1 ≤ edges φ ((c0 + F1.length) % 4) k := by
    have := edges_mono φ 4 k hk _ hc1
    rw [edges_blocks φ hφ 1 _ hc1] at this
    exact this
  have hS1 : ((runFifo φ c0 (settled pf memf) F1).2.map rdyData).length = edges φ c0 F1.length := by
    rw [List.length_map, runFifo_length]
  refine err_at (edges φ c0 F1.length) _ _ _ _ ?_ ?_ ?_ ?_
  · rw [List.length_map, runFifo_length, hP, edges_add φ _ _ c0 hc0]; omega
  · rw [List.length_map, runFifo_length, List.length_append, hF2, edges_add φ _ _ c0 hc0]; omega
  · rw [runFifo_append φ _ _ c0 _ hc0, List.map_append, List.take_left' hS1]; exact hi
  · rw [smpB_append φ _ _ c0 hc0, hE1, smpB_const,
      List.getElem?_append_right (by rw [smpB_length, hE1]; exact Nat.le_refl _), smpB_length, hE1, Nat.sub_self,
      List.getElem?_replicate]
    simp; omega

/-! ### the data part of a packet: payload writes eight strobes apart -/

/-- the shift register holds `j` data bits below its sentinel -/
def WF (sr : List Bool) : Nat → Prop
  | 0 => sr = [true, false, false, false, false, false, false, false, false]
  | 1 => ∃ x0, sr = [x0, true, false, false, false, false, false, false, false]
  | 2 => ∃ x0 x1, sr = [x0, x1, true, false, false, false, false, false, false]
  | 3 => ∃ x0 x1 x2, sr = [x0, x1, x2, true, false, false, false, false, false]
  | 4 => ∃ x0 x1 x2 x3, sr = [x0, x1, x2, x3, true, false, false, false, false]
  | 5 => ∃ x0 x1 x2 x3 x4, sr = [x0, x1, x2, x3, x4, true, false, false, false]
  | 6 => ∃ x0 x1 x2 x3 x4 x5, sr = [x0, x1, x2, x3, x4, x5, true, false, false]
  | 7 => ∃ x0 x1 x2 x3 x4 x5 x6, sr = [x0, x1, x2, x3, x4, x5, x6, true, false]
  | 8 => ∃ x0 x1 x2 x3 x4 x5 x6 x7, sr = [x0, x1, x2, x3, x4, x5, x6, x7, true]
  | _ => False

theorem wf_step (sr : List Bool) (j : Nat) (d : Bool) (h : WF sr j) :
    (sr.getD 7 false && !sr.getD 8 false) = decide (j = 7) ∧ WF (shiftIn sr d) (if j = 8 then 1 else j + 1) := by
  match j, h with
  | 0, h | 1, ⟨_, h⟩ | 2, ⟨_, _, h⟩ | 3, ⟨_, _, _, h⟩ | 4, ⟨_, _, _, _, h⟩ | 5, ⟨_, _, _, _, _, h⟩
  | 6, ⟨_, _, _, _, _, _, h⟩ | 7, ⟨_, _, _, _, _, _, _, h⟩ | 8, ⟨_, _, _, _, _, _, _, _, h⟩ =>
    subst h
    exact ⟨by simp, by simp [shiftIn, WF]⟩
  | j + 9, h => exact absurd h (by simp [WF])

/-- data bits up to and including the one that writes the next byte, with `j` bits below the sentinel -/
def need (j : Nat) : Nat := if j = 8 then 8 else 8 - j

theorem wf_le (sr : List Bool) (j : Nat) (h : WF sr j) : j ≤ 8 := by
  match j, h with
  | 0, _ | 1, _ | 2, _ | 3, _ | 4, _ | 5, _ | 6, _ | 7, _ | 8, _ => omega
  | j + 9, h => exact absurd h (by simp [WF])

/-- spacing with a counter: at least `thr` entries without a write between two writes (`g` = entries since the last one) -/
def SpacedGt (thr : Nat) : Nat → List (Option Nat) → Bool
  | _, [] => true
  | g, none :: r => SpacedGt thr (g + 1) r
  | g, some _ :: r => decide (thr ≤ g) && SpacedGt thr 0 r

theorem pays_spaced7_any (bits : List Bool) : ∀ (n : Nat) (sr : List Bool) (e : Bool) (j g : Nat), WF sr j →
    8 ≤ g + need j → SpacedGt 7 g (bitPays ⟨6, n, sr, e⟩ (fbits bits)) = true := by
  induction bits with
  | nil => intro n sr e j g _ _; rfl
  | cons b bs ih =>
    intro n sr e j g hw hg
    have hj := wf_le sr j hw
    obtain ⟨w1, w2⟩ := wf_step sr j b hw
    by_cases h6 : n = 6
    · have hs : bitStep ⟨6, n, sr, e⟩ (b, false) =
          ⟨6, bsStep n b, sr, (bitStep ⟨6, n, sr, e⟩ (b, false)).err⟩ := by
        simp [bitStep, detStep, h6]
      have hp : bitPay ⟨6, n, sr, e⟩ (b, false) = none := by simp [bitPay, h6]
      simp only [fbits, List.map, bitPays, hp, SpacedGt]
      rw [hs]
      exact ih _ _ _ j (g + 1) hw (by omega)
    · have e6 : (n == 6) = false := by simpa using h6
      have hs : bitStep ⟨6, n, sr, e⟩ (b, false) =
          ⟨6, bsStep n b, shiftIn sr b, (bitStep ⟨6, n, sr, e⟩ (b, false)).err⟩ := by
        simp [bitStep, detStep, e6]
      have hp : bitPay ⟨6, n, sr, e⟩ (b, false) =
          if j = 7 then some (bitsVal ((shiftIn sr b).take 8).reverse) else none := by
        simp only [bitPay, e6, Bool.not_false, Bool.true_and, beq_self_eq_true]
        rw [w1]; simp
      simp only [fbits, List.map, bitPays, hp]
      rw [hs]
      by_cases h7 : j = 7
      · subst h7
        simp only [if_true, SpacedGt, Bool.and_eq_true, decide_eq_true_eq]
        have hn7 : need 7 = 1 := rfl
        rw [hn7] at hg
        refine ⟨by omega, ih _ _ _ 8 0 (by simpa using w2) (by simp [need])⟩
      · simp only [h7, if_false, SpacedGt]
        by_cases h8 : j = 8
        · subst h8
          exact ih _ _ _ 1 (g + 1) (by simpa using w2) (by simp [need])
        · refine ih _ _ _ (j + 1) (g + 1) (by simpa [h8] using w2) ?_
          simp only [need, h8, if_false] at hg ⊢
          have : j + 1 ≠ 8 := by omega
          simp only [this, if_false]; omega

/-! ### spacing, from bits to cycles -/

theorem sparse_spacedGt (R : List (Option Nat)) (hR : ∀ g, Sparse 6 g R = true) (X : List (Option Nat)) : ∀ g,
    SpacedGt 7 g X = true → Sparse 6 g (X ++ R) = true := by
  induction X with
  | nil => intro g _; exact hR g
  | cons x X ih =>
    intro g h
    cases x with
    | none => exact ih (g + 1) h
    | some d =>
      simp only [SpacedGt, Bool.and_eq_true, decide_eq_true_eq] at h
      simp only [List.cons_append, Sparse, Bool.and_eq_true, decide_eq_true_eq]
      exact ⟨by omega, ih 0 h.2⟩

/-- bit level: no bit writes both a byte and a flag; the bit after a flag writes no flag; the bit after a byte writes no byte
and no start flag (`pp`, `pf` = the bit before wrote a byte / a flag) -/
def ApartB : Bool → Bool → List (Option Nat) → List (Option Nat) → Bool
  | pp, pf, p :: ps, f :: fs =>
    !(p.isSome && f.isSome) && (!pf || f.isNone) && (!pp || (p.isNone && !oStart f)) && ApartB p.isSome f.isSome ps fs
  | _, _, _, _ => true

/-- The flags write of a bit is in the cycle of its strobe, the payload write two cycles later, the next strobe at least three
cycles later: two bits on, a write is at least three cycles old. -/
theorem apart_blocks (l : List (Nat × (Bool × Bool))) : ∀ (a : BB) (g : Nat) (lp pp pf : Bool),
    (∀ x ∈ l, 3 ≤ x.1) → ApartB pp pf (bitPays a (l.map (·.2))) (bitFlgs a (l.map (·.2))) = true →
    (pp = true → lp = true) → (pf = true → 2 ≤ g) → (pp = false → pf = false → 3 ≤ g) →
    Apart g lp (flatV 2 (blkP a l)) (flatV 0 (blkF a l)) = true := by
  induction l with
  | nil => intro a g lp pp pf _ _ _ _ _; rfl
  | cons x l ih =>
    intro a g lp pp pf hl hs h1 h2 h3
    obtain ⟨n, b⟩ := x
    obtain ⟨m, rfl⟩ : ∃ m, n = m + 3 := ⟨n - 3, by have := hl (n, b) (by simp); omega⟩
    have hl' : ∀ x ∈ l, 3 ≤ x.1 := fun x hx => hl x (by simp [hx])
    simp only [List.map, bitPays, bitFlgs, ApartB, Bool.and_eq_true, Bool.or_eq_true, Bool.not_eq_true'] at hs
    obtain ⟨⟨⟨hs1, hs2⟩, hs3⟩, hs4⟩ := hs
    have ih' := ih (bitStep a b)
    simp only [blkP, blkF, flatV, vblk, show (2 == 0) = false from rfl, beq_self_eq_true, if_true, if_false,
      Nat.add_sub_cancel, show m + 3 - 1 = m + 2 from rfl, List.replicate_succ, List.cons_append, List.nil_append,
      Bool.false_eq_true]
    cases hp : bitPay a b with
    | none =>
      cases hf : bitFlg a b with
      | none =>
        simp only [Apart]
        rw [apart_quiet m]
        rw [hp, hf] at hs4
        exact ih' _ lp false false hl' hs4 (by simp) (by simp) (fun _ _ => by omega)
      | some v =>
        rw [hf] at hs2 hs3; rw [hp, hf] at hs4
        simp only [Apart, Bool.and_eq_true, Bool.or_eq_true, decide_eq_true_eq, Bool.not_eq_true']
        rw [apart_quiet m]
        refine ⟨?_, ih' _ false false true hl' hs4 (by simp) (fun _ => by omega) (by simp)⟩
        cases pp with
        | true => exact Or.inr ⟨h1 rfl, by have := hs3.resolve_left (by simp); simpa [oStart] using this.2⟩
        | false =>
          cases pf with
          | true => simp at hs2
          | false => exact Or.inl (h3 rfl rfl)
    | some d =>
      cases hf : bitFlg a b with
      | some v => rw [hp, hf] at hs1; simp at hs1
      | none =>
        rw [hp] at hs3; rw [hp, hf] at hs4
        simp only [Apart, Bool.and_eq_true, decide_eq_true_eq]
        rw [apart_quiet m]
        refine ⟨?_, ih' _ true true false hl' hs4 (by simp) (by simp) (by simp)⟩
        cases pp with
        | true => simp at hs3
        | false =>
          cases pf with
          | true => have := h2 rfl; omega
          | false => have := h3 rfl rfl; omega

theorem apartB_nones (n : Nat) : ∀ (pp pf : Bool), ApartB pp pf (List.replicate n none) (List.replicate n none) = true := by
  induction n with
  | zero => intro pp pf; rfl
  | succ n ih => intro pp pf; rw [List.replicate_succ]; simp [ApartB, oStart, ih]

theorem apartB_quiet (n : Nat) (ps fs : List (Option Nat)) : ∀ (pp pf : Bool),
    ApartB pp pf (List.replicate (n + 1) none ++ ps) (List.replicate (n + 1) none ++ fs) = ApartB false false ps fs := by
  induction n with
  | zero => intro pp pf; simp [List.replicate_succ, ApartB, oStart]
  | succ n ih => intro pp pf; rw [List.replicate_succ (n := n + 1)]; simp [ApartB, oStart, ih]

/-- payload writes at least eight bits apart and no flag -/
theorem apartB_pays (R S : List (Option Nat)) (hRS : ∀ pp, ApartB pp false R S = true) (X : List (Option Nat)) :
    ∀ (g : Nat) (pp pf : Bool), X ≠ [] → SpacedGt 7 g X = true → (pp = true → g < 7) →
    ApartB pp pf (X ++ R) (List.replicate X.length none ++ S) = true := by
  induction X with
  | nil => intro g pp pf h; exact absurd rfl h
  | cons x X ih =>
    intro g pp pf _ hs hg
    have hx : pp = true → x = none := by
      intro hp
      cases x with
      | none => rfl
      | some d => simp only [SpacedGt, Bool.and_eq_true, decide_eq_true_eq] at hs; have := hg hp; omega
    have htail : ApartB x.isSome false (X ++ R) (List.replicate X.length none ++ S) = true := by
      cases X with
      | nil => exact hRS _
      | cons y Y =>
        cases x with
        | none => exact ih (g + 1) false false (by simp) hs (by simp)
        | some d =>
          simp only [SpacedGt, Bool.and_eq_true] at hs
          exact ih 0 true false (by simp) hs.2 (fun _ => by omega)
    simp only [List.cons_append, List.length_cons, List.replicate_succ, ApartB, htail, Bool.and_true, Option.isSome_none,
      Bool.and_false, Bool.not_false, Option.isNone_none, Bool.or_true, oStart, Bool.true_and]
    cases pp with
    | false => rfl
    | true => rw [hx rfl]; rfl

end LunaVerif.FsRxCdc
