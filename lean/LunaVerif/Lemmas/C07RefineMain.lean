import LunaVerif.Lemmas.C07StreamMain
/-!
# `cycle_refines_event`: the simulation outside the streaming handler states, and along histories

`sim_expandSM` (Lemmas/C07StreamMain.lean) simulates every event but a bus reset from every handler state — for a state
satisfying `Inv`, without additional request handlers, with the streamer's window long enough (`StreamFits`) and, in
GET_CONFIGURATION, a configuration number < 256 — with the answer read off the `tx` stream (`obsRun`).  While the standard handler is outside GET_STATUS / GET_CONFIGURATION / GET_DESCRIPTOR no
streamer is listened to and `max_packet_size` is not read (`coreM_eq_core_of`): the stream expansion is `expand`
(`expandS_noStream`), no answer carries payload bytes
(`core_dataLen_noStream`), and then the first non-empty `outResp` is what the packet generator sees
(`cycResp_of_obsRun`).
-/
namespace LunaVerif.CtrlCyc
open LunaVerif.Device

/-! ### `expand` is the stream expansion without a stream -/

def Gaps.toS (g : Gaps) : GapsS :=
  { pre := g.pre, mid := g.mid, mid2 := g.mid2, post := g.post, n1 := g.n1, n2 := g.n2, n3 := g.n3 }

theorem streamOf_noStream (c : DevConfig) {d : DevState} (h : NoStream d) : streamOf c d = none := by
  obtain ⟨h1, h2, h3⟩ := h
  unfold streamOf
  split
  · cases hd : d.hstate <;> simp_all
  · rfl

theorem expandS_noStream (c : DevConfig) (d : DevState) (e : HostEvent) (g : Gaps) (hns : NoStream d)
    (hns' : NoStream (core c d e).1) :
    expandS c d e g.toS = expand c d e g ∧ StreamFits c d e g.toS = true := by
  have h1 : ∀ pid ep, NoStream (afterToken d pid ep) := fun _ _ => hns
  cases e <;>
    simp only [expandS, expand, StreamFits, readySeg, stallsNow, streamWindow, streamOf_noStream c (h1 _ _),
      idleS_noStream hns, idleS_noStream hns', idleS_noStream (h1 _ _), calm_of_noStream hns, calm_of_noStream hns',
      calm_of_noStream (h1 _ _), Gaps.toS, reduceCtorEq, decide_false, Bool.and_false, Bool.false_eq_true, if_false,
      List.append_nil, ite_self, and_self]

/-! ### Without payload the two observers agree -/

def Obs.begun : Obs → Prop
  | .coll _ _ => True
  | .done (.data _ p) => p ≠ []
  | _ => False

theorem begun_obsTake (pid : Nat) (acc : List Nat) (rdy : Bool) (v : Seen) : (obsTake pid acc rdy v).begun := by
  unfold obsTake
  split
  · split <;> simp [Obs.begun]
  · trivial

theorem begun_obsRun (cyc : Cfg) {ob : Obs} (h : ob.begun) (cs : CycState) (is : List CycIn) :
    (obsRun cyc ob cs is).begun := by
  induction is generalizing ob cs with
  | nil => exact h
  | cons i is ih =>
    refine ih ?_ _
    cases ob with
    | idle => cases h
    | coll pid acc => exact begun_obsTake ..
    | done r => exact h

theorem not_begun_obsOf {r : Resp} (hr : r.dataLen = 0) : ¬ (obsOf r).begun := by
  cases r with
  | none => exact id
  | hs p => exact id
  | data pid p => exact fun h => h (List.eq_nil_of_length_eq_zero hr)

/-- If the packet generator reads an answer without payload off the cycles, no packet was begun, and the answer is
the first handshake / zero-length packet request. -/
theorem cycResp_of_obsRun (cyc : Cfg) {r : Resp} (hr : r.dataLen = 0) (cs : CycState) (is : List CycIn)
    (h : obsRun cyc .idle cs is = obsOf r) : cycResp (outs cyc cs is) = r := by
  induction is generalizing cs with
  | nil =>
    cases r <;> first | rfl | cases h
  | cons i is ih =>
    simp only [outs, run, List.map_cons, cycResp]
    simp only [obsRun, obsStep, seen] at h
    cases hn : (outResp (step cyc cs i).2).isNone
    · simp only [hn, Bool.false_eq_true, ↓reduceIte, obsRun_done] at h ⊢
      exact (congrArg Obs.resp h).trans (obsOf_resp r)
    · simp only [hn, ↓reduceIte] at h ⊢
      cases hf : ((step cyc cs i).2.txValid && (step cyc cs i).2.txFirst)
      · simp only [hf, Bool.false_eq_true, ↓reduceIte] at h
        exact ih _ h
      · simp only [hf, ↓reduceIte] at h
        exact absurd (h ▸ begun_obsRun cyc (begun_obsTake ..) _ is) (not_begun_obsOf hr)

theorem request_dataLen_noStream (c : DevConfig) (hx : c.extra = []) (d : DevState) (r : Req) (hns : NoStream d) :
    (request c d r).2.dataLen = 0 := by
  obtain ⟨h1, h2, h3⟩ := hns
  rw [request_noextra c hx]
  split
  · cases hd : d.hstate <;> cases r <;> simp_all [stdRequest] <;> first | rfl | (split <;> rfl)
  · rfl

theorem core_dataLen_noStream (c : DevConfig) (hx : c.extra = []) (d : DevState) (e : HostEvent) (hns : NoStream d) :
    (core c d e).2.dataLen = 0 := by
  cases e with
  | token pid addr ep =>
    simp only [core]
    split
    · exact onToken_elim (P := fun r => r.2.dataLen = 0) c d pid ep rfl (fun _ _ => rfl)
        (fun _ _ r _ => request_dataLen_noStream c hx _ r hns)
    · rfl
  | data dp p ok =>
    exact onData_elim (P := fun r => r.2.dataLen = 0) c d p ok rfl (fun _ _ _ _ => rfl) (fun _ => rfl)
      (fun _ _ _ _ _ => request_dataLen_noStream c hx _ _ hns)
  | _ => rfl

/-- **`cycle_refines_event`.**  For every host event `e`, every event-level state `d` satisfying the model's
invariant and every choice of idle-cycle counts and free input values `g`: running the cycle-level composition
(control endpoint FSM + request multiplexer + standard request handler, endpoint 0) over the expansion of `e`,
from ANY cycle-level state related to `d`, ends in a state related to the event-level successor, puts exactly the
event-level response on the bus, and strobes `address_changed` / `config_changed` so that device.py's registers
take the event-level values -- provided the standard handler is outside its three streaming states before and
after the event, there are no additional request handlers, and the event is not a bus reset (which acts on
device.py's registers, not on the control endpoint). -/
theorem cycle_refines_event (c : DevConfig) (hx : c.extra = []) (d : DevState) (e : HostEvent) (g : Gaps)
    (hinv : Inv d) (hns : NoStream d) (hns' : NoStream (core c d e).1) (hrst : e ≠ .busReset) :
    Sim (cfgOf c) d (core c d e).1 (expand c d e g) (core c d e).2 := by
  obtain ⟨hex, hfit⟩ := expandS_noStream c d e g hns hns'
  have h := sim_expandSM c hx d e g.toS hinv (fun h => absurd h hns.2.1) hfit hrst
  rw [coreM_eq_core_of c (fun h => absurd h hns.2.2), expandSM_eq, hex] at h
  intro cs hr
  obtain ⟨a1, a2, a3⟩ := h cs hr
  exact ⟨a1, cycResp_of_obsRun _ (core_dataLen_noStream c hx d e hns) cs _ a2, a3⟩

/-- The standard handler stays outside its streaming states along the history, and there is no bus reset. -/
def NoStreamFrom (c : DevConfig) : DevState → List Stim → Prop
  | d, [] => NoStream d
  | d, x :: xs => NoStream d ∧ x.ev ≠ .busReset ∧ NoStreamFrom c (Device.step c d x).1 xs

def NoStreamFrom.dec (c : DevConfig) : (d : DevState) → (xs : List Stim) → Decidable (NoStreamFrom c d xs)
  | d, [] => inferInstanceAs (Decidable (NoStream d))
  | d, x :: xs =>
    have := NoStreamFrom.dec c (Device.step c d x).1 xs
    inferInstanceAs (Decidable (NoStream d ∧ x.ev ≠ .busReset ∧ NoStreamFrom c (Device.step c d x).1 xs))

instance (c : DevConfig) (d : DevState) (xs : List Stim) : Decidable (NoStreamFrom c d xs) := NoStreamFrom.dec c d xs

theorem NoStreamFrom.head {c : DevConfig} {d : DevState} {xs : List Stim} (h : NoStreamFrom c d xs) : NoStream d := by
  cases xs with
  | nil => exact h
  | cons x xs => exact h.1

/-- The cycles of a whole history (every event with its own idle-cycle counts and free inputs). -/
def expandAll (c : DevConfig) : DevState → List (Stim × Gaps) → List CycIn
  | _, [] => []
  | d, (x, g) :: rest => expand c d x.ev g ++ expandAll c (Device.step c d x).1 rest

def cycResps (c : DevConfig) : DevState → CycState → List (Stim × Gaps) → List Resp
  | _, _, [] => []
  | d, cs, (x, g) :: rest =>
      cycResp (outs (cfgOf c) cs (expand c d x.ev g)) ::
        cycResps c (Device.step c d x).1 (final (cfgOf c) cs (expand c d x.ev g)) rest

/-- One event of a history: `cycle_refines_event` with the ghost bookkeeping of `Device.step` on top. -/
theorem cycle_refines_step (c : DevConfig) (hx : c.extra = []) (d : DevState) (x : Stim) (g : Gaps)
    (hinv : Inv d) (hns : NoStream d) (hns' : NoStream (Device.step c d x).1) (hrst : x.ev ≠ .busReset) :
    Sim (cfgOf c) d (Device.step c d x).1 (expand c d x.ev g) (core c d x.ev).2 := by
  intro cs hr
  simp only [NoStream, Device.step_hstate] at hns'
  obtain ⟨a1, a2, a3⟩ := cycle_refines_event c hx d x.ev g hinv hns hns' hrst cs hr
  exact ⟨a1.congr (Device.step_stage c d x) (Device.step_hstate c d x) (Device.step_expectingAck c d x)
    (Device.step_startPos c d x) (Device.step_txPid c d x), a2, a3⟩

/-- **`cycle_refines_event`, histories.**  Along every event history (with arbitrary idle-cycle counts and free
inputs per event) without a bus reset during which the standard handler stays outside its streaming states
(`NoStreamFrom`), from an event-level state satisfying `Inv`, without additional request handlers: the cycle-level
composition, run over the concatenated expansions from any state related to the event-level start state, ends
related to the event-level final state, answers every event exactly as the event-level model does, and drives
device.py's address / configuration registers to the event-level values. -/
theorem cycle_refines_event_run (c : DevConfig) (hx : c.extra = []) (h : List (Stim × Gaps)) (d : DevState)
    (hinv : Inv d) (hns : NoStreamFrom c d (h.map (·.1))) (cs : CycState) (hr : Rel d cs) :
    Rel (Device.final c d (h.map (·.1))) (final (cfgOf c) cs (expandAll c d h)) ∧
    cycResps c d cs h = coreResps c d (h.map (·.1)) ∧
    regsAfter (d.address, d.config) (outs (cfgOf c) cs (expandAll c d h)) =
      ((Device.final c d (h.map (·.1))).address, (Device.final c d (h.map (·.1))).config) := by
  induction h generalizing d cs with
  | nil => exact ⟨hr, rfl, rfl⟩
  | cons xg rest ih =>
    obtain ⟨x, g⟩ := xg
    simp only [List.map_cons, NoStreamFrom] at hns
    obtain ⟨h1, h2, h3⟩ := hns
    obtain ⟨a1, a2, a3⟩ := cycle_refines_step c hx d x g hinv h1 h3.head h2 cs hr
    obtain ⟨b1, b2, b3⟩ := ih (Device.step c d x).1 (inv_step c d x hinv) h3 _ a1
    refine ⟨?_, ?_, ?_⟩
    · simp only [List.map_cons, Device.final, expandAll]
      rw [final_append]; exact b1
    · simp only [List.map_cons, cycResps, coreResps, a2, b2]
    · simp only [List.map_cons, Device.final, expandAll]
      rw [outs_append, regsAfter_append, a3, b3]

theorem cycle_refines_event_from_reset (c : DevConfig) (hx : c.extra = []) (h : List (Stim × Gaps))
    (hns : NoStreamFrom c Device.init (h.map (·.1))) :
    Rel (Device.final c Device.init (h.map (·.1))) (final (cfgOf c) CtrlCyc.init (expandAll c Device.init h)) ∧
    cycResps c Device.init CtrlCyc.init h = coreResps c Device.init (h.map (·.1)) ∧
    regsAfter (0, 0) (outs (cfgOf c) CtrlCyc.init (expandAll c Device.init h)) =
      ((Device.final c Device.init (h.map (·.1))).address, (Device.final c Device.init (h.map (·.1))).config) :=
  cycle_refines_event_run c hx h Device.init inv_init hns CtrlCyc.init rel_init

/-! ### Non-vacuity: a SET_ADDRESS(5) transfer with a bulk IN transaction (and its ACK) before the status stage,
then SET_CONFIGURATION(1) at the new address -/

def exGaps : Gaps := { pre := [{}, { txReady := true }], mid := [{ dValid := true }], post := [{}] }

def exHistory : List (Stim × Gaps) :=
  [(⟨.token PID_SETUP 0 0, .none⟩, exGaps), (⟨.data PID_DATA0 [0x00, 5, 5, 0, 0, 0, 0, 0] true, .none⟩, exGaps),
   (⟨.token PID_IN 0 1, .data PID_DATA0 [7]⟩, exGaps), (⟨.handshake PID_ACK, .none⟩, exGaps),
   (⟨.token PID_IN 0 0, .none⟩, exGaps), (⟨.handshake PID_ACK, .none⟩, exGaps),
   (⟨.token PID_SETUP 5 0, .none⟩, exGaps), (⟨.data PID_DATA0 [0x00, 9, 1, 0, 0, 0, 0, 0] true, .none⟩, exGaps),
   (⟨.token PID_IN 5 0, .none⟩, exGaps), (⟨.handshake PID_ACK, .none⟩, exGaps)]

example : NoStreamFrom {} Device.init (exHistory.map (·.1)) := by decide
example : (expandAll {} Device.init exHistory).length = 56 := by decide
example : coreResps {} Device.init (exHistory.map (·.1)) =
    [.none, .hs PID_ACK, .none, .none, .data PID_DATA1 [], .none, .none, .hs PID_ACK, .data PID_DATA1 [], .none] := by
  decide
example : regsAfter (0, 0) (outs (cfgOf {}) CtrlCyc.init (expandAll {} Device.init exHistory)) = (5, 1) := by decide

end LunaVerif.CtrlCyc
