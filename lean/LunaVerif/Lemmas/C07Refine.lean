import LunaVerif.Lemmas.C07CycSteps
import LunaVerif.Model.Device.ControlM
/-!
# `cycle_refines_event` — the cycle-level composition simulates the event-level model: vocabulary

The event-level model `Device.core` (Model/Device/Control.lean) consumes one host event; the cycle-level model
`CtrlCyc.step` (Model/Usb2/ControlCyc.lean) consumes one clock cycle.  `expand c d e g` turns the event `e`, received
in the event-level state `d`, into the clock cycles the control endpoint sees: idle cycles (`Gaps`, of arbitrary
lengths, with arbitrary values on every input the expansion does not determine) around the strobes of the
abstracted neighbours, which are produced according to their contracts:

  * token detector (C01; the time of its `ready_for_response`: C05): a token for the device's address updates `pid` / `endpoint` (and the four flags
    decoded from the pid) in the cycle it strobes `new_token`, and strobes `ready_for_response` later; a token for
    another address clears the pid and strobes nothing;
  * setup decoder (C06): `packet.received` is strobed, with the new packet fields, exactly for a data packet the
    event-level model accepts as SETUP data (good CRC, decoder waiting, 8 bytes, pid still SETUP); `ack` follows;
  * device core: `rx_ready_for_response` after every good data packet, `handshakes_in.ack` for a host ACK (handshake
    detector, C04).

Theorem `cycle_refines_event` (Lemmas/C07RefineMain.lean): running the cycle-level composition over the expansion
yields the event-level state (`Rel`), the event-level response (`cycResp`) and the event-level address / configuration
(device.py's two registers driven by the strobes, `regsAfter`) — for every event but the bus reset, from every related
pair of states, the event-level one satisfying the model's invariant (`Inv`), without additional request handlers
(`c.extra = []`), with the standard handler outside its three streaming states before and after the event (`NoStream`:
GET_STATUS, GET_CONFIGURATION, GET_DESCRIPTOR, whose answers come from the abstracted transmitter / descriptor
handler).  This covers complete SET_ADDRESS, SET_CONFIGURATION, CLEAR_FEATURE, unsupported and non-standard transfers
with arbitrary foreign traffic in between, abandoned stages and restarts.  It is the instance "no streamer involved"
of the simulation for every handler state (Lemmas/C07Stream*.lean), whose one-cycle and sequence lemmas do the work.
-/
namespace LunaVerif.CtrlCyc
open LunaVerif.Device

/-! ### Relation between the two state spaces -/

/-- The handler registers agree; `start_position` / `tx_data_pid` may lag behind in IDLE (the gateware resets
them in the first IDLE cycle, the event-level model when it enters IDLE). -/
structure HRel (d : DevState) (h : StdState) : Prop where
  hstate : h.hstate = d.hstate
  eack   : h.expectingAck = d.expectingAck
  regs   : d.hstate ≠ .idle → h.startPos = d.startPos ∧ h.txPid = d.txPid

theorem hRel_iff {d : DevState} {h : StdState} : HRel d h ↔
    h.hstate = d.hstate ∧ h.expectingAck = d.expectingAck ∧
      (d.hstate ≠ .idle → h.startPos = d.startPos ∧ h.txPid = d.txPid) :=
  ⟨fun ⟨a, b, c⟩ => ⟨a, b, c⟩, fun ⟨a, b, c⟩ => ⟨a, b, c⟩⟩

theorem HRel.congr {d d' : DevState} {h : StdState} (hr : HRel d h) (h1 : d'.hstate = d.hstate)
    (h2 : d'.expectingAck = d.expectingAck) (h3 : d'.startPos = d.startPos) (h4 : d'.txPid = d.txPid) : HRel d' h :=
  ⟨by rw [h1]; exact hr.1, by rw [h2]; exact hr.2, by rw [h1, h3, h4]; exact hr.3⟩

structure Rel (d : DevState) (cs : CycState) : Prop where
  stage : cs.stage = d.stage
  h     : HRel d cs.h

theorem Rel.congr {d d' : DevState} {cs : CycState} (hr : Rel d cs) (h0 : d'.stage = d.stage) (h1 : d'.hstate = d.hstate)
    (h2 : d'.expectingAck = d.expectingAck) (h3 : d'.startPos = d.startPos) (h4 : d'.txPid = d.txPid) : Rel d' cs :=
  ⟨hr.stage.trans h0.symm, hr.h.congr h1 h2 h3 h4⟩

theorem rel_init : Rel Device.init CtrlCyc.init := ⟨rfl, ⟨rfl, rfl, fun _ => ⟨rfl, rfl⟩⟩⟩

/-- The standard handler is not in a state whose answer is streamed by an abstracted submodule. -/
def NoStream (d : DevState) : Prop :=
  d.hstate ≠ .getStatus ∧ d.hstate ≠ .getConfiguration ∧ d.hstate ≠ .getDescriptor

instance (d : DevState) : Decidable (NoStream d) := by unfold NoStream; infer_instance

/-! ### What a handler's outputs mean on the bus -/

def hResp (o : HOut) : Resp :=
  if o.ack then .hs PID_ACK
  else if o.stall then .hs PID_STALL
  else if o.txValid && o.txLast && !o.txFirst then .data (if o.txDataPid then PID_DATA1 else PID_DATA0) []
  else .none

def HQuiet (o : HOut) : Prop := o.addressChanged = false ∧ o.configChanged = false

/-! ### The handler's inputs of a cycle, and the event-level reactions the cycles are compared with -/

/-- The inputs of the handler in a cycle without `received`: arbitrary stream inputs `n`. -/
def hin (d : DevState) (n : HIn) (dr sr ack : Bool) : HIn :=
  { n with su := d.setup, received := false, dataRequested := dr, statusRequested := sr, hsAck := ack,
           activeConfig := d.config }

theorem request_noextra (c : DevConfig) (hx : c.extra = []) (s : DevState) (r : Req) :
    request c s r = if s.setup.type = TYPE_STANDARD then stdRequest c s r else (s, .hs PID_STALL) := by
  unfold request owner extraClaims
  by_cases hty : s.setup.type = TYPE_STANDARD <;> simp [hx, hty]

/-- The event-level reaction to a host ACK that is forwarded to the handlers, for the model with the `start_position`
advance by `mps` (Model/Device/ControlM.lean; `mps = 64`: `Device.stdAck`). -/
def ackStateM (mps : Nat) (d : DevState) : DevState := if d.setup.type = TYPE_STANDARD then stdAckM mps d else d

theorem ackStateM_stage (mps : Nat) (d : DevState) : (ackStateM mps d).stage = d.stage := by
  unfold ackStateM stdAckM
  repeat' split
  all_goals rfl

theorem onHandshakeM_ack (mps : Nat) (d : DevState) (h0 : d.tokEp = 0) (h1 : d.tokPid = PID_IN) :
    ∃ b, onHandshakeM mps d PID_ACK = { ackStateM mps d with gDataDone := b } := by
  unfold onHandshakeM ackStateM
  by_cases hty : d.setup.type = TYPE_STANDARD
  · simp only [h0, h1, hty, and_self, if_true]
    split <;> exact ⟨_, rfl⟩
  · exact ⟨d.gDataDone, by simp [hty]⟩

/-- The event-level handler registers after a SETUP packet has been latched. -/
def recvState (d : DevState) (su : Setup) : DevState :=
  if su.type = TYPE_STANDARD then
    { d with setup := su, hstate := dispatch su.request, startPos := 0, txPid := true }
  else { d with setup := su }

def recvIn (hi : HIn) (su : Setup) : HIn :=
  { hi with su := su, received := true, dataRequested := false, statusRequested := false, hsAck := false }

/-! ### Cycle level: the inputs of a cycle, seen from the event-level state -/

/-- The event-level model is about endpoint 0. -/
def cfgOf (c : DevConfig) : Cfg := { epNum := 0, maxPacket := c.maxPacket }

/-- A cycle without any strobe while the event-level state is `d`: the token detector shows the last token
(the four flags decode its pid), the setup decoder shows the latched packet, the device core its configuration.
Everything else (`tx.ready`, the outputs of the descriptor handler and of the transmitter) is taken from the
arbitrary record `n`. -/
def envIn (d : DevState) (n : CycIn) : CycIn :=
  { n with
    tokEp := d.tokEp, isIn := d.tokPid == PID_IN, isOut := d.tokPid == PID_OUT,
    isSetup := d.tokPid == PID_SETUP, isPing := d.tokPid == PID_PING,
    newToken := false, readyForResponse := false, rxReady := false, hsAck := false,
    activeConfig := d.config, received := false, sdAck := false, su := d.setup }

def noiseH (n : CycIn) : HIn :=
  { txReady := n.txReady, dValid := n.dValid, dFirst := n.dFirst, dLast := n.dLast, dPayload := n.dPayload,
    dStall := n.dStall, tValid := n.tValid, tFirst := n.tFirst, tLast := n.tLast, tPayload := n.tPayload }

/-- The handshake or zero-length packet that one cycle's outputs ask the handshake generator / transmitter of the device
core for; a cycle of a data packet with payload reads as `.none` (the payload bytes are read by `busResp`,
Lemmas/C07Stream.lean). -/
def outResp (o : CycOut) : Resp :=
  if o.ack then .hs PID_ACK
  else if o.stall then .hs PID_STALL
  else if o.txValid && o.txLast && !o.txFirst then .data (if o.txPidToggle = 1 then PID_DATA1 else PID_DATA0) []
  else .none

theorem outResp_mk (a p : Bool) (sel : HOut) (cc : CtrlComb) (ho : HOut) :
    outResp { ack := a || sel.ack || p, nak := false, stall := sel.stall,
              txValid := sel.txValid, txFirst := sel.txFirst, txLast := sel.txLast, txPayload := sel.txPayload,
              txPidToggle := if sel.txDataPid then 1 else 0,
              addressChanged := sel.addressChanged, newAddress := sel.newAddress,
              configChanged := sel.configChanged, newConfig := sel.newConfig,
              cehEnable := sel.cehEnable, cehDirection := sel.cehDirection, cehNumber := sel.cehNumber,
              ctl := cc, h := ho } =
      if (a || p) = true then .hs PID_ACK else hResp sel := by
  simp only [outResp, hResp]
  cases a <;> cases p <;> cases sel.ack <;> cases sel.txDataPid <;> simp

theorem step_outResp (c : Cfg) (s : CycState) (i : CycIn) :
    outResp (step c s i).2 =
      if (i.sdAck || (ctrlComb c s.stage i).pingAck) = true then .hs PID_ACK else hResp (selOut c s i) :=
  outResp_mk _ _ _ _ _

/-- One cycle `i`, started in a cycle-level state related to `d`, ends in a state related to `d'`, puts `r` on the
bus and drives the two register strobes so that device.py's registers go from `d`'s to `d'`'s values. -/
def Sim1 (cyc : Cfg) (d d' : DevState) (i : CycIn) (r : Resp) : Prop :=
  ∀ cs, Rel d cs →
    Rel d' (step cyc cs i).1 ∧ outResp (step cyc cs i).2 = r ∧
    (if (step cyc cs i).2.addressChanged then (step cyc cs i).2.newAddress else d.address) = d'.address ∧
    (if (step cyc cs i).2.configChanged then (step cyc cs i).2.newConfig else d.config) = d'.config

theorem ctrlNext_newToken (c : DevConfig) (d : DevState) (pid ep : Nat) (n : CycIn) :
    ctrlNext (cfgOf c) d.stage { envIn (afterToken d pid ep) n with newToken := true } = tokenStage d pid ep := by
  simp only [ctrlNext, envIn, afterToken, tokenStage, targeted, cfgOf]
  by_cases h1 : pid = PID_SETUP
  · subst h1; cases d.stage <;> simp [PID_SETUP, PID_OUT, PID_PING, PID_IN]
  · by_cases h2 : ep = 0
    · subst h2
      cases d.stage <;> simp [h1] <;>
        by_cases h3 : pid = PID_OUT <;> by_cases h4 : pid = PID_PING <;> by_cases h5 : pid = PID_IN <;>
        simp_all [PID_SETUP, PID_OUT, PID_PING, PID_IN]
    · cases d.stage <;> simp [h1, h2]

/-- What the event-level model does with a token once the registers show it (`onToken` after `afterToken`). -/
def readyResult (c : DevConfig) (d : DevState) : DevState × Resp :=
  if d.tokEp = 0 then
    match d.stage with
    | .dataIn => if d.tokPid = PID_IN then request c d .data else (d, .none)
    | .dataOut => if d.tokPid = PID_PING then (d, .hs PID_ACK) else (d, .none)
    | .statusIn => if d.tokPid = PID_IN then request c d .status else (d, .none)
    | .statusOut => if d.tokPid = PID_PING then (d, .hs PID_ACK) else (d, .none)
    | .setup => (d, .none)
  else (d, .none)

theorem onToken_eq (c : DevConfig) (d : DevState) (pid ep : Nat) :
    onToken c d pid ep = readyResult c (afterToken d pid ep) := rfl

/-- Event-level effect of a cycle in which the control endpoint raises `data_requested` (`dr`),
`status_requested` (`sr`) or acknowledges a PING (`ping`). -/
def reqResult (c : DevConfig) (d : DevState) (dr sr ping : Bool) : DevState × Resp :=
  if dr then request c d .data
  else if sr then request c d .status
  else if ping then (d, .hs PID_ACK) else (d, .none)

/-- What the control endpoint's FSM drives while the event-level state is `d`: `data_requested`, `status_requested` and
the PING acknowledgement in a `ready_for_response` cycle, `status_requested` in an `rx_ready_for_response` cycle. -/
def readyDr (d : DevState) : Bool := decide (d.tokEp = 0) && decide (d.stage = .dataIn) && decide (d.tokPid = PID_IN)
def readySr (d : DevState) : Bool := decide (d.tokEp = 0) && decide (d.stage = .statusIn) && decide (d.tokPid = PID_IN)
def readyPing (d : DevState) : Bool :=
  decide (d.tokEp = 0) && (decide (d.stage = .dataOut) || decide (d.stage = .statusOut)) && decide (d.tokPid = PID_PING)
def rxSr (d : DevState) : Bool := decide (d.tokEp = 0) && decide (d.stage = .statusOut) && decide (d.tokPid = PID_OUT)

theorem readyResult_eq (c : DevConfig) (d : DevState) :
    readyResult c d = reqResult c d (readyDr d) (readySr d) (readyPing d) := by
  unfold readyResult reqResult readyDr readySr readyPing
  by_cases h0 : d.tokEp = 0
  · have hne : PID_IN ≠ PID_PING := by decide
    cases hs : d.stage <;> by_cases h1 : d.tokPid = PID_IN <;> simp [h0, h1, hne]
  · simp [h0]

/-- The control endpoint's own responses along an event history. -/
def coreResps (c : DevConfig) : DevState → List Stim → List Resp
  | _, [] => []
  | d, x :: xs => (core c d x.ev).2 :: coreResps c (Device.step c d x).1 xs

def outs (cyc : Cfg) (cs : CycState) (is : List CycIn) : List CycOut := (run cyc cs is).map (·.2)

/-- The first handshake or zero-length packet (`outResp`) of a cycle sequence: what the device puts on the bus when its
answer carries no payload (`cycResp_of_obsRun`, Lemmas/C07RefineMain.lean); an answer with payload is read by `busResp`. -/
def cycResp : List CycOut → Resp
  | [] => .none
  | o :: os => if (outResp o).isNone then cycResp os else outResp o

/-- device.py: `with m.If(address_changed): address.eq(new_address)`, the same for the configuration. -/
def regsAfter : Nat × Nat → List CycOut → Nat × Nat
  | ac, [] => ac
  | ac, o :: os =>
      regsAfter (if o.addressChanged then o.newAddress else ac.1, if o.configChanged then o.newConfig else ac.2) os

theorem final_append (cyc : Cfg) (cs : CycState) (a b : List CycIn) :
    final cyc cs (a ++ b) = final cyc (final cyc cs a) b := by
  induction a generalizing cs with
  | nil => rfl
  | cons i is ih => exact ih _

theorem outs_append (cyc : Cfg) (cs : CycState) (a b : List CycIn) :
    outs cyc cs (a ++ b) = outs cyc cs a ++ outs cyc (final cyc cs a) b := by
  induction a generalizing cs with
  | nil => rfl
  | cons i is ih =>
    simp only [outs, List.cons_append, run, List.map_cons, final] at ih ⊢
    rw [ih]

theorem regsAfter_append (ac : Nat × Nat) (x y : List CycOut) :
    regsAfter ac (x ++ y) = regsAfter (regsAfter ac x) y := by
  induction x generalizing ac with
  | nil => rfl
  | cons o os ih => exact ih _

/-- `Sim1` for the cycles `is`: the bus carries `r` (`cycResp`), device.py's registers follow the strobes (`regsAfter`). -/
def Sim (cyc : Cfg) (d d' : DevState) (is : List CycIn) (r : Resp) : Prop :=
  ∀ cs, Rel d cs →
    Rel d' (final cyc cs is) ∧ cycResp (outs cyc cs is) = r ∧
    regsAfter (d.address, d.config) (outs cyc cs is) = (d'.address, d'.config)

theorem Sim.single {cyc : Cfg} {d d' : DevState} {i : CycIn} {r : Resp} (h : Sim1 cyc d d' i r) :
    Sim cyc d d' [i] r := by
  intro cs hr
  obtain ⟨a, b, e, f⟩ := h cs hr
  refine ⟨a, ?_, ?_⟩
  · simp only [outs, run, List.map_cons, List.map_nil, cycResp, b]
    cases r <;> simp [Resp.isNone]
  · simp only [outs, run, List.map_cons, List.map_nil, regsAfter, e, f]

def idle (d : DevState) (ns : List CycIn) : List CycIn := ns.map (envIn d)

/-- The free parameters of an expansion: the free inputs of the idle cycles before / between / after the strobes
(any number of cycles each) and of the strobe cycles themselves. -/
structure Gaps where
  pre  : List CycIn := []
  mid  : List CycIn := []
  mid2 : List CycIn := []
  post : List CycIn := []
  n1   : CycIn := {}
  n2   : CycIn := {}
  n3   : CycIn := {}

/-- The clock cycles the control endpoint sees for the event `e` received in the event-level state `d`
(see the file header for the contracts of the neighbours this encodes). -/
def expand (c : DevConfig) (d : DevState) (e : HostEvent) (g : Gaps) : List CycIn :=
  let d' := (core c d e).1
  match e with
  | .token pid addr ep =>
      if addr = d.address then
        let d1 := afterToken d pid ep
        idle d g.pre ++ ([{ envIn d1 g.n1 with newToken := true }] ++ (idle d1 g.mid ++
          ([{ envIn d1 g.n2 with readyForResponse := true }] ++ idle d' g.post)))
      else idle d g.pre ++ idle d' g.post
  | .data _ p ok =>
      if ok = true then
        if d.sdWait = true ∧ p.length = 8 ∧ d.tokPid = PID_SETUP then
          idle d g.pre ++ ([{ envIn d g.n1 with received := true, su := parseSetup p }] ++ (idle d' g.mid ++
            ([{ envIn d' g.n2 with sdAck := true }] ++ (idle d' g.mid2 ++
              ([{ envIn d' g.n3 with rxReady := true }] ++ idle d' g.post)))))
        else idle d g.pre ++ ([{ envIn d g.n1 with rxReady := true }] ++ idle d' g.post)
      else idle d g.pre ++ idle d' g.post
  | .handshake pid =>
      if pid = PID_ACK then idle d g.pre ++ ([{ envIn d g.n1 with hsAck := true }] ++ idle d' g.post)
      else idle d g.pre ++ idle d' g.post
  | _ => idle d g.pre ++ idle d' g.post

end LunaVerif.CtrlCyc
