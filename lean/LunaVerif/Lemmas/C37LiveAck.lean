import LunaVerif.Lemmas.C37LiveBase
/-!
# C37 — liveness: every accepted header gets its LGOOD

`rankA T` bounds the number of ready cycles until `T` LGOODs have completed on the wire, for every
`T ≤ lgoods + acks_to_send` (= accepted headers + 1).  What can be ahead of an owed LGOOD: the rest of the
command in progress; a whole ISSUE_CREDITS session (which the dispatch FSM only leaves when
`credits_to_issue` is 1 at a completion; it is extended by every buffer the protocol layer frees in the
meantime, bounded by `credits_to_issue + buffers_filled + (4 - acks_to_send)` LCRDs because the partner
may have at most four unacknowledged headers); one LRTY per retry request (*bad* cycles, cost 4 each).
-/
namespace LunaVerif.HeaderRx

def aheadA (T : Nat) : Fsm → World → Nat
  | .sendAcks, x => 3 * (T - x.g.lgoods.length - 1)
  | .dispatch, x => 4 * b2 x.s.lrty + 3 * (T - x.g.lgoods.length)
  | .sendLrty, x => 1 + 3 * (T - x.g.lgoods.length)
  | .issueCredits, x => 3 * (x.s.cti + x.s.bf + 3 - x.s.acks) + 1 + 4 * b2 x.s.lrty + 3 * (T - x.g.lgoods.length)
  | _, x => 1 + 4 * b2 x.s.lrty + 3 * (T - x.g.lgoods.length)

variable {T : Nat} {x x' : World} {i : In} {f f' : Fsm} {k dA dC dB dR dX dK : Nat}

theorem aheadA_step (h : Cyc x x' i dA dC dB dR dX dK) (t : Trans x.s f f' k dA dC dB dR dX dK)
    (hlt : x'.g.lgoods.length < T) (hT : T ≤ x.g.lgoods.length + x.s.acks) :
    k + aheadA T f' x' ≤ aheadA T f x + 4 * b2 i.retryRequired := by
  have := h.acks; have := h.cti; have := h.bf; have := h.lg; have := h.lrty; have := h.lrtyD
  have := h.accA; have := h.dCle
  cases t <;> simp only [aheadA] <;> omega

def rankA (T : Nat) : World → Nat := rank (·.g.lgoods.length) (aheadA T) T

theorem rankA_step (c : Config) (T : Nat) :
    StepOk (World.next c) WOk (fun x => Inv c x.s x.g ∧ T ≤ x.g.lgoods.length + x.s.acks) (rankA T) rdyW
      (fun _ i => i.retryRequired) 4 :=
  rank_stepOk c (fun _ i => 4 * b2 i.retryRequired) (fun _ i => by cases i.retryRequired <;> decide)
    (fun h => by have := h.acks; have := h.lg; have := h.aL; omega) aheadA_step

theorem rankA_le {c : Config} {T : Nat} {x : World} (hI : Inv c x.s x.g) (hT : T ≤ x.g.lgoods.length + x.s.acks) :
    rankA T x ≤ 40 := by
  have := hI.hbf; have := hI.hcti; have := hI.hcred; have := hI.hacks4; have := b2_le x.s.lrty
  exact rank_le_of fun f => by cases f <;> simp only [aheadA] <;> omega

/-- **LGOOD liveness from any state that satisfies the invariant.**  If `T ≤ LGOODs sent + acks_to_send` (the `T`-th
LGOOD is owed) then it has completed on the wire once the history contains `40 + 4·(retry requests)` ready cycles. -/
theorem lgood_live (c : Config) (T : Nat) (s : State) (g : Ghost) (h : Inv c s g)
    (hT : T ≤ g.lgoods.length + s.acks) (is : List In) (ho : EnvOk c s g is)
    (hn : 40 + 4 * countIn (·.retryRequired) is ≤ readyCount is) :
    T ≤ (runG c s g is).2.lgoods.length := by
  have := rank_live (rankA_step c T) ⟨s, g, Cnt.init⟩ ⟨h, hT⟩ (rankA_le h hT) is ho
    (by rw [cntS_in c (·.retryRequired)]; exact hn)
  rwa [← runW_sg c is ⟨s, g, Cnt.init⟩]

set_option hygiene false in
local macro "rank_go" hf:ident h0:ident : tactic =>
  `(tactic| (
    have hlr : lr s = if s.lrty then 4 else 0 := rfl
    cases hg : s.gen <;> cases hr : i.srcReady <;> cases hl : s.lrty <;> cases hq : i.retryRequired <;>
      simp [$hf:ident, $h0:ident, hg, hr, hl, hq, fsmNext, genNext, done, lgoodDone, lcrdDone, dispatchNext,
        generate, ph, nf, nr, na, en, step_fsm, step_gen] at fa fc fb flg flc fac lgA lcC fA fC g0 lrD lrN hlr hz ⊢ <;>
      (repeat' split) <;> (try simp only [ph] at *) <;> omega))

end LunaVerif.HeaderRx
