import LunaVerif.Lemmas.C20CycMain
import LunaVerif.Lemmas.C20Contract
/-!
# C20 — a device whose endpoint side keeps the slot contract satisfies `envOk`

`Link` ties the phase of the (merged) slot to the composed state: while the slot is armed the ghost's pending pulse has
the same age, and the slot is sending exactly while the data packet generator streams payload.  With the invariant of
the packet layer (`Abs.Inv`) it gives `envOk` in the cycle and is preserved by the cycle (`slot_cycle`); along a history
this discharges `assumptionsHold` (`assumptions_of_slot`).
-/
namespace LunaVerif.DevCyc
open LunaVerif LunaVerif.DevCyc.Abs LunaVerif.C20Ctr

def sigOf (i : In) : Sig :=
  { hs := hsReq i, valid := i.sValid, first := i.sFirst, last := i.sLast, tstart := i.timerStart }

/-- `tx.ready` as the endpoints see it (= `transmitter.stream.ready`). -/
def rdyOf (s : State) (i : In) : Bool := s.gen.fsm == .sendPayload && i.txReady

theorem rdyOf_eq (c : Config) (s : State) (i : In) : (step c s i).2.streamReady = rdyOf s i := by
  simp only [step, rdyOf, DataGenerator.fsmStep, genIn]
  cases h : s.gen.fsm <;> simp
  split <;> (try split) <;> rfl

structure Link (s : State) (g : Ghost) (ph : Ph) : Prop where
  armed : ∀ j, ph = .armed j → g.pend = some j
  send  : ph = .sending ↔ ((s.gen.fsm = .sendPid ∧ s.gen.isZlp = false) ∨ s.gen.fsm = .sendPayload)

theorem link_init : Link init ghostInit .idle := by
  refine ⟨(by intro j h; cases h), ?_⟩
  simp [init, DataGenerator.init]

theorem Link.idle {s : State} {g : Ghost} {ph : Ph} (hl : Link s g ph)
    (hp : g.pend = none) (hf : s.gen.fsm = .idle) : ph = .idle := by
  cases ph with
  | idle => rfl
  | armed j => simp [hl.armed j rfl] at hp
  | sending => have := hl.send.mp rfl; simp [hf] at this

theorem mode_facts {d : Nat} {p : Params} {a : A} {g : Ghost} (h : Mode d p a g) :
    (a.gf ≠ .idle → aPulse d a = false ∧ g.pend = none) ∧ (g.pend ≠ none → aPulse d a = false) ∧
    (aPulse d a = true → g.pend = none) := by
  obtain ⟨_, _, c3, c4, _⟩ := h.cases
  have k2 : g.pend ≠ none → aPulse d a = false := fun hp => noPulse_of (c3 hp).1 (c3 hp).2
  refine ⟨fun hg => ?_, k2, fun hp => Decidable.byContradiction fun hn => by simp [k2 hn] at hp⟩
  obtain ⟨_, na, rf, pe, _⟩ := c4 fun q => hg q.2
  exact ⟨noPulse_of na rf, pe⟩

/-- The generator is streaming payload (or about to): it looks at `stream.valid` / `stream.last`. -/
def busyB (g : DataGenerator.State) : Bool := (g.fsm == .sendPid && !g.isZlp) || g.fsm == .sendPayload

theorem busy_next (gs : DataGenerator.State) (gi : DataGenerator.In) :
    busyB (DataGenerator.fsmStep gs gi).1 =
      (match gs.fsm with
       | .idle => gi.first && gi.valid
       | .sendPid => !gs.isZlp
       | .sendPayload => !(gi.ready && (gi.last || !gi.valid))
       | _ => false) := by
  cases h : gs.fsm <;> simp only [DataGenerator.fsmStep, busyB, h]
  · cases gi.first <;> cases gi.valid <;> cases gi.last <;> simp
  · cases gi.ready <;> cases gs.isZlp <;> simp
  · cases gi.ready && (gi.last || !gi.valid) <;> simp
  · cases gi.ready <;> simp
  · cases gi.ready <;> simp

theorem busy_iff (g : DataGenerator.State) :
    (g.fsm = .sendPid ∧ g.isZlp = false ∨ g.fsm = .sendPayload) ↔ busyB g = true := by simp [busyB]

theorem link_send_iff {s : State} {g : Ghost} {ph : Ph} (hl : Link s g ph) : ph = .sending ↔ busyB s.gen = true :=
  hl.send.trans (busy_iff _)

theorem slot_envOk (c : Config) (p : Params)
    {s : State} {g : Ghost} {ph : Ph} {i : In} {pul : Bool} (hl : Link s g ph)
    (hrs : i.rsValid = false) (hpul : pul = true → pulse (step c s i).2 = true)
    (hc : (cstep p.L ph pul (rdyOf s i) g.a1 g.a2 (sigOf i)).1 = true) :
    envOk g s i (step c s i).2 = true := by
  simp only [cstep, Bool.and_eq_true] at hc
  obtain ⟨hc, ht⟩ := hc
  have hsend := link_send_iff hl
  simp only [envOk, hrs, Bool.not_false, Bool.true_and, Bool.and_eq_true, show (!i.timerStart || !g.a1 && g.a2) = true from ht,
    and_true, Bool.or_eq_true, Bool.not_eq_true', Bool.and_eq_false_iff]
  by_cases hp : ph = .sending
  · -- the packet is under way: `valid` held, no handshake, and the generator is not idle
    subst hp
    obtain ⟨hv, hh⟩ := cok_sending_iff.mp hc
    have hb := hsend.mp rfl
    have hss : sStart s i = false := by
      simp only [busyB, Bool.or_eq_true, Bool.and_eq_true, beq_iff_eq] at hb
      rcases hb with ⟨h1, _⟩ | h1 <;> simp [sStart, h1]
    exact ⟨⟨Or.inl (Or.inl (by simp [show hsReq i = false from hh, hss])), Or.inl hh⟩, Or.inr hv⟩
  · obtain ⟨_, _, _, k4, k5⟩ := (cok_iff hp).mp hc
    have hnp : (s.gen.fsm == .sendPayload) = false := by
      have : busyB s.gen ≠ true := fun h => hp (hsend.mpr h)
      simp only [busyB, Bool.not_eq_true, Bool.or_eq_false_iff] at this
      exact this.2
    refine ⟨⟨?_, ?_⟩, Or.inl hnp⟩
    · cases hr : (hsReq i || sStart s i) with
      | false => exact Or.inl (Or.inl rfl)
      | true =>
        have : (sigOf i).hs = true ∨ (sigOf i).valid = true := by
          simp only [Bool.or_eq_true, sStart, Bool.and_eq_true] at hr
          exact hr.imp id (fun h => h.1.2)
        rcases k4 this with h | h
        · exact Or.inl (Or.inr (hpul h))
        · cases ph with
          | armed j => exact Or.inr (by rw [hl.armed j rfl]; rfl)
          | idle => exact absurd rfl h
          | sending => exact absurd rfl hp
    · cases hh : hsReq i with
      | false => exact Or.inl rfl
      | true =>
        refine Or.inr (Bool.eq_false_iff.mpr fun hs' => ?_)
        simp only [sStart, Bool.and_eq_true] at hs'
        exact k5 ⟨hh, hs'.1.2⟩

theorem gen_next (c : Config) (s : State) (i : In) :
    busyB (step c s i).1.gen = busyB (DataGenerator.fsmStep s.gen (genIn i)).1 := rfl

theorem slot_link (c : Config) (p : Params) (hs : strobes c.tok.timer c.speed = true)
    {s : State} {g : Ghost} {ph : Ph} {i : In} {pul : Bool}
    (hinv : Inv (delayOf c.tok.timer c.speed) p (skel s) g) (hl : Link s g ph)
    (hpul : pul = true → pulse (step c s i).2 = true)
    (hc : (cstep p.L ph pul (rdyOf s i) g.a1 g.a2 (sigOf i)).1 = true) :
    Link (step c s i).1 (ghostNext p g s i (step c s i).2) (cstep p.L ph pul (rdyOf s i) g.a1 g.a2 (sigOf i)).2 := by
  simp only [cstep, Bool.and_eq_true] at hc
  obtain ⟨hc, _⟩ := hc
  have hsend := link_send_iff hl
  obtain ⟨m1, m2, _⟩ := mode_facts hinv.mode
  rw [← pulse_eq c hs s i] at m1 m2
  refine ⟨fun k hk => ?_, ?_⟩
  · -- armed: no request in this cycle; the ghost's pending pulse is set and ages like the phase
    obtain ⟨_, h1, h2, hk⟩ := cnext_eq_armed hk
    have hreq : (hsReq i || sStart s i) = false := by
      simp [sStart, show hsReq i = false from h1, show i.sValid = false from h2]
    show pendStep p g.pend (hsReq i || sStart s i) (pulse (step c s i).2) = some k
    rw [hreq]
    rcases hk with ⟨hu, rfl⟩ | ⟨_, j, rfl, hj, rfl⟩
    · simp [pendStep, hpul hu]
    · have hpe := hl.armed j rfl
      simp [pendStep, m2 (by simp [hpe]), hpe, hj]
  · -- sending: follows the generator
    rw [busy_iff, gen_next, busy_next]
    show cnext p.L ph pul (rdyOf s i) (sigOf i) = .sending ↔ _
    rw [cnext_eq_sending]
    -- a generator that is busy with something else than payload: the slot is not sending and drives no word
    have quiet : s.gen.fsm ≠ .idle → busyB s.gen = false → ph ≠ .sending ∧ (sigOf i).valid = false := by
      intro h1 h2
      obtain ⟨hPf, hpe⟩ := m1 h1
      have hns : ph ≠ .sending := fun h => by rw [hsend.mp h] at h2; cases h2
      refine ⟨hns, Bool.eq_false_iff.mpr fun hv => ?_⟩
      rcases ((cok_iff hns).mp hc).2.2.2.1 (Or.inr hv) with h | h
      · rw [hpul h] at hPf; cases hPf
      · cases ph with
        | idle => exact absurd rfl h
        | sending => exact absurd rfl hns
        | armed j => rw [hl.armed j rfl] at hpe; cases hpe
    cases hf : s.gen.fsm with
    | idle =>
      have hns : ph ≠ .sending := fun h => by have := hsend.mp h; simp [busyB, hf] at this
      have k5 := ((cok_iff hns).mp hc).2.2.2.2
      simp only [rdyOf, hf, genIn, sigOf, hns, false_or]
      cases hh : hsReq i <;> cases hv : i.sValid <;> cases hfi : i.sFirst <;> simp_all [sigOf]
    | sendPid =>
      cases hz : s.gen.isZlp with
      | false => simp [rdyOf, hf, hsend.mpr (by simp [busyB, hf, hz])]
      | true =>
        obtain ⟨q1, q2⟩ := quiet (by simp [hf]) (by simp [busyB, hf, hz])
        simp [q1, q2]
    | sendPayload =>
      have hph : ph = .sending := hsend.mpr (by simp [busyB, hf])
      subst hph
      have hv : i.sValid = true := (cok_sending_iff.mp hc).1
      simp only [rdyOf, hf, genIn, sigOf, hv, true_or, true_and, beq_self_eq_true, Bool.true_and, Bool.not_true,
        Bool.or_false]
      cases i.txReady <;> simp
    | sendCrcFirst =>
      obtain ⟨q1, q2⟩ := quiet (by simp [hf]) (by simp [busyB, hf])
      simp [q1, q2]
    | sendCrcSecond =>
      obtain ⟨q1, q2⟩ := quiet (by simp [hf]) (by simp [busyB, hf])
      simp [q1, q2]

theorem slot_cycle (c : Config) (p : Params) (hs : strobes c.tok.timer c.speed = true)
    (hT : delayOf c.tok.timer c.speed + p.L + 2 < p.T) {s : State} {g : Ghost} {ph : Ph} {i : In} {pul : Bool}
    (hinv : Inv (delayOf c.tok.timer c.speed) p (skel s) g) (hl : Link s g ph) (hh : hostOk g i = true)
    (hrs : i.rsValid = false) (hpul : pul = true → pulse (step c s i).2 = true)
    (hc : (cstep p.L ph pul (rdyOf s i) g.a1 g.a2 (sigOf i)).1 = true) :
    envOk g s i (step c s i).2 = true ∧
    Inv (delayOf c.tok.timer c.speed) p (skel (step c s i).1) (ghostNext p g s i (step c s i).2) ∧
    Link (step c s i).1 (ghostNext p g s i (step c s i).2) (cstep p.L ph pul (rdyOf s i) g.a1 g.a2 (sigOf i)).2 := by
  have he := slot_envOk c p hl hrs hpul hc
  refine ⟨he, ?_, slot_link c p hs hinv hl hpul hc⟩
  rw [skel_step c hs, ghost_eq c hs]
  rw [hostOk_eq c g s i] at hh
  rw [envOk_eq c hs] at he
  exact inv_step hinv (skelIn_ok c s i) hh he (delay_le_max _ _ hs) hT

def hostHolds (c : Config) (p : Params) : State → Ghost → List In → Bool
  | _, _, [] => true
  | s, g, i :: is => hostOk g i && hostHolds c p (step c s i).1 (ghostNext p g s i (step c s i).2) is

/-- The endpoint side, seen as ONE slot, keeps the contract along the run; every cycle comes with `pul` = "a pulse is
addressed to the slot" (which must be a real `ready_for_response` pulse), and the reset sequencer is silent. -/
def slotHolds (c : Config) (p : Params) : State → Ghost → Ph → List (In × Bool) → Bool
  | _, _, _, [] => true
  | s, g, ph, (i, pul) :: is =>
    let r := step c s i
    let k := cstep p.L ph pul r.2.streamReady g.a1 g.a2 (sigOf i)
    (!pul || pulse r.2) && !i.rsValid && k.1 && slotHolds c p r.1 (ghostNext p g s i r.2) k.2 is

/-- **`envOk` is a consequence of the slot contract**: if the host keeps `hostOk` and the endpoint side keeps the slot
contract, both assumptions of the cycle-level theorems hold along the run. -/
theorem assumptions_of_slot (c : Config) (p : Params) (hs : strobes c.tok.timer c.speed = true)
    (hT : delayOf c.tok.timer c.speed + p.L + 2 < p.T) (ins : List (In × Bool)) (s : State) (g : Ghost) (ph : Ph)
    (hinv : Inv (delayOf c.tok.timer c.speed) p (skel s) g) (hl : Link s g ph)
    (hh : hostHolds c p s g (ins.map (·.1)) = true) (hsl : slotHolds c p s g ph ins = true) :
    assumptionsHold c p s g (ins.map (·.1)) = true := by
  induction ins generalizing s g ph with
  | nil => rfl
  | cons ip is ih =>
    obtain ⟨i, pul⟩ := ip
    simp only [List.map_cons, hostHolds, slotHolds, Bool.and_eq_true, Bool.or_eq_true, Bool.not_eq_eq_eq_not,
      Bool.not_true] at hh hsl
    obtain ⟨hh1, hh2⟩ := hh
    obtain ⟨⟨⟨hp, hrs⟩, hk⟩, hrest⟩ := hsl
    rw [rdyOf_eq] at hk hrest
    have hpul : pul = true → pulse (step c s i).2 = true := by
      intro h; rcases hp with hp | hp
      · simp [h] at hp
      · exact hp
    obtain ⟨he, hinv', hl'⟩ := slot_cycle c p hs hT hinv hl hh1 hrs hpul hk
    simp only [List.map_cons, assumptionsHold, Bool.and_eq_true]
    exact ⟨⟨hh1, he⟩, ih _ _ _ hinv' hl' hh2 hrest⟩

/-- Each input paired with "this is cycle `k`": the history with the slot's pulse in cycle `k`. -/
def withPulseAt (k : Nat) (ins : List In) : List (In × Bool) :=
  (List.zip ins (List.range ins.length)).map (fun (i, t) => (i, t == k))

/-! Non-vacuity of `assumptions_of_slot`: the NAK history of `C20CycMain` with the pulse of cycle 7 addressed to the
slot (the handshake is requested one cycle later), and the one-byte data history with the pulse of cycle 7 answered
three cycles later (slot armed 0..2, then sending). -/

example : hostHolds exCfg exPar init ghostInit exNak = true ∧
    slotHolds exCfg exPar init ghostInit .idle (withPulseAt 7 exNak) = true := by decide +kernel

example : hostHolds exCfg exPar init ghostInit exData = true ∧
    slotHolds exCfg exPar init ghostInit .idle (withPulseAt 7 exData) = true := by decide +kernel

/-- A request without a pulse addressed to the slot breaks the contract. -/
example : slotHolds exCfg exPar init ghostInit .idle (withPulseAt 99 exNak) = false := by decide +kernel

end LunaVerif.DevCyc
