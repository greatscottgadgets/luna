import LunaVerif.Lemmas.C39Round
/-!
# C39 — the retry round over a whole history

`Round s g pend`: the ghost "retry round" `pend` (unacknowledged headers of the last LBAD that have not
been handed to the raw transmitter since) is a prefix of the headers that are still to be latched, and
`retry_pending` is set while it is non-empty.  One preservation lemma per cycle (`round_step`, from
`Ctl.toLatch_step`), the LBAD cycle establishes it (`round_start`), a latch emits its
head with the delayed bit (`round_emit`); `round_run` is the induction over the history.
-/
namespace LunaVerif.PacketTx
open LunaVerif.HeaderRx (Hdr Bufs bufQ bufQ_getElem?)

/-- Environment of a cycle: `EnvStep` (link up, LGOOD only for outstanding headers, credits ≤ buffers) and
the partner acknowledges a header only after its transmission has been started — in the current retry
round, if there is one (`packets_to_send < packets_awaiting_ack`, or equal while the raw transmitter is
busy with the header at the read pointer). -/
structure EnvStepR (s : State) (g : Ghost) (i : In) : Prop where
  env : EnvStep s g i
  ackSent : retire s = true → s.pts < s.paa + (ctlOf s).nCur

def EnvOkR (c : Config) : State → Ghost → List In → Prop
  | _, _, [] => True
  | s, g, i :: is => EnvStepR s g i ∧ EnvOkR c (step c s i).1 (ghostStep s i g) is

theorem EnvOkR.envOk {c : Config} : ∀ {ins : List In} {s : State} {g : Ghost}, EnvOkR c s g ins → EnvOk c s g ins
  | [], _, _, _ => trivial
  | _ :: _, _, _, h => ⟨h.1.env, EnvOkR.envOk h.2⟩

theorem EnvOkR.append {c : Config} : ∀ {a b : List In} {s : State} {g : Ghost}, EnvOkR c s g (a ++ b) →
    EnvOkR c s g a ∧ EnvOkR c (runG c s g a).1 (runG c s g a).2 b
  | [], _, _, _, h => ⟨trivial, h⟩
  | _ :: _, _, _, _, h => ⟨⟨h.1, (EnvOkR.append h.2).1⟩, (EnvOkR.append h.2).2⟩

structure InvR (s : State) (g : Ghost) : Prop where
  inv : Inv s g
  ctl : Ctl.Inv (ctlOf s)

theorem invR_init : InvR init Ghost.init :=
  ⟨inv_init, by constructor <;> simp [ctlOf, init, Ctl.St, Ctl.active, Ctl.nCur, Ctl.cur]⟩

theorem evOk_of {s : State} {g : Ghost} {i : In} (h : Inv s g) (e : EnvStepR s g i) :
    Ctl.EvOk (ctlOf s) (evOf s i) := by
  have := h.hcred; have := h.hlim; have := h.hpaa
  refine ⟨fun hd => rawDone_not_idle hd, ?_, ?_, e.ackSent⟩
  · intro hL
    have hL' : retryRequired s = true := hL
    show retire s = false
    simp only [retryRequired, Bool.and_eq_true, beq_iff_eq] at hL'
    simp [retire, hL'.2, LBAD, LGOOD]
  · show s.paa ≤ 4; omega

theorem invR_step {c : Config} {s : State} {g : Ghost} {i : In} (h : InvR s g) (e : EnvStepR s g i) :
    InvR (step c s i).1 (ghostStep s i g) :=
  ⟨inv_step h.inv e.env, by rw [ctlOf_step c s i e.env.en]; exact Ctl.inv_step h.ctl (evOk_of h.inv e)⟩

theorem invR_run (c : Config) (ins : List In) : ∀ (s : State) (g : Ghost), InvR s g → EnvOkR c s g ins →
    InvR (runG c s g ins).1 (runG c s g ins).2 := by
  induction ins with
  | nil => intro s g h _; exact h
  | cons i is ih => intro s g h e; exact ih _ _ (invR_step h e.1) e.2

/-- the headers that still have to be handed to the raw transmitter: the youngest `toLatch` taken ones -/
def toLatchList (s : State) (g : Ghost) : List Hdr := g.taken.drop (g.taken.length - (ctlOf s).toLatch)

structure Round (s : State) (g : Ghost) (pend : List Hdr) : Prop where
  split : ∃ new, toLatchList s g = pend ++ new
  rpend : pend ≠ [] → s.retryPending = true

section
variable {c : Config} {s : State} {g : Ghost} {i : In}

theorem toLatch_le (h : InvR s g) : (ctlOf s).toLatch ≤ g.taken.length := by
  have h1 : s.pts ≤ s.paa + (ctlOf s).nCur := h.ctl.bLe
  have h2 := h.inv.hpaa
  show s.pts - (ctlOf s).nCur ≤ _
  omega

theorem Round.toLatch_pos {pend : List Hdr} (r : Round s g pend) (hne : pend ≠ []) : 1 ≤ (ctlOf s).toLatch := by
  obtain ⟨new, hs⟩ := r.split
  have hl := congrArg List.length hs
  have := List.length_pos_iff.2 hne
  simp only [toLatchList, List.length_drop, List.length_append] at hl; omega

theorem round_emit {h : Hdr} {t : List Hdr} (hi : InvR s g) (r : Round s g (h :: t))
    (hl : latch s i = true) : s.fsm = .waitRetry ∧ txHeader s = dl h := by
  rw [latch_eq] at hl
  have hf : s.fsm = .waitRetry := Ctl.latch_retry hi.ctl hl (r.rpend (by simp))
  obtain ⟨hq, hn⟩ := Ctl.latch_pos hi.ctl hl
  refine ⟨hf, ?_⟩
  obtain ⟨new, hs⟩ := r.split
  have hpaa := hi.inv.hpaa; have hw := hi.inv.hwin
  have hle : s.pts ≤ s.paa := by have := hi.ctl.bLe; rw [hn] at this; exact this
  have ht : (ctlOf s).toLatch = s.pts := by simp only [Ctl.toLatch, hn]; rfl
  rw [ht] at hq
  have hrp : s.rp % 4 = (s.ap + (s.paa - s.pts)) % 4 := by
    have : (s.rp + s.pts) % 4 = (s.ap + s.paa) % 4 := hi.ctl.rpWp
    omega
  -- the header at the read pointer is the head of the to-latch list
  have hget : s.bufs.get s.rp = h := by
    have h0 : (toLatchList s g)[0]? = some h := by rw [hs]; rfl
    simp only [toLatchList, ht, List.getElem?_drop, Nat.add_zero] at h0
    have h1 := bufQ_getElem? s.bufs s.ap (n := s.paa) (k := s.paa - s.pts) (by omega)
    rw [hw, List.getElem?_drop] at h1
    have : g.retired + (s.paa - s.pts) = g.taken.length - s.pts := by omega
    rw [this, h0] at h1
    rw [← HeaderRx.Bufs.get_mod, hrp, HeaderRx.Bufs.get_mod]
    exact (Option.some.inj h1).symm
  simp [txHeader, hf, dl, hget]

/-- The youngest `T` elements of a list after `a` of them have left at the front and `x` has arrived at the
back. -/
theorem drop_step {α : Type} (l x : List α) {T T' a : Nat} (hT : T ≤ l.length) (ha : a ≤ T)
    (h : T' + a = T + x.length) :
    (l ++ x).drop ((l ++ x).length - T') = (l.drop (l.length - T)).drop a ++ x := by
  rw [List.length_append, List.drop_drop, ← List.drop_append_of_le_length (by omega)]
  congr 1; omega

theorem round_step {pend : List Hdr} (hi : InvR s g)
    (e : EnvStepR s g i) (r : Round s g pend) (hL : retryRequired s = false) :
    Round (step c s i).1 (ghostStep s i g) (if latch s i then pend.tail else pend) := by
  have o := evOk_of hi.inv e
  have hstep := Ctl.toLatch_step hi.ctl o hL
  obtain ⟨new, hs⟩ := r.split
  rw [← ctlOf_step c s i e.env.en, ← latch_eq, show (evOf s i).e = enq s i from rfl] at hstep
  constructor
  · -- the to-latch list loses its head at a latch and gains the enqueued header at the back
    have ha : (if latch s i then 1 else 0) ≤ (ctlOf s).toLatch := by
      split
      · rename_i hl; exact (Ctl.latch_pos (v := evOf s i) hi.ctl hl).1
      · omega
    have hx : (ghostStep s i g).taken =
        g.taken ++ if enq s i then [{ i.qHdr with dw3 := setSeq i.qHdr.dw3 s.txSeq }] else [] := by
      simp only [ghostStep]; split <;> simp
    rw [toLatchList, hx, drop_step _ _ (toLatch_le hi) ha (by rw [hstep]; split <;> rfl), ← toLatchList, hs]
    split
    · exact ⟨new.drop (1 - pend.length) ++ _, by rw [List.drop_append, List.drop_one, List.append_assoc]⟩
    · exact ⟨new ++ _, by rw [List.drop_zero, List.append_assoc]⟩
  · intro hne
    have hne' : pend ≠ [] := by
      intro h0; subst h0; revert hne; split <;> simp
    have := Ctl.rpend_keep o hL (r.rpend hne') (r.toLatch_pos hne')
    rw [← ctlOf_step c s i e.env.en] at this
    exact this

theorem round_start (hi : InvR s g) (e : EnvStepR s g i)
    (hL : retryRequired s = true) :
    Round (step c s i).1 (ghostStep s i g) ((ghostStep s i g).taken.drop (ghostStep s i g).retired) := by
  have o := evOk_of hi.inv e
  obtain ⟨h1, _, h3, h4⟩ := Ctl.lbad_step hi.ctl o hL
  rw [← ctlOf_step c s i e.env.en] at h1 h3 h4
  have hi' := invR_step (c := c) hi e
  have hpaa := hi'.inv.hpaa
  refine ⟨⟨[], ?_⟩, fun _ => h4⟩
  simp only [ctlOf] at h1
  simp only [toLatchList, Ctl.toLatch, h3, List.append_nil]
  congr 1
  simp only [ctlOf]
  omega
end

/-- the headers handed to the raw transmitter (`packet_tx.header` in the cycles in which it latches) during
a history, in order -/
def latches (c : Config) : State → List In → List Hdr
  | _, [] => []
  | s, i :: is => (if latch s i then [txHeader s] else []) ++ latches c (step c s i).1 is

/-- Environment of the history after an LBAD: `EnvStepR` in every cycle, and a further LBAD ends the
history considered (its own cycle is still included). -/
def RoundEnv (c : Config) : State → Ghost → List In → Prop
  | _, _, [] => True
  | s, g, i :: is => EnvStepR s g i ∧ (retryRequired s = true → is.isEmpty = true) ∧
      RoundEnv c (step c s i).1 (ghostStep s i g) is

/-- **induction over the history**: with a round `pend`, the first `pend.length` headers handed to the raw
transmitter are an initial segment of `pend.map dl` (all of it once the history is long enough:
`Lemmas/C39Live.lean`) — for every history with a further LBAD in its last cycle at most, whatever the waiting times. -/
theorem round_run (c : Config) (ins : List In) : ∀ (s : State) (g : Ghost) (pend : List Hdr),
    InvR s g → Round s g pend → RoundEnv c s g ins →
    (latches c s ins).take pend.length <+: pend.map dl := by
  induction ins with
  | nil => intro s g pend _ _ _; simp [latches]
  | cons i is ih =>
    intro s g pend hi r ⟨e, hlast, henv⟩
    have hrest : ∀ pend', Round (step c s i).1 (ghostStep s i g) pend' ∨ is = [] →
        (latches c (step c s i).1 is).take pend'.length <+: pend'.map dl := by
      intro pend' h
      rcases h with h | h
      · exact ih _ _ pend' (invR_step hi e) h henv
      · subst h; simp [latches]
    have hr' : Round (step c s i).1 (ghostStep s i g) (if latch s i then pend.tail else pend) ∨ is = [] := by
      rcases Bool.eq_false_or_eq_true (retryRequired s) with hL | hL
      · right; simpa using hlast hL
      · left; exact round_step hi e r hL
    simp only [latches]
    rcases Bool.eq_false_or_eq_true (latch s i) with hl | hl
    · simp only [hl, if_true] at hr' ⊢
      cases pend with
      | nil => simp
      | cons h t =>
        obtain ⟨_, htx⟩ := round_emit hi r hl
        simp only [List.length_cons, List.singleton_append, List.take_succ_cons, List.map_cons, htx]
        exact (List.cons_prefix_cons).2 ⟨rfl, hrest t hr'⟩
    · simp only [hl, Bool.false_eq_true, if_false, List.nil_append] at hr' ⊢
      exact hrest pend hr'

end LunaVerif.PacketTx
