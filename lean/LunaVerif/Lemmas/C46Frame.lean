import LunaVerif.Lemmas.C46Ghost
/-!
# C46 — framing observers: the reference packetizer on the producer side, the packets the host accepts

`Frame.exp` is what a reference packetizer makes of the words the endpoint takes from the producer: bytes are
collected into `part`; a word with `last` closes the packet (a short packet, or a full packet followed by a ZLP
`[]`), a packet that reaches `max_packet_size` without `last` is closed as a full packet.  `Frame.pkts` are the
packets the host observer of `Lemmas/C46Ghost.lean` accepts (same acceptance rule: expected sequence number,
not lost).  `InvF` relates them through the endpoint's state.  What a cycle does to `InvF` on the write side does not
depend on the FSM state: `write_frame`, and with it `invF_noflip` / `invF_flip`, which leave to a branch of the FSM
(Lemmas/C46Step.lean) only the packets `rx` the host accepts in the cycle and the read side.
-/
namespace LunaVerif.SSStreamIn

structure Frame where
  pkts : List (List Nat)    -- packets accepted by the host, in order
  exp  : List (List Nat)    -- packets completed by the reference packetizer
  part : List Nat           -- bytes of the packetizer's current, incomplete packet

def Frame.init : Frame := ⟨[], [], []⟩

def fProd (mps : Nat) (i : In) (o : Out) (f : Frame) : Frame :=
  if i.sValid != 0 && o.sReady then
    let p := f.part ++ bytesOf (validBytes i.sValid) i.sData
    if i.sLast then { f with exp := f.exp ++ ([p] ++ (if p.length = mps then [[]] else [])), part := [] }
    else if p.length = mps then { f with exp := f.exp ++ [p], part := [] }
    else { f with part := p }
  else f

/-- the data packet the host accepts in this cycle (if any); mirrors `gTx` -/
def rxData (i : In) (o : Out) (d : Bool) (g : Ghost) : List (List Nat) :=
  if o.txValid != 0 then
    if i.txReady then
      if o.txLast then
        if !d && (if g.inPkt then g.curSeq else o.txSeq) == g.hseq then
          [g.curBytes ++ bytesOf (validBytes o.txValid) o.txData]
        else []
      else []
    else []
  else []

/-- the ZLP the host accepts in this cycle (if any); `g2` is the host after the data stream of this cycle -/
def rxZlp (o : Out) (d : Bool) (g2 : Ghost) : List (List Nat) :=
  if o.txZlp && !d && o.txSeq == g2.hseq then [[]] else []

def rx (i : In) (o : Out) (d : Bool) (g : Ghost) : List (List Nat) :=
  rxData i o d g ++ rxZlp o d (gTx i o d (gProd i o g))

def fnext (mps : Nat) (i : In) (o : Out) (d : Bool) (g : Ghost) (f : Frame) : Frame :=
  let f1 := fProd mps i o f
  { f1 with pkts := f1.pkts ++ (rxData i o d g ++ rxZlp o d (gTx i o d (gProd i o g))) }

theorem fProd_pkts (mps : Nat) (i : In) (o : Out) (f : Frame) : (fProd mps i o f).pkts = f.pkts := by
  simp only [fProd]
  repeat' split
  all_goals rfl

/-- the reference packetizer keeps every byte it takes: closed packets and the partial one together grow by `prodBytes` -/
theorem fProd_bytes (mps : Nat) (i : In) (o : Out) (f : Frame) :
    (fProd mps i o f).exp.flatten ++ (fProd mps i o f).part = f.exp.flatten ++ f.part ++ prodBytes i o := by
  simp only [fProd, prodBytes]
  repeat' split
  all_goals simp

theorem gTx_deliv (i : In) (o : Out) (d : Bool) (g : Ghost) :
    (gTx i o d g).deliv = g.deliv ++ (rxData i o d g).flatten := by
  unfold gTx rxData receive
  by_cases h1 : (o.txValid != 0) = true <;> by_cases h2 : i.txReady = true <;> by_cases h3 : o.txLast = true <;>
    by_cases h4 : (!d && (if g.inPkt then g.curSeq else o.txSeq) == g.hseq) = true <;> simp [h1, h2, h3, h4]

theorem gZlp_deliv (o : Out) (d : Bool) (g : Ghost) : (gZlp o d g).deliv = g.deliv := by
  unfold gZlp
  split <;> simp

/-- the observers agree: the bytes of the accepted packets are the accepted bytes -/
theorem gnext_deliv (i : In) (o : Out) (d : Bool) (g : Ghost) :
    (gnext i o d g).deliv = g.deliv ++ (rx i o d g).flatten := by
  have h : rxData i o d (gProd i o g) = rxData i o d g := rfl
  have hz : (rxZlp o d (gTx i o d (gProd i o g))).flatten = [] := by
    unfold rxZlp; split <;> simp
  rw [gnext, gZlp_deliv, gTx_deliv, h, rx, List.flatten_append, hz, List.append_nil]
  rfl

/-- the host side of a cycle (`gTx`, `gZlp`) leaves `prod` alone -/
theorem gnext_prod (i : In) (o : Out) (d : Bool) (g : Ghost) : (gnext i o d g).prod = g.prod ++ prodBytes i o := by
  have h1 : ∀ g' : Ghost, (gZlp o d g').prod = g'.prod := by intro g'; unfold gZlp; split <;> simp
  have h2 : ∀ g' : Ghost, (gTx i o d g').prod = g'.prod := by
    intro g'
    simp only [gTx]
    repeat' split
    all_goals simp
  rw [gnext, h1, h2]; rfl

theorem rx_txidle (i : In) (o : Out) (d : Bool) (g : Ghost) (h1 : o.txValid = 0) :
    rx i o d g = if (o.txZlp && !d && o.txSeq == g.hseq) = true then [[]] else [] := by
  simp [rx, rxData, rxZlp, gTx, gProd, h1]

theorem rx_quiet (i : In) (o : Out) (d : Bool) (g : Ghost) (h1 : o.txValid = 0) (h2 : o.txZlp = false) :
    rx i o d g = [] := by
  simp [rx, rxData, rxZlp, h1, h2]

/-- no packet ends in a cycle without a ZLP strobe in which the word on `tx` is held or is not the last -/
theorem rx_inPkt (i : In) (o : Out) (d : Bool) (g : Ghost) (h : i.txReady = false ∨ o.txLast = false)
    (hz : o.txZlp = false) : rx i o d g = [] := by
  rcases h with h | h <;> simp [rx, rxData, rxZlp, h, hz]

theorem rx_last (i : In) (o : Out) (d : Bool) (g : Ghost) (h1 : o.txValid ≠ 0) (h2 : i.txReady = true)
    (h3 : o.txLast = true) (hz : o.txZlp = false) :
    rx i o d g = if (!d && (if g.inPkt then g.curSeq else o.txSeq) == g.hseq) = true then
      [g.curBytes ++ bytesOf (validBytes o.txValid) o.txData] else [] := by
  simp [rx, rxData, rxZlp, h1, h2, h3, hz]

/-- a packet carrying the endpoint's current number `s`: whether the host accepts it or not, "accepted in this cycle ++
still to be accepted" is unchanged -/
theorem rx_receive (g : Ghost) (d : Bool) (s : Nat) (b' : List Nat) (b z : List (List Nat)) :
    (if (!d && s == g.hseq) = true then b else []) ++ ((if (receive g d s b').hseq = s then b else []) ++ z) =
      (if g.hseq = s then b else []) ++ z := by
  unfold receive
  by_cases hq : s = g.hseq
  · cases d
    · have := seq_succ_ne g.hseq
      subst hq
      simp_all
    · simp [hq]
  · have h1 : ¬ (s == g.hseq) = true := by simpa using hq
    have h2 : ¬ g.hseq = s := fun h => hq h.symm
    simp [h1, h2]

/-- the write buffer: once complete (ended, or full) it is a packet of `exp` (plus the ZLP it entails) -/
def wpart (mps fill : Nat) (ended : Bool) (mem : List Nat) : List (List Nat) :=
  if (ended || decide (mps ≤ fill)) then [bufBytes mem fill] ++ (if fill = mps ∧ ended = true then [[]] else [])
  else []

/-- ... before that it is the packetizer's partial packet -/
def ppart (mps fill : Nat) (ended : Bool) (mem : List Nat) : List Nat :=
  if (ended || decide (mps ≤ fill)) then [] else bufBytes mem fill

/-- the read buffer: a packet (or, with fill count 0, a ZLP) not yet accepted by the host -/
def rpart (v : View) (g : Ghost) : List (List Nat) :=
  if v.fsm = .waitData then [] else if g.hseq = v.seq then [bufBytes v.memR v.fillR] else []

/-- a full packet that ended its transfer is in the read buffer: a ZLP follows -/
def zowed (c : Config) (v : View) : List (List Nat) :=
  if v.fillR = c.mps ∧ v.endedR = true then [[]] else []

structure InvF (c : Config) (v : View) (g : Ghost) (f : Frame) : Prop where
  partEq : f.part = ppart c.mps v.fillW v.endedW v.memW
  pk : f.pkts ++ (rpart v g ++ (zowed c v ++ wpart c.mps v.fillW v.endedW v.memW)) = f.exp
  wdI : v.fsm = .waitData → v.endedW = true ∨ v.fillW + 4 ≤ c.mps

theorem wpart_zero (mps : Nat) (mem : List Nat) (h : 0 < mps) : wpart mps 0 false mem = [] := by
  simp [wpart]; omega

theorem ppart_zero (mps : Nat) (mem : List Nat) : ppart mps 0 false mem = [] := by
  simp [ppart]

theorem write_frame (c : Config) (v : View) (i : In) (f : Frame) (hm4 : c.mps % 4 = 0) (hS : Shape c v) (hp : ProdOK i)
    (hpart : f.part = ppart c.mps v.fillW v.endedW v.memW) :
    ∃ dl, (fProd c.mps i (vout c v i) f).exp = f.exp ++ dl ∧
      wpart c.mps (wFill c v i) (wEnded c v i) (wMem c v i) = wpart c.mps v.fillW v.endedW v.memW ++ dl ∧
      (fProd c.mps i (vout c v i) f).part = ppart c.mps (wFill c v i) (wEnded c v i) (wMem c v i) := by
  obtain ⟨wl, wle, -, -, -, wdat⟩ := write_side c v i hS hp
  obtain ⟨-, hvl, -⟩ := validBytes_prod i hp
  have hsr : (i.sValid != 0 && (vout c v i).sReady) = wen c v i := rfl
  cases hw : wen c v i
  · refine ⟨[], ?_⟩
    simp [fProd, hsr, hw, wFill, wEnded, wMem, hpart]
  · have hw' := hw
    simp only [wen, vinReady, Bool.and_eq_true, bne_iff_ne, ne_eq, decide_eq_true_eq,
      Bool.not_eq_true'] at hw'
    obtain ⟨hnz, hroom, hne⟩ := hw'
    have hnc : ¬ c.mps ≤ v.fillW := by omega
    have hp0 : f.part = bufBytes v.memW v.fillW := by simp [hpart, ppart, hne, hnc]
    have hw0 : wpart c.mps v.fillW v.endedW v.memW = [] := by simp [wpart, hne, hnc]
    simp only [wbytes, hw, if_true] at wdat
    have hpb : f.part ++ bytesOf (validBytes i.sValid) i.sData = bufBytes (wMem c v i) (wFill c v i) := by
      rw [hp0, wdat]
    have hlen : (bufBytes (wMem c v i) (wFill c v i)).length = wFill c v i :=
      length_bufBytes _ _ (by omega)
    have hwf : wFill c v i = v.fillW + validBytes i.sValid := by simp [wFill, hw]
    cases hl : i.sLast
    · have hwe : wEnded c v i = false := by simp [wEnded, hl, hne]
      have hn4 := hvl hnz hl
      by_cases hfull : wFill c v i = c.mps
      · refine ⟨[bufBytes (wMem c v i) (wFill c v i)], ?_⟩
        have hge : c.mps ≤ wFill c v i := by omega
        rw [hw0]
        simp only [fProd, hsr, hw, hl, hpb, hlen, wpart, ppart, hwe, if_true, Bool.false_eq_true, if_false,
          Bool.false_or, decide_eq_true_eq, hge, and_false, List.append_nil]
        simp [hfull]
      · have hnc' : ¬ c.mps ≤ wFill c v i := by omega
        refine ⟨[], ?_⟩
        rw [hw0]
        simp only [fProd, hsr, hw, hl, hpb, hlen, wpart, ppart, hwe, if_true, Bool.false_eq_true, if_false,
          Bool.false_or, decide_eq_true_eq, hnc', and_false, List.append_nil]
        simp [hfull]
    · have hwe : wEnded c v i = true := by simp [wEnded, hl, hw]
      refine ⟨[bufBytes (wMem c v i) (wFill c v i)] ++ (if wFill c v i = c.mps then [[]] else []), ?_⟩
      rw [hw0]
      simp only [fProd, hsr, hw, hl, hpb, hlen, wpart, ppart, hwe, if_true, Bool.true_or, and_true]
      simp

/-- `InvF.pk` re-associated: accepted packets `P`, read side `R ++ Z`, write side `W`.  The cycle moves `rx` from the read side
to the accepted packets and appends `dl` to the write side and to the reference packets `E`. -/
theorem pk_noflip {α : Type} {P rx R Z R' Z' W E : List α} (dl : List α) (pk : P ++ (R ++ (Z ++ W)) = E)
    (hR : rx ++ (R' ++ Z') = R ++ Z) : (P ++ rx) ++ (R' ++ (Z' ++ (W ++ dl))) = E ++ dl := by
  have : (P ++ rx) ++ (R' ++ (Z' ++ (W ++ dl))) = P ++ ((rx ++ (R' ++ Z')) ++ (W ++ dl)) := by simp
  rw [this, hR, ← pk]; simp

theorem fnext_pkts (mps : Nat) (i : In) (o : Out) (d : Bool) (g : Ghost) (f : Frame) :
    (fnext mps i o d g f).pkts = (fProd mps i o f).pkts ++ rx i o d g := rfl
theorem fnext_exp (mps : Nat) (i : In) (o : Out) (d : Bool) (g : Ghost) (f : Frame) :
    (fnext mps i o d g f).exp = (fProd mps i o f).exp := rfl
theorem fnext_part (mps : Nat) (i : In) (o : Out) (d : Bool) (g : Ghost) (f : Frame) :
    (fnext mps i o d g f).part = (fProd mps i o f).part := rfl

/-- A cycle without a buffer swap.  The write side follows the packetizer (`write_frame`); what is left to a branch
is that the packets the host accepts in this cycle come out of the read side. -/
theorem invF_noflip (c : Config) (v : View) (g g' : Ghost) (f : Frame) (i : In) (d : Bool) (hc : CfgOK c)
    (hS : Shape c v) (hF : InvF c v g f) (hp : ProdOK i) (hg : gnext i (vout c v i) d g = g')
    {k : Ctl} (hk : vcontrol c v i = k) (hfl : k.flip = false)
    (hwd : k.fsm = .waitData → wEnded c v i = true ∨ wFill c v i + 4 ≤ c.mps)
    (hR : rx i (vout c v i) d g ++ (rpart (vnext c v i) g' ++ zowed c (vnext c v i)) = rpart v g ++ zowed c v) :
    InvF c (vnext c v i) g' (fnext c.mps i (vout c v i) d g f) := by
  subst hg hk
  obtain ⟨dl, hexp, hwp, hpart⟩ :=
    write_frame c v i f hc.1 hS hp hF.partEq
  have eF : (vnext c v i).fillW = wFill c v i := by simp only [vnext, hfl, Bool.false_eq_true, if_false]
  have eE : (vnext c v i).endedW = wEnded c v i := by simp only [vnext, hfl, Bool.false_eq_true, if_false]
  have eM : (vnext c v i).memW = wMem c v i := by simp only [vnext, hfl, Bool.false_eq_true, if_false]
  constructor
  · rw [fnext_part, hpart, eF, eE, eM]
  · rw [fnext_pkts, fnext_exp, fProd_pkts, hexp, eF, eE, eM, hwp]
    exact pk_noflip dl hF.pk hR
  · rw [eF, eE]; exact hwd

/-- … with a swap: the read side held nothing, the write side completed by `dl` becomes the read side `R' ++ Z'`. -/
theorem pk_flip {α : Type} {P rx R Z R' Z' W dl E : List α} (pk : P ++ (R ++ (Z ++ W)) = E)
    (hR : R = []) (hZ : Z = []) (hrx : rx = []) (hRZ : R' ++ Z' = W ++ dl) :
    (P ++ rx) ++ (R' ++ (Z' ++ [])) = E ++ dl := by
  subst hR hZ hrx
  rw [← pk]
  simp only [List.append_nil, List.nil_append, List.append_assoc]
  rw [hRZ]

theorem wpart_complete (mps fill : Nat) (ended : Bool) (mem : List Nat)
    (h : (ended || decide (mps ≤ fill)) = true) :
    wpart mps fill ended mem = [bufBytes mem fill] ++ (if fill = mps ∧ ended = true then [[]] else []) := by
  simp only [wpart, h, if_true]

theorem ppart_complete (mps fill : Nat) (ended : Bool) (mem : List Nat)
    (h : (ended || decide (mps ≤ fill)) = true) : ppart mps fill ended mem = [] := by
  simp only [ppart, h, if_true]

theorem prod_odd (i : In) (hp : ProdOK i) (hnz : i.sValid ≠ 0) : i.sValid % 2 = 1 := by
  rcases hp with h | h | ⟨h | h | h, _⟩ <;> omega

/-- When the write buffer is complete (ended, or full) after this cycle's write.  Both swap conditions of the FSM
(WAIT_FOR_DATA, WAIT_FOR_ACK) imply the right-hand side. -/
theorem wcomplete_eq (c : Config) (v : View) (i : In) (hm4 : c.mps % 4 = 0) (hp : ProdOK i) (hS : Shape c v) :
    (wEnded c v i || decide (c.mps ≤ wFill c v i)) =
      (!vinReady c v || (i.sValid % 2 == 1 && (decide (v.fillW + 4 ≥ c.mps) || i.sLast))) := by
  obtain ⟨-, hvl, -⟩ := validBytes_prod i hp
  have hle := hS.fillW_le
  cases hrd : vinReady c v
  · have hw : wen c v i = false := by simp [wen, hrd]
    simp only [vinReady, Bool.and_eq_false_iff, decide_eq_false_iff_not, Bool.not_eq_false'] at hrd
    cases he : v.endedW
    · have := hS.fillW_al he
      have : c.mps ≤ v.fillW := by
        rcases hrd with h | h
        · omega
        · simp [he] at h
      simp [wEnded, wFill, hw, he, this]
    · simp [wEnded, hw, he]
  · have hrd' := hrd
    simp only [vinReady, Bool.and_eq_true, decide_eq_true_eq, Bool.not_eq_true'] at hrd'
    by_cases hnz : i.sValid = 0
    · simp [wEnded, wFill, wen, hnz, hrd'.2]; omega
    · have hodd := prod_odd i hp hnz
      have hw : wen c v i = true := by simp [wen, hrd, hnz]
      cases hl : i.sLast
      · have hn4 := hvl hnz hl
        simp [wEnded, wFill, hw, hl, hn4, hodd, hrd'.2]
      · simp [wEnded, hw, hl, hodd]

/-- a write buffer that WAIT_FOR_ACK does not swap on an accepting ACK (`hst`: the FSM's own test, `¬in_ready` or a
word arriving that fills the buffer, is false) keeps room for a whole word, or has ended.  WAIT_FOR_DATA gets `hst`
from its own test for staying together with `InvF.wdI` (`step_waitData`, Lemmas/C46Step.lean). -/
theorem stay_room (c : Config) (v : View) (i : In) (hm4 : c.mps % 4 = 0) (hp : ProdOK i)
    (hal : v.endedW = false → v.fillW % 4 = 0)
    (hst : (!vinReady c v || (i.sValid % 2 == 1 && decide (v.fillW + 4 ≥ c.mps))) = false) :
    wEnded c v i = true ∨ wFill c v i + 4 ≤ c.mps := by
  obtain ⟨-, hvl, -⟩ := validBytes_prod i hp
  simp only [Bool.or_eq_false_iff, Bool.not_eq_false', vinReady, Bool.and_eq_true, decide_eq_true_eq,
    Bool.not_eq_true'] at hst
  obtain ⟨⟨hroom, hne⟩, hnc⟩ := hst
  have h4 := hal hne
  cases hw : wen c v i
  · right; simp [wFill, hw, hroom]
  · have hnz : i.sValid ≠ 0 := by
      intro h; simp [wen, h] at hw
    have hodd := prod_odd i hp hnz
    simp only [hodd, beq_self_eq_true, Bool.true_and, decide_eq_false_iff_not] at hnc
    cases hl : i.sLast
    · right
      have hn4 := hvl hnz hl
      simp only [wFill, hw, if_true, hn4]; omega
    · left; simp [wEnded, hw, hl]

/-- A cycle with a buffer swap.  The old read side holds nothing the host has not got, no packet is accepted, the
write buffer is complete after this cycle's write and becomes the read side; the new write side is empty. -/
theorem invF_flip (c : Config) (v : View) (g g' : Ghost) (f : Frame) (i : In) (d : Bool) (hc : CfgOK c)
    (hS : Shape c v) (hF : InvF c v g f) (hp : ProdOK i) (hg : gnext i (vout c v i) d g = g')
    {k : Ctl} (hk : vcontrol c v i = k) (hfl : k.flip = true) (hne : k.fsm ≠ .waitData)
    (hcomp : (wEnded c v i || decide (c.mps ≤ wFill c v i)) = true)
    (hr0 : rpart v g = []) (hz0 : zowed c v = []) (hrx : rx i (vout c v i) d g = [])
    (hRZ : rpart (vnext c v i) g' ++ zowed c (vnext c v i) =
      [bufBytes (wMem c v i) (wFill c v i)] ++ (if wFill c v i = c.mps ∧ wEnded c v i = true then [[]] else [])) :
    InvF c (vnext c v i) g' (fnext c.mps i (vout c v i) d g f) := by
  subst hg hk
  obtain ⟨dl, hexp, hwp, hpart⟩ :=
    write_frame c v i f hc.1 hS hp hF.partEq
  obtain ⟨hce, hcf⟩ := vcontrol_flip c v i hfl
  have hm8 := hc.2.1
  have eF : (vnext c v i).fillW = 0 := by
    simp only [vnext, hfl, if_true]
    rcases hcf with h | h
    · rw [if_pos h]
    · rw [hS.wd h, ite_self]
  have eE : (vnext c v i).endedW = false := by simp only [vnext, hfl, hce, if_true]
  constructor
  · rw [fnext_part, hpart, ppart_complete _ _ _ _ hcomp, eF, eE, ppart_zero]
  · rw [fnext_pkts, fnext_exp, fProd_pkts, hexp, eF, eE, wpart_zero _ _ (by omega)]
    refine pk_flip hF.pk hr0 hz0 hrx ?_
    rw [hRZ, ← wpart_complete _ _ _ _ hcomp, hwp]
  · intro h; exact absurd h hne

end LunaVerif.SSStreamIn
