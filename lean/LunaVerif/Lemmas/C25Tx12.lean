/-
C25, transmit chain, 12 MHz (`usb`) part: `TxShifter` + `TxBitstuffer` + the `TxPipeline` controller in closed loop
with a UTMI producer that obeys the `tx_valid`/`tx_ready` handshake.  Main result `packet12`: per `usb` cycle the pair
(`fit_oe`, `fit_dat`) handed to the 48 MHz part is one idle cycle, then SYNC ++ the stuffed bits of the bytes (the 1
ending SYNC counted), and `tx_ready` takes every byte exactly once, in order.
-/
import LunaVerif.Model.Phy.FsCodec
import LunaVerif.Model.Phy.FsTx
namespace LunaVerif.FsTx
open LunaVerif.FsCodec

/-! ## The UTMI producer and the closed 12 MHz loop -/

/-- A UTMI producer obeying the handshake: `rest` = the bytes not yet accepted.  It offers the first of them with
`tx_valid` until `tx_ready`, then the next one; after the last `tx_ready` it drops `tx_valid`.  While it offers
nothing `tx_data` is arbitrary (`g`). -/
structure Prod where
  rest : List Nat

def Prod.valid (p : Prod) : Bool := !p.rest.isEmpty
def Prod.data (p : Prod) (g : Nat) : Nat := match p.rest with | b :: _ => b | [] => g
def Prod.next (p : Prod) (ready : Bool) : Prod := if ready then ⟨p.rest.tail⟩ else p

/-- what is visible of the 12 MHz part in one `usb` cycle -/
structure O12 where
  fitOe  : Bool
  fitDat : Bool
  ready  : Bool      -- tx_ready
  data   : Nat       -- tx_data in that cycle

structure R12 where
  outs : List O12
  st   : Tx12
  prod : Prod

/-- the 12 MHz registers and the producer, one `usb` cycle per element of `gs` (the arbitrary idle `tx_data`) -/
def loop12 : Tx12 → Prod → List Nat → R12
  | s, p, [] => ⟨[], s, p⟩
  | s, p, g :: gs =>
    let r := loop12 (s.next p.valid (p.data g)) (p.next (s.ready p.valid)) gs
    ⟨⟨s.fitOe, s.fitDat, s.ready p.valid, p.data g⟩ :: r.outs, r.st, r.prod⟩

theorem loop12_cons_outs (s : Tx12) (p : Prod) (g : Nat) (gs : List Nat) :
    (loop12 s p (g :: gs)).outs = ⟨s.fitOe, s.fitDat, s.ready p.valid, p.data g⟩ ::
      (loop12 (s.next p.valid (p.data g)) (p.next (s.ready p.valid)) gs).outs := rfl
theorem loop12_cons_st (s : Tx12) (p : Prod) (g : Nat) (gs : List Nat) :
    (loop12 s p (g :: gs)).st = (loop12 (s.next p.valid (p.data g)) (p.next (s.ready p.valid)) gs).st := rfl
theorem loop12_cons_prod (s : Tx12) (p : Prod) (g : Nat) (gs : List Nat) :
    (loop12 s p (g :: gs)).prod = (loop12 (s.next p.valid (p.data g)) (p.next (s.ready p.valid)) gs).prod := rfl

def O12.fit (o : O12) : Bool × Bool := (o.fitOe, o.fitDat)
/-- the bytes taken: `tx_data` of the cycles with `tx_ready` -/
def accepted (os : List O12) : List Nat := os.filterMap (fun o => if o.ready then some o.data else none)

theorem loop12_append (s : Tx12) (p : Prod) (g1 g2 : List Nat) :
    loop12 s p (g1 ++ g2) =
      let r1 := loop12 s p g1
      let r2 := loop12 r1.st r1.prod g2
      ⟨r1.outs ++ r2.outs, r2.st, r2.prod⟩ := by
  induction g1 generalizing s p with
  | nil => simp [loop12]
  | cons g gs ih => simp [loop12, ih]

/-- the controller is idle and not driving; the shifter and the bit stuffer may hold anything (they run freely
between packets) -/
structure Quiet12 (s : Tx12) : Prop where
  fsm  : s.fsm = .idle
  sync : s.syncPulse = 0
  gray : s.gray = 0 ∨ s.gray = 2

/-! ## The data phase -/

def dataSt (b k n : Nat) : Tx12 :=
  { shifter := b >>> k, pos := 128 >>> k, oGet := k == 0, stuff := n, syncPulse := 0, gray := 3, fsm := .sendData }

/-- `pos` and `sync_pulse` are one-hot (`0x80 >> k`; `simp` turns bit `j` of that into bit `k + j` of `0x80`) -/
theorem testBit_128 (j : Nat) : Nat.testBit 128 j = (j == 7) := by
  rw [show (128 : Nat) = 2 ^ 7 from rfl, Nat.testBit_two_pow, Bool.eq_iff_iff, decide_eq_true_iff, beq_iff_eq]
  exact eq_comm

theorem data_stall (b k : Nat) (oe : Bool) (d : Nat) :
    (dataSt b k 6).next oe d = dataSt b k 0 := by
  simp [dataSt, Tx12.next, Tx12.nextShifter, Tx12.nextPos, Tx12.nextGet, Tx12.nextStuff, Tx12.nextSync,
    Tx12.nextGray, Tx12.nextFsm, Tx12.stall, Tx12.spResetShifter, Tx12.finishing]

theorem data_shift (b k n : Nat) (hk : k < 7) (hn : n < 6) (oe : Bool) (d : Nat) :
    (dataSt b k n).next oe d = dataSt b (k + 1) (if b.testBit k then n + 1 else 0) := by
  have hne : (n == 6) = false := by simp; omega
  have hk7 : (k == 7) = false := by simp; omega
  simp [dataSt, Tx12.next, Tx12.nextShifter, Tx12.nextPos, Tx12.nextGet, Tx12.nextStuff, Tx12.nextSync,
    Tx12.nextGray, Tx12.nextFsm, Tx12.stall, Tx12.spResetShifter, Tx12.finishing, Tx12.empty, testBit_128, hk7, hne,
    Tx12.bsIn, Tx12.shData, Tx12.stateData, Tx12.spBit, Nat.shiftRight_add]

theorem data_load (b n : Nat) (hn : n < 6) (d : Nat) (hd : d < 256) :
    (dataSt b 7 n).next true d = dataSt d 0 (if b.testBit 7 then n + 1 else 0) := by
  have hne : (n == 6) = false := by simp; omega
  have hd' : d % 256 = d := Nat.mod_eq_of_lt hd
  simp [dataSt, Tx12.next, Tx12.nextShifter, Tx12.nextPos, Tx12.nextGet, Tx12.nextStuff, Tx12.nextSync,
    Tx12.nextGray, Tx12.nextFsm, Tx12.stall, Tx12.spResetShifter, Tx12.finishing, Tx12.empty, hne,
    Tx12.bsIn, Tx12.shData, Tx12.stateData, Tx12.spBit, hd']

/-- state after the last data bit when a stuffed 0 still has to go out -/
def lastSt (d : Nat) : Tx12 :=
  { shifter := d % 256, pos := 128, oGet := true, stuff := 6, syncPulse := 0, gray := 3, fsm := .stuffLast }

/-- state after the packet: the controller is back in IDLE, `state_gray = 0b10` -/
def finSt (d n : Nat) : Tx12 :=
  { shifter := d % 256, pos := 128, oGet := true, stuff := n, syncPulse := 0, gray := 2, fsm := .idle }

theorem data_last_stuff (b : Nat) (hb : b.testBit 7 = true) (d : Nat) :
    (dataSt b 7 5).next false d = lastSt d := by
  simp [dataSt, lastSt, Tx12.next, Tx12.nextShifter, Tx12.nextPos, Tx12.nextGet, Tx12.nextStuff, Tx12.nextSync,
    Tx12.nextGray, Tx12.nextFsm, Tx12.stall, Tx12.spResetShifter, Tx12.finishing, Tx12.empty,
    Tx12.bsIn, Tx12.shData, Tx12.stateData, Tx12.spBit, Tx12.willStall, hb]

theorem data_last (b n : Nat) (hn : n < 6) (h : ¬ (n = 5 ∧ b.testBit 7 = true)) (d : Nat) :
    (dataSt b 7 n).next false d = finSt d (if b.testBit 7 then n + 1 else 0) := by
  have hne : (n == 6) = false := by simp; omega
  have hw : (n == 5 && b.testBit 7) = false := by
    cases hb : b.testBit 7 <;> simp_all
  simp [dataSt, finSt, Tx12.next, Tx12.nextShifter, Tx12.nextPos, Tx12.nextGet, Tx12.nextStuff, Tx12.nextSync,
    Tx12.nextGray, Tx12.nextFsm, Tx12.stall, Tx12.spResetShifter, Tx12.finishing, Tx12.empty, hne,
    Tx12.bsIn, Tx12.shData, Tx12.stateData, Tx12.spBit, Tx12.willStall, hw]

theorem last_next (d : Nat) (oe : Bool) (d' : Nat) :
    (lastSt d).next oe d' = finSt d 0 := by
  simp [lastSt, finSt, Tx12.next, Tx12.nextShifter, Tx12.nextPos, Tx12.nextGet, Tx12.nextStuff, Tx12.nextSync,
    Tx12.nextGray, Tx12.nextFsm, Tx12.stall, Tx12.spResetShifter]

theorem data_out (b k n : Nat) :
    (dataSt b k n).fitOe = true ∧ (dataSt b k n).fitDat = (b.testBit k && !(n == 6)) ∧
    ∀ oe, (dataSt b k n).ready oe = (k == 0 && !(n == 6) && oe) := by
  simp [dataSt, Tx12.fitOe, Tx12.fitDat, Tx12.ready, Tx12.stateData, Tx12.shData, Tx12.stall, Tx12.spBit]

theorem last_out (d : Nat) :
    (lastSt d).fitOe = true ∧ (lastSt d).fitDat = false ∧ ∀ oe, (lastSt d).ready oe = false := by
  simp [lastSt, Tx12.fitOe, Tx12.fitDat, Tx12.ready, Tx12.stateData, Tx12.shData, Tx12.stall, Tx12.spBit]

/-! ### what the data phase has to emit -/

/-- bits still to go out: bit `k`.. of the byte in the shifter, then the bytes not yet loaded -/
def rem (b k : Nat) (more : List Nat) : List Bool := (byteBits b).drop k ++ bitsOf more

/-- `stuff` seen from the hardware's state: in D6 the stuffed 0 is still to come -/
def emit (n : Nat) (bits : List Bool) : List Bool := if n = 6 then false :: stuff 0 bits else stuff n bits

theorem rem_step (b k : Nat) (more : List Nat) (hk : k ≤ 7) : rem b k more = b.testBit k :: rem b (k + 1) more := by
  have hl : k < (byteBits b).length := by simp [byteBits]; omega
  rw [rem, List.drop_eq_getElem_cons hl]
  simp [rem, byteBits]

theorem rem_eight (b : Nat) (more : List Nat) : rem b 8 more = bitsOf more := by
  simp [rem, byteBits]

theorem rem_zero (b : Nat) (more : List Nat) : rem b 0 more = bitsOf (b :: more) := by
  simp [rem, bitsOf]

theorem emit_six (bits : List Bool) : emit 6 bits = false :: emit 0 bits := by simp [emit]

theorem emit_cons (n : Nat) (hn : n < 6) (bit : Bool) (bs : List Bool) :
    emit n (bit :: bs) = bit :: emit (if bit then n + 1 else 0) bs := by
  have h6 : n ≠ 6 := by omega
  cases bit with
  | false => simp [emit, stuff, h6]
  | true =>
    by_cases h : n + 1 = 6
    · simp [emit, stuff, h6, h]
    · simp [emit, stuff, h6, h]

theorem emit_nil (n : Nat) : emit n [] = if n = 6 then [false] else [] := by
  by_cases h : n = 6 <;> simp [emit, stuff, h]

theorem emit_one (bits : List Bool) : emit 1 bits = stuff 1 bits := rfl

/-- **data phase**: from the state in which bit `k` of byte `b` is at the shifter's output with `n` ones counted,
the 12 MHz part emits exactly the (rest of the) stuffed bit stream with `fit_oe` high, accepts every byte not yet
acknowledged exactly once, and ends in IDLE. -/
theorem data_phase (gs : List Nat) : ∀ (b k n : Nat) (more : List Nat), k ≤ 7 → n ≤ 6 → b < 256 →
    (∀ x ∈ more, x < 256) → gs.length = (emit n (rem b k more)).length →
    ((loop12 (dataSt b k n) ⟨if k = 0 then b :: more else more⟩ gs).outs.map O12.fit
        = (emit n (rem b k more)).map (fun x => (true, x)) ∧
     accepted (loop12 (dataSt b k n) ⟨if k = 0 then b :: more else more⟩ gs).outs
        = (if k = 0 then b :: more else more) ∧
     Quiet12 (loop12 (dataSt b k n) ⟨if k = 0 then b :: more else more⟩ gs).st ∧
     (loop12 (dataSt b k n) ⟨if k = 0 then b :: more else more⟩ gs).prod = ⟨[]⟩) := by
  induction gs with
  | nil =>
    intro b k n more hk hn hb hm hlen
    exfalso
    by_cases h6 : n = 6
    · subst h6; simp [emit_six] at hlen
    · rw [rem_step b k more hk, emit_cons n (by omega)] at hlen; simp at hlen
  | cons g gs ih =>
    intro b k n more hk hn hb hm hlen
    obtain ⟨ho1, ho2, ho3⟩ := data_out b k n
    by_cases h6 : n = 6
    · -- the stuffed bit: everything stalls for one cycle
      subst h6
      rw [emit_six] at hlen ⊢
      have := ih b k 0 more hk (by omega) hb hm (by simpa using hlen)
      simp only [loop12_cons_outs, loop12_cons_st, loop12_cons_prod, data_stall, ho3]
      simpa [O12.fit, accepted, ho1, ho2, Prod.next] using this
    · have hn6 : n < 6 := by omega
      have hne : (n == 6) = false := by simp; omega
      rw [rem_step b k more hk, emit_cons n hn6] at hlen ⊢
      have hn' : (if b.testBit k then n + 1 else 0) ≤ 6 := by split <;> omega
      by_cases hk7 : k < 7
      · -- a bit inside the byte
        have := ih b (k + 1) (if b.testBit k then n + 1 else 0) more (by omega) hn' hb hm (by simpa using hlen)
        simp only [loop12_cons_outs, loop12_cons_st, loop12_cons_prod, data_shift b k n hk7 hn6, ho3]
        by_cases hk0 : k = 0
        · subst hk0
          simp [O12.fit, accepted, ho1, ho2, hne, Prod.next, Prod.valid, Prod.data] at this ⊢
          exact this
        · have hk0' : (k == 0) = false := by simp [hk0]
          simp [hk0, hk0', O12.fit, accepted, ho1, ho2, hne, Prod.next] at this ⊢
          exact this
      · have hk' : k = 7 := by omega
        subst hk'
        rw [rem_eight] at hlen ⊢
        cases more with
        | cons b' more' =>
          -- the last bit of a byte, the next byte is loaded
          have hb' : b' < 256 := hm b' (by simp)
          have hm' : ∀ x ∈ more', x < 256 := fun x hx => hm x (by simp [hx])
          have := ih b' 0 (if b.testBit 7 then n + 1 else 0) more' (by omega) hn' hb' hm' (by simpa [rem_zero] using hlen)
          simp only [loop12_cons_outs, loop12_cons_st, loop12_cons_prod, ho3]
          simp [O12.fit, accepted, ho1, ho2, hne, Prod.next, Prod.valid, Prod.data, data_load b n hn6 b' hb',
            rem_zero] at this ⊢
          exact this
        | nil =>
          -- the last bit of the packet
          simp only [loop12_cons_outs, loop12_cons_st, loop12_cons_prod, ho3]
          by_cases hw : n = 5 ∧ b.testBit 7 = true
          · obtain ⟨hn5, hb7⟩ := hw
            subst hn5
            simp [hb7, emit_nil, bitsOf] at hlen
            match gs, hlen with
            | [g2], _ =>
              obtain ⟨hl1, hl2, hl3⟩ := last_out g
              simp [O12.fit, accepted, ho1, ho2, Prod.next, Prod.valid, Prod.data, data_last_stuff b hb7,
                loop12, hb7, emit_nil, bitsOf, last_next, hl1, hl2, hl3]
              exact ⟨rfl, rfl, Or.inr rfl⟩
          · have hn'' : (if b.testBit 7 = true then n + 1 else 0) ≠ 6 := by
              split
              · rename_i hb7; intro h; exact hw ⟨by omega, hb7⟩
              · omega
            simp [emit_nil, bitsOf, hn''] at hlen
            subst hlen
            simp [O12.fit, accepted, ho1, ho2, hne, Prod.next, Prod.valid, Prod.data, data_last b n hn6 hw,
              loop12, emit_nil, bitsOf, hn'']
            exact ⟨rfl, rfl, Or.inr rfl⟩

/-! ## IDLE and the SYNC phase -/

/-- SYNC is being sent, `sync_pulse = 0x80 >> j`.  `clr`: `sp_reset_shifter = sync_pulse[1]` has emptied the shifter
by the cycle of the last SYNC bit, so the first byte is loaded at its end. -/
structure SyncInv (j : Nat) (s : Tx12) : Prop where
  fsm   : s.fsm = .sendSync
  gray  : s.gray = 1
  sync  : s.syncPulse = 128 >>> j
  stuff : s.stuff = 0
  clr   : j = 7 → s.pos = 1

theorem quiet_out (s : Tx12) (h : Quiet12 s) : s.fitOe = false ∧ s.fitDat = false ∧ ∀ oe, s.ready oe = false := by
  obtain ⟨_, h2, h3⟩ := h
  rcases h3 with h3 | h3 <;>
    simp [Tx12.fitOe, Tx12.fitDat, Tx12.ready, Tx12.stateData, Tx12.stateSync, Tx12.spBit, h2, h3]

theorem quiet_idle (s : Tx12) (h : Quiet12 s) (d : Nat) : Quiet12 (s.next false d) := by
  obtain ⟨h1, h2, h3⟩ := h
  exact ⟨by simp [Tx12.next, Tx12.nextFsm, h1], by simp [Tx12.next, Tx12.nextSync, h1, h2],
    by simp [Tx12.next, Tx12.nextGray, h1]⟩

theorem quiet_start (s : Tx12) (h : Quiet12 s) (d : Nat) : SyncInv 0 (s.next true d) := by
  obtain ⟨h1, h2, h3⟩ := h
  refine ⟨by simp [Tx12.next, Tx12.nextFsm, h1], by simp [Tx12.next, Tx12.nextGray, h1],
    by simp [Tx12.next, Tx12.nextSync, h1], ?_, by omega⟩
  rcases h3 with h3 | h3 <;>
    simp [Tx12.next, Tx12.nextStuff, Tx12.bsIn, Tx12.stateData, Tx12.spBit, h2, h3]

theorem sync_out (j : Nat) (s : Tx12) (h : SyncInv j s) :
    s.fitOe = true ∧ s.fitDat = (j == 7) ∧ ∀ oe, s.ready oe = false := by
  obtain ⟨_, h2, h3, _, _⟩ := h
  simp [Tx12.fitOe, Tx12.fitDat, Tx12.ready, Tx12.stateData, Tx12.stateSync, Tx12.spBit, h2, h3, testBit_128]

theorem sync_step (j : Nat) (hj : j < 7) (s : Tx12) (h : SyncInv j s) (oe : Bool) (d : Nat) :
    SyncInv (j + 1) (s.next oe d) := by
  obtain ⟨h1, h2, h3, h4, _⟩ := h
  have hb : s.spBit = false := by simp [Tx12.spBit, h3, testBit_128]; omega
  exact ⟨by simp [Tx12.next, Tx12.nextFsm, h1, hb], by simp [Tx12.next, Tx12.nextGray, h1, hb],
    by simp [Tx12.next, Tx12.nextSync, h1, h3, Nat.shiftRight_add],
    by simp [Tx12.next, Tx12.nextStuff, Tx12.bsIn, Tx12.stateData, h2, h4, hb],
    fun h7 => by simp [Tx12.next, Tx12.nextPos, Tx12.spResetShifter, h3, testBit_128, h7]⟩

theorem sync_end (s : Tx12) (h : SyncInv 7 s) (oe : Bool) (d : Nat) (hd : d < 256) :
    s.next oe d = dataSt d 0 1 := by
  obtain ⟨h1, h2, h3, h4, h5⟩ := h
  have h5 := h5 rfl
  have hd' : d % 256 = d := Nat.mod_eq_of_lt hd
  have hb : s.spBit = true := by rw [Tx12.spBit, h3]; decide
  have hr : s.spResetShifter = false := by rw [Tx12.spResetShifter, h3]; decide
  simp [dataSt, Tx12.next, Tx12.nextShifter, Tx12.nextPos, Tx12.nextGet, Tx12.nextStuff, Tx12.nextSync,
    Tx12.nextGray, Tx12.nextFsm, Tx12.stall, Tx12.empty, Tx12.bsIn, h1, h3, h4, h5, hd', hb, hr]

theorem syncBits_drop (j : Nat) (hj : j ≤ 7) : syncBits.drop j = (j == 7) :: syncBits.drop (j + 1) := by
  have : j = 0 ∨ j = 1 ∨ j = 2 ∨ j = 3 ∨ j = 4 ∨ j = 5 ∨ j = 6 ∨ j = 7 := by omega
  rcases this with h | h | h | h | h | h | h | h <;> subst h <;> decide

/-- **SYNC phase**: the remaining SYNC bits go out with `fit_oe` high, nothing is accepted, and the first byte is in
the shifter afterwards with the 1 that ends SYNC counted. -/
theorem sync_phase (gs : List Nat) : ∀ (j : Nat) (s : Tx12) (b : Nat) (more : List Nat), j ≤ 7 → SyncInv j s →
    b < 256 → gs.length = 8 - j →
    ((loop12 s ⟨b :: more⟩ gs).outs.map O12.fit = (syncBits.drop j).map (fun x => (true, x)) ∧
     accepted (loop12 s ⟨b :: more⟩ gs).outs = [] ∧
     (loop12 s ⟨b :: more⟩ gs).st = dataSt b 0 1 ∧
     (loop12 s ⟨b :: more⟩ gs).prod = ⟨b :: more⟩) := by
  induction gs with
  | nil => intro j s b more hj _ _ hlen; simp at hlen; omega
  | cons g gs ih =>
    intro j s b more hj hs hb hlen
    obtain ⟨ho1, ho2, ho3⟩ := sync_out j s hs
    simp only [loop12_cons_outs, loop12_cons_st, loop12_cons_prod, ho3]
    rw [syncBits_drop j hj]
    by_cases hj7 : j < 7
    · have := ih (j + 1) _ b more (by omega) (sync_step j hj7 s hs (Prod.valid ⟨b :: more⟩) (Prod.data ⟨b :: more⟩ g))
        hb (by simp at hlen; omega)
      simpa [O12.fit, accepted, ho1, ho2, Prod.next] using this
    · have hj' : j = 7 := by omega
      subst hj'
      have hgs : gs = [] := by simpa using hlen
      subst hgs
      have := sync_end s hs (Prod.valid ⟨b :: more⟩) b hb
      simp [O12.fit, accepted, ho1, ho2, Prod.next, Prod.data, loop12, this, syncBits]

/-- the number of `usb` cycles a packet occupies the 12 MHz part: the cycle in which `tx_valid` is first seen, SYNC,
the stuffed data bits -/
def cycles12 (bytes : List Nat) : Nat := 9 + (stuff 1 (bitsOf bytes)).length

/-- **the 12 MHz part sends one packet**: started from idle with a producer offering `bytes`, it shows `fit_oe` low
for one cycle, then SYNC and the stuffed bits of the bytes with `fit_oe` high; `tx_ready` picks up exactly `bytes`, in
order, each once; afterwards it is idle again and the producer has nothing left. -/
theorem packet12 (bytes : List Nat) (hne : bytes ≠ []) (hb : ∀ b ∈ bytes, b < 256) (s : Tx12) (hq : Quiet12 s)
    (gs : List Nat) (hlen : gs.length = cycles12 bytes) :
    (loop12 s ⟨bytes⟩ gs).outs.map O12.fit
        = (false, false) :: (syncBits ++ stuff 1 (bitsOf bytes)).map (fun x => (true, x)) ∧
    accepted (loop12 s ⟨bytes⟩ gs).outs = bytes ∧
    Quiet12 (loop12 s ⟨bytes⟩ gs).st ∧ (loop12 s ⟨bytes⟩ gs).prod = ⟨[]⟩ := by
  obtain ⟨b, more, rfl⟩ := List.exists_cons_of_ne_nil hne
  have hb0 : b < 256 := hb b (by simp)
  have hm : ∀ x ∈ more, x < 256 := fun x hx => hb x (by simp [hx])
  -- split the cycles: 1 + 8 + data
  obtain ⟨g0, gs1, rfl⟩ := List.exists_cons_of_ne_nil (List.ne_nil_of_length_pos (by rw [hlen, cycles12]; omega))
  have hl1 : gs1.length = 8 + (stuff 1 (bitsOf (b :: more))).length := by
    simp [cycles12] at hlen; omega
  obtain ⟨gsS, gsD, rfl, hS, hD⟩ : ∃ gsS gsD, gs1 = gsS ++ gsD ∧ gsS.length = 8 ∧
      gsD.length = (stuff 1 (bitsOf (b :: more))).length :=
    ⟨gs1.take 8, gs1.drop 8, by simp, by simp; omega, by simp; omega⟩
  obtain ⟨q1, q2, q3⟩ := quiet_out s hq
  have hstart := quiet_start s hq b
  obtain ⟨s1, s2, s3, s4⟩ := sync_phase gsS 0 _ b more (by omega) hstart hb0 (by omega)
  have hD' : gsD.length = (emit 1 (rem b 0 more)).length := by
    rw [rem_zero, emit_one]; exact hD
  obtain ⟨d1, d2, d3, d4⟩ := data_phase gsD b 0 1 more (by omega) (by omega) hb0 hm hD'
  simp only [if_true] at d1 d2 d3 d4
  rw [rem_zero, emit_one] at d1
  simp only [loop12_cons_outs, loop12_cons_st, loop12_cons_prod, q3]
  have hv : Prod.valid ⟨b :: more⟩ = true := rfl
  have hd : Prod.data ⟨b :: more⟩ g0 = b := rfl
  have hn : Prod.next ⟨b :: more⟩ false = ⟨b :: more⟩ := rfl
  rw [hv, hd, hn, loop12_append]
  simp only [s3, s4]
  refine ⟨?_, ?_, ?_, d4⟩
  · simp [O12.fit, q1, q2, s1, d1]
  · unfold accepted at s2 d2
    simp [accepted, List.filterMap_append, s2, d2]
  · exact d3

end LunaVerif.FsTx
