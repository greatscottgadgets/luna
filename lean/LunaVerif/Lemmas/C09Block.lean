import LunaVerif.Lemmas.C09Seq
import LunaVerif.Model.Usb2.DescriptorBlock
/-!
Helper lemmas for C09 on the block-ROM handler model: one step per FSM state and branch, one complete
request from any idle state (`block_present`, `block_stall`), and the return to IDLE when the response
is over (`final_idle_of_trace`).  Before them, for any ROM image: what a successful and a refused
`Rom.Image.lookup` say about the words read (`lookup_some`, `lookup_none`) — the conditions LOOKUP_TYPE and
LOOKUP_DESCRIPTOR test — and `romOk` read for one wValue (`romOk_lookupOk`).

Return to IDLE is a shape argument: five cycles after `start` the FSM is in IDLE or SEND_DESCRIPTOR
whatever the ROM contains (every look-up state is left after one cycle); SEND_DESCRIPTOR always drives
`valid`; so a cycle ≥ 5 with a quiet output is a cycle in IDLE.  Which cycles are quiet is known from
the proved output trace.
-/
namespace LunaVerif.Desc

theorem romOk_lookupOk (img : Rom.Image) (c : Collection) (h : romOk img c = true) (ty idx : Nat)
    (ht : ty < 256) (hi : idx < 256) : lookupOk img c ty idx = true := by
  unfold romOk at h
  rw [List.all_eq_true] at h
  have h1 := h ty (List.mem_range.mpr ht)
  rw [List.all_eq_true] at h1
  exact h1 idx (List.mem_range.mpr hi)

theorem lookup_some (img : Rom.Image) (ty idx w : Nat) (h : img.lookup ty idx = some w) :
    ty ≤ img.maxType ∧ ¬ img.descrIdx ty idx ≥ countOf (img.read (ty % 2 ^ img.addrW)) ∧
    w = img.read ((img.ptrOf (img.read (ty % 2 ^ img.addrW)) + img.descrIdx ty idx) % 2 ^ img.addrW) := by
  unfold Rom.Image.lookup at h
  split at h
  · rename_i ht
    simp only at h
    split at h
    · exact absurd h (by simp)
    · rename_i hd
      exact ⟨ht, hd, by injection h with h; exact h.symm⟩
  · exact absurd h (by simp)

theorem lookup_none (img : Rom.Image) (ty idx : Nat) (h : img.lookup ty idx = none) :
    ¬ ty ≤ img.maxType ∨
    (ty ≤ img.maxType ∧ img.descrIdx ty idx ≥ countOf (img.read (ty % 2 ^ img.addrW))) := by
  unfold Rom.Image.lookup at h
  split at h
  · rename_i ht
    simp only at h
    split at h
    · rename_i hd; exact Or.inr ⟨ht, hd⟩
    · exact absurd h (by simp)
  · rename_i ht; exact Or.inl ht

namespace Block

/-- inputs of one request: `start` pulsed in the first cycle, value / length / start_position held. -/
def reqInputs (v l p : Nat) : List Bool → List In
  | [] => []
  | r :: rs => ⟨v, l, p, true, r⟩ :: rs.map (fun r => ⟨v, l, p, false, r⟩)

def holdInputs (v l p : Nat) (rs : List Bool) : List In := rs.map (fun r => ⟨v, l, p, false, r⟩)

theorem holdInputs_cons (v l p : Nat) (r : Bool) (rs : List Bool) :
    holdInputs v l p (r :: rs) = ⟨v, l, p, false, r⟩ :: holdInputs v l p rs := rfl

theorem reqInputs_cons (v l p : Nat) (r : Bool) (rs : List Bool) :
    reqInputs v l p (r :: rs) = ⟨v, l, p, true, r⟩ :: holdInputs v l p rs := rfl

theorem reqInputs_snoc (v l p : Nat) (r : Bool) (rs : List Bool) (x : Bool) :
    reqInputs v l p ((r :: rs) ++ [x]) = reqInputs v l p (r :: rs) ++ [⟨v, l, p, false, x⟩] := by
  simp [reqInputs]

def final (c : Config) : State → List In → State
  | s, [] => s
  | s, i :: is => final c (step c s i).1 is

theorem isRun (c : Config) : IsRun (step c) (run c) (final c) :=
  ⟨fun _ => rfl, fun _ _ _ => rfl, fun _ => rfl, fun _ _ _ => rfl⟩

section steps
variable (c : Config) (s : State) {v l p : Nat} {st r : Bool}

theorem step_idle (h : s.fsm = .idle) :
    step c s ⟨v, l, p, st, r⟩
      = ({ s with sent := 0, fsm := if st then .start else .idle, length := nextLength c.mps l p,
                  romData := c.img.read (((v / 256) % 256) % 2 ^ c.img.addrW) }, Beat.quiet) := by
  simp only [step, h, quiet]

theorem step_start_ok (h : s.fsm = .start) (ht : (v / 256) % 256 ≤ c.img.maxType) :
    step c s ⟨v, l, p, st, r⟩
      = ({ s with pos := p % 2 ^ c.img.posW,
                  descrIdx := if c.img.indexMap.isEmpty then s.descrIdx
                              else c.img.descrIdx ((v / 256) % 256) (v % 256),
                  fsm := .lookupType, length := nextLength c.mps l p,
                  romData := c.img.read (((v / 256) % 256) % 2 ^ c.img.addrW) }, Beat.quiet) := by
  simp only [step, h, quiet, ht, if_true]

theorem step_start_stall (h : s.fsm = .start) (ht : ¬ (v / 256) % 256 ≤ c.img.maxType) :
    (step c s ⟨v, l, p, st, r⟩).2 = stallBeat ∧ (step c s ⟨v, l, p, st, r⟩).1.fsm = .idle := by
  constructor <;> simp [step, h, quiet, ht, stallBeat, Beat.quiet]

/-- LOOKUP_TYPE compares the index the ROM lookup uses: the raw index, or the `descr_idx` register
loaded from the index map in START. -/
theorem lookup_index (ty idx : Nat) (hv : v % 256 = idx)
    (hs : ¬ c.img.indexMap.isEmpty → s.descrIdx = c.img.descrIdx ty idx) :
    (if c.img.indexMap.isEmpty then v % 256 else s.descrIdx) = c.img.descrIdx ty idx := by
  by_cases he : c.img.indexMap.isEmpty
  · unfold Rom.Image.descrIdx; simp [he, hv]
  · rw [if_neg he, hs he]

theorem step_lookupType_stall (ty idx : Nat) (h : s.fsm = .lookupType) (hv : v % 256 = idx)
    (hs : ¬ c.img.indexMap.isEmpty → s.descrIdx = c.img.descrIdx ty idx)
    (hd : c.img.descrIdx ty idx ≥ countOf s.romData) :
    (step c s ⟨v, l, p, st, r⟩).2 = stallBeat ∧ (step c s ⟨v, l, p, st, r⟩).1.fsm = .idle := by
  rw [← lookup_index c s ty idx hv hs] at hd
  constructor
  · simp only [step, h, quiet]; rw [if_pos hd]; rfl
  · simp only [step, h, quiet]; rw [if_pos hd]

theorem step_lookupType_ok (ty idx : Nat) (h : s.fsm = .lookupType) (hv : v % 256 = idx)
    (hs : ¬ c.img.indexMap.isEmpty → s.descrIdx = c.img.descrIdx ty idx)
    (hd : ¬ c.img.descrIdx ty idx ≥ countOf s.romData) :
    step c s ⟨v, l, p, st, r⟩
      = ({ s with fsm := if s.length = 0 then .sendZlp else .lookupDescriptor, length := nextLength c.mps l p,
                  romData := c.img.read ((c.img.ptrOf s.romData + c.img.descrIdx ty idx) % 2 ^ c.img.addrW) },
         Beat.quiet) := by
  rw [← lookup_index c s ty idx hv hs] at hd ⊢
  simp only [step, h, quiet, hd, if_false]

theorem step_lookupDescriptor (h : s.fsm = .lookupDescriptor) :
    step c s ⟨v, l, p, st, r⟩
      = ({ s with base := c.img.ptrOf s.romData, descLen := countOf s.romData,
                  fsm := if s.pos ≥ countOf s.romData then .sendZlp else .sendDescriptor,
                  length := nextLength c.mps l p,
                  romData := c.img.read (((s.romData + s.pos) / 4) % 2 ^ c.img.addrW) }, Beat.quiet) := by
  simp only [step, h, quiet]

theorem step_zlp (h : s.fsm = .sendZlp) :
    (step c s ⟨v, l, p, st, r⟩).2 = zlpBeat ∧ (step c s ⟨v, l, p, st, r⟩).1.fsm = .idle := by
  constructor <;> simp [step, h, zlpBeat]

def sendBeat (s : State) (p : Nat) : Beat :=
  ⟨true, s.pos == p, onLast s, (s.romData / 256 ^ (3 - s.pos % 4)) % 256, false⟩

theorem step_send_hold (h : s.fsm = .sendDescriptor) :
    step c s ⟨v, l, p, st, false⟩
      = ({ s with length := nextLength c.mps l p,
                  romData := c.img.read ((s.base + s.pos / 4) % 2 ^ c.img.addrW) }, sendBeat s p) := by
  simp [step, h, sendBeat]

theorem step_send_next (h : s.fsm = .sendDescriptor) (hl : onLast s = false) :
    step c s ⟨v, l, p, st, true⟩
      = ({ s with pos := (s.pos + 1) % 2 ^ c.img.posW, sent := (s.sent + 1) % 65536,
                  length := nextLength c.mps l p,
                  romData := c.img.read ((s.base + ((s.pos + 1) / 4) % 2 ^ (c.img.posW - 2))
                                          % 2 ^ c.img.addrW) }, sendBeat s p) := by
  simp [step, h, hl, sendBeat]

theorem step_send_last (h : s.fsm = .sendDescriptor) (hl : onLast s = true) :
    (step c s ⟨v, l, p, st, true⟩).2 = sendBeat s p ∧ (step c s ⟨v, l, p, st, true⟩).1.fsm = .idle := by
  constructor <;> simp [step, h, hl, sendBeat]

end steps

section shape
variable (c : Config) (s : State) (i : In)

theorem shape_start (h : s.fsm = .start) :
    ((step c s i).2 = Beat.quiet ∧ (step c s i).1.fsm = .lookupType ∧ (step c s i).1.pos = i.startPos % 2 ^ c.img.posW)
    ∨ ((step c s i).2 = stallBeat ∧ (step c s i).1.fsm = .idle) := by
  by_cases ht : (i.value / 256) % 256 ≤ c.img.maxType
  · rw [step_start_ok c s h ht]
    exact .inl ⟨rfl, rfl, rfl⟩
  · exact .inr (step_start_stall c s h ht)

theorem shape_lookupType (h : s.fsm = .lookupType) :
    ((step c s i).2 = Beat.quiet ∧ (step c s i).1.pos = s.pos
      ∧ ((step c s i).1.fsm = .lookupDescriptor ∨ (step c s i).1.fsm = .sendZlp))
    ∨ ((step c s i).2 = stallBeat ∧ (step c s i).1.fsm = .idle) := by
  by_cases hd : (if c.img.indexMap.isEmpty then i.value % 256 else s.descrIdx) ≥ countOf s.romData
  · simp only [step, h, quiet]
    rw [if_pos hd]
    exact .inr ⟨rfl, rfl⟩
  · simp only [step, h, quiet]
    rw [if_neg hd]
    refine .inl ⟨rfl, rfl, ?_⟩
    show (if _ then Fsm.sendZlp else Fsm.lookupDescriptor) = _ ∨ _
    split
    · exact .inr rfl
    · exact .inl rfl

theorem shape_lookupDescriptor (h : s.fsm = .lookupDescriptor) :
    (step c s i).2 = Beat.quiet ∧ (step c s i).1.pos = s.pos
      ∧ ((step c s i).1.fsm = .sendDescriptor ∨ (step c s i).1.fsm = .sendZlp) := by
  rw [step_lookupDescriptor c s h]
  refine ⟨rfl, rfl, ?_⟩
  show (if _ then Fsm.sendZlp else Fsm.sendDescriptor) = _ ∨ _
  split
  · exact .inr rfl
  · exact .inl rfl

theorem shape_send (h : s.fsm = .sendDescriptor) :
    (step c s i).2.valid = true ∧ (step c s i).2.stall = false ∧ (step c s i).2.first = (s.pos == i.startPos)
      ∧ (step c s i).1.fsm = (if i.ready && (step c s i).2.last then .idle else .sendDescriptor) := by
  obtain ⟨v, l, p, st, r⟩ := i
  cases r with
  | false => rw [step_send_hold c s h]; exact ⟨rfl, rfl, rfl, h⟩
  | true =>
    cases hl : onLast s with
    | false => rw [step_send_next c s h hl]; exact ⟨rfl, rfl, rfl, by simp [sendBeat, hl, h]⟩
    | true =>
      obtain ⟨ho, hf⟩ := step_send_last c s (v := v) (l := l) (p := p) (st := st) h hl
      rw [ho, hf]
      exact ⟨rfl, rfl, rfl, by simp [sendBeat, hl]⟩

end shape

theorem run_idle (c : Config) (v l p : Nat) (rs : List Bool) :
    ∀ s : State, s.fsm = .idle → run c s (holdInputs v l p rs) = idleTrace rs := by
  induction rs with
  | nil => intro s _; rfl
  | cons r rs ih =>
    intro s h
    rw [holdInputs_cons, idleTrace_cons]
    simp only [run]
    rw [step_idle c s h]
    simp only [Bool.false_eq_true, if_false]
    congr 1
    exact ih _ rfl

theorem run_peel (c : Config) (s s' : State) (v l p n : Nat) (f : List Bool → List Beat)
    (hstep : ∀ r, step c s ⟨v, l, p, false, r⟩ = (s', Beat.quiet))
    (hrest : ∀ rs, run c s' (holdInputs v l p rs) = delayed n f rs) :
    ∀ rs, run c s (holdInputs v l p rs) = delayed (n + 1) f rs := by
  intro rs
  cases rs with
  | nil => rfl
  | cons r rs =>
    rw [holdInputs_cons]
    simp only [run, delayed]
    rw [hstep r]
    simp only [hrest rs]

theorem run_pulse (c : Config) (s : State) (v l p : Nat) (b : Beat)
    (hstep : ∀ r, (step c s ⟨v, l, p, false, r⟩).2 = b ∧ (step c s ⟨v, l, p, false, r⟩).1.fsm = .idle) :
    ∀ rs, run c s (holdInputs v l p rs) = pulseTrace b rs := by
  intro rs
  cases rs with
  | nil => rfl
  | cons r rs =>
    rw [holdInputs_cons]
    simp only [run, pulseTrace]
    rw [(hstep r).1, run_idle c v l p rs _ (hstep r).2]

theorem run_request_first (c : Config) (s0 : State) (v l p n : Nat) (f : List Bool → List Beat)
    (h0 : s0.fsm = .idle)
    (hrest : ∀ rs, run c { s0 with sent := 0, fsm := .start, length := nextLength c.mps l p,
                                   romData := c.img.read (((v / 256) % 256) % 2 ^ c.img.addrW) }
        (holdInputs v l p rs) = delayed n f rs) :
    ∀ rs, run c s0 (reqInputs v l p rs) = delayed (n + 1) f rs := by
  intro rs
  cases rs with
  | nil => rfl
  | cons r rs =>
    rw [reqInputs_cons]
    simp only [run, delayed]
    rw [step_idle c s0 h0]
    exact congrArg _ (hrest rs)

theorem value_split (ty idx : Nat) (hi : idx < 256) (ht : ty < 256) :
    ((ty * 256 + idx) / 256) % 256 = ty ∧ (ty * 256 + idx) % 256 = idx := by
  omega

theorem run_to_lookupType (c : Config) (s0 : State) (ty idx l p n : Nat) (f : List Bool → List Beat)
    (hty : ty < 256) (hidx : idx < 256) (h0 : s0.fsm = .idle) (ht : ty ≤ c.img.maxType)
    (hrest : ∀ rs, run c { s0 with sent := 0, pos := p % 2 ^ c.img.posW,
                                   descrIdx := if c.img.indexMap.isEmpty then s0.descrIdx
                                               else c.img.descrIdx ty idx,
                                   fsm := .lookupType, length := nextLength c.mps l p,
                                   romData := c.img.read (ty % 2 ^ c.img.addrW) }
        (holdInputs (ty * 256 + idx) l p rs) = delayed n f rs) :
    ∀ rs, run c s0 (reqInputs (ty * 256 + idx) l p rs) = delayed (n + 2) f rs := by
  obtain ⟨hv1, hv2⟩ := value_split ty idx hidx hty
  refine run_request_first c s0 _ l p (n + 1) f h0 (run_peel c _ _ _ l p n f (fun r => ?_) hrest)
  rw [step_start_ok c _ rfl (by simp only [hv1]; exact ht)]
  simp only [hv1, hv2]

/-- State of the model while byte `k` of the packet that starts at descriptor offset `p` is shown. -/
structure SendInv (c : Config) (l p dlen base k : Nat) (s : State) : Prop where
  hfsm     : s.fsm = .sendDescriptor
  hpos     : s.pos = p + k
  hsent    : s.sent = k
  hdescLen : s.descLen = dlen
  hbase    : s.base = base
  hlength  : s.length = nextLength c.mps l p
  hrom     : s.romData = c.img.read ((base + (p + k) / 4) % 2 ^ c.img.addrW)

theorem div4_lt (x w : Nat) (hw : 2 ≤ w) (hx : x < 2 ^ w) : x / 4 < 2 ^ (w - 2) := by
  obtain ⟨u, rfl⟩ : ∃ u, w = u + 2 := ⟨w - 2, by omega⟩
  have : 2 ^ (u + 2) = 4 * 2 ^ u := by rw [Nat.pow_succ, Nat.pow_succ]; omega
  simp only [Nat.add_sub_cancel]
  omega

theorem send_loop (c : Config) (v l p dlen base : Nat) (chunk : List Nat)
    (hpw : 2 ≤ c.img.posW) (hdl : dlen < 2 ^ c.img.posW)
    (hL : nextLength c.mps l p < 65536)
    (hn : chunk.length = min (nextLength c.mps l p) (dlen - p))
    (hb : ∀ j, j < chunk.length → chunk.getD j 0 = c.img.byteAt base (p + j))
    (rs : List Bool) :
    ∀ (k : Nat) (s : State), k < chunk.length → SendInv c l p dlen base k s →
      run c s (holdInputs v l p rs) = sendTrace chunk k rs := by
  induction rs with
  | nil => intro k s _ _; rfl
  | cons r rs ih =>
    intro k s hk inv
    rw [holdInputs_cons]
    simp only [run, sendTrace, hk, if_true]
    have hlast : onLast s = (k + 1 == chunk.length) := by
      unfold onLast
      rw [inv.hpos, inv.hsent, inv.hdescLen, inv.hlength, Bool.eq_iff_iff]
      simp only [Bool.or_eq_true, beq_iff_eq, decide_eq_true_eq]
      omega
    have hbeat : sendBeat s p = ⟨true, k == 0, k + 1 == chunk.length, chunk.getD k 0, false⟩ := by
      unfold sendBeat
      rw [hlast, hb k hk, inv.hpos, inv.hrom]
      have : (p + k == p) = (k == 0) := by
        rw [Bool.eq_iff_iff]; simp
      simp only [this]
      rfl
    cases r with
    | false =>
      rw [step_send_hold c s inv.hfsm, hbeat]
      simp only [Bool.false_eq_true, if_false]
      congr 1
      apply ih k _ hk
      exact ⟨inv.hfsm, inv.hpos, inv.hsent, inv.hdescLen, inv.hbase, rfl, by
        show c.img.read _ = _
        rw [inv.hbase, inv.hpos]⟩
    | true =>
      simp only [if_true]
      by_cases hfin : k + 1 = chunk.length
      · have hl : onLast s = true := by rw [hlast]; simp [hfin]
        obtain ⟨ho, hf⟩ := step_send_last c s (v := v) (l := l) (p := p) (st := false) inv.hfsm hl
        rw [ho, hbeat]
        congr 1
        rw [run_idle c v l p rs _ hf, sendTrace_done _ _ (by omega)]
      · have hl : onLast s = false := by rw [hlast]; simp [hfin]
        rw [step_send_next c s inv.hfsm hl, hbeat]
        congr 1
        have hk' : k + 1 < chunk.length := by omega
        apply ih (k + 1) _ hk'
        have hpos : p + k + 1 < 2 ^ c.img.posW := by omega
        refine ⟨inv.hfsm, ?_, ?_, inv.hdescLen, inv.hbase, rfl, ?_⟩
        · show (s.pos + 1) % 2 ^ c.img.posW = p + (k + 1)
          rw [inv.hpos, Nat.mod_eq_of_lt hpos]; omega
        · show (s.sent + 1) % 65536 = k + 1
          rw [inv.hsent, Nat.mod_eq_of_lt (by omega)]
        · show c.img.read _ = _
          rw [inv.hbase, inv.hpos, Nat.mod_eq_of_lt (div4_lt _ _ hpw hpos)]
          rfl

theorem ptr_add (img : Rom.Image) (w p : Nat) (hw : w % 4 = 0) :
    ((w + p) / 4) % 2 ^ img.addrW = (img.ptrOf w + p / 4) % 2 ^ img.addrW := by
  unfold Rom.Image.ptrOf
  rw [Nat.mod_add_mod]
  congr 1
  omega

theorem bytesAt_getD (img : Rom.Image) (base : Nat) (d : List Nat) (h : img.bytesAt base d.length = d)
    (j : Nat) (hj : j < d.length) : d.getD j 0 = img.byteAt base j := by
  have : (img.bytesAt base d.length).getD j 0 = img.byteAt base j := by
    unfold Rom.Image.bytesAt
    simp [List.getD_eq_getElem?_getD, hj]
  rw [h] at this
  exact this

structure Present (c : Config) (ty idx : Nat) (d : List Nat) (w : Nat) : Prop where
  htype : ty ≤ c.img.maxType
  hidx  : ¬ c.img.descrIdx ty idx ≥ countOf (c.img.read (ty % 2 ^ c.img.addrW))
  hw    : w = c.img.read ((c.img.ptrOf (c.img.read (ty % 2 ^ c.img.addrW)) + c.img.descrIdx ty idx) % 2 ^ c.img.addrW)
  halign : w % 4 = 0
  hcount : countOf w = d.length
  hmax  : d.length ≤ c.img.maxLen
  hbytes : c.img.bytesAt (c.img.ptrOf w) d.length = d

theorem present_of_lookupOk (c : Config) (coll : Collection) (ty idx : Nat) (d : Descr)
    (hok : lookupOk c.img coll ty idx = true)
    (hfind : find? coll ty idx = some d) : ∃ w, Present c ty idx d.bytes w := by
  unfold lookupOk at hok
  rw [hfind] at hok
  cases hlk : c.img.lookup ty idx with
  | none => rw [hlk] at hok; simp at hok
  | some w =>
    rw [hlk] at hok
    simp only [Bool.and_eq_true, beq_iff_eq, decide_eq_true_eq] at hok
    obtain ⟨⟨⟨h1, h2⟩, h3⟩, h4⟩ := hok
    obtain ⟨a, b, e⟩ := lookup_some _ _ _ _ hlk
    exact ⟨w, a, b, e, h1, h2, h3, h4⟩

/-- a request for a descriptor that is present, at an in-order offset, from any idle state: `lat` quiet
cycles, 1 ≤ `lat` ≤ 4, then the packet or (`start_position = min wLength |d|`) a single ZLP pulse.  The
statement gives the bounds on `lat` only; the proof reaches the response after four quiet cycles, after
three when `start_position = wLength`, which LOOKUP_TYPE sees as a zero `length`. -/
theorem block_present (c : Config) (s0 : State) (ty idx l p w : Nat) (d : List Nat)
    (hty : ty < 256) (hidx : idx < 256) (hpres : Present c ty idx d w)
    (h0 : s0.fsm = .idle) (hmps : 0 < c.mps) (hmps' : c.mps < 65536) (hl : l < 65536)
    (hpw : 2 ≤ c.img.posW) (hp : p ≤ min l d.length) (rs : List Bool) :
    ∃ lat, 1 ≤ lat ∧ lat ≤ 4 ∧
      run c s0 (reqInputs (ty * 256 + idx) l p rs) = respTrace lat (specResponse (some d) l c.mps p) rs := by
  have hv2 := (value_split ty idx hidx hty).2
  have hL : nextLength c.mps l p = min (l - p) c.mps := length_inorder c.mps l p (by omega) hl hmps'
  have hdl : d.length < 2 ^ c.img.posW := Nat.lt_of_le_of_lt hpres.hmax (lt_two_pow_bitsFor _)
  have hpp : p % 2 ^ c.img.posW = p := Nat.mod_eq_of_lt (by omega)
  by_cases hLz : nextLength c.mps l p = 0
  · refine ⟨3, by omega, by omega, run_to_lookupType c s0 ty idx l p 1 _ hty hidx h0 hpres.htype ?_ rs⟩
    rw [show specResponse (some d) l c.mps p = .zlp from if_neg (by omega)]
    refine run_peel c _ _ _ l p 0 _
      (fun r => step_lookupType_ok c _ ty idx rfl hv2 (fun he => if_neg he) hpres.hidx) ?_
    simp only [hLz, if_true]
    exact run_pulse c _ _ l p zlpBeat (fun r => step_zlp c _ rfl)
  · refine ⟨4, by omega, by omega, run_to_lookupType c s0 ty idx l p 2 _ hty hidx h0 hpres.htype ?_ rs⟩
    refine run_peel c _ _ _ l p 1 _
      (fun r => step_lookupType_ok c _ ty idx rfl hv2 (fun he => if_neg he) hpres.hidx) ?_
    rw [← hpres.hw]
    simp only [hLz, if_false]
    refine run_peel c _ _ _ l p 0 _ (fun r => step_lookupDescriptor c _ rfl) ?_
    simp only [hpp, hpres.hcount]
    by_cases hlt : p < min l d.length
    · rw [show specResponse (some d) l c.mps p = .data (((d.take l).drop p).take c.mps) from if_pos hlt,
        if_neg (by omega)]
      intro rs
      refine send_loop c _ l p d.length (c.img.ptrOf w) _ hpw hdl (by omega) (by rw [chunk_length, hL]) ?_ rs 0 _
        (by rw [chunk_length]; omega) ⟨rfl, rfl, rfl, rfl, rfl, rfl, ?_⟩
      · intro j hj
        rw [chunk_getD _ _ _ _ _ hj]
        have := chunk_length d l c.mps p
        exact bytesAt_getD _ _ _ hpres.hbytes _ (by omega)
      · show c.img.read _ = _
        rw [ptr_add _ _ _ hpres.halign, Nat.add_zero]
    · rw [show specResponse (some d) l c.mps p = .zlp from if_neg hlt, if_pos (by omega)]
      exact run_pulse c _ _ l p zlpBeat (fun r => step_zlp c _ rfl)

theorem block_stall (c : Config) (s0 : State) (ty idx l p : Nat)
    (hty : ty < 256) (hidx : idx < 256) (hnone : c.img.lookup ty idx = none)
    (h0 : s0.fsm = .idle) (rs : List Bool) :
    ∃ lat, 1 ≤ lat ∧ lat ≤ 2 ∧ run c s0 (reqInputs (ty * 256 + idx) l p rs) = respTrace lat .stall rs := by
  obtain ⟨hv1, hv2⟩ := value_split ty idx hidx hty
  rcases lookup_none _ _ _ hnone with hbig | ⟨hin, hcnt⟩
  · refine ⟨1, by omega, by omega, run_request_first c s0 _ l p 0 _ h0 ?_ rs⟩
    exact run_pulse c _ _ l p stallBeat fun r => step_start_stall c _ rfl (by simp only [hv1]; exact hbig)
  · refine ⟨2, by omega, by omega, run_to_lookupType c s0 ty idx l p 0 _ hty hidx h0 hin ?_ rs⟩
    exact run_pulse c _ _ l p stallBeat fun r =>
      step_lookupType_stall c _ ty idx rfl hv2 (fun he => if_neg he) (by exact hcnt)

/-- cycles until the FSM is in IDLE or SEND_DESCRIPTOR at the latest. -/
def stage : Fsm → Nat
  | .start => 4
  | .lookupType => 3
  | .lookupDescriptor => 2
  | .sendZlp => 1
  | .idle => 0
  | .sendDescriptor => 0

theorem stage_step (c : Config) (s : State) (i : In) (hi : i.start = false) :
    stage (step c s i).1.fsm ≤ stage s.fsm - 1 := by
  cases h : s.fsm with
  | idle => rw [step_idle c s h]; show stage (if i.start then _ else _) ≤ _; rw [hi]; exact Nat.le_refl _
  | start => rcases shape_start c s i h with ⟨_, h1, _⟩ | ⟨_, h1⟩ <;> rw [h1] <;> decide
  | lookupType => rcases shape_lookupType c s i h with ⟨_, _, h1 | h1⟩ | ⟨_, h1⟩ <;> rw [h1] <;> decide
  | lookupDescriptor => rcases shape_lookupDescriptor c s i h with ⟨_, _, h1 | h1⟩ <;> rw [h1] <;> decide
  | sendZlp => rw [(step_zlp c s h).2]; decide
  | sendDescriptor => rw [(shape_send c s i h).2.2.2]; split <;> decide

theorem stage_hold (c : Config) (v l p : Nat) (rs : List Bool) : ∀ s,
    stage (final c s (holdInputs v l p rs)).fsm ≤ stage s.fsm - rs.length := by
  induction rs with
  | nil => intro s; simp [holdInputs, final]
  | cons r rs ih =>
    intro s
    rw [holdInputs_cons]
    simp only [final, List.length_cons]
    have h1 := ih (step c s ⟨v, l, p, false, r⟩).1
    have h2 := stage_step c s ⟨v, l, p, false, r⟩ rfl
    omega

theorem idle_of_stage0 (c : Config) (s : State) (i : In) (h0 : stage s.fsm = 0) (hq : (step c s i).2 = Beat.quiet) :
    s.fsm = .idle := by
  cases h : s.fsm with
  | idle => rfl
  | sendDescriptor => have := (shape_send c s i h).1; rw [hq] at this; cases this
  | _ => rw [h] at h0; cases h0

theorem final_idle_of_trace (c : Config) (s0 : State) (v l p lat : Nat) (r : Response) (rs : List Bool)
    (h0 : s0.fsm = .idle) (h5 : 5 ≤ rs.length) (hc : Complete lat r rs)
    (htrace : run c s0 (reqInputs v l p (rs ++ [false])) = respTrace lat r (rs ++ [false])) :
    (final c s0 (reqInputs v l p rs)).fsm = .idle := by
  cases rs with
  | nil => simp at h5
  | cons r0 rs =>
    rw [respTrace_snoc r false lat _ hc, reqInputs_snoc] at htrace
    apply idle_of_stage0 c _ _ _ ((isRun c).run_snoc_last s0 _ _ _ _ htrace)
    rw [reqInputs_cons]
    simp only [final]
    have hs := stage_hold c v l p rs (step c s0 ⟨v, l, p, true, r0⟩).1
    rw [step_idle c s0 h0] at hs ⊢
    simp only [if_true, stage] at hs ⊢
    simp only [List.length_cons] at h5
    omega

end Block
end LunaVerif.Desc
