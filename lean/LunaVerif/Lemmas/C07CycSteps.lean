import LunaVerif.Model.Usb2.ControlCyc
/-!
# C07 / C08 / C10 — one-step facts of the CYCLE-level model (Model/Usb2/ControlCyc.lean)

The cycle-level model of `USBControlEndpoint` + request multiplexer + `StandardRequestHandler` is tied to the real
gateware clock cycle by clock cycle (harness/props/c07_cyc.py).  The lemmas below say of one clock cycle what the
event-level theorems of Props/C07, C08, C10 say of one event; they hold for EVERY state and EVERY value of the inputs
(token detector, setup decoder, descriptor handler, transmitter and the device core are unconstrained, except
where a hypothesis says otherwise).
-/
namespace LunaVerif.CtrlCyc
open LunaVerif.Device

def selOut (c : Cfg) (s : CycState) (i : CycIn) : HOut :=
  muxOut (stdStep c s.h (handlerIn i (ctrlComb c s.stage i))).2 (handlerIn i (ctrlComb c s.stage i))

section
variable (c : Cfg) (s : CycState) (i : CycIn)
theorem step_stage : (step c s i).1.stage = ctrlNext c s.stage i := rfl
theorem step_h : (step c s i).1.h = (stdStep c s.h (handlerIn i (ctrlComb c s.stage i))).1 := rfl
theorem step_ctl : (step c s i).2.ctl = ctrlComb c s.stage i := rfl
theorem step_hout : (step c s i).2.h = (stdStep c s.h (handlerIn i (ctrlComb c s.stage i))).2 := rfl
theorem step_txValid : (step c s i).2.txValid = (selOut c s i).txValid := rfl
theorem step_txFirst : (step c s i).2.txFirst = (selOut c s i).txFirst := rfl
theorem step_txLast : (step c s i).2.txLast = (selOut c s i).txLast := rfl
theorem step_txPayload : (step c s i).2.txPayload = (selOut c s i).txPayload := rfl
theorem step_txPidToggle : (step c s i).2.txPidToggle = if (selOut c s i).txDataPid then 1 else 0 := rfl
theorem step_addressChanged : (step c s i).2.addressChanged = (selOut c s i).addressChanged := rfl
theorem step_newAddress : (step c s i).2.newAddress = (selOut c s i).newAddress := rfl
theorem step_configChanged : (step c s i).2.configChanged = (selOut c s i).configChanged := rfl
theorem step_newConfig : (step c s i).2.newConfig = (selOut c s i).newConfig := rfl
theorem step_cehEnable : (step c s i).2.cehEnable = (selOut c s i).cehEnable := rfl
theorem step_cehDirection : (step c s i).2.cehDirection = (selOut c s i).cehDirection := rfl
theorem step_cehNumber : (step c s i).2.cehNumber = (selOut c s i).cehNumber := rfl
end

theorem selOut_eq {c : Cfg} {s : CycState} {i : CycIn} {cc : CtrlComb} {x : HIn}
    (hc : ctrlComb c s.stage i = cc) (hi : handlerIn i cc = x) : selOut c s i = muxOut (stdStep c s.h x).2 x := by
  subst hc hi; rfl

theorem selOut_std (c : Cfg) (s : CycState) (i : CycIn) (hty : i.su.type = TYPE_STANDARD) :
    selOut c s i = stdComb s.h (handlerIn i (ctrlComb c s.stage i)) := by
  have hty' : (handlerIn i (ctrlComb c s.stage i)).su.type = TYPE_STANDARD := hty
  obtain ⟨st, hst, sp, tp, ea⟩ := s
  unfold selOut stdStep
  rw [if_pos hty']
  cases hst <;> rfl

theorem selOut_other (c : Cfg) (s : CycState) (i : CycIn) (hty : i.su.type ≠ TYPE_STANDARD) :
    selOut c s i = fallbackOut (handlerIn i (ctrlComb c s.stage i)) := by
  have hty' : (handlerIn i (ctrlComb c s.stage i)).su.type ≠ TYPE_STANDARD := hty
  unfold selOut stdStep
  rw [if_neg hty']
  rfl

theorem step_congr {c : Cfg} {s : CycState} {i j : CycIn}
    (h1 : ctrlComb c s.stage i = ctrlComb c s.stage j) (h2 : ctrlNext c s.stage i = ctrlNext c s.stage j)
    (h3 : handlerIn i (ctrlComb c s.stage i) = handlerIn j (ctrlComb c s.stage j)) (h4 : i.sdAck = j.sdAck) :
    step c s i = step c s j := by
  unfold step
  simp only []
  rw [h3, h2, h4, h1]

theorem ctrlNext_idle (c : Cfg) (st : Stage) {i : CycIn} (h1 : i.newToken = false) (h2 : i.received = false) :
    ctrlNext c st i = st := by
  cases st <;> simp [ctrlNext, h1, h2]

theorem ctrlComb_idle (c : Cfg) (st : Stage) {i : CycIn} (h1 : i.readyForResponse = false) (h2 : i.rxReady = false)
    (h3 : i.hsAck = false) : ctrlComb c st i = ⟨false, false, false, false⟩ := by
  simp [ctrlComb, h1, h2, h3]

/-- The token detector decodes ONE PID: at most one of the four flags is set. -/
def FlagsExclusive (i : CycIn) : Prop :=
  (i.isSetup = true → i.isIn = false ∧ i.isOut = false ∧ i.isPing = false) ∧
  (i.isIn = true → i.isOut = false ∧ i.isPing = false) ∧
  (i.isOut = true → i.isPing = false)

instance (i : CycIn) : Decidable (FlagsExclusive i) := by unfold FlagsExclusive; infer_instance

/-- **Every SETUP token restarts the stage FSM.**  From every stage, a cycle in which the token detector
strobes `new_token` for a SETUP token (and no other PID flag is up: in DATA_IN / DATA_OUT the transition to the status
stage is tested first) leaves the control endpoint in its SETUP stage -- provided the setup decoder does not report a
packet in the very same cycle (it reports one only after the DATA0 packet that follows the token; in the SETUP stage a
simultaneous report would win). -/
theorem ctrl_stage_restarts_on_setup (c : Cfg) (s : CycState) (i : CycIn)
    (htok : i.newToken = true) (hsetup : i.isSetup = true) (hfl : FlagsExclusive i)
    (hrecv : i.received = false) :
    (step c s i).1.stage = .setup := by
  obtain ⟨h1, h2, h3⟩ := hfl.1 hsetup
  rw [step_stage]
  cases hs : s.stage <;> simp [ctrlNext, htok, hsetup, h1, h2, h3, hrecv]

/-- In the DATA_IN / STATUS_IN / STATUS_OUT / DATA_OUT stages the restart needs no assumption on the setup
decoder at all. -/
theorem ctrl_stage_restarts_on_setup_of_started (c : Cfg) (s : CycState) (i : CycIn)
    (htok : i.newToken = true) (hsetup : i.isSetup = true) (hfl : FlagsExclusive i)
    (hst : s.stage ≠ .setup) :
    (step c s i).1.stage = .setup := by
  obtain ⟨h1, h2, h3⟩ := hfl.1 hsetup
  rw [step_stage]
  cases hs : s.stage <;> simp_all [ctrlNext]

/-- **… and the SETUP stage is left only by a reported SETUP packet for this endpoint**, for the stage the
packet's direction and length call for. -/
theorem ctrl_setup_stage_next (c : Cfg) (s : CycState) (i : CycIn) (hst : s.stage = .setup) :
    (step c s i).1.stage =
      if i.received = true ∧ i.tokEp = c.epNum then stageAfterSetup i.su else .setup := by
  rw [step_stage, hst]
  simp [ctrlNext, targeted]

/-- **`handle_new_setup` from every handler state**: a reported standard SETUP packet puts the standard
handler into the state the request code selects, with `start_position = 0` and DATA1, whatever it was doing
and whatever else happens in that cycle. -/
theorem handler_restarts_on_setup (c : Cfg) (s : CycState) (i : CycIn)
    (hrecv : i.received = true) (hty : i.su.type = TYPE_STANDARD) :
    (step c s i).1.h.hstate = dispatch i.su.request ∧ (step c s i).1.h.startPos = 0 ∧
    (step c s i).1.h.txPid = true := by
  rw [step_h]
  simp [stdStep, handlerIn, hty, handleNewSetup, hrecv]

/-- A request of another type freezes the standard handler (its whole FSM sits under
`If(setup.type == STANDARD)`) and it does not claim the multiplexer. -/
theorem handler_frozen_when_not_standard (c : Cfg) (s : CycState) (i : CycIn) (hty : i.su.type ≠ TYPE_STANDARD) :
    (step c s i).1.h = s.h ∧ (step c s i).2.h.claim = false := by
  rw [step_h, step_hout]
  simp [stdStep, handlerIn, hty]

/-- The host's ACK as the request handlers see it (`handlerIn` passes `ctl.hsAck` on). -/
theorem fwdAck (c : Cfg) (s : CycState) (i : CycIn) :
    (handlerIn i (ctrlComb c s.stage i)).hsAck = true ↔ i.hsAck = true ∧ i.tokEp = c.epNum ∧ i.isIn = true := by
  simp [handlerIn, ctrlComb, targeted, and_comm, and_left_comm]

/-- **A host ACK reaches the request handlers exactly when it arrives while the most recent token is an IN token for
this endpoint.** -/
theorem handshake_forwarded_only_for_own_in_token (c : Cfg) (s : CycState) (i : CycIn) :
    (step c s i).2.ctl.hsAck = true ↔ (i.hsAck = true ∧ i.tokEp = c.epNum ∧ i.isIn = true) :=
  fwdAck c s i

/-- … and otherwise the handshake is invisible to the whole control endpoint: the cycle is exactly the cycle
without the handshake (same next state, same outputs). -/
theorem foreign_handshake_is_invisible (c : Cfg) (s : CycState) (i : CycIn)
    (h : ¬ (i.tokEp = c.epNum ∧ i.isIn = true)) :
    step c s i = step c s { i with hsAck := false } := by
  have hc : ctrlComb c s.stage i = ctrlComb c s.stage { i with hsAck := false } := by
    simp only [ctrlComb, targeted]
    by_cases h1 : i.tokEp = c.epNum <;> by_cases h2 : i.isIn = true <;> simp_all
  apply step_congr
  · exact hc
  · rfl
  · rw [← hc]; rfl
  · rfl

/-- The strobe table of the standard handler: each of the three register strobes is driven by one state, on the host's
ACK, with the field of the latched SETUP packet it decodes. -/
theorem strobes_stdComb (s : StdState) (x : HIn) :
    ((stdComb s x).addressChanged = (s.hstate == .setAddress && x.hsAck) ∧
     (stdComb s x).newAddress = (if s.hstate = .setAddress ∧ x.hsAck = true then x.su.value % 128 else 0)) ∧
    ((stdComb s x).configChanged = (s.hstate == .setConfiguration && x.hsAck) ∧
     (stdComb s x).newConfig = (if s.hstate = .setConfiguration ∧ x.hsAck = true then x.su.value % 256 else 0)) ∧
    ((stdComb s x).cehEnable = (s.hstate == .clearFeature && x.hsAck) ∧
     (stdComb s x).cehNumber = (if s.hstate = .clearFeature ∧ x.hsAck = true then x.su.index % 16 else 0) ∧
     (stdComb s x).cehDirection = (s.hstate == .clearFeature && x.hsAck && (x.su.index / 128 % 2 == 1))) := by
  cases hs : s.hstate <;> cases ha : x.hsAck <;> simp [stdComb, hs, ha, simpleDataOut, regWriteZlp]

/-- A strobe that state `X` drives on the forwarded ACK, in the terms of the cycle's inputs. -/
theorem gated_strobe (c : Cfg) (s : CycState) (i : CycIn) (X : HState) (hty : i.su.type = TYPE_STANDARD) :
    (s.h.hstate == X && (handlerIn i (ctrlComb c s.stage i)).hsAck) = true ↔
      (i.hsAck = true ∧ i.tokEp = c.epNum ∧ i.isIn = true ∧ i.su.type = TYPE_STANDARD ∧ s.h.hstate = X) := by
  rw [Bool.and_eq_true, beq_iff_eq, fwdAck]
  exact ⟨fun h => ⟨h.2.1, h.2.2.1, h.2.2.2, hty, h.1⟩, fun h => ⟨h.2.2.2.2, h.1, h.2.1, h.2.2.1⟩⟩

/-- **`address_changed` is strobed exactly in a cycle in which a host ACK arrives while the most recent token is
an IN token for this endpoint, the latched request is a standard one and the standard handler is in its
SET_ADDRESS state**; the value driven with it is `wValue[6:0]`. -/
theorem address_strobe_only_on_gated_ack_in_set_address (c : Cfg) (s : CycState) (i : CycIn) :
    ((step c s i).2.addressChanged = true ↔
      (i.hsAck = true ∧ i.tokEp = c.epNum ∧ i.isIn = true ∧ i.su.type = TYPE_STANDARD ∧
       s.h.hstate = .setAddress)) ∧
    ((step c s i).2.addressChanged = true → (step c s i).2.newAddress = i.su.value % 128) := by
  rw [step_addressChanged, step_newAddress]
  by_cases hty : i.su.type = TYPE_STANDARD
  · obtain ⟨⟨a, b⟩, -, -⟩ := strobes_stdComb s.h (handlerIn i (ctrlComb c s.stage i))
    rw [selOut_std c s i hty, a, b]
    exact ⟨gated_strobe c s i _ hty, fun h => by rw [if_pos (by simpa using h)]; rfl⟩
  · simp [selOut_other c s i hty, fallbackOut, hty]

/-- The same for `config_changed` / `new_config` (= `wValue[7:0]`) and the SET_CONFIGURATION state. -/
theorem config_strobe_only_on_gated_ack_in_set_configuration (c : Cfg) (s : CycState) (i : CycIn) :
    ((step c s i).2.configChanged = true ↔
      (i.hsAck = true ∧ i.tokEp = c.epNum ∧ i.isIn = true ∧ i.su.type = TYPE_STANDARD ∧
       s.h.hstate = .setConfiguration)) ∧
    ((step c s i).2.configChanged = true → (step c s i).2.newConfig = i.su.value % 256) := by
  rw [step_configChanged, step_newConfig]
  by_cases hty : i.su.type = TYPE_STANDARD
  · obtain ⟨-, ⟨a, b⟩, -⟩ := strobes_stdComb s.h (handlerIn i (ctrlComb c s.stage i))
    rw [selOut_std c s i hty, a, b]
    exact ⟨gated_strobe c s i _ hty, fun h => by rw [if_pos (by simpa using h)]; rfl⟩
  · simp [selOut_other c s i hty, fallbackOut, hty]

/-- The halt-clear strobe of CLEAR_FEATURE (`clear_endpoint_halt_out`) is gated in the same way; the endpoint it
names is `wIndex[3:0]`, direction `wIndex[7]`.  (It does not depend on the request's stall condition: F5 of
DESIGN section 7 -- unreachable for a legal host, which never ACKs after a STALL.) -/
theorem halt_clear_strobe_only_on_gated_ack_in_clear_feature (c : Cfg) (s : CycState) (i : CycIn) :
    ((step c s i).2.cehEnable = true ↔
      (i.hsAck = true ∧ i.tokEp = c.epNum ∧ i.isIn = true ∧ i.su.type = TYPE_STANDARD ∧
       s.h.hstate = .clearFeature)) ∧
    ((step c s i).2.cehEnable = true →
      (step c s i).2.cehNumber = i.su.index % 16 ∧
      ((step c s i).2.cehDirection = true ↔ i.su.index / 128 % 2 = 1)) := by
  rw [step_cehEnable, step_cehNumber, step_cehDirection]
  by_cases hty : i.su.type = TYPE_STANDARD
  · obtain ⟨-, -, a, b, d⟩ := strobes_stdComb s.h (handlerIn i (ctrlComb c s.stage i))
    rw [selOut_std c s i hty, a, b, d]
    refine ⟨gated_strobe c s i _ hty, fun h => ?_⟩
    have h' : s.h.hstate = .clearFeature ∧ (handlerIn i (ctrlComb c s.stage i)).hsAck = true := by simpa using h
    rw [if_pos h', h, Bool.true_and]
    exact ⟨rfl, beq_iff_eq⟩
  · simp [selOut_other c s i hty, fallbackOut, hty]

/-- The strobing cycle is also the one in which the handler returns to IDLE (unless a new SETUP is reported
in the same cycle), and outside SET_ADDRESS there is no strobe (`address_strobe_only_on_gated_ack_in_set_address`). -/
theorem address_strobe_returns_to_idle (c : Cfg) (s : CycState) (i : CycIn)
    (h : (step c s i).2.addressChanged = true) (hrecv : i.received = false) :
    (step c s i).1.h.hstate = .idle := by
  obtain ⟨a, b, d, hty, hs⟩ := (address_strobe_only_on_gated_ack_in_set_address c s i).1.1 h
  rw [step_h]
  simp [stdStep, handlerIn, hty, handleNewSetup, hrecv, stdStateBody, hs, ctrlComb, targeted, a, b, d]

theorem idle_handler_drives_nothing (c : Cfg) (s : CycState) (i : CycIn) (hs : s.h.hstate = .idle)
    (hty : i.su.type = TYPE_STANDARD) :
    (step c s i).2.addressChanged = false ∧ (step c s i).2.configChanged = false ∧
    (step c s i).2.cehEnable = false ∧ (step c s i).2.stall = false ∧ (step c s i).2.txValid = false ∧
    (step c s i).2.ack = (i.sdAck || (step c s i).2.ctl.pingAck) := by
  simp [step, muxOut, stdStep, stdComb, handlerIn, hty, hs]

/-- **An unsupported standard request is STALLed at the first opportunity**: in the UNHANDLED state, the cycle in
which the control endpoint asks for the data or the status stage answers STALL, transmits nothing, strobes
nothing, acknowledges nothing of its own, and the handler returns to IDLE (or starts the next request, if a new
SETUP is reported in that very cycle). -/
theorem unhandled_stalls (c : Cfg) (s : CycState) (i : CycIn)
    (hs : s.h.hstate = .unhandled) (hty : i.su.type = TYPE_STANDARD)
    (hreq : (step c s i).2.ctl.dataRequested = true ∨ (step c s i).2.ctl.statusRequested = true) :
    (step c s i).2.stall = true ∧ (step c s i).2.txValid = false ∧
    (step c s i).2.ack = (i.sdAck || (step c s i).2.ctl.pingAck) ∧
    (step c s i).2.addressChanged = false ∧ (step c s i).2.configChanged = false ∧
    (step c s i).2.cehEnable = false ∧
    (step c s i).1.h.hstate = (if i.received then dispatch i.su.request else .idle) := by
  rw [step_ctl] at hreq
  have hreq' : ((ctrlComb c s.stage i).dataRequested || (ctrlComb c s.stage i).statusRequested) = true := by
    rcases hreq with h | h <;> simp [h]
  refine ⟨?_, ?_, ?_, ?_, ?_, ?_, ?_⟩ <;>
    simp [step, muxOut, stdStep, stdComb, handlerIn, hty, hs, hreq', handleNewSetup, stdStateBody]
  cases i.received <;> simp

theorem unhandled_waits_silently (c : Cfg) (s : CycState) (i : CycIn)
    (hs : s.h.hstate = .unhandled) (hty : i.su.type = TYPE_STANDARD)
    (hreq : (step c s i).2.ctl.dataRequested = false ∧ (step c s i).2.ctl.statusRequested = false)
    (hrecv : i.received = false) :
    (step c s i).2.stall = false ∧ (step c s i).2.txValid = false ∧ (step c s i).2.addressChanged = false ∧
    (step c s i).2.configChanged = false ∧ (step c s i).1.h = s.h := by
  rw [step_ctl] at hreq
  obtain ⟨h1, h2⟩ := hreq
  refine ⟨?_, ?_, ?_, ?_, ?_⟩ <;>
    simp [step, muxOut, stdStep, stdComb, handlerIn, hty, hs, h1, h2, handleNewSetup, stdStateBody, hrecv]

/-- **A request that no handler claims is STALLed by the multiplexer's fallback handler** whenever the control
endpoint asks for a stage, and nothing else is driven. -/
theorem unclaimed_request_stalls (c : Cfg) (s : CycState) (i : CycIn) (hty : i.su.type ≠ TYPE_STANDARD) :
    (step c s i).2.stall = ((step c s i).2.ctl.dataRequested || (step c s i).2.ctl.statusRequested) ∧
    (step c s i).2.txValid = false ∧ (step c s i).2.addressChanged = false ∧
    (step c s i).2.configChanged = false ∧ (step c s i).2.cehEnable = false ∧
    (step c s i).2.ack = (i.sdAck || (step c s i).2.ctl.pingAck) := by
  simp [step, muxOut, stdStep, fallbackOut, handlerIn, hty]

/-- `data_requested` only in the DATA_IN stage, `status_requested` only in a status stage, both only for a
token naming this endpoint. -/
theorem requests_come_from_their_stage (c : Cfg) (s : CycState) (i : CycIn) :
    ((step c s i).2.ctl.dataRequested = true →
        s.stage = .dataIn ∧ i.tokEp = c.epNum ∧ i.isIn = true ∧ i.readyForResponse = true) ∧
    ((step c s i).2.ctl.statusRequested = true →
        i.tokEp = c.epNum ∧
        ((s.stage = .statusIn ∧ i.isIn = true ∧ i.readyForResponse = true) ∨
         (s.stage = .statusOut ∧ i.isOut = true ∧ i.rxReady = true))) := by
  rw [step_ctl]
  cases hs : s.stage <;> simp [ctrlComb, targeted] <;> intros <;> simp_all

/-- Tokens, strobes and handshakes that name another endpoint are stutter for the whole composition, except
that a SETUP token still returns the stage FSM to SETUP and its packet, once reported, restarts the standard handler
(`hns`, `hrecv`: the gateware's `_handle_setup_reset` and `handle_new_setup` have no endpoint filter; hosts send SETUP
only to control endpoints).  The registers are literally unchanged only while the handler
is outside IDLE (there it re-initialises `start_position` / `tx_data_pid` in every cycle) and the descriptor handler
raises no `stall` in GET_DESCRIPTOR (`hidle`, `hgd`). -/
theorem other_endpoint_cycle_is_stutter (c : Cfg) (s : CycState) (i : CycIn)
    (hep : i.tokEp ≠ c.epNum) (hrecv : i.received = false) (hns : ¬ (i.newToken = true ∧ i.isSetup = true))
    (hidle : s.h.hstate ≠ .idle) (hgd : s.h.hstate ≠ .getDescriptor ∨ i.dStall = false) :
    (step c s i).1 = s := by
  have hc : ctrlComb c s.stage i = ⟨false, false, false, false⟩ := by
    simp [ctrlComb, targeted, hep]
  have hn : ctrlNext c s.stage i = s.stage := by
    have : (i.newToken && i.isSetup) = false := by
      cases h1 : i.newToken <;> cases h2 : i.isSetup <;> simp_all
    cases hs : s.stage <;> simp [ctrlNext, targeted, hep, this, hrecv]
  have hh : ∀ h : StdState, h.hstate ≠ .idle → (h.hstate ≠ .getDescriptor ∨ i.dStall = false) →
      (stdStep c h (handlerIn i ⟨false, false, false, false⟩)).1 = h := by
    intro h h1 h2
    obtain ⟨hst, sp, tp, ea⟩ := h
    by_cases hty : i.su.type = TYPE_STANDARD
    · cases hst <;> simp_all [stdStep, handlerIn, handleNewSetup, stdStateBody]
    · simp [stdStep, handlerIn, hty]
  have hh' := hh s.h hidle hgd
  rw [← hc] at hh'
  show (⟨ctrlNext c s.stage i, (stdStep c s.h (handlerIn i (ctrlComb c s.stage i))).1⟩ : CycState) = s
  rw [hn, hh']

/-! ### Non-vacuity: concrete cycles satisfying the hypotheses above -/

/-- A SETUP token strobe as the token detector produces it. -/
def exSetupToken : CycIn := { newToken := true, isSetup := true }
/-- The response slot of an IN token for endpoint 0. -/
def exInReady : CycIn := { isIn := true, readyForResponse := true }
/-- A host ACK while the last token is an IN token for endpoint 0; latched request SET_ADDRESS(0x1234). -/
def exAck : CycIn := { isIn := true, hsAck := true, su := { request := REQ_SET_ADDRESS, value := 0x1234 } }

example : FlagsExclusive exSetupToken ∧ exSetupToken.received = false := by decide
example : (step {} { stage := .statusOut } exSetupToken).1.stage = .setup := by decide
example : (step {} { stage := .statusIn, h := { hstate := .unhandled } } exInReady).2.ctl.statusRequested = true ∧
    (step {} { stage := .statusIn, h := { hstate := .unhandled } } exInReady).2.stall = true := by decide
example : (step {} { stage := .statusIn, h := { hstate := .setAddress } } exAck).2.addressChanged = true ∧
    (step {} { stage := .statusIn, h := { hstate := .setAddress } } exAck).2.newAddress = 0x34 := by decide
-- the same ACK after an IN token for endpoint 1 (a bulk endpoint's transaction) does nothing (F3)
example : (step {} { stage := .statusIn, h := { hstate := .setAddress } } { exAck with tokEp := 1 }).2.addressChanged = false ∧
    (step {} { stage := .statusIn, h := { hstate := .setAddress } } { exAck with tokEp := 1 }).1 =
      { stage := .statusIn, h := { hstate := .setAddress } } := by decide
example : (step {} { stage := .dataIn, h := { hstate := .idle } }
    { exInReady with su := { type := 2 } }).2.stall = true := by decide

end LunaVerif.CtrlCyc
