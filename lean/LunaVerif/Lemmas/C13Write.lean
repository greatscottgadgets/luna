import LunaVerif.Lemmas.C13Host
/-!
# C13 — the write side of the endpoint along a `LegalHost` history

The endpoint's glue logic is factored out of `StreamOutEndpoint.step` (`combG`, `regsNext`, `wctl`, `hsG`:
the same equations, reading the detector outputs, `fifo.full` and `fifo.space_available` as parameters;
`comb_eq`, `step_regs`, `fifoIn_eq`, `hs_eq` are `rfl`).  On this write-side machine (registers, uncommitted entries `W`, all
entries ever committed `com`) the invariant `WInv` ties the registers to the host's phase and the
committed entries to the observer's expectation, whatever `full` / `space_available` say in each cycle
(they depend on the consumer; the read side is added in `Props/C13Stream.lean` with C18's refinement).
-/
namespace LunaVerif.StreamOutEndpoint
open LunaVerif

structure Regs where
  expectedToggle : Bool
  overflow       : Bool
  rxCnt          : Nat
  transferActive : Bool
  packetIsFull   : Bool
  packetHasData  : Bool

def State.regs (s : State) : Regs :=
  ⟨s.expectedToggle, s.overflow, s.rxCnt, s.transferActive, s.packetIsFull, s.packetHasData⟩

def combG (c : Config) (o : BoundaryDetector.Out) (full : Bool) (space : Nat) (r : Regs) (i : In) : Comb :=
  let epMatch := i.tokEp == c.epNum
  let targeting := epMatch && i.tokIsOut
  let pidMatch := i.pidToggle == (if r.expectedToggle then 1 else 0)
  let sufficient := decide (c.mps ≤ space)
  let pingRequested := epMatch && i.tokIsPing && i.tokReady
  let dataRequested := targeting && i.tokIsOut && i.rxReady
  let okay := targeting && pidMatch
  let lost := okay && o.next && o.valid && full
  let accepted := okay && !lost && !r.overflow
  let skip := targeting && !pidMatch
  let fullPacket := r.rxCnt == c.mps - 1
  { targeting := targeting, pidMatch := pidMatch, sufficient := sufficient, pingRequested := pingRequested,
    dataRequested := dataRequested, okayToReceive := okay, dataIsLost := lost, dataAccepted := accepted,
    shouldSkip := skip, fullPacket := fullPacket,
    writeEn := okay && o.next && o.valid && !full,
    writeCommit := targeting && o.completeOut && !r.overflow,
    writeDiscard := targeting && (o.invalidOut || (o.completeOut && r.overflow)) }

theorem comb_eq (c : Config) (s : State) (i : In) :
    comb c s i = combG c s.det.out (TxnFifo.full c.depth s.fifo) (TxnFifo.space c.depth s.fifo) s.regs i := rfl

def regsNext (c : Config) (o : BoundaryDetector.Out) (full : Bool) (space : Nat) (r : Regs) (i : In) : Regs :=
  let k := combG c o full space r i
  let byteNow := o.next && o.valid
  let rxCnt1 := if k.writeEn then (r.rxCnt + 1) % 2 ^ bitsFor c.mps else r.rxCnt
  let pif' := if k.writeEn && o.last then k.fullPacket else r.packetIsFull
  let ta1 := if k.writeCommit && r.packetHasData then r.packetIsFull else r.transferActive
  let ta' := if k.dataRequested && k.dataAccepted && !r.packetHasData && !byteNow then false else ta1
  let phd1 := if i.tokNew then false else r.packetHasData
  let phd' := if k.okayToReceive && byteNow then true else phd1
  let overflow' := if k.dataIsLost then true else if i.tokNew then false else r.overflow
  let rxCnt' := if k.writeCommit || k.writeDiscard then 0 else rxCnt1
  let tg1 := if k.dataRequested && k.dataAccepted then !r.expectedToggle else r.expectedToggle
  let tg' := if i.clearHalt then false else tg1
  ⟨tg', overflow', rxCnt', ta', pif', phd'⟩

theorem step_regs (c : Config) (s : State) (i : In) :
    (step c s i).1.regs
      = regsNext c s.det.out (TxnFifo.full c.depth s.fifo) (TxnFifo.space c.depth s.fifo) s.regs i := by rfl

/-- the FIFO's write-side controls: (write_data, write_en, write_commit, write_discard) -/
def wctl (c : Config) (o : BoundaryDetector.Out) (full : Bool) (space : Nat) (r : Regs) (i : In) :
    Nat × Bool × Bool × Bool :=
  let k := combG c o full space r i
  (entry o.payload (o.last && !k.fullPacket) (o.first && !r.transferActive), k.writeEn, k.writeCommit, k.writeDiscard)

theorem fifoIn_eq (c : Config) (s : State) (i : In) :
    let w := wctl c s.det.out (TxnFifo.full c.depth s.fifo) (TxnFifo.space c.depth s.fifo) s.regs i
    fifoIn c s i = { wdata := w.1, wen := w.2.1, wcommit := w.2.2.1, wdiscard := w.2.2.2,
                     ren := i.ready, rcommit := true, rdiscard := false } := by rfl

/-- the handshake lines (ack, nak) -/
def hsG (c : Config) (o : BoundaryDetector.Out) (full : Bool) (space : Nat) (r : Regs) (i : In) : Bool × Bool :=
  let k := combG c o full space r i
  ((k.dataRequested && k.dataAccepted) || (k.pingRequested && k.sufficient) || (k.dataRequested && k.shouldSkip),
   (k.dataRequested && !k.dataAccepted && !k.shouldSkip) || (k.pingRequested && !k.sufficient))

theorem hs_eq (c : Config) (s : State) (i : In) :
    ((outOf c s i).ack, (outOf c s i).nak)
      = hsG c s.det.out (TxnFifo.full c.depth s.fifo) (TxnFifo.space c.depth s.fifo) s.regs i := by rfl

/-- the write side of the commit/rollback queue: uncommitted entries and everything committed so far -/
def wNext (W com : List Nat) (w : Nat × Bool × Bool × Bool) : List Nat × List Nat :=
  let app := if w.2.1 then [w.1] else []
  if w.2.2.2 then ([], com) else if w.2.2.1 then (app, com ++ W) else (W ++ app, com)

/-- decode a 10-bit FIFO entry as the consumer sees it -/
def dec (e : Nat) : Entry := (e % 256, e / 512 % 2 == 1, e / 256 % 2 == 1)

theorem dec_entry (b : Nat) (l f : Bool) : dec (entry b l f) = (b % 256, f, l) := by
  have h := Nat.mod_lt b (by decide : 256 > 0)
  simp only [dec, entry]
  generalize b % 256 = m at *
  cases l <;> cases f <;> simp <;> omega

/-- entries of the bytes of a packet that are not its final byte: `first` (if any) on byte 0, no `last` -/
def body (f : Bool) : List Nat → List Nat
  | [] => []
  | b :: bs => entry b false f :: body false bs

theorem body_snoc (f : Bool) (l : List Nat) (x : Nat) :
    body f (l ++ [x]) = body f l ++ [entry x false (f && l.isEmpty)] := by
  induction l generalizing f with
  | nil => simp [body]
  | cons b bs ih => simp [body, ih]

theorem body_length (f : Bool) (l : List Nat) : (body f l).length = l.length := by
  induction l generalizing f with
  | nil => rfl
  | cons b bs ih => simp [body, ih]

theorem marks_body (f short : Bool) (l : List Nat) (x : Nat) :
    (body f l ++ [entry x short (f && l.isEmpty)]).map dec = marks f short (l ++ [x]) := by
  induction l generalizing f with
  | nil => simp [body, marks, dec_entry]
  | cons b bs ih =>
    have := ih false
    cases bs with
    | nil => simp_all [body, marks, dec_entry]
    | cons b' bs => simp_all [body, marks, dec_entry]

theorem le_two_pow_bitsAux (fuel n w : Nat) (h : n ≤ w + fuel) : n ≤ 2 ^ bitsAux fuel n w := by
  induction fuel generalizing w with
  | zero =>
    have : w < 2 ^ w := Nat.lt_two_pow_self
    simp only [bitsAux]; omega
  | succ k ih =>
    simp only [bitsAux]
    split
    · assumption
    · exact ih (w + 1) (by omega)

/-- `Signal(range(n))` holds every value below `n` -/
theorem le_two_pow_bitsFor (n : Nat) : n ≤ 2 ^ bitsFor n := by
  simp only [bitsFor]
  split
  · omega
  · exact le_two_pow_bitsAux n n 0 (by omega)

/-- no wrap of `rx_cnt` before the packet's last byte -/
theorem rxCnt_no_wrap (mps k : Nat) (h : k + 1 < mps) : (k + 1) % 2 ^ bitsFor mps = k + 1 := by
  exact Nat.mod_eq_of_lt (Nat.lt_of_lt_of_le h (le_two_pow_bitsFor mps))

/-- `okay_to_receive` for the running packet, from the registers -/
def okayP (c : Config) (t : Tok) (pid : Nat) (tg : Bool) : Bool := t.targets c && pid == tn tg

/-- while the bytes of a packet are passing (`sent` = those already handled by the glue logic, `n` = bytes
known so far) -/
def RunInv (c : Config) (a : Acct) (r : Regs) (W com : List Nat) (acc : List Entry)
    (t : Tok) (pid : Nat) (sent : List Nat) (n : Nat) : Prop :=
  t.wf = true ∧ (t.targets c = true → n ≤ c.mps) ∧ r.transferActive = a.open_ ∧ com.map dec = acc ∧
  r.packetHasData = (okayP c t pid r.expectedToggle && !sent.isEmpty) ∧
  (r.overflow = true → okayP c t pid r.expectedToggle = true ∧ sent ≠ []) ∧
  (okayP c t pid r.expectedToggle = false → W = [] ∧ r.rxCnt = 0) ∧
  (okayP c t pid r.expectedToggle = true → r.overflow = false → W = body (!a.open_) sent ∧ r.rxCnt = sent.length)

/-- The write side, phase by phase: `W` = the entries written and not yet committed, `com` = everything committed,
`acc` = what the host-side observer `a` has expected so far (it counts a packet in the cycle of its ACK).  Between
packets nothing is uncommitted, `com` is `acc` and `transfer_active` is the observer's `open_`; while bytes pass,
`RunInv`.  The commit (or discard) falls in the `finStrobe` cycle, the ACK in the cycle of the response request, and
either may come first:
* `finStrobe` with `responded` — the request came a cycle before the strobe, the observer has done its counting: `acc` is
  `com ++ W` (the commit is still to come), or, after an `overflow` (NAKed, to be discarded), `com`.  A packet that wrote
  data (`packet_has_data`) carries in `packet_is_full` what the commit will load into `transfer_active`, namely the
  observer's new `open_`; one that wrote nothing has `W = []` and `transfer_active` is `open_` already;
* `finStrobe` without `responded` — nothing counted yet: `com` is `acc`, and `W` holds the packet's entries if its toggle
  is the expected one and nothing overflowed;
* `finWait` — the strobe is past, the request still to come: `okay_to_receive ∧ ¬overflow` says the packet will be ACKed
  and counted, then `com` is already `acc` with the packet's entries and `transfer_active` its new value (for a
  zero-length packet still the old one: its ACK clears it); else nothing has changed. -/
def WInv (c : Config) (p : Phase) (a : Acct) (r : Regs) (W com : List Nat) (acc : List Entry) : Prop :=
  r.expectedToggle = a.toggle ∧
  match p with
  | .idle => W = [] ∧ r.rxCnt = 0 ∧ r.transferActive = a.open_ ∧ com.map dec = acc
  | .tok t => W = [] ∧ r.rxCnt = 0 ∧ r.transferActive = a.open_ ∧ com.map dec = acc ∧
      r.overflow = false ∧ r.packetHasData = false ∧ t.wf = true
  | .rx t pid sent now _ => RunInv c a r W com acc t pid sent (sent.length + now.toList.length + 1)
  | .finByte t pid sent now _ => RunInv c a r W com acc t pid sent (sent.length + now.toList.length) ∧
      (now = none → sent = [])
  | .finStrobe t pid bytes ok responded =>
    t.wf = true ∧ (t.targets c = true → bytes.length ≤ c.mps) ∧ (responded = true → ok = true) ∧
    (if t.targets c then
      (bytes = [] → r.rxCnt = 0 ∧ r.overflow = false ∧ r.packetHasData = false) ∧
      (if responded then
        (r.overflow = true → com.map dec = acc ∧ r.transferActive = a.open_) ∧
        (r.overflow = false → (com ++ W).map dec = acc ∧ (r.packetHasData = true → r.packetIsFull = a.open_) ∧
          (r.packetHasData = false → W = [] ∧ r.transferActive = a.open_))
       else
        r.transferActive = a.open_ ∧ com.map dec = acc ∧
        (if pid == tn r.expectedToggle then
          (r.overflow = false → W.map dec = pktEntries c a.open_ bytes ∧ r.packetHasData = !bytes.isEmpty ∧
            (bytes ≠ [] → r.packetIsFull = (bytes.length == c.mps)))
         else W = [] ∧ r.rxCnt = 0 ∧ r.overflow = false ∧ r.packetHasData = false))
     else W = [] ∧ r.rxCnt = 0 ∧ r.transferActive = a.open_ ∧ com.map dec = acc)
  | .finWait t pid bytes =>
    t.wf = true ∧ W = [] ∧ r.rxCnt = 0 ∧
    (if (okayP c t pid r.expectedToggle && !r.overflow) = true then
      com.map dec = acc ++ pktEntries c a.open_ bytes ∧ r.packetHasData = !bytes.isEmpty ∧
      r.transferActive = (if bytes.isEmpty then a.open_ else bytes.length == c.mps)
     else com.map dec = acc ∧ r.transferActive = a.open_)

def Regs.init : Regs := ⟨false, false, 0, false, false, false⟩

theorem winv_init (c : Config) : WInv c .idle Acct.init Regs.init [] [] [] := by
  simp [WInv, Regs.init, Acct.init]

/-- the write-side machine with the observer beside it (`a`; `acc` = the entries it has expected so far) -/
structure WState where
  a   : Acct
  r   : Regs
  W   : List Nat
  com : List Nat
  acc : List Entry

def WState.next (c : Config) (p : Phase) (s : WState) (o : BoundaryDetector.Out) (full : Bool) (space : Nat)
    (i : In) : WState :=
  let ack := (hsG c o full space s.r i).1
  let w := wNext s.W s.com (wctl c o full space s.r i)
  ⟨(s.a.step c p i ack).1, regsNext c o full space s.r i, w.1, w.2, s.acc ++ (s.a.step c p i ack).2⟩

def WState.Inv (c : Config) (p : Phase) (s : WState) : Prop := WInv c p s.a s.r s.W s.com s.acc

theorem tokOf_fields {i : In} {t : Tok} (h : Tok.of i = t) :
    i.tokEp = t.ep ∧ i.tokIsOut = t.isOut ∧ i.tokIsPing = t.isPing := by
  subst h; simp [Tok.of]

theorem winv_step_idle {c : Config} {s : WState} {o : BoundaryDetector.Out} {full : Bool} {space : Nat}
    {i : In} {p' : Phase} (h : s.Inv c .idle) (hv : View .idle o) (hs : Phase.step c .idle i = some p') :
    (s.next c .idle o full space i).Inv c p' := by
  obtain ⟨a, r, W, com, acc⟩ := s
  obtain ⟨htg, hW, hcnt, hta, hcom⟩ := h
  obtain ⟨hn, hco, hio⟩ := hv
  obtain ⟨_, hrr, h3⟩ := step_idle_inv hs
  simp only at htg hW hcnt hta hcom
  rcases h3 with ⟨hnew, hwf, rfl⟩ | ⟨hnew, rfl⟩ <;>
    simp [WState.Inv, WState.next, WInv, regsNext, combG, wNext, wctl, Acct.step, Phase.answered,
      hn, hco, hio, hrr, hnew, hW, hcnt, hta, hcom, htg] <;>
    cases i.clearHalt <;> simp_all

theorem winv_step_tok {c : Config} {t : Tok} {s : WState} {o : BoundaryDetector.Out} {full : Bool} {space : Nat}
    {i : In} {p' : Phase} (h : s.Inv c (.tok t)) (hv : View (.tok t) o) (hs : Phase.step c (.tok t) i = some p') :
    (s.next c (.tok t) o full space i).Inv c p' := by
  obtain ⟨a, r, W, com, acc⟩ := s
  obtain ⟨htg, hW, hcnt, hta, hcom, hovf, hphd, hwf⟩ := h
  obtain ⟨hn, hco, hio⟩ := hv
  obtain ⟨hrr, h3⟩ := step_tok_inv hs
  simp only at htg hW hcnt hta hcom hovf hphd
  rcases h3 with ⟨hnew, hwf', _, rfl⟩ | ⟨hnew, _, _, _, hm, rfl⟩ | ⟨hnew, _, _, _, rfl⟩ | ⟨hnew, _, _, _, rfl⟩ <;>
    (try replace hm := lenOk_inv hm) <;>
    simp [WState.Inv, WState.next, WInv, RunInv, okayP, regsNext, combG, wNext, wctl, Acct.step, Phase.answered, body,
      hn, hco, hio, hrr, hnew, hW, hcnt, hta, hcom, htg, hovf, hphd, hwf] <;>
    cases i.clearHalt <;> simp_all

theorem combG_tok {c : Config} {o : BoundaryDetector.Out} {full : Bool} {space : Nat} {r : Regs} {i : In}
    {t : Tok} {pid : Nat} (htok : Tok.of i = t) (hpid : i.pidToggle = pid) :
    combG c o full space r i =
      { targeting := t.targets c, pidMatch := pid == tn r.expectedToggle, sufficient := decide (c.mps ≤ space),
        pingRequested := t.ep == c.epNum && t.isPing && i.tokReady,
        dataRequested := t.targets c && i.rxReady,
        okayToReceive := okayP c t pid r.expectedToggle,
        dataIsLost := okayP c t pid r.expectedToggle && o.next && o.valid && full,
        dataAccepted := okayP c t pid r.expectedToggle && !(okayP c t pid r.expectedToggle && o.next && o.valid && full)
                          && !r.overflow,
        shouldSkip := t.targets c && !(pid == tn r.expectedToggle),
        fullPacket := r.rxCnt == c.mps - 1,
        writeEn := okayP c t pid r.expectedToggle && o.next && o.valid && !full,
        writeCommit := t.targets c && o.completeOut && !r.overflow,
        writeDiscard := t.targets c && (o.invalidOut || (o.completeOut && r.overflow)) } := by
  subst htok hpid
  simp only [combG, okayP, Tok.targets, Tok.of, tn, Bool.and_assoc, Bool.and_self_left]

/-- ClearFeature(HALT) for the endpoint is possible outside its own transactions: it resets the toggle, on both
sides. -/
theorem next_foreign {c : Config} {p : Phase} {s : WState} {o : BoundaryDetector.Out} {full : Bool} {space : Nat}
    {i : In} {t : Tok} (htok : Tok.of i = t) (hT : t.targets c = false) (hnew : i.tokNew = false)
    (ha : p.answered c i = none) :
    s.next c p o full space i =
      ⟨⟨!i.clearHalt && s.a.toggle, s.a.open_⟩, { s.r with expectedToggle := !i.clearHalt && s.r.expectedToggle },
        s.W, s.com, s.acc⟩ := by
  simp [WState.next, regsNext, combG_tok htok rfl, wNext, wctl, Acct.step, ha, okayP, hT, hnew]

theorem winv_step_rx {c : Config} {t : Tok} {pid : Nat} {sent : List Nat} {now : Option Nat} {buf : Nat}
    {s : WState} {o : BoundaryDetector.Out} {full : Bool} {space : Nat}
    {i : In} {p' : Phase} (h : s.Inv c (.rx t pid sent now buf)) (hv : View (.rx t pid sent now buf) o)
    (hs : Phase.step c (.rx t pid sent now buf) i = some p') :
    (s.next c (.rx t pid sent now buf) o full space i).Inv c p' := by
  obtain ⟨a, r, W, com, acc⟩ := s
  obtain ⟨htg, hwf, hlen, hta, hcom, hphd, hovf, hno, hok⟩ := h
  obtain ⟨hco, hio, hvn⟩ := hv
  obtain ⟨hst, hrr, h3⟩ := step_rx_inv hs
  obtain ⟨htok, hpid, hnew, hclr⟩ := stable_inv hst
  simp only at htg hta hcom hphd hovf hno hok hlen
  rw [htg] at hphd hovf hno hok
  cases hT : t.targets c
  · rw [WState.Inv, next_foreign htok hT hnew rfl]
    rcases h3 with ⟨_, _, _, rfl⟩ | ⟨_, _, _, rfl⟩ | ⟨_, _, _, rfl⟩ <;>
      simp_all [WInv, RunInv, okayP]
  · replace hlen := hlen hT
    have hc : i.clearHalt = false := by simpa [hT] using hclr
    have hK : ∀ tg, okayP c t pid tg = (pid == tn tg) := fun tg => by simp [okayP, hT]
    simp only [hK] at hphd hovf hno hok
    clear hst hclr
    -- the next phase is `rx` or `finByte` over `sent ++ now.toList`: the invariant differs only in the length bound
    have core : ∀ n, n ≤ c.mps →
        let s' := WState.next c (.rx t pid sent now buf) ⟨a, r, W, com, acc⟩ o full space i
        s'.r.expectedToggle = s'.a.toggle ∧ RunInv c s'.a s'.r s'.W s'.com s'.acc t pid (sent ++ now.toList) n := by
      intro n hn
      cases now with
      | none =>
        simp only at hvn
        simp only [WState.next, regsNext, combG_tok htok hpid, wNext, wctl, Acct.step, Phase.answered, RunInv,
          hK, hvn, hco, hio, hrr, hnew, hc, hT, Bool.true_and, Bool.false_and, Bool.and_false,
          Bool.or_false, if_false, Bool.false_eq_true, List.append_nil, Option.toList]
        clear htok hpid hco hio hrr hnew hc hvn h3 hs
        cases hM : (pid == tn a.toggle) <;> simp_all
      | some x =>
        obtain ⟨hn', hvl, hpl, hfi, hla⟩ := hvn
        simp only [WState.next, regsNext, combG_tok htok hpid, wNext, wctl, Acct.step, Phase.answered, RunInv,
          hK, hn', hvl, hpl, hfi, hla, hco, hio, hrr, hnew, hc, hT, Bool.true_and, Bool.and_true, Bool.false_and,
          Bool.and_false, Bool.or_false, if_false, Bool.false_eq_true, Option.toList]
        clear htok hpid hco hio hrr hnew hc hn' hvl hpl hfi hla h3 hs
        cases hM : (pid == tn a.toggle)
        · simp_all
        · cases full <;> cases hO : r.overflow <;> simp_all <;>
            exact ⟨by rw [body_snoc, Bool.and_comm], rxCnt_no_wrap _ _ (by omega)⟩
    rcases h3 with ⟨_, _, hm, rfl⟩ | ⟨_, _, _, rfl⟩ | ⟨_, _, _, rfl⟩
    · exact core _ (by
        have := lenOk_inv hm hT
        simp only [List.length_append, Option.toList_some, List.length_singleton]; omega)
    · exact core _ (by simp only [List.length_append, Option.toList_none, List.length_nil]; omega)
    · have hb : (sent ++ now.toList).length + (some buf).toList.length ≤ c.mps := by
        simp only [List.length_append, Option.toList_some, List.length_singleton]; omega
      exact ⟨(core _ hb).1, (core _ hb).2, nofun⟩

/-- the write of a packet's final byte completes its entries; `last` is set iff the packet is short -/
theorem last_entry (f : Bool) (sent : List Nat) (x mps : Nat) (h : sent.length + 1 ≤ mps) :
    List.map dec (body f sent) ++ [dec (entry x (!sent.length == mps - 1) (sent.isEmpty && f))]
        = marks f (decide (sent.length + 1 < mps)) (sent ++ [x]) ∧
      (sent.length == mps - 1) = (sent.length + 1 == mps) := by
  have e1 : (sent.length == mps - 1) = (sent.length + 1 == mps) := by
    rw [Bool.eq_iff_iff]; simp only [beq_iff_eq]; omega
  have e2 : (!sent.length == mps - 1) = decide (sent.length + 1 < mps) := by
    rw [e1, Bool.eq_iff_iff]; simp only [Bool.not_eq_true', beq_eq_false_iff_ne, decide_eq_true_eq]; omega
  refine ⟨?_, e1⟩
  rw [e2, ← marks_body, List.map_append, Bool.and_comm]
  rfl

theorem targets_not_ping {c : Config} {t : Tok} (hwf : t.wf = true) (hT : t.targets c = true) :
    t.isPing = false ∧ (t.ep == c.epNum) = true := by
  simp only [Tok.wf, Tok.targets] at hwf hT
  cases h1 : t.isOut <;> cases h2 : t.isPing <;> simp_all

theorem winv_step_finByte {c : Config} {t : Tok} {pid : Nat} {sent : List Nat} {now : Option Nat} {ok : Bool}
    {s : WState} {o : BoundaryDetector.Out} {full : Bool} {space : Nat}
    {i : In} {p' : Phase} (hmps : 1 ≤ c.mps) (h : s.Inv c (.finByte t pid sent now ok))
    (hv : View (.finByte t pid sent now ok) o)
    (hs : Phase.step c (.finByte t pid sent now ok) i = some p') :
    (s.next c (.finByte t pid sent now ok) o full space i).Inv c p' := by
  obtain ⟨a, r, W, com, acc⟩ := s
  obtain ⟨htg, ⟨hwf, hlen, hta, hcom, hphd, hovf, hno, hok⟩, hz⟩ := h
  obtain ⟨hco, hio, hvn⟩ := hv
  obtain ⟨hst, _, hrok, rfl⟩ := step_finByte_inv hs
  obtain ⟨htok, hpid, hnew, hclr⟩ := stable_inv hst
  simp only at htg hta hcom hphd hovf hno hok hlen
  rw [htg] at hphd hovf hno hok
  cases hT : t.targets c
  · rw [WState.Inv, next_foreign htok hT hnew (by simp [Phase.answered, hT])]
    simp_all [WInv, okayP]
  · obtain ⟨hping, hep⟩ := targets_not_ping hwf hT
    have hc : i.clearHalt = false := by simpa [hT] using hclr
    replace hlen := hlen hT
    clear hs hst hclr
    cases now with
    | none =>
      simp only at hvn
      have hz := hz rfl
      subst hz
      simp only [WState.Inv, WState.next, WInv, regsNext, combG_tok htok hpid, wNext, wctl, Acct.step, Phase.answered,
        okayP, hsG, pktEntries, marks, body, hT, hvn, hco, hio, hnew, hc, hping, hep, htg, Bool.true_and,
        Bool.and_true, Bool.false_and, Bool.and_false, Bool.or_false, if_true, if_false,
        Bool.false_eq_true, Bool.not_false, Option.toList, List.append_nil] at hphd hovf hno hok ⊢
      clear htok hpid hco hio hnew hc hping hep hvn
      by_cases hM : pid = tn a.toggle
      · cases hR : i.rxReady <;> cases hO : r.overflow <;> simp_all [marks] <;> omega
      · cases hR : i.rxReady <;> simp_all
    | some x =>
      obtain ⟨hn, hvl, hpl, hfi, hla⟩ := hvn
      simp only [WState.Inv, WState.next, WInv, regsNext, combG_tok htok hpid, wNext, wctl, Acct.step, Phase.answered,
        okayP, hsG, pktEntries, hT, hn, hvl, hpl, hfi, hla, hco, hio, hnew, hc, hping, hep, htg, Bool.true_and,
        Bool.and_true, Bool.false_and, Bool.and_false, Bool.or_false, if_true, if_false,
        Bool.false_eq_true, Bool.not_true, Option.toList, List.length_append, List.length_singleton]
        at hphd hovf hno hok hlen ⊢
      clear htok hpid hco hio hnew hc hping hep hn hvl hpl hfi hla hz
      by_cases hM : pid = tn a.toggle
      · cases hR : i.rxReady <;> cases full <;> cases hO : r.overflow <;> simp_all <;>
        exact last_entry _ _ _ _ hlen
      · cases hR : i.rxReady <;> simp_all

end LunaVerif.StreamOutEndpoint
