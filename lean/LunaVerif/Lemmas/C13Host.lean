import LunaVerif.Model.Usb2.StreamOutEndpoint
/-!
# C13 — the host side: `LegalHost`, the host-visible specification, and the boundary detector's view

* `Phase` / `Phase.step` / `LegalHost`: a decidable acceptor for cycle-level input histories of the
  endpoint.  It follows one transaction after the other: a token strobe, then (for OUT) a data packet
  of the shape `USBDataPacketReceiver` produces (`valid` high, bytes on `next`, exactly one of
  `rx_complete` / `rx_invalid` in the cycle `valid` falls), then — for a CRC-valid packet — one
  `rx_ready_for_response` cycle at least one cycle later (any delay), while the token fields and the
  data PID stay stable.  A data packet is bounded by `max_packet_size` only in a transaction addressed to
  the endpoint (`lenOk`); a packet that follows any other token (another endpoint, SETUP, IN, PING) may
  have any length.  Everything else is free in every cycle: the consumer's `ready`, the
  tokenizer's `ready_for_response` (PING), traffic addressed to other endpoints, corrupted packets,
  repeated toggles, DATA2/MDATA PIDs, ClearFeature(HALT) outside the endpoint's own transactions.
  (`Phase.stepStrict` / `LegalHostStrict` in Props/C13Foreign.lean: the strict acceptor, which bounds every
  bus packet by this endpoint's `max_packet_size`; it implies this one.)
* `expected`: what a host-side observer computes from the inputs and the ACK line alone: the payloads
  of the packets ACKed with the expected toggle, with the transfer marks.
* `DetRel`: the state of the boundary detector as a function of the phase (the cycle-level companion of
  C28's `detector_refines_transducer`, which speaks about whole event lists; the handshake logic needs the
  exact cycle).
* What the acceptor says about the running packet: its token, data PID, the bytes handled, presented and seen
  (`Phase.token`, `pid`, `handled`, `now`, `seen`, `passing`, `forUs`), what one accepted cycle does to them
  (`token_step`, `handled_step`, `pid_stable`, `seen_le_mps_step`) and what that gives for the packet that is answered.
-/
namespace LunaVerif.StreamOutEndpoint
open LunaVerif

/-! ## Transactions as the endpoint sees them -/

structure Tok where
  ep     : Nat
  isOut  : Bool
  isPing : Bool
deriving DecidableEq, Repr

def Tok.of (i : In) : Tok := ⟨i.tokEp, i.tokIsOut, i.tokIsPing⟩
/-- the tokenizer decodes one PID: OUT and PING are never flagged together -/
def Tok.wf (t : Tok) : Bool := !(t.isOut && t.isPing)
def Tok.targets (c : Config) (t : Tok) : Bool := t.ep == c.epNum && t.isOut

def isByte (i : In) : Bool := i.rx.valid && i.rx.next
def strobeAny (i : In) : Bool := i.rx.completeIn || i.rx.invalidIn
def strobeOne (i : In) : Bool := i.rx.completeIn != i.rx.invalidIn

/-- Where the host stands at the beginning of a cycle.  `sent` = bytes of the running packet the
boundary detector has already passed on, `now` = the byte it presents in this cycle, `buf` = the byte it
holds back (it learns only one byte later whether a byte was the last one). -/
inductive Phase where
  | idle                                                                    -- no token yet / transaction over
  | tok (t : Tok)                                                           -- token seen, no data byte yet
  | rx (t : Tok) (pid : Nat) (sent : List Nat) (now : Option Nat) (buf : Nat)      -- packet running
  | finByte (t : Tok) (pid : Nat) (sent : List Nat) (now : Option Nat) (ok : Bool) -- `valid` fell in the previous cycle
  | finStrobe (t : Tok) (pid : Nat) (bytes : List Nat) (ok responded : Bool)       -- two cycles after `valid` fell
  | finWait (t : Tok) (pid : Nat) (bytes : List Nat)                        -- CRC-valid packet waiting for the response request
deriving DecidableEq, Repr

/-- token fields and data PID are stable, no new token, and no ClearFeature(HALT) for the endpoint in the
middle of its own transaction -/
def stable (c : Config) (t : Tok) (pid : Nat) (i : In) : Bool :=
  Tok.of i == t && i.pidToggle == pid && !i.tokNew && !(i.clearHalt && t.targets c)

/-- The length bound of a data packet: `n` bytes are acceptable in a transaction whose token is `t`.  Only the
packets of a transaction addressed to the endpoint (`t.targets c`: the token registers name the endpoint, OUT) are
bounded by its `max_packet_size` (USB 2.0 §5.8.3: the host never sends more to an endpoint than its descriptor
says); a packet of any other transaction on the bus — another endpoint, a SETUP / IN / PING transaction — may
have ANY length (an 8-byte SETUP packet next to a 4-byte OUT endpoint, a 512-byte packet for another endpoint). -/
def lenOk (c : Config) (t : Tok) (n : Nat) : Bool := !t.targets c || decide (n ≤ c.mps)

theorem lenOk_inv {c : Config} {t : Tok} {n : Nat} (h : lenOk c t n = true) : t.targets c = true → n ≤ c.mps := by
  simp only [lenOk] at h
  grind

/-- One cycle of the acceptor; `none` = the input is outside `LegalHost`. -/
def Phase.step (c : Config) : Phase → In → Option Phase
  | .idle, i =>
    if isByte i || i.rxReady then none
    else if i.tokNew then (if (Tok.of i).wf then some (.tok (Tok.of i)) else none)
    else some .idle
  | .tok t, i =>
    if i.rxReady then none
    else if i.tokNew then (if (Tok.of i).wf && !isByte i then some (.tok (Tok.of i)) else none)
    else if Tok.of i != t then none
    else if isByte i then
      (if !strobeAny i && lenOk c t 1 then some (.rx t i.pidToggle [] none i.rx.payload) else none)
    else if strobeAny i then
      (if strobeOne i then some (.finByte t i.pidToggle [] none i.rx.completeIn) else none)   -- zero-length packet
    else some (.tok t)
  | .rx t pid sent now buf, i =>
    if !stable c t pid i || i.rxReady then none
    else if isByte i then
      (if !strobeAny i && lenOk c t (sent.length + now.toList.length + 2)
        then some (.rx t pid (sent ++ now.toList) (some buf) i.rx.payload) else none)
    else if i.rx.valid then
      (if !strobeAny i then some (.rx t pid (sent ++ now.toList) none buf) else none)
    else (if strobeOne i then some (.finByte t pid (sent ++ now.toList) (some buf) i.rx.completeIn) else none)
  | .finByte t pid sent now ok, i =>
    if !stable c t pid i || isByte i || (i.rxReady && !ok) then none
    else some (.finStrobe t pid (sent ++ now.toList) ok i.rxReady)
  | .finStrobe t pid bytes ok responded, i =>
    if !stable c t pid i || isByte i || (i.rxReady && (!ok || responded)) then none
    else if responded || i.rxReady || !ok then some .idle else some (.finWait t pid bytes)
  | .finWait t pid bytes, i =>
    if !stable c t pid i || isByte i then none
    else if i.rxReady then some .idle else some (.finWait t pid bytes)

/-- the phase after a history (`none` when the history leaves `LegalHost`) -/
def Phase.run (c : Config) : Phase → List In → Option Phase
  | p, [] => some p
  | p, i :: is => match p.step c i with
    | some p' => Phase.run c p' is
    | none => none

/-- no data packet is in flight: before any token, after a transaction, or right after a token (`.tok`: an OUT token
whose data packet is still to come counts as quiet) -/
def Phase.quiet : Phase → Bool
  | .idle => true
  | .tok _ => true
  | _ => false

/-- **LegalHost**: the history is accepted and does not end inside a data packet or before its answer (`Phase.quiet`;
it may end right after a token). -/
def LegalHost (c : Config) (ins : List In) : Bool :=
  match Phase.run c .idle ins with
  | some p => p.quiet
  | none => false

/-! ## What the host-side observer expects on the consumer stream -/

/-- a consumer-side transfer: (payload, first, last) -/
abbrev Entry := Nat × Bool × Bool

/-- the bytes of one packet with their marks: `f` on the first byte, `short` on the final one -/
def marks (f short : Bool) : List Nat → List Entry
  | [] => []
  | [b] => [(b % 256, f, short)]
  | b :: b' :: bs => (b % 256, f, false) :: marks false short (b' :: bs)

/-- entries of an accepted packet: `first` on its first byte iff no transfer is open, `last` on its final
byte iff it is a short packet -/
def pktEntries (c : Config) (open_ : Bool) (bytes : List Nat) : List Entry :=
  marks (!open_) (decide (bytes.length < c.mps)) bytes

/-- the observer's bookkeeping: the data toggle it expects the endpoint to expect, and whether a transfer
is open (the last accepted packet was a max-size one) -/
structure Acct where
  toggle : Bool
  open_  : Bool
deriving DecidableEq, Repr

/-- the observer starts with DATA0 expected and no transfer open -/
def Acct.init : Acct := ⟨false, false⟩

/-- the data packet (PID toggle bits, payload) answered in this cycle, if it is addressed to the endpoint -/
def Phase.answered (c : Config) : Phase → In → Option (Nat × List Nat)
  | .finByte t pid sent now _, i => if i.rxReady && t.targets c then some (pid, sent ++ now.toList) else none
  | .finStrobe t pid bytes _ _, i => if i.rxReady && t.targets c then some (pid, bytes) else none
  | .finWait t pid bytes, i => if i.rxReady && t.targets c then some (pid, bytes) else none
  | _, _ => none

def tn (b : Bool) : Nat := if b then 1 else 0

/-- One cycle of the observer: a packet is *newly accepted* iff it is ACKed and carries the expected
toggle; ClearFeature(HALT) resets the toggle. -/
def Acct.step (c : Config) (a : Acct) (p : Phase) (i : In) (ack : Bool) : Acct × List Entry :=
  let r : Acct × List Entry :=
    match p.answered c i with
    | some (pid, bytes) =>
      if ack && pid == tn a.toggle then (⟨!a.toggle, bytes.length == c.mps⟩, pktEntries c a.open_ bytes) else (a, [])
    | none => (a, [])
  (⟨if i.clearHalt then false else r.1.toggle, r.1.open_⟩, r.2)

/-- the payloads (with marks) of all newly accepted packets of a history, in order -/
def expected (c : Config) : Acct → Phase → List In → List Out → List Entry
  | a, p, i :: is, o :: os =>
    match p.step c i with
    | some p' => (a.step c p i o.ack).2 ++ expected c (a.step c p i o.ack).1 p' is os
    | none => []
  | _, _, _, _ => []

/-! ## The boundary detector, cycle by cycle -/

/-- what the endpoint's glue logic can see of the detector's outputs in a cycle that starts in phase `p`
(`payload`/`first`/`last` matter only under `next ∧ valid`) -/
def View (p : Phase) (o : BoundaryDetector.Out) : Prop :=
  match p with
  | .idle | .tok _ | .finWait .. => o.next = false ∧ o.completeOut = false ∧ o.invalidOut = false
  | .rx _ _ sent now _ =>
    o.completeOut = false ∧ o.invalidOut = false ∧
    (match now with
     | none => o.next = false
     | some x => o.next = true ∧ o.valid = true ∧ o.payload = x ∧ o.first = sent.isEmpty ∧ o.last = false)
  | .finByte _ _ sent now _ =>
    o.completeOut = false ∧ o.invalidOut = false ∧
    (match now with
     | none => o.next = false
     | some x => o.next = true ∧ o.valid = true ∧ o.payload = x ∧ o.first = sent.isEmpty ∧ o.last = true)
  | .finStrobe _ _ bytes ok _ =>
    o.next = false ∧ o.completeOut = (ok && !bytes.isEmpty) ∧ o.invalidOut = (!ok && !bytes.isEmpty)

/-- the detector's state as a function of the phase -/
def DetRel (p : Phase) (d : BoundaryDetector.State) : Prop :=
  View p d.out ∧
  (match p with
   | .idle | .tok _ | .finWait .. | .finStrobe .. => d.fsm = .waitFirst
   | .rx _ _ sent now buf =>
     d.fsm = .receive ∧ d.bufferedByte = buf ∧ d.isFirstByte = (sent.isEmpty && now.isNone) ∧
     d.bufferedComplete = false ∧ d.bufferedInvalid = false ∧ d.out.last = false
   | .finByte _ _ sent now ok =>
     match now with
     | none => d.fsm = .waitFirst ∧ sent = []
     | some _ => d.fsm = .strobes ∧ d.bufferedComplete = ok ∧ d.bufferedInvalid = !ok)

theorem detRel_init : DetRel .idle BoundaryDetector.init := by
  simp [DetRel, View, BoundaryDetector.init]

/-! ### Inversion of the acceptor (one lemma per phase) -/

theorem stable_inv {c : Config} {t : Tok} {pid : Nat} {i : In} (h : stable c t pid i = true) :
    Tok.of i = t ∧ i.pidToggle = pid ∧ i.tokNew = false ∧ (i.clearHalt && t.targets c) = false := by
  simp only [stable] at h
  grind

theorem step_idle_inv {c : Config} {i : In} {p' : Phase} (h : Phase.step c .idle i = some p') :
    isByte i = false ∧ i.rxReady = false ∧
    ((i.tokNew = true ∧ (Tok.of i).wf = true ∧ p' = .tok (Tok.of i)) ∨ (i.tokNew = false ∧ p' = .idle)) := by
  simp only [Phase.step] at h
  repeat' split at h
  all_goals simp_all

theorem step_tok_inv {c : Config} {t : Tok} {i : In} {p' : Phase} (h : Phase.step c (.tok t) i = some p') :
    i.rxReady = false ∧
    ((i.tokNew = true ∧ (Tok.of i).wf = true ∧ isByte i = false ∧ p' = .tok (Tok.of i))
     ∨ (i.tokNew = false ∧ Tok.of i = t ∧ isByte i = true ∧ strobeAny i = false ∧ lenOk c t 1 = true ∧
          p' = .rx t i.pidToggle [] none i.rx.payload)
     ∨ (i.tokNew = false ∧ Tok.of i = t ∧ isByte i = false ∧ strobeOne i = true ∧
          p' = .finByte t i.pidToggle [] none i.rx.completeIn)
     ∨ (i.tokNew = false ∧ Tok.of i = t ∧ isByte i = false ∧ strobeAny i = false ∧ p' = .tok t)) := by
  simp only [Phase.step] at h
  repeat' split at h
  all_goals simp_all

theorem step_rx_inv {c : Config} {t : Tok} {pid : Nat} {sent : List Nat} {now : Option Nat} {buf : Nat} {i : In}
    {p' : Phase} (h : Phase.step c (.rx t pid sent now buf) i = some p') :
    stable c t pid i = true ∧ i.rxReady = false ∧
    ((isByte i = true ∧ strobeAny i = false ∧ lenOk c t (sent.length + now.toList.length + 2) = true ∧
        p' = .rx t pid (sent ++ now.toList) (some buf) i.rx.payload)
     ∨ (isByte i = false ∧ i.rx.valid = true ∧ strobeAny i = false ∧ p' = .rx t pid (sent ++ now.toList) none buf)
     ∨ (isByte i = false ∧ i.rx.valid = false ∧ strobeOne i = true ∧
        p' = .finByte t pid (sent ++ now.toList) (some buf) i.rx.completeIn)) := by
  simp only [Phase.step] at h
  repeat' split at h
  all_goals simp_all

theorem step_finByte_inv {c : Config} {t : Tok} {pid : Nat} {sent : List Nat} {now : Option Nat} {ok : Bool} {i : In}
    {p' : Phase} (h : Phase.step c (.finByte t pid sent now ok) i = some p') :
    stable c t pid i = true ∧ isByte i = false ∧ (i.rxReady = true → ok = true) ∧
    p' = .finStrobe t pid (sent ++ now.toList) ok i.rxReady := by
  simp only [Phase.step] at h
  repeat' split at h
  all_goals simp_all

theorem step_finStrobe_inv {c : Config} {t : Tok} {pid : Nat} {bytes : List Nat} {ok responded : Bool} {i : In}
    {p' : Phase} (h : Phase.step c (.finStrobe t pid bytes ok responded) i = some p') :
    stable c t pid i = true ∧ isByte i = false ∧ (i.rxReady = true → ok = true ∧ responded = false) ∧
    (((responded || i.rxReady || !ok) = true ∧ p' = .idle)
     ∨ (responded = false ∧ i.rxReady = false ∧ ok = true ∧ p' = .finWait t pid bytes)) := by
  simp only [Phase.step] at h
  repeat' split at h
  all_goals simp_all

theorem step_finWait_inv {c : Config} {t : Tok} {pid : Nat} {bytes : List Nat} {i : In}
    {p' : Phase} (h : Phase.step c (.finWait t pid bytes) i = some p') :
    stable c t pid i = true ∧ isByte i = false ∧
    ((i.rxReady = true ∧ p' = .idle) ∨ (i.rxReady = false ∧ p' = .finWait t pid bytes)) := by
  simp only [Phase.step] at h
  repeat' split at h
  all_goals simp_all

theorem Phase.run_cons {c : Config} {p pk : Phase} {i : In} {is : List In} (h : Phase.run c p (i :: is) = some pk) :
    ∃ p1, p.step c i = some p1 ∧ Phase.run c p1 is = some pk := by
  simp only [Phase.run] at h
  cases hs : p.step c i with
  | none => simp [hs] at h
  | some p1 => exact ⟨p1, rfl, by simpa [hs] using h⟩

/-! ### The detector follows the phase -/

theorem DetRel.view {p : Phase} {d : BoundaryDetector.State} (h : DetRel p d) : View p d.out := h.1

/-- **Detector layer**, one cycle: a cycle the acceptor accepts takes detector registers that are the function
`DetRel` of the host's phase to such registers again (with `detRel_init`, by induction: along every accepted history). -/
theorem detRel_step {c : Config} {p p' : Phase} {d : BoundaryDetector.State} {i : In}
    (h : DetRel p d) (hs : p.step c i = some p') : DetRel p' (BoundaryDetector.step d i.rx) := by
  obtain ⟨fsm, out, bb, fb, bc, bi⟩ := d
  cases p with
  | idle =>
    obtain ⟨_, hf⟩ := h
    simp only at hf; subst hf
    obtain ⟨hb, _, h3⟩ := step_idle_inv hs
    simp only [isByte] at hb
    rcases h3 with ⟨_, _, rfl⟩ | ⟨_, rfl⟩ <;> simp [DetRel, View, BoundaryDetector.step, hb]
  | tok t =>
    obtain ⟨_, hf⟩ := h
    simp only at hf; subst hf
    obtain ⟨_, h3⟩ := step_tok_inv hs
    simp only [isByte] at h3
    rcases h3 with ⟨_, _, hb, rfl⟩ | ⟨_, _, hb, _, _, rfl⟩ | ⟨_, _, hb, _, rfl⟩ | ⟨_, _, hb, _, rfl⟩ <;>
      simp [DetRel, View, BoundaryDetector.step, hb]
  | rx t pid sent now buf =>
    obtain ⟨hv, hf, hbb, hfb, hbc, hbi, hl⟩ := h
    simp only at hf hbb hfb hbc hbi hl; subst hf hbb hfb hbc hbi
    obtain ⟨_, _, h3⟩ := step_rx_inv hs
    simp only [isByte, strobeAny, strobeOne] at h3
    simp only [View] at hv
    rcases h3 with ⟨hb, hst, _, rfl⟩ | ⟨hb, hvl, hst, rfl⟩ | ⟨hb, hvl, hst, rfl⟩
    · have : i.rx.valid = true := by simp_all
      cases now <;> simp_all [DetRel, View, BoundaryDetector.step]
    · cases now <;> simp_all [DetRel, View, BoundaryDetector.step]
    · cases now <;> simp_all [DetRel, View, BoundaryDetector.step] <;> grind
  | finByte t pid sent now ok =>
    obtain ⟨_, _, _, rfl⟩ := step_finByte_inv hs
    obtain ⟨hv, hm⟩ := h
    simp only [View] at hv
    cases now with
    | none =>
      obtain ⟨hf, rfl⟩ := hm
      simp only at hf; subst hf
      have hb : isByte i = false := (step_finByte_inv hs).2.1
      simp only [isByte] at hb
      simp [DetRel, View, BoundaryDetector.step, hb]
    | some x =>
      obtain ⟨hf, hbc, hbi⟩ := hm
      simp only at hf hbc hbi; subst hf hbc hbi
      simp_all [DetRel, View, BoundaryDetector.step]
  | finStrobe t pid bytes ok responded =>
    obtain ⟨_, hf⟩ := h
    simp only at hf; subst hf
    obtain ⟨_, hb, _, h3⟩ := step_finStrobe_inv hs
    simp only [isByte] at hb
    rcases h3 with ⟨_, rfl⟩ | ⟨_, _, _, rfl⟩ <;> simp [DetRel, View, BoundaryDetector.step, hb]
  | finWait t pid bytes =>
    obtain ⟨_, hf⟩ := h
    simp only at hf; subst hf
    obtain ⟨_, hb, h3⟩ := step_finWait_inv hs
    simp only [isByte] at hb
    rcases h3 with ⟨_, rfl⟩ | ⟨_, rfl⟩ <;> simp [DetRel, View, BoundaryDetector.step, hb]

/-! ## What the acceptor says about the running packet -/

def Phase.token : Phase → Option Tok
  | .idle => none
  | .tok t => some t
  | .rx t _ _ _ _ => some t
  | .finByte t _ _ _ _ => some t
  | .finStrobe t _ _ _ _ => some t
  | .finWait t _ _ => some t

theorem token_step {c : Config} {p p' : Phase} {i : In} {t : Tok} (hs : p.step c i = some p')
    (ht : p.token = some t) (hn : i.tokNew = false) : Tok.of i = t ∧ (p' = .idle ∨ p'.token = some t) := by
  cases p with
  | idle => simp [Phase.token] at ht
  | tok t' =>
    simp only [Phase.token, Option.some.injEq] at ht; subst ht
    obtain ⟨_, h3⟩ := step_tok_inv hs
    rcases h3 with ⟨h, _⟩ | ⟨_, h, _, _, _, rfl⟩ | ⟨_, h, _, _, rfl⟩ | ⟨_, h, _, _, rfl⟩
    · simp [hn] at h
    all_goals exact ⟨h, Or.inr rfl⟩
  | rx t' pid sent now buf =>
    simp only [Phase.token, Option.some.injEq] at ht; subst ht
    obtain ⟨hst, _, h3⟩ := step_rx_inv hs
    refine ⟨(stable_inv hst).1, Or.inr ?_⟩
    rcases h3 with ⟨_, _, _, rfl⟩ | ⟨_, _, _, rfl⟩ | ⟨_, _, _, rfl⟩ <;> rfl
  | finByte t' pid sent now ok =>
    simp only [Phase.token, Option.some.injEq] at ht; subst ht
    obtain ⟨hst, _, _, rfl⟩ := step_finByte_inv hs
    exact ⟨(stable_inv hst).1, Or.inr rfl⟩
  | finStrobe t' pid bytes ok responded =>
    simp only [Phase.token, Option.some.injEq] at ht; subst ht
    obtain ⟨hst, _, _, h3⟩ := step_finStrobe_inv hs
    refine ⟨(stable_inv hst).1, ?_⟩
    rcases h3 with ⟨_, rfl⟩ | ⟨_, _, _, rfl⟩
    · exact Or.inl rfl
    · exact Or.inr rfl
  | finWait t' pid bytes =>
    simp only [Phase.token, Option.some.injEq] at ht; subst ht
    obtain ⟨hst, _, h3⟩ := step_finWait_inv hs
    refine ⟨(stable_inv hst).1, ?_⟩
    rcases h3 with ⟨_, rfl⟩ | ⟨_, rfl⟩
    · exact Or.inl rfl
    · exact Or.inr rfl

theorem answered_cases {c : Config} {pk : Phase} {i : In} {pid : Nat} {bytes : List Nat}
    (ha : pk.answered c i = some (pid, bytes)) :
    i.rxReady = true ∧ ∃ t, t.targets c = true ∧
      ((∃ sent now ok, pk = .finByte t pid sent now ok ∧ bytes = sent ++ now.toList) ∨
       (∃ ok r, pk = .finStrobe t pid bytes ok r) ∨ pk = .finWait t pid bytes) := by
  cases pk <;> simp only [Phase.answered] at ha
  case idle => cases ha
  case tok => cases ha
  case rx => cases ha
  all_goals
    split at ha
    · rename_i h
      simp only [Bool.and_eq_true] at h
      cases ha
      refine ⟨h.1, _, h.2, ?_⟩
      first
      | exact Or.inl ⟨_, _, _, rfl, rfl⟩
      | exact Or.inr (Or.inl ⟨_, _, rfl⟩)
      | exact Or.inr (Or.inr rfl)
    · cases ha

theorem run_append {c : Config} {p p' : Phase} {xs ys : List In} (h : Phase.run c p xs = some p') :
    Phase.run c p (xs ++ ys) = Phase.run c p' ys := by
  induction xs generalizing p with
  | nil => simp only [Phase.run, Option.some.injEq] at h; subst h; rfl
  | cons x xs ih =>
    obtain ⟨p1, hs, h⟩ := Phase.run_cons h
    simp only [List.cons_append, Phase.run, hs]
    exact ih h

/-- bytes of the running packet the host has sent so far -/
def Phase.seen : Phase → Nat
  | .idle => 0
  | .tok _ => 0
  | .rx _ _ sent now _ => sent.length + now.toList.length + 1
  | .finByte _ _ sent now _ => sent.length + now.toList.length
  | .finStrobe _ _ bytes _ _ => bytes.length
  | .finWait _ _ bytes => bytes.length

/-- bytes of the running packet the glue logic has handled in earlier cycles -/
def Phase.handled : Phase → Nat
  | .rx _ _ sent _ _ => sent.length
  | .finByte _ _ sent _ _ => sent.length
  | .finStrobe _ _ bytes _ _ => bytes.length
  | .finWait _ _ bytes => bytes.length
  | _ => 0

/-- the byte the detector presents to the glue logic in this cycle -/
def Phase.now : Phase → Option Nat
  | .rx _ _ _ now _ => now
  | .finByte _ _ _ now _ => now
  | _ => none

/-- a token has been seen and the detector has not yet raised the strobe of its packet -/
def Phase.passing : Phase → Bool
  | .tok _ | .rx .. | .finByte .. => true
  | _ => false

def Phase.pid : Phase → Option Nat
  | .rx _ pid _ _ _ | .finByte _ pid _ _ _ | .finStrobe _ pid _ _ _ | .finWait _ pid _ => some pid
  | _ => none

theorem View.next {p : Phase} {o : BoundaryDetector.Out} (h : View p o) :
    o.next = p.now.isSome ∧ (p.now.isSome = true → o.valid = true) ∧
    (p.passing = true → o.completeOut = false ∧ o.invalidOut = false) := by
  cases p <;> simp only [View] at h <;> try (rename_i now _; cases now)
  all_goals simp_all [Phase.now, Phase.passing]

theorem now_some {p : Phase} {x : Nat} (h : p.now = some x) : p.passing = true ∧ ∃ pid, p.pid = some pid := by
  cases p <;> simp_all [Phase.now, Phase.passing, Phase.pid]

theorem handled_step {c : Config} {p p' : Phase} {i : In} (hs : p.step c i = some p') (hn : i.tokNew = false) :
    p' = .idle ∨ (p'.handled = p.handled + p.now.toList.length ∧ (p'.passing = true → p.passing = true) ∧
      (∀ x, p.pid = some x → p'.pid = some x)) := by
  cases p with
  | idle =>
    obtain ⟨_, _, ⟨h, _⟩ | ⟨_, rfl⟩⟩ := step_idle_inv hs
    · simp [hn] at h
    · exact .inl rfl
  | tok t =>
    obtain ⟨_, ⟨h, _⟩ | ⟨_, _, _, _, _, rfl⟩ | ⟨_, _, _, _, rfl⟩ | ⟨_, _, _, _, rfl⟩⟩ := step_tok_inv hs
    · simp [hn] at h
    all_goals exact .inr ⟨rfl, fun _ => rfl, nofun⟩
  | rx t pid sent now buf =>
    obtain ⟨hst, _, ⟨_, _, _, rfl⟩ | ⟨_, _, _, rfl⟩ | ⟨_, _, _, rfl⟩⟩ := step_rx_inv hs <;>
      exact .inr ⟨List.length_append, fun _ => rfl, fun _ h => h⟩
  | finByte t pid sent now ok =>
    obtain ⟨hst, _, _, rfl⟩ := step_finByte_inv hs
    exact .inr ⟨List.length_append, nofun, fun _ h => h⟩
  | finStrobe t pid bytes ok responded =>
    obtain ⟨hst, _, _, ⟨_, rfl⟩ | ⟨_, _, _, rfl⟩⟩ := step_finStrobe_inv hs
    · exact .inl rfl
    · exact .inr ⟨rfl, nofun, fun _ h => h⟩
  | finWait t pid bytes =>
    obtain ⟨hst, _, ⟨_, rfl⟩ | ⟨_, rfl⟩⟩ := step_finWait_inv hs
    · exact .inl rfl
    · exact .inr ⟨rfl, nofun, fun _ h => h⟩

theorem pid_stable {c : Config} {p p' : Phase} {i : In} {x : Nat} (hs : p.step c i = some p') (h : p.pid = some x) :
    i.pidToggle = x := by
  cases p <;> simp only [Phase.pid, Option.some.injEq, reduceCtorEq] at h <;> subst h
  · exact (stable_inv (step_rx_inv hs).1).2.1
  · exact (stable_inv (step_finByte_inv hs).1).2.1
  · exact (stable_inv (step_finStrobe_inv hs).1).2.1
  · exact (stable_inv (step_finWait_inv hs).1).2.1

theorem run_idle_stays {c : Config} {mid : List In} {pk : Phase} (hn : ∀ j ∈ mid, j.tokNew = false)
    (h : Phase.run c .idle mid = some pk) : pk = .idle := by
  induction mid with
  | nil => simp only [Phase.run, Option.some.injEq] at h; exact h.symm
  | cons m ms ih =>
    obtain ⟨p1, hs, h⟩ := Phase.run_cons h
    obtain ⟨_, _, ⟨hnew, _⟩ | ⟨_, rfl⟩⟩ := step_idle_inv hs
    · simp [hn m (by simp)] at hnew
    · exact ih (fun j hj => hn j (by simp [hj])) h

theorem token_run {c : Config} {t : Tok} (mid : List In) : ∀ {p pk : Phase}, Phase.run c p mid = some pk →
    p.token = some t → (∀ j ∈ mid, j.tokNew = false) → pk ≠ .idle →
    pk.token = some t ∧ ∀ j ∈ mid, Tok.of j = t := by
  induction mid with
  | nil =>
    intro p pk h ht _ _
    simp only [Phase.run, Option.some.injEq] at h; subst h
    exact ⟨ht, by simp⟩
  | cons m ms ih =>
    intro p pk h ht hn hpk
    obtain ⟨p1, hs, h⟩ := Phase.run_cons h
    have hn' : ∀ j ∈ ms, j.tokNew = false := fun j hj => hn j (by simp [hj])
    obtain ⟨h1, h2⟩ := token_step hs ht (hn m (by simp))
    rcases h2 with rfl | h2
    · exact absurd (run_idle_stays hn' h) hpk
    · obtain ⟨a, b⟩ := ih h h2 hn' hpk
      refine ⟨a, ?_⟩
      intro j hj
      simp only [List.mem_cons] at hj
      rcases hj with rfl | hj
      · exact h1
      · exact b j hj

theorem answered_seen {c : Config} {pk : Phase} {i : In} {pid : Nat} {bytes : List Nat}
    (ha : pk.answered c i = some (pid, bytes)) : pk.seen = bytes.length := by
  obtain ⟨-, t, -, ⟨_, _, _, rfl, rfl⟩ | ⟨_, _, rfl⟩ | rfl⟩ := answered_cases ha <;> simp [Phase.seen]

theorem answered_handled {c : Config} {pk : Phase} {i : In} {pid : Nat} {bytes : List Nat}
    (ha : pk.answered c i = some (pid, bytes)) :
    pk.pid = some pid ∧ bytes.length = pk.handled + pk.now.toList.length := by
  obtain ⟨-, t, -, ⟨_, _, _, rfl, rfl⟩ | ⟨_, _, rfl⟩ | rfl⟩ := answered_cases ha <;>
    simp [Phase.pid, Phase.handled, Phase.now]

theorem handled_le_answered {c : Config} {p pk : Phase} {mid : List In} {i : In} {pid : Nat} {bytes : List Nat}
    (hn : ∀ j ∈ mid, j.tokNew = false) (h : Phase.run c p mid = some pk)
    (ha : pk.answered c i = some (pid, bytes)) : p.handled + p.now.toList.length ≤ bytes.length := by
  induction mid generalizing p with
  | nil =>
    simp only [Phase.run, Option.some.injEq] at h; subst h
    exact Nat.le_of_eq (answered_handled ha).2.symm
  | cons m ms ih =>
    obtain ⟨p1, hs, h⟩ := Phase.run_cons h
    have hn' : ∀ j ∈ ms, j.tokNew = false := fun j hj => hn j (by simp [hj])
    rcases handled_step hs (hn m (by simp)) with rfl | ⟨hh, _⟩
    · have := run_idle_stays hn' h
      subst this
      simp [Phase.answered] at ha
    · have := ih hn' h
      omega

theorem answered_tokNew {c : Config} {pk p' : Phase} {i : In} {x : Nat × List Nat}
    (hs : pk.step c i = some p') (ha : pk.answered c i = some x) : i.tokNew = false := by
  obtain ⟨-, t, -, ⟨_, _, _, rfl, -⟩ | ⟨_, _, rfl⟩ | rfl⟩ := answered_cases (pid := x.1) (bytes := x.2) ha
  · exact (stable_inv (step_finByte_inv hs).1).2.2.1
  · exact (stable_inv (step_finStrobe_inv hs).1).2.2.1
  · exact (stable_inv (step_finWait_inv hs).1).2.2.1

def Phase.forUs (c : Config) (p : Phase) : Bool := p.token.any (·.targets c)

theorem forUs_of_token {c : Config} {p : Phase} {t : Tok} (h : p.token = some t) : p.forUs c = t.targets c := by
  rw [Phase.forUs, h]; rfl

theorem answered_forUs {c : Config} {pk : Phase} {i : In} {x : Nat × List Nat}
    (ha : pk.answered c i = some x) : pk.forUs c = true := by
  obtain ⟨-, t, ht, ⟨_, _, _, rfl, -⟩ | ⟨_, _, rfl⟩ | rfl⟩ := answered_cases (pid := x.1) (bytes := x.2) ha <;>
    exact ht

theorem seen_le_mps_step {c : Config} {p p' : Phase} {i : In} (hs : p.step c i = some p')
    (h : p.forUs c = true → p.seen ≤ c.mps) : p'.forUs c = true → p'.seen ≤ c.mps := by
  cases p with
  | idle =>
    obtain ⟨_, _, h3⟩ := step_idle_inv hs
    rcases h3 with ⟨_, _, rfl⟩ | ⟨_, rfl⟩ <;> simp [Phase.seen]
  | tok t =>
    obtain ⟨_, h3⟩ := step_tok_inv hs
    rcases h3 with ⟨_, _, _, rfl⟩ | ⟨_, _, _, _, hm, rfl⟩ | ⟨_, _, _, _, rfl⟩ | ⟨_, _, _, _, rfl⟩ <;>
      simp [Phase.seen, Phase.forUs, Phase.token]
    exact lenOk_inv hm
  | rx t pid sent now buf =>
    obtain ⟨_, _, h3⟩ := step_rx_inv hs
    simp only [Phase.seen, Phase.forUs, Phase.token] at h
    rcases h3 with ⟨_, _, hm, rfl⟩ | ⟨_, _, _, rfl⟩ | ⟨_, _, _, rfl⟩ <;>
      simp only [Phase.seen, Phase.forUs, Phase.token] <;> intro hT
    · have := lenOk_inv hm hT
      simp only [List.length_append, Option.toList]
      cases now <;> simp_all <;> omega
    · have := h hT
      cases now <;> simp_all
    · have := h hT
      cases now <;> simp_all <;> omega
  | finByte t pid sent now ok =>
    obtain ⟨_, _, _, rfl⟩ := step_finByte_inv hs
    simpa [Phase.seen, Phase.forUs, Phase.token] using h
  | finStrobe t pid bytes ok responded =>
    obtain ⟨_, _, _, h3⟩ := step_finStrobe_inv hs
    rcases h3 with ⟨_, rfl⟩ | ⟨_, _, _, rfl⟩ <;> simp [Phase.seen, Phase.forUs, Phase.token] <;> exact h
  | finWait t pid bytes =>
    obtain ⟨_, _, h3⟩ := step_finWait_inv hs
    rcases h3 with ⟨_, rfl⟩ | ⟨_, rfl⟩ <;> simp [Phase.seen, Phase.forUs, Phase.token] <;> exact h

theorem seen_le_mps {c : Config} {p pk : Phase} {ins : List In} (h : Phase.run c p ins = some pk)
    (hp : p.forUs c = true → p.seen ≤ c.mps) : pk.forUs c = true → pk.seen ≤ c.mps := by
  induction ins generalizing p with
  | nil => simp only [Phase.run, Option.some.injEq] at h; subst h; exact hp
  | cons m ms ih =>
    obtain ⟨p1, hs, h⟩ := Phase.run_cons h
    exact ih h (seen_le_mps_step hs hp)

theorem answered_le_mps {c : Config} {t : Tok} {pk : Phase} {mid : List In} {i : In} {pid : Nat} {bytes : List Nat}
    (h : Phase.run c (.tok t) mid = some pk) (ha : pk.answered c i = some (pid, bytes)) : bytes.length ≤ c.mps := by
  rw [← answered_seen ha]
  exact seen_le_mps h (by simp [Phase.seen]) (answered_forUs ha)

end LunaVerif.StreamOutEndpoint
