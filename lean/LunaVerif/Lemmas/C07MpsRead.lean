import LunaVerif.Lemmas.C07Mps
import LunaVerif.Lemmas.C07StreamContracts
import LunaVerif.Props.C09
/-!
# The GET_DESCRIPTOR data stage at every legal control max packet size (event level, `coreM` / `stepM`)

`get_descriptor_data_stage_mps`: in the event-level model with the `start_position` advance by `max_packet_size`
(Model/Device/ControlM.lean), for `max_packet_size ∈ {8, 16, 32, 64}`, a host that reads the data stage of a GET_DESCRIPTOR
transfer by IN token + ACK pairs receives exactly C09's `Desc.dataStage d wLength mps`: the chunks of the first
`wLength` bytes of the descriptor of size `mps` (up to `⌈min(wLength, |d|) / mps⌉` packets, `start_position` =
0, mps, 2·mps, …), then a zero-length packet iff the total is a multiple of `mps` and smaller than `wLength`; under
DATA1, DATA0, DATA1, … .  Together with `cycle_refines_event_streams_run_mps` this is what the cycle-level model of the
control endpoint puts on the bus (`cyc_get_descriptor_data_stage_mps`).
-/
namespace LunaVerif.CtrlCyc
open LunaVerif.Device

/-- The standard handler serves packet `k` of the data stage of a standard GET_DESCRIPTOR(`v`, wLength `l`) transfer
of the device at address `a`. -/
structure Reading (c : DevConfig) (v l a : Nat) (d : DevState) (k : Nat) : Prop where
  stage  : d.stage = .dataIn
  hstate : d.hstate = .getDescriptor
  ty     : d.setup.type = TYPE_STANDARD
  value  : d.setup.value = v
  length : d.setup.length = l
  addr   : d.address = a
  pos    : d.startPos = (k * c.maxPacket) % 2048
  pid    : d.txPid = decide (k % 2 = 0)

def readScript (a : Nat) : Nat → List Stim
  | 0 => []
  | n + 1 => ⟨.token PID_IN a 0, .none⟩ :: ⟨.handshake PID_ACK, .none⟩ :: readScript a n

def readResps : Nat → List (List Nat) → List Resp
  | _, [] => []
  | k, p :: ps => .data (if k % 2 = 0 then PID_DATA1 else PID_DATA0) p :: .none :: readResps (k + 1) ps

theorem coreM_data_in (c : DevConfig) (d : DevState) (hs : d.stage = .dataIn) :
    tokenStage d PID_IN 0 = .dataIn ∧
    coreM c d (.token PID_IN d.address 0) = request c (afterToken d PID_IN 0) .data := by
  have hst : tokenStage d PID_IN 0 = .dataIn := by simp [tokenStage, hs, PID_IN, PID_SETUP, PID_OUT, PID_PING]
  have : (afterToken d PID_IN 0).stage = .dataIn := hst
  exact ⟨hst, by simp only [coreM, core, if_true, onToken, this]⟩

theorem read_in (c : DevConfig) (hx : c.extra = []) (v l a : Nat) (d : DevState) (k : Nat) (b : List Nat)
    (hr : Reading c v l a d k) (hp : descriptorPacket c v l d.startPos = some b) :
    stepM c d ⟨.token PID_IN a 0, .none⟩ =
      ({ d with tokPid := PID_IN, tokEp := 0, sdWait := false, expectingAck := true,
                gRespData := true, gRespLen := b.length, gPrevTok := PID_IN },
       .data (if k % 2 = 0 then PID_DATA1 else PID_DATA0) b) := by
  obtain ⟨h1, h2, h3, h4, h5, h6, h7, h8⟩ := hr
  have hreq : request c (afterToken d PID_IN 0) .data =
      ({ afterToken d PID_IN 0 with expectingAck := true }, .data (dataPid d) b) := by
    rw [request_noextra c hx]
    simp [afterToken, h3, stdRequest, h2, h4, h5, hp, dataPid]
  obtain ⟨hst, hcore⟩ := coreM_data_in c d h1
  rw [h6, hreq] at hcore
  have hpid : dataPid d = if k % 2 = 0 then PID_DATA1 else PID_DATA0 := by
    unfold dataPid; rw [h8]; by_cases hk : k % 2 = 0 <;> simp [hk]
  have hst9 : tokenStage d 9 0 = d.stage := by rw [h1]; exact hst
  simp only [stepM, hcore, hpid]
  simp [afterToken, hst9, Resp.isNone, Resp.isData, Resp.dataLen, tokenPidOf, PID_IN, PID_SETUP]

theorem read_ack (c : DevConfig) (d : DevState) (hh : d.hstate = .getDescriptor) (hty : d.setup.type = TYPE_STANDARD)
    (hep : d.tokEp = 0) (hpid : d.tokPid = PID_IN) (hea : d.expectingAck = true) :
    stepM c d ⟨.handshake PID_ACK, .none⟩ =
      ({ d with startPos := (d.startPos + c.maxPacket) % 2048, txPid := !d.txPid, expectingAck := false,
                gDataDone := if d.gRespLen < c.maxPacket then true else d.gDataDone,
                gRespData := false, gRespLen := 0, gPrevTok := 0 }, .none) := by
  simp only [stepM, coreM, onHandshakeM, hep, hpid, hty, and_self, if_true, stdAckM, hh, hea]
  by_cases hl : d.gRespLen < c.maxPacket <;>
    simp [hl, Resp.isNone, Resp.isData, Resp.dataLen, tokenPidOf]

theorem read_pair (c : DevConfig) (hx : c.extra = []) (v l a : Nat) (d : DevState) (k : Nat) (b : List Nat)
    (hr : Reading c v l a d k) (hp : descriptorPacket c v l ((k * c.maxPacket) % 2048) = some b) :
    (stepM c d ⟨.token PID_IN a 0, .none⟩).2 = .data (if k % 2 = 0 then PID_DATA1 else PID_DATA0) b ∧
    (stepM c (stepM c d ⟨.token PID_IN a 0, .none⟩).1 ⟨.handshake PID_ACK, .none⟩).2 = .none ∧
    Reading c v l a (stepM c (stepM c d ⟨.token PID_IN a 0, .none⟩).1 ⟨.handshake PID_ACK, .none⟩).1 (k + 1) := by
  rw [← hr.pos] at hp
  have h := read_in c hx v l a d k b hr hp
  have ha := read_ack c (stepM c d ⟨.token PID_IN a 0, .none⟩).1 (by rw [h]; exact hr.hstate) (by rw [h]; exact hr.ty)
    (by rw [h]) (by rw [h]) (by rw [h])
  refine ⟨by rw [h], by rw [ha], ?_⟩
  rw [ha, h]
  obtain ⟨h1, h2, h3, h4, h5, h6, h7, h8⟩ := hr
  refine ⟨h1, h2, h3, h4, h5, h6, ?_, ?_⟩
  · show (d.startPos + c.maxPacket) % 2048 = ((k + 1) * c.maxPacket) % 2048
    rw [h7, Nat.succ_mul]; omega
  · show (!d.txPid) = decide ((k + 1) % 2 = 0)
    rw [h8]
    by_cases hk : k % 2 = 0
    · have : ¬ (k + 1) % 2 = 0 := by omega
      simp [hk, this]
    · have : (k + 1) % 2 = 0 := by omega
      simp [hk, this]

theorem descriptorPacket_dataStage (c : DevConfig) (v l : Nat) (dd : List Nat) (hmp : 0 < c.maxPacket) (hl : l < 65536)
    (hlk : lookupDescriptor c.descriptors (v / 256 % 256) (v % 256) = some dd) (hpb : dd.length < 2 ^ c.posBits)
    (h11 : min l dd.length < 2048) (j : Nat) (p : List Nat) (h : (Desc.dataStage dd l c.maxPacket)[j]? = some p) :
    descriptorPacket c v l ((j * c.maxPacket) % 2048) = some p := by
  obtain ⟨h1, _, h3, _⟩ := Desc.dataStage_get dd l c.maxPacket hmp j p h
  have hs := descriptorPacket_spec c v l (j * c.maxPacket) hmp hl
    (fun d hd => by rw [hlk] at hd; cases hd; exact ⟨h1, hpb⟩)
  rw [hlk, h3] at hs
  rw [Nat.mod_eq_of_lt (by omega)]
  cases p with
  | nil => exact descResp_zlp hs
  | cons b bs => exact descResp_data hs

/-- For ANY list `ps` of packets served at the successive offsets from packet `k` on: the induction needs the generality. -/
theorem read_list (c : DevConfig) (hx : c.extra = []) (v l a : Nat) (ps : List (List Nat)) :
    ∀ (k : Nat) (d : DevState), Reading c v l a d k →
      (∀ j p, ps[j]? = some p → descriptorPacket c v l (((k + j) * c.maxPacket) % 2048) = some p) →
      respsM c d (readScript a ps.length) = readResps k ps := by
  induction ps with
  | nil => intro k d _ _; rfl
  | cons p ps ih =>
    intro k d hr hp
    obtain ⟨q1, q2, q3⟩ := read_pair c hx v l a d k p hr (hp 0 p rfl)
    simp only [List.length_cons, readScript, respsM, readResps, q1, q2]
    rw [ih (k + 1) _ q3 fun j p' hj => by rw [Nat.add_right_comm k 1 j]; exact hp (j + 1) p' hj]

/-- **The GET_DESCRIPTOR data stage for every legal control max packet size.**  `c.maxPacket ∈ {8, 16, 32, 64}`, no
additional request handlers; the device (event-level model `stepM`) has latched a standard GET_DESCRIPTOR request for an
existing descriptor `dd` with `min(wLength, |dd|) < 2048` (the 11-bit `start_position` does not wrap) and is at the
start of its data stage (`Reading … 0`: stage DATA_IN, `start_position = 0`, DATA1).  The host reads with IN token +
ACK pairs.  Then the device answers the IN tokens with exactly the packets of `Desc.dataStage dd wLength mps` -- chunk
`k` = bytes `k·mps … k·mps + mps - 1` of the first `wLength` bytes of the descriptor (the advance of `start_position`
by `mps` per ACK), the last one possibly short, and one zero-length packet iff `min(wLength, |dd|)` is a multiple of
`mps` and smaller than `wLength` -- under DATA1, DATA0, DATA1, …, and transmits nothing after the ACKs. -/
theorem get_descriptor_data_stage_mps (c : DevConfig) (hx : c.extra = [])
    (hm : c.maxPacket = 8 ∨ c.maxPacket = 16 ∨ c.maxPacket = 32 ∨ c.maxPacket = 64) (v l a : Nat) (dd : List Nat)
    (hl : l < 65536)
    (hlk : lookupDescriptor c.descriptors (v / 256 % 256) (v % 256) = some dd) (hpb : dd.length < 2 ^ c.posBits)
    (h11 : min l dd.length < 2048) (d : DevState) (hr : Reading c v l a d 0) :
    respsM c d (readScript a (Desc.dataStage dd l c.maxPacket).length) = readResps 0 (Desc.dataStage dd l c.maxPacket) :=
  read_list c hx v l a _ 0 d hr fun j p hj => by
    rw [Nat.zero_add]; exact descriptorPacket_dataStage c v l dd (by omega) hl hlk hpb h11 j p hj

/-- There are at most `⌈min(wLength, |dd|) / mps⌉ + 1` packets.  (That they concatenate to the first `wLength` bytes of
the descriptor, each at most `max_packet_size` long, is C09 `dataStage_concat`, `dataStage_packet_le`.) -/
theorem dataStage_count (dd : List Nat) (l mps : Nat) :
    (Desc.dataStage dd l mps).length ≤ (min l dd.length + mps - 1) / mps + 1 := by
  rw [Desc.dataStage_length]
  split <;> omega

/-! ### The same on the bus of the cycle-level model -/

theorem stepM_resp_noforeign (c : DevConfig) (d : DevState) (x : Stim) (hf : x.foreign = .none) :
    (stepM c d x).2 = (coreM c d x.ev).2 := by
  simp only [stepM, hf]
  split
  · rename_i h
    cases hc : (coreM c d x.ev).2 <;> simp_all [Resp.isNone]
  · rfl

theorem respsM_noforeign (c : DevConfig) (d : DevState) (h : List Stim) (hf : ∀ x ∈ h, x.foreign = .none) :
    respsM c d h = coreRespsM c d h := by
  induction h generalizing d with
  | nil => rfl
  | cons x xs ih =>
    simp only [respsM, coreRespsM, stepM_resp_noforeign c d x (hf x (List.mem_cons_self ..))]
    rw [ih _ (fun y hy => hf y (List.mem_cons_of_mem _ hy))]

theorem readScript_noforeign (a n : Nat) : ∀ x ∈ readScript a n, x.foreign = .none := by
  induction n with
  | zero => intro x hx; simp [readScript] at hx
  | succ n ih =>
    intro x hx
    simp only [readScript, List.mem_cons] at hx
    rcases hx with rfl | rfl | hx
    · rfl
    · rfl
    · exact ih x hx

theorem readScript_length (a n : Nat) : (readScript a n).length = 2 * n := by
  induction n with
  | zero => rfl
  | succ n ih => simp only [readScript, List.length_cons, ih]; omega

/-- **The GET_DESCRIPTOR data stage on the bus of the cycle-level model, every legal control max packet size.**  The
cycle-level composition (`CtrlCyc.step`, `max_packet_size = c.maxPacket ∈ {8, 16, 32, 64}`), started in any state
related to an event-level state at the beginning of the data stage of a standard GET_DESCRIPTOR transfer, and run over
the clock cycles of the host's IN + ACK pairs (any idle-cycle counts, free inputs, streamer latencies and `tx.ready`
patterns `gs` that let each packet finish within its window), puts exactly `Desc.dataStage dd wLength mps` on the bus:
the `mps`-sized chunks of the first `wLength` bytes of the descriptor and the zero-length packet iff their total is a
multiple of `mps` and smaller than `wLength`, under DATA1 / DATA0 alternating. -/
theorem cyc_get_descriptor_data_stage_mps (c : DevConfig) (hx : c.extra = [])
    (hm : c.maxPacket = 8 ∨ c.maxPacket = 16 ∨ c.maxPacket = 32 ∨ c.maxPacket = 64) (v l a : Nat) (dd : List Nat)
    (hl : l < 65536)
    (hlk : lookupDescriptor c.descriptors (v / 256 % 256) (v % 256) = some dd) (hpb : dd.length < 2 ^ c.posBits)
    (h11 : min l dd.length < 2048) (d : DevState) (hinv : Inv d) (hcfg : d.config < 256) (hr : Reading c v l a d 0)
    (gs : List GapsS) (hgs : gs.length = 2 * (Desc.dataStage dd l c.maxPacket).length)
    (hfit : FitsFromM c d ((readScript a (Desc.dataStage dd l c.maxPacket).length).zip gs) = true)
    (cs : CycState) (hrel : Rel d cs) :
    busRespsM c d cs ((readScript a (Desc.dataStage dd l c.maxPacket).length).zip gs) =
      readResps 0 (Desc.dataStage dd l c.maxPacket) := by
  have hmap : ((readScript a (Desc.dataStage dd l c.maxPacket).length).zip gs).map (·.1) =
      readScript a (Desc.dataStage dd l c.maxPacket).length := by
    apply List.map_fst_zip
    rw [readScript_length, hgs]; exact Nat.le_refl _
  obtain ⟨_, h2, _⟩ := cycle_refines_event_streams_run_mps c hx _ d hinv hcfg hfit cs hrel
  rw [h2, hmap, ← respsM_noforeign c d _ (readScript_noforeign a _)]
  exact get_descriptor_data_stage_mps c hx hm v l a dd hl hlk hpb h11 d hr

/-! ### Non-vacuity -/

def exCfgR : DevConfig :=
  { descriptors := [(1, 0, [18, 1, 0, 2, 0, 0, 0, 8, 9, 18, 1, 0, 0, 1, 1, 2, 3, 1]), (2, 0, List.range 16)],
    maxPacket := 8, posBits := 5 }

/-- the state after SETUP token + SETUP data of GET_DESCRIPTOR(`v`, wLength `l`) from reset. -/
def exAfterSetup (c : DevConfig) (v l : Nat) : DevState :=
  finalM c Device.init [⟨.token PID_SETUP 0 0, .none⟩, ⟨.data PID_DATA0 [0x80, 6, v % 256, v / 256, 0, 0, l % 256, l / 256] true, .none⟩]

example : Reading exCfgR 0x100 64 0 (exAfterSetup exCfgR 0x100 64) 0 := by
  constructor <;> decide
example : Desc.dataStage [18, 1, 0, 2, 0, 0, 0, 8, 9, 18, 1, 0, 0, 1, 1, 2, 3, 1] 64 8 =
    [[18, 1, 0, 2, 0, 0, 0, 8], [9, 18, 1, 0, 0, 1, 1, 2], [3, 1]] := by decide
example : respsM exCfgR (exAfterSetup exCfgR 0x100 64) (readScript 0 3) =
    [.data PID_DATA1 [18, 1, 0, 2, 0, 0, 0, 8], .none, .data PID_DATA0 [9, 18, 1, 0, 0, 1, 1, 2], .none,
     .data PID_DATA1 [3, 1], .none] := by decide +kernel
-- 16 bytes, wLength 64: two full packets and the zero-length packet; wLength 16: no zero-length packet
example : Reading exCfgR 0x200 64 0 (exAfterSetup exCfgR 0x200 64) 0 := by
  constructor <;> decide
example : Desc.dataStage (List.range 16) 64 8 = [[0, 1, 2, 3, 4, 5, 6, 7], [8, 9, 10, 11, 12, 13, 14, 15], []] := by
  decide
example : Desc.dataStage (List.range 16) 16 8 = [[0, 1, 2, 3, 4, 5, 6, 7], [8, 9, 10, 11, 12, 13, 14, 15]] := by decide

-- the window hypothesis of `cyc_get_descriptor_data_stage_mps`: latency 2, a stalled cycle, then 12 accepting cycles
def exGR : GapsS := { pre := [{}], mid := [{}], post := [{}], lat := 2,
                      stream := ([{}, {}, {}] : List CycIn) ++ List.replicate 12 ({ txReady := true } : CycIn) }
example : FitsFromM exCfgR (exAfterSetup exCfgR 0x100 64) ((readScript 0 3).zip (List.replicate 6 exGR)) = true := by
  decide +kernel
example : Inv (exAfterSetup exCfgR 0x100 64) := inv_finalM _ _ _ inv_init

end LunaVerif.CtrlCyc
