import LunaVerif.Lemmas.C36RoundTripGaps
/-!
# C36 — `rx_of_tx`: the frame, received by the link-layer receiver models

The words of `frame hdr payload` (`Lemmas/C36Frame.lean`; `tx_emits_frame` proves that these are the
words the transmitter puts on the wire) are fed to

* `HeaderRx.RawRx` — the model of `RawHeaderPacketReceiver` (C37; `Lemmas/C36HeaderRxGaps.lean`), and
* `DataPacketReceiver` — the model of `DataPacketReceiver` (C40, after its repairs;
  `Lemmas/C36RoundTripGaps.lean`),

both starting from reset.  Result: the header receiver delivers exactly the header that was sent
(`new_packet`, `packet` = DWORD 0..3), the data receiver publishes the same header, delivers exactly
the payload bytes, and raises `packet_good` once and `packet_bad` never.
-/
namespace LunaVerif.RoundTrip

open LunaVerif.RawPacketTransmitter (Header frame)

/-- **C36 `rx_of_tx`.**  For every DATA header (type 0b01000, not delayed, well-formed fields) and every
payload whose length is the header's length field (0..1024 and beyond — up to the 11-bit counter of the
receiver —, every residue mod 4): the words `frame hdr payload` — which by `tx_emits_frame` are exactly
what the transmitter puts on the wire — received from reset

* by the header receiver (`expected_sequence` = the header's sequence number; one more non-header word
  following): `new_packet` exactly once with `packet` = the header sent (DWORD 0..2 and DWORD 3 =
  CRC-16 | link control word | CRC-5); `bad_packet`, `bad_sequence` never;
* by the data receiver: exactly the payload bytes on `source`, exactly one verdict, never
  `packet_bad` (hence `packet_good` once), `header` = the header sent, back in WAIT_FOR_HPSTART. -/
theorem rx_of_tx (hdr : Header) (payload : List Nat) (hw : hdr.wf) (hb : ∀ x ∈ payload, x < 256)
    (hty : hdr.dw0 % 32 = 8) (hnd : hdr.lcw / 2 ^ 9 % 2 = 0)
    (hlen : payload.length = hdr.dw1 / 2 ^ 16 % 2 ^ 11)
    (x : Nat × Nat) (hx : HeaderRx.RawRx.isHpStart (hrxIn x) = false) :
    (let sts := hrxStates HeaderRx.RawRx.init (hdr.lcw % 8) (frame hdr payload ++ [x])
     (sts.filter (·.newPkt)).map (·.outPkt) = [hrxHdr hdr] ∧
     (∀ t ∈ HeaderRx.RawRx.init :: sts,
       HeaderRx.RawRx.badPacket t = false ∧ HeaderRx.RawRx.badSequence t (hdr.lcw % 8) = false)) ∧
    (let outs := DataPacketReceiver.run DataPacketReceiver.init (rxIns (frame hdr payload))
     DataPacketReceiver.allLaneBytes outs = payload ∧
     DataPacketReceiver.countVerdicts outs = 1 ∧ (∀ o ∈ outs, o.bad = false) ∧
     (DataPacketReceiver.final DataPacketReceiver.init (rxIns (frame hdr payload))).outHdr = dprHdr hdr ∧
     (DataPacketReceiver.final DataPacketReceiver.init (rxIns (frame hdr payload))).fsm = .waitHp) :=
  ⟨hrx_of_frame hdr payload hw hb x hx, dpr_of_frame hdr payload hw hb hty hnd hlen⟩

theorem one_verdict_not_bad_is_good (outs : List DataPacketReceiver.Out)
    (h1 : DataPacketReceiver.countVerdicts outs = 1) (h2 : ∀ o ∈ outs, o.bad = false) :
    (outs.filter (·.good)).length = 1 := by
  have key : ∀ os : List DataPacketReceiver.Out, (∀ o ∈ os, o.bad = false) →
      (os.filter (·.good)).length = DataPacketReceiver.countVerdicts os := by
    intro os hos
    induction os with
    | nil => rfl
    | cons o os ih =>
      have := ih (fun o' ho' => hos o' (List.mem_cons_of_mem _ ho'))
      cases hg : o.good <;>
        simp [DataPacketReceiver.countVerdicts, DataPacketReceiver.verdict, DataPacketReceiver.b2n, hg,
          hos o List.mem_cons_self, this] <;> omega
  rw [key outs h2, h1]

-- non-vacuity: a DATA header announcing 5 bytes, and a zero-length one
example : (⟨8 + 32 * 5, 5 * 65536, 0x1234, 3⟩ : Header).wf ∧ (8 + 32 * 5) % 32 = 8 ∧ 3 / 2 ^ 9 % 2 = 0 ∧
    [1, 2, 3, 4, 5].length = 5 * 65536 / 2 ^ 16 % 2 ^ 11 := by decide
example : (⟨8, 0, 0, 0x47⟩ : Header).wf ∧ 8 % 32 = 8 ∧ 0x47 / 2 ^ 9 % 2 = 0 ∧
    ([] : List Nat).length = 0 / 2 ^ 16 % 2 ^ 11 := by decide
example : HeaderRx.RawRx.isHpStart (hrxIn (0, 0)) = false := by decide

end LunaVerif.RoundTrip
