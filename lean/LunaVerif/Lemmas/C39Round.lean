import LunaVerif.Props.C39
/-!
# C39 — control invariant of the dispatch FSM / raw transmitter handshake (helper for the retry round)

`Ctl.Inv` ties `packets_to_send`, the read pointer and `retry_pending` to the FSM state and to whether the
raw transmitter is busy with the header at the read pointer (`cur`):

* state by state (`Ctl.St`): DISPATCH_PACKET is only ever entered with an idle raw transmitter; WAIT_FOR_SEND
  with a pending retry means a (stale) packet is in flight; a state in which a completion dequeues (`active`:
  WAIT_FOR_RETRY, WAIT_FOR_SEND without a pending retry) has something to send;
* the headers that still have to be *latched* (`toLatch = packets_to_send − [cur]`) are among the
  `packets_awaiting_ack` unacknowledged ones, and they are the youngest of them: read pointer +
  `packets_to_send` = acknowledge pointer + `packets_awaiting_ack` (= write pointer) mod 4.

`St` is preserved state by state (`st_step`: where each FSM state goes and what holds there; `pos_step` is the
counter arithmetic for "something to send").  The two numeric clauses need one fact about the FSM,
`Ctl.cur_step`: the raw transmitter is busy with the header at the read pointer after a cycle iff there was no
LBAD and it was busy and has not finished, or it latches.  The rest is counter arithmetic (`pts_step`, `paa_step`,
`nCur_step`).

Environment needed beyond `EnvStep`: the partner acknowledges a header only after its (re)transmission has
at least been started in the current round (`ackSent`): an LGOOD for a header that has not been put on the
wire since the last LBAD / was never sent cannot come from a partner that follows the protocol.
-/
namespace LunaVerif.PacketTx
open LunaVerif.HeaderRx (Hdr Bufs bufQ)

theorem step_raw (c : Config) (s : State) (i : In) : (step c s i).1.raw = rawNext s i := rfl

theorem rawDone_not_idle {s : State} {i : In} (h : rawDone s i = true) : (s.raw == .idle) = false := by
  cases hr : s.raw <;> simp [rawDone, hr] at h ⊢

theorem rawNext_idle (s : State) (i : In) :
    (rawNext s i == .idle) = ((s.raw == .idle && !generate s i) || rawDone s i) := by
  unfold rawNext rawDone
  cases s.raw <;> simp [apply_ite (· == Raw.idle), Bool.beq_eq_decide_eq]

/-! ### the control part of the state and its step -/

/-- control part of the state: FSM, whether the raw transmitter is idle, `retry_pending`, the counters
and pointers -/
structure Ctl where
  fsm : Fsm
  idle : Bool
  rpend : Bool
  pts : Nat
  paa : Nat
  rp : Nat
  ap : Nat

/-- what happens in a cycle, as far as the control part is concerned -/
structure Ev where
  L : Bool        -- retry_required (LBAD)
  e : Bool        -- enqueue_send
  r : Bool        -- retire_packet
  dn : Bool       -- packet_tx.done
  lrty : Bool     -- lrty_pending
  bring : Bool    -- bringup_complete

def ctlOf (s : State) : Ctl := ⟨s.fsm, s.raw == .idle, s.retryPending, s.pts, s.paa, s.rp, s.ap⟩
def evOf (s : State) (i : In) : Ev := ⟨retryRequired s, enq s i, retire s, rawDone s i, i.lrtyPending, s.bringup⟩

namespace Ctl
def gen (k : Ctl) (v : Ev) : Bool :=
  match k.fsm with
  | .dispatch => false | .waitSend => true | .waitRetry => !v.lrty | .flush => false
def deq (k : Ctl) (v : Ev) : Bool :=
  match k.fsm with
  | .dispatch => false | .waitSend => v.dn && !k.rpend | .waitRetry => v.dn | .flush => false
/-- the raw transmitter latches `packet_tx.header` in this cycle -/
def latch (k : Ctl) (v : Ev) : Bool := k.idle && gen k v

def step (k : Ctl) (v : Ev) : Ctl :=
  { fsm := match k.fsm with
      | .dispatch => if v.bring && k.pts != 0
          then (if !k.rpend && !v.L then .waitSend else .waitRetry) else .dispatch
      | .waitSend => if v.dn then .dispatch else .waitSend
      | .waitRetry => if v.L then .flush else if v.dn && k.pts == 1 then .dispatch else .waitRetry
      | .flush => if k.idle || v.dn then .dispatch else .flush
    idle := (k.idle && !gen k v) || v.dn
    rpend := if k.fsm == .waitRetry && v.dn && k.pts == 1 && !v.L then false
      else if v.L then true else k.rpend
    pts := if v.L then (if v.e then (k.paa + 1) % 8 else k.paa)
      else if v.e && !deq k v then (k.pts + 1) % 8
      else if deq k v && !v.e then (k.pts + 7) % 8 else k.pts
    paa := if v.e && !v.r then (k.paa + 1) % 8
      else if v.r && !v.e && k.paa != 0 then (k.paa + 7) % 8 else k.paa
    rp := if v.L then k.ap else if deq k v then (k.rp + 1) % 4 else k.rp
    ap := if v.r then (k.ap + 1) % 4 else k.ap }

/-! ### the control invariant -/

/-- the FSM is in a state in which the completion of the raw transmitter dequeues the header at the read
pointer -/
def active (k : Ctl) : Bool := k.fsm == .waitRetry || (k.fsm == .waitSend && !k.rpend)
/-- the raw transmitter is busy with the header at the read pointer (latched in this visit of the state) -/
def cur (k : Ctl) : Bool := active k && !k.idle
def nCur (k : Ctl) : Nat := if cur k then 1 else 0
/-- number of headers that still have to be handed to the raw transmitter -/
def toLatch (k : Ctl) : Nat := k.pts - nCur k

/-- what the FSM state says: DISPATCH_PACKET has an idle raw transmitter, WAIT_FOR_SEND with a pending retry a
(stale) packet in flight, an `active` state something to send -/
def St (k : Ctl) : Prop :=
  match k.fsm with
  | .dispatch => k.idle = true
  | .waitSend => if k.rpend then k.idle = false else 1 ≤ k.pts
  | .waitRetry => 1 ≤ k.pts
  | .flush => True

structure Inv (k : Ctl) : Prop where
  st   : St k
  bLe  : k.pts ≤ k.paa + nCur k
  rpWp : (k.rp + k.pts) % 4 = (k.ap + k.paa) % 4

/-- what the environment (and the rest of the state) guarantees about the events of a cycle -/
structure EvOk (k : Ctl) (v : Ev) : Prop where
  dnBusy : v.dn = true → k.idle = false
  lNotR  : v.L = true → v.r = false
  paa4   : k.paa ≤ 4
  ackSent : v.r = true → k.pts < k.paa + nCur k
end Ctl

/-! ### the control part follows the model -/

theorem latch_eq (s : State) (i : In) : latch s i = (ctlOf s).latch (evOf s i) := rfl

/-- `generate`, `deq` and `fsmNext` are the same `match` on the FSM state as `Ctl.gen`, `Ctl.deq` and the `fsm` field
of `Ctl.step`, so the fields agree by `rfl`. -/
theorem ctlOf_step (c : Config) (s : State) (i : In) (hen : i.enable = true) :
    ctlOf (step c s i).1 = (ctlOf s).step (evOf s i) := by
  simp only [ctlOf, evOf, Ctl.step, step_fsm, step_raw, step_retryPending, step_pts, step_paa, step_rp, step_ap,
    hen, rawNext_idle, Bool.not_true, Bool.false_eq_true, if_false, Ctl.mk.injEq]
  exact ⟨rfl, rfl, rfl, rfl, rfl, rfl, rfl⟩

/-! ### one cycle of the control part: its registers, `active`, `cur` -/

namespace Ctl

variable {k : Ctl} {v : Ev}

section eqs
variable (k v)
theorem step_rpend : (k.step v).rpend = if k.fsm == .waitRetry && v.dn && k.pts == 1 && !v.L then false
    else if v.L then true else k.rpend := rfl
theorem step_pts : (k.step v).pts = if v.L then (if v.e then (k.paa + 1) % 8 else k.paa)
    else if v.e && !deq k v then (k.pts + 1) % 8 else if deq k v && !v.e then (k.pts + 7) % 8 else k.pts := rfl
theorem step_paa : (k.step v).paa = if v.e && !v.r then (k.paa + 1) % 8
    else if v.r && !v.e && k.paa != 0 then (k.paa + 7) % 8 else k.paa := rfl
theorem step_rp : (k.step v).rp = if v.L then k.ap else if deq k v then (k.rp + 1) % 4 else k.rp := rfl
theorem step_ap : (k.step v).ap = if v.r then (k.ap + 1) % 4 else k.ap := rfl
end eqs

theorem deq_eq (k : Ctl) (v : Ev) : deq k v = (v.dn && active k) := by
  obtain ⟨fsm, idle, rpend, pts, paa, rp, ap⟩ := k
  cases fsm <;> simp [deq, active, Bool.beq_eq_decide_eq]

theorem Inv.pAct (h : Inv k) (ha : active k = true) : 1 ≤ k.pts := by
  have hs := h.st
  unfold St at hs; unfold active at ha
  cases hf : k.fsm <;> simp_all

theorem nCur_le (h : Inv k) : nCur k ≤ k.pts := by
  have := h.pAct
  unfold nCur cur
  cases ha : active k <;> simp_all <;> split <;> omega

/-- a header is latched only in an active state: WAIT_FOR_SEND with a retry pending has a packet in flight -/
theorem latch_active (h : Inv k) (hl : latch k v = true) : k.idle = true ∧ active k = true := by
  have hs := h.st
  obtain ⟨fsm, idle, rpend, pts, paa, rp, ap⟩ := k
  cases fsm <;> simp [latch, gen, active, St, Bool.beq_eq_decide_eq] at hl hs ⊢
  · cases rpend <;> simp_all
  · exact hl.1

theorem cur_step (h : Inv k) (o : EvOk k v) :
    cur (k.step v) = (!v.L && (cur k && !v.dn || latch k v)) := by
  have hs := h.st; have o1 := o.dnBusy
  obtain ⟨fsm, idle, rpend, pts, paa, rp, ap⟩ := k
  obtain ⟨L, e, r, dn, lrty, bring⟩ := v
  clear h o
  -- first reduce to the fields of `step` that occur: after the split `simp` would normalise the whole record
  -- in every case
  simp only [cur, active, step]
  cases fsm <;> simp [gen, latch, St, Bool.beq_eq_decide_eq] at hs o1 ⊢
  · -- DISPATCH_PACKET: idle, and stays idle
    simp [hs]
  · -- WAIT_FOR_SEND: left on `done`; active unless `retry_pending` is or gets set
    cases dn <;> cases rpend <;> cases idle <;> simp_all
  · -- WAIT_FOR_RETRY: left for FLUSH_PACKET on LBAD, else on the last `done`
    cases L <;> cases dn <;> simp_all
    cases idle <;> rfl
  · -- FLUSH_PACKET: never active
    cases idle <;> cases dn <;> simp_all

/-! ### the counters of one cycle: in linear form without an LBAD, and under an LBAD -/

theorem nCur_step (h : Inv k) (o : EvOk k v) (hL : v.L = false) :
    nCur (k.step v) + (if deq k v then 1 else 0) = nCur k + (if latch k v then 1 else 0) := by
  have hi := fun hl => (latch_active (v := v) h hl).1
  have hd := o.dnBusy
  simp only [nCur, cur_step h o, deq_eq, hL]
  unfold cur
  generalize latch k v = l, v.dn = dn, k.idle = idle at *
  cases dn <;> cases l <;> cases active k <;> cases idle <;> simp at hi hd ⊢

theorem pts_step (h : Inv k) (o : EvOk k v) (hL : v.L = false) :
    (k.step v).pts + (if deq k v then 1 else 0) = k.pts + (if v.e then 1 else 0) := by
  have := h.bLe; have := o.paa4
  have hn : nCur k ≤ 1 := by unfold nCur; split <;> omega
  have hd : deq k v = true → 1 ≤ k.pts := fun hd => h.pAct (by rw [deq_eq] at hd; simp_all)
  rw [step_pts, hL]
  generalize deq k v = d, v.e = e at *
  cases e <;> cases d <;> simp at hd ⊢ <;> omega

theorem paa_step (h : Inv k) (o : EvOk k v) :
    (k.step v).paa + (if v.r then 1 else 0) = k.paa + (if v.e then 1 else 0) := by
  have := o.paa4
  have hr : v.r = true → k.paa ≠ 0 := fun hr => by have := nCur_le h; have := o.ackSent hr; omega
  rw [step_paa]
  generalize v.r = r, v.e = e at *
  cases e <;> cases r <;> simp at hr ⊢
  · rw [if_neg hr]; omega
  · omega

/-- an LBAD, in whatever state: all unacknowledged headers are to be latched again, starting at the
acknowledge pointer; the packet in flight (if any) is not the one at the read pointer -/
theorem lbad_step (h : Inv k) (o : EvOk k v) (hL : v.L = true) :
    (k.step v).pts = (k.step v).paa ∧ (k.step v).rp = (k.step v).ap ∧ nCur (k.step v) = 0 ∧
    (k.step v).rpend = true := by
  have hr := o.lNotR hL
  refine ⟨?_, ?_, ?_, ?_⟩
  · simp [step_pts, step_paa, hL, hr]
  · simp [step_rp, step_ap, hL, hr]
  · simp [nCur, cur_step h o, hL]
  · simp [step_rpend, hL]

/-! ### the invariant is preserved -/

/-- something is left to send after a cycle that does not dequeue the last header; under an LBAD for DISPATCH_PACKET
only, the one state from which an LBAD leads to an active one -/
theorem pos_step (h : Inv k) (o : EvOk k v) (hp : 1 ≤ k.pts) (hd : deq k v = true → k.pts ≠ 1)
    (hL : v.L = true → k.fsm = .dispatch) : 1 ≤ (k.step v).pts := by
  rcases Bool.eq_false_or_eq_true v.L with hl | hl
  · -- under LBAD all unacknowledged headers are due, and in DISPATCH_PACKET none of those to send is in flight
    have hb := h.bLe; have hpaa := paa_step h o; have := (lbad_step h o hl).1
    have hn : nCur k = 0 := by simp [nCur, cur, active, hL hl]
    rw [o.lNotR hl] at hpaa; simp at hpaa; omega
  · have := pts_step h o hl
    generalize deq k v = d at *
    cases d <;> simp at hd this ⊢ <;> omega

theorem st_step (h : Inv k) (o : EvOk k v) : St (k.step v) := by
  have hs := h.st; have o1 := o.dnBusy; have hp := pos_step h o
  unfold St at hs ⊢
  -- the next `packets_to_send` stays a variable `q`: entering or keeping an active state asks `pos_step` for `1 ≤ q`
  generalize (k.step v).pts = q at hp ⊢
  simp only [step]
  obtain ⟨fsm, idle, rpend, pts, paa, rp, ap⟩ := k
  obtain ⟨L, e, r, dn, lrty, bring⟩ := v
  clear h o
  cases fsm <;> simp [gen, deq, Bool.beq_eq_decide_eq] at hs o1 hp ⊢
  · -- DISPATCH_PACKET: stays with an idle raw transmitter, or leaves with something to send
    by_cases hc : bring = true ∧ ¬pts = 0
    · have := hp (by omega); simp only [hc]; split <;> simp_all
    · simp [hc, hs]
  · -- WAIT_FOR_SEND: it generates, so the raw transmitter is busy until `done`
    cases dn <;> simp at hp ⊢
    intro hl hr; simp [hr] at hs; exact hp hs hl
  · -- WAIT_FOR_RETRY: left for FLUSH_PACKET on LBAD, for DISPATCH_PACKET on the last `done`
    cases L <;> simp at hp ⊢
    by_cases hc : dn = true ∧ pts = 1 <;> simp [hc]
    exact hp hs fun a b => hc ⟨a, b⟩
  · -- FLUSH_PACKET: left for DISPATCH_PACKET once the raw transmitter is idle
    by_cases hc : idle = true ∨ dn = true <;> simp [hc]

theorem inv_step (h : Inv k) (o : EvOk k v) : Inv (k.step v) := by
  have hpaa := paa_step h o
  have h4 := h.bLe; have h5 := h.rpWp
  refine ⟨st_step h o, ?_, ?_⟩
  -- `bLe`, then `rpWp`: each in an LBAD cycle (`lbad_step`) and in any other (the counters in linear form)
  all_goals rcases Bool.eq_false_or_eq_true v.L with hL | hL
  · obtain ⟨l1, _, l3, _⟩ := lbad_step h o hL; omega
  · have := pts_step h o hL; have := nCur_step h o hL; have hr := o.ackSent
    generalize v.r = r at *
    cases r <;> simp at hr hpaa <;> omega
  · obtain ⟨l1, l2, _, _⟩ := lbad_step h o hL; omega
  · have := pts_step h o hL
    have : (k.step v).rp % 4 = (k.rp + if deq k v then 1 else 0) % 4 := by rw [step_rp, hL]; simp; split <;> omega
    have : (k.step v).ap % 4 = (k.ap + if v.r then 1 else 0) % 4 := by rw [step_ap]; split <;> omega
    omega

/-! ### what the retry round uses: headers still to be latched, `retry_pending` -/

theorem toLatch_step (h : Inv k) (o : EvOk k v) (hL : v.L = false) :
    toLatch (k.step v) + (if latch k v then 1 else 0) = toLatch k + (if v.e then 1 else 0) := by
  have := pts_step h o hL; have := nCur_step h o hL; have := nCur_le h; have := nCur_le (inv_step h o)
  unfold toLatch
  omega

theorem latch_pos (h : Inv k) (hl : latch k v = true) : 1 ≤ toLatch k ∧ nCur k = 0 := by
  obtain ⟨hi, ha⟩ := latch_active h hl
  have := h.pAct ha
  simp [toLatch, nCur, cur, hi, this]

theorem latch_retry (h : Inv k) (hl : latch k v = true) (hp : k.rpend = true) :
    k.fsm = .waitRetry := by
  simpa [active, hp] using (latch_active h hl).2

theorem rpend_keep (o : EvOk k v) (hL : v.L = false)
    (hp : k.rpend = true) (ht : 1 ≤ toLatch k) : (k.step v).rpend = true := by
  -- it is cleared on the last `done` of WAIT_FOR_RETRY only, and then the header in flight was the last one
  rw [step_rpend, hL, hp]
  have := o.dnBusy
  simp only [Bool.not_false, Bool.and_true, ite_self, ite_eq_right_iff, Bool.and_eq_true, beq_iff_eq]
  rintro ⟨⟨hf, hd⟩, h1⟩
  simp [toLatch, nCur, cur, active, hf, this hd, h1] at ht

end Ctl

end LunaVerif.PacketTx
