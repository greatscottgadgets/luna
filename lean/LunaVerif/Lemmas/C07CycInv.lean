import LunaVerif.Lemmas.C07CycSteps
import LunaVerif.Lemmas.DeviceInv
/-!
# C07 at cycle level, unbounded: the stage FSM always agrees with the latched SETUP packet

An invariant of the cycle-level model over ARBITRARY cycle histories (any number of cycles, any values on all
inputs) under the contract of the setup decoder, stated cycle by cycle (`EnvStep`):

  * the decoder reports a packet (`received`) only while it waits for the data packet of a SETUP token -- ghost
    bit `armed`: set by a `new_token` strobe of a SETUP token, cleared by any other token strobe and by the report
    itself -- and never in the cycle of a token strobe;
  * its packet registers change only in a cycle in which it reports;
  * the token detector's four flags decode one pid (`FlagsExclusive`).

`cyc_stage_follows_setup` is the cycle-level counterpart of `stage_follows_setup` (Props/C07.lean), and
`cyc_requests_follow_setup` of `data_in_only_after_in_setup` / the status-direction theorems: `data_requested` is
raised only for a device-to-host request with `wLength ≠ 0`, `status_requested` for an OUT status stage only after
such a request and for an IN status stage only otherwise.  No assumption on the host.
-/
namespace LunaVerif.CtrlCyc
open LunaVerif.Device

/-- Ghost: the setup decoder is waiting for the DATA0 packet of a SETUP token (its READ_DATA state). -/
def armedNext (a : Bool) (i : CycIn) : Bool :=
  if i.newToken then i.isSetup else if i.received then false else a

/-- The contract of one cycle: `a` = armed before the cycle, `p` = the previous cycle's inputs. -/
def EnvStep (a : Bool) (p i : CycIn) : Prop :=
  FlagsExclusive i ∧ (i.received = true → a = true ∧ i.newToken = false) ∧ (i.received = false → i.su = p.su)

def EnvOk : Bool → CycIn → List CycIn → Prop
  | _, _, [] => True
  | a, p, i :: is => EnvStep a p i ∧ EnvOk (armedNext a i) i is

structure CInv (a : Bool) (su : Setup) (s : CycState) : Prop where
  armed : a = true → s.stage = .setup
  stage : StageOk s.stage su

theorem cinv_step (c : Cfg) (a : Bool) (p i : CycIn) (s : CycState) (hi : CInv a p.su s) (he : EnvStep a p i) :
    CInv (armedNext a i) i.su (step c s i).1 := by
  obtain ⟨hfl, hr, hsu⟩ := he
  cases hrec : i.received
  · -- no report: the packet registers are unchanged
    have hsu' := hsu hrec
    constructor
    · intro harm
      unfold armedNext at harm
      cases hnt : i.newToken
      · simp only [hnt, hrec, Bool.false_eq_true, if_false] at harm
        rw [step_stage, ctrlNext_idle c _ hnt hrec]
        exact hi.armed harm
      · simp only [hnt, if_true] at harm
        exact ctrl_stage_restarts_on_setup c s i hnt harm hfl hrec
    · rw [step_stage, hsu']
      have := hi.stage
      cases hs : s.stage <;> simp only [hs, ctrlNext, hrec, Bool.false_and, Bool.false_eq_true, if_false] at this ⊢
      · exact this
      · split
        · exact this
        · split <;> first | trivial | exact this
      · split
        · simp only [StageOk] at this ⊢; simp [this.1]
        · split <;> first | trivial | exact this
      · split <;> first | trivial | exact this
      · split <;> first | trivial | exact this
  · -- a report: only while armed, i.e. in the SETUP stage
    obtain ⟨harm, hnt⟩ := hr hrec
    have hst := hi.armed harm
    constructor
    · intro h
      simp [armedNext, hnt, hrec] at h
    · rw [step_stage, hst]
      simp only [ctrlNext, hrec, Bool.true_and]
      split
      · exact stageOk_after_setup i.su
      · trivial

def armedAfter : Bool → List CycIn → Bool
  | a, [] => a
  | a, i :: is => armedAfter (armedNext a i) is

def lastIn : CycIn → List CycIn → CycIn
  | p, [] => p
  | _, i :: is => lastIn i is

theorem cinv_final (c : Cfg) (is : List CycIn) (a : Bool) (p : CycIn) (s : CycState)
    (hi : CInv a p.su s) (he : EnvOk a p is) :
    CInv (armedAfter a is) (lastIn p is).su (final c s is) := by
  induction is generalizing a p s with
  | nil => exact hi
  | cons i is ih => exact ih _ i _ (cinv_step c a p i s hi he.1) he.2

theorem envOk_snoc (is : List CycIn) (j : CycIn) (a : Bool) (p : CycIn) :
    EnvOk a p (is ++ [j]) ↔ (EnvOk a p is ∧ EnvStep (armedAfter a is) (lastIn p is) j) := by
  induction is generalizing a p with
  | nil => simp [EnvOk, armedAfter, lastIn]
  | cons i is ih =>
    simp only [List.cons_append, EnvOk, armedAfter, lastIn, ih]
    exact ⟨fun ⟨x, y, z⟩ => ⟨⟨x, y⟩, z⟩, fun ⟨⟨x, y⟩, z⟩ => ⟨x, y, z⟩⟩

theorem cinv_init (su : Setup) : CInv false su CtrlCyc.init := ⟨fun h => (by cases h), trivial⟩

/-- **The stage register always agrees with the packet the setup decoder shows**, after any number of cycles from
reset under the neighbours' contract. -/
theorem cyc_stage_follows_setup (c : Cfg) (is : List CycIn) (he : EnvOk false {} is) :
    StageOk (final c CtrlCyc.init is).stage (lastIn {} is).su :=
  (cinv_final c is false {} CtrlCyc.init (cinv_init _) he).stage

/-- **The handlers are asked for a data stage only after a device-to-host SETUP with `wLength ≠ 0`, for an OUT
status stage only after such a request, and for an IN status stage only otherwise** -- in every cycle of every
cycle history from reset that respects the neighbours' contract. -/
theorem cyc_requests_follow_setup (c : Cfg) (is : List CycIn) (i : CycIn) (he : EnvOk false {} (is ++ [i])) :
    ((step c (final c CtrlCyc.init is) i).2.ctl.dataRequested = true → i.su.isIn = true ∧ i.su.length ≠ 0) ∧
    ((step c (final c CtrlCyc.init is) i).2.ctl.statusRequested = true → i.isOut = true →
        i.su.isIn = true ∧ i.su.length ≠ 0) ∧
    ((step c (final c CtrlCyc.init is) i).2.ctl.statusRequested = true → i.isIn = true →
        ¬ (i.su.isIn = true ∧ i.su.length ≠ 0)) := by
  obtain ⟨h1, hfl, hr, hsu⟩ := (envOk_snoc is i false {}).1 he
  have hinv := cinv_final c is false {} CtrlCyc.init (cinv_init _) h1
  have hreq := requests_come_from_their_stage c (final c CtrlCyc.init is) i
  -- a report happens only in the SETUP stage, where nothing is requested
  have key : ∀ st, (final c CtrlCyc.init is).stage = st → st ≠ .setup →
      StageOk st i.su := by
    intro st hst hne
    cases hrec : i.received
    · rw [hsu hrec, ← hst]; exact hinv.stage
    · exact absurd ((hinv.armed (hr hrec).1).symm.trans hst).symm hne
  refine ⟨fun h => ?_, fun h ho => ?_, fun h hi => ?_⟩
  · exact key .dataIn (hreq.1 h).1 (by simp)
  · rcases (hreq.2 h).2 with ⟨_, hin, _⟩ | ⟨hst, _, _⟩
    · exact absurd ho (by simp [(hfl.2.1 hin).1])
    · exact key .statusOut hst (by simp)
  · rcases (hreq.2 h).2 with ⟨hst, _, _⟩ | ⟨_, hout, _⟩
    · exact key .statusIn hst (by simp)
    · exact absurd hout (by simp [(hfl.2.1 hi).1])

/-! ### Non-vacuity: SETUP token, GET_DESCRIPTOR packet reported, IN token, response slot -/

def exGetDescriptor : Setup := { isIn := true, request := REQ_GET_DESCRIPTOR, value := 0x100, length := 18 }

def exCycles : List CycIn :=
  [{}, { newToken := true, isSetup := true }, { isSetup := true },
   { isSetup := true, received := true, su := exGetDescriptor }, { isSetup := true, su := exGetDescriptor },
   { newToken := true, isIn := true, su := exGetDescriptor },
   { isIn := true, readyForResponse := true, su := exGetDescriptor }]

instance (a : Bool) (p i : CycIn) : Decidable (EnvStep a p i) := by unfold EnvStep; infer_instance

def EnvOk.dec : (a : Bool) → (p : CycIn) → (is : List CycIn) → Decidable (EnvOk a p is)
  | _, _, [] => isTrue trivial
  | a, p, i :: is =>
    have := EnvOk.dec (armedNext a i) i is
    inferInstanceAs (Decidable (EnvStep a p i ∧ EnvOk (armedNext a i) i is))

instance (a : Bool) (p : CycIn) (is : List CycIn) : Decidable (EnvOk a p is) := EnvOk.dec a p is

example : EnvOk false {} exCycles := by decide
example : (final {} CtrlCyc.init exCycles).stage = .dataIn := by decide
example : (step {} (final {} CtrlCyc.init (exCycles.take 6)) (exCycles.getD 6 {})).2.ctl.dataRequested = true := by
  decide

end LunaVerif.CtrlCyc
