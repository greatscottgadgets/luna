import LunaVerif.Lemmas.C09Rom
import LunaVerif.Lemmas.C09Seq
/-!
C09 `rom_lookup_correct`: for every well-formed descriptor collection the two pointer hops of the
block handler over the ROM generated by `Rom.layout` reach exactly the requested descriptor (length,
aligned address, bytes), and refuse every (type, index) that is not in the collection.
-/
namespace LunaVerif.Desc
namespace Rom

theorem indexMapOf_lookup (pre post : List Descr) (d : Descr) : ∀ seen : List Descr,
    (∀ e ∈ pre, key e ≠ key d) →
    (indexMapOf seen (pre ++ d :: post)).lookup (key d)
      = some ((seen.filter (fun e => e.ty == d.ty)).length + (pre.filter (fun e => e.ty == d.ty)).length) := by
  induction pre with
  | nil => intro seen _; simp [indexMapOf]
  | cons a pre ih =>
    intro seen h
    have ha : (key d == key a) = false := beq_false_of_ne (Ne.symm (h a (List.mem_cons_self ..)))
    simp only [List.cons_append, indexMapOf, List.lookup_cons, ha]
    rw [ih (a :: seen) (fun e he => h e (List.mem_cons_of_mem _ he))]
    simp only [List.filter_cons]
    cases a.ty == d.ty <;> simp <;> omega

theorem indexMapOf_lookup_none (l : List Descr) (k : Nat) : ∀ seen : List Descr,
    (∀ e ∈ l, key e ≠ k) → (indexMapOf seen l).lookup k = none := by
  induction l with
  | nil => intro seen _; rfl
  | cons a l ih =>
    intro seen h
    have ha : (k == key a) = false := beq_false_of_ne (Ne.symm (h a (List.mem_cons_self ..)))
    simp only [indexMapOf, List.lookup_cons, ha]
    exact ih _ (fun e he => h e (List.mem_cons_of_mem _ he))

theorem indexMapOf_isEmpty (l seen : List Descr) (h : l ≠ []) : (indexMapOf seen l).isEmpty = false := by
  cases l with
  | nil => exact absurd rfl h
  | cons a l => rfl

theorem bitsFor_le_14 (n : Nat) (h : n < 16384) : bitsFor n ≤ 14 := by
  unfold bitsFor
  split
  · omega
  · rename_i h0
    have : Nat.log2 n < 14 := (Nat.log2_lt h0).mpr (by omega)
    omega

theorem mod_hi (aw n x : Nat) (h : aw ≤ 14) : (n * 16384 + x) % 2 ^ aw = x % 2 ^ aw := by
  obtain ⟨k, hk⟩ : ∃ k, 14 = aw + k := ⟨14 - aw, by omega⟩
  have : (16384 : Nat) = 2 ^ aw * 2 ^ k := by rw [← Nat.pow_add, ← hk]
  rw [this, show n * (2 ^ aw * 2 ^ k) + x = x + 2 ^ aw * (n * 2 ^ k) by
    rw [Nat.add_comm, Nat.mul_comm n, Nat.mul_assoc, Nat.mul_comm n]]
  exact Nat.add_mul_mod_self_left ..

theorem read_layout (c : Collection) (a : Nat) :
    (layout c).read a
      = (typeTable c ++ entryTable (sortDescrs c) (4 * (maxType c + 1) + 4 * c.length)
          ++ dataWords (sortDescrs c))[a]?.getD 0 := by
  simp [Image.read, layout, Array.getD_eq_getD_getElem?]

theorem size_layout (c : Collection) :
    (layout c).words.size = maxType c + 1 + c.length + sumAlign (sortDescrs c) := by
  unfold layout
  simp only [List.size_toArray, List.length_append, typeTable_length, entryTable_length, dataWords_length,
    (sortDescrs_perm c).length_eq]

theorem read_type (c : Collection) (t : Nat) (h : t ≤ maxType c) : (layout c).read t = typeWord c t := by
  rw [read_layout, List.append_assoc, List.getElem?_append_left (by rw [typeTable_length]; omega),
    typeTable_get c t h]
  rfl

theorem read_entry (c : Collection) (pre post : List Descr) (d : Descr) (hs : sortDescrs c = pre ++ d :: post) :
    (layout c).read (maxType c + 1 + pre.length)
      = d.bytes.length * 65536 + (4 * (maxType c + 1) + 4 * c.length + 4 * sumAlign pre) := by
  rw [read_layout, hs, List.append_assoc, List.getElem?_append_right (by rw [typeTable_length]; omega),
    typeTable_length, Nat.add_sub_cancel_left, entryTable_append,
    List.append_assoc, List.getElem?_append_right (by rw [entryTable_length]; omega),
    entryTable_length, Nat.sub_self]
  rfl

theorem read_data (c : Collection) (pre post : List Descr) (d : Descr) (hs : sortDescrs c = pre ++ d :: post)
    (q : Nat) (hq : q < alignWords d.bytes.length) :
    (layout c).read (maxType c + 1 + c.length + sumAlign pre + q) = (packWords d.bytes)[q]?.getD 0 := by
  have hlen : c.length = (pre ++ d :: post).length := by rw [← hs, (sortDescrs_perm c).length_eq]
  rw [read_layout, hs, List.getElem?_append_right (by
      rw [List.length_append, typeTable_length, entryTable_length, ← hlen]; omega),
    List.length_append, typeTable_length, entryTable_length, ← hlen,
    show maxType c + 1 + c.length + sumAlign pre + q - (maxType c + 1 + c.length) = sumAlign pre + q by omega,
    dataWords_split, List.getElem?_append_right (by rw [dataWords_length]; omega),
    dataWords_length, Nat.add_sub_cancel_left,
    List.getElem?_append_left (by rw [packWords_length]; exact hq)]

end Rom
open Rom

structure WF (c : Collection) : Prop where
  ne    : c ≠ []
  idx   : ∀ d ∈ c, d.idx < 256
  bne   : ∀ d ∈ c, 0 < d.bytes.length
  byte  : ∀ d ∈ c, ∀ x ∈ d.bytes, x < 256
  nodup : (c.map key).Nodup
  size  : 4 * (Rom.layout c).words.size < 65536

theorem WF.of_wellFormed (c : Collection) (h : wellFormed c = true) : WF c := by
  unfold wellFormed at h
  simp only [Bool.and_eq_true, Bool.not_eq_true', List.all_eq_true, decide_eq_true_eq] at h
  obtain ⟨⟨⟨h1, h2⟩, h3⟩, h4⟩ := h
  refine ⟨?_, ?_, ?_, ?_, h3, h4⟩
  · intro hc; subst hc; simp at h1
  · intro d hd; exact (h2 d hd).1.1.1.2
  · intro d hd
    have := (h2 d hd).1.1.2
    cases hb : d.bytes with
    | nil => rw [hb] at this; simp at this
    | cons _ _ => simp
  · intro d hd; exact (h2 d hd).2

namespace Rom

theorem find?_some (c : Collection) (ty idx : Nat) (d : Descr) (h : find? c ty idx = some d) :
    d ∈ c ∧ d.ty = ty ∧ d.idx = idx := by
  unfold find? at h
  have h1 := List.find?_some h
  have h2 := List.mem_of_find?_eq_some h
  simp only [Bool.and_eq_true, beq_iff_eq] at h1
  exact ⟨h2, h1.1, h1.2⟩

theorem find?_none (c : Collection) (ty idx : Nat) (h : find? c ty idx = none) :
    ∀ e ∈ c, ¬ (e.ty = ty ∧ e.idx = idx) := by
  simpa [find?] using h

theorem countOf_typeWord (c : Collection) (t : Nat) (h : 4 * (maxType c + 1) + 4 * c.length < 65536) :
    countOf (typeWord c t) = countType c t := by
  unfold typeWord countOf
  have : countBelow c t ≤ c.length := List.length_filter_le ..
  simp only
  split <;> omega

theorem addr_ok (c : Collection) (a : Nat) (h : a < (layout c).words.size) : a % 2 ^ (layout c).addrW = a := by
  apply Nat.mod_eq_of_lt
  have := lt_two_pow_bitsFor ((layout c).words.size - 1)
  unfold Image.addrW
  omega

/-- The count in the upper half of a table word `count << 16 | 4 * x` does not reach its pointer field: the ROM is below
64 KiB, so `2 ^ addrW` divides `2 ^ 14` (`mod_hi`). -/
theorem ptrOf_word (c : Collection) (n x : Nat) (hsize : 4 * (layout c).words.size < 65536)
    (hx : x < (layout c).words.size) : (layout c).ptrOf (n * 65536 + 4 * x) = x := by
  unfold Image.ptrOf
  rw [show (n * 65536 + 4 * x) / 4 = n * 16384 + x by omega, mod_hi (layout c).addrW _ _ (bitsFor_le_14 _ (by omega))]
  exact addr_ok c _ hx

theorem split_at (c : Collection) (wf : WF c) (d : Descr) (hd : d ∈ c) :
    ∃ pre post, sortDescrs c = pre ++ d :: post
      ∧ (∀ e ∈ pre, key e < key d)
      ∧ pre.length = countBelow c d.ty + (pre.filter (fun e => e.ty == d.ty)).length
      ∧ (pre.filter (fun e => e.ty == d.ty)).length
          = (c.filter (fun e => e.ty == d.ty && decide (e.idx < d.idx))).length
      ∧ (pre.filter (fun e => e.ty == d.ty)).length < countType c d.ty := by
  have hperm := sortDescrs_perm c
  obtain ⟨pre, post, hs, hpre, hpost⟩ :=
    split_sorted _ (sortDescrs_strict c wf.nodup) d (hperm.mem_iff.mpr hd)
  have hpos := position pre post d (by
    intro e he; rw [← hs] at he; exact wf.idx e (hperm.mem_iff.mp he)) hpre hpost
  rw [← hs] at hpos
  unfold countBelow countType at hpos
  rw [filter_length_perm hperm, filter_length_perm hperm, filter_length_perm hperm] at hpos
  exact ⟨pre, post, hs, hpre, hpos⟩

theorem indexMap_layout (c : Collection) :
    (layout c).indexMap = if indirect c then indexMapOf [] (sortDescrs c) else [] := rfl

theorem descrIdx_present (c : Collection) (wf : WF c) (d : Descr) (hd : d ∈ c) (pre post : List Descr)
    (hs : sortDescrs c = pre ++ d :: post) (hpre : ∀ e ∈ pre, key e < key d)
    (hrank : (pre.filter (fun e => e.ty == d.ty)).length
          = (c.filter (fun e => e.ty == d.ty && decide (e.idx < d.idx))).length) :
    (layout c).descrIdx d.ty d.idx = (pre.filter (fun e => e.ty == d.ty)).length := by
  unfold Image.descrIdx
  rw [indexMap_layout]
  cases hi : indirect c with
  | true =>
    simp only [if_true]
    rw [indexMapOf_isEmpty _ _ (by rw [hs]; simp)]
    simp only [Bool.false_eq_true, if_false]
    rw [hs]
    have := indexMapOf_lookup pre post d [] (fun e he => by have := hpre e he; omega)
    unfold key at this
    rw [this]
    simp
  | false =>
    simp only [Bool.false_eq_true, if_false, List.isEmpty_nil, if_true]
    rw [hrank]
    have hb := direct_bound c hi d hd
    exact (direct_rank c d.ty d.idx wf.nodup hb (Nat.le_of_lt (hb d hd rfl))).symm

theorem descrIdx_absent (c : Collection) (wf : WF c) (ty idx : Nat) (hidx : idx < 256)
    (habs : ∀ e ∈ c, ¬ (e.ty = ty ∧ e.idx = idx)) :
    countType c ty ≤ (layout c).descrIdx ty idx := by
  unfold Image.descrIdx
  rw [indexMap_layout]
  cases hi : indirect c with
  | true =>
    simp only [if_true]
    have hne : sortDescrs c ≠ [] := fun h => wf.ne (h ▸ sortDescrs_perm c).symm.eq_nil
    rw [indexMapOf_isEmpty _ _ hne]
    simp only [Bool.false_eq_true, if_false]
    rw [indexMapOf_lookup_none _ _ [] (by
      intro e he
      have he' := (sortDescrs_perm c).mem_iff.mp he
      have h1 := habs e he'
      have h2 := wf.idx e he'
      unfold key; omega)]
    have := count_lt_of_absent c ty 256 idx wf.nodup (fun e he _ => wf.idx e he) hidx habs
    show countType c ty ≤ 255
    omega
  | false =>
    simp only [Bool.false_eq_true, if_false, List.isEmpty_nil, if_true]
    by_cases h0 : countType c ty = 0
    · omega
    · have : ∃ d, d ∈ c.filter (fun e => e.ty == ty) := by
        apply List.exists_mem_of_length_pos
        unfold countType at h0; omega
      obtain ⟨d, hdm⟩ := this
      rw [List.mem_filter] at hdm
      have hdt : d.ty = ty := by simpa using hdm.2
      have hb := direct_bound c hi d hdm.1
      rw [hdt] at hb
      exact Nat.le_of_not_lt fun hi => Nat.lt_irrefl _ (count_lt_of_absent c ty _ idx wf.nodup hb hi habs)

theorem size_split (c : Collection) (pre post : List Descr) (d : Descr) (hs : sortDescrs c = pre ++ d :: post) :
    (layout c).words.size
      = maxType c + 1 + c.length + sumAlign pre + alignWords d.bytes.length + sumAlign post := by
  rw [size_layout, hs, sumAlign_append]
  simp only [sumAlign]
  omega

theorem lookup_present (c : Collection) (wf : WF c) (d : Descr) (hd : d ∈ c) :
    ∃ pre post, sortDescrs c = pre ++ d :: post ∧
      (layout c).lookup d.ty d.idx
        = some (d.bytes.length * 65536 + 4 * (maxType c + 1 + c.length + sumAlign pre)) := by
  obtain ⟨pre, post, hs, hpre, hlen, hrank, hlt⟩ := split_at c wf d hd
  refine ⟨pre, post, hs, ?_⟩
  have hsz := size_split c pre post d hs
  have hsize := wf.size
  have hplen : pre.length < c.length := by
    have := (sortDescrs_perm c).length_eq
    rw [hs, List.length_append, List.length_cons] at this
    omega
  have hty := ty_le_maxType c d hd
  have hdi := descrIdx_present c wf d hd pre post hs hpre hrank
  have hcnt := countOf_typeWord c d.ty (by omega)
  have hn0 : countType c d.ty ≠ 0 := by omega
  unfold Image.lookup
  rw [show (layout c).maxType = maxType c from rfl, if_pos hty]
  simp only
  rw [addr_ok c d.ty (by omega), read_type c d.ty hty, hdi, hcnt, if_neg (by omega)]
  have hptr : (layout c).ptrOf (typeWord c d.ty) = maxType c + 1 + countBelow c d.ty := by
    unfold typeWord
    simp only [if_neg hn0]
    rw [show 4 * (maxType c + 1) + 4 * countBelow c d.ty = 4 * (maxType c + 1 + countBelow c d.ty) by omega]
    exact ptrOf_word c _ _ hsize (by omega)
  rw [hptr, show maxType c + 1 + countBelow c d.ty + (pre.filter (fun e => e.ty == d.ty)).length
        = maxType c + 1 + pre.length by omega,
    addr_ok c _ (by omega), read_entry c pre post d hs]
  congr 1
  omega

theorem bytes_present (c : Collection) (wf : WF c) (d : Descr) (hd : d ∈ c) (pre post : List Descr)
    (hs : sortDescrs c = pre ++ d :: post) :
    (layout c).bytesAt ((layout c).ptrOf (d.bytes.length * 65536 + 4 * (maxType c + 1 + c.length + sumAlign pre)))
      d.bytes.length = d.bytes := by
  have hsz := size_split c pre post d hs
  have hsize := wf.size
  have hb1 := wf.bne d hd
  have hal : 0 < alignWords d.bytes.length := by unfold alignWords; omega
  rw [ptrOf_word c _ _ hsize (by omega)]
  unfold Image.bytesAt
  apply List.ext_getElem?
  intro k
  rw [List.getElem?_map]
  by_cases hk : k < d.bytes.length
  · rw [List.getElem?_range hk, Option.map_some]
    unfold Image.byteAt
    have hq : k / 4 < alignWords d.bytes.length := by unfold alignWords; omega
    rw [addr_ok c _ (by omega), read_data c pre post d hs _ hq,
      packWords_byte d.bytes (wf.byte d hd) k hk, List.getElem?_eq_getElem hk]
    rfl
  · rw [List.getElem?_eq_none (by simp; omega), List.getElem?_eq_none (by omega)]
    rfl

theorem lookup_absent (c : Collection) (wf : WF c) (ty idx : Nat) (hidx : idx < 256)
    (habs : ∀ e ∈ c, ¬ (e.ty = ty ∧ e.idx = idx)) : (layout c).lookup ty idx = none := by
  have hsize := wf.size
  have hsz := size_layout c
  unfold Image.lookup
  rw [show (layout c).maxType = maxType c from rfl]
  split
  · rename_i hty
    simp only
    rw [addr_ok c ty (by omega), read_type c ty hty, countOf_typeWord c ty (by omega),
      if_pos (descrIdx_absent c wf ty idx hidx habs)]
  · rfl

end Rom

/-- **rom_lookup_correct**, one wValue. -/
theorem lookupOk_layout (c : Collection) (hwf : wellFormed c = true) (ty idx : Nat) (hidx : idx < 256) :
    lookupOk (Rom.layout c) c ty idx = true := by
  have wf := WF.of_wellFormed c hwf
  unfold lookupOk
  cases hf : find? c ty idx with
  | some d =>
    obtain ⟨hd, rfl, rfl⟩ := Rom.find?_some c _ _ d hf
    obtain ⟨pre, post, hs, hlk⟩ := Rom.lookup_present c wf d hd
    have hsz := Rom.size_split c pre post d hs
    have hsize := wf.size
    simp only [hlk, Bool.and_eq_true, beq_iff_eq, decide_eq_true_eq]
    refine ⟨⟨⟨by omega, ?_⟩, Rom.len_le_maxLen c d hd⟩, Rom.bytes_present c wf d hd pre post hs⟩
    unfold countOf
    omega
  | none =>
    simp only [Rom.lookup_absent c wf ty idx hidx (Rom.find?_none c ty idx hf), Option.isNone_none]

/-- **rom_lookup_correct**: the ROM generated for a well-formed collection answers every one of
the 65536 wValues correctly. -/
theorem rom_lookup_correct (c : Collection) (hwf : wellFormed c = true) : romOk (Rom.layout c) c = true := by
  unfold romOk
  rw [List.all_eq_true]
  intro ty _
  rw [List.all_eq_true]
  intro idx hidx
  exact lookupOk_layout c hwf ty idx (List.mem_range.mp hidx)

end LunaVerif.Desc
