import LunaVerif.Lemmas.C46View
/-!
# C46 — buffer bytes, observers (host, producer), environment and the invariant of `ss_in_exactly_once`

`bufBytes`: the bytes held by a ping-pong word buffer with a byte fill count.  `Ghost` is computed from the interface
signals only (`gnext : In → Out → …`).  `Inv` is the inductive invariant over the toggle-free view of the endpoint
(`Lemmas/C46View.lean`) and the observers: the buffers' shape and what is on the wire.  That the bytes add up is not part
of it: it follows from the packet equation of `InvF` (Lemmas/C46Frame.lean).  `write_side` is the buffer-abstraction
step for one accepted stream word.
-/
namespace LunaVerif.SSStreamIn

/-- the four bytes of a stream word, little endian (byte lane 0 first) -/
def wordBytes (w : Nat) : List Nat := [w % 256, w / 256 % 256, w / 65536 % 256, w / 16777216 % 256]

def bytesOf (n w : Nat) : List Nat := (wordBytes w).take n

def wordsBytes (ws : List Nat) : List Nat := ws.flatMap wordBytes

def bufBytes (mem : List Nat) (fill : Nat) : List Nat :=
  wordsBytes (mem.take (fill / 4)) ++ bytesOf (fill % 4) (mem.getD (fill / 4) 0)

@[simp] theorem bytesOf_zero (w : Nat) : bytesOf 0 w = [] := rfl
theorem bytesOf_four (w : Nat) : bytesOf 4 w = wordBytes w := rfl

@[simp] theorem bufBytes_zero (mem : List Nat) : bufBytes mem 0 = [] := by
  simp [bufBytes, wordsBytes]

theorem wordsBytes_append (a b : List Nat) : wordsBytes (a ++ b) = wordsBytes a ++ wordsBytes b := by
  simp [wordsBytes]

theorem wordsBytes_take_succ (mem : List Nat) (p : Nat) (h : p < mem.length) :
    wordsBytes (mem.take (p + 1)) = wordsBytes (mem.take p) ++ wordBytes (mem.getD p 0) := by
  rw [List.take_add_one, wordsBytes_append]
  simp [wordsBytes, List.getD, h]

theorem bufBytes_write (mem : List Nat) (fill n d : Nat) (h4 : fill % 4 = 0) (hk : fill / 4 < mem.length)
    (hn : n ≤ 4) :
    bufBytes (mem.set (fill / 4) d) (fill + n) = bufBytes mem fill ++ bytesOf n d := by
  have hz : bufBytes mem fill = wordsBytes (mem.take (fill / 4)) := by simp [bufBytes, h4]
  rw [hz]
  by_cases h : n = 4
  · subst h
    have h1 : (fill + 4) / 4 = fill / 4 + 1 := by omega
    have h2 : (fill + 4) % 4 = 0 := by omega
    have hk' : fill / 4 < (mem.set (fill / 4) d).length := by simpa using hk
    simp only [bufBytes, h1, h2, bytesOf_zero, List.append_nil]
    rw [wordsBytes_take_succ _ _ hk', List.take_set_of_le (Nat.le_refl _)]
    simp [bytesOf_four, List.getD, hk]
  · have h1 : (fill + n) / 4 = fill / 4 := by omega
    have h2 : (fill + n) % 4 = n := by omega
    simp only [bufBytes, h1, h2]
    rw [List.take_set_of_le (Nat.le_refl _)]
    simp [List.getD, hk]

theorem validBytes_lastMask (fill : Nat) :
    validBytes (lastMask fill) = if fill % 4 = 0 then 4 else fill % 4 := by
  have : fill % 4 < 4 := Nat.mod_lt _ (by omega)
  unfold lastMask
  split <;> simp_all [validBytes] <;> omega

/-- the words of a packet as SEND_PACKET emits them (full words up to the last, the last one masked by
`read_fill_count[0:2]`) carry exactly the buffer's bytes -/
theorem emitted_eq_bufBytes (mem : List Nat) (fill : Nat) (h1 : 1 ≤ fill) (hl : fill ≤ 4 * mem.length) :
    wordsBytes (mem.take ((fill - 1) / 4)) ++
        bytesOf (validBytes (lastMask fill)) (mem.getD ((fill - 1) / 4) 0) = bufBytes mem fill := by
  rw [validBytes_lastMask]
  by_cases h : fill % 4 = 0
  · have e : fill / 4 = (fill - 1) / 4 + 1 := by omega
    have hlt : (fill - 1) / 4 < mem.length := by omega
    simp only [h, if_true, bufBytes, bytesOf_zero, List.append_nil, bytesOf_four]
    rw [e, wordsBytes_take_succ _ _ hlt]
  · have e : (fill - 1) / 4 = fill / 4 := by omega
    simp only [h, if_false, bufBytes, e]

theorem length_wordsBytes (ws : List Nat) : (wordsBytes ws).length = 4 * ws.length := by
  induction ws with
  | nil => rfl
  | cons w ws ih => simp [wordsBytes, wordBytes] at ih ⊢; omega

theorem length_bytesOf (n w : Nat) : (bytesOf n w).length = min n 4 := by
  simp [bytesOf, wordBytes]

theorem length_bufBytes (mem : List Nat) (fill : Nat) (h : fill ≤ 4 * mem.length) :
    (bufBytes mem fill).length = fill := by
  simp only [bufBytes, List.length_append, length_wordsBytes, List.length_take, length_bytesOf]
  omega

structure Ghost where
  hseq     : Nat          -- sequence number the host expects next
  deliv    : List Nat     -- bytes of the data packets the host has accepted, in order
  inPkt    : Bool         -- a data packet is on the wire (its header has been latched)
  curSeq   : Nat          -- ... its sequence number
  curBytes : List Nat     -- ... its bytes so far
  prod     : List Nat     -- bytes the endpoint has accepted from the producer stream, in order

def Ghost.init : Ghost := ⟨0, [], false, 0, [], []⟩

/-- The host receives a complete packet: it accepts it iff it carries the expected sequence number
(and was not lost on the link: `drop`), and then expects the next number. -/
def receive (g : Ghost) (drop : Bool) (q : Nat) (b : List Nat) : Ghost :=
  if !drop && q == g.hseq then { g with hseq := (g.hseq + 1) % 32, deliv := g.deliv ++ b } else g

theorem seq_succ_ne (n : Nat) : (n + 1) % 32 ≠ n := by omega

@[simp] theorem receive_inPkt (g : Ghost) (d : Bool) (q : Nat) (b : List Nat) :
    (receive g d q b).inPkt = g.inPkt := by unfold receive; split <;> rfl
@[simp] theorem receive_curSeq (g : Ghost) (d : Bool) (q : Nat) (b : List Nat) :
    (receive g d q b).curSeq = g.curSeq := by unfold receive; split <;> rfl
@[simp] theorem receive_curBytes (g : Ghost) (d : Bool) (q : Nat) (b : List Nat) :
    (receive g d q b).curBytes = g.curBytes := by unfold receive; split <;> rfl
@[simp] theorem receive_prod (g : Ghost) (d : Bool) (q : Nat) (b : List Nat) :
    (receive g d q b).prod = g.prod := by unfold receive; split <;> rfl

@[simp] theorem receive_deliv_nil (g : Ghost) (d : Bool) (q : Nat) :
    (receive g d q []).deliv = g.deliv := by unfold receive; split <;> simp

theorem receive_hs (g : Ghost) (d : Bool) (s : Nat) (b : List Nat)
    (h : g.hseq = s ∨ g.hseq = (s + 1) % 32) :
    (receive g d s b).hseq = s ∨ (receive g d s b).hseq = (s + 1) % 32 := by
  unfold receive
  split
  · rename_i hc
    simp only [Bool.and_eq_true, beq_iff_eq] at hc
    right; simp [← hc.2]
  · exact h

def prodBytes (i : In) (o : Out) : List Nat :=
  if i.sValid != 0 && o.sReady then bytesOf (validBytes i.sValid) i.sData else []

def gProd (i : In) (o : Out) (g : Ghost) : Ghost := { g with prod := g.prod ++ prodBytes i o }

/-- the host's receiver on the tx data stream: the header (sequence number) is latched when a word is
offered and no packet is in progress, words are taken when `tx.ready`, the packet ends with `last` -/
def gTx (i : In) (o : Out) (drop : Bool) (g : Ghost) : Ghost :=
  if o.txValid != 0 then
    let q := if g.inPkt then g.curSeq else o.txSeq
    if i.txReady then
      let b := g.curBytes ++ bytesOf (validBytes o.txValid) o.txData
      if o.txLast then receive { g with inPkt := false, curBytes := [] } drop q b
      else { g with inPkt := true, curSeq := q, curBytes := b }
    else { g with inPkt := true, curSeq := q }
  else g

/-- a ZLP strobe is a complete (empty) packet announced with `tx_sequence_number` -/
def gZlp (o : Out) (drop : Bool) (g : Ghost) : Ghost := if o.txZlp then receive g drop o.txSeq [] else g

def gnext (i : In) (o : Out) (drop : Bool) (g : Ghost) : Ghost := gZlp o drop (gTx i o drop (gProd i o g))

/-- tx register empty: of the host side only a ZLP strobe is left -/
theorem gnext_txidle (i : In) (o : Out) (d : Bool) (g : Ghost) (h1 : o.txValid = 0) :
    gnext i o d g = gZlp o d (gProd i o g) := by
  simp [gnext, gTx, h1]

/-- "quiet" (here, in `rx_quiet` and in the lemmas that use them): tx register empty and no ZLP strobe — the host sees
nothing in the cycle -/
theorem gnext_quiet (i : In) (o : Out) (d : Bool) (g : Ghost) (h1 : o.txValid = 0) (h2 : o.txZlp = false) :
    gnext i o d g = gProd i o g := by
  simp [gnext, gZlp, gTx, h1, h2]

theorem gnext_hold (i : In) (o : Out) (d : Bool) (g : Ghost) (h1 : o.txValid ≠ 0) (h2 : i.txReady = false)
    (hz : o.txZlp = false) :
    gnext i o d g = { g with prod := g.prod ++ prodBytes i o, inPkt := true,
                             curSeq := if g.inPkt then g.curSeq else o.txSeq } := by
  simp [gnext, gZlp, gTx, gProd, h1, h2, hz]
  rfl

theorem gnext_word (i : In) (o : Out) (d : Bool) (g : Ghost) (h1 : o.txValid ≠ 0) (h2 : i.txReady = true)
    (h3 : o.txLast = false) (hz : o.txZlp = false) :
    gnext i o d g = { g with prod := g.prod ++ prodBytes i o, inPkt := true,
                             curSeq := if g.inPkt then g.curSeq else o.txSeq,
                             curBytes := g.curBytes ++ bytesOf (validBytes o.txValid) o.txData } := by
  simp [gnext, gZlp, gTx, gProd, h1, h2, h3, hz]
  rfl

theorem gnext_last (i : In) (o : Out) (d : Bool) (g : Ghost) (h1 : o.txValid ≠ 0) (h2 : i.txReady = true)
    (h3 : o.txLast = true) (hz : o.txZlp = false) :
    gnext i o d g = receive { g with prod := g.prod ++ prodBytes i o, inPkt := false, curBytes := [] } d
      (if g.inPkt then g.curSeq else o.txSeq) (g.curBytes ++ bytesOf (validBytes o.txValid) o.txData) := by
  simp [gnext, gZlp, gTx, gProd, h1, h2, h3, hz]
  rfl

def CfgOK (c : Config) : Prop := c.mps % 4 = 0 ∧ 8 ≤ c.mps ∧ c.mps / 4 ≤ 2 ^ c.aw

def ProdOK (i : In) : Prop :=
  i.sValid = 0 ∨ i.sValid = 15 ∨ ((i.sValid = 1 ∨ i.sValid = 3 ∨ i.sValid = 7) ∧ i.sLast = true)

def HostOK (c : Config) (g : Ghost) (i : In) (o : Out) : Prop :=
  i.ack = true → i.hsEp = c.ep → o.txValid = 0 ∧ i.nextSeq = g.hseq

def EnvOK (c : Config) (g : Ghost) (i : In) (o : Out) : Prop :=
  i.epReset = false ∧ ProdOK i ∧ HostOK c g i o

theorem hostOK_ack {c : Config} {v : View} {g : Ghost} {i : In} (hh : HostOK c g i (vout c v i))
    (hack : (i.ack && i.hsEp == c.ep) = true) : v.txValid = 0 ∧ i.nextSeq = g.hseq := by
  have hack' : i.ack = true ∧ i.hsEp = c.ep := by simpa using hack
  exact hh hack'.1 hack'.2

structure Shape (c : Config) (v : View) : Prop where
  lenW : v.memW.length = c.mps / 4
  lenR : v.memR.length = c.mps / 4
  fillW_le : v.fillW ≤ c.mps
  fillW_al : v.endedW = false → v.fillW % 4 = 0
  endW : v.endedW = true → 1 ≤ v.fillW
  fillR_le : v.fillR ≤ c.mps
  wd : v.fsm = .waitData → v.fillR = 0

/-! The transmitter, per FSM state.  SEND_PACKET has word `sendPos` of the read buffer at the read port and, once a word
is in the tx register, word `sendPos - 1` there and the words before it with the host; WAIT_FOR_ACK holds at most the
last word (masked by the fill count); in the other states the tx register is empty and the host expects the
endpoint's sequence number. -/

@[simp] def TxSend (v : View) (g : Ghost) : Prop :=
  v.lpz = false ∧ v.sendPos * 4 < v.fillR ∧ v.rdR = v.memR.getD v.sendPos 0 ∧
    (v.txValid = 0 → v.sendPos = 0) ∧
    (v.txValid ≠ 0 → 1 ≤ v.sendPos ∧ v.txValid = 15 ∧ v.txLast = false ∧
      v.txData = v.memR.getD (v.sendPos - 1) 0 ∧ g.curBytes = wordsBytes (v.memR.take (v.sendPos - 1)))

@[simp] def TxWait (v : View) (g : Ghost) : Prop :=
  (v.lpz = true → v.fillR = 0 ∧ v.txValid = 0) ∧ (v.lpz = false → 1 ≤ v.fillR) ∧
    (v.txValid ≠ 0 → v.txLast = true ∧ v.txValid = lastMask v.fillR ∧
      v.txData = v.memR.getD ((v.fillR - 1) / 4) 0 ∧
      g.curBytes = wordsBytes (v.memR.take ((v.fillR - 1) / 4)))

@[simp] def TxIdle (v : View) (g : Ghost) : Prop := v.sendPos = 0 ∧ v.txValid = 0 ∧ g.hseq = v.seq

def Tx (v : View) (g : Ghost) : Prop :=
  match v.fsm with
  | .send => TxSend v g
  | .waitAck => TxWait v g
  | _ => TxIdle v g

/-- the packet on the wire and what the host has of it -/
structure Wire (c : Config) (v : View) (g : Ghost) : Prop where
  tx : Tx v g
  hs : g.hseq = v.seq ∨ g.hseq = (v.seq + 1) % 32
  cur0 : v.txValid = 0 → g.inPkt = false ∧ g.curBytes = []
  curq : g.inPkt = true → g.curSeq = v.seq

section
variable {c : Config} {v : View} {g : Ghost} (h : Wire c v g)
include h

theorem Wire.idle (hf : v.fsm = .waitData ∨ v.fsm = .reqIn ∨ v.fsm = .waitSend) : TxIdle v g := by
  have := h.tx
  rcases hf with hf | hf | hf <;> rwa [Tx, hf] at this

theorem Wire.snd (hf : v.fsm = .send) : TxSend v g := by
  have := h.tx
  rwa [Tx, hf] at this

theorem Wire.wa (hf : v.fsm = .waitAck) : TxWait v g := by
  have := h.tx
  rwa [Tx, hf] at this

end

structure Inv (c : Config) (v : View) (g : Ghost) : Prop extends Shape c v, Wire c v g

/-- the sequence number the host attributes to the word on `tx` (field `curq`) -/
theorem curSeq_held {g : Ghost} {s : Nat} (h : g.inPkt = true → g.curSeq = s) :
    (if g.inPkt = true then g.curSeq else s) = s := by
  cases hi : g.inPkt
  · rfl
  · exact (if_pos rfl).trans (h hi)

/-- WAIT_FOR_ACK with a word still on `tx`: it is the last word of a data packet, and with it the host has the read
buffer's bytes -/
theorem last_word_completes {c : Config} {v : View} {g : Ghost} (hc : CfgOK c) (hI : Inv c v g)
    (hf : v.fsm = .waitAck) (htv : v.txValid ≠ 0) :
    g.curBytes ++ bytesOf (validBytes v.txValid) v.txData = bufBytes v.memR v.fillR := by
  obtain ⟨hlz, hnlz, hv1⟩ := hI.wa hf
  obtain ⟨-, hmask, htd, hcb⟩ := hv1 htv
  have hf1 : 1 ≤ v.fillR := hnlz (by cases h : v.lpz; rfl; exact absurd (hlz h).2 htv)
  rw [hcb, hmask, htd]
  exact emitted_eq_bufBytes v.memR v.fillR hf1 (by have := hI.lenR; have := hI.fillR_le; have := hc.1; omega)

/-- bytes accepted from the producer in this cycle: `prodBytes i (vout c v i)` under a name that unfolding `vout`
does not disturb -/
def wbytes (c : Config) (v : View) (i : In) : List Nat :=
  if wen c v i then bytesOf (validBytes i.sValid) i.sData else []

theorem gProd_vout (c : Config) (v : View) (i : In) (g : Ghost) :
    gProd i (vout c v i) g = { g with prod := g.prod ++ wbytes c v i } := rfl

theorem prodBytes_vout (c : Config) (v : View) (i : In) : prodBytes i (vout c v i) = wbytes c v i := rfl

/-- what `ProdOK` says about the byte count of the offered word (the bound 4 holds for every mask: `validBytes_le`,
Props/C46.lean, which this file does not import) -/
theorem validBytes_prod (i : In) (h : ProdOK i) :
    validBytes i.sValid ≤ 4 ∧ (i.sValid ≠ 0 → i.sLast = false → validBytes i.sValid = 4) ∧
      (i.sValid ≠ 0 → 1 ≤ validBytes i.sValid) := by
  rcases h with h | h | ⟨h | h | h, hl⟩ <;> simp_all [validBytes]

theorem write_side (c : Config) (v : View) (i : In) (hS : Shape c v) (hp : ProdOK i) :
    (wMem c v i).length = c.mps / 4 ∧ wFill c v i ≤ c.mps ∧
      (wEnded c v i = false → wFill c v i % 4 = 0) ∧ (wEnded c v i = true → 1 ≤ wFill c v i) ∧
      (wen c v i = true → 1 ≤ wFill c v i) ∧
      bufBytes (wMem c v i) (wFill c v i) = bufBytes v.memW v.fillW ++ wbytes c v i := by
  obtain ⟨lenW, -, hle, hal, hen, -, -⟩ := hS
  obtain ⟨hv4, hvl, hv1⟩ := validBytes_prod i hp
  cases hw : wen c v i
  · simp [wMem, wFill, wEnded, wbytes, hw, lenW, hle]; exact ⟨hal, hen⟩
  · have hw' := hw
    simp only [wen, vinReady, Bool.and_eq_true, bne_iff_ne, ne_eq, decide_eq_true_eq,
      Bool.not_eq_true'] at hw'
    obtain ⟨hnz, hroom, hne⟩ := hw'
    have h4 := hal hne
    have h1 := hv1 hnz
    refine ⟨by simp [wMem, hw, lenW], by simp only [wFill, hw, if_true]; omega, ?_,
      fun _ => by simp only [wFill, hw, if_true]; omega, fun _ => by simp only [wFill, hw, if_true]; omega, ?_⟩
    · simp only [wEnded, wFill, hw, Bool.and_true, if_true]
      intro he
      have := hvl hnz (by cases hl : i.sLast <;> simp_all)
      omega
    · simp only [wMem, wFill, wbytes, hw, if_true]
      exact bufBytes_write _ _ _ _ h4 (by omega) hv4

end LunaVerif.SSStreamIn
