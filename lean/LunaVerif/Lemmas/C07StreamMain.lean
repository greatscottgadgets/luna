import LunaVerif.Lemmas.C07StreamSeq
/-!
# The simulation for every handler state (`cycle_refines_event_streams`) — part 4: the stream window, the expansion, the theorems
(see Lemmas/C07Stream.lean for the set-up).
-/
namespace LunaVerif.CtrlCyc
open LunaVerif.Device

/-! ### The answer of a started streamer -/

/-- The window `rs` of `tx.ready` values (one per cycle after the start cycle) is long enough for the answer `R`
of a streamer that is silent for `lat` more cycles: the pulse is given / every byte is accepted within the window
(C09's `Complete`, Lemmas/C09Seq.lean). -/
def Fits (lat : Nat) (R : Desc.Response) (rs : List Bool) : Bool :=
  decide (lat < rs.length) &&
    (match R with
     | .data b => decide (b.length ≤ (rs.drop lat).count true)
     | _ => true)

theorem fits_iff (lat : Nat) (R : Desc.Response) (rs : List Bool) : Fits lat R rs = true ↔ Desc.Complete lat R rs := by
  unfold Fits Desc.Complete
  cases R <;> simp

/-- The event-level handler state once the streamer's answer is over. -/
def streamEnd (d : DevState) (R : Desc.Response) : DevState :=
  if R = .stall then toIdle { d with expectingAck := false } else d

def respOf (d : DevState) (R : Desc.Response) : Resp :=
  match R with
  | .data b => .data (dataPid d) b
  | .zlp => .data (dataPid d) []
  | .stall => .hs PID_STALL
  | .silent => .none

theorem sim_stall (c : DevConfig) (d : DevState) (n : CycIn) (hs : StreamState d true) :
    Sim1S (cfgOf c) d (toIdle { d with expectingAck := false }) (envIn d (beatIn true Desc.stallBeat n))
      (.hs PID_STALL) := by
  refine sim1s_core _ d _ _ _ (hin d (beatH true Desc.stallBeat (noiseH n)) false false false)
    ⟨false, false, false, false⟩ rfl (fun _ _ => ctrlComb_idle _ _ rfl rfl rfl)
    (fun _ hr => (ctrlNext_idle _ _ rfl rfl).trans hr.stage) rfl
    (hfacts_of_quiet (hs_stall (cfgOf c) d (noiseH n) hs) rfl rfl)

theorem sim_body (c : DevConfig) (d : DevState) (fd : Bool) (R : Desc.Response) (hs : StreamState d fd)
    (hst : R = .stall → fd = true) (hne : ∀ b, R = .data b → b ≠ []) (hsil : R ≠ .silent) (ns : List CycIn)
    (hfit : Fits 0 R (ns.map (·.txReady)) = true) :
    SimS (cfgOf c) d (streamEnd d R) (streamSeg d fd (Desc.bodyTrace R (ns.map (·.txReady))) ns) (respOf d R) := by
  cases R with
  | data b =>
    have hb : 0 < b.length := List.length_pos_iff.mpr (hne b rfl)
    have hcnt : b.length - 0 ≤ (ns.map (·.txReady)).count true := ((fits_iff ..).mp hfit).2 b rfl
    have := sim_send c d fd hs b ns 0 .idle hb hcnt (Or.inr ⟨rfl, rfl⟩)
    simpa [SimS, streamEnd, respOf, obsOf, Resp.isNone, Desc.bodyTrace] using this
  | zlp =>
    cases ns with
    | nil => simp [Fits] at hfit
    | cons n ns =>
      simp only [List.map_cons, Desc.bodyTrace, Desc.pulseTrace, streamSeg]
      have h1 : SimO (cfgOf c) d d [envIn d (beatIn fd Desc.zlpBeat n)] .idle (.done (.data (dataPid d) [])) :=
        sim_beat c d fd true false true 0 n hs .idle
      have h2 := (sim_seg_quiet c d fd (fun n => calm_stream hs n) (Desc.idleTrace (ns.map (·.txReady))) ns
        (Desc.idleTrace_all (· = Desc.Beat.quiet) rfl _)).done (.data (dataPid d) [])
      have := SimO.cons h1 h2
      simpa [SimS, streamEnd, respOf, obsOf, Resp.isNone] using this
  | stall =>
    have hfd := hst rfl
    subst hfd
    cases ns with
    | nil => simp [Fits] at hfit
    | cons n ns =>
      simp only [List.map_cons, Desc.bodyTrace, Desc.pulseTrace, streamSeg]
      have h1 := SimS.single (sim_stall c d n hs)
      have h2 := sim_seg_quiet c (toIdle { d with expectingAck := false }) true (fun _ => trivial)
        (Desc.idleTrace (ns.map (·.txReady))) ns (Desc.idleTrace_all (· = Desc.Beat.quiet) rfl _)
      rw [streamSeg_congr (d := d) (d' := toIdle { d with expectingAck := false }) rfl rfl rfl rfl] at h2
      have := h1.append_none h2
      simpa [streamEnd, respOf] using this
  | silent => exact absurd rfl hsil

/-- **The stream window**: a streamer started in the previous cycle, silent for `lat` more cycles and then
answering `R` under ANY `tx.ready` pattern that takes the answer within the window, puts exactly `R` on the bus
(as a DATA packet with the handler's data PID, a zero-length packet, or a STALL). -/
theorem sim_window (c : DevConfig) (d : DevState) (fd : Bool) (R : Desc.Response) (hs : StreamState d fd)
    (hst : R = .stall → fd = true) (hne : ∀ b, R = .data b → b ≠ []) (hsil : R ≠ .silent) (lat : Nat) :
    ∀ (ns : List CycIn), Fits lat R (ns.map (·.txReady)) = true →
      SimS (cfgOf c) d (streamEnd d R)
        (streamSeg d fd (Desc.delayed lat (Desc.bodyTrace R) (ns.map (·.txReady))) ns) (respOf d R) := by
  induction lat with
  | zero => intro ns hfit; exact sim_body c d fd R hs hst hne hsil ns hfit
  | succ lat ih =>
    intro ns hfit
    cases ns with
    | nil => simp [Fits] at hfit
    | cons n ns =>
      simp only [List.map_cons, Desc.delayed, streamSeg]
      obtain ⟨h1, h2⟩ := (fits_iff ..).mp hfit
      have hfit' : Fits lat R (ns.map (·.txReady)) = true :=
        (fits_iff ..).mpr ⟨Nat.lt_of_succ_lt_succ h1, h2⟩
      exact (SimS.single (sim_quiet_s c d _ (calm_stream hs n))).none_append (ih ns hfit')

/-! ### Which event starts a streamer, and with what answer -/

/-- The descriptor handler's answer (event level: `descriptorPacket`) as a stream response. -/
def descResp : Option (List Nat) → Desc.Response
  | none => .stall
  | some [] => .zlp
  | some (b :: bs) => .data (b :: bs)

theorem descResp_data {x : Option (List Nat)} {b : List Nat} (h : descResp x = .data b) : x = some b := by
  cases x with
  | none => simp [descResp] at h
  | some y => cases y <;> simp_all [descResp]

theorem descResp_zlp {x : Option (List Nat)} (h : descResp x = .zlp) : x = some [] := by
  cases x with
  | none => simp [descResp] at h
  | some y => cases y <;> simp_all [descResp]

/-- In the event-level state `d` (the token registers already show the token): does `ready_for_response` start a
streamer -- which one (`true` = the descriptor handler, `false` = the transmitter) and with what answer. -/
def streamOf (c : DevConfig) (d : DevState) : Option (Bool × Desc.Response) :=
  if readyDr d = true ∧ d.setup.type = TYPE_STANDARD then
    match d.hstate with
    | .getStatus => some (false, .data [0, 0])
    | .getConfiguration => some (false, .data [d.config % 256])
    | .getDescriptor => some (true, descResp (descriptorPacket c d.setup.value d.setup.length d.startPos))
    | _ => none
  else none

/-- `max_length = L` and `data[0] = d0` are what the transmitter is given in the streaming state of `d`. -/
def TxAns (d : DevState) (L d0 : Nat) : Prop :=
  (d.hstate = .getStatus ∧ L = 2 ∧ d0 = 0) ∨ (d.hstate = .getConfiguration ∧ L = 1 ∧ d0 = d.config % 256)

/-- What `streamOf` means when it names a streamer. -/
theorem streamOf_some {c : DevConfig} {d : DevState} {fd : Bool} {R : Desc.Response} (h : streamOf c d = some (fd, R)) :
    readyDr d = true ∧ d.setup.type = TYPE_STANDARD ∧
    ((fd = false ∧ ∃ L d0, TxAns d L d0 ∧ R = .data ([d0, 0].take L)) ∨
     (fd = true ∧ d.hstate = .getDescriptor ∧
       R = descResp (descriptorPacket c d.setup.value d.setup.length d.startPos))) := by
  unfold streamOf at h
  split at h
  · rename_i hc
    refine ⟨hc.1, hc.2, ?_⟩
    -- the match names a streamer in three handler states; in the other five `h` is `none = some _`
    cases hd : d.hstate <;> simp only [hd, Option.some.injEq, Prod.mk.injEq, reduceCtorEq] at h
    case getStatus => obtain ⟨rfl, rfl⟩ := h; exact .inl ⟨rfl, 2, 0, .inl ⟨hd, rfl, rfl⟩, rfl⟩
    case getDescriptor => obtain ⟨rfl, rfl⟩ := h; exact .inr ⟨rfl, rfl, rfl⟩
    case getConfiguration => obtain ⟨rfl, rfl⟩ := h; exact .inl ⟨rfl, 1, d.config % 256, .inr ⟨hd, rfl, rfl⟩, rfl⟩
  · cases h

theorem ready_nostream (c : DevConfig) (d : DevState) (h : streamOf c d = none) :
    reqNowResult c d (readyDr d) (readySr d) (readyPing d) = readyResult c d := by
  rw [readyResult_eq]
  unfold streamOf at h
  unfold reqNowResult reqResult reqNow
  cases hdr : readyDr d
  · simp
  · by_cases hty : d.setup.type = TYPE_STANDARD
    · cases hd : d.hstate <;> simp_all
    · simp [hty]

theorem ready_stream (c : DevConfig) (hx : c.extra = []) (d : DevState)
    (hcfg : d.hstate = .getConfiguration → d.config < 256) (fd : Bool)
    (R : Desc.Response) (h : streamOf c d = some (fd, R)) :
    reqNowResult c d (readyDr d) (readySr d) (readyPing d) = reqNow c d .data ∧ (reqNow c d .data).2 = .none ∧
    StreamState (reqNow c d .data).1 fd ∧ (R = .stall → fd = true) ∧ (∀ b, R = .data b → b ≠ []) ∧ R ≠ .silent ∧
    readyResult c d = (streamEnd (reqNow c d .data).1 R, respOf (reqNow c d .data).1 R) := by
  rw [readyResult_eq]
  obtain ⟨hdr, hty, ⟨rfl, L, d0, ha, rfl⟩ | ⟨rfl, hd, rfl⟩⟩ := streamOf_some h <;>
    simp only [reqNowResult, reqResult, hdr, if_true, reqNow, hty, and_self, true_and] <;>
    rw [request_noextra c hx, if_pos hty]
  · rcases ha with ⟨hd, rfl, rfl⟩ | ⟨hd, rfl, rfl⟩
    · simp [StreamState, hty, hd, stdRequest, streamEnd, respOf]
    · simp [StreamState, hty, hd, stdRequest, streamEnd, respOf, Nat.mod_eq_of_lt (hcfg hd)]
  · cases hp : descriptorPacket c d.setup.value d.setup.length d.startPos with
    | none => simp [StreamState, hty, hd, stdRequest, streamEnd, respOf, descResp, hp, toIdle]
    | some bytes => cases bytes <;> simp [StreamState, hty, hd, stdRequest, streamEnd, respOf, descResp, hp, dataPid]

theorem ready_stallNow (c : DevConfig) (hx : c.extra = []) (d : DevState) (h : streamOf c d = some (true, .stall)) :
    readyDr d = true ∧ StreamState d true ∧
      readyResult c d = (toIdle { d with expectingAck := false }, .hs PID_STALL) := by
  obtain ⟨hdr, hty, ⟨hf, -⟩ | ⟨-, hd, hR⟩⟩ := streamOf_some h
  · cases hf
  · refine ⟨hdr, ⟨hty, hd⟩, ?_⟩
    have hp : descriptorPacket c d.setup.value d.setup.length d.startPos = none := by
      cases hp : descriptorPacket c d.setup.value d.setup.length d.startPos with
      | none => rfl
      | some b => rw [hp] at hR; cases b <;> cases hR
    rw [readyResult_eq, reqResult, if_pos hdr, request_noextra c hx, if_pos hty]
    simp only [stdRequest, hd, hp]

theorem sim_ready_stall (c : DevConfig) (d : DevState) (n : CycIn) (hdr : readyDr d = true) (hs : StreamState d true) :
    Sim1S (cfgOf c) d (toIdle { d with expectingAck := false })
      { envIn d (beatIn true Desc.stallBeat n) with readyForResponse := true } (.hs PID_STALL) := by
  have hst : d.stage = .dataIn := by
    simp only [readyDr, Bool.and_eq_true, decide_eq_true_eq] at hdr; exact hdr.1.2
  exact sim1s_core _ d _ _ _ (hin d (beatH true Desc.stallBeat (noiseH n)) true false false)
    ⟨true, false, false, false⟩ rfl
    (fun cs hr => by rw [hr.stage, ctrlComb_ready, hdr]; simp [readySr, readyPing, hst])
    (fun _ hr => (ctrlNext_idle _ _ rfl rfl).trans hr.stage) rfl
    (hfacts_of_quiet (hs_req_stall (cfgOf c) d (noiseH n) hs) rfl rfl)

/-! ### The expansion of an event -/

/-- The free parameters of an expansion: the free inputs of the idle cycles before / between / after the strobes
(any number of cycles each) and of the strobe cycles themselves; for an event that starts a streamer, its
additional latency `lat` and the free inputs (in particular `tx.ready`) of the cycles of its window. -/
structure GapsS where
  pre    : List CycIn := []
  mid    : List CycIn := []
  mid2   : List CycIn := []
  post   : List CycIn := []
  n1     : CycIn := {}
  n2     : CycIn := {}
  n3     : CycIn := {}
  lat    : Nat := 0
  stream : List CycIn := []
  /-- the descriptor handler reports a missing descriptor in the start cycle itself (`GetDescriptorHandlerDistributed`;
  the block handler needs 1-4 cycles: `lat`, `stream`) -/
  stallNow : Bool := false

/-- The cycles after the `ready_for_response` cycle in which the started streamer answers. -/
def streamWindow (c : DevConfig) (d1 : DevState) (g : GapsS) : List CycIn :=
  match streamOf c d1 with
  | some (fd, R) => streamSeg d1 fd (Desc.delayed g.lat (Desc.bodyTrace R) (g.stream.map (·.txReady))) g.stream
  | none => []

def stallsNow (c : DevConfig) (d1 : DevState) (g : GapsS) : Bool :=
  g.stallNow && decide (streamOf c d1 = some (true, .stall))

def readySeg (c : DevConfig) (d1 : DevState) (g : GapsS) : List CycIn :=
  if stallsNow c d1 g then [{ envIn d1 (beatIn true Desc.stallBeat g.n2) with readyForResponse := true }]
  else [{ envIn d1 (calm d1 g.n2) with readyForResponse := true }] ++ streamWindow c d1 g

/-- The clock cycles the control endpoint sees for the event `e` received in the event-level state `d`: as
`expand` (Lemmas/C07Refine.lean), with the stream contract: a streamer that has not been started is silent
(`calm`); a data-stage IN token in a streaming state is followed by the streamer's window. -/
def expandS (c : DevConfig) (d : DevState) (e : HostEvent) (g : GapsS) : List CycIn :=
  let d' := (core c d e).1
  match e with
  | .token pid addr ep =>
      if addr = d.address then
        let d1 := afterToken d pid ep
        idleS d g.pre ++ ([{ envIn d1 (calm d1 g.n1) with newToken := true }] ++ (idleS d1 g.mid ++
          (readySeg c d1 g ++ idleS d' g.post)))
      else idleS d g.pre ++ idleS d' g.post
  | .data _ p ok =>
      if ok = true then
        if d.sdWait = true ∧ p.length = 8 ∧ d.tokPid = PID_SETUP then
          idleS d g.pre ++ ([{ envIn d (calm d g.n1) with received := true, su := parseSetup p }] ++ (idleS d' g.mid ++
            ([{ envIn d' (calm d' g.n2) with sdAck := true }] ++ (idleS d' g.mid2 ++
              ([{ envIn d' (calm d' g.n3) with rxReady := true }] ++ idleS d' g.post)))))
        else idleS d g.pre ++ ([{ envIn d (calm d g.n1) with rxReady := true }] ++ idleS d' g.post)
      else idleS d g.pre ++ idleS d' g.post
  | .handshake pid =>
      if pid = PID_ACK then idleS d g.pre ++ ([{ envIn d (calm d g.n1) with hsAck := true }] ++ idleS d' g.post)
      else idleS d g.pre ++ idleS d' g.post
  | _ => idleS d g.pre ++ idleS d' g.post

/-- Outside a token for this device every cycle of an expansion is a calm cycle, some with one of the strobes `received`
(with the SETUP packet), `sdAck`, `rxReady`, `hsAck`: a property of calm cycles that does not read these strobes holds of
every cycle. -/
theorem expandS_all {P Q : CycIn → Prop} (hcalm : ∀ d n, Q n → P (envIn d (calm d n)))
    (hsu : ∀ i s, P i → P { i with received := true, su := s }) (hsd : ∀ i, P i → P { i with sdAck := true })
    (hrx : ∀ i, P i → P { i with rxReady := true }) (hhs : ∀ i, P i → P { i with hsAck := true })
    (c : DevConfig) (d : DevState) (e : HostEvent) (g : GapsS)
    (pre : ∀ n ∈ g.pre, Q n) (mid : ∀ n ∈ g.mid, Q n) (mid2 : ∀ n ∈ g.mid2, Q n) (post : ∀ n ∈ g.post, Q n)
    (n1 : Q g.n1) (n2 : Q g.n2) (n3 : Q g.n3)
    (hne : ∀ pid ep, e ≠ .token pid d.address ep) : ∀ i ∈ expandS c d e g, P i := by
  have hpre := all_idleS hcalm d g.pre pre
  have hpost := fun d' => all_idleS hcalm d' g.post post
  cases e with
  | token pid addr ep =>
    have ha : addr ≠ d.address := fun h => hne pid ep (by rw [h])
    simp only [expandS, ha, if_false, List.forall_mem_append]
    exact ⟨hpre, hpost _⟩
  | data dp p ok =>
    simp only [expandS]
    split
    · split
      · simp only [List.forall_mem_append, List.forall_mem_singleton]
        exact ⟨hpre, hsu _ _ (hcalm d _ n1), all_idleS hcalm _ _ mid, hsd _ (hcalm _ _ n2), all_idleS hcalm _ _ mid2,
          hrx _ (hcalm _ _ n3), hpost _⟩
      · simp only [List.forall_mem_append, List.forall_mem_singleton]
        exact ⟨hpre, hrx _ (hcalm d _ n1), hpost _⟩
    · simp only [List.forall_mem_append]
      exact ⟨hpre, hpost _⟩
  | handshake pid =>
    simp only [expandS]
    split
    · simp only [List.forall_mem_append, List.forall_mem_singleton]
      exact ⟨hpre, hhs _ (hcalm d _ n1), hpost _⟩
    · simp only [List.forall_mem_append]
      exact ⟨hpre, hpost _⟩
  | _ =>
    simp only [expandS, List.forall_mem_append]
    exact ⟨hpre, hpost _⟩

theorem idleS_congr {d d' : DevState} (h1 : d'.tokEp = d.tokEp) (h2 : d'.tokPid = d.tokPid) (h3 : d'.config = d.config)
    (h4 : d'.setup = d.setup) (h5 : d'.hstate = d.hstate) (ns : List CycIn) : idleS d' ns = idleS d ns := by
  unfold idleS
  apply List.map_congr_left
  intro n _
  have hc : calm d' n = calm d n := by unfold calm; rw [h5]
  rw [hc, envIn_congr h1 h2 h3 h4]

/-- `expandS` with the event-level successor taken from `coreM` (Model/Device/ControlM.lean: `start_position` advances
by `c.maxPacket`). -/
def expandSM (c : DevConfig) (d : DevState) (e : HostEvent) (g : GapsS) : List CycIn :=
  let d' := (coreM c d e).1
  match e with
  | .token pid addr ep =>
      if addr = d.address then
        let d1 := afterToken d pid ep
        idleS d g.pre ++ ([{ envIn d1 (calm d1 g.n1) with newToken := true }] ++ (idleS d1 g.mid ++
          (readySeg c d1 g ++ idleS d' g.post)))
      else idleS d g.pre ++ idleS d' g.post
  | .data _ p ok =>
      if ok = true then
        if d.sdWait = true ∧ p.length = 8 ∧ d.tokPid = PID_SETUP then
          idleS d g.pre ++ ([{ envIn d (calm d g.n1) with received := true, su := parseSetup p }] ++ (idleS d' g.mid ++
            ([{ envIn d' (calm d' g.n2) with sdAck := true }] ++ (idleS d' g.mid2 ++
              ([{ envIn d' (calm d' g.n3) with rxReady := true }] ++ idleS d' g.post)))))
        else idleS d g.pre ++ ([{ envIn d (calm d g.n1) with rxReady := true }] ++ idleS d' g.post)
      else idleS d g.pre ++ idleS d' g.post
  | .handshake pid =>
      if pid = PID_ACK then idleS d g.pre ++ ([{ envIn d (calm d g.n1) with hsAck := true }] ++ idleS d' g.post)
      else idleS d g.pre ++ idleS d' g.post
  | _ => idleS d g.pre ++ idleS d' g.post

/-- The cycles do not depend on which of the two models provides the successor state (the idle cycles after the
strobes show the token registers, the latched SETUP packet and the configuration, not `start_position`). -/
theorem expandSM_eq (c : DevConfig) (d : DevState) (e : HostEvent) (g : GapsS) : expandSM c d e g = expandS c d e g := by
  cases e with
  | handshake pid =>
    have h := onHandshakeM_regs c.maxPacket d pid
    have : idleS (onHandshakeM c.maxPacket d pid) g.post = idleS (onHandshake d pid) g.post :=
      idleS_congr h.tokEp h.tokPid h.config h.setup h.hstate_eq _
    simp only [expandSM, expandS, coreM, core, this]
  | _ => rfl

/-- The stream window of the event (if it starts a streamer) is long enough for the answer. -/
def StreamFits (c : DevConfig) (d : DevState) (e : HostEvent) (g : GapsS) : Bool :=
  match e with
  | .token pid addr ep =>
      if addr = d.address then
        if stallsNow c (afterToken d pid ep) g then true
        else match streamOf c (afterToken d pid ep) with
          | some (_, R) => Fits g.lat R (g.stream.map (·.txReady))
          | none => true
      else true
  | _ => true

theorem sim_readySeg (c : DevConfig) (hx : c.extra = []) (d : DevState) (g : GapsS)
    (hcfg : d.hstate = .getConfiguration → d.config < 256)
    (hfit : (if stallsNow c d g then true else
      match streamOf c d with
      | some (_, R) => Fits g.lat R (g.stream.map (·.txReady))
      | none => true) = true) :
    SimS (cfgOf c) d (readyResult c d).1 (readySeg c d g) (readyResult c d).2 := by
  by_cases hsn : stallsNow c d g = true
  · -- STALL in the start cycle
    simp only [readySeg, hsn, if_true]
    have hso : streamOf c d = some (true, .stall) := by
      simp only [stallsNow, Bool.and_eq_true, decide_eq_true_eq] at hsn; exact hsn.2
    obtain ⟨hdr, hs1, hres⟩ := ready_stallNow c hx _ hso
    rw [hres]
    exact SimS.single (sim_ready_stall c _ g.n2 hdr hs1)
  · simp only [readySeg, hsn, if_false, Bool.false_eq_true] at hfit ⊢
    have hrdy := SimS.single (sim_ready_s c hx d (calm d g.n2) (calmH_calm d g.n2))
    cases hso : streamOf c d with
    | none =>
      rw [ready_nostream c _ hso] at hrdy
      simpa only [streamWindow, hso, List.append_nil] using hrdy
    | some fr =>
      obtain ⟨fd, R⟩ := fr
      simp only [hso] at hfit
      obtain ⟨e1, e2, s1, s2, s3, s4, s5⟩ := ready_stream c hx _ hcfg fd R hso
      rw [e1, e2] at hrdy
      have hwin := sim_window c _ fd R s1 s2 s3 s4 g.lat g.stream hfit
      have k := reqNow_sameCtl c d .data
      rw [streamSeg_congr k.tokEp k.tokPid k.config k.setup] at hwin
      simp only [streamWindow, hso]
      rw [s5]
      exact hrdy.none_append hwin

theorem sim_idleS_only (c : DevConfig) (d : DevState) (a b : List CycIn) :
    SimS (cfgOf c) d d (idleS d a ++ idleS d b) .none :=
  (sim_idleS c d a).none_append (sim_idleS c d b)

/-- A good data packet that the setup decoder does not latch: only `rx_ready_for_response` is strobed. -/
theorem sim_plain_data_s (c : DevConfig) (hx : c.extra = []) (d : DevState) (p : List Nat) (n : CycIn)
    (hinv : Inv d) (hcalm : CalmH d.hstate (noiseH n))
    (hacc : ¬ (d.sdWait = true ∧ p.length = 8 ∧ d.tokPid = PID_SETUP)) :
    SimS (cfgOf c) d (onData c d p true).1 [{ envIn d n with rxReady := true }] (onData c d p true).2 := by
  have hrx := SimS.single (sim_rxReady_s c hx d n hcalm)
  by_cases hw : d.sdWait = true
  · have hsr : rxSr d = false := by
      rcases hinv.wait_pid hw with h | h <;> simp [rxSr, h, PID_SETUP, PID_OUT]
    rw [hsr] at hrx
    have hres : onData c d p true = ({ d with sdWait := false }, .none) ∨ onData c d p true = (d, .none) :=
      onData_elim (P := fun r => r = ({ d with sdWait := false }, .none) ∨ r = (d, .none)) c d p true (Or.inr rfl)
        (fun _ _ h8 g => absurd ⟨hw, h8, g⟩ hacc) (fun _ => Or.inl rfl) (fun _ w => absurd (hw ▸ w) nofun)
    rcases hres with h | h <;> rw [h]
    · have := hrx.append_none (SimS.relabel (d := d) (d' := { d with sdWait := false }) rfl rfl rfl rfl rfl rfl rfl)
      simpa [reqResult] using this
    · simpa [reqResult] using hrx
  · have hres : onData c d p true = reqResult c d false (rxSr d) false := by
      unfold onData reqResult rxSr
      simp only [Bool.not_true, Bool.false_eq_true, if_false, hw]
      by_cases h1 : d.stage = .statusOut <;> by_cases h2 : d.tokEp = 0 <;> by_cases h3 : d.tokPid = PID_OUT <;>
        simp [h1, h2, h3]
    rw [hres]; exact hrx

/-! ### The expansion of an event simulates the event -/

/-- The simulation of one event, for every `max_packet_size`: the event-level model is `coreM` (a host ACK of a
GET_DESCRIPTOR data packet advances `start_position` by `c.maxPacket`), the cycle-level model is configured with the
same size (`cfgOf c`).  `configuration < 256` is needed in GET_CONFIGURATION only (the transmitter sends
`active_config[7:0]`). -/
theorem sim_expandSM (c : DevConfig) (hx : c.extra = []) (d : DevState) (e : HostEvent)
    (g : GapsS) (hinv : Inv d) (hcfg : d.hstate = .getConfiguration → d.config < 256)
    (hfit : StreamFits c d e g = true) (hrst : e ≠ .busReset) :
    SimS (cfgOf c) d (coreM c d e).1 (expandSM c d e g) (coreM c d e).2 := by
  cases e with
  | token pid addr ep =>
    by_cases ha : addr = d.address
    · subst ha
      have hcore : coreM c d (.token pid d.address ep) = readyResult c (afterToken d pid ep) := by
        simp [coreM, core, onToken_eq]
      simp only [expandSM, if_true]
      simp only [StreamFits, if_true] at hfit
      rw [hcore]
      exact (sim_idleS c d g.pre).none_append
        ((SimS.single (sim_newToken_s c d pid ep _ (calmH_calm (afterToken d pid ep) g.n1))).none_append
          ((sim_idleS c _ g.mid).none_append
            ((sim_readySeg c hx (afterToken d pid ep) g hcfg hfit).append_none (sim_idleS c _ g.post))))
    · have hcore : coreM c d (.token pid addr ep) = ({ d with tokPid := 0 }, .none) := by
        simp [coreM, core, ha]
      simp only [expandSM, ha, if_false]
      rw [hcore]
      have := (sim_idleS c d g.pre).none_append
        ((SimS.relabel (cyc := cfgOf c) (d := d) (d' := { d with tokPid := 0 }) rfl rfl rfl rfl rfl rfl rfl).none_append
          (sim_idleS c _ g.post))
      simpa using this
  | data dp p ok =>
    cases ok with
    | false =>
      have hcore : coreM c d (.data dp p false) = (d, .none) := by simp [coreM, core, onData]
      simp only [expandSM, Bool.false_eq_true, if_false]
      rw [hcore]
      exact sim_idleS_only c d _ _
    | true =>
      by_cases hacc : d.sdWait = true ∧ p.length = 8 ∧ d.tokPid = PID_SETUP
      · have hcore : coreM c d (.data dp p true) = onSetupData d p := by
          simp [coreM, core, onData, hacc.1, hacc.2.1, hacc.2.2]
        simp only [expandSM, if_true, hacc, and_self]
        rw [hcore]
        have hsr : rxSr (onSetupData d p).1 = false := by
          have : (onSetupData d p).1.tokPid = PID_SETUP := by
            rw [← hacc.2.2]; unfold onSetupData; simp only []; split <;> rfl
          simp [rxSr, this, PID_SETUP, PID_OUT]
        have hrx := SimS.single (sim_rxReady_s c hx (onSetupData d p).1 (calm (onSetupData d p).1 g.n3)
          (calmH_calm _ _))
        rw [hsr] at hrx
        have hack : (onSetupData d p).2 = .hs PID_ACK := rfl
        rw [hack]
        exact (sim_idleS c d g.pre).none_append
          ((SimS.single (sim_received_s c d p (calm d g.n1) (calmH_calm _ _))).none_append
            ((sim_idleS c _ g.mid).none_append
              ((SimS.single (sim_sdAck_s c _ (calm (onSetupData d p).1 g.n2) (calmH_calm _ _))).append_none
                ((sim_idleS c _ g.mid2).none_append
                  (SimS.none_append (by simpa [reqResult] using hrx) (sim_idleS c _ g.post))))))
      · have hcore : coreM c d (.data dp p true) = onData c d p true := rfl
        simp only [expandSM, if_true, hacc, if_false]
        rw [hcore]
        exact (sim_idleS c d g.pre).none_append
          ((sim_plain_data_s c hx d p (calm d g.n1) hinv (calmH_calm _ _) hacc).append_none (sim_idleS c _ g.post))
  | handshake pid =>
    by_cases hp : pid = PID_ACK
    · subst hp
      have hcore : coreM c d (.handshake PID_ACK) = (onHandshakeM c.maxPacket d PID_ACK, .none) := rfl
      simp only [expandSM, if_true]
      rw [hcore]
      exact (sim_idleS c d g.pre).none_append
        ((SimS.single (sim_hsAck_s c d (calm d g.n1) (calmH_calm _ _))).none_append (sim_idleS c _ g.post))
    · have hcore : coreM c d (.handshake pid) = (d, .none) := by
        simp [coreM, onHandshakeM, hp]
      simp only [expandSM, hp, if_false]
      rw [hcore]
      exact sim_idleS_only c d _ _
  | busReset => exact absurd rfl hrst
  | _ => exact sim_idleS_only c d _ _

/-- **`cycle_refines_event`, every handler state, every `max_packet_size`.**  As `cycle_refines_event_streams`, with
the event-level model `coreM` (host ACK of a GET_DESCRIPTOR data packet: `start_position += c.maxPacket`) and the
cycle-level model configured with the same `max_packet_size` (`cfgOf c`); no hypothesis on `c.maxPacket`. -/
theorem cycle_refines_event_streams_mps (c : DevConfig) (hx : c.extra = []) (d : DevState)
    (e : HostEvent) (g : GapsS) (hinv : Inv d) (hcfg : d.config < 256) (hfit : StreamFits c d e g = true)
    (hrst : e ≠ .busReset) :
    SimS (cfgOf c) d (coreM c d e).1 (expandSM c d e g) (coreM c d e).2 :=
  sim_expandSM c hx d e g hinv (fun _ => hcfg) hfit hrst

/-- **`cycle_refines_event`, every handler state.**  For every host event `e` (bus reset excepted), every
event-level state `d` satisfying the model's invariant (and `configuration < 256`, which holds along every
history) and every choice of idle-cycle counts, free input values, streamer latency and `tx.ready` pattern `g` that
lets a started streamer finish within the event's window: running the cycle-level composition (control endpoint FSM
+ request multiplexer + standard request handler, endpoint 0, `max_packet_size = 64`) over the expansion of `e`,
from ANY cycle-level state related to `d`, ends in a state related to the event-level successor, puts exactly the
event-level response on the bus -- for GET_STATUS / GET_CONFIGURATION / GET_DESCRIPTOR data stages the DATA packet
whose payload is the bytes the packet generator takes from the `tx` stream, under the handler's data PID -- and
strobes `address_changed` / `config_changed` so that device.py's registers take the event-level values. -/
theorem cycle_refines_event_streams (c : DevConfig) (hx : c.extra = []) (hmp : c.maxPacket = 64) (d : DevState)
    (e : HostEvent) (g : GapsS) (hinv : Inv d) (hcfg : d.config < 256) (hfit : StreamFits c d e g = true)
    (hrst : e ≠ .busReset) :
    SimS (cfgOf c) d (core c d e).1 (expandS c d e g) (core c d e).2 := by
  rw [← coreM_eq_core c hmp, ← expandSM_eq]
  exact cycle_refines_event_streams_mps c hx d e g hinv hcfg hfit hrst

end LunaVerif.CtrlCyc
