import LunaVerif.Lemmas.C46Frame
/-!
# C46 — one cycle preserves the invariants of `ss_in_exactly_once` and `ss_in_framing`

`shape_step`: the buffer part of `Inv`, for reasons that do not depend on the FSM state (the write side of the cycle,
and what `vcontrol` guarantees when it exchanges the buffers).  Then `StepOK` — the wire part of `Inv` and the framing
invariant `InvF` — by FSM state (three lemmas for WAIT_FOR_ACK), one `vcontrol_…` equation (Lemmas/C46View.lean) per
branch and one `gnext_…` / `rx_…` equation per thing the host can see in the cycle (except the `InvF` half of
SEND_PACKET, where no packet ends whatever is on `tx`: it takes the fact bundle `vcontrol_send` and unfolds `rx` and
`gnext`): WAIT_FOR_DATA (with the swap that releases a complete packet), REQUEST_IN_TOKEN, WAIT_TO_SEND (with the ZLP
strobed from there); SEND_PACKET under arbitrary `tx.ready` (first word, word taken and next one loaded, word held, last
word with the byte mask); WAIT_FOR_ACK (last word pending / taken = the host receives the packet; retry of a data packet
or a ZLP; accepting ACK with the follow-up ZLP, with a buffer swap, or back to WAIT_FOR_DATA).  In each branch the wire
part is checked clause by clause against the next view; for `InvF` the write side is `invF_noflip` / `invF_flip`
(Lemmas/C46Frame.lean) and the branch shows that the packets the host accepts in the cycle come out of the read side.
-/
namespace LunaVerif.SSStreamIn

theorem shape_step (c : Config) (v : View) (i : In) (hS : Shape c v) (hp : ProdOK i) :
    Shape c (vnext c v i) := by
  obtain ⟨wl, wle, wal, wend, -, -⟩ := write_side c v i hS hp
  have hfl := vcontrol_flip c v i
  have hwd := vcontrol_waitData_next c v i
  obtain ⟨lenW, lenR, fillW_le, fillW_al, endW, fillR_le, wd⟩ := hS
  have hR : (vcontrol c v i).clrFillR = true ∨ v.fsm = .waitData →
      (if (vcontrol c v i).clrFillR = true then 0 else v.fillR) = 0 := by
    rintro (h | h)
    · rw [if_pos h]
    · rw [wd h, ite_self]
  have hRle : (if (vcontrol c v i).clrFillR = true then 0 else v.fillR) ≤ c.mps := by split <;> omega
  unfold vnext
  generalize vcontrol c v i = k at hfl hwd hR hRle ⊢
  constructor
  case wd => intro h; obtain ⟨h1, h2⟩ := hwd h; simp only [h1, Bool.false_eq_true, if_false]; exact hR h2
  all_goals
    cases hflip : k.flip
    · simp only [hflip, Bool.false_eq_true, if_false]; assumption
    simp only [hflip, if_true, hR (hfl hflip).2, (hfl hflip).1]
  case lenW => exact lenR
  case lenR => exact wl
  case fillR_le => exact wle
  case fillW_le => exact Nat.zero_le _
  case fillW_al => exact fun _ => trivial
  case endW => exact fun h => nomatch h

theorem memRead_lt (c : Config) (m : List Nat) (a : Nat) (h : a < 2 ^ c.aw) :
    memRead c m a = m[a]?.getD 0 := by
  simp [memRead, Nat.mod_eq_of_lt h]

theorem lastMask_ne_zero (f : Nat) : lastMask f ≠ 0 := by
  unfold lastMask; split <;> simp

/-- when WAIT_FOR_ACK swaps the buffers, the new read buffer is not empty and its word 0 is not the word
being written in this very cycle (needs max_packet_size ≥ 8) -/
theorem flip_facts (c : Config) (v : View) (i : In) (hm8 : 8 ≤ c.mps)
    (endW : v.endedW = true → 1 ≤ v.fillW) (wen1 : wen c v i = true → 1 ≤ wFill c v i)
    (hfl : (!vinReady c v || (i.sValid % 2 == 1 && decide (v.fillW + 4 ≥ c.mps))) = true) :
    1 ≤ wFill c v i ∧ (wMem c v i)[0]? = v.memW[0]? := by
  cases hrd : vinReady c v
  · have hw : wen c v i = false := by simp [wen, hrd]
    refine ⟨?_, by simp [wMem, hw]⟩
    simp only [wFill, hw, Bool.false_eq_true, if_false]
    simp only [vinReady, Bool.and_eq_false_iff, decide_eq_false_iff_not, Bool.not_eq_false'] at hrd
    rcases hrd with h | h
    · omega
    · exact endW h
  · simp only [hrd, Bool.not_true, Bool.false_or, Bool.and_eq_true, beq_iff_eq, decide_eq_true_eq] at hfl
    have hw : wen c v i = true := by
      have : i.sValid ≠ 0 := by omega
      simp [wen, hrd, this]
    refine ⟨wen1 hw, ?_⟩
    simp only [wMem, hw, if_true]
    exact List.getElem?_set_ne (by omega)

/-- What a cycle has to establish beside `shape_step`: the wire part of `Inv`, and `InvF` for every state of the
reference packetizer it held of. -/
def StepOK (c : Config) (v : View) (g : Ghost) (i : In) (d : Bool) : Prop :=
  Wire c (vnext c v i) (gnext i (vout c v i) d g) ∧
    ∀ f, InvF c v g f → InvF c (vnext c v i) (gnext i (vout c v i) d g) (fnext c.mps i (vout c v i) d g f)

theorem step_waitData (c : Config) (v : View) (g : Ghost) (i : In) (d : Bool) (hc : CfgOK c)
    (hI : Inv c v g) (he : EnvOK c g i (vout c v i)) (hf : v.fsm = .waitData) : StepOK c v g i d := by
  obtain ⟨hr, hp, -⟩ := he
  obtain ⟨hsp, htv, hhs⟩ := hI.idle (Or.inl hf)
  have hS := hI.toShape
  obtain ⟨⟨-, -, -, fillW_al, -, -, wd⟩, -, -, cur0, -⟩ := hI
  have hfr := wd hf
  obtain ⟨hip, hcb⟩ := cur0 htv
  have hm8 := hc.2.1
  have hk := vcontrol_waitData c v i hf
  have hz : (vcontrol c v i).txZlp = false := by rw [hk]
  have hg := gnext_quiet i (vout c v i) d g htv hz
  have hrx := rx_quiet i (vout c v i) d g htv hz
  rw [gProd_vout] at hg
  rw [StepOK, hg]
  generalize (v.erdyReq || (i.ack && i.hsEp == c.ep && i.nump != 0)) = req at hk
  clear wd cur0
  cases hends : ((i.sValid % 2 == 1 && (decide (v.fillW + 4 ≥ c.mps) || i.sLast)) || v.endedW) <;> rw [hends] at hk
  · -- stays in WAIT_FOR_DATA
    refine ⟨?_, fun f hF => invF_noflip c v g _ f i d hc hS hF hp hg hk rfl (fun _ => ?_) ?_⟩
    · simp only [vnext, hk]
      constructor <;> simp [Tx, *]
    · -- no word that completes the packet, and (`wdI`) room for one
      simp only [Bool.or_eq_false_iff] at hends
      refine stay_room c v i hc.1 hp fillW_al ?_
      have hroom : v.fillW + 4 ≤ c.mps := by simpa [hends.2] using hF.wdI hf
      have hrd : vinReady c v = true := by simp [vinReady, hends.2, hroom]
      have hX := hends.1
      rw [hrd]
      cases h1 : (i.sValid % 2 == 1) <;> cases h2 : decide (v.fillW + 4 ≥ c.mps) <;> simp [h1, h2] at hX ⊢
    · rw [hrx]; simp [rpart, zowed, vnext, hk, hf, hfr]
  · -- the packet is complete: swap
    have hcomp : (wEnded c v i || decide (c.mps ≤ wFill c v i)) = true := by
      rw [wcomplete_eq c v i hc.1 hp hS]
      cases he : v.endedW
      · rw [he, Bool.or_false] at hends
        rw [hends, Bool.or_true]
      · simp [vinReady, he]
    refine ⟨?_, fun f hF => invF_flip c v g _ f i d hc hS hF hp hg hk rfl ?_ hcomp (by simp [rpart, hf])
      (by simp [zowed, hfr]; omega) hrx ?_⟩
    · simp only [vnext, hk]
      constructor <;> simp [Tx, *]
      case tx => cases req <;> simp
    · dsimp only; rw [if_pos rfl]; split <;> (intro h; cases h)
    · simp [rpart, zowed, vnext, hk, hr, hhs]
      split <;> simp

theorem step_reqIn (c : Config) (v : View) (g : Ghost) (i : In) (d : Bool) (hc : CfgOK c)
    (hI : Inv c v g) (he : EnvOK c g i (vout c v i)) (hf : v.fsm = .reqIn) : StepOK c v g i d := by
  obtain ⟨hr, hp, -⟩ := he
  obtain ⟨hsp, htv, hhs⟩ := hI.idle (Or.inr (Or.inl hf))
  have hS := hI.toShape
  obtain ⟨-, -, -, cur0, -⟩ := hI
  obtain ⟨hip, hcb⟩ := cur0 htv
  have hk := vcontrol_reqIn c v i hf
  have hz : (vcontrol c v i).txZlp = false := by rw [hk]
  have hg := gnext_quiet i (vout c v i) d g htv hz
  rw [gProd_vout] at hg
  rw [StepOK, hg]
  clear cur0
  refine ⟨?_, fun f hF => invF_noflip c v g _ f i d hc hS hF hp hg hk rfl
    (by intro h; split at h <;> cases h) ?_⟩
  · simp only [vnext, hk]
    constructor <;> simp [Tx, *]
    case tx => cases i.done <;> simp
  · rw [rx_quiet _ _ _ _ htv hz]
    cases hd : i.done <;> simp [rpart, zowed, vnext, hk, hf, hr, hhs, hd]

theorem step_waitSend (c : Config) (v : View) (g : Ghost) (i : In) (d : Bool) (hc : CfgOK c)
    (hI : Inv c v g) (he : EnvOK c g i (vout c v i)) (hf : v.fsm = .waitSend) : StepOK c v g i d := by
  obtain ⟨hr, hp, -⟩ := he
  obtain ⟨hsp, htv, hhs⟩ := hI.idle (Or.inr (Or.inr hf))
  have hS := hI.toShape
  obtain ⟨-, -, -, cur0, -⟩ := hI
  obtain ⟨hip, hcb⟩ := cur0 htv
  have hm8 := hc.2.1
  have hg := gnext_txidle i (vout c v i) d g htv
  have hrx := rx_txidle i (vout c v i) d g htv
  rw [gProd_vout] at hg
  rw [StepOK, hg]
  clear cur0
  have noflip := fun k (hk : vcontrol c v i = k) hk1 hk2 hR f hF =>
    invF_noflip c v g _ f i d hc hS hF hp hg hk hk1 hk2 (hrx ▸ hR)
  cases htok : (i.ack && i.hsEp == c.ep && i.nump != 0)
  · have hk := vcontrol_waitSend_idle c v i hf htok
    refine ⟨?_, noflip _ hk rfl nofun ?_⟩
    · simp only [vnext, vout, hk, gZlp]
      constructor <;> simp [Tx, *]
    · simp [rpart, zowed, vnext, vout, hk, hf, hr, hhs, gZlp]
  · by_cases hfr : v.fillR = 0
    · -- nothing to send: the ZLP is strobed in this cycle
      have hk := vcontrol_waitSend_zlp c v i hf htok hfr
      refine ⟨?_, noflip _ hk rfl nofun ?_⟩
      · simp only [vnext, vout, hk, gZlp]
        constructor <;> simp [Tx, *]
        case hs => exact receive_hs _ _ _ _ (Or.inl rfl)
      · have hmz : ¬ (0 = c.mps) := by omega
        have := rx_receive { g with prod := g.prod ++ wbytes c v i } d v.seq [] [[]] (zowed c v)
        simpa [rpart, zowed, vnext, vout, hk, hf, hr, hhs, gZlp, hfr, hmz] using this
    · have hk := vcontrol_waitSend_data c v i hf htok hfr
      refine ⟨?_, noflip _ hk rfl nofun ?_⟩
      · simp only [vnext, vout, hk, gZlp]
        constructor <;> simp [Tx, *]
        case tx => exact ⟨by omega, by simp [memRead]⟩
      · simp [rpart, zowed, vnext, vout, hk, hf, hr, hhs, gZlp]

theorem step_send (c : Config) (v : View) (g : Ghost) (i : In) (d : Bool) (hc : CfgOK c)
    (hI : Inv c v g) (he : EnvOK c g i (vout c v i)) (hf : v.fsm = .send) : StepOK c v g i d := by
  obtain ⟨hr, hp, -⟩ := he
  obtain ⟨hlpz, hpos, hrd, hv0, hv1⟩ := hI.snd hf
  have hS := hI.toShape
  obtain ⟨⟨-, lenR, -, -, -, fillR_le, -⟩, -, hs, cur0, curq⟩ := hI
  obtain ⟨hfl, hcf, hce, hadv, hz, hnwd⟩ := vcontrol_send c v i hf
  refine ⟨?_, fun f hF => invF_noflip c v g _ f i d hc hS hF hp rfl rfl hfl (fun h => absurd h hnwd) ?_⟩
  case refine_2 =>
    -- no packet ends in SEND_PACKET: the word on `tx`, if any, is not the last
    by_cases htv : v.txValid = 0
    · simp [rpart, zowed, rx, rxData, rxZlp, vnext, vout, hf, htv, hr, hfl, hcf, hce, hadv, hz, hnwd, gnext, gZlp, gTx,
        gProd]
    · have hl := (hv1 htv).2.2.1
      simp [rpart, zowed, rx, rxData, rxZlp, vnext, vout, hf, htv, hr, hfl, hcf, hce, hadv, hz, hnwd, gnext, gZlp, gTx,
        gProd, hl]
      cases i.txReady <;> simp
  obtain ⟨hm4, hm8, haw⟩ := hc
  replace hz : (vout c v i).txZlp = false := hz
  clear hfl hcf hce hadv hnwd
  by_cases htv : v.txValid = 0
  · -- first word
    obtain ⟨hip, hcb⟩ := cur0 htv
    by_cases hl : (v.sendPos + 1) * 4 ≥ v.fillR
    · have hk := vcontrol_send_load c v i hf (Or.inl htv)
      rw [if_pos hl] at hk
      have hl' : v.fillR ≤ 4 := by omega
      rw [gnext_quiet _ _ _ _ htv hz, gProd_vout]
      simp only [vnext, hk]
      constructor <;> simp [Tx, *]
      case tx =>
        have e : (v.fillR - 1) / 4 = 0 := by omega
        exact ⟨by omega, fun _ => by simp [e, wordsBytes]⟩
    · have hk := vcontrol_send_load c v i hf (Or.inl htv)
      rw [if_neg hl] at hk
      have hl' : ¬ v.fillR ≤ 4 := by omega
      rw [gnext_quiet _ _ _ _ htv hz, gProd_vout]
      simp only [vnext, hk]
      constructor <;> simp [Tx, *]
      case tx => exact ⟨by omega, memRead_lt _ _ _ (by omega), by simp [wordsBytes]⟩
  · obtain ⟨hp1, hv15, hlast, htd, hcb⟩ := hv1 htv
    have hq := curSeq_held curq
    have hplt : v.sendPos - 1 < v.memR.length := by omega
    have hwords : wordsBytes (v.memR.take (v.sendPos - 1)) ++
        bytesOf (validBytes 15) (v.memR[v.sendPos - 1]?.getD 0) = wordsBytes (v.memR.take v.sendPos) := by
      have := wordsBytes_take_succ v.memR (v.sendPos - 1) hplt
      rw [show v.sendPos - 1 + 1 = v.sendPos by omega] at this
      rw [this]; rfl
    cases hrdy : i.txReady
    · -- the word is not taken
      have hk := vcontrol_send_hold c v i hf htv hrdy
      rw [gnext_hold _ _ _ _ htv hrdy hz, prodBytes_vout]
      simp only [vnext, vout, hk]
      constructor <;> simp [Tx, *]
      case tx => exact memRead_lt _ _ _ (by omega)
    · by_cases hl : (v.sendPos + 1) * 4 ≥ v.fillR
      · have hk := vcontrol_send_load c v i hf (Or.inr hrdy)
        rw [if_pos hl] at hk
        have e : (v.fillR - 1) / 4 = v.sendPos := by omega
        rw [gnext_word _ _ _ _ htv hrdy hlast hz, prodBytes_vout]
        simp only [vnext, vout, hk]
        constructor <;> simp [Tx, *]
        case tx => omega
        case cur0 => exact lastMask_ne_zero _
      · have hk := vcontrol_send_load c v i hf (Or.inr hrdy)
        rw [if_neg hl] at hk
        rw [gnext_word _ _ _ _ htv hrdy hlast hz, prodBytes_vout]
        simp only [vnext, vout, hk]
        constructor <;> simp [Tx, *]
        case tx => exact ⟨by omega, memRead_lt _ _ _ (by omega)⟩

theorem step_waitAck_quiet (c : Config) (v : View) (g : Ghost) (i : In) (d : Bool) (hc : CfgOK c)
    (hI : Inv c v g) (he : EnvOK c g i (vout c v i)) (hf : v.fsm = .waitAck)
    (hack : (i.ack && i.hsEp == c.ep) = false) : StepOK c v g i d := by
  obtain ⟨hr, hp, -⟩ := he
  obtain ⟨hlz, hnlz, hv1⟩ := hI.wa hf
  have hS := hI.toShape
  have hcomp := last_word_completes hc hI hf
  obtain ⟨-, -, hs, cur0, curq⟩ := hI
  have hk := vcontrol_waitAck_quiet c v i hf hack
  have hz : (vout c v i).txZlp = false := by rw [vout, hk]
  have noflip := fun g' hg hR f hF => invF_noflip c v g g' f i d hc hS hF hp hg hk rfl nofun hR
  by_cases htv : v.txValid = 0
  · obtain ⟨hip, hcb⟩ := cur0 htv
    have hg := gnext_quiet i (vout c v i) d g htv hz
    rw [gProd_vout] at hg
    rw [StepOK, hg]
    refine ⟨?_, noflip _ hg ?_⟩
    · simp only [vnext, hk]
      constructor <;> simp [Tx, *]
      case tx => exact ⟨fun h => (hlz h).1, hnlz⟩
    · rw [rx_quiet _ _ _ _ htv hz]; simp [rpart, zowed, vnext, hk, hf, hr]
  · obtain ⟨hlast, hmask, htd, hcb⟩ := hv1 htv
    have hq := curSeq_held curq
    have hlf : v.lpz = false := by
      cases h : v.lpz
      · rfl
      · exact absurd (hlz h).2 htv
    cases hrdy : i.txReady
    · have hg := gnext_hold i (vout c v i) d g htv hrdy hz
      rw [prodBytes_vout] at hg
      rw [StepOK, hg]
      refine ⟨?_, noflip _ hg ?_⟩
      · simp only [vnext, vout, hk]
        constructor <;> simp [Tx, lastMask_ne_zero, *]
      · rw [rx_inPkt _ _ _ _ (Or.inl hrdy) hz]; simp [rpart, zowed, vnext, hk, hf, hr, hrdy]
    · -- the last word is taken: the host has the packet
      have hg := gnext_last i (vout c v i) d g htv hrdy hlast hz
      rw [prodBytes_vout] at hg
      rw [StepOK, hg]
      refine ⟨?_, noflip _ hg ?_⟩
      · simp only [vnext, vout, hk]
        constructor <;> simp [Tx, lastMask_ne_zero, *]
        case hs => exact receive_hs _ _ _ _ hs
      · have := rx_receive { g with prod := g.prod ++ wbytes c v i, inPkt := false, curBytes := [] } d v.seq
          (bufBytes v.memR v.fillR) [bufBytes v.memR v.fillR] (zowed c v)
        rw [rx_last _ _ _ _ htv hrdy hlast hz]
        simpa [rpart, zowed, vnext, vout, hk, hf, hr, hrdy, hq, hcomp htv] using this

/-- WAIT_FOR_ACK, the host asks for the packet again (Retry bit, or the ACK does not carry the next number) -/
theorem step_waitAck_retry (c : Config) (v : View) (g : Ghost) (i : In) (d : Bool) (hc : CfgOK c)
    (hI : Inv c v g) (he : EnvOK c g i (vout c v i)) (hf : v.fsm = .waitAck)
    (hack : (i.ack && i.hsEp == c.ep) = true)
    (hre : (i.retry || !(i.nextSeq == (v.seq + 1) % 32)) = true) : StepOK c v g i d := by
  obtain ⟨hr, hp, hh⟩ := he
  obtain ⟨hlz, hnlz, hv1⟩ := hI.wa hf
  have hS := hI.toShape
  obtain ⟨-, -, hs, cur0, -⟩ := hI
  obtain ⟨htv, hns⟩ := hostOK_ack hh hack
  obtain ⟨hip, hcb⟩ := cur0 htv
  have hg := gnext_txidle i (vout c v i) d g htv
  have hrx := rx_txidle i (vout c v i) d g htv
  rw [gProd_vout] at hg
  rw [StepOK, hg]
  have noflip := fun k (hk : vcontrol c v i = k) hk1 hk2 hR f hF =>
    invF_noflip c v g _ f i d hc hS hF hp hg hk hk1 hk2 (hrx ▸ hR)
  obtain ⟨hm4, hm8, haw⟩ := hc
  have hk := vcontrol_waitAck_retry c v i hf hack hre
  cases hl : v.lpz <;> rw [hl] at hk
  · have hf1 := hnlz hl
    refine ⟨?_, noflip _ hk rfl nofun ?_⟩
    · simp only [vnext, vout, hk, gZlp]
      constructor <;> simp [Tx, *]
      case tx => exact ⟨by omega, by simp [memRead]⟩
    · simp [rpart, zowed, vnext, vout, hk, hf, hr, gZlp]
  · -- the ZLP is strobed again
    have hfr := (hlz hl).1
    refine ⟨?_, noflip _ hk rfl nofun ?_⟩
    · simp only [vnext, vout, hk, gZlp]
      constructor <;> simp [Tx, *]
      case hs => exact receive_hs _ _ _ _ hs
    · have hmz : ¬ (0 = c.mps) := by omega
      have := rx_receive { g with prod := g.prod ++ wbytes c v i } d v.seq [] [[]] (zowed c v)
      simpa [rpart, zowed, vnext, vout, hk, hf, hr, gZlp, hfr, hmz] using this

/-- WAIT_FOR_ACK, the host acknowledges the packet (it expects the next number) -/
theorem step_waitAck_accept (c : Config) (v : View) (g : Ghost) (i : In) (d : Bool) (hc : CfgOK c)
    (hI : Inv c v g) (he : EnvOK c g i (vout c v i)) (hf : v.fsm = .waitAck)
    (hack : (i.ack && i.hsEp == c.ep) = true)
    (hre : (i.retry || !(i.nextSeq == (v.seq + 1) % 32)) = false) : StepOK c v g i d := by
  obtain ⟨hr, hp, hh⟩ := he
  obtain ⟨-, -, -, -, wen1, -⟩ := write_side c v i hI.toShape hp
  obtain ⟨hlz, hnlz, hv1⟩ := hI.wa hf
  have hS := hI.toShape
  obtain ⟨⟨-, -, -, fillW_al, endW, -, -⟩, -, -, cur0, -⟩ := hI
  obtain ⟨htv, hns⟩ := hostOK_ack hh hack
  obtain ⟨hip, hcb⟩ := cur0 htv
  have hre' : i.retry = false ∧ i.nextSeq = (v.seq + 1) % 32 := by simpa using hre
  have hhs : g.hseq = (v.seq + 1) % 32 := by rw [← hns]; exact hre'.2
  have hne := seq_succ_ne v.seq
  have hg := gnext_txidle i (vout c v i) d g htv
  have hrx := rx_txidle i (vout c v i) d g htv
  rw [gProd_vout] at hg
  rw [StepOK, hg]
  -- the host has the packet of the read buffer
  have hr0 : rpart v g = [] := by simp [rpart, hf, hhs, hne]
  have noflip := fun k (hk : vcontrol c v i = k) hk1 hk2 hR f hF =>
    invF_noflip c v g _ f i d hc hS hF hp hg hk hk1 hk2 (hrx ▸ hR)
  have hm4 := hc.1
  have hm8 := hc.2.1
  have hmz : ¬ (0 = c.mps) := by omega
  cases hfu : (v.fillR == c.mps && v.endedR)
  · have hz0 : zowed c v = [] := by
      simp only [Bool.and_eq_false_iff, beq_eq_false_iff_ne] at hfu
      simp only [zowed]
      rcases hfu with h | h <;> simp [h]
    cases hfl : (!vinReady c v || (i.sValid % 2 == 1 && decide (v.fillW + 4 ≥ c.mps)))
    · -- nothing complete: back to WAIT_FOR_DATA
      have hk := vcontrol_waitAck_wait c v i hf hack hre hfu hfl
      refine ⟨?_, noflip _ hk rfl (fun _ => ?_) ?_⟩
      · simp only [vnext, vout, hk, gZlp]
        constructor <;> simp [Tx, *]
      · exact stay_room c v i hm4 hp fillW_al hfl
      · rw [hr0, hz0]
        simp [rpart, zowed, vnext, vout, hk, hmz]
    · -- the write buffer is complete: swap
      have hk := vcontrol_waitAck_swap c v i hf hack hre hfu hfl
      obtain ⟨hw1, hm0⟩ := flip_facts c v i hm8 endW wen1 hfl
      have hcomp : (wEnded c v i || decide (c.mps ≤ wFill c v i)) = true := by
        rw [wcomplete_eq c v i hm4 hp hS]
        simp only [Bool.or_eq_true, Bool.and_eq_true] at hfl ⊢
        exact hfl.imp_right fun h => ⟨h.1, Or.inl h.2⟩
      have hrx0 : rx i (vout c v i) d g = [] := by rw [hrx]; simp [vout, hk]
      have flip := fun k (hk : vcontrol c v i = k) hfl hnwd hRZ f hF =>
        invF_flip c v g _ f i d hc hS hF hp hg hk hfl hnwd hcomp hr0 hz0 hrx0 hRZ
      cases hin : (i.nump != 0) <;> simp only [hin, Bool.false_eq_true, if_false, if_true] at hk
      · refine ⟨?_, flip _ hk rfl nofun ?_⟩
        · simp only [vnext, vout, hk, gZlp]
          constructor <;> simp [Tx, *]
        · simp [rpart, zowed, hr, hhs, gZlp, vnext, vout, hk]
      · refine ⟨?_, flip _ hk rfl nofun ?_⟩
        · simp only [vnext, vout, hk, gZlp]
          constructor <;> simp [Tx, *]
          case tx => exact ⟨by omega, by simp [memRead]⟩
        · simp [rpart, zowed, hr, hhs, gZlp, vnext, vout, hk]
  · -- a full packet that ended its transfer: the ZLP is owed
    have hfu' : v.fillR = c.mps ∧ v.endedR = true := by simpa using hfu
    have hz1 : zowed c v = [[]] := by simp [zowed, hfu']
    have hk := vcontrol_waitAck_followUp c v i hf hack hre hfu
    cases hin : (i.nump != 0) <;> rw [hin] at hk
    · refine ⟨?_, noflip _ hk rfl nofun ?_⟩
      · simp only [vnext, vout, hk, gZlp]
        constructor <;> simp [Tx, *]
      · rw [hr0, hz1]
        simp [rpart, zowed, vnext, vout, hk, hmz, hr, hhs, gZlp]
    · -- ... and strobed at once
      refine ⟨?_, noflip _ hk rfl nofun ?_⟩
      · simp only [vnext, vout, hk, gZlp]
        constructor <;> simp [Tx, *]
        case hs =>
          refine (receive_hs _ _ _ _ (Or.inl rfl)).elim (fun h => Or.inl h) (fun h => Or.inr ?_)
          rw [h]; dsimp only; omega
      · have := rx_receive { g with prod := g.prod ++ wbytes c v i } d ((v.seq + 1) % 32) [] [[]] []
        rw [hr0, hz1]
        simpa [rpart, zowed, vnext, vout, hk, hmz, hr, hhs, gZlp] using this

theorem step_ok (c : Config) (v : View) (g : Ghost) (i : In) (d : Bool) (hc : CfgOK c)
    (hI : Inv c v g) (he : EnvOK c g i (vout c v i)) : StepOK c v g i d := by
  cases hf : v.fsm
  · exact step_waitData c v g i d hc hI he hf
  · exact step_reqIn c v g i d hc hI he hf
  · exact step_waitSend c v g i d hc hI he hf
  · exact step_send c v g i d hc hI he hf
  · cases hack : (i.ack && i.hsEp == c.ep)
    · exact step_waitAck_quiet c v g i d hc hI he hf hack
    · cases hre : (i.retry || !(i.nextSeq == (v.seq + 1) % 32))
      · exact step_waitAck_accept c v g i d hc hI he hf hack hre
      · exact step_waitAck_retry c v g i d hc hI he hf hack hre

end LunaVerif.SSStreamIn
