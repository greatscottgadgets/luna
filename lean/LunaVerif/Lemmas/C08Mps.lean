import LunaVerif.Lemmas.DeviceStepsM
import LunaVerif.Props.C08
/-!
# C08 — the property theorems for EVERY control `max_packet_size`
(Props/C08.lean over `coreM` / `stepM` / `finalM` / `LegalHostM` of Model/Device/ControlM.lean)

Props/C08.lean is about `Device.step`, whose GET_DESCRIPTOR advance is the literal 64.  `drv_dev` steps with `stepM`
(`start_position += c.maxPacket`) and the event-level co-simulation builds the real `USBDevice` with control max packet
sizes 8 / 16 / 32 / 64, so here every C08 theorem is stated of that model, with NO hypothesis on `c.maxPacket`.  The two
history theorems (`address_changes_only_on_status_ack_mps`, `configuration_changes_only_on_status_ack_mps`) unpack their
history over `finalM` / `LegalHostM` (the reachable states and the legal hosts of the two models differ); their one-step
core (`regwrite_data_answer_mps`) and the one-step theorems follow from `stepM_regs`, `stepM_resp` (from the same state
the two models agree on every control register and on the response).
-/
namespace LunaVerif.Device

/-- `StatusZlpJustSent` over `finalM` / `stepM`. -/
def StatusZlpJustSentM (c : DevConfig) (h : List Stim) (req : Nat) : Prop :=
  ∃ h₀ t, h = h₀ ++ [t] ∧
    t.ev = .token PID_IN (finalM c init h₀).address 0 ∧
    (finalM c init h).stage = .statusIn ∧
    (∃ pid, (stepM c (finalM c init h₀) t).2 = .data pid []) ∧
    (finalM c init h).setup = (finalM c init h₀).setup ∧
    (finalM c init h).setup.type = TYPE_STANDARD ∧ (finalM c init h).setup.request = req

theorem statusZlpJustSentM_64 (c : DevConfig) (hmp : c.maxPacket = 64) (h : List Stim) (req : Nat) :
    StatusZlpJustSentM c h req ↔ StatusZlpJustSent c h req := by
  unfold StatusZlpJustSentM StatusZlpJustSent
  simp only [finalM_eq_final c hmp, stepM_eq_step c hmp]

theorem regwrite_data_answer_mps (c : DevConfig) (s : DevState) (t : Stim) (i : Inv s)
    (hd : (stepM c s t).1.gRespData = true) (hep : (stepM c s t).1.tokEp = 0) (hpid : (stepM c s t).1.tokPid = PID_IN)
    (hty : (stepM c s t).1.setup.type = TYPE_STANDARD) (hh : IsRegWrite (stepM c s t).1.hstate) :
    t.ev = .token PID_IN s.address 0 ∧ (stepM c s t).1.stage = .statusIn ∧ (∃ pid, (stepM c s t).2 = .data pid []) ∧
    (stepM c s t).1.setup = s.setup ∧
    (stepM c s t).1.setup.request =
      if (stepM c s t).1.hstate = .setAddress then REQ_SET_ADDRESS else REQ_SET_CONFIGURATION := by
  have h := stepM_regs c s t
  rw [stepM_gRespData, stepM_resp, ← step_gRespData] at hd
  rw [h.tokEp] at hep
  rw [h.tokPid] at hpid
  rw [h.setup] at hty ⊢
  rw [h.hstate_eq] at hh ⊢
  rw [h.stage, stepM_resp]
  exact regwrite_data_answer c s t i hd hep hpid hty hh

theorem ack_in_regwrite_state_answers_status_zlp_mps (c : DevConfig) (h : List Stim) (x : Stim) (pid : Nat)
    (hx : x.ev = .handshake pid)
    (legal : LegalHostM c (h ++ [x]) = true)
    (reach : AckReachesHandler (finalM c init h) pid)
    (hh : IsRegWrite (finalM c init h).hstate) :
    StatusZlpJustSentM c h
      (if (finalM c init h).hstate = .setAddress then REQ_SET_ADDRESS else REQ_SET_CONFIGURATION) := by
  obtain ⟨_, lx⟩ := legalM_snoc legal
  obtain ⟨_, hep, hpid, hty⟩ := reach
  -- a legal host handshake follows a DATA packet of the device (the token detector still shows our IN token)
  have hd : (finalM c init h).gRespData = true := by
    unfold legalEventM at lx
    rw [hx] at lx
    simp only [Bool.and_eq_true, Bool.or_eq_true, beq_iff_eq] at lx
    rcases lx.2.2 with g | g
    · exact g
    · rw [hpid] at g; exact absurd g (by decide)
  rcases list_nil_or_snoc h with rfl | ⟨h₀, t, rfl⟩
  · simp [finalM, init] at hd
  · rw [finalM_snoc] at hd hep hpid hty hh ⊢
    obtain ⟨a, b, e, f, g⟩ := regwrite_data_answer_mps c _ t (inv_reachableM c h₀) hd hep hpid hty hh
    refine ⟨h₀, t, rfl, a, ?_, e, ?_, ?_, ?_⟩ <;> rw [finalM_snoc]
    · exact b
    · exact f
    · exact hty
    · exact g

theorem old_address_until_commit_mps (c : DevConfig) (s : DevState) (x : Stim)
    (h₁ : x.ev ≠ .busReset) (h₂ : ∀ pid, x.ev ≠ .handshake pid) :
    (stepM c s x).1.address = s.address ∧ (stepM c s x).1.config = s.config := by
  rw [(stepM_regs c s x).address, (stepM_regs c s x).config]
  exact old_address_until_commit c s x h₁ h₂

/-- **C08 (address), every max packet size.**  In any `LegalHostM` history the device address differs between two
consecutive events only at a bus reset (new address 0), or at the host's ACK of the status-stage ZLP of a standard
SET_ADDRESS request, whose `wValue[6:0]` is the new address. -/
theorem address_changes_only_on_status_ack_mps (c : DevConfig) (h : List Stim) (x : Stim)
    (legal : LegalHostM c (h ++ [x]) = true)
    (changed : (finalM c init (h ++ [x])).address ≠ (finalM c init h).address) :
    (x.ev = .busReset ∧ (finalM c init (h ++ [x])).address = 0) ∨
    (x.ev = .handshake PID_ACK ∧ StatusZlpJustSentM c h REQ_SET_ADDRESS ∧
      (finalM c init (h ++ [x])).address = (finalM c init h).setup.value % 128) := by
  rw [finalM_snoc] at changed ⊢
  by_cases hb : x.ev = .busReset
  · left
    refine ⟨hb, ?_⟩
    rw [stepM_address, hb]; rfl
  · by_cases hk : ∃ pid, x.ev = .handshake pid
    · obtain ⟨pid, hx⟩ := hk
      right
      rw [stepM_address, hx] at changed ⊢
      obtain ⟨reach, hs, hv⟩ := onHandshakeM_address _ _ pid changed
      have hp : pid = PID_ACK := reach.1
      subst hp
      have := ack_in_regwrite_state_answers_status_zlp_mps c h x _ hx legal reach (Or.inl hs)
      rw [if_pos hs] at this
      exact ⟨rfl, this, hv⟩
    · exact absurd (old_address_until_commit_mps c _ x hb (fun pid g => hk ⟨pid, g⟩)).1 changed

/-- **C08 (configuration), every max packet size.**  Same statement for the configuration register and
SET_CONFIGURATION (`wValue[7:0]`). -/
theorem configuration_changes_only_on_status_ack_mps (c : DevConfig) (h : List Stim) (x : Stim)
    (legal : LegalHostM c (h ++ [x]) = true)
    (changed : (finalM c init (h ++ [x])).config ≠ (finalM c init h).config) :
    (x.ev = .busReset ∧ (finalM c init (h ++ [x])).config = 0) ∨
    (x.ev = .handshake PID_ACK ∧ StatusZlpJustSentM c h REQ_SET_CONFIGURATION ∧
      (finalM c init (h ++ [x])).config = (finalM c init h).setup.value % 256) := by
  rw [finalM_snoc] at changed ⊢
  by_cases hb : x.ev = .busReset
  · left
    refine ⟨hb, ?_⟩
    rw [stepM_config, hb]; rfl
  · by_cases hk : ∃ pid, x.ev = .handshake pid
    · obtain ⟨pid, hx⟩ := hk
      right
      rw [stepM_config, hx] at changed ⊢
      obtain ⟨reach, hs, hv⟩ := onHandshakeM_config _ _ pid changed
      have hp : pid = PID_ACK := reach.1
      subst hp
      have := ack_in_regwrite_state_answers_status_zlp_mps c h x _ hx legal reach (Or.inr hs)
      rw [if_neg (by rw [hs]; simp)] at this
      exact ⟨rfl, this, hv⟩
    · exact absurd (old_address_until_commit_mps c _ x hb (fun pid g => hk ⟨pid, g⟩)).2 changed

/-- "of that same request", every max packet size: the latched SETUP packet only changes by a well-formed 8-byte data
packet that arrives while the setup decoder waits for one and the token detector still shows the SETUP token (`sdWait`,
`tokPid = PID_SETUP`), and it then is that packet (which the device ACKs). -/
theorem setup_latched_only_by_setup_transaction_mps (c : DevConfig) (s : DevState) (x : Stim)
    (changed : (stepM c s x).1.setup ≠ s.setup) :
    ∃ pid p, x.ev = .data pid p true ∧ s.sdWait = true ∧ s.tokPid = PID_SETUP ∧ p.length = 8 ∧
      (stepM c s x).1.setup = parseSetup p ∧ (coreM c s x.ev).2 = .hs PID_ACK := by
  rw [(stepM_regs c s x).setup] at changed ⊢
  rw [coreM_resp]
  exact setup_latched_only_by_setup_transaction c s x changed

theorem token_for_other_address_is_ignored_mps (c : DevConfig) (s : DevState) (pid addr ep : Nat)
    (h : addr ≠ s.address) :
    coreM c s (.token pid addr ep) = ({ s with tokPid := 0 }, .none) :=
  token_for_other_address_is_ignored c s pid addr ep h

theorem token_for_own_address_is_processed_mps (c : DevConfig) (s : DevState) (pid ep : Nat) :
    coreM c s (.token pid s.address ep) = onToken c s pid ep :=
  token_for_own_address_is_processed c s pid ep

/-- "handshakes belonging to other endpoints' transactions never trigger these changes", every max packet size: the
whole state is unchanged -- no register written, no handler movement, no `start_position` advance. -/
theorem foreign_ack_does_not_commit_mps (c : DevConfig) (s : DevState) (pid : Nat)
    (h : s.tokEp ≠ 0 ∨ s.tokPid ≠ PID_IN) :
    (coreM c s (.handshake pid)).1 = s := by
  show onHandshakeM c.maxPacket s pid = s
  apply onHandshakeM_noreach
  unfold AckReachesHandler
  rcases h with h | h
  · exact fun g => h g.2.1
  · exact fun g => h g.2.2.1

/-- "exactly once", every max packet size: the commit returns the handler to IDLE … -/
theorem commit_returns_to_idle_mps (mps : Nat) (s : DevState) (pid : Nat)
    (changed : (onHandshakeM mps s pid).address ≠ s.address ∨ (onHandshakeM mps s pid).config ≠ s.config) :
    (onHandshakeM mps s pid).hstate = .idle := by
  have h := onHandshakeM_regs mps s pid
  rw [h.address, h.config] at changed
  rw [h.hstate_eq]
  exact commit_returns_to_idle s pid changed

/-- … and in IDLE no handshake writes a register. -/
theorem idle_handler_ignores_handshakes_mps (mps : Nat) (s : DevState) (pid : Nat) (h : s.hstate = .idle) :
    (onHandshakeM mps s pid).address = s.address ∧ (onHandshakeM mps s pid).config = s.config := by
  rw [(onHandshakeM_regs mps s pid).address, (onHandshakeM_regs mps s pid).config]
  exact idle_handler_ignores_handshakes s pid h

/-- "A bus reset returns the device to address 0 and configuration 0" (from any state), every max packet size. -/
theorem bus_reset_clears_mps (c : DevConfig) (s : DevState) (f : Resp) :
    (stepM c s ⟨.busReset, f⟩).1.address = 0 ∧ (stepM c s ⟨.busReset, f⟩).1.config = 0 := ⟨rfl, rfl⟩

/-- The commit does happen, every max packet size. -/
theorem status_ack_commits_mps (mps : Nat) (s : DevState) (g : AckReachesHandler s PID_ACK) :
    (s.hstate = .setAddress → (onHandshakeM mps s PID_ACK).address = s.setup.value % 128) ∧
    (s.hstate = .setConfiguration → (onHandshakeM mps s PID_ACK).config = s.setup.value % 256) := by
  rw [(onHandshakeM_regs mps s PID_ACK).address, (onHandshakeM_regs mps s PID_ACK).config]
  exact status_ack_commits s g

/-! ### Non-vacuity: `max_packet_size = 8` -/

def cfg8 : DevConfig :=
  { descriptors := [(1, 0, [18, 1, 0, 2, 0, 0, 0, 8, 9, 18, 1, 0, 0, 1, 1, 2, 3, 1])], maxPacket := 8, posBits := 5 }

/-- GET_DESCRIPTOR(device, wLength 18) read in 8 + 8 + 2 bytes with the host's ACKs, status OUT; then SET_ADDRESS 5
with a bulk IN + ACK on endpoint 1 before its status stage; then SET_CONFIGURATION 1 at the new address. -/
def enumeration8 : List Stim :=
  setupTransaction 0 [0x80, 6, 0, 1, 0, 0, 18, 0] ++
  [⟨.token PID_IN 0 0, .none⟩, ⟨.handshake PID_ACK, .none⟩, ⟨.token PID_IN 0 0, .none⟩, ⟨.handshake PID_ACK, .none⟩,
   ⟨.token PID_IN 0 0, .none⟩, ⟨.handshake PID_ACK, .none⟩,
   ⟨.token PID_OUT 0 0, .none⟩, ⟨.data PID_DATA1 [] true, .none⟩] ++
  setupTransaction 0 [0x00, 5, 5, 0, 0, 0, 0, 0] ++
  [⟨.token PID_IN 0 1, .data PID_DATA0 [1, 2, 3]⟩, ⟨.handshake PID_ACK, .none⟩,
   ⟨.token PID_IN 0 0, .none⟩, ⟨.handshake PID_ACK, .none⟩] ++
  setupTransaction 5 [0x00, 9, 1, 0, 0, 0, 0, 0] ++
  [⟨.token PID_IN 5 0, .none⟩, ⟨.handshake PID_ACK, .none⟩]

example : LegalHostM cfg8 enumeration8 = true := by decide +kernel
example : (finalM cfg8 init enumeration8).address = 5 ∧ (finalM cfg8 init enumeration8).config = 1 := by decide +kernel
example : respsM cfg8 init enumeration8 =
    [.none, .hs PID_ACK,
     .data PID_DATA1 [18, 1, 0, 2, 0, 0, 0, 8], .none, .data PID_DATA0 [9, 18, 1, 0, 0, 1, 1, 2], .none,
     .data PID_DATA1 [3, 1], .none, .none, .hs PID_ACK,
     .none, .hs PID_ACK, .data PID_DATA0 [1, 2, 3], .none, .data PID_DATA1 [], .none,
     .none, .hs PID_ACK, .data PID_DATA1 [], .none] := by decide +kernel
/-- The 64 model answers the second data-stage IN differently (its `start_position` is 64): the history theorems of
Props/C08.lean do not speak about this device. -/
example : (run cfg8 init enumeration8).map (·.2) ≠ respsM cfg8 init enumeration8 := by decide +kernel
/-- The address is still 0 after the ACK of the bulk IN packet and 5 after the status-stage ACK. -/
example : (finalM cfg8 init (enumeration8.take 14)).address = 0 ∧ (finalM cfg8 init (enumeration8.take 16)).address = 5 := by
  decide +kernel

end LunaVerif.Device
