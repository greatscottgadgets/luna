import LunaVerif.Lemmas.C20Contract
import LunaVerif.Model.Usb2.InTransferManager
import LunaVerif.Model.Usb2.StreamOutEndpoint
import LunaVerif.Model.Usb2.SignalInEndpoint
/-!
# C20 — the endpoint models keep the slot contract

For each cycle-level endpoint model (C11 `InXfer` = USBInTransferManager inside USBStreamInEndpoint, C13
`StreamOutEndpoint`, C17 `SignalIn`) and EVERY input history (arbitrary tokenizer, handshake, stream and `tx.ready`
inputs): the endpoint requests a handshake or starts a data packet only in the cycle of a `ready_for_response` pulse
addressed to it or one cycle later (USBInTransferManager: NAK and zero-length packet in the pulse cycle, a packet with payload one
cycle later; USBSignalInEndpoint: always one cycle later; USBStreamOutEndpoint: in the pulse cycle), never both together, holds `tx.valid` until the word with
`last` has been taken, and drives `first`/`last` only together with `valid`.
-/
namespace LunaVerif.C20Ctr
open LunaVerif

structure Obs where
  pul : Bool
  rdy : Bool
  a1  : Bool := false
  a2  : Bool := false
  d   : Sig
deriving Repr

def ctrHolds (L : Nat) : Ph → List Obs → Bool
  | _, [] => true
  | ph, o :: os => (cstep L ph o.pul o.rdy o.a1 o.a2 o.d).1 && ctrHolds L (cstep L ph o.pul o.rdy o.a1 o.a2 o.d).2 os

/-! ## USBInTransferManager (USBStreamInEndpoint) -/

namespace In
open InXfer

def sig (o : Out) : Sig := { hs := o.nak, valid := o.valid, first := o.first, last := o.last }

/-- The simulation relation between the manager's registers and the phase of its slot. -/
def R (s : State) (ph : Ph) : Prop :=
  (s.first = true → s.fsm = .sendPacket) ∧ (ph = .sending → s.fsm = .sendPacket) ∧
  (ph = .idle → s.fsm ≠ .sendPacket) ∧ (s.fsm = .sendPacket → ph ≠ .sending → s.first = true)

theorem sig_valid (o : Out) : (sig o).valid = o.valid := rfl

/-- Outside SEND_PACKET the manager drives at most a NAK, and that only at an IN token; in WAIT_TO_SEND the token arms
the `first` flag for a packet that starts in the next cycle, or is answered by a zero-length packet at once. -/
theorem step_rest (c : Config) {s : State} (i : InXfer.In) (h : s.fsm ≠ .sendPacket) :
    (∃ hs, (hs = true → inTok i = true) ∧ sig (step c s i).2 = ⟨hs, false, s.first, false, false⟩ ∧
      (step c s i).1.fsm ≠ .sendPacket ∧ (step c s i).1.first = s.first) ∨
    (inTok i = true ∧ sig (step c s i).2 = ⟨false, false, s.first, false, false⟩ ∧
      (step c s i).1.fsm = .sendPacket ∧ (step c s i).1.first = true) ∨
    (inTok i = true ∧ sig (step c s i).2 = ⟨false, true, s.first, true, false⟩ ∧
      (step c s i).1.fsm ≠ .sendPacket ∧ (step c s i).1.first = s.first) := by
  generalize hx : step c s i = x
  cases hq : s.fsm with
  | sendPacket => exact absurd hq h
  | waitData =>
    simp only [step, hq] at hx
    split at hx <;> subst hx <;> exact Or.inl ⟨inTok i, id, rfl, by simp, rfl⟩
  | waitAck =>
    refine Or.inl ⟨false, by simp, ?_⟩
    subst hx
    simp only [step, hq, apply_ite State.fsm, apply_ite State.first, ite_self, true_and, sig]
    (repeat' split) <;> simp
  | waitSend =>
    simp only [step, hq] at hx
    split at hx
    · subst hx; exact Or.inl ⟨false, by simp, rfl, by simp, rfl⟩
    · split at hx
      · subst hx; exact Or.inl ⟨false, by simp, rfl, by simp, rfl⟩
      · split at hx
        · rename_i ht
          split at hx <;> subst hx
          · exact Or.inr (Or.inl ⟨ht, rfl, rfl, rfl⟩)
          · exact Or.inr (Or.inr ⟨ht, rfl, by simp, rfl⟩)
        · subst hx; exact Or.inl ⟨false, by simp, rfl, by simp, rfl⟩

theorem step_sendPacket (c : Config) {s : State} (i : InXfer.In) (h : s.fsm = .sendPacket) :
    sig (step c s i).2 = ⟨false, true, s.first, (step c s i).2.last, false⟩ ∧
    (step c s i).1.fsm = (if (i.txReady && (step c s i).2.last) = true then .waitAck else .sendPacket) ∧
    (step c s i).1.first = (!i.txReady && s.first) := by
  simp only [step, h]
  cases i.txReady <;> simp [sig]

theorem R_rest {s : State} {ph : Ph} (hf : s.fsm ≠ .sendPacket) (h1 : s.first = false) (hp : ph ≠ .sending) : R s ph :=
  ⟨fun h => absurd (h1 ▸ h) (by simp), fun h => absurd h hp, fun _ => hf, fun h => absurd h hf⟩

theorem step_ok (L : Nat) (c : Config) (s : State) (i : InXfer.In) (ph : Ph) (a1 a2 : Bool) (h : R s ph) :
    (cstep L ph (inTok i) i.txReady a1 a2 (sig (step c s i).2)).1 = true ∧
    R (step c s i).1 (cstep L ph (inTok i) i.txReady a1 a2 (sig (step c s i).2)).2 := by
  rw [cstep_noT rfl]
  dsimp only
  obtain ⟨h1, h2, h3, h4⟩ := h
  by_cases hf : s.fsm = .sendPacket
  · -- a word of the packet: the first one (slot armed, `first` set) or a later one (slot sending)
    obtain ⟨e1, e2, e3⟩ := step_sendPacket c i hf
    obtain ⟨k1, k2⟩ := word_ok L (fun h => h3 h hf) (h4 hf) (inTok i) i.txReady (step c s i).2.last false
    rw [e1, k2]
    refine ⟨k1, ?_⟩
    by_cases hl : (i.txReady && (step c s i).2.last) = true
    · rw [if_pos hl] at e2 ⊢
      have hr : i.txReady = true := by revert hl; cases i.txReady <;> simp
      exact R_rest (by simp [e2]) (by simp [e3, hr]) (by simp)
    · rw [if_neg hl] at e2 ⊢
      exact ⟨fun _ => e2, fun _ => e2, by simp, by simp⟩
  · -- no packet under way: the `first` flag is clear and the slot is not sending
    have hfi : s.first = false := Bool.eq_false_iff.mpr fun hfi => hf (h1 hfi)
    have hp : ph ≠ .sending := fun h => hf (h2 h)
    rcases step_rest c i hf with ⟨hs, hhs, e1, e2, e3⟩ | ⟨ht, e1, e2, e3⟩ | ⟨ht, e1, e2, e3⟩ <;> rw [e1, hfi]
    · refine ⟨?_, R_rest e2 (e3.trans hfi) (cnext_ne_sending L ph _ _ _ hp rfl)⟩
      rw [cok_hs hp]
      revert hhs; cases hs <;> simp +contextual
    · rw [cok_hs hp, cnext_hs L hp, ht]
      exact ⟨rfl, fun _ => e2, by simp, by simp, fun _ _ => e3⟩
    · rw [cok_word hp, cnext_word L hp, ht]
      exact ⟨rfl, R_rest e2 (e3.trans hfi) (by simp)⟩

def obs (io : InXfer.In × InXfer.Out) : Obs := { pul := inTok io.1, rdy := io.1.txReady, d := sig io.2 }

/-- USBInTransferManager keeps the slot contract along every input history. -/
theorem keeps_contract (L : Nat) (c : Config) (ins : List InXfer.In) (s : State) (ph : Ph) (h : R s ph) :
    ctrHolds L ph ((trace c s ins).map obs) = true := by
  induction ins generalizing s ph with
  | nil => rfl
  | cons i is ih =>
    obtain ⟨h1, h2⟩ := step_ok L c s i ph false false h
    simp only [trace, List.map_cons, ctrHolds, obs, Bool.and_eq_true]
    exact ⟨h1, ih _ _ h2⟩

theorem R_init (c : Config) : R (init c) .idle := by simp [R, init]

end In

theorem In.step_facts (c : InXfer.Config) (s : InXfer.State) (i : InXfer.In) :
    ((In.sig (InXfer.step c s i).2).hs = true → InXfer.inTok i = true) ∧
    ((In.sig (InXfer.step c s i).2).hs && (In.sig (InXfer.step c s i).2).valid) = false ∧
    ((In.sig (InXfer.step c s i).2).valid = true → s.fsm = .sendPacket ∨ InXfer.inTok i = true) ∧
    ((InXfer.step c s i).1.fsm = .sendPacket → s.fsm = .sendPacket ∨ InXfer.inTok i = true) ∧
    (s.fsm = .sendPacket → (In.sig (InXfer.step c s i).2).valid = true) := by
  by_cases hq : s.fsm = .sendPacket
  · simp [(In.step_sendPacket c i hq).1, hq]
  · rcases In.step_rest c i hq with ⟨hs, hhs, e1, e2, _⟩ | ⟨ht, e1, _, _⟩ | ⟨ht, e1, e2, _⟩
    · simpa [e1, e2, hq] using hhs
    · simp [e1, ht, hq]
    · simp [e1, e2, ht]

/-- **USBInTransferManager requests only after a pulse** (plain form, as coded): NAK is combinational on
`active & is_in & ready_for_response`; `packet_stream.valid` rises only in the cycle of such a pulse (zero-length
packet) or in the cycle after one (WAIT_TO_SEND -> SEND_PACKET). -/
theorem inxfer_requests_only_after_pulse (c : InXfer.Config) (s : InXfer.State) (i1 i2 : InXfer.In) :
    ((InXfer.step c s i1).2.nak = true → InXfer.inTok i1 = true) ∧
    ((InXfer.step c s i1).2.valid = false → (InXfer.step c (InXfer.step c s i1).1 i2).2.valid = true →
      InXfer.inTok i2 = true ∨ InXfer.inTok i1 = true) := by
  obtain ⟨a1, _, _, c1, d1⟩ := In.step_facts c s i1
  obtain ⟨_, _, b2, _, _⟩ := In.step_facts c (InXfer.step c s i1).1 i2
  refine ⟨a1, fun hv1 hv2 => ?_⟩
  rcases b2 hv2 with h | h
  · rcases c1 h with h' | h'
    · exact absurd (d1 h') (by rw [In.sig_valid, hv1]; simp)
    · exact Or.inr h'
  · exact Or.inl h

theorem inxfer_no_handshake_and_data_together (c : InXfer.Config) (s : InXfer.State) (i : InXfer.In) :
    ((InXfer.step c s i).2.nak && (InXfer.step c s i).2.valid) = false :=
  (In.step_facts c s i).2.1

/-! ## USBSignalInEndpoint -/

namespace Sig3
open SignalIn

def sig (o : SignalIn.Out) : Sig := { valid := o.valid, first := o.first, last := o.last }

def R (s : SignalIn.State) (ph : Ph) : Prop :=
  (ph = .sending → s.fsm = .transmit) ∧ (ph = .idle → s.fsm ≠ .transmit) ∧
  (s.fsm = .transmit → ph ≠ .sending → s.sent = 0)

theorem sig_valid (o : SignalIn.Out) : (sig o).valid = o.valid := rfl

/-- The halt-clear strobe touches the toggle only. -/
theorem step_core (c : SignalIn.Config) (s : SignalIn.State) (i : SignalIn.In) :
    (step c s i).1.fsm = (stepCore c s i).1.fsm ∧ (step c s i).1.sent = (stepCore c s i).1.sent ∧
    (step c s i).2 = (stepCore c s i).2 := by
  simp only [step]
  split <;> simp

/-- Outside TRANSMIT_RESPONSE the endpoint is silent; only the request (in IDLE / RETRANSMIT) starts the packet, from
byte 0, in the next cycle. -/
theorem step_rest (c : SignalIn.Config) {s : SignalIn.State} (i : SignalIn.In) (h : s.fsm ≠ .transmit) :
    sig (step c s i).2 = {} ∧
    ((step c s i).1.fsm = .transmit → packetRequested c i = true ∧ (step c s i).1.sent = 0) := by
  obtain ⟨e1, e2, e3⟩ := step_core c s i
  rw [e1, e2, e3]
  cases hq : s.fsm with
  | transmit => exact absurd hq h
  | waitAck =>
    simp only [stepCore, hq, apply_ite State.fsm, sig, true_and]
    (repeat' split) <;> simp
  | idle => simp only [stepCore, hq]; split <;> simp_all [sig]
  | retransmit => simp only [stepCore, hq]; split <;> simp_all [sig]

theorem step_transmit (c : SignalIn.Config) {s : SignalIn.State} (i : SignalIn.In) (h : s.fsm = .transmit) :
    sig (step c s i).2 = ⟨false, true, s.sent == 0, (step c s i).2.last, false⟩ ∧
    (step c s i).1.fsm = (if (i.txReady && (step c s i).2.last) = true then .waitAck else .transmit) := by
  obtain ⟨e1, _, e3⟩ := step_core c s i
  rw [e1, e3]
  simp only [stepCore, h]
  cases i.txReady <;> simp [sig, h]

theorem step_ok (L : Nat) (c : SignalIn.Config) (s : SignalIn.State) (i : SignalIn.In) (ph : Ph) (a1 a2 : Bool)
    (h : R s ph) :
    (cstep L ph (packetRequested c i) i.txReady a1 a2 (sig (step c s i).2)).1 = true ∧
    R (step c s i).1 (cstep L ph (packetRequested c i) i.txReady a1 a2 (sig (step c s i).2)).2 := by
  rw [cstep_noT rfl]
  dsimp only
  obtain ⟨h2, h3, h4⟩ := h
  by_cases hq : s.fsm = .transmit
  · obtain ⟨e1, e2⟩ := step_transmit c i hq
    obtain ⟨k1, k2⟩ := word_ok L (fun h => h3 h hq) (f := s.sent == 0) (fun h => by simp [h4 hq h])
      (packetRequested c i) i.txReady (step c s i).2.last false
    rw [e1, k2]
    refine ⟨k1, ?_⟩
    by_cases hl : (i.txReady && (step c s i).2.last) = true
    · rw [if_pos hl] at e2 ⊢
      simp [R, e2]
    · rw [if_neg hl] at e2 ⊢
      simp [R, e2]
  · obtain ⟨e1, e2⟩ := step_rest c i hq
    have hp : ph ≠ .sending := fun h => hq (h2 h)
    rw [e1]
    refine ⟨cok_hs hp _ false false, fun h => absurd h (cnext_ne_sending L ph _ _ _ hp rfl), ?_, fun h _ => (e2 h).2⟩
    intro hi ht
    rw [cnext_hs L hp, (e2 ht).1] at hi
    cases hi

def obs (c : SignalIn.Config) (io : SignalIn.In × SignalIn.Out) : Obs :=
  { pul := packetRequested c io.1, rdy := io.1.txReady, d := sig io.2 }

/-- USBSignalInEndpoint keeps the slot contract along every input history. -/
theorem keeps_contract (L : Nat) (c : SignalIn.Config) (ins : List SignalIn.In) (s : SignalIn.State) (ph : Ph)
    (h : R s ph) : ctrHolds L ph ((trace c s ins).map (obs c)) = true := by
  induction ins generalizing s ph with
  | nil => rfl
  | cons i is ih =>
    obtain ⟨h1, h2⟩ := step_ok L c s i ph false false h
    simp only [trace, List.map_cons, ctrHolds, obs, Bool.and_eq_true]
    exact ⟨h1, ih _ _ h2⟩

theorem R_init : R SignalIn.init .idle := by simp [R, SignalIn.init]

end Sig3

/-- **USBSignalInEndpoint requests only after a pulse** (plain form, as coded): `tx.valid` rises only in the cycle
after `endpoint == n & is_in & ready_for_response` (IDLE / RETRANSMIT -> TRANSMIT_RESPONSE); the endpoint drives no
handshake at all. -/
theorem signalin_requests_only_after_pulse (c : SignalIn.Config) (s : SignalIn.State) (i1 i2 : SignalIn.In) :
    (SignalIn.step c s i1).2.valid = false → (SignalIn.step c (SignalIn.step c s i1).1 i2).2.valid = true →
      SignalIn.packetRequested c i1 = true := by
  intro hv1 hv2
  by_cases h1 : s.fsm = .transmit
  · rw [← Sig3.sig_valid, (Sig3.step_transmit c i1 h1).1] at hv1
    cases hv1
  · by_cases h2 : (SignalIn.step c s i1).1.fsm = .transmit
    · exact ((Sig3.step_rest c i1 h1).2 h2).1
    · rw [← Sig3.sig_valid, (Sig3.step_rest c i2 h2).1] at hv2
      cases hv2

/-! ## USBStreamOutEndpoint -/

namespace Out2
open StreamOutEndpoint

def sig (o : StreamOutEndpoint.Out) : Sig := { hs := o.ack || o.nak }

/-- A pulse addressed to the endpoint: the receiver's after an OUT token for it, or the token detector's after a PING
for it. -/
def pul (c : StreamOutEndpoint.Config) (s : StreamOutEndpoint.State) (i : StreamOutEndpoint.In) : Bool :=
  (comb c s i).dataRequested || (comb c s i).pingRequested

theorem hs_pul (c : StreamOutEndpoint.Config) (s : StreamOutEndpoint.State) (i : StreamOutEndpoint.In) :
    (sig (step c s i).2).hs = true → pul c s i = true := by
  simp only [sig, pul, show (step c s i).2 = outOf c s i from rfl, outOf]
  cases (comb c s i).dataRequested <;> cases (comb c s i).pingRequested <;> simp

theorem step_ok (L : Nat) (c : StreamOutEndpoint.Config) (s : StreamOutEndpoint.State) (i : StreamOutEndpoint.In)
    (ph : Ph) (rdy a1 a2 : Bool) (h : ph ≠ .sending) :
    (cstep L ph (pul c s i) rdy a1 a2 (sig (step c s i).2)).1 = true ∧
    (cstep L ph (pul c s i) rdy a1 a2 (sig (step c s i).2)).2 ≠ .sending := by
  rw [cstep_noT rfl]
  refine ⟨?_, cnext_ne_sending L ph _ _ _ h rfl⟩
  have hp := hs_pul c s i
  rw [show sig (step c s i).2 = ⟨(sig (step c s i).2).hs, false, false, false, false⟩ from rfl, cok_hs h]
  revert hp
  cases (sig (step c s i).2).hs <;> simp +contextual

def trace (c : StreamOutEndpoint.Config) : StreamOutEndpoint.State → List StreamOutEndpoint.In → List Obs
  | _, [] => []
  | s, i :: is => { pul := pul c s i, rdy := false, d := sig (step c s i).2 } :: trace c (step c s i).1 is

/-- USBStreamOutEndpoint keeps the slot contract along every input history. -/
theorem keeps_contract (L : Nat) (c : StreamOutEndpoint.Config) (ins : List StreamOutEndpoint.In)
    (s : StreamOutEndpoint.State) (ph : Ph) (h : ph ≠ .sending) : ctrHolds L ph (trace c s ins) = true := by
  induction ins generalizing s ph with
  | nil => rfl
  | cons i is ih =>
    obtain ⟨h1, h2⟩ := step_ok L c s i ph false false false h
    simp only [trace, ctrHolds, Bool.and_eq_true]
    exact ⟨h1, ih _ _ h2⟩

end Out2

/-- **USBStreamOutEndpoint requests only at a pulse** (plain form, as coded): ACK / NAK are combinational on
`rx_ready_for_response` after an OUT token for the endpoint, or on `tokenizer.ready_for_response` after a PING for
it; the endpoint never drives the transmit stream. -/
theorem streamout_requests_only_after_pulse (c : StreamOutEndpoint.Config) (s : StreamOutEndpoint.State)
    (i : StreamOutEndpoint.In) :
    ((StreamOutEndpoint.step c s i).2.ack = true ∨ (StreamOutEndpoint.step c s i).2.nak = true) →
      (i.tokEp = c.epNum ∧ i.tokIsOut = true ∧ i.rxReady = true) ∨
      (i.tokEp = c.epNum ∧ i.tokIsPing = true ∧ i.tokReady = true) := by
  intro h
  have hp := Out2.hs_pul c s i (by rcases h with h | h <;> simp [Out2.sig, h])
  simp only [Out2.pul, StreamOutEndpoint.comb, Bool.or_eq_true, Bool.and_eq_true, beq_iff_eq] at hp
  rcases hp with hp | hp
  · exact Or.inl ⟨hp.1.1.1, hp.1.2, hp.2⟩
  · exact Or.inr ⟨hp.1.1, hp.1.2, hp.2⟩

end LunaVerif.C20Ctr
