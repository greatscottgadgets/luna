import LunaVerif.Model.Usb3.HeaderRx
/-!
Helper lemmas about the `HeaderRx` model shared by C37 and C38, in two parts also by others (the buffer queue by C39,
`RawRx.step_invalid` by Lemmas/C36HeaderRxGaps.lean): register-wise projections of `step`
(all by `rfl`); the transition table `Trans` of the dispatch FSM for a cycle with the link up (`trans_up`) and what ties
the link command generator to it (`GenOk`); the *ghost* record of what an outside observer has seen so far (headers
written to the buffers, headers handed to the protocol layer, link commands completed on the wire); the buffer array
and the queue it holds (`bufQ`; C39's transmitter uses the same array).
-/
namespace LunaVerif.HeaderRx

theorem Bufs.get_set (b : Bufs) (k j : Nat) (h : Hdr) :
    (b.set k h).get j = if j % 4 = k % 4 then h else b.get j := by
  unfold Bufs.get Bufs.set
  have := Nat.mod_lt k (by decide : 4 > 0)
  have := Nat.mod_lt j (by decide : 4 > 0)
  grind

theorem Bufs.get_congr (b : Bufs) {j k : Nat} (h : j % 4 = k % 4) : b.get j = b.get k := by
  unfold Bufs.get; rw [h]

theorem Bufs.get_mod (b : Bufs) (k : Nat) : b.get (k % 4) = b.get k :=
  b.get_congr (Nat.mod_mod k 4)

theorem RawRx.step_invalid {s : RawRx.State} (hs : s.st ≠ .check) {i : RawRx.In} (hv : i.valid = false) (e : Nat) :
    RawRx.step s i e = { s with newPkt := false } := by
  obtain ⟨st, pkt, np, op⟩ := s
  cases st <;> simp_all [RawRx.step, RawRx.isHpStart]

/-- `new_packet` is raised only out of CHECK_PACKET, for a header with the expected sequence number. -/
theorem RawRx.newPkt_step {r : RawRx.State} {i : RawRx.In} {e : Nat} (h : (RawRx.step r i e).newPkt = true) :
    r.st = .check ∧ (RawRx.step r i e).st = .wait ∧ (RawRx.step r i e).outPkt.seq = e := by
  obtain ⟨st, pkt, np, op⟩ := r
  cases st <;> simp only [RawRx.step] at h ⊢
  case wait => cases h
  case check =>
    split at h
    · rename_i hg
      rw [if_pos hg]
      simp only [RawRx.good, Bool.and_eq_true, beq_iff_eq] at hg
      exact ⟨trivial, rfl, hg.2⟩
    · cases h
  all_goals (split at h <;> cases h)

/-! ## The registers after one cycle, one by one -/
section proj
variable (c : Config) (s : State) (i : In)
theorem step_rx : (step c s i).1.rx = RawRx.step s.rx i.sink s.expSeq := rfl
theorem step_expSeq : (step c s i).1.expSeq =
    if resetNow c s i && i.usbReset then 0 else if resetNow c s i && c.fix then s.expSeq else if accept s then (s.expSeq + 1) % 8 else s.expSeq := rfl
theorem step_nextCredit : (step c s i).1.nextCredit =
    if resetNow c s i then 0 else if lcrdDone s i then (s.nextCredit + 1) % 4 else s.nextCredit := rfl
theorem step_nextAck : (step c s i).1.nextAck =
    if resetNow c s i then (if i.usbReset then 7 else if c.fix then (s.expSeq + 7) % 8 else (s.nextAck + 7) % 8)
    else if lgoodDone s i then (s.nextAck + 1) % 8 else s.nextAck := rfl
theorem step_acks : (step c s i).1.acks =
    if resetNow c s i then 1 else updown s.acks (accept s) (lgoodDone s i) := rfl
theorem step_cti : (step c s i).1.cti =
    if resetNow c s i then 4 else updown s.cti (pop s i) (lcrdDone s i) := rfl
theorem step_bf : (step c s i).1.bf =
    if resetNow c s i then 0 else updown s.bf (accept s) (pop s i) := rfl
theorem step_rp : (step c s i).1.rp =
    if resetNow c s i then 0 else if pop s i then (s.rp + 1) % 4 else s.rp := rfl
theorem step_wp : (step c s i).1.wp =
    if resetNow c s i then 0 else if accept s then (s.wp + 1) % 4 else s.wp := rfl
theorem step_bufs : (step c s i).1.bufs =
    if accept s then s.bufs.set s.wp s.rx.outPkt else s.bufs := rfl
theorem step_lbad : (step c s i).1.lbad =
    if resetNow c s i then false else if s.fsm == .sendLbad && done s i then false
    else if badEv s then true else s.lbad := rfl
theorem step_lrty : (step c s i).1.lrty =
    if resetNow c s i then false else if s.fsm == .sendLrty && done s i then false
    else if i.retryRequired then true else s.lrty := rfl
theorem step_keepalive : (step c s i).1.keepalive =
    if resetNow c s i then false else if s.fsm == .sendKeepalive && done s i then false
    else if i.keepaliveRequired then true else s.keepalive := rfl
theorem step_lastEnable : (step c s i).1.lastEnable = i.enable := rfl
theorem step_ignore : (step c s i).1.ignore =
    if resetNow c s i then false else if i.retryReceived then false
    else if badEv s then true else s.ignore := rfl
theorem step_fsm : (step c s i).1.fsm = fsmNext c s i := rfl
theorem step_gen : (step c s i).1.gen = if c.abort && resetCond s i then .idle else genNext s i := rfl
theorem step_gCmd : (step c s i).1.gCmd =
    if c.abort && resetCond s i then 0 else if s.gen == .idle && generate s then genCmd c s else s.gCmd := rfl
theorem step_gSub : (step c s i).1.gSub =
    if c.abort && resetCond s i then 0 else if s.gen == .idle && generate s then genSub s % 16 else s.gSub := rfl
end proj

theorem step_lxu (c : Config) (s : State) (i : In) : (step c s i).1.lxu =
    if s.fsm == .sendLxu && done s i then false else if i.rejectPower then true else s.lxu := rfl

/-! ## The dispatch FSM and the link command generator while the link is up -/
section up
variable {c : Config} {s : State} {i : In}

def b2 (b : Bool) : Nat := if b then 1 else 0

theorem b2_le (b : Bool) : b2 b ≤ 1 := by cases b <;> decide
@[simp] theorem b2_true : b2 true = 1 := rfl
@[simp] theorem b2_false : b2 false = 0 := rfl
theorem b2_eq_one {b : Bool} (h : b2 b = 1) : b = true := by
  cases b
  · cases h
  · rfl
theorem b2_le_of {b : Bool} {n : Nat} (h : b = true → 1 ≤ n) : b2 b ≤ n := by
  cases b
  · exact Nat.zero_le _
  · exact h rfl

/-- ready cycles still needed by the generator for the command in progress -/
def ph : Gen → Nat
  | .idle => 3 | .header => 2 | .command => 1

/-- ready cycles until the dispatch FSM chooses again: the one cycle in DISPATCH_COMMAND, else the rest of the
command in progress -/
def cur : Fsm → Gen → Nat
  | .dispatch, _ => 1
  | _, g => ph g

/-- number (0 or 1) of commands of dispatch state `f` that complete on the wire in this cycle -/
def cpl (s : State) (i : In) (f : Fsm) : Nat := b2 (s.fsm == f && done s i)

theorem cpl_quiet (hd : done s i = false) (f : Fsm) : cpl s i f = 0 := by
  simp only [cpl, hd, Bool.and_false, b2_false]

theorem cpl_done (hd : done s i = true) (f : Fsm) : cpl s i f = if s.fsm = f then 1 else 0 := by
  simp only [cpl, hd, Bool.and_true, b2, beq_iff_eq]

/-- The transition table of the dispatch FSM for one cycle (link enabled, no reset): from state `f` the FSM goes to
`f'` while `dA … dK` LGOOD, LCRD, LBAD, LRTY, LXU and keepalive commands (0 or 1 each) complete on the wire.  `k` is
the number of ready cycles the newly chosen state needs before the FSM chooses again (`cur f' .idle`), 0 in the rows
in which nothing is chosen.  Rows: the command in progress goes on (`wait…`); DISPATCH_COMMAND picks the most urgent
pending command (`to…`, `idle`); a command completes and its session goes on (`…Stay`) or ends (`…Back`).  The side
conditions are stated as counts, ready for `omega`. -/
inductive Trans (s : State) : Fsm → Fsm → Nat → Nat → Nat → Nat → Nat → Nat → Nat → Prop
  | waitAcks : Trans s .sendAcks .sendAcks 0 0 0 0 0 0 0
  | waitCredits : Trans s .issueCredits .issueCredits 0 0 0 0 0 0 0
  | waitLbad : Trans s .sendLbad .sendLbad 0 0 0 0 0 0 0
  | waitLrty : Trans s .sendLrty .sendLrty 0 0 0 0 0 0 0
  | waitLxu : Trans s .sendLxu .sendLxu 0 0 0 0 0 0 0
  | waitKeepalive : Trans s .sendKeepalive .sendKeepalive 0 0 0 0 0 0 0
  | toLrty : b2 s.lrty = 1 → Trans s .dispatch .sendLrty 3 0 0 0 0 0 0
  | toAcks : b2 s.lrty = 0 → s.acks ≠ 0 → Trans s .dispatch .sendAcks 3 0 0 0 0 0 0
  | toCredits : b2 s.lrty = 0 → s.acks = 0 → s.cti ≠ 0 → Trans s .dispatch .issueCredits 3 0 0 0 0 0 0
  | toLbad : b2 s.lrty = 0 → s.acks = 0 → s.cti = 0 → b2 s.lbad = 1 → Trans s .dispatch .sendLbad 3 0 0 0 0 0 0
  | toLxu : b2 s.lrty = 0 → s.acks = 0 → s.cti = 0 → b2 s.lbad = 0 → b2 s.lxu = 1 →
      Trans s .dispatch .sendLxu 3 0 0 0 0 0 0
  | toKeepalive : b2 s.lrty = 0 → s.acks = 0 → s.cti = 0 → b2 s.lbad = 0 → b2 s.lxu = 0 → b2 s.keepalive = 1 →
      Trans s .dispatch .sendKeepalive 3 0 0 0 0 0 0
  | idle : b2 s.lrty = 0 → s.acks = 0 → s.cti = 0 → b2 s.lbad = 0 → b2 s.lxu = 0 → b2 s.keepalive = 0 →
      Trans s .dispatch .dispatch 1 0 0 0 0 0 0
  | ackStay : s.acks ≠ 1 → Trans s .sendAcks .sendAcks 3 1 0 0 0 0 0
  | ackBack : s.acks = 1 → Trans s .sendAcks .dispatch 1 1 0 0 0 0 0
  | crdStay : s.cti ≠ 1 → Trans s .issueCredits .issueCredits 3 0 1 0 0 0 0
  | crdBack : s.cti = 1 → Trans s .issueCredits .dispatch 1 0 1 0 0 0 0
  | lbadBack : Trans s .sendLbad .dispatch 1 0 0 1 0 0 0
  | lrtyBack : Trans s .sendLrty .dispatch 1 0 0 0 1 0 0
  | lxuBack : Trans s .sendLxu .dispatch 1 0 0 0 0 1 0
  | kaBack : Trans s .sendKeepalive .dispatch 1 0 0 0 0 0 1

theorem trans_dispatch (s : State) : Trans s .dispatch (dispatchNext s) (cur (dispatchNext s) .idle) 0 0 0 0 0 0 := by
  unfold dispatchNext
  cases hl : s.lrty
  · by_cases ha : s.acks = 0
    · by_cases hc : s.cti = 0
      · cases hb : s.lbad
        · cases hx : s.lxu
          · cases hk : s.keepalive
            · simp only [ha, hc, bne_self_eq_false, Bool.false_eq_true, if_false]
              exact .idle (congrArg b2 hl) ha hc (congrArg b2 hb) (congrArg b2 hx) (congrArg b2 hk)
            · simp only [ha, hc, bne_self_eq_false, Bool.false_eq_true, if_false, if_true]
              exact .toKeepalive (congrArg b2 hl) ha hc (congrArg b2 hb) (congrArg b2 hx) (congrArg b2 hk)
          · simp only [ha, hc, bne_self_eq_false, Bool.false_eq_true, if_false, if_true]
            exact .toLxu (congrArg b2 hl) ha hc (congrArg b2 hb) (congrArg b2 hx)
        · simp only [ha, hc, bne_self_eq_false, Bool.false_eq_true, if_false, if_true]
          exact .toLbad (congrArg b2 hl) ha hc (congrArg b2 hb)
      · simp only [ha, hc, bne_self_eq_false, bne_iff_ne, ne_eq, not_false_eq_true, Bool.false_eq_true, if_false, if_true]
        exact .toCredits (congrArg b2 hl) ha hc
    · simp only [ha, bne_iff_ne, ne_eq, not_false_eq_true, Bool.false_eq_true, if_false, if_true]
      exact .toAcks (congrArg b2 hl) ha
  · simp only [if_true]
    exact .toLrty (congrArg b2 hl)

theorem genNext_ph (hf : s.fsm ≠ .dispatch) (hd : done s i = false) : ph (genNext s i) + b2 i.srcReady ≤ ph s.gen := by
  have hg : generate s = true := by simpa [generate] using hf
  revert hd
  simp only [genNext, done, hg, if_true]
  cases s.gen <;> cases i.srcReady <;> simp [ph]

theorem genNext_done (hd : done s i = true) : genNext s i = .idle ∧ i.srcReady = true ∧ s.gen = .command := by
  simp only [done, Bool.and_eq_true, beq_iff_eq] at hd
  simp only [genNext, hd.1, hd.2, if_true, and_self]

/-- the link is up in this cycle: enabled, no USB reset (the environment of C37, and of C38 after re-entry) -/
structure Up (i : In) : Prop where
  en : i.enable = true
  norst : i.usbReset = false

theorem Up.no_reset (u : Up i) : resetNow c s i = false := by simp [resetNow, resetCond, u.en, u.norst]
theorem Up.no_fixreset (u : Up i) : (c.fix && resetCond s i) = false := by simp [resetCond, u.en, u.norst]
theorem Up.no_abort (u : Up i) : (c.abort && resetCond s i) = false := by simp [resetCond, u.en, u.norst]

/-- One row of the transition table applies; either the generator is back in IDLE
(something new was chosen) or nothing was chosen and nothing completed. -/
theorem trans_up (h0 : s.fsm = .dispatch → s.gen = .idle) (u : Up i) :
    ∃ k, Trans s s.fsm (step c s i).1.fsm k (cpl s i .sendAcks) (cpl s i .issueCredits) (cpl s i .sendLbad)
        (cpl s i .sendLrty) (cpl s i .sendLxu) (cpl s i .sendKeepalive) ∧
      cur (step c s i).1.fsm (step c s i).1.gen + b2 i.srcReady ≤ cur s.fsm s.gen + k ∧
      ((step c s i).1.gen = .idle ∨ k = 0 ∧ done s i = false) := by
  rw [step_fsm, step_gen, u.no_abort, fsmNext, u.no_fixreset]
  simp only [Bool.false_eq_true, if_false, u.en, if_true]
  cases hd : done s i
  · simp only [cpl_quiet hd, Bool.false_and, Bool.false_eq_true, if_false]
    cases hf : s.fsm
    · have hg : genNext s i = .idle := by simp [genNext, h0 hf, generate, hf]
      rw [hg]
      exact ⟨_, trans_dispatch s, by have := b2_le i.srcReady; simp only [cur]; omega, .inl rfl⟩
    all_goals have hp := genNext_ph (by rw [hf]; exact Fsm.noConfusion) hd
    · exact ⟨0, .waitAcks, hp, .inr ⟨rfl, trivial⟩⟩
    · exact ⟨0, .waitCredits, hp, .inr ⟨rfl, trivial⟩⟩
    · exact ⟨0, .waitLbad, hp, .inr ⟨rfl, trivial⟩⟩
    · exact ⟨0, .waitLrty, hp, .inr ⟨rfl, trivial⟩⟩
    · exact ⟨0, .waitKeepalive, hp, .inr ⟨rfl, trivial⟩⟩
    · exact ⟨0, .waitLxu, hp, .inr ⟨rfl, trivial⟩⟩
  · obtain ⟨hg, hr, hc⟩ := genNext_done hd
    rw [hg, hr, hc]
    simp only [cpl_done hd, Bool.true_and]
    cases hf : s.fsm
    · rw [h0 hf] at hc; cases hc
    · by_cases ha : s.acks = 1
      · simp only [ha, beq_self_eq_true, if_true, reduceCtorEq, if_false]
        exact ⟨1, .ackBack ha, Nat.le_refl _, .inl trivial⟩
      · simp only [ha, beq_iff_eq, if_true, reduceCtorEq, if_false]
        exact ⟨3, .ackStay ha, Nat.le_refl _, .inl trivial⟩
    · by_cases ha : s.cti = 1
      · simp only [ha, beq_self_eq_true, if_true, reduceCtorEq, if_false]
        exact ⟨1, .crdBack ha, Nat.le_refl _, .inl trivial⟩
      · simp only [ha, beq_iff_eq, if_true, reduceCtorEq, if_false]
        exact ⟨3, .crdStay ha, Nat.le_refl _, .inl trivial⟩
    · simp only [if_true, reduceCtorEq, if_false]; exact ⟨1, .lbadBack, Nat.le_refl _, .inl trivial⟩
    · simp only [if_true, reduceCtorEq, if_false]; exact ⟨1, .lrtyBack, Nat.le_refl _, .inl trivial⟩
    · simp only [if_true, reduceCtorEq, if_false]; exact ⟨1, .kaBack, Nat.le_refl _, .inl trivial⟩
    · simp only [if_true, reduceCtorEq, if_false]; exact ⟨1, .lxuBack, Nat.le_refl _, .inl trivial⟩

theorem busy_up (h0 : s.fsm = .dispatch → s.gen = .idle) (u : Up i) (hb : (step c s i).1.gen ≠ .idle) :
    done s i = false ∧ (step c s i).1.fsm = s.fsm ∧ s.fsm ≠ .dispatch := by
  obtain ⟨k, t, -, hg | ⟨rfl, hd⟩⟩ := trans_up (c := c) h0 u
  · exact absurd hg hb
  · refine ⟨hd, ?_⟩
    generalize s.fsm = f, (step c s i).1.fsm = f', cpl s i .sendAcks = dA, cpl s i .issueCredits = dC,
      cpl s i .sendLbad = dB, cpl s i .sendLrty = dR, cpl s i .sendLxu = dX, cpl s i .sendKeepalive = dK at t
    cases t <;> exact ⟨rfl, Fsm.noConfusion⟩

/-- What ties the link command generator to the dispatch FSM: it is idle in DISPATCH_COMMAND, and a command in progress
is the one the FSM drives. -/
structure GenOk (c : Config) (s : State) : Prop where
  idle : s.fsm = .dispatch → s.gen = .idle
  latched : s.gen ≠ .idle → s.gCmd = genCmd c s ∧ s.gSub = genSub s

/-- preserved while the link is up, provided the subtype to be latched fits the generator's four bits -/
theorem genOk_step (h : GenOk c s) (u : Up i) (hsub : genSub s < 16) : GenOk c (step c s i).1 := by
  constructor
  · intro hf
    cases hg : (step c s i).1.gen
    · rfl
    all_goals
      obtain ⟨-, h1, h2⟩ := busy_up h.idle u (by rw [hg]; exact Gen.noConfusion)
      exact absurd (h1 ▸ hf) h2
  · intro hb
    obtain ⟨hd, hf, hnd⟩ := busy_up h.idle u hb
    have hs : genSub (step c s i).1 = genSub s := by
      simp only [genSub, hf, step_nextAck, step_nextCredit, u.no_reset, lgoodDone, lcrdDone, hd, Bool.and_false,
        Bool.false_eq_true, if_false]
    have hc : genCmd c (step c s i).1 = genCmd c s := by simp only [genCmd, hf]
    rw [hs, hc, step_gCmd, step_gSub, u.no_abort]
    simp only [Bool.false_eq_true, if_false]
    by_cases hi : s.gen = .idle
    · have : generate s = true := by simp [generate, hnd]
      simp [hi, this, Nat.mod_eq_of_lt hsub]
    · have hb : (s.gen == Gen.idle) = false := by cases hx : s.gen <;> simp_all
      simp [hb, h.latched hi]

theorem genOk_done (h : GenOk c s) (hd : done s i = true) :
    s.fsm ≠ .dispatch ∧ s.gCmd = genCmd c s ∧ s.gSub = genSub s := by
  simp only [done, Bool.and_eq_true, beq_iff_eq] at hd
  have hg : s.gen ≠ .idle := by rw [hd.1]; exact Gen.noConfusion
  exact ⟨fun hf => hg (h.idle hf), h.latched hg⟩
end up

/-! ## What an observer of the ports has seen -/

/-- What an observer of the ports has seen so far. -/
structure Ghost where
  accepted  : List Hdr   -- headers written into a buffer, oldest first
  delivered : List Hdr   -- headers taken by the protocol layer (queue.valid & queue.ready), oldest first
  lgoods    : List Nat   -- subtypes of the LGOOD commands completed on the wire
  lcrds     : List Nat   -- subtypes of the LCRD commands completed on the wire
  lbads     : Nat        -- number of LBAD commands completed on the wire
  bads      : Nat        -- number of corrupted headers noticed (bad CRC while not ignoring)
deriving Repr

def Ghost.init : Ghost := ⟨[], [], [], [], 0, 0⟩

/-- the generator completes a command of kind `cmd` on the wire in this cycle -/
def wire (s : State) (i : In) (cmd : Nat) : Bool := done s i && s.gCmd == cmd

def ghostStep (s : State) (i : In) (g : Ghost) : Ghost :=
  { accepted  := if accept s then g.accepted ++ [s.rx.outPkt] else g.accepted
    delivered := if pop s i then g.delivered ++ [s.bufs.get s.rp] else g.delivered
    lgoods    := if wire s i LGOOD then g.lgoods ++ [s.gSub] else g.lgoods
    lcrds     := if wire s i LCRD then g.lcrds ++ [s.gSub] else g.lcrds
    lbads     := if wire s i LBAD then g.lbads + 1 else g.lbads
    bads      := if badEv s then g.bads + 1 else g.bads }

def runG (c : Config) : State → Ghost → List In → State × Ghost
  | s, g, [] => (s, g)
  | s, g, i :: is => runG c (step c s i).1 (ghostStep s i g) is

/-! ## The buffer array as a queue -/

/-- `bf` buffers starting at index `rp`, oldest first. -/
def bufQ (b : Bufs) (rp bf : Nat) : List Hdr := (List.range bf).map (fun k => b.get (rp + k))

theorem bufQ_getElem? (b : Bufs) (r : Nat) {n k : Nat} (hk : k < n) : (bufQ b r n)[k]? = some (b.get (r + k)) := by
  simp only [bufQ, List.getElem?_map, List.getElem?_range hk, Option.map_some]

theorem bufQ_pop (b : Bufs) (rp bf : Nat) (h1 : 1 ≤ bf) :
    bufQ b rp bf = b.get rp :: bufQ b ((rp + 1) % 4) (bf - 1) := by
  obtain ⟨n, rfl⟩ : ∃ n, bf = n + 1 := ⟨bf - 1, by omega⟩
  simp only [bufQ, List.range_succ_eq_map, List.map_cons, List.map_map, Nat.add_zero, Nat.add_sub_cancel]
  congr 1
  exact List.map_congr_left fun k _ => b.get_congr (by omega)

theorem bufQ_push (b : Bufs) (rp bf : Nat) (x : Hdr) (h3 : bf ≤ 3) :
    bufQ (b.set ((rp + bf) % 4) x) rp (bf + 1) = bufQ b rp bf ++ [x] := by
  simp only [bufQ, List.range_succ, List.map_append, List.map_cons, List.map_nil, Bufs.get_set, Nat.mod_mod,
    if_true]
  congr 1
  refine List.map_congr_left fun k hk => if_neg ?_
  have := List.mem_range.1 hk; omega

theorem bufQ_both (b : Bufs) (rp bf : Nat) (x : Hdr) (h1 : 1 ≤ bf) (h3 : bf ≤ 3) :
    b.get rp :: bufQ (b.set ((rp + bf) % 4) x) ((rp + 1) % 4) bf = bufQ b rp bf ++ [x] := by
  rw [← bufQ_push b rp bf x h3, bufQ_pop _ rp (bf + 1) (by omega), Bufs.get_set,
    if_neg (by omega), Nat.add_sub_cancel]

/-- The headers currently buffered, oldest first. -/
def absQueue (s : State) : List Hdr := bufQ s.bufs s.rp s.bf

end LunaVerif.HeaderRx
