import LunaVerif.Lemmas.C11Refine
/-!
# C11 — transfer boundaries: every transfer ends with a short packet or a zero-length packet
-/
namespace LunaVerif.InXfer

/-! ## The boundary checker under extension of the producer's log -/

def addRem (e : EndSt) (m : List Bool) : EndSt := { e with rem := e.rem ++ m }

theorem addRem_nil (e : EndSt) : addRem e [] = e := by simp [addRem]

theorem addRem_ok (e : EndSt) (m : List Bool) : (addRem e m).ok = e.ok := rfl

theorem endStep_ok_imp (mps : Nat) (e : EndSt) (p : List Nat) (h : (endStep mps e p).ok = true) :
    e.ok = true ∧ p.length ≤ e.rem.length := by
  simp [endStep] at h
  exact ⟨h.1.1.1.1, h.1.1.1.2⟩

theorem endStep_addRem (mps : Nat) (e : EndSt) (p : List Nat) (m : List Bool)
    (h : (endStep mps e p).ok = true) :
    endStep mps (addRem e m) p = addRem (endStep mps e p) m := by
  obtain ⟨-, hle⟩ := endStep_ok_imp mps e p h
  simp only [endStep, addRem, List.take_append_of_le_length hle, List.drop_append_of_le_length hle,
    List.length_append]
  have : decide (p.length ≤ e.rem.length + m.length) = decide (p.length ≤ e.rem.length) := by
    simp [hle]; omega
  rw [this]

theorem foldl_ok_mono (mps : Nat) (pkts : List (List Nat)) (e : EndSt)
    (h : (pkts.foldl (endStep mps) e).ok = true) : e.ok = true := by
  induction pkts generalizing e with
  | nil => exact h
  | cons p ps ih => exact (endStep_ok_imp mps e p (ih _ h)).1

theorem foldl_addRem (mps : Nat) (pkts : List (List Nat)) (e : EndSt) (m : List Bool)
    (h : (pkts.foldl (endStep mps) e).ok = true) :
    pkts.foldl (endStep mps) (addRem e m) = addRem (pkts.foldl (endStep mps) e) m := by
  induction pkts generalizing e with
  | nil => rfl
  | cons p ps ih =>
    simp only [List.foldl_cons] at h ⊢
    rw [endStep_addRem mps e p m (foldl_ok_mono mps ps _ h)]
    exact ih _ h

theorem endFold_glue (mps : Nat) (marks m : List Bool) (pkts P : List (List Nat))
    (h : (P.foldl (endStep mps) (endFold mps marks pkts)).ok = true) :
    endFold mps (marks ++ m) (pkts ++ P) = addRem (P.foldl (endStep mps) (endFold mps marks pkts)) m := by
  unfold endFold at h ⊢
  rw [← List.foldl_append] at h ⊢
  exact foldl_addRem mps (pkts ++ P) ⟨marks, false, true⟩ m h

/-! ## The bookkeeping invariant, on the quantities it depends on -/

/-- `last` marks of the bytes of a buffer with `fill` bytes whose `stream_ended` flag is `ended`. -/
def bufMarks (fill : Nat) (ended : Bool) : List Bool :=
  if fill = 0 then [] else List.replicate (fill - 1) false ++ [ended]

theorem bufMarks_false (n : Nat) : bufMarks n false = List.replicate n false := by
  unfold bufMarks
  split
  · simp [*]
  · have : n = (n - 1) + 1 := by omega
    conv => rhs; rw [this, List.replicate_succ']

theorem bufMarks_length (n : Nat) (e : Bool) : (bufMarks n e).length = n := by
  unfold bufMarks; split <;> simp <;> omega

structure KP (mps : Nat) (hp pid : Bool) (rf : Nat) (re : Bool) (wf : Nat) (we : Bool) (E : EndSt) :
    Prop where
  ok   : E.ok = true
  rem  : E.rem = (if hp = pid then [] else bufMarks rf re) ++ bufMarks wf we
  owed : E.owed = (if hp = pid then rf == mps && re else rf == 0)
  wpos : we = true → 1 ≤ wf

/-- the producer hands over a byte -/
theorem KP.prod {mps hp pid rf re wf E} (l : Bool) (h : KP mps hp pid rf re wf false E) :
    KP mps hp pid rf re (wf + 1) l (addRem E [l]) := by
  refine ⟨h.ok, ?_, h.owed, fun _ => by omega⟩
  simp only [addRem, h.rem, bufMarks_false, List.append_assoc]
  simp [bufMarks]

/-- the buffers are swapped (no ZLP is due) -/
theorem KP.swap {mps hp pid rf re wf we E} (h : KP mps hp pid rf re wf we E) (hhp : hp = pid)
    (hnf : (rf == mps && re) = false) (hpos : 1 ≤ wf) : KP mps hp (!pid) wf we 0 false E := by
  have hne : ¬ hp = !pid := by rw [hhp]; cases pid <;> simp
  refine ⟨h.ok, ?_, ?_, fun h => by simp at h⟩
  · simp [h.rem, hhp, bufMarks]
  · rw [h.owed, if_pos hhp, if_neg hne, hnf]
    have : (wf == 0) = false := by simp; omega
    rw [this]

/-- an ACKed max-size packet that ended the transfer: the follow-up ZLP is staged -/
theorem KP.follow {mps hp pid rf re wf we E} (h : KP mps hp pid rf re wf we E) (hhp : hp = pid)
    (hf : (rf == mps && re) = true) : KP mps hp (!pid) 0 re wf we E := by
  have hne : ¬ hp = !pid := by rw [hhp]; cases pid <;> simp
  refine ⟨h.ok, ?_, ?_, h.wpos⟩
  · simp [h.rem, hhp, bufMarks]
  · rw [h.owed, if_pos hhp, if_neg hne, hf]; rfl

/-- an ACKed packet is cleared from the read buffer (no ZLP is due) -/
theorem KP.clear {mps hp pid rf re wf we E} (hm : 1 ≤ mps) (h : KP mps hp pid rf re wf we E)
    (hhp : hp = pid) (hnf : (rf == mps && re) = false) : KP mps hp pid 0 re wf we E := by
  refine ⟨h.ok, ?_, ?_, h.wpos⟩
  · simp [h.rem, hhp]
  · rw [h.owed, if_pos hhp, if_pos hhp, hnf]
    have : (0 == mps) = false := by simp; omega
    rw [this]; rfl

/-- the host keeps the staged (non-empty) packet -/
theorem KP.keep {mps hp pid rf re wf we E} (p : List Nat) (h : KP mps hp pid rf re wf we E)
    (hhp : ¬ hp = pid) (h1 : 1 ≤ rf) (h2 : rf ≤ mps) (hpl : p.length = rf) :
    KP mps pid pid rf re wf we (endStep mps E p) := by
  have hrem := h.rem
  rw [if_neg hhp] at hrem
  have hlen := bufMarks_length rf re
  have htake : E.rem.take rf = bufMarks rf re := by
    rw [hrem, List.take_append_of_le_length (by omega), List.take_of_length_le (by omega)]
  have hdrop : E.rem.drop rf = bufMarks wf we := by
    rw [hrem, List.drop_append_of_le_length (by omega), List.drop_of_length_le (by omega)]
    rfl
  have hbm : bufMarks rf re = List.replicate (rf - 1) false ++ [re] := by
    unfold bufMarks; rw [if_neg (by omega)]
  have hne : p.isEmpty = false := by
    cases p with
    | nil => simp at hpl; omega
    | cons _ _ => rfl
  refine ⟨?_, ?_, ?_, h.wpos⟩
  · have ho := h.owed
    rw [if_neg hhp] at ho
    have h0 : (rf == 0) = false := by simp; omega
    simp only [endStep, hpl, htake, h.ok, ho, h0, hne, hbm, List.dropLast_concat]
    have : rf ≤ E.rem.length := by rw [hrem]; simp [hlen]
    simp [this, h2]
  · simp [endStep, hpl, hdrop]
  · simp [endStep, hpl, htake, hbm]

/-- the host keeps the follow-up ZLP -/
theorem KP.keepZlp {mps hp pid re wf we E} (hm : 1 ≤ mps) (h : KP mps hp pid 0 re wf we E)
    (hhp : ¬ hp = pid) : KP mps pid pid 0 false wf we (endStep mps E []) := by
  have ho := h.owed
  rw [if_neg hhp] at ho
  have hrem := h.rem
  rw [if_neg hhp] at hrem
  have h0 : (0 == mps) = false := by simp; omega
  refine ⟨?_, ?_, ?_, h.wpos⟩
  · simp [endStep, h.ok, ho]
  · simpa [endStep, bufMarks] using hrem
  · simp [endStep, h0]

/-- a ZLP the host does not keep only clears the `stream_ended` flag of the empty read buffer -/
theorem KP.dupZlp {mps hp pid re wf we E} (hm : 1 ≤ mps) (h : KP mps hp pid 0 re wf we E)
    (hhp : hp = pid) : KP mps hp pid 0 false wf we E := by
  have h0 : (0 == mps) = false := by simp; omega
  refine ⟨h.ok, ?_, ?_, h.wpos⟩
  · simpa [hhp] using h.rem
  · rw [h.owed, if_pos hhp, if_pos hhp, h0]; rfl


/-! ## The bookkeeping invariant on the model state and the observer -/

def K (c : Config) (s : State) (g : Obs) : Prop :=
  KP c.mps g.hostPid s.pid s.r.fill s.r.ended s.w.fill s.w.ended
    (endFold c.mps (g.prod.map (·.2)) g.pkts)

theorem K_init (c : Config) : K c (init c) obsInit := by
  refine ⟨rfl, ?_, ?_, ?_⟩ <;> simp [init, obsInit, emptyBuf, endFold, bufMarks]

/-- Assemble `K` for the next state from the packets `P` kept and the bytes `N` handed over in this
cycle. -/
theorem K_assemble (c : Config) (s' : State) (g g' : Obs) (P : List (List Nat)) (N : List (Nat × Bool))
    (hpk : g'.pkts = g.pkts ++ P) (hpr : g'.prod = g.prod ++ N)
    (h : KP c.mps g'.hostPid s'.pid s'.r.fill s'.r.ended s'.w.fill s'.w.ended
      (addRem (P.foldl (endStep c.mps) (endFold c.mps (g.prod.map (·.2)) g.pkts)) (N.map (·.2)))) :
    K c s' g' := by
  unfold K
  rw [hpk, hpr, List.map_append, endFold_glue _ _ _ _ _ (by rw [← addRem_ok]; exact h.ok)]
  exact h

def newMarks (c : Config) (s : State) (i : In) : List Bool := if wen c s i then [i.sLast] else []

theorem newMarks_eq (c : Config) (s : State) (i : In) :
    (if wen c s i then [(i.sPayload % 256, i.sLast)] else []).map (·.2) = newMarks c s i := by
  unfold newMarks; split <;> rfl

theorem KP_wNext {c : Config} {s : State} {i : In} {mps hp pid rf re E} (hd : i.discard = false)
    (h : KP mps hp pid rf re s.w.fill s.w.ended E) :
    KP mps hp pid rf re (wNext c s i).fill (wNext c s i).ended (addRem E (newMarks c s i)) := by
  unfold newMarks
  by_cases hw : wen c s i = true
  · have he : s.w.ended = false := by
      simp [wen, inReady] at hw; exact hw.2.2
    have h1 : (wNext c s i).fill = s.w.fill + 1 := by simp [wNext, hd, hw]
    have h2 : (wNext c s i).ended = i.sLast := by
      simp [wNext, hd, hw, he]
    rw [h1, h2, if_pos hw]
    rw [he] at h
    exact h.prod i.sLast
  · have hw' : wen c s i = false := by simpa using hw
    have h1 : (wNext c s i).fill = s.w.fill := by simp [wNext, hd, hw']
    have h2 : (wNext c s i).ended = s.w.ended := by simp [wNext, hd, hw']
    rw [h1, h2, hw']
    simpa [addRem_nil] using h

theorem swap_fill_pos (c : Config) (s : State) (i : In) (hd : i.discard = false) (hm : 1 ≤ c.mps)
    (hwpos : s.w.ended = true → 1 ≤ s.w.fill)
    (h : (!inReady c s || packetReady c s i) = true) : 1 ≤ (wNext c s i).fill := by
  by_cases hw : wen c s i = true
  · simp [wNext, hd, hw]
  · have hw' : wen c s i = false := by simpa using hw
    simp only [wNext, hd, hw', Bool.false_eq_true, if_false]
    simp only [wen] at hw'
    simp only [packetReady, hd] at h
    by_cases hr : inReady c s = true
    · simp only [hr, Bool.and_true] at hw'
      simp [hr, hw'] at h
      omega
    · simp [inReady] at hr
      by_cases h0 : s.w.fill = 0
      · have := hr (by omega)
        have := hwpos this
        omega
      · omega


theorem K_quiet (c : Config) (s s' : State) (g g' : Obs) (i : In) (hd : i.discard = false)
    (hK : K c s g) (h1 : s'.pid = s.pid) (h2 : s'.r = rNext c s i) (h4 : s'.w = wNext c s i)
    (h5 : g'.hostPid = g.hostPid) (h6 : g'.pkts = g.pkts)
    (h7 : g'.prod = g.prod ++ (if wen c s i then [(i.sPayload % 256, i.sLast)] else [])) :
    K c s' g' := by
  refine K_assemble c s' g g' [] _ (by simp [h6]) h7 ?_
  rw [h1, h2, h4, h5, newMarks_eq]
  simpa [rNext, hd] using KP_wNext hd hK

theorem K_step_waitData (c : Config) (s : State) (g : Obs) (i : In) (hl : LegalZlpIn i)
    (hm : 1 ≤ c.mps) (hJ : J c s g) (hK : K c s g) (hfs : s.fsm = .waitData) :
    K c (step c s i).1 (obsStep g (i, (step c s i).2)) := by
  obtain ⟨⟨hd, hr⟩, hz⟩ := hl
  have hw : obsWire g i (step c s i).2 = g := obsWire_quiet (by rw [step_waitData i hfs])
  have hr0 : s.r.fill = 0 := hJ.inv.idle hfs
  simp only [obsStep, hw, obsProd_eq]
  rw [step_waitData i hfs]
  cases hp : packetReady c s i <;> simp only [hr, if_true, Bool.false_eq_true, if_false]
  · exact K_quiet c s _ g _ i hd hK rfl rfl rfl rfl rfl rfl
  · refine K_assemble c _ g _ [] _ (by simp) rfl ?_
    have hnf : (s.r.fill == c.mps && s.r.ended) = false := by
      have : (s.r.fill == c.mps) = false := by simp; omega
      rw [this]; rfl
    have hpos := swap_fill_pos c s i hd hm hK.wpos (by simp [hp])
    have := (KP_wNext (c := c) (s := s) (i := i) hd hK).swap (hJ.sync (.inl hfs)) hnf hpos
    simpa [newMarks_eq, rNext, hd, hr0] using this

theorem K_step_waitSend (c : Config) (s : State) (g : Obs) (i : In) (hl : LegalZlpIn i)
    (hm : 1 ≤ c.mps) (hJ : J c s g) (hK : K c s g) (hfs : s.fsm = .waitSend) :
    K c (step c s i).1 (obsStep g (i, (step c s i).2)) := by
  obtain ⟨⟨hd, hr⟩, hz⟩ := hl
  simp only [obsStep, obsProd_eq, obsWire_waitSend hJ hfs hd hr]
  rw [step_waitSend i hfs]
  cases ht : inTok i <;> simp only [hd, hr, if_true, Bool.false_eq_true, if_false, Bool.false_and, Bool.true_and]
  · exact K_quiet c s _ g _ i hd hK rfl rfl rfl rfl rfl rfl
  · by_cases hf : s.r.fill = 0
    · simp only [hf, bne_self_eq_false, beq_self_eq_true, if_true, Bool.false_eq_true, if_false]
      unfold Obs.complete
      unfold K at hK
      rw [hf] at hK
      by_cases hpid : s.pid = g.hostPid
      · rw [if_pos hpid]
        refine K_assemble c _ g _ [] _ (by simp) rfl ?_
        have := KP_wNext (c := c) (s := s) (i := i) hd (hK.dupZlp hm hpid.symm)
        simpa [newMarks_eq, rNext, hd, hf] using this
      · rw [if_neg hpid]
        refine K_assemble c _ g _ [[]] _ rfl rfl ?_
        have := KP_wNext (c := c) (s := s) (i := i) hd (hK.keepZlp hm (fun h => hpid h.symm))
        simpa [newMarks_eq, rNext, hd, hf] using this
    · simp only [bne_iff_ne, ne_eq, beq_iff_eq, hf, not_false_eq_true, if_true, if_false]
      exact K_quiet c s _ g _ i hd hK rfl rfl rfl rfl rfl rfl

theorem K_step_sendPacket (c : Config) (s : State) (g : Obs) (i : In) (hl : LegalZlpIn i)
    (hJ : J c s g) (hK : K c s g) (hfs : s.fsm = .sendPacket) :
    K c (step c s i).1 (obsStep g (i, (step c s i).2)) := by
  obtain ⟨⟨hd, hr⟩, hz⟩ := hl
  obtain ⟨hlt, -⟩ := hJ.inv.send hfs
  have hrl := hJ.inv.rlen
  have hrf := hJ.inv.rfill
  simp only [obsStep, obsProd_eq, obsWire_sendPacket hJ hfs]
  rw [step_sendPacket i hfs, succ_mod_bitsFor (Nat.lt_of_lt_of_le hlt hrf)]
  cases hrdy : i.txReady <;> simp only [hr, if_true, Bool.false_eq_true, if_false]
  · exact K_quiet c s _ g _ i hd hK rfl rfl rfl rfl rfl rfl
  · by_cases hlast : s.sendPos + 1 = s.r.fill
    · simp only [beq_iff_eq, if_pos hlast]
      unfold Obs.complete
      by_cases hpid : s.pid = g.hostPid
      · rw [if_pos hpid]
        exact K_quiet c s _ g _ i hd hK rfl rfl rfl rfl rfl rfl
      · rw [if_neg hpid]
        refine K_assemble c _ g _ [bufBytes s.r] _ rfl rfl ?_
        have hlen : (bufBytes s.r).length = s.r.fill := by
          simp [bufBytes]; omega
        have := KP_wNext (c := c) (s := s) (i := i) hd
          (KP.keep (bufBytes s.r) hK (fun h => hpid h.symm) (by omega) hrf hlen)
        simpa [newMarks_eq, rNext, hd] using this
    · simp only [beq_iff_eq, if_neg hlast]
      exact K_quiet c s _ g _ i hd hK rfl rfl rfl rfl rfl rfl

theorem K_step_waitAck (c : Config) (s : State) (g : Obs) (i : In) (hl : LegalZlpIn i)
    (hm : 1 ≤ c.mps) (hJ : J c s g) (hK : K c s g) (hfs : s.fsm = .waitAck) :
    K c (step c s i).1 (obsStep g (i, (step c s i).2)) := by
  obtain ⟨⟨hd, hr⟩, hz⟩ := hl
  have hhp := hJ.sync (.inr hfs)
  have ho : obsWire g i (step c s i).2 = g := obsWire_quiet (by rw [step_waitAck i hfs])
  have hK1 := KP_wNext (c := c) (s := s) (i := i) hd hK
  simp only [obsStep, obsProd_eq, ho]
  -- `K` does not look at the FSM state: the `new_token` override is invisible to it
  suffices h : K c (ackNext c s i)
      { g with prod := g.prod ++ (if wen c s i then [(i.sPayload % 256, i.sLast)] else []) } by
    rw [step_waitAck i hfs]
    dsimp only
    split
    · exact h
    · exact h
  simp only [ackNext, hd, hr, hz, Bool.true_and, Bool.false_eq_true, if_false]
  cases ha : ackTaken i <;> simp only [if_true, Bool.false_eq_true, if_false]
  · exact K_quiet c s _ g _ i hd hK rfl rfl rfl rfl rfl rfl
  · cases hfu : (s.r.fill == c.mps && s.r.ended) <;> simp only [if_true, Bool.false_eq_true, if_false]
    · cases hsw : (!inReady c s || packetReady c s i) <;> simp only [if_true, Bool.false_eq_true, if_false]
      · refine K_assemble c _ g _ [] _ (by simp) rfl ?_
        have := KP_wNext (c := c) (s := s) (i := i) hd (KP.clear hm hK hhp hfu)
        simpa [newMarks_eq, rNext, hd] using this
      · refine K_assemble c _ g _ [] _ (by simp) rfl ?_
        have hpos := swap_fill_pos c s i hd hm hK.wpos hsw
        simpa [newMarks_eq] using hK1.swap hhp hfu hpos
    · refine K_assemble c _ g _ [] _ (by simp) rfl ?_
      have := KP_wNext (c := c) (s := s) (i := i) hd (KP.follow hK hhp hfu)
      simpa [newMarks_eq, rNext, hd] using this

theorem K_step (c : Config) (s : State) (g : Obs) (i : In) (hl : LegalZlpIn i) (hm : 1 ≤ c.mps)
    (hJ : J c s g) (hK : K c s g) : K c (step c s i).1 (obsStep g (i, (step c s i).2)) := by
  cases hfs : s.fsm with
  | waitData => exact K_step_waitData c s g i hl hm hJ hK hfs
  | waitSend => exact K_step_waitSend c s g i hl hm hJ hK hfs
  | sendPacket => exact K_step_sendPacket c s g i hl hJ hK hfs
  | waitAck => exact K_step_waitAck c s g i hl hm hJ hK hfs

theorem JK_run (c : Config) (hm : 1 ≤ c.mps) (ins : List In) (henv : LegalZlpEnv ins) (s : State)
    (g : Obs) (hJ : J c s g) (hK : K c s g) :
    J c (runState c s ins) (observeFrom g (trace c s ins)) ∧
    K c (runState c s ins) (observeFrom g (trace c s ins)) := by
  induction ins generalizing s g with
  | nil => exact ⟨hJ, hK⟩
  | cons i is ih =>
    simp only [runState, trace, observeFrom, List.foldl_cons]
    have hl := henv i (by simp)
    exact ih (fun j hj => henv j (by simp [hj])) _ _ (J_step c s g i hl.1 hJ) (K_step c s g i hl hm hJ hK)

theorem K_reachable (c : Config) (hm : 1 ≤ c.mps) (ins : List In) (henv : LegalZlpEnv ins) :
    K c (runState c (init c) ins) (observe (trace c (init c) ins)) :=
  (JK_run c hm ins henv _ _ (J_init c) (K_init c)).2

/-! ## The theorem -/

/-- **Every transfer ends with a short packet or a zero-length packet.**  For every max packet size
≥ 1 and every history with `discard = reset_sequence = 0` and `generate_zlps = 1` (any producer timing,
`last` marks and `flush` requests, any tokens, lost/late/foreign ACKs, any `ready` schedule), at every
cycle, the lengths of the packets the host has kept line up with the producer's `last` marks as `endsOk` demands
(that their bytes are the producer's is `in_exactly_once`): each kept packet has at most mps bytes and no more than
the producer has handed over beyond the packets kept before; a `last`-marked byte is always the final byte of its
packet; when that packet is a full `mps` bytes the very next packet the host keeps is a zero-length
packet (so a short packet or a ZLP precedes any data of the next transfer); and the host keeps a
zero-length packet only in that situation. -/
theorem transfer_ends_short_or_zlp (c : Config) (hm : 1 ≤ c.mps) (ins : List In)
    (henv : LegalZlpEnv ins) :
    endsOk c.mps ((produced (trace c (init c) ins)).map (·.2)) (hostPackets (trace c (init c) ins))
      = true :=
  (K_reachable c hm ins henv).ok


/-! ## Non-vacuity

mps = 2: the transfer `5, 6(last)` fills a max-size packet, so after its ACK a ZLP follows; then the
one-byte transfer `7(last)` goes out as a short packet.  And the checker does discriminate: without the
ZLP, or with a `last` mark inside a packet, or with a ZLP that is not due, it says `false`. -/

def exL (rfr nt ack v : Bool) (p : Nat) (l : Bool) : In :=
  ⟨true, true, rfr, nt, ack, v, p, l, false, false, true, false, false, true⟩

def exZlpHist : List In :=
  [exL false false false true 5 false, exL false false false true 6 true,      -- producer: 5, 6(last)
   exL false true false false 0 false, exL true false false false 0 false,      -- IN token
   exL false false false false 0 false, exL false false false false 0 false,    -- 5, 6 go out
   exL false false true false 0 false,                                          -- ACK: ZLP staged
   exL false true false false 0 false, exL true false false false 0 false,      -- IN token: ZLP
   exL false false true false 0 false,                                          -- ACK
   exL false false false true 7 true,                                           -- producer: 7(last)
   exL false true false false 0 false, exL true false false false 0 false,      -- IN token
   exL false false false false 0 false]                                         -- 7 goes out

example : LegalZlpEnv exZlpHist := by decide
example : hostPackets (trace ⟨2⟩ (init ⟨2⟩) exZlpHist) = [[5, 6], [], [7]]
    ∧ (produced (trace ⟨2⟩ (init ⟨2⟩) exZlpHist)).map (·.2) = [false, true, true] := by decide +kernel
example : endsOk 2 [false, true, true] [[5, 6], [], [7]] = true := by decide
example : endsOk 2 [false, true, true] [[5, 6], [7]] = false := by decide      -- the ZLP is missing
example : endsOk 2 [true, false] [[5, 6]] = false := by decide                 -- `last` inside a packet
example : endsOk 2 [false, false, true] [[5, 6], [], [7]] = false := by decide -- a ZLP that is not due
example : endsOk 2 [false, false, true] [[5], [6, 7]] = true := by decide      -- short packet by `flush`

end LunaVerif.InXfer
