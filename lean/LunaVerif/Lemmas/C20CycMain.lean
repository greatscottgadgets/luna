import LunaVerif.Lemmas.C20CycAbs
/-!
# C20 — "never while a received packet is still in progress", proved on the cycle-level composition

`DevCyc` (Model/Device/DevCyc.lean) composes the models of the token detector (C01), data receiver (C02), data packet
generator (C03), handshake generator (C04), the two inter-packet timers (C05), the shared CRC16 unit and the UTMI
transmit multiplexer (C20) exactly as `USBDevice.elaborate` wires them, with the endpoint logic as an arbitrary
environment.  Under

* the HOST assumption `hostOk` — the receive line is idle while the response window `Win` is open (after a packet that
  solicits a response the host waits for the answer to end, or `T+1` cycles if none starts), and `rx_valid ⇒ rx_active`;
* the ENVIRONMENT discipline `envOk` — endpoints request a transmission only in the cycle of a `ready_for_response`
  pulse (token detector's while the token is IN/PING, or receiver's) or at most `L+1` cycles later, one per pulse, keep
  a started stream valid, restart the shared timer only in the cycle after a reception ended; no reset chirp;
* `delay + L + 2 < T` (12 MHz full speed: 2 + 8 + 2 < 16);
* `strobes`: the timer build drives its strobes at the speed in use, so that the receiver's delay is `delayOf` (also a
  hypothesis of `skel_step`);

every reachable cycle satisfies `tx_valid ⇒ ¬rx_active`, `tx_valid ⇒ the window is open` (solicited, at the cycle
level), the two transmitters are never valid together, and every pulse comes `delay+1` or `delay+2` cycles after the end
of the soliciting packet with the receive line idle since.  The proof is an inductive invariant over the control
skeleton (`Lemmas/C20CycAbs.lean`: `Abs.Inv`, `Abs.inv_step`) and the refinement lemma `skel_step`: the skeleton of
`DevCyc.step` is `Abs.astep` of the skeleton.
-/
namespace LunaVerif.DevCyc
open LunaVerif LunaVerif.DevCyc.Abs

def skel (s : State) : A :=
  { tf := s.tok.tok.fsm
    armed := s.tok.tok.regs.pid == inPid || s.tok.tok.regs.pid == pingPid
    ct := s.tok.timer, rf := s.rx.fsm, cs := s.rx.counter, ht := s.hs.transmit, gf := s.gen.fsm }

def skelIn (c : Config) (s : State) (i : In) : AI :=
  { active := i.rx.active, valid := i.rx.valid
    isTok := TokenDetector.isTokenPid i.rx.data
    isData := DataReceiver.isDataPid i.rx.data
    crcOk := TokenDetector.crcOk s.tok.tok.tokenData i.rx.data
    sof := s.tok.tok.currentPid == TokenDetector.sofPid
    applicable := if c.tok.filterByAddress then s.tok.tok.tokenData % 128 == i.address else true
    cpidArm := s.tok.tok.currentPid == inPid || s.tok.tok.currentPid == pingPid
    crcMatch := s.rx.lastWordCrc == s.rx.pipeLo + 256 * s.rx.pipeHi
    hsReq := hsReq i
    sRaw := i.sValid && (i.sFirst || i.sLast)
    sValid := i.sValid, sLast := i.sLast, txReady := i.txReady, isZlp := s.gen.isZlp
    envStart := i.timerStart, rsValid := i.rsValid }

theorem tok_skel (cfg : TokenDetector.Config) (s : TokenDetector.State) (i : TokenDetector.In) :
    (TokenDetector.tokStep cfg s i).1.fsm =
      tokNext s.fsm i.rx.active i.rx.valid (TokenDetector.isTokenPid i.rx.data)
        (TokenDetector.crcOk s.tokenData i.rx.data) ∧
    (TokenDetector.tokStep cfg s i).2 =
      ((s.fsm == .tokenComplete && !i.rx.active) && !(s.currentPid == TokenDetector.sofPid) &&
        (if cfg.filterByAddress then s.tokenData % 128 == i.address else true)) ∧
    (TokenDetector.tokStep cfg s i).1.regs.pid =
      (if (s.fsm == .tokenComplete && !i.rx.active) && !(s.currentPid == TokenDetector.sofPid) then
        (if (if cfg.filterByAddress then s.tokenData % 128 == i.address else true) then s.currentPid else 0)
       else s.regs.pid) := by
  cases h : s.fsm <;> simp only [TokenDetector.tokStep, tokNext, h] <;>
    cases i.rx.active <;> cases i.rx.valid <;> simp <;> (try split) <;> (try split) <;> simp_all

theorem tok_fsm (cfg : TokenDetector.Config) (s : TokenDetector.State) (i : TokenDetector.In) :
    (TokenDetector.tokStep cfg s i).1.fsm =
      tokNext s.fsm i.rx.active i.rx.valid (TokenDetector.isTokenPid i.rx.data)
        (TokenDetector.crcOk s.tokenData i.rx.data) :=
  (tok_skel cfg s i).1

theorem tok_pid (cfg : TokenDetector.Config) (s : TokenDetector.State) (i : TokenDetector.In) :
    (TokenDetector.tokStep cfg s i).1.regs.pid =
      (if (s.fsm == .tokenComplete && !i.rx.active) && !(s.currentPid == TokenDetector.sofPid) then
        (if (if cfg.filterByAddress then s.tokenData % 128 == i.address else true) then s.currentPid else 0)
       else s.regs.pid) :=
  (tok_skel cfg s i).2.2

theorem rx_skel (c : DataReceiver.Config) (s : DataReceiver.State) (i : Utmi.RxCycle) :
    (DataReceiver.fsmStep c s i).1.fsm =
      rxNext s.fsm i.active i.valid (DataReceiver.isDataPid i.data)
        (s.lastWordCrc == s.pipeLo + 256 * s.pipeHi) (s.counter == c.delay) ∧
    (DataReceiver.fsmStep c s i).2.2.2.1 = (s.fsm == .delay && s.counter == c.delay) ∧
    (DataReceiver.fsmStep c s i).2.2.2.2 =
      (s.fsm == .emit && !i.active && (s.lastWordCrc == s.pipeLo + 256 * s.pipeHi)) := by
  cases h : s.fsm <;> simp only [DataReceiver.fsmStep, rxNext, h] <;>
    cases i.active <;> cases i.valid <;> simp <;> (try split) <;> (try split) <;> simp_all

theorem rx_fsm (c : DataReceiver.Config) (s : DataReceiver.State) (i : Utmi.RxCycle) :
    (DataReceiver.fsmStep c s i).1.fsm =
      rxNext s.fsm i.active i.valid (DataReceiver.isDataPid i.data)
        (s.lastWordCrc == s.pipeLo + 256 * s.pipeHi) (s.counter == c.delay) :=
  (rx_skel c s i).1

theorem rx_ready (c : DataReceiver.Config) (s : DataReceiver.State) (i : Utmi.RxCycle) :
    (DataReceiver.fsmStep c s i).2.2.2.1 = (s.fsm == .delay && s.counter == c.delay) :=
  (rx_skel c s i).2.1

theorem rx_start (c : DataReceiver.Config) (s : DataReceiver.State) (i : Utmi.RxCycle) :
    (DataReceiver.fsmStep c s i).2.2.2.2 =
      (s.fsm == .emit && !i.active && (s.lastWordCrc == s.pipeLo + 256 * s.pipeHi)) :=
  (rx_skel c s i).2.2

theorem hs_transmit (s : Handshake.Gen.State) (i : Handshake.Gen.In) :
    (Handshake.Gen.step s i).1.transmit = (if !s.transmit then (i.ack || i.nak || i.stall) else !i.ready) := by
  cases h : s.transmit <;> simp only [Handshake.Gen.step, h] <;>
    cases i.ack <;> cases i.nak <;> cases i.stall <;> cases i.ready <;> simp [h]

theorem hs_valid (s : Handshake.Gen.State) (i : Handshake.Gen.In) :
    (Handshake.Gen.step s i).2.valid = s.transmit := rfl

theorem gen_fsm (s : DataGenerator.State) (i : In) (ai : AI)
    (h1 : ai.sRaw = (i.sValid && (i.sFirst || i.sLast))) (h2 : ai.sValid = i.sValid) (h3 : ai.sLast = i.sLast)
    (h4 : ai.txReady = i.txReady) (h5 : ai.isZlp = s.isZlp) :
    (DataGenerator.fsmStep s (genIn i)).1.fsm = genNext s.fsm ai := by
  cases h : s.fsm <;> simp only [DataGenerator.fsmStep, genNext, genIn, h, h1, h2, h3, h4, h5] <;>
    first
    | rfl
    | (cases i.sValid <;> cases i.sFirst <;> cases i.sLast <;> cases i.txReady <;> cases s.isZlp <;> simp)

theorem gen_valid (s : DataGenerator.State) (i : In) (ai : AI) (h2 : ai.sValid = i.sValid) :
    (DataGenerator.fsmStep s (genIn i)).2.1 = genValid s.fsm ai := by
  cases h : s.fsm <;> simp only [DataGenerator.fsmStep, genValid, genIn, h, h2] <;>
    cases i.sValid <;> cases i.sFirst <;> cases i.sLast <;> simp

theorem timer_next (tc : InterpacketTimer.Config) (ct : Nat) (b : Bool) :
    InterpacketTimer.next tc ct b = cnt (InterpacketTimer.counterMax tc) ct b := rfl

theorem counter_next (c : Config) (cs : Nat) (b : Bool) :
    DataReceiver.counterNext (rxCfg c) cs b = cnt (InterpacketTimer.counterMax c.tok.timer) cs b := rfl

theorem allowed_eq (tc : InterpacketTimer.Config) (ct speed : Nat) (hs : strobes tc speed = true) :
    (InterpacketTimer.outputs tc ct speed).txAllowed = (ct == delayOf tc speed) := by
  simp only [strobes, Bool.or_eq_true, beq_iff_eq, Bool.not_eq_true'] at hs
  unfold InterpacketTimer.outputs delayOf
  rcases hs with h1 | h1
  · subst h1; simp
  · simp only [h1]
    split
    · simp
    · split <;> simp

theorem rx_delay (c : Config) (hs : strobes c.tok.timer c.speed = true) :
    (rxCfg c).delay = delayOf c.tok.timer c.speed := by
  simp [rxCfg, hs]

/-- The delay fits the counter (so that the pulse is reached) in every configuration the constructor accepts, at every
speed at which the timer drives its strobes. -/
theorem delay_le_max (tc : InterpacketTimer.Config) (speed : Nat) (hs : strobes tc speed = true) :
    delayOf tc speed ≤ InterpacketTimer.counterMax tc := by
  simp only [strobes, Bool.or_eq_true, beq_iff_eq, Bool.not_eq_true'] at hs
  unfold delayOf InterpacketTimer.counterMax InterpacketTimer.fsRxToTxDelay InterpacketTimer.fsTxToRxTimeout
    InterpacketTimer.hsRxToTxDelay InterpacketTimer.lsRxToTxDelay InterpacketTimer.lsTxToRxTimeout
  rcases hs with h1 | h1
  · subst h1; cases tc.clk12 <;> cases tc.fsOnly <;> simp
  · simp only [h1]; cases tc.clk12 <;> split <;> (try split) <;> simp

theorem pid_excl (x : Nat) : (TokenDetector.isTokenPid x && DataReceiver.isDataPid x) = false := by
  simp only [TokenDetector.isTokenPid, DataReceiver.isDataPid, TokenDetector.pingPid, Bool.and_eq_false_iff,
    Bool.or_eq_false_iff, beq_eq_false_iff_ne]
  by_cases h : x % 4 = 3
  · left; left; constructor <;> omega
  · right; left; exact h

theorem skelIn_ok (c : Config) (s : State) (i : In) : aiOk (skelIn c s i) = true := by
  simp [aiOk, skelIn, pid_excl]

theorem skel_step (c : Config) (hs : strobes c.tok.timer c.speed = true) (s : State) (i : In) :
    skel (step c s i).1 =
      astep (delayOf c.tok.timer c.speed) (InterpacketTimer.counterMax c.tok.timer) (skel s) (skelIn c s i) := by
  simp only [skel, astep, step, A.mk.injEq]
  refine ⟨?_, ?_, ?_, ?_, ?_, ?_, ?_⟩
  · simp only [TokenDetector.step, tok_fsm]; rfl
  · simp only [TokenDetector.step, tok_pid, tokDone, skelIn]
    split
    · split <;> simp_all [inPid, pingPid]
      split <;> simp_all
    · simp_all
  · simp only [TokenDetector.step, InterpacketTimer.step, timer_next, (tok_skel _ _ _).2.1, tokStart, tokDone, skelIn]
  · simp only [rx_fsm, rx_delay c hs]; rfl
  · simp only [counter_next, rx_start, rxStart, skelIn]
  · simp only [hs_transmit, hsIn, skelIn, hsReq]
    split <;> simp_all
  · exact gen_fsm _ _ _ rfl rfl rfl rfl rfl

theorem out_txValid (c : Config) (s : State) (i : In) :
    (step c s i).2.txValid = aTxValid (skel s) (skelIn c s i) := by
  simp only [step, TxMux.mux, List.any, aTxValid, Bool.or_false, hs_valid]
  rw [gen_valid s.gen i (skelIn c s i) rfl]
  simp [skel, skelIn, Bool.or_assoc]

theorem out_rxActive (c : Config) (s : State) (i : In) : (step c s i).2.rxActive = i.rx.active := rfl
theorem out_hsValid (c : Config) (s : State) (i : In) : (step c s i).2.hsValid = s.hs.transmit := rfl
theorem out_genValid (c : Config) (s : State) (i : In) :
    (step c s i).2.genValid = genValid s.gen.fsm (skelIn c s i) := gen_valid s.gen i (skelIn c s i) rfl

theorem sol_eq (c : Config) (s : State) (i : In) :
    solicits s (step c s i).2 = aSol (skel s) (skelIn c s i) := by
  simp only [solicits, step, aSol, (tok_skel _ _ _).2.1, rx_start, tokStart, tokDone, rxStart, skel, skelIn]

theorem pulse_eq (c : Config) (hs : strobes c.tok.timer c.speed = true) (s : State) (i : In) :
    pulse (step c s i).2 = aPulse (delayOf c.tok.timer c.speed) (skel s) := by
  simp only [pulse, step, aPulse, TokenDetector.step, InterpacketTimer.step, allowed_eq _ _ _ hs, rx_ready,
    rx_delay c hs, skel, inPid, pingPid]

theorem sStart_eq (c : Config) (s : State) (i : In) : sStart s i = aSStart (skel s) (skelIn c s i) := by
  simp only [sStart, aSStart, skel, skelIn, Bool.and_assoc]

theorem hostOk_eq (c : Config) (g : Ghost) (s : State) (i : In) : hostOk g i = aHostOk g (skelIn c s i) := rfl

theorem envOk_eq (c : Config) (hs : strobes c.tok.timer c.speed = true) (g : Ghost) (s : State) (i : In) :
    envOk g s i (step c s i).2 = aEnvOk (delayOf c.tok.timer c.speed) g (skel s) (skelIn c s i) := by
  simp only [envOk, aEnvOk, pulse_eq c hs, sStart_eq c]
  rfl

theorem ghost_eq (c : Config) (hs : strobes c.tok.timer c.speed = true) (p : Params) (g : Ghost) (s : State)
    (i : In) :
    ghostNext p g s i (step c s i).2 = aGhostNext (delayOf c.tok.timer c.speed) p g (skel s) (skelIn c s i) := by
  simp only [ghostNext, aGhostNext, pendNext, sol_eq, out_txValid, pulse_eq c hs, sStart_eq c]
  rfl

def traceG (c : Config) (p : Params) : State → Ghost → List In → List (Ghost × Out)
  | _, _, [] => []
  | s, g, i :: is => (g, (step c s i).2) :: traceG c p (step c s i).1 (ghostNext p g s i (step c s i).2) is

theorem run_eq_traceG (c : Config) (p : Params) (s : State) (g : Ghost) (ins : List In) :
    run c s ins = (traceG c p s g ins).map (·.2) := by
  induction ins generalizing s g with
  | nil => rfl
  | cons i is ih => simp only [run, traceG, List.map_cons, ih (step c s i).1 (ghostNext p g s i (step c s i).2)]

def Safe (d : Nat) (go : Ghost × Out) : Prop :=
  (go.2.txValid = true → go.1.win ≠ .closed ∧ go.2.rxActive = false) ∧
  ¬ (go.2.hsValid = true ∧ go.2.genValid = true) ∧
  (pulse go.2 = true → ∃ k, go.1.win = .wait k ∧ d ≤ k ∧ k ≤ d + 1 ∧ go.2.rxActive = false)

theorem pulse_window {d : Nat} {p : Params} {a : A} {g : Ghost} (h : Inv d p a g) (hp : aPulse d a = true) :
    ∃ k, g.win = .wait k ∧ d ≤ k ∧ k ≤ d + 1 := by
  simp only [aPulse, Bool.or_eq_true, Bool.and_eq_true, beq_iff_eq] at hp
  rcases hp with ⟨h1, h2⟩ | ⟨h1, h2⟩
  · exact ⟨a.ct, h.mode.cases.1 ⟨h2, by omega⟩, by omega, by omega⟩
  · obtain ⟨_, k, hk, hkc, _⟩ := h.mode.cases.2.1 h1
    exact ⟨k, hk, by omega, by omega⟩

theorem safe_all (c : Config) (p : Params) (hs : strobes c.tok.timer c.speed = true)
    (hT : delayOf c.tok.timer c.speed + p.L + 2 < p.T) (ins : List In) (s : State) (g : Ghost)
    (hinv : Inv (delayOf c.tok.timer c.speed) p (skel s) g) (h : assumptionsHold c p s g ins = true) :
    ∀ go ∈ traceG c p s g ins, Safe (delayOf c.tok.timer c.speed) go := by
  induction ins generalizing s g with
  | nil => intro go hgo; cases hgo
  | cons i is ih =>
    simp only [assumptionsHold, Bool.and_eq_true] at h
    obtain ⟨⟨hh, he⟩, hrest⟩ := h
    rw [hostOk_eq c g s i] at hh
    rw [envOk_eq c hs] at he
    intro go hgo
    simp only [traceG, List.mem_cons] at hgo
    rcases hgo with rfl | hgo
    · refine ⟨?_, ?_, ?_⟩
      · intro htx
        simp only [out_txValid] at htx
        have := inv_safe hinv hh he htx
        exact ⟨this.1, by simpa [out_rxActive, skelIn] using this.2.1⟩
      · intro ⟨h1, h2⟩
        simp only [out_hsValid, out_genValid] at h1 h2
        have htx : aTxValid (skel s) (skelIn c s i) = true := by simp [aTxValid, skel, h1]
        exact (inv_safe hinv hh he htx).2.2 ⟨h1, h2⟩
      · intro hp
        simp only [pulse_eq c hs] at hp
        obtain ⟨k, hk, h1, h2⟩ := pulse_window hinv hp
        refine ⟨k, hk, h1, h2, ?_⟩
        have hw : g.win ≠ .closed := by simp [hk]
        simpa [out_rxActive, skelIn] using (open_facts hinv hh hw).1
    · apply ih _ _ _ hrest _ hgo
      rw [skel_step c hs, ghost_eq c hs]
      exact inv_step hinv (skelIn_ok c s i) hh he (delay_le_max _ _ hs) hT

/-- **The device never transmits while a received packet is in progress** (cycle level, whole composition). -/
theorem tx_never_during_rx (c : Config) (p : Params) (hs : strobes c.tok.timer c.speed = true)
    (hT : delayOf c.tok.timer c.speed + p.L + 2 < p.T) (ins : List In)
    (h : assumptionsHold c p init ghostInit ins = true) :
    ∀ o ∈ run c init ins, o.txValid = true → o.rxActive = false := by
  rw [run_eq_traceG c p init ghostInit ins]
  intro o ho
  obtain ⟨go, hgo, rfl⟩ := List.mem_map.mp ho
  intro htx
  exact ((safe_all c p hs hT ins init ghostInit (inv_init _ _) h go hgo).1 htx).2

/-- Every cycle with `tx_valid` lies inside a response window: the transmission was solicited by an IN/PING token
accepted by the token detector or by a data packet with a good CRC16, and started before the host's time-out. -/
theorem tx_only_in_response_window (c : Config) (p : Params) (hs : strobes c.tok.timer c.speed = true)
    (hT : delayOf c.tok.timer c.speed + p.L + 2 < p.T) (ins : List In)
    (h : assumptionsHold c p init ghostInit ins = true) :
    ∀ go ∈ traceG c p init ghostInit ins, go.2.txValid = true → go.1.win ≠ .closed := by
  intro go hgo htx
  exact ((safe_all c p hs hT ins init ghostInit (inv_init _ _) h go hgo).1 htx).1

/-- The handshake generator and the data packet generator are never valid in the same cycle: every byte on the bus
comes from a single transmitter (with `mux_single_source`). -/
theorem transmitters_exclusive (c : Config) (p : Params) (hs : strobes c.tok.timer c.speed = true)
    (hT : delayOf c.tok.timer c.speed + p.L + 2 < p.T) (ins : List In)
    (h : assumptionsHold c p init ghostInit ins = true) :
    ∀ o ∈ run c init ins, ¬ (o.hsValid = true ∧ o.genValid = true) := by
  rw [run_eq_traceG c p init ghostInit ins]
  intro o ho
  obtain ⟨go, hgo, rfl⟩ := List.mem_map.mp ho
  exact (safe_all c p hs hT ins init ghostInit (inv_init _ _) h go hgo).2.1

/-- The timing link: a `ready_for_response` pulse that an endpoint may answer occurs only `delay+1` (or, when an
endpoint restarted the shared timer, `delay+2`) cycles after the soliciting packet ended, with the receive line idle in
that cycle (and, by `hostOk`, in every cycle since the packet ended). -/
theorem pulse_only_after_delay (c : Config) (p : Params) (hs : strobes c.tok.timer c.speed = true)
    (hT : delayOf c.tok.timer c.speed + p.L + 2 < p.T) (ins : List In)
    (h : assumptionsHold c p init ghostInit ins = true) :
    ∀ go ∈ traceG c p init ghostInit ins, pulse go.2 = true →
      ∃ k, go.1.win = .wait k ∧ delayOf c.tok.timer c.speed ≤ k ∧ k ≤ delayOf c.tok.timer c.speed + 1 ∧
        go.2.rxActive = false := by
  intro go hgo hp
  exact (safe_all c p hs hT ins init ghostInit (inv_init _ _) h go hgo).2.2 hp

/-! ### Non-vacuity: the hypotheses are satisfiable by histories in which the device really transmits -/

/-- `USBDevice` on a plain UTMI bus: 12 MHz, full-speed only, speed FULL; host time-out 16, endpoint latency 8. -/
def exCfg : Config := ⟨⟨true, ⟨true, true⟩⟩, 1⟩
def exPar : Params := ⟨16, 8⟩

def quietIn : In :=
  { rx := ⟨false, false, 0⟩, txReady := true, address := 0, ack := false, nak := false, stall := false,
    sValid := false, sFirst := false, sLast := false, sPayload := 0, pidToggle := 0, timerStart := false,
    crcStart := false, rsValid := false, rsData := 0 }

def rxIn (c : Utmi.RxCycle) : In := { quietIn with rx := c }

/-- IN token (address 0, endpoint 0: 69 00 10); the `ready_for_response` pulse comes in the fourth idle cycle, NAK is
requested in the cycle after it, the handshake generator transmits in the next cycle. -/
def exNak : List In :=
  [rxIn (Utmi.waitC 0), rxIn (Utmi.byteC 0x69), rxIn (Utmi.byteC 0x00), rxIn (Utmi.byteC 0x10),
   quietIn, quietIn, quietIn, quietIn, { quietIn with nak := true }, quietIn, quietIn, quietIn]

example : strobes exCfg.tok.timer exCfg.speed = true ∧ delayOf exCfg.tok.timer exCfg.speed + exPar.L + 2 < exPar.T := by
  decide

example : assumptionsHold exCfg exPar init ghostInit exNak = true := by decide

example : (run exCfg init exNak).map (fun o => (o.txValid, o.txData)) =
    [(false, 0), (false, 0), (false, 0), (false, 0), (false, 0), (false, 0), (false, 0), (false, 0), (false, 0),
     (true, 0x5A), (false, 0), (false, 0)] := by decide

/-- IN token, then the endpoint starts a one-byte data packet three cycles after the pulse (stream `first & last`). -/
def exData : List In :=
  [rxIn (Utmi.waitC 0), rxIn (Utmi.byteC 0x69), rxIn (Utmi.byteC 0x00), rxIn (Utmi.byteC 0x10),
   quietIn, quietIn, quietIn, quietIn, quietIn, quietIn,
   { quietIn with sValid := true, sFirst := true, sLast := true, sPayload := 0xAB },
   { quietIn with sValid := true, sFirst := true, sLast := true, sPayload := 0xAB },
   { quietIn with sValid := true, sFirst := true, sLast := true, sPayload := 0xAB },
   quietIn, quietIn, quietIn, quietIn]

example : assumptionsHold exCfg exPar init ghostInit exData = true := by decide

example : (run exCfg init exData).map (·.txValid) =
    [false, false, false, false, false, false, false, false, false, false, false, true, true, true, true, false,
     false] := by decide

/-- The host assumption is not redundant: if the host starts a packet inside the response window, the same device
transmits while `rx_active` is high. -/
def exCollide : List In :=
  [rxIn (Utmi.waitC 0), rxIn (Utmi.byteC 0x69), rxIn (Utmi.byteC 0x00), rxIn (Utmi.byteC 0x10),
   quietIn, quietIn, quietIn, quietIn, { quietIn with nak := true }, rxIn (Utmi.waitC 0)]

example : assumptionsHold exCfg exPar init ghostInit exCollide = false ∧
    (run exCfg init exCollide).any (fun o => o.txValid && o.rxActive) = true := by decide

end LunaVerif.DevCyc
