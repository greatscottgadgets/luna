import LunaVerif.Lemmas.C57Ghost
/-!
# C57 — rx and tx stream over whole-device histories: the two invariants and their preservation

`RxG b g`: the rx endpoint's expected toggle IS the sequence bit the USB toggle rule prescribes for the observed
history, and the bytes read from the stream followed by the bytes still in the FIFO are the payloads ACKed with a
fresh toggle.

`TxG ctl d g`: the core invariant `TxCore` (Props/C57.lean) between the tx endpoint `d` and the ghost's host side, plus
what ties it to the token detector and to `lastGot`, plus the two clauses on the re-deliveries `tx_in_order`'s second
half is read off: every entry of `redone` repeats the packet before it, and there are at most `ambiguousClears` of them
(a pending `redo` counted).
-/
namespace LunaVerif.C57
open LunaVerif LunaVerif.Device LunaVerif.Device.Full

def RxG (b : OutEp) (g : Ghost) : Prop :=
  b.expToggle = g.rxBit ∧ g.delivered ++ bytesOf b.fifo = g.acked

theorem onData_out_none (c : DevConfig) (s : DevState) (p : List Nat) (ok : Bool) (h1 : s.tokPid = PID_OUT)
    (h2 : s.tokEp = 4) : (onData c s p ok).2 = .none := by
  unfold onData
  have hp : ¬ (PID_OUT = PID_SETUP) := by decide
  simp [h1, h2, hp]
  intros
  repeat' split
  all_goals rfl

theorem firstResp_mid (r : Resp) : firstResp [.none, r, .none] = r := by
  cases r <;> simp [firstResp, Resp.isNone]

theorem firstResp_last (r : Resp) : firstResp [.none, .none, r] = r := by
  cases r <;> simp [firstResp, Resp.isNone]

theorem resp_out_data (c : FullConfig) (hc : IsSerial c) (s : FullState) (a : InEp) (b : OutEp) (d : InEp)
    (hs : Shape s a b d) (pid : Nat) (p : List Nat) (ok : Bool) (h1 : s.ctl.tokPid = PID_OUT) (h2 : s.ctl.tokEp = 4) :
    (Full.step c s (.data pid p ok)).2.resp = (outData ep4o b PID_OUT 4 pid p ok).2 := by
  have ht : (core c.dev s.ctl (.data pid p ok)).1.tokEp = 4 := (onData_tok c.dev s.ctl p ok).2.trans h2
  rw [step_resp_eps c s (.data pid p ok) (onData_out_none c.dev s.ctl p ok h1 h2) (by rw [ht]; decide)]
  unfold Shape at hs
  unfold IsSerial at hc
  simp only [hc, hs, epsStep, epStep, List.map, ctxOf, h1, h2, firstResp_mid]

theorem rx_data (c : FullConfig) (hc : IsSerial c) (s : FullState) (a : InEp) (b : OutEp) (d : InEp)
    (hs : Shape s a b d) (g : Ghost) (got : Bool) (pid : Nat) (p : List Nat) (ok : Bool) (hi : RxG b g) :
    ∃ b', (epStep ep4o (.sOut b) (ctxOf s.ctl (.data pid p ok)) (.data pid p ok)).1 = .sOut b' ∧
      RxG b' (ghostStep s g ⟨.data pid p ok, got⟩ (Full.step c s (.data pid p ok)).2) := by
  refine ⟨(outData ep4o b s.ctl.tokPid s.ctl.tokEp pid p ok).1, rfl, ?_⟩
  obtain ⟨ht, hd⟩ := hi
  by_cases h12 : s.ctl.tokPid = PID_OUT ∧ s.ctl.tokEp = 4
  · obtain ⟨h1, h2⟩ := h12
    have hm := outData_mine ep4o b pid p ok
    simp only [show ep4o.num = 4 from rfl] at hm
    simp only [ghostStep, resp_out_data c hc s a b d hs pid p ok h1 h2, h1, h2, true_and]
    generalize outData ep4o b PID_OUT 4 pid p ok = r at hm ⊢
    rcases hm with ⟨ha, hm, ht', hf⟩ | ⟨he, hr⟩
    · rw [if_pos ⟨ha, hm.trans ht⟩]
      exact ⟨by rw [ht', ht], by rw [hf, ← List.append_assoc, hd]⟩
    · rw [if_neg (fun h => by rw [if_pos (h.2.trans ht.symm)] at hr; exact hr h.1), he]
      exact ⟨ht, hd⟩
  · have h12' : ¬ (s.ctl.tokPid = PID_OUT ∧ s.ctl.tokEp = 4 ∧
        (Full.step c s (.data pid p ok)).2.resp = .hs PID_ACK ∧ pidToggle pid = g.rxBit) := fun h => h12 ⟨h.1, h.2.1⟩
    have ho : outData ep4o b s.ctl.tokPid s.ctl.tokEp pid p ok = (b, .none) := if_neg h12
    simp only [ghostStep, if_neg h12', ho]
    exact ⟨ht, hd⟩

theorem haltFor_iff (s : DevState) (pid : Nat) (dir : Bool) (n : Nat) :
    haltFor (ctxOf s (.handshake pid)) dir n = true ↔
      (ackReachesStd s pid && s.hstate == .clearFeature) = true ∧
      (s.setup.index / 128 % 2 == 1) = dir ∧ s.setup.index % 16 = n := by
  simp only [haltFor, ctxOf]
  cases (ackReachesStd s pid && s.hstate == .clearFeature)
  · simp
  · simp

theorem haltFor_ack (s : DevState) (pid : Nat) (dir : Bool) (n : Nat)
    (h : haltFor (ctxOf s (.handshake pid)) dir n = true) :
    pid = PID_ACK ∧ s.tokEp = 0 ∧ s.tokPid = PID_IN := by
  have hc := ((haltFor_iff s pid dir n).1 h).1
  simp only [ackReachesStd, Bool.and_eq_true, beq_iff_eq] at hc
  exact ⟨hc.1.1.1.1, hc.1.1.1.2, hc.1.1.2⟩

theorem rxG_congr {b : OutEp} {g g' : Ghost} (h1 : g'.rxBit = g.rxBit) (h2 : g'.acked = g.acked)
    (h3 : g'.delivered = g.delivered) (hi : RxG b g) : RxG b g' := by
  unfold RxG
  rw [h1, h2, h3]
  exact hi

theorem rx_step (c : FullConfig) (hc : IsSerial c) (s : FullState) (a : InEp) (b : OutEp) (d : InEp)
    (hs : Shape s a b d) (g : Ghost) (ae : AEvent) (hi : RxG b g) :
    ∃ b', (epStep ep4o (.sOut b) (ctxOf s.ctl ae.ev) ae.ev).1 = .sOut b' ∧
      RxG b' (ghostStep s g ae (Full.step c s ae.ev).2) := by
  obtain ⟨ev, got⟩ := ae
  obtain ⟨g1, g2, g3⟩ := ghost_rx s g ⟨ev, got⟩ (Full.step c s ev).2
  have e4 : ep4o.num = 4 := rfl
  cases ev with
  | data pid p ok => exact rx_data c hc s a b d hs g got pid p ok hi
  | consume ep n =>
    dsimp only at g3
    by_cases he : ep = 4
    · subst he
      refine ⟨{ b with fifo := b.fifo.drop n }, rfl, hi.1.trans g1.symm, ?_⟩
      rw [g2, g3, if_pos rfl, delivery_consume c hc s a b d hs, List.append_assoc, ← bytesOf_append,
        List.take_append_drop]
      exact hi.2
    · rw [if_neg he] at g3
      exact ⟨b, by simp [epStep, e4, he], rxG_congr g1 g2 g3 hi⟩
  | handshake pid =>
    dsimp only at g1
    cases hh : haltFor (ctxOf s.ctl (.handshake pid)) false 4
    · rw [hh] at g1
      exact ⟨b, by simp [epStep, e4, hh], rxG_congr g1 g2 g3 hi⟩
    · rw [hh] at g1
      obtain rfl := (haltFor_ack s.ctl pid false 4 hh).1
      refine ⟨{ b with expToggle := false }, by simp [epStep, e4, hh], g1.symm, ?_⟩
      rw [g2, g3]; exact hi.2
  | token pid addr ep =>
    refine ⟨b, ?_, rxG_congr g1 g2 g3 hi⟩
    simp only [epStep, outToken]
    split
    · split <;> rfl
    · rfl
  | _ => exact ⟨b, rfl, rxG_congr g1 g2 g3 hi⟩

theorem inProduce_waitAck (mps : Nat) (bytes : List Nat) (last : Bool) (d : InEp)
    (hf : (inProduce mps d bytes last).1.fsm = .waitAck) : d.fsm = .waitAck := by
  induction bytes generalizing d with
  | nil => exact hf
  | cons b bs ih =>
    unfold inProduce at hf
    cases hbb : inByte mps d b (last && bs.isEmpty) with
    | none => rw [hbb] at hf; exact hf
    | some e' =>
      rw [hbb] at hf
      have h1 := ih e' hf
      rcases inByte_view mps d b _ e' hbb with ⟨_, v1, _⟩ | ⟨v1, _⟩
      · rw [v1] at h1; cases h1
      · rw [← v1]; exact h1

def TxG (ctl : DevState) (d : InEp) (g : Ghost) : Prop :=
  TxCore d g.hostBit g.kept g.produced g.redo g.unconfirmed g.lastPkt ∧
  (d.fsm = .waitAck → ctl.tokEp = 4) ∧
  (g.lastGot = true → d.fsm = .waitAck ∧ g.hostBit = !d.pid) ∧
  (∀ x ∈ g.redone, x.1 = x.2) ∧
  g.redone.length + (if g.redo then 1 else 0) ≤ g.ambiguousClears

/-- The part of the ghost history the tx invariant reads. -/
def txv (g : Ghost) :=
  (g.produced, g.hostBit, g.kept, g.lastPkt, g.unconfirmed, g.redo, g.redone, g.ambiguousClears, g.lastGot)

theorem txg_congr {ctl : DevState} {d : InEp} {g g' : Ghost} (h : txv g' = txv g) (hi : TxG ctl d g) : TxG ctl d g' := by
  simp only [txv, Prod.mk.injEq] at h
  obtain ⟨g1, g2, g3, g4, g5, g6, g7, g8, g9⟩ := h
  unfold TxG
  rw [g1, g2, g3, g4, g5, g6, g7, g8, g9]
  exact hi

/-- `g'` has the tx view (`txv`) of `g` with `lastGot` cleared; not "the same view": `lastGot` may differ.  `txg_same`
carries `TxG` across such a move of the ghost. -/
def SameTx (g g' : Ghost) : Prop := txv g' = txv { g with lastGot := false }

theorem txg_same {ctl ctl' : DevState} {d d' : InEp} {g g' : Ghost} (hi : TxG ctl d g) (hg : SameTx g g')
    (hc : TxCore d' g.hostBit g.kept g.produced g.redo g.unconfirmed g.lastPkt)
    (ht : d'.fsm = .waitAck → ctl'.tokEp = 4) : TxG ctl' d' g' :=
  txg_congr hg ⟨hc, ht, fun h => Bool.noConfusion h, hi.2.2.2.1, hi.2.2.2.2⟩

theorem resp_in_token (c : FullConfig) (hc : IsSerial c) (s : FullState) (a : InEp) (b : OutEp) (d : InEp)
    (hs : Shape s a b d) :
    (Full.step c s (.token PID_IN s.ctl.address 4)).2.resp = (inToken 4 d PID_IN 4).2 := by
  have hk : core c.dev s.ctl (.token PID_IN s.ctl.address 4) = (afterToken s.ctl PID_IN 4, .none) := by
    simp only [core, if_true, onToken]; rfl
  rw [step_resp_eps c s _ (by rw [hk]) (by rw [hk]; exact (by decide : (4 : Nat) ≠ 0))]
  unfold Shape at hs
  unfold IsSerial at hc
  have h43 : (inToken 3 a PID_IN 4).2 = .none := by simp [inToken]
  have hp : (outToken ep4o b PID_IN 4).2 = .none := by simp [outToken, PID_IN, PID_PING]
  simp [hc, hs, epsStep, epStep, ctxOf, ep3, ep4i, h43, hp, firstResp_last]

theorem tok_token_mine (c : FullConfig) (s : FullState) (pid ep : Nat) :
    (Full.step c s (.token pid s.ctl.address ep)).1.ctl.tokPid = pid ∧
    (Full.step c s (.token pid s.ctl.address ep)).1.ctl.tokEp = ep := by
  rw [(step_tk c s _).1, (step_tk c s _).2]
  simp only [core, if_true]
  rw [(onToken_ctl c.dev s.ctl pid ep).tokPid, (onToken_ctl c.dev s.ctl pid ep).tokEp]
  exact ⟨rfl, rfl⟩

theorem inToken_other (d : InEp) (pid ep : Nat) (h : ¬ (pid = PID_IN ∧ ep = 4)) :
    let d' := (inToken 4 d pid ep).1
    (d'.fsm = d.fsm ∨ (d.fsm = .waitAck ∧ d'.fsm = .waitSend)) ∧ d'.pid = d.pid ∧ d'.rbuf = d.rbuf ∧
    d'.wbuf = d.wbuf ∧ d'.fsm ≠ .waitAck := by
  rcases d with ⟨fsm, tg, pid', b0, b1, e0, e1⟩
  cases fsm <;> simp [inToken, h, InEp.rbuf, InEp.wbuf]

theorem ghost_token_other (s : FullState) (g : Ghost) (got : Bool) (pid addr ep : Nat) (o : Obs)
    (h : ¬ (pid = PID_IN ∧ addr = s.ctl.address ∧ ep = 4)) :
    ghostStep s g ⟨.token pid addr ep, got⟩ o = { g with lastGot := false } := by
  simp only [ghostStep, if_neg h]

theorem sameTx_clear (g : Ghost) : SameTx g { g with lastGot := false } := rfl

theorem tx_inert (c : FullConfig) (s : FullState) (d : InEp) (g : Ghost) (got : Bool) (ev : HostEvent)
    (hst : (epStep ep4i (.sIn d) (ctxOf s.ctl ev) ev).1 = .sIn d)
    (hgh : SameTx g (ghostStep s g ⟨ev, got⟩ (Full.step c s ev).2))
    (hctl : (core c.dev s.ctl ev).1.tokEp = s.ctl.tokEp) (hi : TxG s.ctl d g) :
    ∃ d', (epStep ep4i (.sIn d) (ctxOf s.ctl ev) ev).1 = .sIn d' ∧
      TxG (Full.step c s ev).1.ctl d' (ghostStep s g ⟨ev, got⟩ (Full.step c s ev).2) :=
  ⟨d, hst, txg_same hi hgh hi.1 (fun h => by rw [(step_tk c s ev).2, hctl]; exact hi.2.1 h)⟩

theorem tx_token (c : FullConfig) (hc : IsSerial c) (s : FullState) (a : InEp) (b : OutEp) (d : InEp)
    (hs : Shape s a b d) (g : Ghost) (got : Bool) (pid addr ep : Nat) (hi : TxG s.ctl d g) :
    ∃ d', (epStep ep4i (.sIn d) (ctxOf s.ctl (.token pid addr ep)) (.token pid addr ep)).1 = .sIn d' ∧
      TxG (Full.step c s (.token pid addr ep)).1.ctl d'
        (ghostStep s g ⟨.token pid addr ep, got⟩ (Full.step c s (.token pid addr ep)).2) := by
  have e4 : ep4i.num = 4 := rfl
  by_cases ha : addr = s.ctl.address
  · subst ha
    refine ⟨(inToken 4 d pid ep).1, by simp [epStep, ctxOf, e4], ?_⟩
    by_cases hpe : pid = PID_IN ∧ ep = 4
    · obtain ⟨rfl, rfl⟩ := hpe
      have hresp := resp_in_token c hc s a b d hs
      have htok : ∀ d' : InEp, d'.fsm = .waitAck → (Full.step c s (.token PID_IN s.ctl.address 4)).1.ctl.tokEp = 4 :=
        fun _ _ => (tok_token_mine c s PID_IN 4).2
      by_cases hf : d.fsm = .waitData
      · rw [inToken_waitData 4 d hf] at hresp ⊢
        simp only [ghostStep, hresp, and_self, if_true]
        exact txg_same hi (sameTx_clear g) hi.1 (htok d)
      · obtain ⟨e', he, hfsm, hpid, hr, hw⟩ := inToken_send 4 d hf
        have hf' : e'.fsm ≠ .waitData := by rw [hfsm]; decide
        rw [he] at hresp ⊢
        simp only [ghostStep, hresp, and_self, if_true, pidToggle_dataPidOf]
        cases got
        · exact txg_same hi (sameTx_clear g) (txc_busy hi.1 hf hf' hpid hr hw) (htok e')
        · obtain ⟨h1, _, _, h4, h5⟩ := hi
          rcases txc_got h1 hf hf' hpid hr hw with ⟨c1, c2, hc'⟩ | ⟨c1, c2, c4, hc'⟩ | ⟨c1, hc'⟩
          · -- a new packet
            simp only [if_pos c1.symm, c2, if_true, Bool.false_eq_true, if_false] at h5 ⊢
            exact ⟨hc', htok e', fun _ => ⟨hfsm, by rw [hpid, c1]⟩, h4, h5⟩
          · -- the re-delivery after an ambiguous halt-clear
            simp only [if_pos c1.symm, c2, if_true]
            refine ⟨hc', htok e', fun _ => ⟨hfsm, by rw [hpid, c1]⟩, fun x hx => ?_, by simpa [c2] using h5⟩
            rcases List.mem_append.1 hx with hx | hx
            · exact h4 x hx
            · rw [List.mem_singleton.1 hx]; exact c4
          · -- a retransmission of what the host has
            simp only [if_neg (fun h : d.pid = g.hostBit => Bool.eq_not.mp c1 h.symm), if_true]
            exact ⟨hc', htok e', fun _ => ⟨hfsm, by rw [hpid]; exact c1⟩, h4, h5⟩
    · -- another token for this device: WAIT_FOR_ACK falls back to "resend"
      obtain ⟨o1, o2, o3, o4, o5⟩ := inToken_other d pid ep hpe
      rw [ghost_token_other s g got pid s.ctl.address ep _ (fun h => hpe ⟨h.1, h.2.2⟩)]
      refine txg_same hi (sameTx_clear g) ?_ (fun h => absurd h o5)
      rcases o1 with o1 | ⟨o1, o1'⟩
      · unfold TxCore; rw [o1, o2, o3, o4]; exact hi.1
      · exact txc_busy hi.1 (by rw [o1]; decide) (by rw [o1']; decide) o2 o3 o4
  · -- a token for another device
    refine tx_inert c s d g got _ (by simp [epStep, ctxOf, ha]) ?_ (by simp only [core, if_neg ha]) hi
    rw [ghost_token_other s g got pid addr ep _ (fun h => ha h.2.1)]
    exact sameTx_clear g

theorem ghost_hs_plain (s : FullState) (g : Ghost) (got : Bool) (pid : Nat) (o : Obs)
    (hr : haltFor (ctxOf s.ctl (.handshake pid)) true 4 = false)
    (ha : ¬ (pid = PID_ACK ∧ s.ctl.tokPid = PID_IN ∧ s.ctl.tokEp = 4 ∧ g.lastGot = true)) :
    SameTx g (ghostStep s g ⟨.handshake pid, got⟩ o) := by
  simp only [ghostStep, hr]
  generalize haltFor (ctxOf s.ctl (.handshake pid)) false 4 = hf
  cases hf <;> simp [ha, SameTx, txv]

theorem ghost_hs_ack (s : FullState) (g : Ghost) (got : Bool) (pid : Nat) (o : Obs)
    (hr : haltFor (ctxOf s.ctl (.handshake pid)) true 4 = false)
    (ha : pid = PID_ACK ∧ s.ctl.tokPid = PID_IN ∧ s.ctl.tokEp = 4 ∧ g.lastGot = true) :
    SameTx { g with unconfirmed := false } (ghostStep s g ⟨.handshake pid, got⟩ o) := by
  simp only [ghostStep, hr]
  generalize haltFor (ctxOf s.ctl (.handshake pid)) false 4 = hf
  cases hf <;> simp [ha, SameTx, txv]

theorem ghost_hs_clear (s : FullState) (g : Ghost) (got : Bool) (pid : Nat) (o : Obs)
    (hr : haltFor (ctxOf s.ctl (.handshake pid)) true 4 = true) :
    txv (ghostStep s g ⟨.handshake pid, got⟩ o) =
      txv { g with lastGot := false, hostBit := false, unconfirmed := false, redo := g.redo || g.unconfirmed,
                   ambiguousClears := g.ambiguousClears + (if g.unconfirmed then 1 else 0) } := by
  have h0 := (haltFor_ack s.ctl pid true 4 hr).2.1
  have ha : ¬ (pid = PID_ACK ∧ s.ctl.tokPid = PID_IN ∧ s.ctl.tokEp = 4 ∧ g.lastGot = true) := by
    intro h; rw [h0] at h; exact absurd h.2.2.1 (by decide)
  simp only [ghostStep, hr, if_neg ha, if_true]
  -- what remains is the halt-clear of OUT 4, which touches `rxBit` only
  generalize haltFor (ctxOf s.ctl (.handshake pid)) false 4 = hf
  cases hf <;> rfl

theorem inAck_idle (mps : Nat) (d : InEp) : inAck mps d false false = d := by
  rcases d with ⟨fsm, tg, pid, b0, b1, e0, e1⟩
  cases fsm <;> simp [inAck]

theorem inAck_other (mps : Nat) (d : InEp) (h : d.fsm ≠ .waitAck) : inAck mps d true false = d := by
  rcases d with ⟨fsm, tg, pid, b0, b1, e0, e1⟩
  cases fsm <;> simp [inAck] at h ⊢

theorem inAck_clear (mps : Nat) (d : InEp) (h : d.fsm ≠ .waitAck) :
    inAck mps d false true = { d with pid := decide (d.fsm = .waitData) } := by
  rcases d with ⟨fsm, tg, pid, b0, b1, e0, e1⟩
  cases fsm <;> simp [inAck] at h ⊢

/-- CLEAR_FEATURE(ENDPOINT_HALT) for IN 4 outside WAIT_FOR_ACK: both sides restart with DATA0; a packet the host has
while the device has not seen its ACK becomes a re-delivery. -/
theorem txc_clear {d : InEp} {hb : Bool} {kept prod : List Nat} {redo unc : Bool} {lp : List Nat}
    (h : TxCore d hb kept prod redo unc lp) :
    TxCore { d with pid := decide (d.fsm = .waitData) } false kept prod (redo || unc) false lp := by
  unfold TxCore at h ⊢
  have hrb : ({ d with pid := decide (d.fsm = .waitData) } : InEp).rbuf = d.rbuf := by simp [InEp.rbuf]
  have hwb : ({ d with pid := decide (d.fsm = .waitData) } : InEp).wbuf = d.wbuf := by simp [InEp.wbuf]
  rw [hrb, hwb]
  by_cases hf : d.fsm = .waitData
  · rw [hf] at h ⊢
    obtain ⟨c1, _, c3, c4, c5⟩ := h
    simp only [TxCoreV, decide_true, Bool.not_true, c4, c5, Bool.or_self]
    exact ⟨c1, by trivial, c3, by trivial, by trivial⟩
  · rw [txcV_busy hf]
    simp only [hf, decide_false]
    rcases (txcV_busy hf).1 h with ⟨_, c2, c3, c4⟩ | ⟨_, c2, c3, c4, c5⟩ | ⟨_, c2, c3, c4, c5⟩
    · exact Or.inl ⟨by trivial, by simp [c2, c3], by trivial, c4⟩
    · exact Or.inr (Or.inr ⟨by trivial, by simp [c2, c3], by trivial, c4, c5⟩)
    · exact Or.inr (Or.inr ⟨by trivial, by simp [c2, c3], by trivial, c4, c5⟩)

theorem epStep_tx_ack (s : DevState) (d : InEp) :
    (epStep ep4i (.sIn d) (ctxOf s (.handshake PID_ACK)) (.handshake PID_ACK)).1 =
      .sIn (inAck 64 d (s.tokPid == PID_IN && s.tokEp == 4) (haltFor (ctxOf s (.handshake PID_ACK)) true 4)) := rfl

theorem tx_handshake (c : FullConfig) (s : FullState) (d : InEp) (g : Ghost) (got : Bool) (pid : Nat)
    (hi : TxG s.ctl d g) (hok : ackOk s g ⟨.handshake pid, got⟩ = true) :
    ∃ d', (epStep ep4i (.sIn d) (ctxOf s.ctl (.handshake pid)) (.handshake pid)).1 = .sIn d' ∧
      TxG (Full.step c s (.handshake pid)).1.ctl d'
        (ghostStep s g ⟨.handshake pid, got⟩ (Full.step c s (.handshake pid)).2) := by
  have hctl := (onHandshake_tok s.ctl pid).2
  by_cases hp : pid = PID_ACK
  · subst hp
    cases hr : haltFor (ctxOf s.ctl (.handshake PID_ACK)) true 4
    · by_cases hm : s.ctl.tokPid = PID_IN ∧ s.ctl.tokEp = 4
      · -- the handshake belongs to the IN token of endpoint 4: the host has the packet
        refine ⟨inAck 64 d true false, by rw [epStep_tx_ack, hr, hm.1, hm.2]; rfl, ?_⟩
        have hlg : g.lastGot = true := by
          simp only [ackOk, hm.1, hm.2, beq_self_eq_true, Bool.and_self, Bool.not_true, Bool.false_or] at hok
          exact hok
        obtain ⟨h1, _, h3, h4, h5⟩ := hi
        obtain ⟨hfsm, hhb⟩ := h3 hlg
        refine txg_congr (ghost_hs_ack s g got PID_ACK (Full.step c s (.handshake PID_ACK)).2 hr ⟨rfl, hm.1, hm.2, hlg⟩)
          ⟨txc_ack 64 h1 hfsm hhb, fun hw => ?_, fun h => Bool.noConfusion h, h4, h5⟩
        rcases inAck_cases 64 d hfsm with ⟨a1, _⟩ | ⟨a1, _⟩ | ⟨a1, _⟩ <;> rw [a1] at hw <;> cases hw
      · -- not for this endpoint
        have hm' : (s.ctl.tokPid == PID_IN && s.ctl.tokEp == 4) = false := by simpa using hm
        exact tx_inert c s d g got _ (by rw [epStep_tx_ack, hr, hm', inAck_idle])
          (ghost_hs_plain s g got PID_ACK _ hr (fun h => hm ⟨h.2.1, h.2.2.1⟩)) hctl hi
    · -- CLEAR_FEATURE(ENDPOINT_HALT) for IN 4
      obtain ⟨_, t0, tp⟩ := haltFor_ack s.ctl PID_ACK true 4 hr
      obtain ⟨h1, h2, _, h4, h5⟩ := hi
      -- WAIT_FOR_ACK keeps the detector on endpoint 4 (`TxG`); the halt-clear needs it on endpoint 0
      have hna : d.fsm ≠ .waitAck := by
        intro h; have := h2 h; rw [t0] at this; exact absurd this (by decide)
      refine ⟨{ d with pid := decide (d.fsm = .waitData) },
        by rw [epStep_tx_ack, hr, tp, t0]; exact congrArg _ (inAck_clear 64 d hna), ?_⟩
      refine txg_congr (ghost_hs_clear s g got PID_ACK (Full.step c s (.handshake PID_ACK)).2 hr)
        ⟨txc_clear h1, fun h => absurd h hna, fun h => Bool.noConfusion h, h4, ?_⟩
      dsimp only
      cases hrd : g.redo <;> cases g.unconfirmed <;> simp [hrd] at h5 ⊢ <;> omega
  · -- not an ACK
    have hr : haltFor (ctxOf s.ctl (.handshake pid)) true 4 = false := by
      cases h : haltFor (ctxOf s.ctl (.handshake pid)) true 4
      · rfl
      · exact absurd (haltFor_ack s.ctl pid true 4 h).1 hp
    exact tx_inert c s d g got _ (by simp [epStep, hp]) (ghost_hs_plain s g got pid _ hr (fun h => hp h.1)) hctl hi

theorem tx_produce (c : FullConfig) (hc : IsSerial c) (s : FullState) (a : InEp) (b : OutEp) (d : InEp)
    (hs : Shape s a b d) (g : Ghost) (got : Bool) (ep : Nat) (bytes : List Nat) (last : Bool) (hi : TxG s.ctl d g) :
    ∃ d', (epStep ep4i (.sIn d) (ctxOf s.ctl (.produce ep bytes last)) (.produce ep bytes last)).1 = .sIn d' ∧
      TxG (Full.step c s (.produce ep bytes last)).1.ctl d'
        (ghostStep s g ⟨.produce ep bytes last, got⟩ (Full.step c s (.produce ep bytes last)).2) := by
  have e4 : ep4i.num = 4 := rfl
  by_cases he : ep = 4
  · subst he
    refine ⟨(inProduce 64 d bytes last).1, rfl, ?_⟩
    obtain ⟨h1, h2, _, h4, h5⟩ := hi
    simp only [ghostStep, delivery_produce c hc s a b d hs, if_true]
    exact ⟨txc_produce 64 bytes last d _ _ _ _ _ _ h1, fun h => h2 (inProduce_waitAck 64 bytes last d h),
      fun h => (by cases h), h4, h5⟩
  · refine tx_inert c s d g got _ (by simp [epStep, e4, he]) ?_ rfl hi
    simp only [ghostStep, if_neg he]
    exact sameTx_clear g

theorem tx_data (c : FullConfig) (s : FullState) (d : InEp) (g : Ghost) (got : Bool) (pid : Nat) (p : List Nat)
    (ok : Bool) (hi : TxG s.ctl d g) :
    ∃ d', (epStep ep4i (.sIn d) (ctxOf s.ctl (.data pid p ok)) (.data pid p ok)).1 = .sIn d' ∧
      TxG (Full.step c s (.data pid p ok)).1.ctl d'
        (ghostStep s g ⟨.data pid p ok, got⟩ (Full.step c s (.data pid p ok)).2) := by
  refine tx_inert c s d g got _ rfl ?_ (onData_tok c.dev s.ctl p ok).2 hi
  simp only [ghostStep]
  split <;> exact sameTx_clear g

theorem tx_step (c : FullConfig) (hc : IsSerial c) (s : FullState) (a : InEp) (b : OutEp) (d : InEp)
    (hs : Shape s a b d) (g : Ghost) (ae : AEvent) (hi : TxG s.ctl d g) (hok : ackOk s g ae = true) :
    ∃ d', (epStep ep4i (.sIn d) (ctxOf s.ctl ae.ev) ae.ev).1 = .sIn d' ∧
      TxG (Full.step c s ae.ev).1.ctl d' (ghostStep s g ae (Full.step c s ae.ev).2) := by
  obtain ⟨ev, got⟩ := ae
  cases ev with
  | token pid addr ep => exact tx_token c hc s a b d hs g got pid addr ep hi
  | data pid p ok => exact tx_data c s d g got pid p ok hi
  | handshake pid => exact tx_handshake c s d g got pid hi hok
  | produce ep bytes last => exact tx_produce c hc s a b d hs g got ep bytes last hi
  | consume ep n =>
    refine tx_inert c s d g got _ rfl ?_ rfl hi
    simp only [ghostStep]
    split <;> rfl
  | _ => exact tx_inert c s d g got _ rfl (sameTx_clear g) rfl hi

end LunaVerif.C57
