import LunaVerif.Lemmas.C24Coh
import LunaVerif.Lemmas.C24RankDefs
/-!
# C24 — one cycle lowers the rank (liveness step lemmas)

For every state satisfying `Coh` and `Live K` and every cycle satisfying the bounded-fairness
hypotheses `liveCycle K T`: the monitor facts `Live K` are preserved (`live_step`, which needs no
coherence) and — once the start-up timer has expired — the rank behaves as `RankStep` says (a DIR-low
cycle lowers it, a DIR-high cycle raises it by at most `2K+4`, 0 is absorbing), where the rank is
taken with respect to the control inputs of that very cycle.  One lemma per case of
`coh_step` in `Lemmas/C24Coh.lean` (window busy, `done`, accepting, bus the transmitter's); each reads the successor off the component equations and leaves the
arithmetic to `omega`.
-/
namespace LunaVerif.Ulpi

theorem live_step (cfg : Config) (K T : Nat) (x : World) (i : UtmiIn) (hl : Live K x)
    (hs : liveCycle K T x.p.bus x.e i (x.u.step cfg i).2 = true) : Live K (x.step cfg i) := by
  obtain ⟨-, -, l4⟩ := hl
  simp only [liveCycle, Bool.and_eq_true, Bool.or_eq_true, Bool.not_eq_true', decide_eq_true_eq] at hs
  obtain ⟨⟨⟨-, hk⟩, -⟩, hv⟩ := hs
  refine ⟨?_, ?_, ?_⟩
  · simp only [step_e, Env.step]
    split
    · rename_i hp; rcases hk with g | g
      · rw [g] at hp; exact absurd hp (by decide)
      · omega
    · exact Nat.zero_le _
  · intro hd
    replace hd : i.phy.dir = true := hd
    simp [step_e, Env.step, presented, hd]
  · intro h
    rw [step_tx] at h
    obtain ⟨hr, hq⟩ := Tx.step_into_claimed h
    have hv' : i.txValid = true := by
      rcases hq with g | g
      · exact g
      · rcases hv with g' | g'
        · rw [l4 g] at g'; exact absurd g' (by decide)
        · exact g'
    simp [step_e, Env.step, step_txReady, hr, hv']

variable (cfg : Config) (K T v4 vA : Nat) {x : World} (i : UtmiIn)

theorem pendAfter_step_busy (hw : x.u.win.st ≠ .idle) (hc : BusyCommon x) :
    pendAfter K v4 vA (x.step cfg i).u = pendAfter K v4 vA x.u := by
  obtain ⟨ec, -⟩ := step_busy cfg i hw hc
  obtain ⟨e1, e2⟩ := latch_stable x.u.win (x.u.winIn i) hw
  simp only [pendAfter, step_win, ec, e1, e2]

theorem pendNow_step (hd : x.u.win.done = false) : pendNow K v4 vA (x.step cfg i).u = pendNow K v4 vA x.u := by
  simp [pendNow, step_ctl, hd]

theorem waited_wait (hs : liveCycle K T x.p.bus x.e i (x.u.step cfg i).2 = true)
    (hp : presented x.p.bus x.e.prevDir i.phy.dir (x.u.step cfg i).2.dataO = true) (hn : i.phy.nxt = false) :
    (x.step cfg i).e.waited = x.e.waited + 1 ∧ x.e.waited < K := by
  simp only [liveCycle, hp, hn, Bool.not_false, Bool.and_true, Bool.not_true, Bool.false_or, Bool.and_eq_true,
    decide_eq_true_eq] at hs
  exact ⟨by rw [step_waited, hp, hn]; rfl, hs.1.1.2⟩

/-- While the register window is busy `pendAfter` stands still and the rank follows the window: a
DIR-low cycle moves it on, or is one more of at most `K` wait cycles with a byte on the bus. -/
theorem rank_step_busy (h : Coh x) (hl : Live K x) (hw : x.u.win.st ≠ .idle)
    (hs : liveCycle K T x.p.bus x.e i (x.u.step cfg i).2 = true) :
    RankStep K i.phy.dir (rank K T v4 vA x) (rank K T v4 vA (x.step cfg i)) := by
  have ew := step_win cfg x i
  have l2 := hl.1
  cases hst : x.u.win.st <;> simp only [Coh, hst, and_false] at h
  case idle => exact absurd hst hw
  all_goals
    obtain ⟨-, -, hc, hpb, -, hrest⟩ := h
    have hP := pendAfter_step_busy cfg K v4 vA i hw hc
  case startWrite =>
    rw [Window.step_startWrite _ hst] at ew
    cases hdir : i.phy.dir <;> simp [RankStep, rank, hst, ew, hP, Utmi.winIn, hdir] <;> omega
  case stopping =>
    rw [Window.step_stopping _ hst] at ew
    cases hdir : i.phy.dir <;> simp [RankStep, rank, hst, ew, hP, Utmi.winIn, hdir] <;> omega
  case sendWriteAddress =>
    rw [Window.step_sendWriteAddress _ hst] at ew
    obtain ⟨-, eo, -, -⟩ := step_tx_blocked cfg i hc.2.1 (.inl hc.1)
    obtain ⟨hdiv, -⟩ := regWrite_cmd hc.2.2.1.addr
    cases hdir : i.phy.dir <;> cases hnxt : i.phy.nxt
    · -- the command stays on the bus
      obtain ⟨ewt, hlt⟩ := waited_wait cfg K T i hs (by simp [presented, eo, hpb, hrest, hdiv, hdir]) hnxt
      simp [RankStep, rank, hst, ew, hP, ewt, Utmi.winIn, hdir, hnxt]
      omega
    all_goals
      simp [RankStep, rank, hst, ew, hP, step_waited, Utmi.winIn, hdir, hnxt]
      omega
  case holdWrite =>
    rw [Window.step_holdWrite _ hst] at ew
    cases hdir : i.phy.dir <;> cases hnxt : i.phy.nxt
    · -- the data byte stays on the bus
      obtain ⟨ewt, hlt⟩ := waited_wait cfg K T i hs (by simp [presented, hpb, hrest, hdir]) hnxt
      simp [RankStep, rank, hst, ew, hP, ewt, Utmi.winIn, hdir, hnxt]
      omega
    all_goals
      simp [RankStep, rank, hst, ew, hP, Utmi.winIn, hdir, hnxt]
      omega

theorem wcost_self (K a : Nat) : wcost K a a = 0 := if_pos rfl

theorem wcost_ne (K : Nat) {a b : Nat} (h : a ≠ b) : wcost K a b = 2 * K + 6 := if_neg h

/-- The `done` cycle credits the latched pair: what was pending after the write is pending now. -/
theorem rank_step_idle_done (h : Coh x) (hw : x.u.win.st = .idle) (hdn : x.u.win.done = true) :
    RankStep K i.phy.dir (rank K T v4 vA x) (rank K T v4 vA (x.step cfg i)) := by
  simp only [Coh, hw, hdn, true_and, Bool.true_eq_false, false_and, or_false, if_true] at h
  obtain ⟨-, -, -, -, hb, ht, -⟩ := h
  obtain ⟨et, -⟩ := step_tx_blocked cfg i ht (.inl hb)
  have hq := done_no_request i.ctrl hdn
  have ew := step_win cfg x i
  rw [Window.step_idle _ hw rfl] at ew
  have hN : pendNow K v4 vA (x.step cfg i).u = pendAfter K v4 vA x.u := by
    simp [pendNow, pendAfter, step_ctl, hdn, ADDR_FUNCTION_CONTROL, ADDR_OTG_CONTROL, apply_ite (wcost K · v4),
      apply_ite (wcost K · vA)]
  simp [RankStep, rank, hw, hdn, ew, hq, hN, txRank, et, Utmi.winIn]
  cases i.phy.dir <;> simp <;> split <;> omega

/-- Acceptance: the write just latched is no longer counted as pending once it is done. -/
theorem rank_step_accept (hw : x.u.win.st = .idle) (hdn : x.u.win.done = false)
    (hq : (x.u.ctlOut i.ctrl).writeReq = true) :
    RankStep K i.phy.dir (rank K T (functionControl i.ctrl) (otgControl i.ctrl) x)
      (rank K T (functionControl i.ctrl) (otgControl i.ctrl) (x.step cfg i)) := by
  obtain ⟨hst, hoq, -⟩ := writeReq_free hq
  have ew := step_win cfg x i
  rw [Window.step_idle _ hw rfl] at ew
  have hp := request_pair _ _ _ _ _ hq
  simp [RankStep, rank, hw, hdn, ew, hq, txRank, hst, hoq, pendAfter, pendNow, step_ctl, Utmi.winIn]
  rcases hp with ⟨ea, ev, hne⟩ | ⟨ea, ev, hne, heq⟩
  · simp [Utmi.ctlOut, ea, ev, wcost_self, wcost_ne K hne, ADDR_FUNCTION_CONTROL]
    cases i.phy.dir <;> simp <;> omega
  · simp [Utmi.ctlOut, ea, ev, heq, wcost_self, wcost_ne K hne, ADDR_OTG_CONTROL]
    cases i.phy.dir <;> simp <;> omega

/-- The bus is the transmitter's: the shadow registers stand still, and with a change pending the
transmitter's own rank falls — the command is answered within `K` waits, the packet ends within `T`. -/
theorem rank_step_tx (h : Coh x) (hl : Live K x) (hw : x.u.win.st = .idle) (hdn : x.u.win.done = false)
    (hq : (x.u.ctlOut i.ctrl).writeReq = false) (hr : x.u.phyReady = true)
    (hs : liveCycle K T x.p.bus x.e i (x.u.step cfg i).2 = true) :
    RankStep K i.phy.dir (rank K T (functionControl i.ctrl) (otgControl i.ctrl) x)
      (rank K T (functionControl i.ctrl) (otgControl i.ctrl) (x.step cfg i)) := by
  simp only [Coh, hw, hdn, true_and, Bool.false_eq_true, false_and, false_or, if_false, Nat.add_zero] at h
  obtain ⟨-, -, -, -, hb, -, -, h4⟩ := h
  obtain ⟨l2, l3, l4⟩ := hl
  have ew := step_win cfg x i
  rw [Window.step_idle _ hw rfl] at ew
  have hbi : (x.u.txIn i).busIdle = !i.phy.dir := by
    simp [Utmi.txIn, Utmi.txBusIdle, hb, hq, hr]
  simp [RankStep, rank, hw, hdn, ew, hq, pendNow_step cfg K _ _ i hdn, Utmi.winIn]
  by_cases hz : pendNow K (functionControl i.ctrl) (otgControl i.ctrl) x.u = 0
  · simp [hz]
  simp [hz]
  rcases h4 with ⟨ht, hpb⟩ | ⟨ht, hpb⟩ | ⟨ht, hpb⟩
  all_goals
    have hst := congrArg Tx.st ht
    have hoq := congrArg Tx.outReq ht
    dsimp only at hst hoq
  · -- bus free and nothing requested: nothing is pending
    exfalso
    simp only [Utmi.ctlOut, request_iff_mismatch, hdn, Utmi.ctlBusIdle, Tx.busy, hst, hoq, hr, Bool.not_false,
      Bool.and_true, bne_self_eq_false, Bool.or_eq_false_iff, bne_eq_false_iff_eq] at hq
    exact hz (by simp only [pendNow, hq.1, hq.2, wcost_self])
  · have hv : i.txValid = true := by
      simp only [liveCycle, l4 ht, Bool.not_true, Bool.false_or, Bool.and_eq_true] at hs
      exact hs.2
    have e0 : txRank K T x = (if x.e.prevDir then 1 else 0) + (K - x.e.waited) + 1 + T := by
      simp only [txRank, hst, hoq]
    cases hdir : i.phy.dir
    · have hc : ((x.u.txIn i).txValid && (x.u.txIn i).busIdle) = true := by
        rw [hbi, hdir, Utmi.txIn_txValid, hv]; rfl
      obtain ⟨e1, e2, -⟩ := Tx.step_claim hst hc
      rw [← step_tx cfg x i, Utmi.txIn_nxt] at e1
      have e2' : (x.u.step cfg i).2.dataO / 64 = 1 := by rw [step_dataO, hoq, if_pos rfl, e2]
      cases hnxt : i.phy.nxt
      · -- the command waits on the bus
        have e3 : txRank K T (x.step cfg i) = (K - (x.step cfg i).e.waited) + 1 + T := by
          simp [txRank, e1, hnxt, step_prevDir, hdir]
        cases hpd : x.e.prevDir
        · obtain ⟨ewt, hlt⟩ := waited_wait cfg K T i hs (by simp [presented, e2', hpb, hpd, hdir]) hnxt
          simp [e0, e3, ewt, hpd]
          omega
        · have := l3 hpd
          simp [e0, e3, hpd]
          omega
      · have e3 : txRank K T (x.step cfg i) = T - (x.step cfg i).e.tlen := by
          simp [txRank, e1, hnxt]
        simp [e0, e3]
        omega
    · have hc : ((x.u.txIn i).txValid && (x.u.txIn i).busIdle) = false := by
        rw [hbi, hdir]; exact Bool.and_false _
      have e1 : (x.step cfg i).u.tx = ⟨.idle, true⟩ := by rw [step_tx, Tx.step_blocked hst hc, ht]
      have e3 : txRank K T (x.step cfg i) = 1 + (K - (x.step cfg i).e.waited) + 1 + T := by
        simp [txRank, e1, step_prevDir, hdir]
      simp [e0, e3]
      omega
  · -- transmitting: E2 keeps DIR low, and the PHY has been occupied for fewer than `T` cycles
    simp only [liveCycle, safeCycle, hpb, PhyBus.isTx, Bool.true_and, Bool.not_true, Bool.false_or, Bool.and_eq_true,
      Bool.not_eq_true', decide_eq_true_eq] at hs
    obtain ⟨⟨⟨⟨⟨-, hdir⟩, -⟩, -⟩, hT⟩, -⟩ := hs
    have e0 : txRank K T x = T - x.e.tlen := by simp only [txRank, hst]
    have e3 : txRank K T (x.step cfg i) ≤ T - (x.e.tlen + 1) := by
      simp [txRank, step_tx, Tx.step_transmit _ hst, step_tlen, hpb, PhyBus.isTx]
      cases (x.u.txIn i).txValid <;> simp [hst] <;>
        omega
    simp [e0, hdir]
    omega

theorem rank_step (cfg : Config) (K T : Nat) (x : World) (i : UtmiIn) (h : Coh x) (hl : Live K x)
    (hr : x.u.phyReady = true) (hs : liveCycle K T x.p.bus x.e i (x.u.step cfg i).2 = true) :
    RankStep K i.phy.dir (rank K T (functionControl i.ctrl) (otgControl i.ctrl) x)
      (rank K T (functionControl i.ctrl) (otgControl i.ctrl) (x.step cfg i)) := by
  by_cases hw : x.u.win.st = .idle
  · cases hdn : x.u.win.done
    · cases hq : (x.u.ctlOut i.ctrl).writeReq
      · exact rank_step_tx cfg K T i h hl hw hdn hq hr hs
      · exact rank_step_accept cfg K T i hw hdn hq
    · exact rank_step_idle_done cfg K T _ _ i h hw hdn
  · exact rank_step_busy cfg K T _ _ i h hl hw hs

end LunaVerif.Ulpi
