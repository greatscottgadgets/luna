import LunaVerif.Props.C09Spec
/-!
Helper definitions and lemmas for C09 without a gateware model, the one file the block, the distributed and the ROM
proofs all import: first `lt_two_pow_bitsFor`, the one fact about the models' `bitsFor` that all three use; the
arithmetic of the chunk a request asks for, which both handler models share; then the abstract transmitter's
traces: the shape of `respTrace`, when a response is over within a window of cycles (`Complete`) and what the trace
looks like one cycle later; the outputs and last state of a step function over an input history (`IsRun`,
instantiated by the three handler models); and the sequencing argument for such a machine (if it answers every
request from an idle state and is idle again when the response is over, it answers every *sequence* of requests).
-/
namespace LunaVerif.Desc

theorem lt_two_pow_bitsFor (n : Nat) : n < 2 ^ bitsFor n := by
  unfold bitsFor
  split
  · omega
  · exact Nat.lt_log2_self

/-- both handlers' 16-bit `length - start_position`, clamped to the packet size, for an in-order request. -/
theorem length_inorder (mps l p : Nat) (hp : p ≤ l) (hl : l < 65536) (hm : mps < 65536) :
    (if l ≤ p + mps then (l + 65536 - p) % 65536 else mps % 65536) = min (l - p) mps := by
  split <;> omega

theorem chunk_length (d : List Nat) (l mps p : Nat) :
    (((d.take l).drop p).take mps).length = min (min (l - p) mps) (d.length - p) := by
  rw [List.length_take, List.length_drop, List.length_take, ← Nat.sub_min_sub_right, ← Nat.min_assoc,
    Nat.min_comm mps]

theorem chunk_getD (d : List Nat) (l mps p j : Nat) (hj : j < (((d.take l).drop p).take mps).length) :
    (((d.take l).drop p).take mps).getD j 0 = d.getD (p + j) 0 := by
  have := chunk_length d l mps p
  simp only [List.getD_eq_getElem?_getD, List.getElem?_take, List.getElem?_drop]
  have h1 : j < mps := by omega
  have h2 : p + j < l := by omega
  simp [h1, h2]

theorem idleTrace_cons (r : Bool) (rs : List Bool) : idleTrace (r :: rs) = Beat.quiet :: idleTrace rs := rfl

theorem sendTrace_done (c : List Nat) (k : Nat) (h : c.length ≤ k) (rs : List Bool) :
    sendTrace c k rs = idleTrace rs := by
  induction rs with
  | nil => rfl
  | cons r rs ih => simp only [sendTrace, Nat.not_lt.mpr h, if_false, idleTrace_cons, ih]

theorem respTrace_length (lat : Nat) (r : Response) (rs : List Bool) : (respTrace lat r rs).length = rs.length := by
  unfold respTrace
  induction lat generalizing rs with
  | zero =>
    simp only [delayed]
    cases r with
    | data c =>
      simp only [bodyTrace]
      generalize 0 = k
      induction rs generalizing k with
      | nil => rfl
      | cons r rs ih => simp only [sendTrace]; split <;> simp [ih]
    | zlp => cases rs <;> simp [bodyTrace, pulseTrace, idleTrace]
    | stall => cases rs <;> simp [bodyTrace, pulseTrace, idleTrace]
    | silent => simp [bodyTrace, idleTrace]
  | succ n ih =>
    cases rs with
    | nil => rfl
    | cons r rs => simp [delayed, ih]

/-- a beat of a handler that answers with data / a ZLP / nothing: never `stall`, payload 0 unless valid. -/
def Honest (b : Beat) : Prop := b.stall = false ∧ (b.valid = false → b.payload = 0)
/-- a beat of a handler that refuses: at most `stall`. -/
def Mute (b : Beat) : Prop := b.valid = false ∧ b.first = false ∧ b.last = false ∧ b.payload = 0

theorem honest_quiet : Honest Beat.quiet := ⟨rfl, fun _ => rfl⟩
theorem mute_quiet : Mute Beat.quiet := ⟨rfl, rfl, rfl, rfl⟩

theorem idleTrace_all (P : Beat → Prop) (h : P Beat.quiet) (rs : List Bool) : ∀ b ∈ idleTrace rs, P b := by
  intro b hb
  unfold idleTrace at hb
  obtain ⟨_, _, rfl⟩ := List.mem_map.mp hb
  exact h

theorem delayed_all (P : Beat → Prop) (h : P Beat.quiet) (f : List Bool → List Beat)
    (hf : ∀ rs, ∀ b ∈ f rs, P b) : ∀ (n : Nat) (rs : List Bool), ∀ b ∈ delayed n f rs, P b := by
  intro n
  induction n with
  | zero => intro rs; exact hf rs
  | succ n ih =>
    intro rs b hb
    cases rs with
    | nil => simp [delayed] at hb
    | cons r rs =>
      simp only [delayed, List.mem_cons] at hb
      rcases hb with rfl | hb
      · exact h
      · exact ih rs b hb

theorem sendTrace_honest (c : List Nat) (rs : List Bool) : ∀ k, ∀ b ∈ sendTrace c k rs, Honest b := by
  induction rs with
  | nil => intro k b hb; simp [sendTrace] at hb
  | cons r rs ih =>
    intro k b hb
    simp only [sendTrace] at hb
    split at hb
    · rcases List.mem_cons.mp hb with rfl | hb
      · exact ⟨rfl, fun h => by simp at h⟩
      · exact ih _ b hb
    · rcases List.mem_cons.mp hb with rfl | hb
      · exact honest_quiet
      · exact ih _ b hb

theorem pulseTrace_all (P : Beat → Prop) (h : P Beat.quiet) (p : Beat) (hp : P p) (rs : List Bool) :
    ∀ b ∈ pulseTrace p rs, P b := by
  intro b hb
  cases rs with
  | nil => simp [pulseTrace] at hb
  | cons r rs =>
    simp only [pulseTrace, List.mem_cons] at hb
    rcases hb with rfl | hb
    · exact hp
    · exact idleTrace_all P h rs b hb

theorem respTrace_honest (lat : Nat) (r : Response) (hr : r ≠ .stall) (rs : List Bool) :
    ∀ b ∈ respTrace lat r rs, Honest b := by
  unfold respTrace
  apply delayed_all Honest honest_quiet
  intro rs
  cases r with
  | data c => exact sendTrace_honest c rs 0
  | zlp => exact pulseTrace_all Honest honest_quiet zlpBeat ⟨rfl, fun h => by simp [zlpBeat] at h⟩ rs
  | stall => exact absurd rfl hr
  | silent => exact idleTrace_all Honest honest_quiet rs

theorem respTrace_mute (lat : Nat) (rs : List Bool) : ∀ b ∈ respTrace lat .stall rs, Mute b :=
  delayed_all Mute mute_quiet _ (pulseTrace_all Mute mute_quiet stallBeat ⟨rfl, rfl, rfl, rfl⟩) lat rs

theorem respTrace_stall_no_valid (lat : Nat) (rs : List Bool) :
    ∀ b ∈ respTrace lat .stall rs, b.valid = false := fun b hb => (respTrace_mute lat rs b hb).1

/-- the response `r`, started at most `L` cycles into the window `rs` of `tx.ready` values, is over by
the end of the window: the pulse has been given / every byte of the packet has been accepted. -/
def Complete (L : Nat) (r : Response) (rs : List Bool) : Prop :=
  L < rs.length ∧ ∀ c, r = .data c → c.length ≤ (rs.drop L).count true

instance (L : Nat) (r : Response) (rs : List Bool) : Decidable (Complete L r rs) := by
  unfold Complete
  cases r with
  | data c =>
    exact decidable_of_iff (L < rs.length ∧ c.length ≤ (rs.drop L).count true)
      ⟨fun h => ⟨h.1, fun c' hc => by injection hc with hc; subst hc; exact h.2⟩, fun h => ⟨h.1, h.2 c rfl⟩⟩
  | _ => exact decidable_of_iff (L < rs.length) ⟨fun h => ⟨h, fun _ hc => by cases hc⟩, fun h => h.1⟩

theorem count_drop_le (rs : List Bool) (a b : Nat) (h : a ≤ b) : (rs.drop b).count true ≤ (rs.drop a).count true := by
  obtain ⟨k, rfl⟩ : ∃ k, b = a + k := ⟨b - a, by omega⟩
  rw [← List.drop_drop]
  exact (List.drop_sublist k _).count_le true

theorem Complete.mono (L L' : Nat) (r : Response) (rs : List Bool) (h : Complete L r rs) (hl : L' ≤ L) :
    Complete L' r rs :=
  ⟨by have := h.1; omega, fun c hc => Nat.le_trans (h.2 c hc) (count_drop_le rs L' L hl)⟩

theorem Complete.stall (L : Nat) (r : Response) (rs : List Bool) (h : Complete L r rs) : Complete L .stall rs :=
  ⟨h.1, fun _ hc => by cases hc⟩

theorem Complete.of_dropLast (L : Nat) (r : Response) (rs : List Bool) (h : Complete L r rs.dropLast) :
    Complete L r rs := by
  rcases List.eq_nil_or_concat rs with rfl | ⟨dl, x, rfl⟩
  · exact h
  · rw [List.concat_eq_append, List.dropLast_concat] at h
    refine ⟨by have := h.1; simp; omega, fun c hc => ?_⟩
    rw [List.concat_eq_append, List.drop_append_of_le_length (by have := h.1; omega), List.count_append]
    exact Nat.le_trans (h.2 c hc) (Nat.le_add_right _ _)

theorem idleTrace_snoc (rs : List Bool) (x : Bool) : idleTrace (rs ++ [x]) = idleTrace rs ++ [Beat.quiet] := by
  simp [idleTrace]

theorem sendTrace_snoc (c : List Nat) (x : Bool) (rs : List Bool) : ∀ k, c.length - k ≤ rs.count true →
    sendTrace c k (rs ++ [x]) = sendTrace c k rs ++ [Beat.quiet] := by
  induction rs with
  | nil =>
    intro k h
    have : ¬ k < c.length := by simp at h; omega
    simp [sendTrace, this]
  | cons r rs ih =>
    intro k h
    simp only [List.cons_append, sendTrace]
    split
    · rw [ih]
      · rfl
      · cases r <;> simp at h ⊢ <;> omega
    · rw [ih k (by omega)]
      rfl

theorem respTrace_snoc (r : Response) (x : Bool) : ∀ (lat : Nat) (rs : List Bool), Complete lat r rs →
    respTrace lat r (rs ++ [x]) = respTrace lat r rs ++ [Beat.quiet] := by
  intro lat
  induction lat with
  | zero =>
    intro rs h
    unfold respTrace
    simp only [delayed]
    cases r with
    | data c => exact sendTrace_snoc c x rs 0 (by have := h.2 c rfl; simpa using this)
    | zlp =>
      cases rs with
      | nil => have := h.1; simp at this
      | cons r rs => simp only [List.cons_append, bodyTrace, pulseTrace, idleTrace_snoc]
    | stall =>
      cases rs with
      | nil => have := h.1; simp at this
      | cons r rs => simp only [List.cons_append, bodyTrace, pulseTrace, idleTrace_snoc]
    | silent => exact idleTrace_snoc rs x
  | succ n ih =>
    intro rs h
    cases rs with
    | nil => have := h.1; simp at this
    | cons r0 rs =>
      have h' : Complete n r rs := ⟨by have := h.1; simp at this; omega, fun c hc => by simpa using h.2 c hc⟩
      have := ih rs h'
      unfold respTrace at this ⊢
      simp only [List.cons_append, delayed, this]

structure IsRun {σ ι : Type} (step : σ → ι → σ × Beat) (run : σ → List ι → List Beat) (final : σ → List ι → σ) :
    Prop where
  run_nil : ∀ s, run s [] = []
  run_cons : ∀ s i is, run s (i :: is) = (step s i).2 :: run (step s i).1 is
  final_nil : ∀ s, final s [] = s
  final_cons : ∀ s i is, final s (i :: is) = final (step s i).1 is

section
variable {σ ι : Type} {step : σ → ι → σ × Beat} {run : σ → List ι → List Beat} {final : σ → List ι → σ}
  (h : IsRun step run final)
include h

theorem IsRun.run_append (a b : List ι) : ∀ s, run s (a ++ b) = run s a ++ run (final s a) b := by
  induction a with
  | nil => intro s; rw [h.run_nil, h.final_nil]; rfl
  | cons i is ih => intro s; rw [List.cons_append, h.run_cons, h.run_cons, h.final_cons, ih, List.cons_append]

theorem IsRun.final_append (a b : List ι) : ∀ s, final s (a ++ b) = final (final s a) b := by
  induction a with
  | nil => intro s; rw [h.final_nil]; rfl
  | cons i is ih => intro s; rw [List.cons_append, h.final_cons, h.final_cons, ih]

theorem IsRun.run_snoc_last (s : σ) (is : List ι) (i : ι) (t : List Beat) (b : Beat)
    (e : run s (is ++ [i]) = t ++ [b]) : (step (final s is) i).2 = b := by
  rw [h.run_append, h.run_cons, h.run_nil] at e
  exact (List.cons.inj (List.append_inj_right' e rfl)).1

end

/-- one GET_DESCRIPTOR data-stage IN as the handler sees it: wValue = type/index, wLength,
start position, and the `tx.ready` pattern of the cycles until the next request. -/
structure Req where
  ty  : Nat
  idx : Nat
  l   : Nat
  p   : Nat
  rs  : List Bool

/-- the output trace answers the requests one after the other, each with the abstract transmitter's
trace of its specified response after a latency of at most `L` quiet cycles. -/
def AnswersAll (spec : Req → Response) (L : Nat) : List Req → List Beat → Prop
  | [], out => out = []
  | q :: qs, out => ∃ lat, lat ≤ L ∧ ∃ rest, out = respTrace lat (spec q) q.rs ++ rest ∧ AnswersAll spec L qs rest

theorem answersAll_of {σ ι : Type} {step : σ → ι → σ × Beat} {run : σ → List ι → List Beat}
    {final : σ → List ι → σ} (hM : IsRun step run final)
    (Idle : σ → Prop) (inp : Req → List ι) (spec : Req → Response) (L : Nat) (Ok : Req → Prop)
    (h1 : ∀ s q, Idle s → Ok q → ∃ lat, lat ≤ L ∧ run s (inp q) = respTrace lat (spec q) q.rs)
    (h2 : ∀ s q, Idle s → Ok q → Idle (final s (inp q))) :
    ∀ (qs : List Req) (s : σ), Idle s → (∀ q ∈ qs, Ok q) →
      AnswersAll spec L qs (run s (qs.flatMap inp)) ∧ Idle (final s (qs.flatMap inp)) := by
  intro qs
  induction qs with
  | nil => intro s hs _; simp [AnswersAll, hM.run_nil, hM.final_nil, hs]
  | cons q qs ih =>
    intro s hs hq
    have hq0 := hq q (List.mem_cons_self ..)
    obtain ⟨lat, hlat, hr⟩ := h1 s q hs hq0
    have hi := h2 s q hs hq0
    obtain ⟨ha, hf⟩ := ih (final s (inp q)) hi (fun q' hq' => hq q' (List.mem_cons_of_mem _ hq'))
    rw [List.flatMap_cons, hM.run_append, hM.final_append, hr]
    exact ⟨⟨lat, hlat, _, rfl, ha⟩, hf⟩

end LunaVerif.Desc
