import LunaVerif.Model.Ulpi.Spec
/-!
# C24 — the closed system "UTMITranslator + PHY-side observer + environment monitor"

`World` puts together the translator model (`Utmi`), the passive PHY-side observer on the
translator's pins (`PhyRegs`, exactly as the co-simulation driver attaches it: it sees `dir`, `nxt`
from the PHY and `dataO`, `stp` of the same cycle from the link) and a small *environment monitor*
`Env` whose only purpose is to make the environment hypotheses of the C24 theorems decidable
predicates of the input history:

* `prevDir`  DIR of the previous cycle (turnaround detection);
* `waited`   for how many consecutive cycles the byte now on the bus has been presented without NXT;
* `tlen`     for how many cycles the PHY has been inside a link transmission (transmit command
             accepted, STP not yet seen);
* `mustHold` the UTMI transmitter presented a byte in the previous cycle that was not accepted
             (`tx_valid ∧ ¬tx_ready`): UTMI obliges it to keep `tx_valid` up;
* `dones`    ghost counter: number of past cycles in which the register window showed `done`;
* `acc04`, `acc0A`  ghosts: the values requested for registers 0x04 / 0x0A by the control inputs of the
             most recent cycle in which the register window accepted a write request.

The hypotheses refer only to what the respective party can see: the PHY-side ones to the pins and
to the PHY's own bus parser (`PhyRegs.bus`, a function of the pin history), the UTMI-side one to
`tx_valid` / `tx_ready`.
-/
namespace LunaVerif.Ulpi

structure Env where
  prevDir  : Bool := false
  waited   : Nat := 0
  tlen     : Nat := 0
  mustHold : Bool := false
  dones    : Nat := 0
  acc04    : Nat := 0
  acc0A    : Nat := 0
deriving DecidableEq, Repr, Inhabited

def PhyBus.isIdle : PhyBus → Bool
  | .idle => true
  | _ => false

def PhyBus.isTx : PhyBus → Bool
  | .transmitting => true
  | _ => false

/-- The PHY is being presented a byte it has to answer with NXT: DIR low, not the turnaround cycle,
and either its parser is idle and a transmit / register-write command (`01xxxxxx` / `10xxxxxx`) is
on the data lines, or it has accepted a register-write command and waits for the data byte. -/
def presented (b : PhyBus) (prevDir dir : Bool) (dataO : Nat) : Bool :=
  !dir && !prevDir &&
    (match b with
     | .idle => dataO / 64 == 1 || dataO / 64 == 2
     | .wantData _ => true
     | _ => false)

def Env.step (e : Env) (b : PhyBus) (winDone accepted : Bool) (i : UtmiIn) (o : UtmiOut) : Env :=
  { prevDir := i.phy.dir
    waited := if presented b e.prevDir i.phy.dir o.dataO && !i.phy.nxt then e.waited + 1 else 0
    tlen := if b.isTx then e.tlen + 1 else 0
    mustHold := i.txValid && !o.txReady
    dones := e.dones + (if winDone then 1 else 0)
    acc04 := if accepted then functionControl i.ctrl else e.acc04
    acc0A := if accepted then otgControl i.ctrl else e.acc0A }

structure World where
  u : Utmi := {}
  p : PhyRegs := {}
  e : Env := {}
deriving DecidableEq, Repr, Inhabited

def World.init (cfg : Config) : World := { u := Utmi.init cfg }

/-- The observer and the monitor see the pins of this cycle. -/
def World.step (cfg : Config) (x : World) (i : UtmiIn) : World :=
  let r := x.u.step cfg i
  { u := r.1
    p := x.p.step i.phy.dir i.phy.nxt r.2.dataO r.2.stp
    e := x.e.step x.p.bus x.u.win.done (x.u.win.st == .idle && (x.u.ctlOut i.ctrl).writeReq) i r.2 }

def World.run (cfg : Config) : World → List UtmiIn → World
  | x, [] => x
  | x, i :: is => World.run cfg (x.step cfg i) is

theorem World.run_append (cfg : Config) (x : World) (a b : List UtmiIn) :
    World.run cfg x (a ++ b) = World.run cfg (World.run cfg x a) b := by
  induction a generalizing x with
  | nil => rfl
  | cons i is ih => simp [World.run, ih]

theorem World.run_u (cfg : Config) (x : World) (h : List UtmiIn) :
    (World.run cfg x h).u = Utmi.run cfg x.u h := by
  induction h generalizing x with
  | nil => rfl
  | cons i is ih => simp [World.run, Utmi.run, ih, World.step]

/-! ## Environment hypotheses -/

/-- **LegalNxt / no abort of link transmissions** (per cycle; `b`, `e` are the PHY's parser state and
the monitor before the cycle, `o` the link's outputs in the cycle):

* E1  no NXT in the turnaround cycle after DIR fell;
* E2  the PHY does not raise DIR while it is inside a link transmission it has accepted (the
      transmit translator ignores such an abort, C23);
* E3  with its parser idle and DIR low the PHY asserts NXT only when a byte is on the data lines. -/
def safeCycle (b : PhyBus) (e : Env) (i : UtmiIn) (o : UtmiOut) : Bool :=
  !(e.prevDir && !i.phy.dir && i.phy.nxt) &&
  !(b.isTx && i.phy.dir) &&
  !(b.isIdle && !i.phy.dir && i.phy.nxt && o.dataO == 0)

/-- **Bounded fairness** (per cycle), parameters `K` and `T`: `safeCycle` (E1–E3, the first conjunct; `liveCycle_safe`)
and

* a presented byte (`presented`) is answered by NXT after at most `K` wait cycles;
* a link transmission occupies the PHY for at most `T` cycles (command acceptance to STP);
* the UTMI transmitter keeps `tx_valid` up until the byte it presents is accepted. -/
def liveCycle (K T : Nat) (b : PhyBus) (e : Env) (i : UtmiIn) (o : UtmiOut) : Bool :=
  safeCycle b e i o &&
  (!(presented b e.prevDir i.phy.dir o.dataO && !i.phy.nxt) || decide (e.waited < K)) &&
  (!b.isTx || decide (e.tlen < T)) &&
  (!e.mustHold || i.txValid)

def SafeOk (cfg : Config) : World → List UtmiIn → Bool
  | _, [] => true
  | x, i :: is => safeCycle x.p.bus x.e i (x.u.step cfg i).2 && SafeOk cfg (x.step cfg i) is

def LiveOk (cfg : Config) (K T : Nat) : World → List UtmiIn → Bool
  | _, [] => true
  | x, i :: is => liveCycle K T x.p.bus x.e i (x.u.step cfg i).2 && LiveOk cfg K T (x.step cfg i) is

theorem liveCycle_safe {K T : Nat} {b : PhyBus} {e : Env} {i : UtmiIn} {o : UtmiOut}
    (h : liveCycle K T b e i o = true) : safeCycle b e i o = true := by
  simp only [liveCycle, Bool.and_eq_true] at h
  exact h.1.1.1

theorem LiveOk_safe (cfg : Config) (K T : Nat) (x : World) (h : List UtmiIn) (hl : LiveOk cfg K T x h = true) :
    SafeOk cfg x h = true := by
  induction h generalizing x with
  | nil => rfl
  | cons i is ih =>
    simp only [LiveOk, Bool.and_eq_true] at hl
    simp only [SafeOk, Bool.and_eq_true]
    exact ⟨liveCycle_safe hl.1, ih _ hl.2⟩

theorem SafeOk_append (cfg : Config) (x : World) (a b : List UtmiIn) :
    SafeOk cfg x (a ++ b) = (SafeOk cfg x a && SafeOk cfg (World.run cfg x a) b) := by
  induction a generalizing x with
  | nil => simp [SafeOk, World.run]
  | cons i is ih => simp [SafeOk, World.run, ih, Bool.and_assoc]

theorem LiveOk_append (cfg : Config) (K T : Nat) (x : World) (a b : List UtmiIn) :
    LiveOk cfg K T x (a ++ b) = (LiveOk cfg K T x a && LiveOk cfg K T (World.run cfg x a) b) := by
  induction a generalizing x with
  | nil => simp [LiveOk, World.run]
  | cons i is ih => simp [LiveOk, World.run, ih, Bool.and_assoc]

/-! ## The coherence invariant -/

/-- The pair latched by the register window is a control register with the value that the control
inputs requested for it in the cycle the write was accepted. -/
def Latched (x : World) : Prop :=
  (x.u.win.curAddr = 4 ∧ x.u.win.curWrite = x.e.acc04) ∨ (x.u.win.curAddr = 10 ∧ x.u.win.curWrite = x.e.acc0A)

/-- The part of `Coh` common to the four busy states of the register window. -/
def BusyCommon (x : World) : Prop :=
  x.u.ctl.busy = true ∧ x.u.tx = ⟨.idle, false⟩ ∧ Latched x ∧
  x.u.win.done = false ∧ x.p.r04 = x.u.ctl.cur04 ∧ x.p.r0A = x.u.ctl.cur0A

/-- **Coherence** of link and PHY: per state of the register window, where the PHY's bus parser is,
what is on the pins, and how the PHY's registers relate to the shadow registers. -/
def Coh (x : World) : Prop :=
  x.p.other = 0 ∧ x.p.writes = x.e.dones + (if x.u.win.done then 1 else 0) ∧
  match x.u.win.st with
  | .idle =>
    x.u.win.dataOut = 0 ∧ x.u.win.stop = false ∧
    ((x.u.win.done = true ∧ x.u.ctl.busy = true ∧ x.u.tx = ⟨.idle, false⟩ ∧ x.p.bus = .idle ∧
        Latched x ∧
        x.p.r04 = (if x.u.win.curAddr = 4 then x.u.win.curWrite else x.u.ctl.cur04) ∧
        x.p.r0A = (if x.u.win.curAddr = 10 then x.u.win.curWrite else x.u.ctl.cur0A))
     ∨ (x.u.win.done = false ∧ x.u.ctl.busy = false ∧ x.p.r04 = x.u.ctl.cur04 ∧ x.p.r0A = x.u.ctl.cur0A ∧
        ((x.u.tx = ⟨.idle, false⟩ ∧ x.p.bus = .idle) ∨ (x.u.tx = ⟨.idle, true⟩ ∧ x.p.bus = .idle) ∨
         (x.u.tx = ⟨.transmit, true⟩ ∧ x.p.bus = .transmitting))))
  | .startWrite =>
    BusyCommon x ∧ x.p.bus = .idle ∧ x.u.win.stop = false ∧ (x.e.prevDir = true ∨ x.u.win.dataOut = 0)
  | .sendWriteAddress =>
    BusyCommon x ∧ x.p.bus = .idle ∧ x.u.win.stop = false ∧ x.u.win.dataOut = 128 ||| x.u.win.curAddr ∧
      x.e.prevDir = false
  | .holdWrite =>
    BusyCommon x ∧ x.p.bus = .wantData x.u.win.curAddr ∧ x.u.win.stop = false ∧
      x.u.win.dataOut = x.u.win.curWrite ∧ x.e.prevDir = false
  | .stopping =>
    BusyCommon x ∧ x.p.bus = .wantStp x.u.win.curAddr x.u.win.curWrite ∧ x.u.win.stop = true ∧
      x.u.win.dataOut = 0
  | _ => False

theorem coh_init (cfg : Config) : Coh (World.init cfg) := by
  simp [Coh, World.init, Utmi.init]

end LunaVerif.Ulpi
