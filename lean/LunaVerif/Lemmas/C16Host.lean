import LunaVerif.Model.Usb2.IsoStreamOut
/-!
# C16 — raw receive histories of the isochronous OUT endpoint: `LegalRx`, and the detector by phase

`IPhase` / `IPhase.step` / `LegalRx`: decidable acceptor of cycle-level input histories.  Data packets have the
shape `USBDataPacketReceiver` produces (bytes on `valid ∧ next`, at most `max_packet_size`, exactly one of
`rx_complete` / `rx_invalid` in the cycle `valid` falls), the tokenizer fields are stable from a packet's
first byte until two cycles after `valid` fell (when the detector's strobes have passed), and no byte
arrives in those two cycles.  Everything else is free: consumer `ready`, token fields (other endpoints,
non-OUT tokens), CRC outcome, wait cycles, zero-length packets.
-/
namespace LunaVerif.IsoStreamOut
open LunaVerif

def isByte (i : In) : Bool := i.rx.valid && i.rx.next
def strobeAny (i : In) : Bool := i.rx.completeIn || i.rx.invalidIn
def strobeOne (i : In) : Bool := i.rx.completeIn != i.rx.invalidIn
def targets (c : Config) (ep : Nat) (io : Bool) : Bool := ep == c.epNum && io

/-- `sent` = bytes of the running packet the detector has passed on, `now` = the byte it presents in this
cycle, `buf` = the byte it holds back -/
inductive IPhase where
  | idle
  | rx (ep : Nat) (io : Bool) (sent : List Nat) (now : Option Nat) (buf : Nat)
  | finByte (ep : Nat) (io : Bool) (sent : List Nat) (x : Nat) (ok : Bool)     -- `valid` fell in the previous cycle
  | finStrobe (ep : Nat) (io : Bool) (bytes : List Nat) (ok : Bool)           -- the detector shows the strobe
deriving DecidableEq, Repr

def stable (ep : Nat) (io : Bool) (i : In) : Bool := i.tokEp == ep && i.tokIsOut == io

def IPhase.step (c : Config) : IPhase → In → Option IPhase
  | .idle, i =>
    if isByte i then
      (if !strobeAny i && decide (1 ≤ c.mps) then some (.rx i.tokEp i.tokIsOut [] none i.rx.payload) else none)
    else some .idle
  | .rx ep io sent now buf, i =>
    if !stable ep io i then none
    else if isByte i then
      (if !strobeAny i && decide (sent.length + now.toList.length + 2 ≤ c.mps)
        then some (.rx ep io (sent ++ now.toList) (some buf) i.rx.payload) else none)
    else if i.rx.valid then
      (if !strobeAny i then some (.rx ep io (sent ++ now.toList) none buf) else none)
    else (if strobeOne i then some (.finByte ep io (sent ++ now.toList) buf i.rx.completeIn) else none)
  | .finByte ep io sent x ok, i =>
    if !stable ep io i || isByte i then none else some (.finStrobe ep io (sent ++ [x]) ok)
  | .finStrobe ep io _ _, i =>
    if !stable ep io i || isByte i then none else some .idle

def IPhase.run (c : Config) : IPhase → List In → Option IPhase
  | p, [] => some p
  | p, i :: is => match p.step c i with
    | some p' => IPhase.run c p' is
    | none => none

/-- **LegalRx**: the history is accepted and ends between packets. -/
def LegalRx (c : Config) (ins : List In) : Bool :=
  match IPhase.run c .idle ins with
  | some .idle => true
  | _ => false

/-! ### Inversion -/

theorem stable_inv {ep : Nat} {io : Bool} {i : In} (h : stable ep io i = true) : i.tokEp = ep ∧ i.tokIsOut = io := by
  simp only [stable] at h
  simpa using h

theorem step_idle_inv {c : Config} {i : In} {p' : IPhase} (h : IPhase.step c .idle i = some p') :
    (isByte i = true ∧ strobeAny i = false ∧ 1 ≤ c.mps ∧ p' = .rx i.tokEp i.tokIsOut [] none i.rx.payload) ∨
    (isByte i = false ∧ p' = .idle) := by
  simp only [IPhase.step] at h
  repeat' split at h
  all_goals simp_all

theorem step_rx_inv {c : Config} {ep : Nat} {io : Bool} {sent : List Nat} {now : Option Nat} {buf : Nat} {i : In}
    {p' : IPhase} (h : IPhase.step c (.rx ep io sent now buf) i = some p') :
    stable ep io i = true ∧
    ((isByte i = true ∧ strobeAny i = false ∧ sent.length + now.toList.length + 2 ≤ c.mps ∧
        p' = .rx ep io (sent ++ now.toList) (some buf) i.rx.payload)
     ∨ (isByte i = false ∧ i.rx.valid = true ∧ strobeAny i = false ∧ p' = .rx ep io (sent ++ now.toList) none buf)
     ∨ (isByte i = false ∧ i.rx.valid = false ∧ strobeOne i = true ∧
        p' = .finByte ep io (sent ++ now.toList) buf i.rx.completeIn)) := by
  simp only [IPhase.step] at h
  repeat' split at h
  all_goals simp_all

theorem step_finByte_inv {c : Config} {ep : Nat} {io : Bool} {sent : List Nat} {x : Nat} {ok : Bool} {i : In}
    {p' : IPhase} (h : IPhase.step c (.finByte ep io sent x ok) i = some p') :
    stable ep io i = true ∧ isByte i = false ∧ p' = .finStrobe ep io (sent ++ [x]) ok := by
  simp only [IPhase.step] at h
  repeat' split at h
  all_goals simp_all

theorem step_finStrobe_inv {c : Config} {ep : Nat} {io : Bool} {bytes : List Nat} {ok : Bool} {i : In}
    {p' : IPhase} (h : IPhase.step c (.finStrobe ep io bytes ok) i = some p') :
    stable ep io i = true ∧ isByte i = false ∧ p' = .idle := by
  simp only [IPhase.step] at h
  repeat' split at h
  all_goals simp_all

/-! ### The boundary detector by phase -/

def View (p : IPhase) (o : BoundaryDetector.Out) : Prop :=
  match p with
  | .idle => o.next = false ∧ o.completeOut = false ∧ o.invalidOut = false
  | .rx _ _ sent now _ =>
    o.completeOut = false ∧ o.invalidOut = false ∧
    (match now with
     | none => o.next = false
     | some x => o.next = true ∧ o.valid = true ∧ o.payload = x ∧ o.first = sent.isEmpty ∧ o.last = false)
  | .finByte _ _ sent x _ =>
    o.completeOut = false ∧ o.invalidOut = false ∧
    o.next = true ∧ o.valid = true ∧ o.payload = x ∧ o.first = sent.isEmpty ∧ o.last = true
  | .finStrobe _ _ _ ok => o.next = false ∧ o.completeOut = ok ∧ o.invalidOut = !ok

theorem view_not_both {p : IPhase} {o : BoundaryDetector.Out} (h : View p o) :
    ¬(o.completeOut = true ∧ o.invalidOut = true) := by
  cases p <;> simp only [View] at h
  case finStrobe ep io bytes ok => obtain ⟨_, h1, h2⟩ := h; rw [h1, h2]; cases ok <;> simp
  all_goals (obtain ⟨h1, h2, _⟩ := h; simp_all)

def DetRel (p : IPhase) (d : BoundaryDetector.State) : Prop :=
  View p d.out ∧
  (match p with
   | .idle | .finStrobe .. => d.fsm = .waitFirst
   | .rx _ _ sent now buf =>
     d.fsm = .receive ∧ d.bufferedByte = buf ∧ d.isFirstByte = (sent.isEmpty && now.isNone) ∧
     d.bufferedComplete = false ∧ d.bufferedInvalid = false ∧ d.out.last = false
   | .finByte _ _ _ _ ok => d.fsm = .strobes ∧ d.bufferedComplete = ok ∧ d.bufferedInvalid = !ok)

theorem detRel_init : DetRel .idle BoundaryDetector.init := by
  simp [DetRel, View, BoundaryDetector.init]

theorem detRel_step {c : Config} {p p' : IPhase} {d : BoundaryDetector.State} {i : In}
    (h : DetRel p d) (hs : p.step c i = some p') : DetRel p' (BoundaryDetector.step d i.rx) := by
  obtain ⟨fsm, out, bb, fb, bc, bi⟩ := d
  cases p with
  | idle =>
    obtain ⟨_, hf⟩ := h
    simp only at hf; subst hf
    rcases step_idle_inv hs with ⟨hb, _, _, rfl⟩ | ⟨hb, rfl⟩ <;>
      (simp only [isByte] at hb; simp [DetRel, View, BoundaryDetector.step, hb])
  | rx ep io sent now buf =>
    obtain ⟨hv, hf, hbb, hfb, hbc, hbi, hl⟩ := h
    simp only at hf hbb hfb hbc hbi hl; subst hf hbb hfb hbc hbi
    obtain ⟨_, h3⟩ := step_rx_inv hs
    simp only [isByte, strobeAny, strobeOne] at h3
    simp only [View] at hv
    rcases h3 with ⟨hb, hst, _, rfl⟩ | ⟨hb, hvl, hst, rfl⟩ | ⟨hb, hvl, hst, rfl⟩
    · have : i.rx.valid = true := by simp_all
      cases now <;> simp_all [DetRel, View, BoundaryDetector.step]
    · cases now <;> simp_all [DetRel, View, BoundaryDetector.step]
    · cases now <;> simp_all [DetRel, View, BoundaryDetector.step] <;> grind
  | finByte ep io sent x ok =>
    obtain ⟨_, _, rfl⟩ := step_finByte_inv hs
    obtain ⟨hv, hf, hbc, hbi⟩ := h
    simp only at hf hbc hbi; subst hf hbc hbi
    simp [DetRel, View, BoundaryDetector.step]
  | finStrobe ep io bytes ok =>
    obtain ⟨_, hf⟩ := h
    simp only at hf; subst hf
    obtain ⟨_, hb, rfl⟩ := step_finStrobe_inv hs
    simp only [isByte] at hb
    simp [DetRel, View, BoundaryDetector.step, hb]

end LunaVerif.IsoStreamOut
