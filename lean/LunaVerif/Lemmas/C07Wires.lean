import LunaVerif.Lemmas.C07CycSteps
import LunaVerif.Model.Usb2.ControlCycSys
/-!
# What one cycle of the control endpoint drives towards its two streamers

`serInOf` / `blkInOf` (Model/Usb2/ControlCycSys.lean) of the standard handler's outputs, from ANY state and for ANY
inputs, as closed records of the cycle's own inputs and the handler registers: the setup packet's `type`, `value` and
`length`, `active_config`, the handler state and its `start_position`, `data_requested` and `tx.ready` enter, no output of
either streamer.  Everything the refinement and the closed loops need about these wires (no combinational loop, no
start outside a `ready_for_response` cycle, what the start cycle and the window cycles drive) is read off these two
equations.
-/
namespace LunaVerif.CtrlCyc
open LunaVerif.Device LunaVerif.StreamGen

/-- The standard handler is wired to the descriptor handler in this cycle (GET_DESCRIPTOR under `setup.type == STANDARD`). -/
def gd (cs : CycState) (i : CycIn) : Bool := decide (i.su.type = TYPE_STANDARD) && cs.h.hstate == .getDescriptor

/-- … to the transmitter (`handle_simple_data_request`: GET_STATUS, GET_CONFIGURATION). -/
def gs (cs : CycState) (i : CycIn) : Bool :=
  decide (i.su.type = TYPE_STANDARD) && (cs.h.hstate == .getStatus || cs.h.hstate == .getConfiguration)

/-- `transmitter.max_length` and `transmitter.data[0]`. -/
def txLen (cs : CycState) (i : CycIn) : Nat :=
  if i.su.type = TYPE_STANDARD then
    match cs.h.hstate with
    | .getStatus => 2
    | .getConfiguration => 1
    | _ => 0
  else 0

def txData0 (cs : CycState) (i : CycIn) : Nat :=
  if i.su.type = TYPE_STANDARD ∧ cs.h.hstate = .getConfiguration then i.activeConfig % 256 else 0

theorem blkIn_eq (c : Cfg) (cs : CycState) (i : CycIn) :
    blkInOf cs i (step c cs i).2.h =
      ⟨i.su.value, i.su.length, cs.h.startPos, gd cs i && (ctrlComb c cs.stage i).dataRequested,
        gd cs i && i.txReady⟩ := by
  have hsu : ∀ cc, (handlerIn i cc).su = i.su := fun _ => rfl
  simp only [blkInOf, step, stdStep, gd, hsu]
  by_cases h : i.su.type = TYPE_STANDARD
  · simp only [stdComb, h, decide_true, Bool.true_and, if_true]
    cases cs.h.hstate <;> simp [simpleDataOut, regWriteZlp, handlerIn]
  · simp [h]

theorem serIn_eq (c : Cfg) (cs : CycState) (i : CycIn) :
    serInOf (step c cs i).2.h =
      ⟨gs cs i && (ctrlComb c cs.stage i).dataRequested, 0, txLen cs i, gs cs i && i.txReady, [txData0 cs i, 0]⟩ := by
  have hsu : ∀ cc, (handlerIn i cc).su = i.su := fun _ => rfl
  simp only [serInOf, step, stdStep, gs, txLen, txData0, hsu]
  by_cases h : i.su.type = TYPE_STANDARD
  · simp only [stdComb, h, decide_true, Bool.true_and, if_true, true_and]
    cases cs.h.hstate <;> simp [simpleDataOut, regWriteZlp, handlerIn]
  · simp [h]

theorem step_tStart (c : Cfg) (cs : CycState) (i : CycIn) :
    (step c cs i).2.h.tStart = (gs cs i && (ctrlComb c cs.stage i).dataRequested) :=
  congrArg SerIn.start (serIn_eq c cs i)

theorem step_dStart (c : Cfg) (cs : CycState) (i : CycIn) :
    (step c cs i).2.h.dStart = (gd cs i && (ctrlComb c cs.stage i).dataRequested) :=
  congrArg Desc.Block.In.start (blkIn_eq c cs i)

theorem step_tMaxLen (c : Cfg) (cs : CycState) (i : CycIn) : (step c cs i).2.h.tMaxLen = txLen cs i :=
  congrArg SerIn.maxLength (serIn_eq c cs i)

theorem step_tData0 (c : Cfg) (cs : CycState) (i : CycIn) : (step c cs i).2.h.tData0 = txData0 cs i :=
  List.head_eq_of_cons_eq (congrArg SerIn.data (serIn_eq c cs i))

/-- No combinational loop through the transmitter. -/
theorem wires_indep (c : Cfg) (cs : CycState) (i : CycIn) (so : SerOut) :
    serInOf (step c cs (withT i so)).2.h = serInOf (step c cs i).2.h := by
  rw [serIn_eq, serIn_eq]; rfl

theorem streamers_not_started (cyc : Cfg) (cs : CycState) (i : CycIn) (h : i.readyForResponse = false) :
    (step cyc cs i).2.h.tStart = false ∧ (step cyc cs i).2.h.dStart = false := by
  have hdr : (ctrlComb cyc cs.stage i).dataRequested = false := by simp [ctrlComb, h]
  rw [step_tStart, step_dStart, hdr, Bool.and_false, Bool.and_false]
  exact ⟨rfl, rfl⟩

end LunaVerif.CtrlCyc
