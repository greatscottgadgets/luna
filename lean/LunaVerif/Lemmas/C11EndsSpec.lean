import LunaVerif.Lemmas.C11Ends
/-!
# C11 — what the boundary checker `endsOk` says, in ∀-form

`transfer_ends_short_or_zlp` states `endsOk mps marks pkts = true` for the host-kept packets `pkts` and the
producer's `last` marks `marks`.  The lemmas here unfold that verdict into statements about an arbitrary
packet `p` of the list (`pkts = A ++ p :: B`, so `p`'s bytes are the producer's bytes number
`|A.flatten| .. |A.flatten| + |p| - 1`).

At the end stands one fact that is not a reading of `endsOk`: `flush_sends_partial`, a one-cycle fact about `step` like
those of Props/C11.lean; it speaks of `bufBytes` and rests on `bufBytes_wNext` (Lemmas/C11Host, C11Refine), which that
file does not see.
-/
namespace LunaVerif.InXfer

theorem foldl_rem (mps : Nat) (A : List (List Nat)) (e : EndSt)
    (h : (A.foldl (endStep mps) e).ok = true) :
    (A.foldl (endStep mps) e).rem = e.rem.drop A.flatten.length ∧ A.flatten.length ≤ e.rem.length := by
  induction A generalizing e with
  | nil => simp
  | cons p A ih =>
    simp only [List.foldl_cons] at h ⊢
    obtain ⟨h1, h2⟩ := ih _ h
    obtain ⟨-, hle⟩ := endStep_ok_imp mps e p (foldl_ok_mono mps A _ h)
    have hr : (endStep mps e p).rem = e.rem.drop p.length := rfl
    rw [hr] at h1 h2
    simp only [List.length_drop] at h2
    refine ⟨?_, ?_⟩
    · rw [h1, List.drop_drop, List.flatten_cons, List.length_append]
    · rw [List.flatten_cons, List.length_append]; omega

/-- The facts the checker established when it processed packet `p` (after the packets `A`). -/
theorem endsOk_at (mps : Nat) (marks : List Bool) (A : List (List Nat)) (p : List Nat)
    (B : List (List Nat)) (h : endsOk mps marks (A ++ p :: B) = true) :
    (endStep mps (endFold mps marks A) p).ok = true ∧
    (endFold mps marks A).rem = marks.drop A.flatten.length ∧
    A.flatten.length ≤ marks.length := by
  unfold endsOk endFold at h
  rw [List.foldl_append, List.foldl_cons] at h
  have h1 := foldl_ok_mono mps B _ h
  have h2 := (endStep_ok_imp mps _ p h1).1
  exact ⟨h1, foldl_rem mps A _ h2⟩

theorem endStep_owed (mps : Nat) (marks : List Bool) (e : EndSt) (n : Nat) (p : List Nat) (hrem : e.rem = marks.drop n)
    (hle : p.length ≤ marks.length - n) (hpos : 1 ≤ p.length) :
    (endStep mps e p).owed = (p.length == mps && marks[n + p.length - 1]? == some true) := by
  simp only [endStep, hrem]
  rw [List.getLast?_eq_getElem?, List.length_take, List.length_drop, List.getElem?_take, List.getElem?_drop,
    Nat.min_eq_left hle, if_pos (by omega)]
  have : n + (p.length - 1) = n + p.length - 1 := by omega
  rw [this]

/-- Every kept packet is at most `mps` bytes of the producer's stream, and none of its bytes except
the final one carries a `last` mark. -/
theorem endsOk_packet (mps : Nat) (marks : List Bool) (A : List (List Nat)) (p : List Nat)
    (B : List (List Nat)) (h : endsOk mps marks (A ++ p :: B) = true) :
    p.length ≤ mps ∧ A.flatten.length + p.length ≤ marks.length ∧
    (∀ k, k + 1 < p.length → marks[A.flatten.length + k]? = some false) := by
  obtain ⟨hok, hrem, hlen⟩ := endsOk_at mps marks A p B h
  simp only [endStep, hrem, Bool.and_eq_true, decide_eq_true_eq, List.length_drop,
    List.all_eq_true] at hok
  obtain ⟨⟨⟨⟨-, h1⟩, h2⟩, -⟩, h4⟩ := hok
  refine ⟨h2, by omega, ?_⟩
  intro k hk
  have hget : ((marks.drop A.flatten.length).take p.length).dropLast[k]?
      = marks[A.flatten.length + k]? := by
    rw [List.getElem?_dropLast, List.length_take, List.length_drop, List.getElem?_take,
      List.getElem?_drop]
    rw [if_pos (by omega), if_pos (by omega)]
  have hsome : ∃ v, marks[A.flatten.length + k]? = some v := by
    have : A.flatten.length + k < marks.length := by omega
    exact ⟨marks[A.flatten.length + k], List.getElem?_eq_getElem this⟩
  obtain ⟨v, hv⟩ := hsome
  rw [hv] at hget
  have := h4 v (List.mem_of_getElem? hget)
  rw [hv]
  cases v <;> simp_all

/-- after a non-empty kept packet a ZLP is due exactly when the packet is full and ends on a `last` byte -/
theorem endsOk_owed (mps : Nat) (marks : List Bool) (A : List (List Nat)) (p : List Nat) (B : List (List Nat))
    (h : endsOk mps marks (A ++ p :: B) = true) (hne : p ≠ []) :
    (endFold mps marks (A ++ [p])).owed = (p.length == mps && marks[A.flatten.length + p.length - 1]? == some true) := by
  obtain ⟨hokp, hrem, -⟩ := endsOk_at mps marks A p B h
  have hple := (endStep_ok_imp mps _ p hokp).2
  rw [hrem, List.length_drop] at hple
  have hfold : endFold mps marks (A ++ [p]) = endStep mps (endFold mps marks A) p := by simp [endFold]
  rw [hfold, endStep_owed mps marks _ _ p hrem hple (List.length_pos_iff.mpr hne)]

/-- **Short packet or ZLP before the next transfer's data.**  If a kept packet is a full `mps` bytes
and its final byte is `last`-marked, the next packet the host keeps is a zero-length packet. -/
theorem endsOk_zlp_follows (mps : Nat) (marks : List Bool) (A : List (List Nat)) (p q : List Nat)
    (B : List (List Nat)) (h : endsOk mps marks (A ++ p :: q :: B) = true) (hne : p ≠ [])
    (hfull : p.length = mps) (hlast : marks[A.flatten.length + p.length - 1]? = some true) :
    q = [] := by
  have howed := endsOk_owed mps marks A p (q :: B) h hne
  rw [hlast, hfull] at howed
  have hq : endsOk mps marks ((A ++ [p]) ++ q :: B) = true := by simpa using h
  obtain ⟨hokq, -, -⟩ := endsOk_at mps marks (A ++ [p]) q B hq
  simp only [endStep, howed, Bool.and_eq_true, beq_iff_eq] at hokq
  have := hokq.1.2
  simpa [List.isEmpty_iff] using this.symm

/-- **A ZLP is kept only when it is due**: the packet before it is a full `mps` bytes ending on a
`last`-marked byte (in particular the first kept packet is never empty). -/
theorem endsOk_zlp_only_when_due (mps : Nat) (marks : List Bool) (A : List (List Nat))
    (B : List (List Nat)) (h : endsOk mps marks (A ++ [] :: B) = true) :
    ∃ A' p, A = A' ++ [p] ∧ p.length = mps ∧ p ≠ [] ∧
      marks[A'.flatten.length + p.length - 1]? = some true := by
  obtain ⟨hok, -, -⟩ := endsOk_at mps marks A [] B h
  have howed : (endFold mps marks A).owed = true := by
    simp [endStep] at hok
    exact hok.2
  rcases List.eq_nil_or_concat A with hA | ⟨A', p, hA⟩
  · rw [hA] at howed; simp [endFold] at howed
  · have hA' : A = A' ++ [p] := by simpa using hA
    subst hA'
    have hne : p ≠ [] := by
      intro hp; subst hp; simp [endFold, endStep] at howed
    rw [endsOk_owed mps marks A' p ([] :: B) (by simpa using h) hne, Bool.and_eq_true, beq_iff_eq, beq_iff_eq] at howed
    exact ⟨A', p, rfl, howed.1, hne, howed.2⟩

/-! ## The same, directly about the device -/

/-- On the device, for `mps ≥ 1` and every history with `discard = reset_sequence = 0` and `generate_zlps = 1` in every
cycle (`LegalZlpEnv`): whenever the host has kept a full-size packet whose final byte the producer marked `last`, and has
kept any packet after it, that next packet is a zero-length packet. -/
theorem host_sees_zlp_after_full_last_packet (c : Config) (hm : 1 ≤ c.mps) (ins : List In)
    (henv : LegalZlpEnv ins) (A : List (List Nat)) (p q : List Nat) (B : List (List Nat))
    (hp : hostPackets (trace c (init c) ins) = A ++ p :: q :: B) (hfull : p.length = c.mps)
    (hlast : ((produced (trace c (init c) ins)).map (·.2))[A.flatten.length + p.length - 1]? = some true) :
    q = [] := by
  have h := transfer_ends_short_or_zlp c hm ins henv
  rw [hp] at h
  have hne : p ≠ [] := by
    intro h0; rw [h0] at hfull; simp at hfull; omega
  exact endsOk_zlp_follows c.mps _ A p q B h hne hfull hlast

/-- On the device, under the same hypotheses (`mps ≥ 1`, `LegalZlpEnv`): a `last`-marked byte is always the final byte of
the packet that carries it. -/
theorem last_byte_ends_its_packet (c : Config) (hm : 1 ≤ c.mps) (ins : List In)
    (henv : LegalZlpEnv ins) (A : List (List Nat)) (p : List Nat) (B : List (List Nat))
    (hp : hostPackets (trace c (init c) ins) = A ++ p :: B) (k : Nat) (hk : k + 1 < p.length) :
    ((produced (trace c (init c) ins)).map (·.2))[A.flatten.length + k]? = some false := by
  have h := transfer_ends_short_or_zlp c hm ins henv
  rw [hp] at h
  exact (endsOk_packet c.mps _ A p B h).2.2 k hk

/-! ## `flush`: one cycle of the device, not a reading of `endsOk` -/

/-- **`flush` sends a partial packet.**  In WAIT_FOR_DATA a `flush` request with a non-empty write buffer
stages that buffer (plus the byte arriving in the same cycle, if any) as the next packet at once. -/
theorem flush_sends_partial (c : Config) (s : State) (i : In) (hinv : Inv c s)
    (hfs : s.fsm = .waitData) (hd : i.discard = false) (hfl : i.flush = true) (hne : s.w.fill ≠ 0) :
    (step c s i).1.fsm = .waitSend ∧
    bufBytes (step c s i).1.r = bufBytes s.w ++ (if wen c s i then [i.sPayload % 256] else []) := by
  have hp : packetReady c s i = true := by simp [packetReady, hd, hfl, hne]
  have hwb := bufBytes_wNext c s i hd hinv.wlen hinv.wfill
  simp only [step, hfs, hp, if_true]
  exact ⟨trivial, hwb⟩

end LunaVerif.InXfer
