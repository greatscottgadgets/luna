import LunaVerif.Props.C12
import LunaVerif.Props.C13Foreign
/-!
# C12 / C14 — `cycle_refines_event` for the stream OUT endpoint (`USBStreamOutEndpoint`)

Cycle level: `StreamOutEndpoint.step` (Model/Usb2/StreamOutEndpoint.lean, C13's model: boundary detector +
transactional FIFO + ACK/NAK/toggle glue).  Event level: the `.sout` branch of `EpDev.epStep`.

The relation between the two state spaces is C13's simulation `Sim c p s w del` (Props/C13Stream.lean: detector by
acceptor phase, registers, FIFO as C18's commit/rollback queue, write-side invariant) with the host-side observer's
account `w.a` = the event-level (toggle, `transfer_active`) and the accepted entries `w.acc` = what the consumer
already has followed by the event-level FIFO (decoded), plus `committed_read_pointer = current_read_pointer` (the
consumer's last read is finalised, so `space_available` counts the committed entries only).  Every cycle of an
expansion (the data packet of a transaction that is not for this endpoint aside, third item below) is accepted by
C13's `LegalHost` acceptor (`Phase.step`), so `sim_step` carries the simulation through it; what is added here is the bookkeeping of
the event-level state (`rel0_step`) and the decoding of the outputs.

The expansion of an event (`expand`) follows Lemmas/C12SigRefine.lean; in addition

  * a token leaves the acceptor in phase `tok` (`armed`); a PING for the endpoint is answered in the tokenizer's
    `ready_for_response` cycle from `space_available`;
  * a data event is ANY cycle sequence `seg ++ resp :: tail` that C13's acceptor takes from `tok t` back to `idle`
    and that carries the event's packet (`segOk`: PID toggle bit as `USBDevice` wires `rx_pid_toggle`, payload, CRC
    verdict; one response request `resp` for a valid packet, none for a corrupted one; any byte spacing, any response
    delay).  The ACK comes from C13's `no_loss_run` (the packet fits, so no byte meets a full FIFO) and
    `nak_iff_cannot_take_partial`, from an arbitrary related state;
  * a data packet while the token registers do not name the endpoint as OUT target moves nothing but the boundary
    detector (`ref_data_unarmed`, through `FRel` / `foreign_run`, not through `sim_step`): after a token for ANOTHER
    device (no `new_token`, the token detector clears its PID register) the acceptor is in `idle`; after a token for
    another endpoint of this device the armed acceptor is weakened to `idle` first (`rel0_weaken`);
  * a `consume n` event is `n` cycles with `stream.ready` (any idle cycles in between) and one more cycle, which
    finalises the last read; the consumer reads between transactions (DESIGN appendix D).

The bus observation (`cycWires`) decodes the endpoint's outputs: ACK / NAK requests and the consumer's transfers
`(payload, first, last)`.

Limits (stated as hypotheses `EvOk` / `histOk`): a data packet while the registers name this endpoint follows a token
accepted by this device and fits into the FIFO (the event level's `legalEvent`).  The packets of transactions to OTHER
endpoints or devices may have ANY length (C13's acceptor bounds a packet by `max_packet_size` only when the token
registers name the endpoint, `lenOk`): the 8-byte SETUP packets of control transfers next to a 4-byte OUT endpoint and
the packets of an endpoint with a larger `max_packet_size` are inside the hypotheses (`exHistory4` below).  `segOkStrict`
is the stricter hypothesis that bounds every bus packet by this endpoint's `max_packet_size`; it implies `segOk`
(`segOkStrict_imp`).
-/

namespace LunaVerif.C12Out
open LunaVerif LunaVerif.StreamOutEndpoint
open LunaVerif.Device (HostEvent Resp PID_OUT PID_PING PID_ACK PID_NAK PID_DATA0 PID_DATA1 DevConfig DevState core)
open LunaVerif.EpDev (EpCfg OutState Shared EpOut epStep haltHits outData outPing outEntries outEntry pidToggleBit
  sharedOf)
open LunaVerif.C12Sig (Tk tkOf)

/-! ### The cycle-level endpoint of an event-level configuration, the token registers as a `Tok` -/

def cfgOf (ec : EpCfg) : Config := ⟨ec.num, ec.size, ec.depth⟩

def tokOf (tk : Tk) : Tok := ⟨tk.ep, tk.pid == PID_OUT, tk.pid == PID_PING⟩

theorem tokOf_wf (tk : Tk) : (tokOf tk).wf = true := by
  simp only [Tok.wf, tokOf]
  by_cases h : tk.pid = PID_OUT
  · simp [h, PID_OUT, PID_PING]
  · simp [h]

theorem tokOf_targets (ec : EpCfg) (tk : Tk) :
    (tokOf tk).targets (cfgOf ec) = true ↔ (tk.ep = ec.num ∧ tk.pid = PID_OUT) := by
  simp [Tok.targets, tokOf, cfgOf]

/-- the host-side observer's bookkeeping (C13's `Acct`) is the event-level toggle / `transfer_active` -/
def acctOf (e : OutState) : Acct := ⟨e.toggle, e.active⟩

/-! ### Relation between the two state spaces

C13's simulation `Sim c p s w del` (detector by phase, registers, FIFO as a commit/rollback queue, write-side
invariant) with the observer's account `w.a` = the event-level (toggle, active) and the accepted entries `w.acc` =
what the consumer already has (`del`) followed by the event-level FIFO, decoded. -/

def Rel0 (c : Config) (e : OutState) (s : State) (p : Phase) : Prop :=
  ∃ w del, Sim c p s w del ∧ w.a = acctOf e ∧ w.acc = del ++ e.fifo.map dec

/-- … and the consumer's last read is finalised (`committed_read_pointer` has caught up: the FIFO's
`space_available` counts the committed entries only). -/
def Rel (c : Config) (e : OutState) (s : State) (p : Phase) : Prop :=
  Rel0 c e s p ∧ s.fifo.rr = s.fifo.cr

theorem rel_init (c : Config) : Rel c {} init .idle :=
  ⟨⟨_, _, sim_init c, rfl, rfl⟩, rfl⟩

/-- one accepted cycle, whatever it is: the relation is kept if the event-level state is updated as the observer's
account and the consumer's transfers say -/
theorem rel0_step {c : Config} (hmps : 1 ≤ c.mps) {e e' : OutState} {s : State} {p p' : Phase} {i : In}
    (h : Rel0 c e s p) (hs : p.step c i = some p')
    (ha : ((acctOf e).step c p i (step c s i).2.ack).1 = acctOf e')
    (hf : transfers [i] [(step c s i).2] ++ e'.fifo.map dec
            = e.fifo.map dec ++ ((acctOf e).step c p i (step c s i).2.ack).2) :
    Rel0 c e' (step c s i).1 p' := by
  obtain ⟨w, del, hsim, hwa, hacc⟩ := h
  have h1 := sim_step hmps hsim hs
  have hack : (hsG c s.det.out (TxnFifo.full c.depth s.fifo) (TxnFifo.space c.depth s.fifo) w.r i).1
      = (step c s i).2.ack := by
    rw [← hsim.regs, ← hs_eq]; rfl
  refine ⟨_, _, h1, ?_, ?_⟩
  · simp only [WState.next, hack, hwa]; exact ha
  · simp only [WState.next, hack, hwa, hacc, List.append_assoc]
    rw [hf]

/-- a transaction that has seen its token can be forgotten (the acceptor's `idle` asks for less) -/
theorem rel0_weaken {c : Config} {e : OutState} {s : State} {t : Tok} (h : Rel0 c e s (.tok t)) :
    Rel0 c e s .idle := by
  obtain ⟨w, del, hs, hwa, hacc⟩ := h
  exact ⟨w, del, hs.forget, hwa, hacc⟩

/-- between transactions: nothing uncommitted, and the committed unread entries are the event-level FIFO -/
theorem rel0_fifo {c : Config} {e : OutState} {s : State} {p : Phase} (h : Rel0 c e s p) (hq : p.quiet = true) :
    ∃ q, TxnFifo.Rel c.depth s.fifo q ∧ q.W = [] ∧ q.C.map dec = e.fifo.map dec := by
  obtain ⟨w, del, hs, _, hacc⟩ := h
  obtain ⟨q, hrel, hW, hdel⟩ := hs.fifo
  obtain ⟨hW0, hcom⟩ := hs.quiet hq
  refine ⟨q, hrel, hW.trans hW0, ?_⟩
  rw [hcom, hacc] at hdel
  exact List.append_cancel_left hdel

theorem rel0_regs {c : Config} {e : OutState} {s : State} {p : Phase} (h : Rel0 c e s p) :
    s.expectedToggle = e.toggle := by
  obtain ⟨w, del, hs, hwa, _⟩ := h
  rw [hs.toggle, hwa]; rfl

theorem rel0_tok_overflow {c : Config} {e : OutState} {s : State} {t : Tok} (h : Rel0 c e s (.tok t)) :
    s.overflow = false := by
  obtain ⟨w, del, hs, _, _⟩ := h
  exact hs.tok_overflow

/-- `space_available` between transactions, from the event-level FIFO -/
theorem rel_space_eq {c : Config} {e : OutState} {s : State} {p : Phase} (h : Rel c e s p) (hq : p.quiet = true) :
    TxnFifo.space c.depth s.fifo = c.depth - e.fifo.length ∧ used c s = e.fifo.length := by
  obtain ⟨q, hrel, hW, hC⟩ := rel0_fifo h.1 hq
  have hlen : q.C.length = e.fifo.length := by
    have := congrArg List.length hC
    simpa using this
  have hR := TxnFifo.rel_R_nil hrel h.2
  have hheld : q.held = e.fifo.length := by
    simp only [TxnFifo.Queue.held, hR, hW, hlen, List.length_nil]; omega
  exact ⟨by rw [TxnFifo.rel_space hrel, hheld], by rw [used_eq_held hrel, hheld]⟩

/-! ### Observing a cycle sequence -/

inductive Wire
  | ack                      -- `handshakes_out.ack`
  | nak                      -- `handshakes_out.nak`
  | xfer (x : Entry)         -- a consumer transfer `stream.valid ∧ stream.ready`: (payload, first, last)
deriving DecidableEq, Repr

def wire1 (i : In) (o : Out) : List Wire :=
  (if o.ack then [Wire.ack] else []) ++ (if o.nak then [Wire.nak] else []) ++ (transfers [i] [o]).map Wire.xfer

def cycWires (c : Config) : State → List In → List Wire
  | _, [] => []
  | s, i :: is => wire1 i (step c s i).2 ++ cycWires c (step c s i).1 is

theorem cycWires_append (c : Config) (s : State) (a b : List In) :
    cycWires c s (a ++ b) = cycWires c s a ++ cycWires c (runState c s a) b := by
  induction a generalizing s with
  | nil => rfl
  | cons i is ih => simp [cycWires, runState, ih]

/-- What the event-level outputs stand for: the handshake request, and the FIFO entries handed to the consumer
(decoded: payload, first, last). -/
def wiresOf (o : EpOut) : List Wire :=
  (match o.resp with
   | .hs pid => if pid = PID_ACK then [Wire.ack] else if pid = PID_NAK then [Wire.nak] else []
   | _ => []) ++ o.app.map (fun x => Wire.xfer (dec x))

def Ref (c : Config) (p p' : Phase) (e e' : OutState) (is : List In) (ws : List Wire) : Prop :=
  ∀ s, Rel c e s p → Rel c e' (runState c s is) p' ∧ cycWires c s is = ws

theorem Ref.nil {c : Config} {p : Phase} {e : OutState} : Ref c p p e e [] [] := fun _ h => ⟨h, rfl⟩

theorem Ref.append {c : Config} {p p1 p2 : Phase} {e e1 e2 : OutState} {a b : List In} {w1 w2 : List Wire}
    (h1 : Ref c p p1 e e1 a w1) (h2 : Ref c p1 p2 e1 e2 b w2) : Ref c p p2 e e2 (a ++ b) (w1 ++ w2) := by
  intro s hr
  obtain ⟨a1, a2⟩ := h1 s hr
  obtain ⟨b1, b2⟩ := h2 _ a1
  exact ⟨by rw [runState_append]; exact b1, by rw [cycWires_append, a2, b2]⟩

theorem Ref.single {c : Config} {p p' : Phase} {e e' : OutState} {i : In} {ws : List Wire}
    (h : ∀ s, Rel c e s p → Rel c e' (step c s i).1 p' ∧ wire1 i (step c s i).2 = ws) : Ref c p p' e e' [i] ws := by
  intro s hr
  obtain ⟨a, b⟩ := h s hr
  exact ⟨a, by simp [cycWires, b]⟩

theorem Ref.wires_eq {c : Config} {p p' : Phase} {e e' : OutState} {is : List In} {w w' : List Wire}
    (h : Ref c p p' e e' is w) (hw : w = w') : Ref c p p' e e' is w' := hw ▸ h


/-! ### One cycle -/

theorem transfers_not_ready (i : In) (o : Out) (h : i.ready = false) : transfers [i] [o] = [] := by
  simp [transfers, h]

/-- the halt-clear strobe at event level -/
def clr (b : Bool) (e : OutState) : OutState := if b then { e with toggle := false } else e

/-- a cycle that answers no packet addressed to the endpoint and in which the consumer does not read: the
event-level state changes by the halt-clear strobe only -/
theorem unanswered_step {c : Config} (hmps : 1 ≤ c.mps) {e : OutState} {s : State} {p p' : Phase} {i : In}
    (h : Rel0 c e s p) (hs : p.step c i = some p') (hu : p.answered c i = none) (hr : i.ready = false) :
    Rel c (clr i.clearHalt e) (step c s i).1 p' := by
  refine ⟨rel0_step hmps h hs ?_ ?_, rr_eq_cr_step c s i hr⟩
  · simp only [Acct.step, hu, acctOf, clr]
    cases i.clearHalt <;> rfl
  · simp only [Acct.step, hu, transfers_not_ready i _ hr, List.nil_append, List.append_nil, clr]
    cases i.clearHalt <;> rfl

theorem answered_none_of_rxReady {c : Config} {p : Phase} {i : In} (h : i.rxReady = false) :
    p.answered c i = none := by
  cases p <;> simp [Phase.answered, h]

/-- no response request answered, no PING: the handshake lines are low -/
theorem hs_low {c : Config} {s : State} {p p' : Phase} {i : In} (hs : p.step c i = some p')
    (hu : p.answered c i = none) (ht : i.tokReady = false) :
    (step c s i).2.ack = false ∧ (step c s i).2.nak = false := by
  suffices h : ¬((outOf c s i).ack = true ∨ (outOf c s i).nak = true) from
    ⟨Bool.eq_false_iff.mpr fun ha => h (.inl ha), Bool.eq_false_iff.mpr fun hn => h (.inr hn)⟩
  intro h
  -- a handshake needs a response request under an OUT token for the endpoint (no PING here) …
  obtain ⟨hep, ⟨ho, hr⟩ | ⟨_, h3⟩⟩ := handshake_only_when_requested c s i h
  · have htg : (Tok.of i).targets c = true := by simp [Tok.targets, Tok.of, hep, ho]
    -- … which the acceptor takes only in the phases where `answered` is defined, with the registers' token
    cases p with
    | idle => simp [(step_idle_inv hs).2.1] at hr
    | tok t => simp [(step_tok_inv hs).1] at hr
    | rx t pid sent now buf => simp [(step_rx_inv hs).2.1] at hr
    | finByte t pid sent now ok =>
      obtain rfl := (stable_inv (step_finByte_inv hs).1).1
      simp [Phase.answered, hr, htg] at hu
    | finStrobe t pid bytes ok responded =>
      obtain rfl := (stable_inv (step_finStrobe_inv hs).1).1
      simp [Phase.answered, hr, htg] at hu
    | finWait t pid bytes =>
      obtain rfl := (stable_inv (step_finWait_inv hs).1).1
      simp [Phase.answered, hr, htg] at hu
  · simp [ht] at h3

theorem wire1_low {i : In} {o : Out} (h1 : o.ack = false) (h2 : o.nak = false) (h3 : i.ready = false) :
    wire1 i o = [] := by
  simp [wire1, h1, h2, transfers_not_ready i o h3]

/-- a cycle without a response request, a PING response request, a halt-clear strobe or a consumer read -/
structure Quiet (i : In) : Prop where
  rxReady   : i.rxReady = false
  tokReady  : i.tokReady = false
  clearHalt : i.clearHalt = false
  ready     : i.ready = false

theorem ref_quiet1 {c : Config} (hmps : 1 ≤ c.mps) {e : OutState} {p p' : Phase} {i : In}
    (hs : p.step c i = some p') (hq : Quiet i) : Ref c p p' e e [i] [] := by
  apply Ref.single
  intro s hr
  have hu : p.answered c i = none := answered_none_of_rxReady hq.rxReady
  have h1 := unanswered_step hmps hr.1 hs hu hq.ready
  rw [hq.clearHalt] at h1
  obtain ⟨a, b⟩ := hs_low (s := s) hs hu hq.tokReady
  exact ⟨h1, wire1_low a b hq.ready⟩

theorem ref_quiet {c : Config} (hmps : 1 ≤ c.mps) {e : OutState} (is : List In) :
    ∀ {p p' : Phase}, Phase.run c p is = some p' → (∀ j ∈ is, Quiet j) → Ref c p p' e e is [] := by
  induction is with
  | nil =>
    intro p p' hr _
    obtain rfl : p = p' := Option.some.inj hr
    exact Ref.nil
  | cons i is ih =>
    intro p p' hr hq
    obtain ⟨p1, hs, hr⟩ := Phase.run_cons hr
    exact (ref_quiet1 hmps hs (hq i (by simp))).append (ih hr (fun j hj => hq j (by simp [hj])))

/-! ### The cycles between the strobes -/

/-- A cycle without any strobe while the token registers show `tk`: no receiver activity, no response request, the
consumer does not read.  `rx_pid_toggle` and the receiver's payload lines are taken from the arbitrary record `n`. -/
def envIn (tk : Tk) (n : In) : In :=
  { n with rx := ⟨false, false, n.rx.payload, false, false⟩, rxReady := false, tokEp := tk.ep,
           tokIsOut := tk.pid == PID_OUT, tokIsPing := tk.pid == PID_PING, tokReady := false, tokNew := false,
           clearHalt := false, ready := false }

def idle (tk : Tk) (ns : List In) : List In := ns.map (envIn tk)

/-- the acceptor's phase between transactions: `armed` = the last event was a token for this device (or left one
open), whose fields the registers `tk` still show -/
def phOf (armed : Bool) (tk : Tk) : Phase := if armed then .tok (tokOf tk) else .idle

theorem phOf_quiet (a : Bool) (tk : Tk) : (phOf a tk).quiet = true := by cases a <;> rfl

/-- a cycle between transactions in which the consumer does not read: of the strobes only
`tokenizer.ready_for_response` and halt-clear may be active; the acceptor stays where it is, and without
`ready_for_response` the handshake lines stay low -/
theorem between_step {c : Config} (hmps : 1 ≤ c.mps) {e : OutState} {s : State} (a : Bool) (tk : Tk) (n : In)
    (t h : Bool) (i : In) (hi : i = { envIn tk n with tokReady := t, clearHalt := h }) (hr : Rel0 c e s (phOf a tk)) :
    Rel c (clr h e) (step c s i).1 (phOf a tk) ∧ (t = false → wire1 i (step c s i).2 = []) := by
  subst hi
  have hs : (phOf a tk).step c { envIn tk n with tokReady := t, clearHalt := h } = some (phOf a tk) := by
    cases a <;> simp [phOf, Phase.step, envIn, isByte, strobeAny, Tok.of, tokOf]
  have hu : (phOf a tk).answered c { envIn tk n with tokReady := t, clearHalt := h } = none :=
    answered_none_of_rxReady rfl
  refine ⟨unanswered_step hmps hr hs hu rfl, fun ht => ?_⟩
  obtain ⟨x, y⟩ := hs_low (s := s) hs hu ht
  exact wire1_low x y rfl

theorem ref_idle {c : Config} (hmps : 1 ≤ c.mps) (e : OutState) (a : Bool) (tk : Tk) (ns : List In) :
    Ref c (phOf a tk) (phOf a tk) e e (idle tk ns) [] := by
  induction ns with
  | nil => exact Ref.nil
  | cons n ns ih =>
    refine Ref.append (a := [envIn tk n]) (w1 := []) (Ref.single fun s hr => ?_) ih
    obtain ⟨x, y⟩ := between_step hmps a tk n false false (envIn tk n) rfl hr.1
    exact ⟨x, y rfl⟩

/-- idle cycles after which the registers change from `tk` to `tk'` without a `new_token` strobe (a token for another
device clears the PID): an open token is forgotten -/
theorem ref_idle_switch {c : Config} (hmps : 1 ≤ c.mps) (e : OutState) (a : Bool) (tk tk' : Tk) (ns : List In) :
    Ref c (phOf a tk) (phOf (a && tk' == tk) tk') e e (idle tk ns) [] := by
  by_cases hk : tk' = tk
  · subst hk
    simpa using ref_idle hmps e a tk' ns
  · have hb : (tk' == tk) = false := by simpa using hk
    rw [hb, Bool.and_false]
    intro s hr
    obtain ⟨h1, h2⟩ := ref_idle hmps e a tk ns s hr
    refine ⟨⟨?_, h1.2⟩, h2⟩
    cases a
    · exact h1.1
    · exact rel0_weaken h1.1

/-! ### Token -/

def ntIn (tk : Tk) (n : In) : In := { envIn tk n with tokNew := true }
def trIn (tk : Tk) (n : In) : In := { envIn tk n with tokReady := true }

/-- the cycle in which the token detector strobes `new_token` (registers already show the new token) -/
theorem ref_newToken {c : Config} (hmps : 1 ≤ c.mps) (e : OutState) (a : Bool) (tk tk' : Tk) (n : In) :
    Ref c (phOf a tk) (phOf true tk') e e [ntIn tk' n] [] := by
  apply ref_quiet1 hmps _ ⟨rfl, rfl, rfl, rfl⟩
  have hwf := tokOf_wf tk'
  have htk : Tok.of (ntIn tk' n) = tokOf tk' := rfl
  have hb : isByte (ntIn tk' n) = false := rfl
  have hr : (ntIn tk' n).rxReady = false := rfl
  have hn : (ntIn tk' n).tokNew = true := rfl
  cases a <;> simp [phOf, Phase.step, htk, hb, hr, hn, hwf]

def ownPing (ec : EpCfg) (tk : Tk) : Prop := tk.ep = ec.num ∧ tk.pid = PID_PING
instance (ec : EpCfg) (tk : Tk) : Decidable (ownPing ec tk) := by unfold ownPing; infer_instance

/-- the `ready_for_response` cycle of the token: a PING for this endpoint is answered ACK iff
`space_available ≥ max_packet_size`, where `space_available` = `buffer_size` − the committed entries -/
theorem ref_tokReady (ec : EpCfg) (hw : 0 < ec.size) (e : OutState) (tk : Tk) (n : In) :
    Ref (cfgOf ec) (phOf true tk) (phOf true tk) e e [trIn tk n]
      (if ownPing ec tk then wiresOf { resp := outPing ec e } else []) := by
  apply Ref.single
  intro s hr
  refine ⟨(between_step (c := cfgOf ec) hw true tk n true false _ rfl hr.1).1, ?_⟩
  have hsp := (rel_space_eq hr (phOf_quiet true tk)).1
  obtain ⟨hack, hnak⟩ : (step (cfgOf ec) s (trIn tk n)).2.ack
        = (tk.ep == ec.num && tk.pid == PID_PING && decide (ec.size ≤ ec.depth - e.fifo.length)) ∧
      (step (cfgOf ec) s (trIn tk n)).2.nak
        = (tk.ep == ec.num && tk.pid == PID_PING && !decide (ec.size ≤ ec.depth - e.fifo.length)) := by
    simp only [step, outOf, comb, hsp]
    simp [trIn, envIn, cfgOf]
    exact ⟨rfl, rfl⟩
  simp only [wire1, hack, hnak, transfers_not_ready (trIn tk n) _ rfl, List.map_nil, List.append_nil]
  by_cases ho : ownPing ec tk
  · obtain ⟨h1, h2⟩ := ho
    simp only [ownPing, h1, h2, and_self, if_true, wiresOf, outPing, List.map_nil, List.append_nil]
    by_cases hsz : ec.size ≤ ec.depth - e.fifo.length <;> simp [hsz, PID_ACK, PID_NAK]
  · simp only [ho, if_false]
    simp only [ownPing] at ho
    by_cases h1 : tk.ep = ec.num <;> by_cases h2 : tk.pid = PID_PING <;> simp_all

/-! ### Handshake (the halt-clear strobe accompanies a host ACK) -/

def hsIn (tk : Tk) (n : In) (halt : Bool) : In := { envIn tk n with clearHalt := halt }

theorem ref_hs {c : Config} (hmps : 1 ≤ c.mps) (e : OutState) (a : Bool) (tk : Tk) (n : In) (halt : Bool) :
    Ref c (phOf a tk) (phOf a tk) e (clr halt e) [hsIn tk n halt] [] := by
  apply Ref.single
  intro s hr
  obtain ⟨x, y⟩ := between_step hmps a tk n false halt _ rfl hr.1
  exact ⟨x, y rfl⟩

/-! ### Consumer -/

def rdIn (tk : Tk) (n : In) : In := { envIn tk n with ready := true }

theorem consume_step {c : Config} (hmps : 1 ≤ c.mps) (e : OutState) (a : Bool) (tk : Tk) (n : In) (s : State)
    (hr : Rel0 c e s (phOf a tk)) :
    Rel0 c { e with fifo := e.fifo.drop 1 } (step c s (rdIn tk n)).1 (phOf a tk) ∧
    wire1 (rdIn tk n) (step c s (rdIn tk n)).2 = (e.fifo.take 1).map (fun x => Wire.xfer (dec x)) := by
  have hs : (phOf a tk).step c (rdIn tk n) = some (phOf a tk) := by
    cases a <;> simp [phOf, Phase.step, rdIn, envIn, isByte, strobeAny, Tok.of, tokOf]
  have hu : (phOf a tk).answered c (rdIn tk n) = none := answered_none_of_rxReady rfl
  obtain ⟨q, hrel, _, hC⟩ := rel0_fifo hr (phOf_quiet a tk)
  have htr : transfers [rdIn tk n] [(step c s (rdIn tk n)).2] = (e.fifo.take 1).map dec := by
    rw [transfer_now _ hrel]
    have h0 : q.taken (rdIn tk n).ready = q.C.take 1 := by
      cases h : q.C <;> simp [TxnFifo.Queue.taken, rdIn, h]
    rw [h0, List.map_take, hC, ← List.map_take]
  obtain ⟨x, y⟩ := hs_low (s := s) hs hu rfl
  refine ⟨rel0_step hmps hr hs ?_ ?_, ?_⟩
  · have hc : (rdIn tk n).clearHalt = false := rfl
    simp only [Acct.step, hu, hc]; rfl
  · simp only [Acct.step, hu, htr, List.append_nil, ← List.map_append, List.take_append_drop]
  · simp only [wire1, x, y, htr, List.map_map]; rfl

/-- The cycles of a `consume n` event: `n` cycles with `stream.ready`, any number of idle cycles (`gs k`) before
the `k`-th. -/
def consCyc (tk : Tk) (gs : Nat → List In) (ns : Nat → In) : Nat → Nat → List In
  | _, 0 => []
  | k, m + 1 => idle tk (gs k) ++ (rdIn tk (ns k) :: consCyc tk gs ns (k + 1) m)

theorem idle_rel0 {c : Config} (hmps : 1 ≤ c.mps) (e : OutState) (a : Bool) (tk : Tk) (ns : List In) (s : State)
    (hr : Rel0 c e s (phOf a tk)) :
    Rel0 c e (runState c s (idle tk ns)) (phOf a tk) ∧ cycWires c s (idle tk ns) = [] := by
  induction ns generalizing s with
  | nil => exact ⟨hr, rfl⟩
  | cons n ns ih =>
    obtain ⟨x, y⟩ := between_step hmps a tk n false false (envIn tk n) rfl hr
    obtain ⟨b1, b2⟩ := ih _ x.1
    refine ⟨b1, ?_⟩
    simp only [idle, List.map_cons, cycWires, y rfl, List.nil_append]
    simpa only [idle] using b2

theorem consume_run {c : Config} (hmps : 1 ≤ c.mps) (a : Bool) (tk : Tk) (gs : Nat → List In) (ns : Nat → In)
    (m : Nat) : ∀ (k : Nat) (e : OutState) (s : State), Rel0 c e s (phOf a tk) →
      Rel0 c { e with fifo := e.fifo.drop m } (runState c s (consCyc tk gs ns k m)) (phOf a tk) ∧
      cycWires c s (consCyc tk gs ns k m) = (e.fifo.take m).map (fun x => Wire.xfer (dec x)) := by
  induction m with
  | zero => intro k e s hr; exact ⟨hr, rfl⟩
  | succ m ih =>
    intro k e s hr
    obtain ⟨a1, a2⟩ := idle_rel0 hmps e a tk (gs k) s hr
    obtain ⟨b1, b2⟩ := consume_step hmps e a tk (ns k) _ a1
    obtain ⟨d1, d2⟩ := ih (k + 1) _ _ b1
    refine ⟨?_, ?_⟩
    · simp only [consCyc, runState_append, runState]
      simpa [Nat.add_comm] using d1
    · simp only [consCyc, cycWires_append, cycWires, a2, b2, d2, List.nil_append, ← List.map_append]
      congr 1
      rw [Nat.add_comm m 1, List.take_add]

/-- the reads of a `consume n` event and the cycle after the last one (which finalises it) -/
theorem ref_consume {c : Config} (hmps : 1 ≤ c.mps) (e : OutState) (a : Bool) (tk : Tk) (gs : Nat → List In)
    (ns : Nat → In) (fin : In) (m : Nat) :
    Ref c (phOf a tk) (phOf a tk) e { e with fifo := e.fifo.drop m } (consCyc tk gs ns 0 m ++ [envIn tk fin])
      ((e.fifo.take m).map (fun x => Wire.xfer (dec x))) := by
  intro s hr
  obtain ⟨a1, a2⟩ := consume_run hmps a tk gs ns m 0 e s hr.1
  obtain ⟨x, y⟩ := between_step hmps a tk fin false false (envIn tk fin) rfl a1
  refine ⟨by simp only [runState_append, runState]; exact x, ?_⟩
  simp only [cycWires_append, cycWires, a2, y rfl, List.append_nil]

/-! ### The data transaction -/

/-- the data packet (PID toggle bits, payload) whose end the host has signalled -/
def pktOf : Phase → Option (Nat × List Nat)
  | .finByte _ pid sent now _ => some (pid, sent ++ now.toList)
  | .finStrobe _ pid bytes _ _ => some (pid, bytes)
  | .finWait _ pid bytes => some (pid, bytes)
  | _ => none

theorem answered_own {c : Config} {t : Tok} {p : Phase} {i : In} {x : Nat × List Nat} (h : p.token = some t)
    (ht : t.targets c = true) (hp : pktOf p = some x) (hr : i.rxReady = true) : p.answered c i = some x := by
  cases p <;> simp only [pktOf, reduceCtorEq] at hp <;>
    (simp only [Phase.token, Option.some.injEq] at h; subst h
     simpa only [Phase.answered, hr, ht, Bool.and_self, if_true] using hp)

def accept (mps : Nat) (e : OutState) (p : List Nat) : OutState :=
  { toggle := !e.toggle, fifo := e.fifo ++ outEntries mps e.active p, active := decide (p.length = mps) }

theorem dec_outEntry (mps len : Nat) (active : Bool) (i b : Nat) :
    dec (outEntry mps len active i b) = (b % 256, decide (i = 0) && !active, decide (i + 1 = len ∧ i + 1 ≠ mps)) := by
  have h : outEntry mps len active i b
      = entry b (decide (i + 1 = len ∧ i + 1 ≠ mps)) (decide (i = 0) && !active) := by
    simp [outEntry, entry]
  rw [h, dec_entry]

theorem zip_marks (mps len : Nat) (active : Bool) (p : List Nat) :
    ∀ k, k + p.length = len →
      (List.zipWith (fun i b => outEntry mps len active i b) (List.range' k p.length) p).map dec
        = marks (decide (k = 0) && !active) (decide (len ≠ mps)) p := by
  induction p with
  | nil => intro k _; rfl
  | cons b bs ih =>
    intro k hk
    cases bs with
    | nil =>
      simp only [List.length_cons, List.length_nil] at hk
      simp [marks, dec_outEntry, hk]
    | cons b' bs' =>
      have := ih (k + 1) (by simp only [List.length_cons] at hk ⊢; omega)
      simp only [List.length_cons] at hk this
      simp only [List.length_cons, List.range', List.zipWith_cons_cons, List.map_cons, marks, dec_outEntry] at this ⊢
      rw [this]
      have h1 : ¬(k + 1 = len) := by omega
      simp [h1]

/-- the FIFO entries the event-level model appends for an accepted packet are, decoded, C13's `pktEntries` -/
theorem outEntries_dec (c : Config) (active : Bool) (p : List Nat) (h : p.length ≤ c.mps) :
    (outEntries c.mps active p).map dec = pktEntries c active p := by
  simp only [outEntries, pktEntries, List.range_eq_range']
  rw [zip_marks c.mps p.length active p 0 (by omega)]
  have : decide (p.length ≠ c.mps) = decide (p.length < c.mps) := by
    rw [Bool.eq_iff_iff]; simp only [decide_eq_true_eq]; omega
  simp [this]

theorem tn_inj (a b : Bool) : (tn a = tn b) ↔ a = b := by cases a <;> cases b <;> simp [tn]

/-- the response request for a packet addressed to the endpoint that has lost no byte: ACK; with the expected
toggle the packet's entries have been committed and the toggle advances -/
theorem resp_step {c : Config} (hmps : 1 ≤ c.mps) {e : OutState} {s : State} {pk p' : Phase} {i : In} {b : Bool}
    {bytes : List Nat} (h : Rel0 c e s pk) (hs : pk.step c i = some p')
    (ha : pk.answered c i = some (tn b, bytes)) (hlen : bytes.length ≤ c.mps)
    (hovf : s.overflow = false) (hnl : (comb c s i).dataIsLost = false)
    (hc : i.clearHalt = false) (hr : i.ready = false) :
    Rel c (if b = e.toggle then accept c.mps e bytes else e) (step c s i).1 p' ∧
    wire1 i (step c s i).2 = [Wire.ack] := by
  have hack : (step c s i).2.ack = true ∧ (step c s i).2.nak = false := by
    obtain ⟨w, del, hsim, _, _⟩ := h
    obtain ⟨hd, hp, _⟩ := answered_inv hsim hs ha
    have hnak := nak_iff_cannot_take_partial c s i hd hp
    have hex := ack_eq_not_nak c s i hd hp
    have hn : (outOf c s i).nak = false := by
      cases hk : (outOf c s i).nak
      · rfl
      · have := (hnak.mp hk).2
        simp [hovf, hnl] at this
    exact ⟨by show (outOf c s i).ack = true; rw [hex, hn]; rfl, hn⟩
  refine ⟨⟨rel0_step hmps h hs ?_ ?_, rr_eq_cr_step c s i hr⟩, ?_⟩
  · simp only [Acct.step, ha, hack.1, hc, acctOf, Bool.true_and, beq_iff_eq, tn_inj]
    have hbe : (bytes.length == c.mps) = decide (bytes.length = c.mps) := by
      rw [Bool.eq_iff_iff]; simp
    by_cases hb : b = e.toggle
    · simp [hb, accept, hbe]
    · simp [hb]
  · simp only [Acct.step, ha, hack.1, hc, acctOf, Bool.true_and, beq_iff_eq, tn_inj,
      transfers_not_ready i _ hr, List.nil_append]
    by_cases hb : b = e.toggle
    · simp only [hb, if_true, accept, List.map_append, outEntries_dec c e.active bytes hlen]
    · simp [hb]
  · simp [wire1, hack.1, hack.2, transfers_not_ready i _ hr]

/-- cycles of a data transaction other than the response request -/
def calm (j : In) : Bool := !j.rxReady && !j.tokReady && !j.clearHalt && !j.ready && !j.tokNew

theorem calm_inv {j : In} (h : calm j = true) : Quiet j ∧ j.tokNew = false := by
  simp only [calm, Bool.and_eq_true, Bool.not_eq_true'] at h
  exact ⟨⟨h.1.1.1.1, h.1.1.1.2, h.1.1.2, h.1.2⟩, h.2⟩

/-- **The cycles of a `data pid p crcOk` event** (`seg`, then — for a CRC-valid packet — the response request `resp`
and `tail`) form a transaction of C13's `LegalHost` acceptor that follows the token `t`: from `tok t` the acceptor
runs through `seg` to a phase in which the receiver has signalled the end of a packet with PID toggle `pidT` and
payload `p`, accepts `resp` (which carries `rx_ready_for_response`) and returns to `idle` through `tail`; a corrupted
packet has no response request.  Outside `resp` there is no response request, no `tokenizer.ready_for_response`, no
halt-clear strobe, no new token, and the consumer does not read (stream events happen between transactions). -/
def segOk (c : Config) (t : Tok) (pidT : Nat) (p : List Nat) (crcOk : Bool) (seg : List In) (resp : In)
    (tail : List In) : Bool :=
  (seg ++ tail).all calm &&
  if crcOk then
    match Phase.run c (.tok t) seg with
    | some pk =>
      pktOf pk == some (pidT, p) &&
      (match pk.step c resp with
       | some p' => Phase.run c p' tail == some .idle
       | none => false) &&
      resp.rxReady && !resp.tokReady && !resp.clearHalt && !resp.ready && !resp.tokNew
    | none => false
  else Phase.run c (.tok t) (seg ++ tail) == some .idle

theorem segOk_good {c : Config} {t : Tok} {pidT : Nat} {p : List Nat} {seg tail : List In} {resp : In}
    (h : segOk c t pidT p true seg resp tail = true) :
    (∀ j ∈ seg, Quiet j ∧ j.tokNew = false) ∧ (∀ j ∈ tail, Quiet j ∧ j.tokNew = false) ∧
    ∃ pk p', Phase.run c (.tok t) seg = some pk ∧ pktOf pk = some (pidT, p) ∧ pk.step c resp = some p' ∧
      Phase.run c p' tail = some .idle ∧ resp.rxReady = true ∧ resp.tokReady = false ∧ resp.clearHalt = false ∧
      resp.ready = false ∧ resp.tokNew = false := by
  simp only [segOk, Bool.and_eq_true, List.all_eq_true, if_true] at h
  obtain ⟨hall, h2⟩ := h
  refine ⟨fun j hj => calm_inv (hall j (by simp [hj])), fun j hj => calm_inv (hall j (by simp [hj])), ?_⟩
  cases hrun : Phase.run c (.tok t) seg with
  | none => simp [hrun] at h2
  | some pk =>
    simp only [hrun, Bool.and_eq_true, beq_iff_eq, Bool.not_eq_true'] at h2
    obtain ⟨⟨⟨⟨⟨⟨h3, h4⟩, h5⟩, h6⟩, h7⟩, h8⟩, h9⟩ := h2
    cases hst : pk.step c resp with
    | none => simp [hst] at h4
    | some p' =>
      simp only [hst, beq_iff_eq] at h4
      exact ⟨pk, p', rfl, h3, hst, h4, h5, h6, h7, h8, h9⟩

theorem segOk_bad {c : Config} {t : Tok} {pidT : Nat} {p : List Nat} {seg tail : List In} {resp : In}
    (h : segOk c t pidT p false seg resp tail = true) :
    (∀ j ∈ seg ++ tail, Quiet j ∧ j.tokNew = false) ∧ Phase.run c (.tok t) (seg ++ tail) = some .idle := by
  simp only [segOk, Bool.and_eq_true, List.all_eq_true, Bool.false_eq_true, if_false, beq_iff_eq] at h
  exact ⟨fun j hj => calm_inv (h.1 j hj), h.2⟩

/-- `segOk` over C13's stricter acceptor `Phase.stepStrict`: EVERY packet on the bus, also one that follows a token
for another endpoint, is bounded by this endpoint's `max_packet_size` -/
def segOkStrict (c : Config) (t : Tok) (pidT : Nat) (p : List Nat) (crcOk : Bool) (seg : List In) (resp : In)
    (tail : List In) : Bool :=
  (seg ++ tail).all calm &&
  if crcOk then
    match Phase.runStrict c (.tok t) seg with
    | some pk =>
      pktOf pk == some (pidT, p) &&
      (match pk.stepStrict c resp with
       | some p' => Phase.runStrict c p' tail == some .idle
       | none => false) &&
      resp.rxReady && !resp.tokReady && !resp.clearHalt && !resp.ready && !resp.tokNew
    | none => false
  else Phase.runStrict c (.tok t) (seg ++ tail) == some .idle

/-- so the refinement theorems below also hold under `segOkStrict` -/
theorem segOkStrict_imp {c : Config} {t : Tok} {pidT : Nat} {p : List Nat} {crcOk : Bool} {seg tail : List In}
    {resp : In} (h : segOkStrict c t pidT p crcOk seg resp tail = true) : segOk c t pidT p crcOk seg resp tail = true := by
  cases crcOk with
  | false =>
    simp only [segOkStrict, Bool.and_eq_true, Bool.false_eq_true, if_false, beq_iff_eq] at h
    simp only [segOk, Bool.and_eq_true, Bool.false_eq_true, if_false, beq_iff_eq]
    exact ⟨h.1, runStrict_imp h.2⟩
  | true =>
    -- each of the three runs of the strict acceptor is a run of the acceptor
    simp only [segOkStrict, if_true] at h
    cases hr : Phase.runStrict c (.tok t) seg with
    | none => simp [hr] at h
    | some pk =>
      cases hs : pk.stepStrict c resp with
      | none => simp [hr, hs] at h
      | some p' =>
        cases ht : Phase.runStrict c p' tail with
        | none => simp [hr, hs, ht] at h
        | some pf =>
          simpa only [segOk, if_true, hr, hs, ht, runStrict_imp hr, stepStrict_imp hs, runStrict_imp ht] using h

def dataCyc (crcOk : Bool) (seg : List In) (resp : In) (tail : List In) : List In :=
  if crcOk then seg ++ resp :: tail else seg ++ tail

/-- a corrupted packet: nothing happens -/
theorem ref_data_bad {c : Config} (hmps : 1 ≤ c.mps) (e : OutState) {t : Tok} {pidT : Nat} {p : List Nat}
    {seg tail : List In} {resp : In} (h : segOk c t pidT p false seg resp tail = true) :
    Ref c (.tok t) .idle e e (dataCyc false seg resp tail) [] := by
  obtain ⟨hq, hrun⟩ := segOk_bad h
  exact ref_quiet hmps _ hrun (fun j hj => (hq j hj).1)

/-- **a CRC-valid packet for this endpoint that fits into the FIFO**: no byte is lost (C13's `no_loss_run`), so
the response is ACK; with the expected toggle the packet is committed and the toggle advances, with the other
toggle (a retransmission whose ACK the host missed) nothing else happens -/
theorem ref_data_own {c : Config} (hmps : 1 ≤ c.mps) (e : OutState) {t : Tok} {b : Bool} {p : List Nat}
    {seg tail : List In} {resp : In} (ht : t.targets c = true) (hfit : e.fifo.length + p.length ≤ c.depth)
    (h : segOk c t (tn b) p true seg resp tail = true) :
    Ref c (.tok t) .idle e (if b = e.toggle then accept c.mps e p else e) (dataCyc true seg resp tail)
      [Wire.ack] := by
  obtain ⟨hq1, hq2, pk, p', hrun, hpkt, hst, hrun2, hrx, htr, hch, hrd, _⟩ := segOk_good h
  have hn1 : ∀ j ∈ seg, j.tokNew = false := fun j hj => (hq1 j hj).2
  -- the phase in which the packet has ended still carries the transaction's token
  have htk : pk.token = some t := (token_run seg hrun rfl hn1 (by rintro rfl; simp [pktOf] at hpkt)).1
  have ha := answered_own (c := c) htk ht hpkt hrx
  have hlen : p.length ≤ c.mps := answered_le_mps hrun ha
  intro s hr
  obtain ⟨a1, a2⟩ := ref_quiet (e := e) hmps seg hrun (fun j hj => (hq1 j hj).1) s hr
  -- no byte of the packet meets a full FIFO
  have hnl : anyLost c s (seg ++ [resp]) = false := by
    obtain ⟨w, del, hsim, _, _⟩ := hr.1
    have hused := (rel_space_eq hr rfl).2
    exact no_loss_run hmps hfit hst ha (Nat.le_refl _) seg hsim (fun _ => by simp [Phase.handled, hused]) hrun hn1
  rw [anyLost_append] at hnl
  simp only [Bool.or_eq_false_iff, anyLost, Bool.or_false] at hnl
  have hovf : (runState c s seg).overflow = false := by
    rw [overflow_run c s seg hn1, rel0_tok_overflow hr.1, hnl.1]; rfl
  obtain ⟨b1, b2⟩ := resp_step hmps a1.1 hst ha hlen hovf hnl.2 hch hrd
  obtain ⟨d1, d2⟩ := ref_quiet (e := (if b = e.toggle then accept c.mps e p else e)) hmps tail hrun2
    (fun j hj => (hq2 j hj).1) _ b1
  refine ⟨?_, ?_⟩
  · simp only [dataCyc, if_true, runState_append, runState]; exact d1
  · simp only [dataCyc, if_true, cycWires_append, cycWires, a2, b2, d2, List.nil_append, List.append_nil]

/-! ### A data packet while the registers do not name the endpoint

The token detector does not strobe `new_token` for a token with a foreign address (it clears its PID register), so
the acceptor is in phase `idle` when the data packet of such a transaction arrives; C13's write-side invariant does
not speak about it.  (`out_cycle_refines_event` takes the data packet after a token for another endpoint of this
device the same way, from the armed acceptor weakened to `idle`.)  The registers do not name the endpoint, so nothing but the boundary detector moves: the detector
is followed through the packet by `detRel_step` (the acceptor's phases, entered at `tok t` for the registers' `t`,
serve as the description of the packet's shape only), everything else stays as between transactions. -/

/-- the detector in phase `p` of a foreign packet, everything else as in `Rel0 … idle` -/
def FRel (c : Config) (e : OutState) (s : State) (p : Phase) : Prop :=
  ∃ (w : WState) (del : List Entry), DetRel p s.det ∧ s.regs = w.r ∧
    (∃ q, TxnFifo.Rel c.depth s.fifo q ∧ q.W = w.W ∧ del ++ q.C.map dec = w.com.map dec) ∧
    w.Inv c .idle ∧ w.a = acctOf e ∧ w.acc = del ++ e.fifo.map dec

theorem frel_idle {c : Config} {e : OutState} {s : State} : FRel c e s .idle ↔ Rel0 c e s .idle :=
  ⟨fun ⟨w, del, h1, h2, h3, h4, h5, h6⟩ => ⟨w, del, ⟨h1, h2, h3, h4⟩, h5, h6⟩,
   fun ⟨w, del, ⟨h1, h2, h3, h4⟩, h5, h6⟩ => ⟨w, del, h1, h2, h3, h4, h5, h6⟩⟩

theorem frel_enter {c : Config} {e : OutState} {s : State} (t : Tok) (h : Rel0 c e s .idle) : FRel c e s (.tok t) := by
  obtain ⟨w, del, h1, h2, h3, h4, h5, h6⟩ := frel_idle.mpr h
  exact ⟨w, del, h1, h2, h3, h4, h5, h6⟩

/-- a cycle without `tokenizer.ready_for_response`, halt-clear strobe, consumer read or new token -/
def calm' (j : In) : Bool := !j.tokReady && !j.clearHalt && !j.ready && !j.tokNew

theorem calm'_of_calm {j : In} (h : calm j = true) : calm' j = true := by
  simp only [calm, calm', Bool.and_eq_true, Bool.not_eq_true'] at h ⊢
  exact ⟨⟨⟨h.1.1.1.2, h.1.1.2⟩, h.1.2⟩, h.2⟩

/-- one cycle of a foreign packet: only the detector moves, the handshake lines stay low -/
theorem foreign_step {c : Config} {e : OutState} {s : State} {p p' : Phase} {i : In} (h : FRel c e s p)
    (hs : p.step c i = some p') (hnt : (i.tokEp == c.epNum && i.tokIsOut) = false) (hc : calm' i = true) :
    FRel c e (step c s i).1 p' ∧ wire1 i (step c s i).2 = [] ∧ (step c s i).1.fifo.rr = (step c s i).1.fifo.cr := by
  simp only [calm', Bool.and_eq_true, Bool.not_eq_true'] at hc
  obtain ⟨⟨⟨htr, hch⟩, hrd⟩, hnew⟩ := hc
  obtain ⟨w, del, hdet, hregs, ⟨q, hrel, hW, hdel⟩, hinv, hwa, hacc⟩ := h
  obtain ⟨_, hreg, hack, hnak⟩ := foreign_cycle_ignored c s i hnt
  refine ⟨⟨w, del, detRel_step hdet hs, ?_, ?_, hinv, hwa, hacc⟩, ?_, rr_eq_cr_step c s i hrd⟩
  · rw [hreg, hch, hnew, ← hregs]; rfl
  · have hlegal := fifo_inputs_legal c s i (view_not_both hdet.view)
    refine ⟨q.step c.depth (fifoIn c s i), TxnFifo.rel_step hrel hlegal, ?_, ?_⟩
    · rw [← hW]; simp [TxnFifo.Queue.step_W, TxnFifo.Queue.pushed, fifoIn, comb, hnt]
    · rw [← hdel]; simp [TxnFifo.Queue.step_C, TxnFifo.Queue.taken, TxnFifo.Queue.commits, fifoIn, comb, hnt, hrd]
  · have hp : pingReq c i = false := by simp [pingReq, htr]
    rw [hp] at hack hnak
    exact wire1_low hack hnak hrd

theorem foreign_run {c : Config} (hmps : 1 ≤ c.mps) {e : OutState} {t : Tok} (ht : t.targets c = false)
    (is : List In) : ∀ {p p' : Phase} (s : State), Phase.run c p is = some p' → (∀ j ∈ is, calm' j = true) →
      (p = .idle ∨ p.token = some t) → FRel c e s p → s.fifo.rr = s.fifo.cr →
      FRel c e (runState c s is) p' ∧ cycWires c s is = [] ∧
        (runState c s is).fifo.rr = (runState c s is).fifo.cr := by
  induction is with
  | nil =>
    intro p p' s hr _ _ h hrc
    obtain rfl : p = p' := Option.some.inj hr
    exact ⟨h, rfl, hrc⟩
  | cons i is ih =>
    intro p p' s hr hc htk h hrc
    obtain ⟨p1, hs, hr⟩ := Phase.run_cons hr
    have hci := hc i (by simp)
    have hnew : i.tokNew = false := by
      simp only [calm', Bool.and_eq_true, Bool.not_eq_true'] at hci; exact hci.2
    have key : (p1 = .idle ∨ p1.token = some t) ∧ FRel c e (step c s i).1 p1 ∧ wire1 i (step c s i).2 = [] ∧
        (step c s i).1.fifo.rr = (step c s i).1.fifo.cr := by
      rcases htk with rfl | htk
      · -- the packet is over: a cycle between transactions
        have hq : Quiet i := by
          simp only [calm', Bool.and_eq_true, Bool.not_eq_true'] at hci
          exact ⟨(step_idle_inv hs).2.1, hci.1.1.1, hci.1.1.2, hci.1.2⟩
        obtain rfl : p1 = .idle := by
          obtain ⟨_, _, h3⟩ := step_idle_inv hs
          rcases h3 with ⟨h1, _⟩ | ⟨_, h1⟩
          · simp [hnew] at h1
          · exact h1
        obtain ⟨a, b⟩ := ref_quiet1 (e := e) hmps hs hq s ⟨frel_idle.mp h, hrc⟩
        simp only [runState, cycWires, List.append_nil] at a b
        exact ⟨.inl rfl, frel_idle.mpr a.1, b, a.2⟩
      · -- inside the packet the registers show its token, which does not name the endpoint
        obtain ⟨htok, htk1⟩ := token_step hs htk hnew
        exact ⟨htk1, foreign_step h hs (by rw [← htok] at ht; exact ht) hci⟩
    obtain ⟨htk1, k1, k2, k3⟩ := key
    obtain ⟨a, b, d⟩ := ih _ hr (fun j hj => hc j (by simp [hj])) htk1 k1 k3
    exact ⟨a, by simp only [cycWires, k2, b, List.append_nil], d⟩

/-- a data packet while the registers do not name the endpoint: nothing happens.  Stated from the acceptor's `idle`,
where a token for another device leaves it; after a token for another endpoint of this device the armed acceptor is
weakened to `idle` first (`rel0_weaken`). -/
theorem ref_data_unarmed {c : Config} (hmps : 1 ≤ c.mps) (e : OutState) {t : Tok} {pidT : Nat} {p : List Nat}
    {crcOk : Bool} {seg tail : List In} {resp : In} (ht : t.targets c = false)
    (h : segOk c t pidT p crcOk seg resp tail = true) :
    Ref c .idle .idle e e (dataCyc crcOk seg resp tail) [] := by
  have hrun : Phase.run c (.tok t) (dataCyc crcOk seg resp tail) = some .idle ∧
      ∀ j ∈ dataCyc crcOk seg resp tail, calm' j = true := by
    have hall : ∀ j ∈ seg ++ tail, calm' j = true := by
      have h1 := h
      simp only [segOk, Bool.and_eq_true, List.all_eq_true] at h1
      exact fun j hj => calm'_of_calm (h1.1 j hj)
    cases crcOk with
    | false => exact ⟨(segOk_bad h).2, by simpa [dataCyc] using hall⟩
    | true =>
      obtain ⟨_, _, pk, p', h1, _, h2, h3, _, h4, h5, h6, h7⟩ := segOk_good h
      refine ⟨?_, ?_⟩
      · simp only [dataCyc, if_true]
        rw [run_append h1]
        simp only [Phase.run, h2]; exact h3
      · intro j hj
        simp only [dataCyc, if_true, List.mem_append, List.mem_cons] at hj
        rcases hj with hj | rfl | hj
        · exact hall j (by simp [hj])
        · simp [calm', h4, h5, h6, h7]
        · exact hall j (by simp [hj])
  intro s hr
  obtain ⟨a, b, d⟩ := foreign_run (e := e) hmps ht _ s hrun.1 hrun.2 (.inr rfl)
    (frel_enter t hr.1) hr.2
  exact ⟨⟨frel_idle.mp a, d⟩, b⟩

/-! ### The expansion of an event -/

/-- The free parameters of an expansion (cf. `C12Sig.Gaps`): the free inputs of the idle cycles before / between /
after the strobes (any number of cycles each) and of the strobe cycles; `cgaps k` / `cn k` = the idle cycles before,
and the free inputs of, the consumer's `k`-th read, `fin` the cycle after the last read; `seg` / `resp` / `tail` =
the cycles of a data transaction (constrained by `segOk`). -/
structure Gaps where
  pre   : List In
  mid   : List In
  post  : List In
  n1    : In
  n2    : In
  cgaps : Nat → List In
  cn    : Nat → In
  fin   : In
  seg   : List In
  resp  : In
  tail  : List In

/-- The clock cycles the stream OUT endpoint sees for the event `ev`, received with the token registers `tk`; `sh` =
the shared front end's view of the event.  Token: `new_token` with the registers already showing the token, later
`ready_for_response`; handshake: one cycle carrying the halt-clear strobe; `consume n`: `n` cycles with
`stream.ready` and the cycle that finalises the last read; data: the transaction `seg ++ resp :: tail`. -/
def expand (ec : EpCfg) (tk : Tk) (sh : Shared) (ev : HostEvent) (g : Gaps) : List In :=
  let tk' := tkOf sh
  match ev with
  | .token _ _ _ =>
    if sh.newTok then
      idle tk g.pre ++ ([ntIn tk' g.n1] ++ (idle tk' g.mid ++ ([trIn tk' g.n2] ++ idle tk' g.post)))
    else idle tk g.pre ++ idle tk' g.post
  | .handshake _ => idle tk g.pre ++ ([hsIn tk' g.n1 (haltHits ec false sh)] ++ idle tk' g.post)
  | .consume ep n =>
    if ep = ec.num then
      idle tk g.pre ++ ((consCyc tk' g.cgaps g.cn 0 n ++ [envIn tk' g.fin]) ++ idle tk' g.post)
    else idle tk g.pre ++ idle tk' g.post
  | .data _ _ crcOk => dataCyc crcOk g.seg g.resp g.tail
  | _ => idle tk g.pre ++ idle tk' g.post

/-- Does the event leave a token open?  (`armed`: the acceptor is in phase `tok`, with the registers' token.) -/
def armedNext (a : Bool) (tk : Tk) (sh : Shared) (ev : HostEvent) : Bool :=
  match ev with
  | .token _ _ _ => if sh.newTok then true else a && tkOf sh == tk
  | .data _ _ _ => false
  | _ => a && tkOf sh == tk

/-- The environment hypotheses of a data event: the registers keep showing the token fields; its cycles are a
transaction of C13's acceptor carrying the event's PID toggle (`rx_pid_toggle = active_pid[3]`, as `USBDevice` wires
it), payload and CRC verdict (`segOk`); and, if the registers name this endpoint, the packet follows a token accepted
by this device (`armed`; after a token for another device the PID register is cleared) and fits into the FIFO (the
event level's `legalEvent`). -/
def EvOk (ec : EpCfg) (a : Bool) (tk : Tk) (sh : Shared) (e : OutState) (ev : HostEvent) (g : Gaps) : Prop :=
  match ev with
  | .data pid p crcOk =>
    tkOf sh = tk ∧
    segOk (cfgOf ec) (tokOf tk) (tn (pidToggleBit pid)) p crcOk g.seg g.resp g.tail = true ∧
    ((tk.ep = ec.num ∧ tk.pid = PID_OUT) → a = true ∧ e.fifo.length + p.length ≤ ec.depth)
  | _ => True

instance (ec : EpCfg) (a : Bool) (tk : Tk) (sh : Shared) (e : OutState) (ev : HostEvent) (g : Gaps) :
    Decidable (EvOk ec a tk sh e ev g) := by
  cases ev <;> unfold EvOk <;> infer_instance

theorem outData_good (mps : Nat) (e : OutState) (pid : Nat) (p : List Nat) :
    outData mps e pid p true = (if pidToggleBit pid = e.toggle then accept mps e p else e, .hs PID_ACK) := by
  simp only [outData, accept, beq_iff_eq]
  split <;> simp

theorem outData_bad (mps : Nat) (e : OutState) (pid : Nat) (p : List Nat) :
    outData mps e pid p false = (e, .none) := by
  simp only [outData]
  split <;> simp

/-- **`cycle_refines_event` for the stream OUT endpoint.**  For a max packet size ≥ 1, every host event, every
event-level state `e`, every view `tk` / `sh` of the shared front end satisfying `ShOk`, every choice of idle-cycle
counts and free input values `g`, and — for a data event — every transaction of C13's acceptor carrying the event's
packet (`EvOk`): running `StreamOutEndpoint.step` (detector, FIFO and glue logic) over the expansion from ANY
cycle-level state related to `e` ends in a state related to the event-level successor, and the endpoint's outputs
decode to exactly the event-level outputs: ACK / NAK for a PING according to the FIFO space, ACK for a CRC-valid
packet (new or repeated toggle), nothing for a corrupted or foreign one, and the FIFO entries handed to the consumer. -/
theorem out_cycle_refines_event (ec : EpCfg) (hw : 0 < ec.size) (a : Bool) (tk : Tk) (sh : Shared) (e : OutState)
    (ev : HostEvent) (g : Gaps) (hsh : C12Sig.ShOk ec sh ev) (hev : EvOk ec a tk sh e ev g) :
    Ref (cfgOf ec) (phOf a tk) (phOf (armedNext a tk sh ev) (tkOf sh)) e (outEv ec sh e ev).1
      (expand ec tk sh ev g) (wiresOf (outEv ec sh e ev).2) := by
  have hmps : 1 ≤ (cfgOf ec).mps := hw
  have hother : sh.newTok = false → sh.halt = none →
      Ref (cfgOf ec) (phOf a tk) (phOf (a && tkOf sh == tk) (tkOf sh)) e (outPre ec sh e)
        (idle tk g.pre ++ idle (tkOf sh) g.post) (wiresOf {}) := by
    intro _ h2
    rw [outPre_quiet ec sh e h2]
    exact (ref_idle_switch hmps e a tk (tkOf sh) g.pre).append (ref_idle hmps e _ (tkOf sh) g.post)
  cases ev with
  | token pid addr ep =>
    have hpre : outPre ec sh e = e := outPre_quiet ec sh e hsh
    by_cases hnt : sh.newTok = true
    · simp only [expand, armedNext, hnt, if_true, outEv, hpre, true_and]
      have := (ref_idle hmps e a tk g.pre).append ((ref_newToken hmps e a tk (tkOf sh) g.n1).append
        ((ref_idle hmps e true (tkOf sh) g.mid).append ((ref_tokReady ec hw e (tkOf sh) g.n2).append
          (ref_idle hmps e true (tkOf sh) g.post))))
      by_cases ho : ownPing ec (tkOf sh)
      · have ho' : sh.tokEp = ec.num ∧ sh.tokPid = PID_PING := ho
        simp only [ho', and_self, if_true]
        exact this.wires_eq (by simp [ho])
      · have ho' : ¬(sh.tokEp = ec.num ∧ sh.tokPid = PID_PING) := ho
        simp only [ho', if_false]
        exact this.wires_eq (by simp [ho, wiresOf])
    · have hnt : sh.newTok = false := by simpa using hnt
      have := hother hnt hsh
      simpa only [expand, armedNext, hnt, Bool.false_eq_true, if_false, outEv, false_and, hpre] using this
  | handshake pid =>
    have hpre : outPre ec sh e = clr (haltHits ec false sh) e := rfl
    simp only [expand, armedNext, outEv, hpre]
    exact (ref_idle_switch hmps e a tk (tkOf sh) g.pre).append
      ((ref_hs hmps e (a && tkOf sh == tk) (tkOf sh) g.n1 (haltHits ec false sh)).append
        (ref_idle hmps _ (a && tkOf sh == tk) (tkOf sh) g.post))
  | consume ep n =>
    have hpre : outPre ec sh e = e := outPre_quiet ec sh e hsh.2
    by_cases hep : ep = ec.num
    · simp only [expand, armedNext, outEv, hpre, hep, if_true]
      have := (ref_idle_switch hmps e a tk (tkOf sh) g.pre).append
        ((ref_consume hmps e (a && tkOf sh == tk) (tkOf sh) g.cgaps g.cn g.fin n).append
          (ref_idle hmps _ (a && tkOf sh == tk) (tkOf sh) g.post))
      exact this.wires_eq (by simp [wiresOf])
    · have := hother hsh.1 hsh.2
      simpa only [expand, armedNext, outEv, hep, if_false, hpre] using this
  | data pid p crcOk =>
    have hpre : outPre ec sh e = e := outPre_quiet ec sh e hsh.2
    obtain ⟨htk, hseg, hfit⟩ := hev
    have hsh' : sh.tokEp = tk.ep ∧ sh.tokPid = tk.pid := by rw [← htk]; exact ⟨rfl, rfl⟩
    simp only [expand, armedNext, outEv, hpre, hsh'.1, hsh'.2]
    have hidle : phOf false (tkOf sh) = .idle := rfl
    rw [hidle]
    by_cases hown : tk.ep = ec.num ∧ tk.pid = PID_OUT
    · have ht : (tokOf tk).targets (cfgOf ec) = true := (tokOf_targets ec tk).mpr hown
      obtain ⟨ha, hfit'⟩ := hfit hown
      subst ha
      have harm : phOf true tk = .tok (tokOf tk) := rfl
      rw [harm]
      simp only [hown, and_self, if_true]
      cases crcOk with
      | false =>
        rw [outData_bad]
        exact ref_data_bad hmps e hseg
      | true =>
        rw [outData_good]
        exact ref_data_own hmps e ht hfit' hseg
    · have ht : (tokOf tk).targets (cfgOf ec) = false := by
        cases h : (tokOf tk).targets (cfgOf ec)
        · rfl
        · exact absurd ((tokOf_targets ec tk).mp h) hown
      simp only [hown, if_false]
      have := ref_data_unarmed hmps e ht hseg
      cases a with
      | false => exact this
      | true => exact fun s hr => this s ⟨rel0_weaken hr.1, hr.2⟩
  | _ =>
    have := hother hsh.1 hsh.2
    simpa only [expand, armedNext, outEv] using this

/-! ### Histories of the slice machine control endpoint × stream OUT endpoint -/

def tkD (d : DevState) : Tk := ⟨d.tokPid, d.tokEp⟩

/-- The cycles of a whole history (every event with its own idle-cycle counts, free inputs and transaction). -/
def expandAll (c : DevConfig) (ec : EpCfg) : DevState → List (HostEvent × Gaps) → List In
  | _, [] => []
  | d, (ev, g) :: rest => expand ec (tkD d) (sharedOf c d ev) ev g ++ expandAll c ec (core c d ev).1 rest

def cycObs (c : DevConfig) (ec : EpCfg) : DevState → State → List (HostEvent × Gaps) → List (List Wire)
  | _, _, [] => []
  | d, s, (ev, g) :: rest =>
    let is := expand ec (tkD d) (sharedOf c d ev) ev g
    cycWires (cfgOf ec) s is :: cycObs c ec (core c d ev).1 (runState (cfgOf ec) s is) rest

/-- `EvOk` along a history: the cycles of every data event are a transaction of C13's acceptor carrying its packet,
and a packet received while the registers name this endpoint follows a token accepted by this device and fits into
the FIFO as the event-level model has it at that point. -/
def histOk (c : DevConfig) (ec : EpCfg) : DevState → OutState → Bool → List (HostEvent × Gaps) → Bool
  | _, _, _, [] => true
  | d, e, a, (ev, g) :: rest =>
    decide (EvOk ec a (tkD d) (sharedOf c d ev) e ev g) &&
      histOk c ec (core c d ev).1 (outEv ec (sharedOf c d ev) e ev).1 (armedNext a (tkD d) (sharedOf c d ev) ev) rest

/-- **`cycle_refines_event`, histories (stream OUT)** (endpoint number ≠ 0, max packet size ≥ 1).  Along every event
history of the device satisfying `histOk` (tokens for any endpoint and address, PINGs, data packets good /
corrupted / repeated / for other endpoints, control transfers including CLEAR_FEATURE(ENDPOINT_HALT), handshakes,
consumer reads, with arbitrary idle-cycle counts and free inputs per event and any acceptor-legal cycle sequence per
data packet): the cycle-level endpoint, run over the concatenated expansions from any state related to the
event-level start state, ends related to the event-level final state of the slice machine (`C12.sliceFinal`, which
`C12.slice_of_history` identifies with the endpoint's state inside the whole device), and its outputs decode, event by
event, to the event-level outputs. -/
theorem out_cycle_refines_run (c : DevConfig) (ec : EpCfg) (hw : 0 < ec.size) (hn : 0 < ec.num)
    (h : List (HostEvent × Gaps)) :
    ∀ (d : DevState) (e : OutState) (a : Bool) (s : State), histOk c ec d e a h = true →
      Rel (cfgOf ec) e s (phOf a (tkD d)) →
      ∃ e' a', (C12.sliceFinal c ec (d, .sout e) (h.map (·.1))).2 = .sout e' ∧
        Rel (cfgOf ec) e' (runState (cfgOf ec) s (expandAll c ec d h))
          (phOf a' (tkD (C12.sliceFinal c ec (d, .sout e) (h.map (·.1))).1)) ∧
        cycObs c ec d s h = (C12.sliceRun c ec (d, .sout e) (h.map (·.1))).map wiresOf := by
  induction h with
  | nil => intro d e a s _ hr; exact ⟨e, a, rfl, hr, rfl⟩
  | cons x rest ih =>
    obtain ⟨ev, g⟩ := x
    intro d e a s hok hr
    simp only [histOk, Bool.and_eq_true, decide_eq_true_eq] at hok
    obtain ⟨a1, a2⟩ := out_cycle_refines_event ec hw a (tkD d) (sharedOf c d ev) e ev g
      (C12Sig.shOk_sharedOf c ec hn d ev) hok.1 s hr
    have htk : tkOf (sharedOf c d ev) = tkD (core c d ev).1 := rfl
    rw [htk] at a1
    obtain ⟨e', a', b1, b2, b3⟩ := ih (core c d ev).1 (outEv ec (sharedOf c d ev) e ev).1 _ _ hok.2 a1
    have hstep : C12.sliceStep c ec (d, .sout e) ev =
        (((core c d ev).1, .sout (outEv ec (sharedOf c d ev) e ev).1), (outEv ec (sharedOf c d ev) e ev).2) := by
      simp only [C12.sliceStep, epStep_sout]
    refine ⟨e', a', ?_, ?_, ?_⟩
    · simp only [List.map_cons, C12.sliceFinal, hstep]; exact b1
    · simp only [List.map_cons, C12.sliceFinal, hstep, expandAll, runState_append]; exact b2
    · simp only [List.map_cons, cycObs, C12.sliceRun, hstep, a2, b3]

/-! ### `histOk` from `legalOk`

`EpDev.legalEvent` lets a data packet only follow a token directly (`gPrevTok`) and makes an OUT packet for a stream
endpoint fit its FIFO.  `legalOk` below says these two things on the slice's own states (the flag `prevTok`, the fit
test), next to `segOk`; it is a predicate of this file, and no theorem derives it from `EpDev.LegalHost`.  The two
are enough for the `armed` part of `histOk`: the token before the packet was either
accepted by this device (so the acceptor is armed) or it was not (so the PID register has been cleared and the
registers do not name the endpoint). -/

def isToken : HostEvent → Bool
  | .token _ _ _ => true
  | _ => false

/-- every data event directly follows a token event (`prevTok`), its cycles are a transaction of C13's acceptor
carrying its packet, and it fits the FIFO if the registers name the endpoint -/
def legalOk (c : DevConfig) (ec : EpCfg) : DevState → OutState → Bool → List (HostEvent × Gaps) → Bool
  | _, _, _, [] => true
  | d, e, prevTok, (ev, g) :: rest =>
    (match ev with
     | .data pid p crcOk =>
       prevTok && segOk (cfgOf ec) (tokOf (tkD d)) (tn (pidToggleBit pid)) p crcOk g.seg g.resp g.tail &&
       decide ((d.tokEp = ec.num ∧ d.tokPid = PID_OUT) → e.fifo.length + p.length ≤ ec.depth)
     | _ => true) &&
    legalOk c ec (core c d ev).1 (outEv ec (sharedOf c d ev) e ev).1 (isToken ev) rest

theorem histOk_of_legalOk (c : DevConfig) (ec : EpCfg) (h : List (HostEvent × Gaps)) :
    ∀ (d : DevState) (e : OutState) (a prevTok : Bool), legalOk c ec d e prevTok h = true →
      (prevTok = true → a = true ∨ d.tokPid ≠ PID_OUT) → histOk c ec d e a h = true := by
  induction h with
  | nil => intro d e a pt _ _; rfl
  | cons x rest ih =>
    obtain ⟨ev, g⟩ := x
    intro d e a pt hl hj
    simp only [legalOk, Bool.and_eq_true] at hl
    obtain ⟨h1, h2⟩ := hl
    simp only [histOk, Bool.and_eq_true, decide_eq_true_eq]
    cases ev with
    | data pid p crcOk =>
      simp only [Bool.and_eq_true, decide_eq_true_eq] at h1
      obtain ⟨⟨hpt, hseg⟩, hfit⟩ := h1
      refine ⟨⟨?_, hseg, ?_⟩, ih _ _ _ _ h2 (by simp [isToken])⟩
      · have := Device.onData_tok c d p crcOk
        show (⟨(core c d (.data pid p crcOk)).1.tokPid, (core c d (.data pid p crcOk)).1.tokEp⟩ : Tk) = tkD d
        simp only [core, this.1, this.2, tkD]
      · intro hown
        refine ⟨?_, hfit hown⟩
        rcases hj hpt with ha | hne
        · exact ha
        · exact absurd hown.2 hne
    | token pid addr ep =>
      refine ⟨trivial, ih _ _ _ _ h2 ?_⟩
      intro _
      by_cases haddr : addr = d.address
      · left; simp [armedNext, sharedOf, EpDev.acceptedToken, haddr]
      · right; simp [core, haddr, PID_OUT]
    | _ => exact ⟨trivial, ih _ _ _ _ h2 (by simp [isToken])⟩

/-- **`cycle_refines_event`, histories, from reset, under `legalOk`**: a data packet directly follows a token and an
OUT packet for the endpoint fits its FIFO (the two conditions of the event level's `legalEvent` restated on the slice),
plus the shape of every packet's cycle sequence, `segOk`. -/
theorem out_cycle_refines_legal (c : DevConfig) (ec : EpCfg) (hw : 0 < ec.size) (hn : 0 < ec.num)
    (h : List (HostEvent × Gaps)) (hl : legalOk c ec Device.init {} false h = true) :
    ∃ e' a', (C12.sliceFinal c ec (Device.init, .sout {}) (h.map (·.1))).2 = .sout e' ∧
      Rel (cfgOf ec) e' (runState (cfgOf ec) init (expandAll c ec Device.init h))
        (phOf a' (tkD (C12.sliceFinal c ec (Device.init, .sout {}) (h.map (·.1))).1)) ∧
      cycObs c ec Device.init init h = (C12.sliceRun c ec (Device.init, .sout {}) (h.map (·.1))).map wiresOf :=
  out_cycle_refines_run c ec hw hn h Device.init {} false init
    (histOk_of_legalOk c ec h Device.init {} false false hl (by simp)) (rel_init _)

/-! ### Non-vacuity: stream OUT endpoint 2, max packet size 8, buffer 12 -/

def exEc : EpCfg := ⟨.streamOut, 2, 8, 12⟩

/-- free inputs: every field the expansion determines is set to the "wrong" value on purpose -/
def exIn : In := ⟨⟨true, true, 0x77, true, true⟩, true, 3, 9, true, true, true, true, true, true⟩

def exIdl (tk : Tk) (pidT : Nat) : In := envIn tk { exIn with pidToggle := pidT }

/-- the cycles of a data packet as `USBDataPacketReceiver` presents it: two idle cycles, the bytes (a pause after
the first), `valid` without `next`, the `rx_complete` / `rx_invalid` strobe in the cycle `valid` falls, three idle
cycles (`exData` adds the response request and two idle cycles) -/
def exSeg (tk : Tk) (pidT : Nat) (payload : List Nat) (ok : Bool) : List In :=
  [exIdl tk pidT, exIdl tk pidT] ++
  (payload.take 1).map (fun b => { exIdl tk pidT with rx := ⟨true, true, b, false, false⟩ }) ++
  [{ exIdl tk pidT with rx := ⟨true, false, 0, false, false⟩ }] ++
  (payload.drop 1).map (fun b => { exIdl tk pidT with rx := ⟨true, true, b, false, false⟩ }) ++
  [{ exIdl tk pidT with rx := ⟨true, false, 0, false, false⟩ },
   { exIdl tk pidT with rx := ⟨false, false, 0, ok, !ok⟩ }] ++ List.replicate 3 (exIdl tk pidT)

def exGaps : Gaps :=
  { pre := [exIn, { exIn with ready := false }], mid := [exIn], post := [exIn], n1 := exIn, n2 := exIn,
    cgaps := fun k => List.replicate k exIn, cn := fun _ => exIn, fin := exIn, seg := [], resp := exIn, tail := [] }

def exData (tk : Tk) (pid : Nat) (payload : List Nat) (ok : Bool) : HostEvent × Gaps :=
  (.data pid payload ok,
   { exGaps with seg := exSeg tk (tn (pidToggleBit pid)) payload ok,
                 resp := { exIdl tk (tn (pidToggleBit pid)) with rxReady := true },
                 tail := [exIdl tk (tn (pidToggleBit pid)), exIdl tk (tn (pidToggleBit pid))] })

def out2 : Tk := ⟨PID_OUT, 2⟩

/-- PING (ACK: the FIFO is empty); DATA0 `[11,12,13]` (ACK, committed); the same packet again (ACK, dropped);
DATA1 `[21,22]` corrupted (nothing), then good (ACK); PING (NAK: 12 − 5 < 8); the consumer reads 4 entries; an OUT
transaction for endpoint 1 (nothing); an OUT transaction for endpoint 2 of the device with address 5 (no `new_token`,
the PID register is cleared: nothing); DATA0 `[31]` (ACK; DATA1 is expected next); CLEAR_FEATURE(ENDPOINT_HALT) for
OUT 2; DATA0 `[41]` (ACK and committed: the toggle has been reset); the consumer reads the rest. -/
def exHistory : List (HostEvent × Gaps) :=
  [(.token PID_PING 0 2, exGaps),
   (.token PID_OUT 0 2, exGaps), exData out2 PID_DATA0 [11, 12, 13] true,
   (.token PID_OUT 0 2, exGaps), exData out2 PID_DATA0 [11, 12, 13] true,
   (.token PID_OUT 0 2, exGaps), exData out2 PID_DATA1 [21, 22] false,
   (.token PID_OUT 0 2, exGaps), (.quiet, exGaps), exData out2 PID_DATA1 [21, 22] true,
   (.token PID_PING 0 2, exGaps), (.consume 2 4, exGaps),
   (.token PID_OUT 0 1, exGaps), exData ⟨PID_OUT, 1⟩ PID_DATA0 [9] true,
   (.token PID_OUT 5 2, exGaps), exData ⟨0, 1⟩ PID_DATA1 [7, 7] true,
   (.token PID_OUT 0 2, exGaps), exData out2 PID_DATA0 [31] true,
   (.token Device.PID_SETUP 0 0, exGaps), exData ⟨Device.PID_SETUP, 0⟩ PID_DATA0 [0x02, 1, 0, 0, 0x02, 0, 0, 0] true,
   (.token Device.PID_IN 0 0, exGaps), (.handshake PID_ACK, exGaps),
   (.token PID_OUT 0 2, exGaps), exData out2 PID_DATA0 [41] true,
   (.consume 2 9, exGaps)]

example : histOk {} exEc Device.init {} false exHistory = true := by decide +kernel
/-- the history without its fourth OUT transaction, in which a `quiet` event separates token and data packet, also
satisfies `legalOk` -/
example : legalOk {} exEc Device.init {} false (exHistory.take 7 ++ exHistory.drop 10) = true := by decide +kernel
example : (C12.sliceRun {} exEc (Device.init, .sout {}) (exHistory.map (·.1))).map wiresOf =
    [[.ack], [], [.ack], [], [.ack], [], [], [], [], [.ack], [.nak],
     [.xfer (11, true, false), .xfer (12, false, false), .xfer (13, false, true), .xfer (21, true, false)],
     [], [], [], [], [], [.ack], [], [], [], [], [], [.ack],
     [.xfer (22, false, true), .xfer (31, true, true), .xfer (41, true, true)]] := by decide +kernel
/-- … and without the CLEAR_FEATURE transfer `[41]` is ACKed as a repetition and dropped -/
example : ((C12.sliceRun {} exEc (Device.init, .sout {}) ((exHistory.take 18 ++ exHistory.drop 22).map (·.1))).map
    wiresOf).getLast? = some [.xfer (22, false, true), .xfer (31, true, true)] := by decide +kernel
example : cycObs {} exEc Device.init init exHistory =
    (C12.sliceRun {} exEc (Device.init, .sout {}) (exHistory.map (·.1))).map wiresOf := by decide +kernel
example : (expandAll {} exEc Device.init exHistory).length = 260 := by decide +kernel
/-- the hypotheses of `out_cycle_refines_run` hold for this history from reset -/
example : ∃ e' a', (C12.sliceFinal {} exEc (Device.init, .sout {}) (exHistory.map (·.1))).2 = .sout e' ∧
    Rel (cfgOf exEc) e' (runState (cfgOf exEc) init (expandAll {} exEc Device.init exHistory))
      (phOf a' (tkD (C12.sliceFinal {} exEc (Device.init, .sout {}) (exHistory.map (·.1))).1)) ∧
    cycObs {} exEc Device.init init exHistory
      = (C12.sliceRun {} exEc (Device.init, .sout {}) (exHistory.map (·.1))).map wiresOf :=
  out_cycle_refines_run {} exEc (by decide) (by decide) exHistory Device.init {} false init (by decide +kernel)
    (rel_init _)

/-! ### Non-vacuity with foreign packets of any length: stream OUT endpoint 2, max packet size 4, buffer 7

The bus also carries a 20-byte packet for endpoint 1 and the 8-byte SETUP packet of a control transfer: both are
longer than this endpoint's max packet size.  For the SETUP packet the second example evaluates both tests: `segOk`
takes its cycle sequence, `segOkStrict` rejects it. -/

def exEc4 : EpCfg := ⟨.streamOut, 2, 4, 7⟩

def exHistory4 : List (HostEvent × Gaps) :=
  [(.token PID_OUT 0 2, exGaps), exData out2 PID_DATA0 [11, 12, 13, 14] true,
   (.token PID_OUT 0 1, exGaps), exData ⟨PID_OUT, 1⟩ PID_DATA0 (List.range 20) true,
   (.token Device.PID_SETUP 0 0, exGaps), exData ⟨Device.PID_SETUP, 0⟩ PID_DATA0 [0x02, 1, 0, 0, 0x02, 0, 0, 0] true,
   (.token Device.PID_IN 0 0, exGaps), (.handshake PID_ACK, exGaps),
   (.token PID_OUT 0 2, exGaps), exData out2 PID_DATA0 [41] true,
   (.consume 2 9, exGaps)]

example : histOk {} exEc4 Device.init {} false exHistory4 = true := by decide +kernel
example :
    let g := (exData ⟨Device.PID_SETUP, 0⟩ PID_DATA0 [0x02, 1, 0, 0, 0x02, 0, 0, 0] true).2
    segOk (cfgOf exEc4) (tokOf ⟨Device.PID_SETUP, 0⟩) 0 [0x02, 1, 0, 0, 0x02, 0, 0, 0] true g.seg g.resp g.tail = true ∧
    segOkStrict (cfgOf exEc4) (tokOf ⟨Device.PID_SETUP, 0⟩) 0 [0x02, 1, 0, 0, 0x02, 0, 0, 0] true g.seg g.resp g.tail
      = false := by decide +kernel
example : cycObs {} exEc4 Device.init init exHistory4 =
    [[], [.ack], [], [], [], [], [], [], [], [.ack],
     [.xfer (11, true, false), .xfer (12, false, false), .xfer (13, false, false), .xfer (14, false, false),
      .xfer (41, false, true)]] := by decide +kernel
/-- the hypotheses of `out_cycle_refines_run` hold for this history from reset -/
example : ∃ e' a', (C12.sliceFinal {} exEc4 (Device.init, .sout {}) (exHistory4.map (·.1))).2 = .sout e' ∧
    Rel (cfgOf exEc4) e' (runState (cfgOf exEc4) init (expandAll {} exEc4 Device.init exHistory4))
      (phOf a' (tkD (C12.sliceFinal {} exEc4 (Device.init, .sout {}) (exHistory4.map (·.1))).1)) ∧
    cycObs {} exEc4 Device.init init exHistory4
      = (C12.sliceRun {} exEc4 (Device.init, .sout {}) (exHistory4.map (·.1))).map wiresOf :=
  out_cycle_refines_run {} exEc4 (by decide) (by decide) exHistory4 Device.init {} false init (by decide +kernel)
    (rel_init _)

end LunaVerif.C12Out
