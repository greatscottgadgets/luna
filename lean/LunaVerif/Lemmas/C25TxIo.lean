/-
C25, transmit chain, 48 MHz (`usb_io`) part: the two 3-stage synchronizers, `TxNRZIEncoder` stepped by the bit strobe
(`counter == 0`), its output flops.  Main result `io_packet`: fed with the per-`usb`-cycle stream (idle, bits with
`fit_oe`, five idle cycles), each value held for four `usb_io` cycles, the D+/D- outputs are undriven for a latency
that depends on the clock phase, then NRZI(bits) ++ SE0 SE0 J with four `usb_io` cycles per symbol, then undriven --
for each of the four possible phases between the `usb` clock and the bit-strobe counter.
-/
import LunaVerif.Model.Phy.FsCodec
import LunaVerif.Model.Phy.FsTx
namespace LunaVerif.FsTx
open LunaVerif.FsCodec

/-- what is on the D+/D- pins in one `usb_io` cycle: not driven, or driven with (D+, D-) -/
inductive Line | z | d (p n : Bool)
deriving DecidableEq, Repr

def Sym.line : Sym → Line | .J => .d true false | .K => .d false true | .SE0 => .d false false

/-- the (flopped) outputs of TxNRZIEncoder as a line value -/
def Io.line (io : Io) : Line := if io.oOe then .d io.oP io.oN else .z
/-- the combinational outputs of an encoder state -/
def Nrzi.line (f : Nrzi) : Line := if f.oe then .d f.usbp f.usbn else .z

/-- the 48 MHz part on its own: one `usb_io` cycle per element (`fit_oe`, `fit_dat`) -/
def ioRun : Io → List (Bool × Bool) → List Line × Io
  | io, [] => ([], io)
  | io, x :: xs => ((io.line :: (ioRun (io.next x.2 x.1) xs).1), (ioRun (io.next x.2 x.1) xs).2)

theorem ioRun_append (io : Io) (a b : List (Bool × Bool)) :
    ioRun io (a ++ b) = ((ioRun io a).1 ++ (ioRun (ioRun io a).2 b).1, (ioRun (ioRun io a).2 b).2) := by
  induction a generalizing io with
  | nil => simp [ioRun]
  | cons x xs ih => simp [ioRun, ih]

@[simp] theorem Nrzi.next_novalid (f : Nrzi) (oe d : Bool) : f.next false oe d = f := by
  cases f <;> simp [Nrzi.next]

/-- the encoder states seen in the four `usb_io` cycles of a `usb` cycle in which the encoder goes from `f` to `f'`:
the bit strobe (counter = 0) is the `(3 - phase) % 4`-th of them -/
def fsmBlock (φ : Nat) (f f' : Nrzi) : List Nrzi :=
  List.replicate ((3 - φ) % 4 + 1) f ++ List.replicate (3 - (3 - φ) % 4) f'

/-- what the encoder samples at its bit strobe in a `usb` cycle: the current (`fit_oe`, `fit_dat`) if the strobe is
the last `usb_io` cycle (phase 0; three synchronizer stages), else the previous one -/
def sample (φ : Nat) (p x : Bool × Bool) : Bool × Bool := if φ = 0 then x else p

/-- the 48 MHz part at a `usb` cycle boundary: all synchronizer stages hold the previous (`fit_oe`, `fit_dat`) -/
def Shape (φ : Nat) (p : Bool × Bool) (io : Io) : Prop :=
  io.counter = (φ + 1) % 4 ∧ io.d0 = p.2 ∧ io.d1 = p.2 ∧ io.d2 = p.2 ∧ io.e0 = p.1 ∧ io.e1 = p.1 ∧ io.e2 = p.1

/-- one `usb` cycle: the pins, up to and including the first `usb_io` cycle of the next `usb` cycle, show the encoder
states one `usb_io` cycle earlier -/
theorem block (φ : Nat) (hφ : φ < 4) (p x : Bool × Bool) (io : Io) (h : Shape φ p io) :
    (ioRun io (List.replicate 4 x)).1 ++ [(ioRun io (List.replicate 4 x)).2.line] = io.line ::
      (fsmBlock φ io.nrzi (io.nrzi.next true (sample φ p x).1 (sample φ p x).2)).map Nrzi.line ∧
    Shape φ x (ioRun io (List.replicate 4 x)).2 ∧
    (ioRun io (List.replicate 4 x)).2.nrzi = io.nrzi.next true (sample φ p x).1 (sample φ p x).2 := by
  obtain ⟨hc, h0, h1, h2, h3, h4, h5⟩ := h
  have : φ = 0 ∨ φ = 1 ∨ φ = 2 ∨ φ = 3 := by omega
  rcases this with h | h | h | h <;> subst h <;>
    simp [List.replicate, ioRun, Io.next, hc, h0, h1, h2, h3, h4, h5, fsmBlock, sample, Io.line, Nrzi.line, Shape]

/-- every (`fit_oe`, `fit_dat`) is held for the four `usb_io` cycles of its `usb` cycle -/
def held (xs : List (Bool × Bool)) : List (Bool × Bool) := xs.flatMap (List.replicate 4)

theorem held_cons (x : Bool × Bool) (xs : List (Bool × Bool)) : held (x :: xs) = List.replicate 4 x ++ held xs := rfl

/-- what the encoder samples at its bit strobes: the `usb`-cycle values themselves (phase 0) or delayed by one `usb`
cycle; `p` = the value of the `usb` cycle before -/
def samples (φ : Nat) (p : Bool × Bool) (xs : List (Bool × Bool)) : List (Bool × Bool) :=
  if φ = 0 then xs else (p :: xs).dropLast

theorem samples_cons (φ : Nat) (p x : Bool × Bool) (xs : List (Bool × Bool)) :
    samples φ p (x :: xs) = sample φ p x :: samples φ x xs := by
  by_cases h : φ = 0 <;> simp [samples, sample, h]

/-- encoder state after each bit strobe, given what it samples there -/
def traceS : Nrzi → List (Bool × Bool) → List Nrzi
  | _, [] => []
  | f, s :: ss => f.next true s.1 s.2 :: traceS (f.next true s.1 s.2) ss

def finalS : Nrzi → List (Bool × Bool) → Nrzi
  | f, [] => f
  | f, s :: ss => finalS (f.next true s.1 s.2) ss

/-- encoder state during every `usb_io` cycle -/
def blocks (φ : Nat) : Nrzi → List (Bool × Bool) → List Nrzi
  | _, [] => []
  | f, s :: ss => fsmBlock φ f (f.next true s.1 s.2) ++ blocks φ (f.next true s.1 s.2) ss

/-- the D+/D- outputs are the encoder's state one `usb_io` cycle earlier -/
theorem ioRun_held (φ : Nat) (hφ : φ < 4) (xs : List (Bool × Bool)) : ∀ (p : Bool × Bool) (io : Io), Shape φ p io →
    (ioRun io (held xs)).1 ++ [(ioRun io (held xs)).2.line] =
      io.line :: (blocks φ io.nrzi (samples φ p xs)).map Nrzi.line ∧
    Shape φ (xs.getLastD p) (ioRun io (held xs)).2 ∧
    (ioRun io (held xs)).2.nrzi = finalS io.nrzi (samples φ p xs) := by
  induction xs with
  | nil => intro p io h; simp [held, ioRun, samples, blocks, finalS, h]
  | cons x xs ih =>
    intro p io h
    obtain ⟨b1, b2, b3⟩ := block φ hφ p x io h
    obtain ⟨i1, i2, i3⟩ := ih x _ b2
    rw [held_cons, ioRun_append, samples_cons]
    simp only [blocks, List.getLastD_cons, finalS]
    rw [b3] at i1 i3
    refine ⟨?_, i2, i3⟩
    rw [List.append_assoc, i1, List.append_cons, b1]
    simp

/-- staggering: the per-`usb_io`-cycle encoder states are the per-bit-strobe states, each four times, shifted -/
theorem blocks_trace (φ : Nat) (hφ : φ < 4) (ss : List (Bool × Bool)) : ∀ f : Nrzi,
    blocks φ f ss ++ List.replicate ((3 - φ) % 4 + 1) (finalS f ss) =
      List.replicate ((3 - φ) % 4 + 1) f ++ (traceS f ss).flatMap (List.replicate 4) := by
  induction ss with
  | nil => intro f; simp [blocks, traceS, finalS]
  | cons s ss ih =>
    intro f
    simp only [blocks, traceS, finalS, List.flatMap_cons, List.append_assoc]
    rw [ih]
    have : φ = 0 ∨ φ = 1 ∨ φ = 2 ∨ φ = 3 := by omega
    rcases this with h | h | h | h <;> subst h <;> simp [fsmBlock, List.replicate]

/-! ### the encoder on the bit stream of one packet -/

theorem traceS_append (a b : List (Bool × Bool)) : ∀ f : Nrzi,
    traceS f (a ++ b) = traceS f a ++ traceS (finalS f a) b ∧ finalS f (a ++ b) = finalS (finalS f a) b := by
  induction a with
  | nil => intro f; simp [traceS, finalS]
  | cons x xs ih => intro f; simp [traceS, finalS, ih]

/-- not driving: `fit_oe` = 0 -/
def xI : Bool × Bool := (false, false)

def lvlSt (l : Bool) : Nrzi := if l then .dj else .dk

theorem traceS_idle (a : Nat) : traceS .idle (List.replicate a xI) = List.replicate a .idle ∧
    finalS .idle (List.replicate a xI) = .idle := by
  induction a with
  | zero => simp [traceS, finalS]
  | succ a ih => simp [List.replicate_succ, traceS, finalS, xI, Nrzi.next] at ih ⊢; exact ih

theorem traceS_bits (bs : List Bool) : ∀ l : Bool,
    traceS (lvlSt l) (bs.map (fun b => (true, b))) = (nrzi l bs).map lvlSt ∧
    ∃ l', finalS (lvlSt l) (bs.map (fun b => (true, b))) = lvlSt l' := by
  induction bs with
  | nil => intro l; exact ⟨rfl, l, rfl⟩
  | cons b bs ih =>
    intro l
    have := ih (if b then l else !l)
    cases b <;> cases l <;> simp [traceS, finalS, nrzi, lvlSt, Nrzi.next] at this ⊢ <;> exact this

theorem traceS_eop (l : Bool) (k : Nat) :
    traceS (lvlSt l) (xI :: xI :: xI :: xI :: List.replicate k xI) =
      [.se0a, .se0b, .eopj, .idle] ++ List.replicate k .idle ∧
    finalS (lvlSt l) (xI :: xI :: xI :: xI :: List.replicate k xI) = .idle := by
  obtain ⟨h1, h2⟩ := traceS_idle k
  cases l <;> simp [traceS, finalS, lvlSt, xI, Nrzi.next] at h1 h2 ⊢ <;> exact ⟨h1, h2⟩

/-- the encoder's states over a packet's bit stream `false :: bs` (SYNC starts with a 0), `a` idle bit times
before and `4 + k` after -/
theorem traceS_packet (a k : Nat) (bs : List Bool) :
    traceS .idle (List.replicate a xI ++ ((false :: bs).map (fun b => (true, b)) ++
        (xI :: xI :: xI :: xI :: List.replicate k xI))) =
      List.replicate a .idle ++ ((nrzi true (false :: bs)).map lvlSt ++ [.se0a, .se0b, .eopj]) ++
        List.replicate (k + 1) .idle ∧
    finalS .idle (List.replicate a xI ++ ((false :: bs).map (fun b => (true, b)) ++
        (xI :: xI :: xI :: xI :: List.replicate k xI))) = .idle := by
  obtain ⟨i1, i2⟩ := traceS_idle a
  obtain ⟨b1, l', b2⟩ := traceS_bits bs false
  obtain ⟨e1, e2⟩ := traceS_eop l' k
  obtain ⟨a1, a2⟩ := traceS_append (List.replicate a xI) ((false :: bs).map (fun b => (true, b)) ++
        (xI :: xI :: xI :: xI :: List.replicate k xI)) .idle
  rw [a1, a2, i1, i2]
  have hdk : lvlSt false = .dk := rfl
  obtain ⟨c1, c2⟩ := traceS_append (bs.map (fun b => (true, b))) (xI :: xI :: xI :: xI :: List.replicate k xI) .dk
  rw [hdk] at b1 b2
  rw [b1, b2, e1] at c1
  rw [b2, e2] at c2
  simp only [List.map_cons, List.cons_append, traceS, finalS, Nrzi.next, Bool.and_self, if_true, nrzi,
    Bool.not_true, Bool.false_eq_true, if_false]
  rw [c1, c2]
  simp [hdk, List.replicate_succ]

theorem rep_add {α : Type} (n m : Nat) (a : α) :
    List.replicate (n + m) a = List.replicate n a ++ List.replicate m a :=
  List.replicate_append_replicate.symm

theorem assemble (j a k : Nat) (hk : j ≤ 4 * k + 2) (outs : List Line) (l : Line) (blk mid : List Nrzi)
    (h1 : outs ++ [l] = Line.z :: blk.map Nrzi.line)
    (h2 : blk ++ List.replicate (j + 1) Nrzi.idle = List.replicate (j + 1) Nrzi.idle ++
      (List.replicate a Nrzi.idle ++ mid ++ List.replicate (k + 1) Nrzi.idle).flatMap (List.replicate 4)) :
    outs = List.replicate (2 + j + 4 * a) Line.z ++ (mid.flatMap (List.replicate 4)).map Nrzi.line ++
      List.replicate (4 * k + 2 - j) Line.z ∧ l = Line.z := by
  have hb : blk = List.replicate (j + 1 + a * 4) Nrzi.idle ++ mid.flatMap (List.replicate 4) ++
      List.replicate (4 * k + 3 - j) Nrzi.idle := by
    apply List.append_cancel_right (bs := List.replicate (j + 1) Nrzi.idle)
    rw [h2]
    simp only [List.flatMap_append, List.flatMap_replicate, List.flatten_replicate_replicate, List.append_assoc]
    rw [show (k + 1) * 4 = (4 * k + 3 - j) + (j + 1) by omega, rep_add (4 * k + 3 - j) (j + 1), rep_add (j + 1) (a * 4)]
    simp only [List.append_assoc]
  have hz : Nrzi.idle.line = Line.z := rfl
  have h3 : outs ++ [l] = (List.replicate (2 + j + 4 * a) Line.z ++ (mid.flatMap (List.replicate 4)).map Nrzi.line ++
      List.replicate (4 * k + 2 - j) Line.z) ++ [Line.z] := by
    rw [h1, hb]
    simp only [List.map_append, List.map_replicate, hz, List.append_assoc]
    rw [show 2 + j + 4 * a = 1 + (j + 1 + a * 4) by omega, rep_add 1 (j + 1 + a * 4),
      show 4 * k + 3 - j = (4 * k + 2 - j) + 1 by omega, List.replicate_succ']
    simp
  obtain ⟨e1, e2⟩ := List.append_inj' h3 rfl
  exact ⟨e1, by simpa using e2⟩

/-- `usb_io` cycles from the `usb` cycle in which `tx_valid` is first seen to the first driven cycle -/
def lat (φ : Nat) : Nat := 9 + (4 - φ) % 4
/-- undriven `usb_io` cycles left of the five idle `usb` cycles after the packet's last bit -/
def tailZ (φ : Nat) : Nat := 3 - (4 - φ) % 4

/-- what the 12 MHz part hands over for a packet with bit stream `false :: bs`: one idle `usb` cycle, the bits with
`fit_oe`, five idle cycles -/
def fitStream (bs : List Bool) : List (Bool × Bool) :=
  xI :: ((false :: bs).map (fun b => (true, b)) ++ List.replicate 5 xI)

/-- NRZI + EOP of the bit stream, every symbol for four `usb_io` cycles -/
def wave (bs : List Bool) : List Line :=
  ((nrzi true (false :: bs)).map lvl ++ [Sym.SE0, Sym.SE0, Sym.J]).flatMap (fun s => List.replicate 4 (Sym.line s))

theorem lvlSt_line (l : Bool) : (lvlSt l).line = Sym.line (lvl l) := by cases l <;> rfl

theorem wave_eq (bs : List Bool) :
    (((nrzi true (false :: bs)).map lvlSt ++ [Nrzi.se0a, Nrzi.se0b, Nrzi.eopj]).flatMap (List.replicate 4)).map Nrzi.line
      = wave bs := by
  simp only [wave, List.flatMap_append, List.map_append, List.flatMap_map, List.map_flatMap, List.map_replicate,
    lvlSt_line]
  rfl

theorem samples_fit (φ : Nat) (h : φ ≠ 0) (bs : List Bool) : samples φ xI (fitStream bs) =
    List.replicate 2 xI ++ ((false :: bs).map (fun b => (true, b)) ++ (xI :: xI :: xI :: xI :: List.replicate 0 xI)) := by
  have : xI :: fitStream bs = (xI :: xI :: ((false :: bs).map (fun b => (true, b)) ++ [xI, xI, xI, xI])) ++ [xI] := by
    simp [fitStream, List.replicate]
  simp only [samples, h, if_false]
  rw [this, List.dropLast_concat]
  simp [List.replicate]

/-- nothing in flight in the 48 MHz part at a `usb` cycle boundary: the synchronizers flushed, the encoder in IDLE with
its output flops not driving -/
def IoQuiet (φ : Nat) (io : Io) : Prop := Shape φ xI io ∧ io.nrzi = .idle ∧ io.line = .z

/-- **the 48 MHz part sends one packet**, for each of the four clock phases -/
theorem io_packet (φ : Nat) (hφ : φ < 4) (bs : List Bool) (io : Io) (hq : IoQuiet φ io) :
    (ioRun io (held (fitStream bs))).1 =
      List.replicate (lat φ) Line.z ++ wave bs ++ List.replicate (tailZ φ) Line.z ∧
    IoQuiet φ (ioRun io (held (fitStream bs))).2 := by
  obtain ⟨hs, hf, hl⟩ := hq
  obtain ⟨r1, r2, r3⟩ := ioRun_held φ hφ (fitStream bs) xI io hs
  have bt := blocks_trace φ hφ (samples φ xI (fitStream bs)) .idle
  rw [hf] at r1 r3
  rw [hl] at r1
  have hP : (fitStream bs).getLastD xI = xI := by
    rw [fitStream, List.getLastD_cons, List.getLastD_eq_getLast?, List.getLast?_append, List.getLast?_replicate]
    rfl
  rw [hP] at r2
  have key : ∀ a k, samples φ xI (fitStream bs) = List.replicate a xI ++ ((false :: bs).map (fun b => (true, b)) ++
        (xI :: xI :: xI :: xI :: List.replicate k xI)) → (3 - φ) % 4 ≤ 4 * k + 2 →
      2 + (3 - φ) % 4 + 4 * a = lat φ → 4 * k + 2 - (3 - φ) % 4 = tailZ φ →
      (ioRun io (held (fitStream bs))).1 =
        List.replicate (lat φ) Line.z ++ wave bs ++ List.replicate (tailZ φ) Line.z ∧
      IoQuiet φ (ioRun io (held (fitStream bs))).2 := by
    intro a k hsm hk hlat htail
    obtain ⟨p1, p2⟩ := traceS_packet a k bs
    rw [hsm] at r1 r3 bt
    rw [p1, p2] at bt
    rw [p2] at r3
    obtain ⟨e1, e2⟩ := assemble ((3 - φ) % 4) a k hk _ _ _ _ r1 bt
    rw [wave_eq, hlat, htail] at e1
    exact ⟨e1, r2, r3, e2⟩
  by_cases h : φ = 0
  · subst h
    exact key 1 1 (by simp [samples, fitStream, List.replicate]) (by decide) (by decide) (by decide)
  · have : φ = 1 ∨ φ = 2 ∨ φ = 3 := by omega
    rcases this with h | h | h <;> subst h <;>
      exact key 2 0 (samples_fit _ (by decide) bs) (by decide) (by decide) (by decide)

end LunaVerif.FsTx
