import LunaVerif.Model.Usb3.SSStreamIn
/-!
# C46 — a toggle-free formulation of the SuperSpeedStreamInEndpoint model

`View` is the state of `Model/Usb3/SSStreamIn.lean` seen through `ping_pong_toggle`: instead of
buffer 0 / buffer 1 it has the *write* buffer and the *read* buffer.  `vnext` / `vout` are the step and
output functions on views; `view_next` / `out_eq_vout` prove them equal to the model's `next` / `out`, so
every statement proved about `vnext` is a statement about the co-simulated model.
-/
namespace LunaVerif.SSStreamIn

structure View where
  fsm     : Fsm
  seq     : Nat
  fillW   : Nat
  fillR   : Nat
  endedW  : Bool
  endedR  : Bool
  memW    : List Nat
  memR    : List Nat
  rdR     : Nat
  sendPos : Nat
  txValid : Nat
  txFirst : Bool
  txLast  : Bool
  txData  : Nat
  lpz     : Bool
  erdyReq : Bool

def memW (s : State) : List Nat := if s.toggle then s.mem1 else s.mem0

def view (s : State) : View :=
  { fsm := s.fsm, seq := s.seq, fillW := fillW s, fillR := fillR s, endedW := endedW s, endedR := endedR s,
    memW := memW s, memR := memR s, rdR := rdR s, sendPos := s.sendPos, txValid := s.txValid,
    txFirst := s.txFirst, txLast := s.txLast, txData := s.txData, lpz := s.lpz, erdyReq := s.erdyReq }

def vinReady (c : Config) (v : View) : Bool := decide (v.fillW + 4 ≤ c.mps) && !v.endedW

/-- `control` on views (same text as `control`). -/
def vcontrol (c : Config) (v : View) (i : In) : Ctl :=
  let ackUs := i.ack && i.hsEp == c.ep
  let isIn  := i.nump != 0
  let inTok := ackUs && isIn
  let v0    := i.sValid % 2 == 1
  let complete := decide (v.fillW + 4 ≥ c.mps)
  match v.fsm with
  | .waitData =>
    let ends := (v0 && (complete || i.sLast)) || v.endedW
    { fsm := if ends then (if v.erdyReq || inTok then .reqIn else .waitSend) else .waitData
      nrdy := inTok, setErdy := inTok, flip := ends, clrEndR := ends, raddr := v.sendPos }
  | .reqIn =>
    { fsm := if i.done then .waitSend else .reqIn, erdy := true, clrErdy := i.done, raddr := v.sendPos }
  | .waitSend =>
    if inTok then
      if v.fillR != 0 then { fsm := .send, lpz := some false, raddr := v.sendPos }
      else { fsm := .waitAck, txZlp := true, clrEndR := true, lpz := some true, raddr := v.sendPos }
    else { fsm := .waitSend, raddr := v.sendPos }
  | .send =>
    if v.txValid == 0 || i.txReady then
      let lastWord := decide ((v.sendPos + 1) * 4 ≥ v.fillR)
      { fsm := if lastWord then .waitAck else .send, loadTx := true, raddr := v.sendPos + 1 }
    else { fsm := .send, raddr := v.sendPos }
  | .waitAck =>
    if ackUs then
      let advancing := i.nextSeq == (v.seq + 1) % 32
      if i.retry || !advancing then
        if v.lpz then { fsm := .waitAck, txZlp := true, clrTx := true, raddr := 0 }
        else { fsm := .send, clrTx := true, raddr := 0 }
      else
        let followUp := v.fillR == c.mps && v.endedR
        if followUp then
          if isIn then
            { fsm := .waitAck, clrFillR := true, txZlp := true, advance := true, clrEndR := true,
              lpz := some true, clrTx := true, raddr := 0 }
          else { fsm := .waitSend, clrFillR := true, advance := true, clrTx := true, raddr := 0 }
        else if !vinReady c v || (v0 && complete) then
          { fsm := if isIn then .send else .waitSend, clrFillR := true, advance := true, flip := true,
            clrEndR := true, lpz := if isIn then some false else none, clrTx := true, raddr := 0 }
        else { fsm := .waitData, clrFillR := true, advance := true, nrdy := isIn, setErdy := isIn,
               clrTx := true, raddr := 0 }
    else { fsm := .waitAck, clrTx := true, raddr := 0 }

def vout (c : Config) (v : View) (i : In) : Out :=
  let k := vcontrol c v i
  { sReady := vinReady c v, txValid := v.txValid, txFirst := v.txFirst, txLast := v.txLast,
    txData := v.txData, txZlp := k.txZlp,
    txLength := v.fillR, txSeq := if k.advance then (v.seq + 1) % 32 else v.seq,
    txEp := c.ep, sendNrdy := k.nrdy, sendErdy := k.erdy }

/-- the write side of one cycle: `buffer_write.en`, and the write buffer's fill count, `stream_ended` flag and
memory after the clock edge -/
def wen (c : Config) (v : View) (i : In) : Bool := i.sValid != 0 && vinReady c v
def wFill (c : Config) (v : View) (i : In) : Nat :=
  if wen c v i then v.fillW + validBytes i.sValid else v.fillW
def wEnded (c : Config) (v : View) (i : In) : Bool := if i.sLast && wen c v i then true else v.endedW
def wMem (c : Config) (v : View) (i : In) : List Nat :=
  if wen c v i then v.memW.set (v.fillW / 4) i.sData else v.memW

/-- `next` on views: the write side works on `fillW/endedW/memW`, the read side on `fillR/endedR/memR`,
a flip exchanges them.  The read port of the buffer that becomes the read buffer by a flip was addressed
with 0 (the default of `buffer_read_ports[write].addr`). -/
def vnext (c : Config) (v : View) (i : In) : View :=
  let k := vcontrol c v i
  let fillR' := if k.clrFillR then 0 else v.fillR
  let endedR' := if k.clrEndR then false else v.endedR
  let lastWord := decide ((v.sendPos + 1) * 4 ≥ v.fillR)
  { fsm := k.fsm
    seq := if i.epReset then 0 else if k.advance then (v.seq + 1) % 32 else v.seq
    fillW := if k.flip then fillR' else wFill c v i
    fillR := if k.flip then wFill c v i else fillR'
    endedW := if k.flip then endedR' else wEnded c v i
    endedR := if k.flip then wEnded c v i else endedR'
    memW := if k.flip then v.memR else wMem c v i
    memR := if k.flip then wMem c v i else v.memR
    rdR := if k.flip then memRead c v.memW 0 else memRead c v.memR k.raddr
    sendPos := if k.clrTx then 0 else if k.loadTx then v.sendPos + 1 else v.sendPos
    txValid := if k.clrTx then (if i.txReady then 0 else v.txValid)
               else if k.loadTx then (if lastWord then lastMask v.fillR else 15) else v.txValid
    txFirst := if k.loadTx then v.sendPos == 0 else v.txFirst
    txLast := if k.loadTx then lastWord else v.txLast
    txData := if k.loadTx then v.rdR else v.txData
    lpz := k.lpz.getD v.lpz
    erdyReq := if k.clrErdy then false else v.erdyReq || k.setErdy }

theorem control_eq_vcontrol (c : Config) (s : State) (i : In) : control c s i = vcontrol c (view s) i := rfl

theorem inReady_eq (c : Config) (s : State) : inReady c s = vinReady c (view s) := rfl

theorem out_eq_vout (c : Config) (s : State) (i : In) : out c s i = vout c (view s) i := rfl

theorem view_next (c : Config) (s : State) (i : In) : view (next c s i) = vnext c (view s) i := by
  rw [vnext, ← control_eq_vcontrol]
  cases ht : s.toggle <;> cases hfl : (control c s i).flip <;>
    simp [view, next, wen, wFill, wEnded, wMem, vinReady, inReady, fillW, fillR, endedW, endedR, memW, memR, rdR, ht, hfl] <;>
    cases (control c s i).lpz <;> rfl

section
variable (c : Config) (v : View) (i : In)

theorem vcontrol_waitData (hf : v.fsm = .waitData) :
    vcontrol c v i =
      { fsm := if ((i.sValid % 2 == 1 && (decide (v.fillW + 4 ≥ c.mps) || i.sLast)) || v.endedW) then
            (if v.erdyReq || (i.ack && i.hsEp == c.ep && i.nump != 0) then .reqIn else .waitSend)
          else .waitData
        nrdy := i.ack && i.hsEp == c.ep && i.nump != 0, setErdy := i.ack && i.hsEp == c.ep && i.nump != 0,
        flip := (i.sValid % 2 == 1 && (decide (v.fillW + 4 ≥ c.mps) || i.sLast)) || v.endedW,
        clrEndR := (i.sValid % 2 == 1 && (decide (v.fillW + 4 ≥ c.mps) || i.sLast)) || v.endedW,
        raddr := v.sendPos } := by
  simp only [vcontrol, hf]

theorem vcontrol_reqIn (hf : v.fsm = .reqIn) :
    vcontrol c v i =
      { fsm := if i.done then .waitSend else .reqIn, erdy := true, clrErdy := i.done, raddr := v.sendPos } := by
  simp only [vcontrol, hf]

theorem vcontrol_waitSend_idle (hf : v.fsm = .waitSend) (htok : (i.ack && i.hsEp == c.ep && i.nump != 0) = false) :
    vcontrol c v i = { fsm := .waitSend, raddr := v.sendPos } := by
  simp [vcontrol, hf, htok]

theorem vcontrol_waitSend_zlp (hf : v.fsm = .waitSend) (htok : (i.ack && i.hsEp == c.ep && i.nump != 0) = true)
    (hfr : v.fillR = 0) :
    vcontrol c v i =
      { fsm := .waitAck, txZlp := true, clrEndR := true, lpz := some true, raddr := v.sendPos } := by
  simp [vcontrol, hf, htok, hfr]

theorem vcontrol_waitSend_data (hf : v.fsm = .waitSend) (htok : (i.ack && i.hsEp == c.ep && i.nump != 0) = true)
    (hfr : v.fillR ≠ 0) :
    vcontrol c v i = { fsm := .send, lpz := some false, raddr := v.sendPos } := by
  simp [vcontrol, hf, htok, hfr]

theorem vcontrol_send_hold (hf : v.fsm = .send) (htv : v.txValid ≠ 0) (hrdy : i.txReady = false) :
    vcontrol c v i = { fsm := .send, raddr := v.sendPos } := by
  simp [vcontrol, hf, htv, hrdy]

theorem vcontrol_send_load (hf : v.fsm = .send) (h : v.txValid = 0 ∨ i.txReady = true) :
    vcontrol c v i =
      { fsm := if (v.sendPos + 1) * 4 ≥ v.fillR then .waitAck else .send, loadTx := true,
        raddr := v.sendPos + 1 } := by
  rcases h with h | h <;> simp [vcontrol, hf, h]

theorem vcontrol_send (hf : v.fsm = .send) :
    (vcontrol c v i).flip = false ∧ (vcontrol c v i).clrFillR = false ∧ (vcontrol c v i).clrEndR = false ∧
      (vcontrol c v i).advance = false ∧ (vcontrol c v i).txZlp = false ∧ (vcontrol c v i).fsm ≠ .waitData := by
  simp only [vcontrol, hf]
  split <;> simp
  split <;> simp

/-- WAIT_FOR_ACK in a cycle without an ACK TP for this endpoint -/
theorem vcontrol_waitAck_quiet (hf : v.fsm = .waitAck) (hack : (i.ack && i.hsEp == c.ep) = false) :
    vcontrol c v i = { fsm := .waitAck, clrTx := true, raddr := 0 } := by
  simp [vcontrol, hf, hack]

theorem vcontrol_waitAck_retry (hf : v.fsm = .waitAck) (hack : (i.ack && i.hsEp == c.ep) = true)
    (hre : (i.retry || !(i.nextSeq == (v.seq + 1) % 32)) = true) :
    vcontrol c v i =
      if v.lpz then { fsm := .waitAck, txZlp := true, clrTx := true, raddr := 0 }
      else { fsm := .send, clrTx := true, raddr := 0 } := by
  simp [vcontrol, hf, hack, hre]

/-- accepting ACK, nothing complete to send: back to WAIT_FOR_DATA (NRDY if this was an IN request too) -/
theorem vcontrol_waitAck_wait (hf : v.fsm = .waitAck) (hack : (i.ack && i.hsEp == c.ep) = true)
    (hre : (i.retry || !(i.nextSeq == (v.seq + 1) % 32)) = false) (hfu : (v.fillR == c.mps && v.endedR) = false)
    (hfl : (!vinReady c v || (i.sValid % 2 == 1 && decide (v.fillW + 4 ≥ c.mps))) = false) :
    vcontrol c v i =
      { fsm := .waitData, clrFillR := true, advance := true, nrdy := i.nump != 0, setErdy := i.nump != 0,
        clrTx := true, raddr := 0 } := by
  simp [vcontrol, hf, hack, hre, hfu, hfl]

/-- accepting ACK, the write buffer is complete: swap -/
theorem vcontrol_waitAck_swap (hf : v.fsm = .waitAck) (hack : (i.ack && i.hsEp == c.ep) = true)
    (hre : (i.retry || !(i.nextSeq == (v.seq + 1) % 32)) = false) (hfu : (v.fillR == c.mps && v.endedR) = false)
    (hfl : (!vinReady c v || (i.sValid % 2 == 1 && decide (v.fillW + 4 ≥ c.mps))) = true) :
    vcontrol c v i =
      { fsm := if i.nump != 0 then .send else .waitSend, clrFillR := true, advance := true, flip := true,
        clrEndR := true, lpz := if i.nump != 0 then some false else none, clrTx := true, raddr := 0 } := by
  simp [vcontrol, hf, hack, hre, hfu, hfl]

/-- accepting ACK of a full packet that ended its transfer: the ZLP follows, at once if this is an IN request -/
theorem vcontrol_waitAck_followUp (hf : v.fsm = .waitAck) (hack : (i.ack && i.hsEp == c.ep) = true)
    (hre : (i.retry || !(i.nextSeq == (v.seq + 1) % 32)) = false) (hfu : (v.fillR == c.mps && v.endedR) = true) :
    vcontrol c v i =
      if i.nump != 0 then
        { fsm := .waitAck, clrFillR := true, txZlp := true, advance := true, clrEndR := true, lpz := some true,
          clrTx := true, raddr := 0 }
      else { fsm := .waitSend, clrFillR := true, advance := true, clrTx := true, raddr := 0 } := by
  simp [vcontrol, hf, hack, hre, hfu]

/-- the buffers are exchanged only when the read side is cleared in the same cycle, or from WAIT_FOR_DATA (where the
read buffer is empty: `Shape.wd`, Lemmas/C46Ghost.lean) — so the new write buffer is empty -/
theorem vcontrol_flip (h : (vcontrol c v i).flip = true) :
    (vcontrol c v i).clrEndR = true ∧ ((vcontrol c v i).clrFillR = true ∨ v.fsm = .waitData) := by
  unfold vcontrol at h ⊢
  cases hf : v.fsm <;> simp only [hf] at h ⊢ <;> grind

theorem vcontrol_waitData_next (h : (vcontrol c v i).fsm = .waitData) :
    (vcontrol c v i).flip = false ∧ ((vcontrol c v i).clrFillR = true ∨ v.fsm = .waitData) := by
  unfold vcontrol at h ⊢
  cases hf : v.fsm <;> simp only [hf] at h ⊢ <;> grind

end

end LunaVerif.SSStreamIn
