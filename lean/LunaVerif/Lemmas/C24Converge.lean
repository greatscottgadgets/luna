import LunaVerif.Lemmas.C24RankStep
/-!
# C24 — from the one-cycle lemmas to histories: the rank reaches 0 within an explicit bound

With `N = dirHigh h` the number of DIR-high cycles of the history and `r` the rank of the start
state: after `r + (2K+5)·N` cycles the rank is 0 (`rank_reaches_zero`), `r ≤ 3(2K+6) + T`
(`rank_le`), and rank 0 means settled (`rank_zero_settled`).
-/
namespace LunaVerif.Ulpi

def dirHigh : List UtmiIn → Nat
  | [] => 0
  | i :: is => (if i.phy.dir then 1 else 0) + dirHigh is

def ctrlConst (c : Controls) : List UtmiIn → Bool
  | [] => true
  | i :: is => decide (i.ctrl = c) && ctrlConst c is

theorem ctrlConst_append (c : Controls) (a b : List UtmiIn) :
    ctrlConst c (a ++ b) = (ctrlConst c a && ctrlConst c b) := by
  induction a with
  | nil => rfl
  | cons i is ih => simp only [List.cons_append, ctrlConst, ih, Bool.and_assoc]

theorem ready_step (cfg : Config) (s : Utmi) (i : UtmiIn) (h : s.phyReady = true) :
    (s.step cfg i).1.phyReady = true := by
  simp [Utmi.step, h]

theorem ready_run (cfg : Config) (s : Utmi) (h : List UtmiIn) (hr : s.phyReady = true) :
    (Utmi.run cfg s h).phyReady = true := by
  induction h generalizing s with
  | nil => exact hr
  | cons i is ih => exact ih _ (ready_step cfg s i hr)

theorem inv_run (cfg : Config) (K T : Nat) (x : World) (h : List UtmiIn) (hc : Coh x) (hl : Live K x)
    (ho : LiveOk cfg K T x h = true) : Coh (World.run cfg x h) ∧ Live K (World.run cfg x h) := by
  induction h generalizing x with
  | nil => exact ⟨hc, hl⟩
  | cons i is ih =>
    simp only [LiveOk, Bool.and_eq_true] at ho
    exact ih _ (coh_step cfg x i hc (liveCycle_safe ho.1)) (live_step cfg K T x i hl ho.1) ho.2

structure Hyps (cfg : Config) (K T : Nat) (c : Controls) (x : World) (h : List UtmiIn) : Prop where
  coh : Coh x
  live : Live K x
  ready : x.u.phyReady = true
  ctrl : ctrlConst c h = true
  ok : LiveOk cfg K T x h = true

variable {cfg : Config} {K T : Nat} {c : Controls} {x : World}

theorem Hyps.step {i : UtmiIn} {is : List UtmiIn} (hh : Hyps cfg K T c x (i :: is)) :
    i.ctrl = c ∧ Hyps cfg K T c (x.step cfg i) is ∧
    RankStep K i.phy.dir (rank K T (functionControl c) (otgControl c) x)
      (rank K T (functionControl c) (otgControl c) (x.step cfg i)) := by
  obtain ⟨hc, hl, hr, hcc, ho⟩ := hh
  simp only [ctrlConst, LiveOk, Bool.and_eq_true, decide_eq_true_eq] at hcc ho
  exact ⟨hcc.1, ⟨coh_step cfg x i hc (liveCycle_safe ho.1), live_step cfg K T x i hl ho.1, ready_step cfg x.u i hr,
    hcc.2, ho.2⟩, hcc.1 ▸ rank_step cfg K T x i hc hl hr ho.1⟩

theorem rank_zero_run {h : List UtmiIn} (hh : Hyps cfg K T c x h)
    (hz : rank K T (functionControl c) (otgControl c) x = 0) :
    rank K T (functionControl c) (otgControl c) (World.run cfg x h) = 0 := by
  induction h generalizing x with
  | nil => exact hz
  | cons i is ih =>
    obtain ⟨-, hh1, hs⟩ := hh.step
    exact ih hh1 (hs.1 hz)

/-- Until it is 0 the rank pays for the cycles: one each, and a DIR-high cycle refunds at most `2K+5`. -/
theorem rank_run_bound {h : List UtmiIn} (hh : Hyps cfg K T c x h) :
    rank K T (functionControl c) (otgControl c) (World.run cfg x h) = 0 ∨
    rank K T (functionControl c) (otgControl c) (World.run cfg x h) + h.length
      ≤ rank K T (functionControl c) (otgControl c) x + (2 * K + 5) * dirHigh h := by
  induction h generalizing x with
  | nil => right; simp [World.run, dirHigh]
  | cons i is ih =>
    by_cases hz : rank K T (functionControl c) (otgControl c) x = 0
    · left; exact rank_zero_run hh hz
    · obtain ⟨-, hh1, -, hstep⟩ := hh.step
      refine (ih hh1).imp id fun g => ?_
      simp only [World.run, dirHigh, List.length_cons]
      cases hd : i.phy.dir <;> simp only [hd, if_true, if_false, Bool.false_eq_true, Nat.zero_add] at hstep ⊢
      · omega
      · rw [Nat.mul_add, Nat.mul_one]; omega

theorem rank_reaches_zero {h : List UtmiIn} (hh : Hyps cfg K T c x h)
    (hn : rank K T (functionControl c) (otgControl c) x + (2 * K + 5) * dirHigh h ≤ h.length) :
    rank K T (functionControl c) (otgControl c) (World.run cfg x h) = 0 := by
  rcases rank_run_bound hh with g | g
  · exact g
  · omega

theorem wcost_le (K a b : Nat) : wcost K a b ≤ 2 * K + 6 := by
  unfold wcost; split <;> omega

theorem txRank_le (K T : Nat) (x : World) : txRank K T x ≤ K + 2 + T := by
  unfold txRank
  split
  · omega
  · split <;> omega
  · omega

/-- Two register writes still to come and either the one in flight or the transmitter's share. -/
theorem rank_le_tx (K T v04 v0A : Nat) (x : World) :
    rank K T v04 v0A x ≤ 2 * (2 * K + 6) + (2 * K + 5) ∨
    rank K T v04 v0A x ≤ 2 * (2 * K + 6) + txRank K T x := by
  have hA : pendAfter K v04 v0A x.u ≤ 2 * (2 * K + 6) := by
    unfold pendAfter
    have := wcost_le K x.u.win.curWrite v04
    have := wcost_le K x.u.win.curWrite v0A
    have := wcost_le K x.u.ctl.cur04 v04
    have := wcost_le K x.u.ctl.cur0A v0A
    split <;> split <;> omega
  have hN : pendNow K v04 v0A x.u ≤ 2 * (2 * K + 6) := by
    unfold pendNow
    have := wcost_le K x.u.ctl.cur04 v04
    have := wcost_le K x.u.ctl.cur0A v0A
    omega
  cases hw : x.u.win.st <;> simp only [rank, hw]
  case idle =>
    split
    · left; omega
    · split
      · left; omega
      · right; omega
  all_goals left; omega

/-- The rank is at most three register writes plus one transmission. -/
theorem rank_le (K T v04 v0A : Nat) (x : World) : rank K T v04 v0A x ≤ 3 * (2 * K + 6) + T := by
  have := rank_le_tx K T v04 v0A x
  have := txRank_le K T x
  omega

/-- Rank 0 means settled.  Only an idle window without `done` has rank 0: in the read states `Coh` is `False`, in the
four busy states `waited ≤ K` (from `Live`, its only use here) keeps the rank positive, and with `done` shown the credit
is still to come.  For the idle window rank 0 says shadows = requested values, and `Coh` says PHY registers = shadows. -/
theorem rank_zero_settled (K T v04 v0A : Nat) (x : World) (hc : Coh x) (hl : Live K x)
    (hz : rank K T v04 v0A x = 0) :
    x.u.win.st = .idle ∧ x.u.win.done = false ∧ x.u.ctl.busy = false ∧
    x.u.ctl.cur04 = v04 ∧ x.u.ctl.cur0A = v0A ∧ x.p.r04 = v04 ∧ x.p.r0A = v0A := by
  obtain ⟨⟨win, ctl, tx, rx, rdy, cnt⟩, ⟨pb, r4, rA, po, pw⟩, ⟨pd, wt, tl, mh, dn, a4, aA⟩⟩ := x
  obtain ⟨wst, ca, cw, d, oq, sp, wdn, rd⟩ := win
  obtain ⟨c4, cA, cb⟩ := ctl
  obtain ⟨l2, l3, l4⟩ := hl
  simp only at l2 l3 l4
  obtain ⟨_, _, h3⟩ := hc
  cases wst <;> simp only [rank] at hz <;> simp only at h3
  case idle =>
    obtain ⟨_, _, h4⟩ := h3
    rcases h4 with ⟨hd, _⟩ | ⟨hd, hb, hr4, hrA, _⟩
    · subst hd; simp at hz
    · subst hd hb hr4 hrA
      simp only [Bool.false_eq_true, if_false, pendNow, wcost] at hz
      by_cases g4 : r4 = v04 <;> by_cases gA : rA = v0A <;> simp_all
      all_goals omega
  all_goals first | exact absurd h3 id | omega

end LunaVerif.Ulpi
