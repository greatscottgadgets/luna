import LunaVerif.Lemmas.C07Stream
import LunaVerif.Lemmas.DeviceStepsM
/-!
# The simulation for every handler state (`cycle_refines_event_streams`) — part 2: the strobe cycles
(see Lemmas/C07Stream.lean for the set-up).  The free inputs of the cycle obey "a streamer that has not been started
is silent" (`CalmH`), and every lemma also says that the cycle offers no first payload byte.
-/
namespace LunaVerif.CtrlCyc
open LunaVerif.Device

/-- `Sim1`, and the cycle offers no first payload byte: the bus observer starts no packet in it. -/
def Sim1S (cyc : Cfg) (d d' : DevState) (i : CycIn) (r : Resp) : Prop :=
  ∀ cs, Rel d cs →
    Rel d' (step cyc cs i).1 ∧ outResp (step cyc cs i).2 = r ∧
    ((step cyc cs i).2.txValid && (step cyc cs i).2.txFirst) = false ∧
    (if (step cyc cs i).2.addressChanged then (step cyc cs i).2.newAddress else d.address) = d'.address ∧
    (if (step cyc cs i).2.configChanged then (step cyc cs i).2.newConfig else d.config) = d'.config

theorem Sim1S.sim1 {cyc : Cfg} {d d' : DevState} {i : CycIn} {r : Resp} (h : Sim1S cyc d d' i r) : Sim1 cyc d d' i r :=
  fun cs hr => ⟨(h cs hr).1, (h cs hr).2.1, (h cs hr).2.2.2⟩

theorem sim1s_core (cyc : Cfg) (d d' : DevState) (i : CycIn) (r : Resp) (x : HIn) (cc : CtrlComb)
    (hsd : i.sdAck = false)
    (hc : ∀ cs, Rel d cs → ctrlComb cyc cs.stage i = cc)
    (hn : ∀ cs, Rel d cs → ctrlNext cyc cs.stage i = d'.stage)
    (hi : handlerIn i cc = x)
    (hH : HFacts cyc d d' x cc.pingAck r) :
    Sim1S cyc d d' i r := by
  intro cs hr
  obtain ⟨q1, q2, q3, q4, q5⟩ := hH cs.h hr.h
  rw [step_outResp, step_addressChanged, step_configChanged, step_newAddress, step_newConfig, step_txValid, step_txFirst,
    selOut_eq (hc cs hr) hi, hc cs hr]
  refine ⟨⟨by rw [step_stage, hn cs hr], by rw [step_h, hc cs hr, hi]; exact q1⟩, ?_, q3, q4, q5⟩
  simpa [hsd] using q2

theorem ctrlComb_ready (c : DevConfig) (d : DevState) (n : CycIn) :
    ctrlComb (cfgOf c) d.stage { envIn d n with readyForResponse := true } =
      ⟨readyDr d, readySr d, false, readyPing d⟩ := by
  simp only [ctrlComb, envIn, targeted, cfgOf, readyDr, readySr, readyPing, Bool.beq_eq_decide_eq, Bool.true_and,
    Bool.false_and, Bool.or_false, Bool.and_comm, Bool.and_left_comm]

theorem ctrlComb_rxReady (c : DevConfig) (d : DevState) (n : CycIn) :
    ctrlComb (cfgOf c) d.stage { envIn d n with rxReady := true } = ⟨false, rxSr d, false, false⟩ := by
  simp only [ctrlComb, envIn, targeted, cfgOf, rxSr, Bool.beq_eq_decide_eq, Bool.true_and, Bool.false_and,
    Bool.false_or, Bool.and_comm, Bool.and_left_comm]

theorem sim_quiet_s (c : DevConfig) (d : DevState) (n : CycIn) (hcalm : CalmH d.hstate (noiseH n)) :
    Sim1S (cfgOf c) d d (envIn d n) .none :=
  sim1s_core _ d d _ _ (hin d (noiseH n) false false false) ⟨false, false, false, false⟩ rfl
    (fun _ _ => ctrlComb_idle _ _ rfl rfl rfl) (fun _ hr => (ctrlNext_idle _ _ rfl rfl).trans hr.stage) rfl
    (hfacts_of_quiet (hs_quiet (cfgOf c) d (noiseH n) hcalm) rfl rfl)

theorem sim_newToken_s (c : DevConfig) (d : DevState) (pid ep : Nat) (n : CycIn) (hcalm : CalmH d.hstate (noiseH n)) :
    Sim1S (cfgOf c) d (afterToken d pid ep) { envIn (afterToken d pid ep) n with newToken := true } .none := by
  refine sim1s_core _ d _ _ _ (hin (afterToken d pid ep) (noiseH n) false false false) ⟨false, false, false, false⟩ rfl
    (fun _ _ => ctrlComb_idle _ _ rfl rfl rfl) (fun cs hr => ?_) rfl ?_
  · rw [hr.stage, ctrlNext_newToken]; rfl
  · exact hfacts_of_quiet (fun hh hr => hs_quiet (cfgOf c) (afterToken d pid ep) (noiseH n) hcalm hh ⟨hr.1, hr.2, hr.3⟩)
      rfl rfl

/-! ### Cycles that poll the handlers -/

/-- What the polling cycle itself shows (`reqNow`: a streamed answer follows later). -/
def reqNowResult (c : DevConfig) (d : DevState) (dr sr ping : Bool) : DevState × Resp :=
  if dr then reqNow c d .data
  else if sr then reqNow c d .status
  else if ping then (d, .hs PID_ACK) else (d, .none)

theorem reqNow_sameCtl (c : DevConfig) (d : DevState) (r : Req) : SameCtl d (reqNow c d r).1 := by
  unfold reqNow
  split
  · split
    · exact SameCtl.refl d
    · exact SameCtl.refl d
    · exact ⟨rfl, rfl, rfl, rfl, rfl, rfl, rfl, Or.inl rfl⟩
    · exact sameCtl_request c d r
  · exact sameCtl_request c d r

theorem sim_reqNow (c : DevConfig) (hx : c.extra = []) (d : DevState) (i : CycIn) (n : CycIn) (dr sr ping : Bool)
    (hcalm : CalmH d.hstate (noiseH n)) (hsd : i.sdAck = false)
    (hc : ctrlComb (cfgOf c) d.stage i = ⟨dr, sr, false, ping⟩)
    (hnt : i.newToken = false) (hrv : i.received = false)
    (hi : handlerIn i ⟨dr, sr, false, ping⟩ = hin d (noiseH n) dr sr false)
    (hexcl : (dr = true → sr = false ∧ ping = false) ∧ (sr = true → ping = false)) :
    Sim1S (cfgOf c) d (reqNowResult c d dr sr ping).1 i (reqNowResult c d dr sr ping).2 := by
  have hc' : ∀ cs, Rel d cs → ctrlComb (cfgOf c) cs.stage i = ⟨dr, sr, false, ping⟩ := fun cs hr => hr.stage ▸ hc
  have hn : ∀ d' : DevState, d'.stage = d.stage → ∀ cs, Rel d cs → ctrlNext (cfgOf c) cs.stage i = d'.stage :=
    fun d' h cs hr => (ctrlNext_idle _ _ hnt hrv).trans (hr.stage.trans h.symm)
  have hq := hs_quiet (cfgOf c) d (noiseH n) hcalm
  cases dr <;> cases sr <;> cases ping <;> simp at hexcl <;>
    simp only [reqNowResult, if_true, if_false, Bool.false_eq_true]
  · exact sim1s_core _ d d i _ _ _ hsd hc' (hn d rfl) hi (hfacts_of_quiet hq rfl rfl)
  · -- PING acknowledged
    refine sim1s_core _ d d i _ _ _ hsd hc' (hn d rfl) hi fun hh hr => ?_
    obtain ⟨q1, -, q3, q4⟩ := hq hh hr
    exact ⟨q1, rfl, q4, by simp [q3.1], by simp [q3.2]⟩
  · exact sim1s_core _ d _ i _ _ _ hsd hc' (hn _ (reqNow_sameCtl c d .status).stage) hi
      (hfacts_of_quiet (hs_req c hx (cfgOf c) d (noiseH n) .status hcalm)
        (reqNow_sameCtl c d .status).address (reqNow_sameCtl c d .status).config)
  · exact sim1s_core _ d _ i _ _ _ hsd hc' (hn _ (reqNow_sameCtl c d .data).stage) hi
      (hfacts_of_quiet (hs_req c hx (cfgOf c) d (noiseH n) .data hcalm)
        (reqNow_sameCtl c d .data).address (reqNow_sameCtl c d .data).config)

theorem sim_ready_s (c : DevConfig) (hx : c.extra = []) (d : DevState) (n : CycIn) (hcalm : CalmH d.hstate (noiseH n)) :
    Sim1S (cfgOf c) d (reqNowResult c d (readyDr d) (readySr d) (readyPing d)).1
      { envIn d n with readyForResponse := true } (reqNowResult c d (readyDr d) (readySr d) (readyPing d)).2 := by
  refine sim_reqNow c hx d _ n _ _ _ hcalm rfl (ctrlComb_ready c d n) rfl rfl rfl ?_
  unfold readyDr readySr readyPing
  cases d.stage <;> simp

theorem sim_rxReady_s (c : DevConfig) (hx : c.extra = []) (d : DevState) (n : CycIn)
    (hcalm : CalmH d.hstate (noiseH n)) :
    Sim1S (cfgOf c) d (reqResult c d false (rxSr d) false).1 { envIn d n with rxReady := true }
      (reqResult c d false (rxSr d) false).2 := by
  have he : reqResult c d false (rxSr d) false = reqNowResult c d false (rxSr d) false := by
    unfold reqResult reqNowResult reqNow
    cases rxSr d <;> simp
  rw [he]
  exact sim_reqNow c hx d _ n _ _ _ hcalm rfl (ctrlComb_rxReady c d n) rfl rfl rfl (by simp)

/-! ### The setup decoder's strobes and the host's ACK -/

theorem sim_sdAck_s (c : DevConfig) (d : DevState) (n : CycIn) (hcalm : CalmH d.hstate (noiseH n)) :
    Sim1S (cfgOf c) d d { envIn d n with sdAck := true } (.hs PID_ACK) := by
  intro cs hr
  obtain ⟨a, -, nf, e, f⟩ := sim_quiet_s c d n hcalm cs hr
  exact ⟨a, by rw [step_outResp]; rfl, nf, e, f⟩

theorem sim_received_s (c : DevConfig) (d : DevState) (p : List Nat) (n : CycIn) (hcalm : CalmH d.hstate (noiseH n)) :
    Sim1S (cfgOf c) d (onSetupData d p).1 { envIn d n with received := true, su := parseSetup p } .none := by
  refine sim1s_core _ d _ _ _ (recvIn (hin d (noiseH n) false false false) (parseSetup p)) ⟨false, false, false, false⟩
    rfl (fun _ _ => ctrlComb_idle _ _ rfl rfl rfl) (fun cs hr => ?_) rfl ?_
  · rw [hr.stage]
    by_cases hty : (parseSetup p).type = TYPE_STANDARD <;> by_cases h0 : d.tokEp = 0 <;>
      cases hs : d.stage <;> simp [ctrlNext, envIn, onSetupData, targeted, cfgOf, hty, h0, hs]
  · refine hfacts_of_quiet (fun hh hr => ?_) ?_ ?_
    · obtain ⟨q1, q⟩ := hs_recv (cfgOf c) d (hin d (noiseH n) false false false) (parseSetup p) hcalm hh hr
      refine ⟨?_, q⟩
      refine q1.congr ?_ ?_ ?_ ?_ <;>
        by_cases hty : (parseSetup p).type = TYPE_STANDARD <;> simp [onSetupData, recvState, hty]
    all_goals by_cases hty : (parseSetup p).type = TYPE_STANDARD <;> simp [onSetupData, hty]

/-- A host ACK, every `max_packet_size`: the event-level model advances `start_position` by `c.maxPacket`, the
cycle-level handler is configured with the same size (`cfgOf c`). -/
theorem sim_hsAck_s (c : DevConfig) (d : DevState) (n : CycIn) (hcalm : CalmH d.hstate (noiseH n)) :
    Sim1S (cfgOf c) d (onHandshakeM c.maxPacket d PID_ACK) { envIn d n with hsAck := true } .none := by
  have hnx : ∀ cs : CycState, ctrlNext (cfgOf c) cs.stage { envIn d n with hsAck := true } = cs.stage :=
    fun cs => ctrlNext_idle _ _ rfl rfl
  by_cases hfw : d.tokEp = 0 ∧ d.tokPid = PID_IN
  · -- forwarded to the handlers
    obtain ⟨b, hb⟩ := onHandshakeM_ack c.maxPacket d hfw.1 hfw.2
    rw [hb]
    refine sim1s_core _ d _ _ _ (hin d (noiseH n) false false true) ⟨false, false, true, false⟩ rfl
      (fun cs _ => by simp [ctrlComb, envIn, targeted, cfgOf, hfw.1, hfw.2])
      (fun cs hr => by rw [hnx]; exact hr.stage.trans (ackStateM_stage _ d).symm) rfl ?_
    intro hh hr
    obtain ⟨q1, q⟩ := hs_ack (cfgOf c) d (noiseH n) hcalm hh hr
    exact ⟨q1.congr rfl rfl rfl rfl, q⟩
  · -- not for this endpoint's IN transaction: invisible
    rw [onHandshakeM_noreach _ d _ fun g => hfw ⟨g.2.1, g.2.2.1⟩]
    refine sim1s_core _ d d _ _ (hin d (noiseH n) false false false) ⟨false, false, false, false⟩ rfl
      (fun cs _ => ?_) (fun cs hr => (hnx cs).trans hr.stage) rfl
      (hfacts_of_quiet (hs_quiet (cfgOf c) d (noiseH n) hcalm) rfl rfl)
    simp only [ctrlComb, envIn, targeted, cfgOf]
    by_cases h0 : d.tokEp = 0 <;> by_cases h1 : d.tokPid = PID_IN <;> simp_all

end LunaVerif.CtrlCyc
