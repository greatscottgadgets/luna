import LunaVerif.Model.Usb2.DescriptorRom
/-!
Helper lemmas for C09 `rom_lookup_correct` (Lemmas/C09RomCorrect.lean): list facts about the generated ROM
(`Rom.layout`): sorting, counting, table lengths, element access.  Core Lean only.
-/
namespace LunaVerif.Desc.Rom

theorem insertSorted_perm (d : Descr) (l : List Descr) : (insertSorted d l).Perm (d :: l) := by
  induction l with
  | nil => exact List.Perm.refl _
  | cons e es ih =>
    unfold insertSorted
    split
    · exact List.Perm.refl _
    · exact (List.Perm.cons e ih).trans (List.Perm.swap d e es)

theorem sortDescrs_perm (c : Collection) : (sortDescrs c).Perm c := by
  induction c with
  | nil => exact List.Perm.refl _
  | cons d ds ih =>
    show (insertSorted d (sortDescrs ds)).Perm (d :: ds)
    exact (insertSorted_perm d _).trans (List.Perm.cons d ih)

theorem insertSorted_sorted (d : Descr) (l : List Descr) (h : l.Pairwise (fun a b => key a ≤ key b)) :
    (insertSorted d l).Pairwise (fun a b => key a ≤ key b) := by
  induction l with
  | nil => simp [insertSorted]
  | cons e es ih =>
    unfold insertSorted
    rw [List.pairwise_cons] at h
    split
    · rename_i hle
      rw [List.pairwise_cons]
      refine ⟨?_, List.pairwise_cons.mpr h⟩
      intro a ha
      rcases List.mem_cons.mp ha with rfl | ha
      · exact hle
      · exact Nat.le_trans hle (h.1 a ha)
    · rename_i hgt
      rw [List.pairwise_cons]
      refine ⟨?_, ih h.2⟩
      intro a ha
      have := (insertSorted_perm d es).mem_iff.mp ha
      rcases List.mem_cons.mp this with rfl | ha
      · omega
      · exact h.1 a ha

theorem sortDescrs_sorted (c : Collection) : (sortDescrs c).Pairwise (fun a b => key a ≤ key b) := by
  induction c with
  | nil => exact List.Pairwise.nil
  | cons d ds ih => exact insertSorted_sorted d _ ih

theorem sortDescrs_strict (c : Collection) (hn : (c.map key).Nodup) :
    (sortDescrs c).Pairwise (fun a b => key a < key b) := by
  have hs := sortDescrs_sorted c
  have hn' : ((sortDescrs c).map key).Nodup := ((sortDescrs_perm c).map key).nodup_iff.mpr hn
  rw [List.Nodup, List.pairwise_map] at hn'
  have := hs.and hn'
  exact this.imp (fun ⟨h1, h2⟩ => by omega)

theorem filter_length_perm {l l' : List Descr} (h : l.Perm l') (p : Descr → Bool) :
    (l.filter p).length = (l'.filter p).length := (h.filter p).length_eq

theorem split_sorted (s : List Descr) (hs : s.Pairwise (fun a b => key a < key b)) (d : Descr) (hd : d ∈ s) :
    ∃ pre post, s = pre ++ d :: post ∧ (∀ e ∈ pre, key e < key d) ∧ (∀ e ∈ post, key d < key e) := by
  obtain ⟨pre, post, rfl⟩ := List.append_of_mem hd
  rw [List.pairwise_append, List.pairwise_cons] at hs
  exact ⟨pre, post, rfl, fun e he => hs.2.2 e he d (List.mem_cons_self ..), hs.2.1.1⟩

theorem filter_length_compl (l : List Descr) (p q : Descr → Bool) (h : ∀ e ∈ l, p e = !q e) :
    (l.filter p).length + (l.filter q).length = l.length := by
  rw [← List.countP_eq_length_filter, ← List.countP_eq_length_filter, List.length_eq_countP_add_countP q (l := l), Nat.add_comm]
  congr 1
  exact List.countP_congr (fun e he => by simp [h e he])

theorem filter_length_none (l : List Descr) (p : Descr → Bool) (h : ∀ e ∈ l, p e = false) :
    (l.filter p).length = 0 := by
  rw [List.length_eq_zero_iff, List.filter_eq_nil_iff]
  intro e he; simp [h e he]

theorem filter_length_all (l : List Descr) (p : Descr → Bool) (h : ∀ e ∈ l, p e = true) :
    (l.filter p).length = l.length := by
  rw [List.filter_eq_self.mpr h]

/-- The position of `d` in the sorted list splits as the lookup in the ROM does: `countBelow` is where the type word
points (`typeWord`), the rank of `d` within its type is the index the FSM adds (`Image.descrIdx`). -/
theorem position (pre post : List Descr) (d : Descr)
    (hidx : ∀ e ∈ pre ++ d :: post, e.idx < 256)
    (hpre : ∀ e ∈ pre, key e < key d) (hpost : ∀ e ∈ post, key d < key e) :
    pre.length = countBelow (pre ++ d :: post) d.ty + (pre.filter (fun e => e.ty == d.ty)).length
    ∧ (pre.filter (fun e => e.ty == d.ty)).length
        = ((pre ++ d :: post).filter (fun e => e.ty == d.ty && decide (e.idx < d.idx))).length
    ∧ (pre.filter (fun e => e.ty == d.ty)).length < countType (pre ++ d :: post) d.ty := by
  have hd : d.idx < 256 := hidx d (by simp)
  have hpre' : ∀ e ∈ pre, e.ty < d.ty ∨ (e.ty = d.ty ∧ e.idx < d.idx) := by
    intro e he
    have h1 := hpre e he
    have h2 := hidx e (by simp [he])
    unfold key at h1; omega
  have hpost' : ∀ e ∈ post, d.ty < e.ty ∨ (e.ty = d.ty ∧ d.idx < e.idx) := by
    intro e he
    have h1 := hpost e he
    have h2 := hidx e (by simp [he])
    unfold key at h1; omega
  refine ⟨?_, ?_, ?_⟩
  · unfold countBelow
    rw [List.filter_append, List.length_append, List.filter_cons]
    have h0 : (post.filter (fun e => decide (e.ty < d.ty))).length = 0 :=
      filter_length_none _ _ (fun e he => by rcases hpost' e he with h | h <;> simp <;> omega)
    have h1 := filter_length_compl pre (fun e => decide (e.ty < d.ty)) (fun e => e.ty == d.ty)
      (fun e he => by
        rcases hpre' e he with h | h
        · have : ¬ e.ty = d.ty := by omega
          simp [h, this]
        · simp [h.1])
    simp only [Nat.lt_irrefl, decide_false, Bool.false_eq_true, if_false, h0]
    omega
  · rw [List.filter_append, List.length_append, List.filter_cons]
    have h0 : (post.filter (fun e => e.ty == d.ty && decide (e.idx < d.idx))).length = 0 :=
      filter_length_none _ _ (fun e he => by
        rcases hpost' e he with h | h
        · have : ¬ e.ty = d.ty := by omega
          simp [this]
        · have : ¬ e.idx < d.idx := by omega
          simp [this])
    have h1 : pre.filter (fun e => e.ty == d.ty && decide (e.idx < d.idx)) = pre.filter (fun e => e.ty == d.ty) :=
      List.filter_congr (fun e he => by
        rcases hpre' e he with h | h
        · have : ¬ e.ty = d.ty := by omega
          simp [this]
        · simp [h.1, h.2])
    simp only [Nat.lt_irrefl, decide_false, Bool.and_false, Bool.false_eq_true, if_false, h0, h1]
    omega
  · unfold countType
    rw [List.filter_append, List.length_append, List.filter_cons]
    simp only [beq_self_eq_true, if_true, List.length_cons]
    omega

theorem keys_interval_le (l : List Descr) (a n : Nat) (hn : (l.map key).Nodup)
    (h : ∀ e ∈ l, a ≤ key e ∧ key e < a + n) : l.length ≤ n := by
  have := hn.length_le_of_subset (l₂ := List.range' a n) (fun x hx => by
    obtain ⟨e, he, rfl⟩ := List.mem_map.mp hx
    exact List.mem_range'_1.mpr (h e he))
  simpa using this

theorem nodup_filter_keys (l : List Descr) (p : Descr → Bool) (hn : (l.map key).Nodup) :
    ((l.filter p).map key).Nodup :=
  hn.sublist ((List.filter_sublist (l := l)).map key)

theorem keys_split (l : List Descr) (c a i b m : Nat) (hn : (l.map key).Nodup)
    (hlo : ∀ e ∈ l, key e < c → a ≤ key e ∧ key e < a + i)
    (hhi : ∀ e ∈ l, ¬ key e < c → b ≤ key e ∧ key e < b + m) :
    (l.filter (fun e => decide (key e < c))).length ≤ i
    ∧ (l.filter (fun e => decide (key e < c))).length + (l.filter (fun e => !decide (key e < c))).length = l.length
    ∧ (l.filter (fun e => !decide (key e < c))).length ≤ m := by
  refine ⟨keys_interval_le _ a i (nodup_filter_keys _ _ hn) fun e he => ?_,
    filter_length_compl l _ _ (fun e _ => by simp),
    keys_interval_le _ b m (nodup_filter_keys _ _ hn) fun e he => ?_⟩
  · rw [List.mem_filter, decide_eq_true_eq] at he
    exact hlo e he.1 he.2
  · rw [List.mem_filter, Bool.not_eq_true', decide_eq_false_iff_not] at he
    exact hhi e he.1 he.2

theorem keys_below (l : List Descr) (a i : Nat) (hn : (l.map key).Nodup)
    (h : ∀ e ∈ l, a ≤ key e ∧ key e < a + l.length) (hi : i ≤ l.length) :
    (l.filter (fun e => decide (key e < a + i))).length = i := by
  have := keys_split l (a + i) a i (a + i) (l.length - i) hn (fun e he hlt => ⟨(h e he).1, hlt⟩)
    (fun e he hge => by have := h e he; omega)
  omega

theorem keys_avoiding (l : List Descr) (a n i : Nat) (hn : (l.map key).Nodup)
    (h : ∀ e ∈ l, a ≤ key e ∧ key e < a + n ∧ key e ≠ a + i) (hi : i < n) :
    l.length < n := by
  have := keys_split l (a + i) a i (a + i + 1) (n - i - 1) hn (fun e he hlt => ⟨(h e he).1, hlt⟩)
    (fun e he hge => by have := h e he; omega)
  omega

theorem le_foldl_max (f : Descr → Nat) (l : List Descr) (m : Nat) (e : Descr) (he : e ∈ l) :
    f e ≤ l.foldl (fun m e => max m (f e)) m := by
  rw [← List.foldl_map (g := max), List.foldl_max]
  exact Nat.le_trans (List.le_max?_getD_of_mem (List.mem_map_of_mem he)) (Nat.le_max_right ..)

theorem ty_le_maxType (c : Collection) (d : Descr) (h : d ∈ c) : d.ty ≤ maxType c :=
  le_foldl_max (·.ty) c 0 d h

theorem len_le_maxLen (c : Collection) (d : Descr) (h : d ∈ c) : d.bytes.length ≤ maxLen c :=
  le_foldl_max (·.bytes.length) c 0 d h

/-- direct indexing is chosen only when the indexes of every type stay below their number. -/
theorem direct_bound (c : Collection) (h : indirect c = false) (d : Descr) (hd : d ∈ c) :
    ∀ e ∈ c, e.ty = d.ty → e.idx < countType c d.ty := by
  intro e he hty
  unfold indirect at h
  rw [List.any_eq_false] at h
  have h1 := h d hd
  simp only [bne_iff_ne, ne_eq, Decidable.not_not] at h1
  have hmem : e ∈ c.filter (fun e => e.ty == d.ty) := by
    rw [List.mem_filter]; exact ⟨he, by simp [hty]⟩
  have h2 := le_foldl_max (·.idx) (c.filter (fun e => e.ty == d.ty)) 0 e hmem
  have h3 : 0 < (c.filter (fun e => e.ty == d.ty)).length := List.length_pos_of_mem hmem
  unfold countType
  omega

theorem direct_rank (c : Collection) (t i : Nat) (hn : (c.map key).Nodup)
    (hb : ∀ e ∈ c, e.ty = t → e.idx < countType c t) (hi : i ≤ countType c t) :
    (c.filter (fun e => e.ty == t && decide (e.idx < i))).length = i := by
  have h := keys_below (c.filter (fun e => e.ty == t)) (t * 256) i (nodup_filter_keys c _ hn) (by
    intro e he
    rw [List.mem_filter] at he
    have h1 := hb e he.1 (by simpa using he.2)
    have h2 : e.ty = t := by simpa using he.2
    unfold countType at h1
    unfold key; omega) hi
  rw [List.filter_filter] at h
  refine Eq.trans ?_ h
  congr 1
  apply List.filter_congr
  intro e _
  by_cases h2 : e.ty = t
  · have : key e < t * 256 + i ↔ e.idx < i := by unfold key; omega
    simp [h2, this]
  · have h3 : (e.ty == t) = false := beq_false_of_ne h2
    rw [h3]; simp

/-- a type none of whose descriptors has index `i`, all its indexes below some `n > i`, has fewer than `n` descriptors.
With `n` the count itself: direct indexing refuses `i`.  With `n = 256`: the `0xFF` that `Image.descrIdx` gives an index
missing from `index_map` is never below the count. -/
theorem count_lt_of_absent (c : Collection) (t n i : Nat) (hn : (c.map key).Nodup)
    (hb : ∀ e ∈ c, e.ty = t → e.idx < n) (hi : i < n)
    (habs : ∀ e ∈ c, ¬ (e.ty = t ∧ e.idx = i)) : countType c t < n :=
  keys_avoiding (c.filter (fun e => e.ty == t)) (t * 256) n i (nodup_filter_keys c _ hn) (by
    intro e he
    rw [List.mem_filter] at he
    have h2 : e.ty = t := by simpa using he.2
    have h1 := hb e he.1 h2
    have h3 := habs e he.1
    unfold key; omega) hi

def sumAlign : List Descr → Nat
  | [] => 0
  | d :: ds => alignWords d.bytes.length + sumAlign ds

theorem sumAlign_append (a b : List Descr) : sumAlign (a ++ b) = sumAlign a + sumAlign b := by
  induction a with
  | nil => simp [sumAlign]
  | cons d ds ih => simp only [List.cons_append, sumAlign, ih]; omega

theorem typeTable_length (c : Collection) : (typeTable c).length = maxType c + 1 := by
  simp [typeTable]

theorem typeTable_get (c : Collection) (t : Nat) (h : t ≤ maxType c) :
    (typeTable c)[t]? = some (typeWord c t) := by
  unfold typeTable
  rw [List.getElem?_map, List.getElem?_range (by omega)]
  rfl

theorem entryTable_length (s : List Descr) : ∀ a, (entryTable s a).length = s.length := by
  induction s with
  | nil => intro a; rfl
  | cons d ds ih => intro a; simp only [entryTable, List.length_cons, ih]

theorem entryTable_append (pre post : List Descr) : ∀ a,
    entryTable (pre ++ post) a = entryTable pre a ++ entryTable post (a + 4 * sumAlign pre) := by
  induction pre with
  | nil => intro a; simp [entryTable, sumAlign]
  | cons d ds ih =>
    intro a
    simp only [List.cons_append, entryTable, ih, sumAlign]
    congr 3
    omega

theorem packWords_length (b : List Nat) : (packWords b).length = alignWords b.length := by
  fun_induction packWords b with
  | case1 => rfl
  | case2 => simp [alignWords]
  | case3 => simp [alignWords]
  | case4 => simp [alignWords]
  | case5 a b c d rest ih =>
    simp only [List.length_cons, ih]
    unfold alignWords
    omega

theorem dataWords_length (s : List Descr) : (dataWords s).length = sumAlign s := by
  induction s with
  | nil => rfl
  | cons d ds ih =>
    unfold dataWords at ih ⊢
    simp only [List.flatMap_cons, List.length_append, ih, packWords_length, sumAlign]

theorem dataWords_split (pre post : List Descr) (d : Descr) :
    dataWords (pre ++ d :: post) = dataWords pre ++ (packWords d.bytes ++ dataWords post) := by
  unfold dataWords
  rw [List.flatMap_append, List.flatMap_cons]

theorem word_byte (a b c d j : Nat) (ha : a < 256) (hb : b < 256) (hc : c < 256) (hd : d < 256) (hj : j < 4) :
    (a * 16777216 + b * 65536 + c * 256 + d) / 256 ^ (3 - j) % 256 = [a, b, c, d][j]?.getD 0 := by
  obtain rfl | rfl | rfl | rfl : j = 0 ∨ j = 1 ∨ j = 2 ∨ j = 3 := by omega
  all_goals simp
  all_goals omega

/-- The word is a variable `w`: with `a * 16777216 + …` written out in the list the kernel is slow on
`List.getElem?_cons_zero`. -/
theorem head_byte (w a b c d k : Nat) (ws : List Nat) (hw : w = a * 16777216 + b * 65536 + c * 256 + d)
    (ha : a < 256) (hb : b < 256) (hc : c < 256) (hd : d < 256) (hk : k < 4) :
    ((w :: ws)[k / 4]?.getD 0 / 256 ^ (3 - k % 4)) % 256 = [a, b, c, d][k]?.getD 0 := by
  rw [Nat.div_eq_of_lt hk, Nat.mod_eq_of_lt hk, List.getElem?_cons_zero, Option.getD_some, hw]
  exact word_byte a b c d k ha hb hc hd hk

theorem packWords_byte (b : List Nat) (hb : ∀ x ∈ b, x < 256) : ∀ k, k < b.length →
    ((packWords b)[k / 4]?.getD 0 / 256 ^ (3 - k % 4)) % 256 = b[k]?.getD 0 := by
  fun_induction packWords b with
  | case1 => intro k hk; simp at hk
  | case2 a =>
    intro k hk
    have h := head_byte (a * 16777216) a 0 0 0 k [] (by omega) (hb a (by simp)) (by omega) (by omega) (by omega) (by simp at hk; omega)
    obtain rfl : k = 0 := by simpa using hk
    exact h
  | case3 a b =>
    intro k hk
    have h := head_byte (a * 16777216 + b * 65536) a b 0 0 k [] (by omega) (hb a (by simp)) (hb b (by simp)) (by omega) (by omega)
      (by simp at hk; omega)
    obtain rfl | rfl : k = 0 ∨ k = 1 := by simp at hk; omega
    all_goals exact h
  | case4 a b c =>
    intro k hk
    have h := head_byte (a * 16777216 + b * 65536 + c * 256) a b c 0 k [] (by omega) (hb a (by simp)) (hb b (by simp)) (hb c (by simp)) (by omega)
      (by simp at hk; omega)
    obtain rfl | rfl | rfl : k = 0 ∨ k = 1 ∨ k = 2 := by simp at hk; omega
    all_goals exact h
  | case5 a b c d rest ih =>
    intro k hk
    by_cases h4 : k < 4
    · have h := head_byte _ a b c d k (packWords rest) rfl (hb a (by simp)) (hb b (by simp)) (hb c (by simp))
        (hb d (by simp)) h4
      obtain rfl | rfl | rfl | rfl : k = 0 ∨ k = 1 ∨ k = 2 ∨ k = 3 := by omega
      all_goals exact h
    · obtain ⟨j, rfl⟩ : ∃ j, k = j + 4 := ⟨k - 4, by omega⟩
      have h1 : (j + 4) / 4 = j / 4 + 1 := by omega
      have h2 : (j + 4) % 4 = j % 4 := by omega
      rw [h1, h2]
      have := ih (fun x hx => hb x (by simp [hx])) j (by simp at hk; omega)
      simpa using this

end LunaVerif.Desc.Rom
