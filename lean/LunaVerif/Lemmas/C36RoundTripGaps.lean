import LunaVerif.Lemmas.C36HeaderRxGaps
import LunaVerif.Props.C40
/-!
# C36 — the frame, received by the data receiver model

The words of `frame hdr payload` are fed, from reset, to `DataPacketReceiver` (the model of C40, after its
repairs).  A stalling PHY on a ready-gated channel shows the receiver `sink.valid = 0` words between the
words of the frame.  For every word history whose VALID words are the frame — invalid words (whatever
their data) anywhere, any number — the receiver delivers exactly the payload bytes, raises `packet_good`
once and `packet_bad` never, and publishes the header sent (`rx_of_tx_gaps`); the bare frame is the
special case `dpr_of_frame`.

`dpr_header` and `delivers_payload_part` are the receiver over the bare pieces of the frame; two generic
facts about the receiver model remove the invalid words: `run_exact_stutter` (if every state on the
valid-only path treats an invalid word as an exact stutter) for the header phase, and `run_dpp_gaps`
(inside a payload and after it, as long as no header start arrives) for the rest.
-/
namespace LunaVerif.RoundTrip

open LunaVerif.RawPacketTransmitter (Header frame dppTail closing specDw3 headerFrame
  sinkWords dppSyms pack SinkWord Stream lanes wordBytes lastWordData crcWord finishWord)
open LunaVerif.DataPacketReceiver (State In Out step run final quiet validOnly allLaneBytes countVerdicts
  laneBytes verdict inDpp init)

def rxIn (w : Nat × Nat) : DataPacketReceiver.In := ⟨true, w.1, w.2⟩
def rxIns (ws : List (Nat × Nat)) : List DataPacketReceiver.In := ws.map rxIn

structure Obs where
  bytes    : List Nat
  verdicts : Nat
  bads     : Nat
  fsm      : DataPacketReceiver.Fsm
  outHdr   : DataPacketReceiver.Hdr
deriving DecidableEq

def countBad : List Out → Nat
  | [] => 0
  | o :: os => DataPacketReceiver.b2n o.bad + countBad os

def obs (s : State) (h : List In) : Obs :=
  ⟨allLaneBytes (run s h), countVerdicts (run s h), countBad (run s h), (final s h).fsm, (final s h).outHdr⟩

theorem obs_cons (s : State) (i : In) (h : List In) :
    obs s (i :: h) = ⟨laneBytes (step s i).2 ++ (obs (step s i).1 h).bytes,
      DataPacketReceiver.b2n (verdict (step s i).2) + (obs (step s i).1 h).verdicts,
      DataPacketReceiver.b2n (step s i).2.bad + (obs (step s i).1 h).bads,
      (obs (step s i).1 h).fsm, (obs (step s i).1 h).outHdr⟩ := rfl

theorem obs_append (s : State) (a b : List In) :
    obs s (a ++ b) = ⟨(obs s a).bytes ++ (obs (final s a) b).bytes, (obs s a).verdicts + (obs (final s a) b).verdicts,
      (obs s a).bads + (obs (final s a) b).bads, (obs (final s a) b).fsm, (obs (final s a) b).outHdr⟩ := by
  induction a generalizing s with
  | nil => simp [obs, run, final, allLaneBytes, countVerdicts, countBad]
  | cons i is ih =>
    have := ih (step s i).1
    simp only [obs, Obs.mk.injEq] at this ⊢
    obtain ⟨a1, a2, a3, a4, a5⟩ := this
    simp only [List.cons_append, run, final, allLaneBytes, countVerdicts, countBad]
    exact ⟨by rw [a1, List.append_assoc], by rw [a2]; omega, by rw [a3]; omega, a4, a5⟩

theorem bad_of_countBad_zero (outs : List Out) (h : countBad outs = 0) : ∀ o ∈ outs, o.bad = false := by
  induction outs with
  | nil => simp
  | cons o os ih =>
    simp only [countBad] at h
    intro x hx
    rcases List.mem_cons.mp hx with e | e
    · subst e
      cases hb : x.bad
      · rfl
      · simp [hb, DataPacketReceiver.b2n] at h
    · exact ih (by omega) x e

/-- What the data receiver is to do with the rest of a packet: deliver exactly `bytes`, raise exactly
one verdict, never `bad`, and be back in WAIT_FOR_HPSTART with the published header untouched. -/
def Delivers (s : State) (ins : List In) (bytes : List Nat) : Prop :=
  obs s ins = ⟨bytes, 1, 0, .waitHp, s.outHdr⟩

theorem delivers_cons (s : State) (i : In) (ins : List In) (b1 b2 : List Nat)
    (h1 : laneBytes (step s i).2 = b1) (h2 : verdict (step s i).2 = false)
    (h3 : (step s i).1.outHdr = s.outHdr) (hn : Delivers (step s i).1 ins b2) :
    Delivers s (i :: ins) (b1 ++ b2) := by
  have hb : (step s i).2.bad = false := by
    simp only [verdict, Bool.or_eq_false_iff] at h2; exact h2.2
  rw [Delivers, obs_cons, hn, h1, h2, hb, h3]
  rfl

/-- The CRC word and the closing word, received in CHECK_CRC32 with a matching field (`hok`); the
closing word (whatever it is, as long as it is not a header start) is ignored. -/
theorem delivers_check (s : State) (hs : s.fsm = .checkCrc) (cw cc fw fc : Nat)
    (hok : DataPacketReceiver.dataToCheck s.prevValid s.prevWord (cw % 2 ^ 32) = DataPacketReceiver.crc32Of s.crc32In)
    (hf : ¬ (fw % 2 ^ 32 = DataPacketReceiver.HPSTART ∧ fc % 16 = 0xF)) :
    Delivers s [⟨true, cw, cc⟩, ⟨true, fw, fc⟩] [] := by
  have hf' : (fw % 2 ^ 32 == DataPacketReceiver.HPSTART && fc % 16 == 0xF) = false := by
    cases h1 : (fw % 2 ^ 32 == DataPacketReceiver.HPSTART) <;> cases h2 : (fc % 16 == 0xF) <;> simp_all
  simp [Delivers, obs, run, final, step, hs, quiet, allLaneBytes, laneBytes, countVerdicts, countBad, verdict,
    DataPacketReceiver.b2n, DataPacketReceiver.wordBytes, hok, hf']

theorem payload_keeps_hdr (s : DataPacketReceiver.State) (hs : s.fsm = .payload) (i : DataPacketReceiver.In) :
    (DataPacketReceiver.step s i).1.outHdr = s.outHdr := by
  obtain ⟨v, d, c⟩ := i
  cases v <;> simp [DataPacketReceiver.step, hs]

theorem crc32Of_eq (bytes : List Nat) : DataPacketReceiver.crc32Of bytes = RawPacketTransmitter.crc32Of bytes := rfl

/-- The three closing words as the receiver reads them back: the last payload word carries the valid
bytes of the pipeline word, the CRC field assembled from it and from the CRC word is the CRC sent, and the
closing word is not a header start. -/
theorem closing_received (pv pw crc : Nat) (hpv : pv = 1 ∨ pv = 3 ∨ pv = 7 ∨ pv = 15) (hp : pw < 2 ^ 32)
    (hc : crc < 2 ^ 32) :
    lastWordData pv pw crc < 2 ^ 32 ∧
    (DataPacketReceiver.wordBytes (lastWordData pv pw crc)).take (lanes pv) = (wordBytes pw).take (lanes pv) ∧
    DataPacketReceiver.dataToCheck (2 ^ lanes pv - 1) (lastWordData pv pw crc) ((crcWord pv crc).1 % 2 ^ 32) = crc ∧
    ¬ ((finishWord pv).1 % 2 ^ 32 = DataPacketReceiver.HPSTART ∧ (finishWord pv).2 % 16 = 0xF) := by
  have hE : RawPacketTransmitter.END = 0xFD := rfl
  refine ⟨(RawPacketTransmitter.closing_range pv pw crc hpv hp hc _ List.mem_cons_self).1, ?_, ?_,
    by rcases hpv with rfl | rfl | rfl | rfl <;> decide⟩ <;>
    rcases hpv with rfl | rfl | rfl | rfl <;>
    simp [lastWordData, crcWord, lanes, DataPacketReceiver.wordBytes, wordBytes, DataPacketReceiver.dataToCheck] <;>
    omega

/-- The last payload word (`lanes pv` = 1..4 payload bytes, then the beginning of the CRC), the CRC word
and the closing word, received with that many bytes remaining. -/
theorem delivers_closing (pv pw crc : Nat) (hpv : pv = 1 ∨ pv = 3 ∨ pv = 7 ∨ pv = 15) (hp : pw < 2 ^ 32)
    (hc : crc < 2 ^ 32) (s : DataPacketReceiver.State) (hs : s.fsm = .payload) (hr : s.remaining = lanes pv)
    (hcrc : DataPacketReceiver.crc32Of (s.crc32In ++ (wordBytes pw).take (lanes pv)) = crc) :
    Delivers s (rxIns (closing pv pw crc)) ((wordBytes pw).take (lanes pv)) := by
  obtain ⟨hd, hbytes, hchk, hfin⟩ := closing_received pv pw crc hpv hp hc
  have hk : 1 ≤ lanes pv ∧ lanes pv ≤ 4 := by rcases hpv with rfl | rfl | rfl | rfl <;> decide
  obtain ⟨p1, p2, p4, p8, p5, p6⟩ :=
    DataPacketReceiver.payload_word_last s hs (lastWordData pv pw crc) hd (by omega) (by omega)
  rw [hr] at p1 p4 p6
  have hn := delivers_check (DataPacketReceiver.step s ⟨true, lastWordData pv pw crc, 0⟩).1
    p8 (crcWord pv crc).1 (crcWord pv crc).2 (finishWord pv).1 (finishWord pv).2
    (by rw [p5, p6, p4, hbytes, hcrc]; exact hchk) hfin
  have := delivers_cons s ⟨true, lastWordData pv pw crc, 0⟩ _ _ []
    (by rw [p1, hbytes]) p2 (payload_keeps_hdr s hs _) hn
  simpa [rxIns, rxIn, closing] using this

/-- **The data receiver over the payload part, every non-zero length** (`Stream ws` has at least one word; the
zero-length payload is the first case of `delivers_payload_part`): from RECEIVE_PAYLOAD with as many bytes
remaining as the stream `ws` carries and the CRC unit holding `acc`, the words `dppTail acc ws` deliver
exactly those bytes, one verdict, never `bad`. -/
theorem delivers_tail (acc : List Nat) (ws : List SinkWord) (hws : Stream ws)
    (s : DataPacketReceiver.State) (hs : s.fsm = .payload)
    (hr : s.remaining = (ws.flatMap SinkWord.bytes).length) (hc : s.crc32In = acc) :
    Delivers s (rxIns (dppTail acc ws)) (ws.flatMap SinkWord.bytes) := by
  fun_induction dppTail acc ws generalizing s with
  | case1 => exact hws.elim
  | case2 acc w =>
    obtain ⟨_, hv, hd⟩ := hws
    have := delivers_closing w.valid w.data _ hv hd (RawPacketTransmitter.crc32Of_lt (acc ++ w.bytes)) s hs
      (by simpa [(SinkWord.length_bytes hv).1] using hr) (by rw [hc]; rfl)
    simpa [SinkWord.bytes] using this
  | case3 acc w ws hne ih =>
    obtain ⟨_, hv, hd, hws'⟩ := hws.of_cons (by simpa using hne)
    have hb := SinkWord.bytes_full hv
    have hrem : s.remaining = (ws.flatMap SinkWord.bytes).length + 4 := by
      rw [hr, List.flatMap_cons, List.length_append, hb, Nat.add_comm]; rfl
    have hpos : 0 < (ws.flatMap SinkWord.bytes).length := hws'.bytes_pos
    obtain ⟨p1, p2, p4, q1, q2⟩ := DataPacketReceiver.payload_word_full s hs w.data hd (by omega)
    have hwb : DataPacketReceiver.wordBytes w.data = w.bytes := by rw [hb]; rfl
    have hn := ih hws' (DataPacketReceiver.step s ⟨true, w.data, 0⟩).1 q1 (by rw [q2, hrem]; simp)
      (by rw [p4, hwb, hc])
    have := delivers_cons s ⟨true, w.data, 0⟩ _ w.bytes _ (by rw [p1, hwb]) p2 (payload_keeps_hdr s hs _) hn
    simpa [rxIns, rxIn] using this

def dprHdr (h : Header) : DataPacketReceiver.Hdr := ⟨h.dw0, h.dw1, h.dw2, dw3Of h⟩

/-- The state of the data receiver after HPSTART, DWORD 0..3 and DPPSTART of a DATA header, from reset. -/
def afterDppStart (h : Header) : DataPacketReceiver.State :=
  let len := h.dw1 / 2 ^ 16 % 2 ^ 11
  ⟨if len == 0 then .checkCrc else .payload, dprHdr h, RawPacketTransmitter.crc5Of h.lcw, len, 0,
   if len == 0 then 15 else 0, [h.dw0, h.dw1, h.dw2], [], dprHdr h, true, true⟩

def hdrIns (h : Header) : List DataPacketReceiver.In :=
  rxIns (headerFrame h.dw0 h.dw1 h.dw2 h.lcw ++ [(RawPacketTransmitter.DPPSTART, 0xF)])

/-- **Header phase of the data receiver**: the six words are consumed silently, both header CRCs are
found valid, the header is published and the byte counter loaded with the length field. -/
theorem dpr_header (h : Header) (hw : h.wf) (hty : h.dw0 % 32 = 8) :
    final init (hdrIns h) = afterDppStart h ∧
    obs init (hdrIns h) = ⟨[], 0, 0, (afterDppStart h).fsm, dprHdr h⟩ := by
  obtain ⟨w0, w1, w2, w3⟩ := hw
  obtain ⟨f0, f1, f2, f3, _, _⟩ := dw3_fields h w3
  have m0 : h.dw0 % 2 ^ 32 = h.dw0 := Nat.mod_eq_of_lt w0
  have m1 : h.dw1 % 2 ^ 32 = h.dw1 := Nat.mod_eq_of_lt w1
  have m2 : h.dw2 % 2 ^ 32 = h.dw2 := Nat.mod_eq_of_lt w2
  have m3 : dw3Of h % 2 ^ 32 = dw3Of h := Nat.mod_eq_of_lt f0
  have e16 : DataPacketReceiver.crc16Of [h.dw0, h.dw1, h.dw2] = RawPacketTransmitter.crc16Of [h.dw0, h.dw1, h.dw2] := rfl
  have e5 : ∀ x, DataPacketReceiver.crc5Of x = RawPacketTransmitter.crc5Of x := fun _ => rfl
  have t0 : (h.dw0 % 32 != DataPacketReceiver.TYPE_DATA) = false := by simp [hty, DataPacketReceiver.TYPE_DATA]
  have hd3 : specDw3 h.dw0 h.dw1 h.dw2 h.lcw = dw3Of h := rfl
  simp only [obs, hdrIns, rxIns, rxIn, headerFrame, List.map_cons, List.map_nil, List.cons_append, List.nil_append,
    DataPacketReceiver.final, DataPacketReceiver.run, DataPacketReceiver.init, afterDppStart, dprHdr, hd3]
  simp [DataPacketReceiver.step, DataPacketReceiver.HPSTART, RawPacketTransmitter.HPSTART,
    RawPacketTransmitter.DPPSTART, DataPacketReceiver.DPPSTART, m0, m1, m2, m3, t0, f1, f2, f3, e16, e5,
    DataPacketReceiver.allLaneBytes, DataPacketReceiver.laneBytes, DataPacketReceiver.quiet,
    DataPacketReceiver.countVerdicts, countBad, DataPacketReceiver.verdict, DataPacketReceiver.b2n]
  split <;> simp_all [DataPacketReceiver.wordBytes]

theorem delivers_payload_part (h : Header) (payload : List Nat) (hb : ∀ x ∈ payload, x < 256)
    (hlen : payload.length = h.dw1 / 2 ^ 16 % 2 ^ 11) :
    Delivers (afterDppStart h) (rxIns (pack (dppSyms payload))) payload := by
  by_cases hemp : payload = []
  · subst hemp
    have hl0 : h.dw1 / 2 ^ 16 % 2 ^ 11 = 0 := by simpa using hlen.symm
    rw [← RawPacketTransmitter.dppTail_sinkWords [] hb]
    have hc := RawPacketTransmitter.crc32Of_lt []
    have := delivers_check (afterDppStart h) (by simp [afterDppStart, hl0]) (RawPacketTransmitter.crc32Of []) 0
      RawPacketTransmitter.DPPEND 0xF
      (by simp [afterDppStart, hl0, DataPacketReceiver.dataToCheck, crc32Of_eq]; omega) (by decide)
    simpa [rxIns, rxIn, sinkWords, dppTail, crcWord, finishWord] using this
  · have hl0 : h.dw1 / 2 ^ 16 % 2 ^ 11 ≠ 0 := by
      rw [← hlen]; intro hz; exact hemp (List.length_eq_zero_iff.mp hz)
    have hl0' : (h.dw1 / 2 ^ 16 % 2 ^ 11 == 0) = false := by simpa using hl0
    obtain ⟨hst, hby⟩ := RawPacketTransmitter.sinkWords_stream payload hb
    rw [← RawPacketTransmitter.dppTail_sinkWords payload hb]
    have := delivers_tail [] (sinkWords payload)
      (hst.resolve_left (mt (RawPacketTransmitter.sinkWords_eq_nil payload).mp hemp)) (afterDppStart h) (by simp [afterDppStart, hl0'])
      (by simp [afterDppStart, hby, hlen]) (by simp [afterDppStart])
    rwa [hby] at this

def Stutters (s : State) : Prop := ∀ d c, (step s ⟨false, d, c⟩).1 = s ∧
  laneBytes (step s ⟨false, d, c⟩).2 = [] ∧ (step s ⟨false, d, c⟩).2.good = false ∧ (step s ⟨false, d, c⟩).2.bad = false

theorem obs_cons_inert (s : State) (i : In) (h : List In) (h1 : laneBytes (step s i).2 = [])
    (h2 : (step s i).2.good = false) (h3 : (step s i).2.bad = false) :
    obs s (i :: h) = obs (step s i).1 h := by
  simp [obs_cons, h1, h2, h3, verdict, DataPacketReceiver.b2n]

theorem quiet_inert (s : State) : laneBytes (quiet s) = [] ∧ (quiet s).good = false ∧ (quiet s).bad = false := by
  simp [quiet, laneBytes, DataPacketReceiver.wordBytes]

/-- If every state on the valid-only path stutters exactly on invalid words, these can be removed. -/
theorem run_exact_stutter (h : List In) (s : State)
    (hp : ∀ k, k ≤ (validOnly h).length → Stutters (final s ((validOnly h).take k))) :
    obs s h = obs s (validOnly h) ∧ final s h = final s (validOnly h) := by
  induction h generalizing s with
  | nil => exact ⟨rfl, rfl⟩
  | cons i is ih =>
    obtain ⟨v, d, c⟩ := i
    cases v
    · have hv : validOnly (⟨false, d, c⟩ :: is) = validOnly is := by simp [validOnly]
      rw [hv] at hp ⊢
      have hst : Stutters s := by
        have := hp 0 (Nat.zero_le _)
        simpa [final] using this
      obtain ⟨hs, q1, q2, q3⟩ := hst d c
      have e1 := obs_cons_inert s ⟨false, d, c⟩ is q1 q2 q3
      rw [hs] at e1
      obtain ⟨r1, r2⟩ := ih s hp
      exact ⟨by rw [e1, r1], by simp only [final, hs]; exact r2⟩
    · have hv : validOnly (⟨true, d, c⟩ :: is) = ⟨true, d, c⟩ :: validOnly is := by simp [validOnly]
      rw [hv] at hp ⊢
      have hp' : ∀ k, k ≤ (validOnly is).length →
          Stutters (final (step s ⟨true, d, c⟩).1 ((validOnly is).take k)) := by
        intro k hk
        have := hp (k + 1) (by simp; omega)
        simpa [final] using this
      obtain ⟨r1, r2⟩ := ih (step s ⟨true, d, c⟩).1 hp'
      exact ⟨by rw [obs_cons, obs_cons, r1], by simp only [final]; exact r2⟩

def Late (s : State) : Prop := s.fsm = .payload ∨ s.fsm = .checkCrc ∨ s.fsm = .waitHp

def isHp (i : In) : Bool := i.valid && i.data % 2 ^ 32 == DataPacketReceiver.HPSTART && i.ctrl % 16 == 0xF

theorem late_step (s : State) (hs : Late s) (i : In) (hi : isHp i = false) : Late (step s i).1 := by
  obtain ⟨v, d, c⟩ := i
  cases v
  · rcases DataPacketReceiver.step_invalid s d c with e | e
    · rwa [e]
    · exact Or.inr (Or.inr e)
  · obtain ⟨f, hh, e, r, pw, pv, c16, c32, oh, nh, fi⟩ := s
    simp only [Late] at hs
    rcases hs with h | h | h <;> subst h <;> simp only [step, Late]
    all_goals (repeat' split) <;> simp_all [isHp]

theorem wait_crc_irrelevant (s : State) (hs : s.fsm = .waitHp) (a b : List Nat) (l : List In) :
    obs { s with crc16In := a, crc32In := b } l = obs s l := by
  cases l with
  | nil => simp [obs, run, final]
  | cons i is => simp [obs, run, final, step, hs, quiet]

/-- Inside a payload and after it, as long as no header start arrives, invalid words can be removed.  In
WAIT_FOR_HPSTART an invalid word is not an exact stutter: it clears the CRC units, which nothing there looks at
(`wait_crc_irrelevant`). -/
theorem run_dpp_gaps (h : List In) (s : State) (hs : Late s) (hh : ∀ i ∈ h, isHp i = false) :
    obs s h = obs s (validOnly h) := by
  induction h generalizing s with
  | nil => rfl
  | cons i is ih =>
    have hi := hh i (by simp)
    have his : ∀ j ∈ is, isHp j = false := fun j hj => hh j (List.mem_cons_of_mem _ hj)
    obtain ⟨v, d, c⟩ := i
    cases v
    · have hv : validOnly (⟨false, d, c⟩ :: is) = validOnly is := by simp [validOnly]
      rw [hv]
      by_cases hf : s.fsm = .waitHp
      case neg =>
        have hin : inDpp s = true := by rcases hs with h | h | h <;> simp_all [inDpp]
        obtain ⟨e1, e2, e3, e4⟩ := DataPacketReceiver.invalid_word_stutters s hin d c
        rw [obs_cons_inert s _ is e2 e3 e4, e1]
        exact ih s hs his
      case pos =>
        have hst : step s ⟨false, d, c⟩ = ({ s with crc16In := [], crc32In := [] }, quiet s) := by simp [step, hf]
        obtain ⟨q1, q2, q3⟩ := quiet_inert s
        have hl : Late { s with crc16In := [], crc32In := [] } := Or.inr (Or.inr hf)
        rw [obs_cons_inert s _ is (by rw [hst]; exact q1) (by rw [hst]; exact q2) (by rw [hst]; exact q3), hst,
          ih _ hl his, wait_crc_irrelevant s hf]
    · have hv : validOnly (⟨true, d, c⟩ :: is) = ⟨true, d, c⟩ :: validOnly is := by simp [validOnly]
      rw [hv]
      rw [obs_cons, obs_cons, ih (step s ⟨true, d, c⟩).1 (late_step s hs _ hi) his]

theorem payload_part_no_hp (payload : List Nat) (hb : ∀ x ∈ payload, x < 256) :
    ∀ w ∈ pack (dppSyms payload), isHp (rxIn w) = false := by
  intro w hw
  rcases RawPacketTransmitter.pack_dppSyms_ctrl payload hb w hw with h1 | h1
  · have : w.2 % 16 ≠ 15 := by omega
    simp [isHp, rxIn, this]
  · simp only [List.mem_cons, List.not_mem_nil, or_false] at h1
    rcases h1 with h1 | h1 | h1 <;>
      simp [isHp, rxIn, h1, DataPacketReceiver.HPSTART, RawPacketTransmitter.DPPSTART,
        RawPacketTransmitter.DPPABORT, RawPacketTransmitter.DPPEND]

/-- every state of the data receiver on the way through HPSTART, DWORD 0..3 (valid CRCs) and DPPSTART
treats an invalid word as an exact stutter -/
theorem hdr_path_stutters (h : Header) (hw : h.wf) (hty : h.dw0 % 32 = 8) :
    ∀ k, k ≤ (hdrIns h).length → Stutters (final init ((hdrIns h).take k)) := by
  obtain ⟨w0, w1, w2, w3⟩ := hw
  obtain ⟨f0, f1, f2, f3, _, _⟩ := dw3_fields h w3
  have m0 : h.dw0 % 2 ^ 32 = h.dw0 := Nat.mod_eq_of_lt w0
  have m1 : h.dw1 % 2 ^ 32 = h.dw1 := Nat.mod_eq_of_lt w1
  have m2 : h.dw2 % 2 ^ 32 = h.dw2 := Nat.mod_eq_of_lt w2
  have m3 : dw3Of h % 2 ^ 32 = dw3Of h := Nat.mod_eq_of_lt f0
  have e16 : DataPacketReceiver.crc16Of [h.dw0, h.dw1, h.dw2] = RawPacketTransmitter.crc16Of [h.dw0, h.dw1, h.dw2] := rfl
  have e5 : ∀ x, DataPacketReceiver.crc5Of x = RawPacketTransmitter.crc5Of x := fun _ => rfl
  have t0 : (h.dw0 % 32 != DataPacketReceiver.TYPE_DATA) = false := by simp [hty, DataPacketReceiver.TYPE_DATA]
  have hd3 : specDw3 h.dw0 h.dw1 h.dw2 h.lcw = dw3Of h := rfl
  have hl : (hdrIns h).length = 6 := by simp [hdrIns, rxIns, headerFrame]
  intro k hk
  rw [hl] at hk
  by_cases h6 : k = 6
  · subst h6
    have ht : (hdrIns h).take 6 = hdrIns h := List.take_of_length_le (by rw [hl]; exact Nat.le_refl _)
    rw [ht, (dpr_header h ⟨w0, w1, w2, w3⟩ hty).1]
    intro d c
    have hin : inDpp (afterDppStart h) = true := by
      simp only [afterDppStart, inDpp]; split <;> simp_all
    exact DataPacketReceiver.invalid_word_stutters (afterDppStart h) hin d c
  have hk' : k = 0 ∨ k = 1 ∨ k = 2 ∨ k = 3 ∨ k = 4 ∨ k = 5 := by omega
  intro d c
  rcases hk' with e | e | e | e | e | e <;> subst e <;>
    simp only [hdrIns, rxIns, rxIn, headerFrame, List.map_cons, List.map_nil, List.cons_append, List.nil_append,
      List.take_succ_cons, List.take_zero, final, init, hd3] <;>
    simp [step, DataPacketReceiver.HPSTART, RawPacketTransmitter.HPSTART,
      DataPacketReceiver.DPPSTART, m0, m1, m2, m3, t0, f1, f2, f3, e16, e5, quiet, laneBytes,
      DataPacketReceiver.wordBytes]

/-- **C36 `rx_of_tx`, data receiver, with invalid words anywhere.**  For every DATA header (not delayed,
well-formed) and payload of the announced length, and EVERY word history `h` whose valid words are
exactly `frame hdr payload` — invalid words of any content interleaved anywhere, in any number (what a
stalling PHY produces on the ready-gated channel): from reset the data receiver delivers exactly the
payload bytes, raises exactly one verdict, never `packet_bad`, publishes the header sent and is back in
WAIT_FOR_HPSTART. -/
theorem rx_of_tx_gaps (hdr : Header) (payload : List Nat) (hw : hdr.wf) (hb : ∀ x ∈ payload, x < 256)
    (hty : hdr.dw0 % 32 = 8) (hnd : hdr.lcw / 2 ^ 9 % 2 = 0)
    (hlen : payload.length = hdr.dw1 / 2 ^ 16 % 2 ^ 11)
    (h : List In) (hv : validOnly h = rxIns (frame hdr payload)) :
    allLaneBytes (run init h) = payload ∧ countVerdicts (run init h) = 1 ∧
    (∀ o ∈ run init h, o.bad = false) ∧ (final init h).outHdr = dprHdr hdr ∧
    (final init h).fsm = .waitHp := by
  have hdat : hdr.isData = true := by simp [Header.isData]; omega
  have hdel : hdr.delayed = false := by simp [Header.delayed]; omega
  have hI : rxIns (frame hdr payload) = hdrIns hdr ++ rxIns (pack (dppSyms payload)) := by
    have : frame hdr payload = (headerFrame hdr.dw0 hdr.dw1 hdr.dw2 hdr.lcw ++
        [(RawPacketTransmitter.DPPSTART, 0xF)]) ++ pack (dppSyms payload) := by
      simp [frame, hdat, hdel]
    rw [this, rxIns, List.map_append]; rfl
  rw [hI] at hv
  obtain ⟨h1, h2, rfl, hv1, hv2⟩ := List.filter_eq_append_iff.mp hv
  have e1 : validOnly h1 = hdrIns hdr := hv1
  obtain ⟨o1, f1⟩ := run_exact_stutter h1 init (by rw [e1]; exact hdr_path_stutters hdr hw hty)
  obtain ⟨a1, a2⟩ := dpr_header hdr hw hty
  rw [e1, a2] at o1
  rw [e1, a1] at f1
  have hlate : Late (afterDppStart hdr) := by
    simp only [Late, afterDppStart]; split <;> simp
  have e2 : validOnly h2 = rxIns (pack (dppSyms payload)) := hv2
  have hnohp : ∀ i ∈ h2, isHp i = false := by
    intro i hi
    cases hval : i.valid
    · simp [isHp, hval]
    · have : i ∈ validOnly h2 := by simp [validOnly, hi, hval]
      rw [e2] at this
      simp only [rxIns, List.mem_map] at this
      obtain ⟨w, hw', rfl⟩ := this
      exact payload_part_no_hp payload hb w hw'
  have o2 := run_dpp_gaps h2 (afterDppStart hdr) hlate hnohp
  rw [e2] at o2
  have hall := obs_append init h1 h2
  rw [f1, o1, o2, delivers_payload_part hdr payload hb hlen] at hall
  simp only [obs, Obs.mk.injEq, List.nil_append, Nat.zero_add] at hall
  obtain ⟨b1, b2, b3, b4, b5⟩ := hall
  exact ⟨b1, b2, bad_of_countBad_zero _ b3, b5, b4⟩

theorem validOnly_rxIns (ws : List (Nat × Nat)) : validOnly (rxIns ws) = rxIns ws :=
  List.filter_eq_self.mpr (fun a ha => by obtain ⟨w, _, rfl⟩ := List.mem_map.mp ha; rfl)

-- non-vacuity of `hv`: any frame with invalid words (of any content) before, after and inside
example (f g : List (Nat × Nat)) :
    validOnly (⟨false, 7, 7⟩ :: (rxIns f ++ ⟨false, 0xF7FBFBFB, 15⟩ :: (rxIns g ++ [⟨false, 1, 2⟩]))) = rxIns (f ++ g) := by
  have hf := validOnly_rxIns
  simp only [validOnly, rxIns] at hf
  simp [validOnly, rxIns, List.filter_append, hf]

/-- **The data receiver over the whole frame, from reset** (DATA header, not delayed, length field =
number of payload bytes): exactly the payload bytes are delivered, exactly one verdict is raised and it
is not `bad` (so it is `good`), the published header is the header sent, the receiver is back in
WAIT_FOR_HPSTART. -/
theorem dpr_of_frame (h : Header) (payload : List Nat) (hw : h.wf) (hb : ∀ x ∈ payload, x < 256)
    (hty : h.dw0 % 32 = 8) (hnd : h.lcw / 2 ^ 9 % 2 = 0) (hlen : payload.length = h.dw1 / 2 ^ 16 % 2 ^ 11) :
    DataPacketReceiver.allLaneBytes (DataPacketReceiver.run DataPacketReceiver.init (rxIns (frame h payload))) = payload ∧
    DataPacketReceiver.countVerdicts (DataPacketReceiver.run DataPacketReceiver.init (rxIns (frame h payload))) = 1 ∧
    (∀ o ∈ DataPacketReceiver.run DataPacketReceiver.init (rxIns (frame h payload)), o.bad = false) ∧
    (DataPacketReceiver.final DataPacketReceiver.init (rxIns (frame h payload))).outHdr = dprHdr h ∧
    (DataPacketReceiver.final DataPacketReceiver.init (rxIns (frame h payload))).fsm = .waitHp :=
  rx_of_tx_gaps h payload hw hb hty hnd hlen _ (validOnly_rxIns _)

end LunaVerif.RoundTrip
