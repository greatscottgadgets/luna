import LunaVerif.Lemmas.C37LiveBase
/-!
# C37 — liveness: a requested keepalive (LUP/LDN) is sent

The keepalive has the lowest priority in DISPATCH_COMMAND: everything else that is pending goes first, and under
continuing traffic new higher-priority work keeps arriving, so the bound necessarily counts it.  `rankK T` bounds the
number of ready cycles until `T` keepalives have completed, for `T ≤ sent + [keepalive_pending]`: four per LGOOD owed
(`acks_to_send`), per credit to issue, for a pending LBAD, LRTY and LXU, plus the command in progress.  *Bad* cycles
(cost ≤ 20) are the cycles in which a header is accepted, a buffer is freed, a corrupted header is noticed,
`retry_required` or `reject_power_state` is pulsed.
-/
namespace LunaVerif.HeaderRx

/-- cycles that bring new higher-priority work -/
def badK (x : World) (i : In) : Bool := i.retryRequired || accept x.s || pop x.s i || badEv x.s || i.rejectPower

def aheadK : Fsm → World → Nat
  | .sendKeepalive, _ => 0
  | .dispatch, x => 3 + 4 * x.s.acks + 4 * x.s.cti + 4 * b2 x.s.lbad + 4 * b2 x.s.lrty + 4 * b2 x.s.lxu
  | .sendLrty, x => 4 + 4 * x.s.acks + 4 * x.s.cti + 4 * b2 x.s.lbad + 4 * b2 x.s.lxu
  | .sendLxu, x => 4 + 4 * x.s.acks + 4 * x.s.cti + 4 * b2 x.s.lbad + 4 * b2 x.s.lrty
  | _, x => 4 * x.s.acks + 4 * x.s.cti + 4 * b2 x.s.lbad + 4 * b2 x.s.lrty + 4 * b2 x.s.lxu

variable {T : Nat} {x x' : World} {i : In} {f f' : Fsm} {k dA dC dB dR dX dK : Nat}

theorem aheadK_step (h : Cyc x x' i dA dC dB dR dX dK) (t : Trans x.s f f' k dA dC dB dR dX dK)
    (hlt : x'.n.kas < T) (hT : T ≤ x.n.kas + b2 x.s.keepalive) :
    k + aheadK f' x' ≤ aheadK f x + (4 * b2 i.retryRequired + 4 * b2 (accept x.s) + 4 * b2 (pop x.s i) +
      4 * b2 (badEv x.s) + 4 * b2 i.rejectPower) := by
  have := h.acks; have := h.cti; have := h.nK; have := h.lbad; have := h.lrty; have := h.lrtyD
  have := h.lxu; have := h.lxuD; have := b2_le x.s.keepalive
  cases t <;> simp only [aheadK] <;> omega

def rankK (T : Nat) : World → Nat := rank (·.n.kas) aheadK T

theorem badK_cost (r a p b x : Bool) : 4 * b2 r + 4 * b2 a + 4 * b2 p + 4 * b2 b + 4 * b2 x ≤
    if (r || a || p || b || x) = true then 20 else 0 := by
  cases a <;> cases p <;> cases b <;> cases r <;> cases x <;> decide

theorem rankK_step (c : Config) (T : Nat) :
    StepOk (World.next c) WOk (fun x => Inv c x.s x.g ∧ T ≤ x.n.kas + b2 x.s.keepalive) (rankK T) rdyW badK 20 :=
  rank_stepOk c _ (fun x i => badK_cost i.retryRequired (accept x.s) (pop x.s i) (badEv x.s) i.rejectPower)
    (fun h => by have := h.kaK; have := h.nK; omega) aheadK_step

theorem rankK_le {c : Config} {T : Nat} {x : World} (hI : Inv c x.s x.g) : rankK T x ≤ 52 := by
  have := hI.hbf; have := hI.hcti; have := hI.hcred; have := hI.hacks4
  have := b2_le x.s.lrty; have := b2_le x.s.lbad; have := b2_le x.s.lxu
  exact rank_le_of fun f => by cases f <;> simp only [aheadK] <;> omega

def kasRun (c : Config) : State → Nat → List In → Nat
  | _, k, [] => k
  | s, k, i :: is => kasRun c (step c s i).1 (k + b2 (s.fsm == .sendKeepalive && done s i)) is

theorem runW_kas (c : Config) (is : List In) : ∀ x : World,
    (runW c x is).n.kas = kasRun c x.s x.n.kas is := by
  induction is with
  | nil => intro x; rfl
  | cons i is ih =>
    intro x
    simp only [runW, runS, kasRun]
    rw [← cnt_kas x.s i x.n]
    exact ih (World.next c x i)

def badKCount (c : Config) (s : State) (g : Ghost) (is : List In) : Nat :=
  cntS (World.next c) badK ⟨s, g, Cnt.init⟩ is

/-- **Keepalive (LUP/LDN) liveness from any state that satisfies the invariant.**  If the request is pending, the
command completes on the wire once the history contains `52 + 20·(bad cycles)` ready cycles. -/
theorem keepalive_live (c : Config) (s : State) (g : Ghost) (h : Inv c s g) (hp : s.keepalive = true) (is : List In)
    (ho : EnvOk c s g is) (hn : 52 + 20 * badKCount c s g is ≤ readyCount is) :
    1 ≤ kasRun c s 0 is := by
  have := rank_live (rankK_step c 1) ⟨s, g, Cnt.init⟩ ⟨h, by simp [Cnt.init, hp]⟩ (rankK_le h) is ho hn
  rwa [runW_kas] at this

set_option hygiene false in
local macro "rank_go" hf:ident h0:ident h1:ident h2:ident h3:ident : tactic =>
  `(tactic| (
    have hlr : lr s = if s.lrty then 4 else 0 := rfl
    cases hg : s.gen <;> cases hr : i.srcReady <;> cases hl : s.lrty <;>
      simp [$hf:ident, $h0:ident, $h1:ident, $h2:ident, $h3:ident, hfl, hg, hr, hl, fsm_beq, gen_beq, fsmNext, genNext, done,
        lgoodDone, lcrdDone, dispatchNext, generate, ph, nf, nr, na, en, step_fsm, step_gen]
        at fa fc fb flr lgA lcC fA fC g0 lrD lbD lbS lxD hlr hlbc hlxc hT hz ⊢ <;>
      (repeat' split) <;> (try simp only [ph] at *) <;> omega))

end LunaVerif.HeaderRx
