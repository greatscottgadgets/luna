import LunaVerif.Props.C37
/-!
# C37 — liveness of the header receiver: infrastructure

*Ready cycles* are the cycles in which the sink of the link-command generator accepts a word
(`source.ready = 1`).  Every owed link command gets a *rank* (an upper bound on the number of ready cycles
still needed before it has completed on the wire), which

* never increases in a cycle that brings no new higher-priority work,
* drops by at least one in every such cycle that is ready,
* is raised by at most a constant `C` by a cycle that brings new higher-priority work (a *bad* cycle; by at most
  `C − 1` if it is also ready), and
* is 0 exactly when the command has completed (0 is absorbing).

`converge` turns such a one-cycle statement into: a history that contains `rank + C · #bad` ready cycles — in
any arrangement, with arbitrary stalls in between — has sent the command.  `fair_ready` converts bounded
fairness ("never `K` consecutive cycles without `source.ready`") into a number of ready cycles, which gives
the explicit bounds `K · (R + C · #bad)`.

All six ranks have one shape (`rank tgt ahead T`): with `tgt` the number of commands of the kind completed so far and
`T` the number to be reached, 0 once `T ≤ tgt`, else the rest of the command in progress (`cur`) plus what is ahead of
the owed command in the present dispatch state, a table `ahead : Fsm → World → Nat`.  `rank_stepOk` gives the one-cycle
statement for such a rank, under the invariant `T ≤ tgt + owe` (`owe` = the commands of the kind still owed), from three
obligations.  `hown`: `tgt` and `tgt + owe` do not decrease in a cycle.  `hstep`, the arithmetic on the table: for
every row of the dispatch FSM's transition table (`Trans`, Lemmas/HeaderRx.lean), the ready cycles `k` the row costs
plus `ahead` of the state entered are at most `ahead` of the state left plus `B`, the work the cycle adds.  `hB`: `B` is
0 except in the cycles called bad (`bad`), where it is at most `C`.  `hown` and `hstep` are stated over what one cycle
does to the counters (`Cyc`).  `rank_live` is the convergence statement for such a rank.
-/
namespace LunaVerif.HeaderRx

/-! ## generic convergence -/
section generic
variable {σ ι : Type} (nxt : σ → ι → σ) (Ok : σ → ι → Prop) (I : σ → Prop) (rk : σ → Nat)
  (rdy bad : σ → ι → Bool) (C : Nat)

def runS : σ → List ι → σ
  | x, [] => x
  | x, i :: is => runS (nxt x i) is

def okS : σ → List ι → Prop
  | _, [] => True
  | x, i :: is => Ok x i ∧ okS (nxt x i) is

def cntS (f : σ → ι → Bool) : σ → List ι → Nat
  | _, [] => 0
  | x, i :: is => (if f x i then 1 else 0) + cntS f (nxt x i) is

/-- The one-cycle statement about a rank `rk`, for states satisfying `I` and cycles the environment allows (`Ok`): `I` is
kept; a rank 0 stays 0; otherwise the new rank, plus one in a ready cycle (`rdy`), is at most the old one, plus `C` in a
bad cycle (`bad`). -/
def StepOk : Prop := ∀ x i, I x → Ok x i →
  I (nxt x i) ∧ (rk x = 0 → rk (nxt x i) = 0) ∧
  (rk x ≠ 0 → rk (nxt x i) + (if rdy x i then 1 else 0) ≤ rk x + (if bad x i then C else 0))

theorem inv_runS (hs : StepOk nxt Ok I rk rdy bad C) (is : List ι) : ∀ x, I x → okS nxt Ok x is →
    I (runS nxt x is) := by
  induction is with
  | nil => intro x h _; exact h
  | cons i is ih => intro x h ho; exact ih _ (hs x i h ho.1).1 ho.2

theorem zero_runS (hs : StepOk nxt Ok I rk rdy bad C) (is : List ι) : ∀ x, I x → okS nxt Ok x is →
    rk x = 0 → rk (runS nxt x is) = 0 := by
  induction is with
  | nil => intro x _ _ h; exact h
  | cons i is ih => intro x h ho hz; exact ih _ (hs x i h ho.1).1 ho.2 ((hs x i h ho.1).2.1 hz)

theorem bound_runS (hs : StepOk nxt Ok I rk rdy bad C) (is : List ι) : ∀ x, I x → okS nxt Ok x is →
    rk (runS nxt x is) = 0 ∨
    rk (runS nxt x is) + cntS nxt rdy x is ≤ rk x + C * cntS nxt bad x is := by
  induction is with
  | nil => intro x _ _; right; simp [runS, cntS]
  | cons i is ih =>
    intro x h ho
    by_cases hz : rk x = 0
    · left; exact zero_runS nxt Ok I rk rdy bad C hs (i :: is) x h ho hz
    · obtain ⟨h1, _, h3⟩ := hs x i h ho.1
      rcases ih _ h1 ho.2 with g | g
      · left; exact g
      · right
        have h3 := h3 hz
        simp only [runS, cntS]
        have hm : C * ((if bad x i then 1 else 0) + cntS nxt bad (nxt x i) is) =
            (if bad x i then C else 0) + C * cntS nxt bad (nxt x i) is := by
          rw [Nat.mul_add]; split <;> simp
        rw [hm]; omega

theorem converge (hs : StepOk nxt Ok I rk rdy bad C) (is : List ι) (x : σ) (h : I x) (ho : okS nxt Ok x is)
    (hn : rk x + C * cntS nxt bad x is ≤ cntS nxt rdy x is) : rk (runS nxt x is) = 0 := by
  rcases bound_runS nxt Ok I rk rdy bad C hs is x h ho with g | g
  · exact g
  · omega
end generic

/-! ## bounded fairness → number of ready cycles -/

/-- Bounded fairness of the generator's sink: never `K` consecutive cycles without `source.ready`
(`w` = number of cycles without `source.ready` immediately before the history). -/
def FairOk (K : Nat) : Nat → List In → Prop
  | _, [] => True
  | w, i :: is => (i.srcReady = true ∨ w + 1 < K) ∧ FairOk K (if i.srcReady then 0 else w + 1) is

def readyCount : List In → Nat
  | [] => 0
  | i :: is => (if i.srcReady then 1 else 0) + readyCount is

/-- a fair history of length `n` contains at least `n / K` ready cycles -/
theorem fair_ready (K : Nat) (is : List In) : ∀ w, w < K → FairOk K w is →
    is.length + w < K * (readyCount is + 1) := by
  induction is with
  | nil => intro w hw _; simp [readyCount]; exact hw
  | cons i is ih =>
    intro w hw hf
    obtain ⟨h1, h2⟩ := hf
    cases hr : i.srcReady
    · simp only [hr, Bool.false_eq_true, if_false] at h1 h2
      have h1 : w + 1 < K := by simpa using h1
      have := ih (w + 1) h1 h2
      simp only [readyCount, hr, List.length_cons, Bool.false_eq_true, if_false, Nat.zero_add]
      omega
    · simp only [hr, if_true] at h2
      have := ih 0 (by omega) h2
      simp only [readyCount, hr, List.length_cons, if_true]
      have hm : K * (1 + readyCount is + 1) = K + K * (readyCount is + 1) := by
        rw [show 1 + readyCount is + 1 = 1 + (readyCount is + 1) by omega, Nat.mul_add, Nat.mul_one]
      rw [hm]; omega

theorem fair_ready_ge (K R : Nat) (is : List In) (hf : FairOk K 0 is) (hK : 0 < K) (hl : K * R ≤ is.length) :
    R ≤ readyCount is := by
  have h := fair_ready K is 0 hK hf
  have : K * R < K * (readyCount is + 1) := by omega
  have := Nat.lt_of_mul_lt_mul_left this
  omega

/-! ## the world: model state, observer's record, counts of the other commands -/

/-- completed LRTY / LXU / keepalive commands (the `Ghost` of the safety proof does not count them) -/
structure Cnt where
  lrtys : Nat
  lxus  : Nat
  kas   : Nat
deriving Repr

def Cnt.init : Cnt := ⟨0, 0, 0⟩

def cntStep (s : State) (i : In) (n : Cnt) : Cnt :=
  { lrtys := if s.fsm == .sendLrty && done s i then n.lrtys + 1 else n.lrtys
    lxus  := if s.fsm == .sendLxu && done s i then n.lxus + 1 else n.lxus
    kas   := if s.fsm == .sendKeepalive && done s i then n.kas + 1 else n.kas }

theorem cnt_lrtys (s : State) (i : In) (n : Cnt) :
    (cntStep s i n).lrtys = n.lrtys + b2 (s.fsm == .sendLrty && done s i) := by
  simp only [cntStep, b2]; split <;> rfl
theorem cnt_lxus (s : State) (i : In) (n : Cnt) :
    (cntStep s i n).lxus = n.lxus + b2 (s.fsm == .sendLxu && done s i) := by
  simp only [cntStep, b2]; split <;> rfl
theorem cnt_kas (s : State) (i : In) (n : Cnt) :
    (cntStep s i n).kas = n.kas + b2 (s.fsm == .sendKeepalive && done s i) := by
  simp only [cntStep, b2]; split <;> rfl

structure World where
  s : State
  g : Ghost
  n : Cnt

def World.start : World := ⟨HeaderRx.init, Ghost.init, Cnt.init⟩

def World.next (c : Config) (x : World) (i : In) : World :=
  ⟨(HeaderRx.step c x.s i).1, ghostStep x.s i x.g, cntStep x.s i x.n⟩

def WOk (x : World) (i : In) : Prop := EnvStep x.s x.g i

abbrev runW (c : Config) := runS (World.next c)
abbrev okW (c : Config) := okS (World.next c) WOk

theorem runW_sg (c : Config) (is : List In) : ∀ x : World,
    ((runW c x is).s, (runW c x is).g) = runG c x.s x.g is := by
  induction is with
  | nil => intro x; rfl
  | cons i is ih => intro x; simp only [runW, runS, runG]; exact ih (World.next c x i)

theorem okW_iff (c : Config) (is : List In) : ∀ x : World, okW c x is ↔ EnvOk c x.s x.g is := by
  induction is with
  | nil => intro x; simp [okW, okS, EnvOk]
  | cons i is ih => intro x; exact and_congr Iff.rfl (ih (World.next c x i))

def rdyW (_ : World) (i : In) : Bool := i.srcReady

theorem cnt_rdyW (c : Config) (is : List In) : ∀ x : World, cntS (World.next c) rdyW x is = readyCount is := by
  induction is with
  | nil => intro x; rfl
  | cons i is ih =>
    intro x
    have := ih (World.next c x i)
    unfold cntS readyCount
    rw [this]
    rfl

def countIn (f : In → Bool) : List In → Nat
  | [] => 0
  | i :: is => (if f i then 1 else 0) + countIn f is

theorem cntS_in (c : Config) (f : In → Bool) (is : List In) :
    ∀ x : World, cntS (World.next c) (fun _ i => f i) x is = countIn f is := by
  induction is with
  | nil => intro x; rfl
  | cons i is ih =>
    intro x
    have := ih (World.next c x i)
    unfold cntS countIn
    rw [this]

/-! ## what one cycle does to the counters -/

/-- `dA … dK` are the numbers (0 or 1) of LGOOD, LCRD, LBAD, LRTY, LXU and keepalive commands that complete on the
wire in the cycle `x ⟶ x'`. -/
structure Cyc (x x' : World) (i : In) (dA dC dB dR dX dK : Nat) : Prop where
  acks : x'.s.acks + dA = x.s.acks + b2 (accept x.s)
  cti  : x'.s.cti + dC = x.s.cti + b2 (pop x.s i)
  bf   : x'.s.bf + b2 (pop x.s i) = x.s.bf + b2 (accept x.s)
  lg   : x'.g.lgoods.length = x.g.lgoods.length + dA
  lc   : x'.g.lcrds.length = x.g.lcrds.length + dC
  ac   : x'.g.accepted.length = x.g.accepted.length + b2 (accept x.s)
  lb   : x'.g.lbads = x.g.lbads + dB
  nR   : x'.n.lrtys = x.n.lrtys + dR
  nX   : x'.n.lxus = x.n.lxus + dX
  nK   : x'.n.kas = x.n.kas + dK
  -- the pending flags: raised by a request, cleared by the completion of the command (the clear wins)
  lbad : b2 x'.s.lbad + dB = b2 x.s.lbad + b2 (badEv x.s)
  lrty : b2 x'.s.lrty ≤ b2 x.s.lrty + b2 i.retryRequired
  lrtyK : b2 x.s.lrty ≤ b2 x'.s.lrty + dR
  lrtyD : b2 x'.s.lrty + dR ≤ 1
  lxu  : b2 x'.s.lxu ≤ b2 x.s.lxu + b2 i.rejectPower
  lxuK : b2 x.s.lxu ≤ b2 x'.s.lxu + dX
  lxuD : b2 x'.s.lxu + dX ≤ 1
  kaK  : b2 x.s.keepalive ≤ b2 x'.s.keepalive + dK
  accA : x.s.acks + b2 (accept x.s) ≤ 4
  cred : x.g.accepted.length + b2 (accept x.s) ≤ x.g.lcrds.length
  lbI  : b2 x.s.lbad + b2 (accept x.s) ≤ 1
  dAle : dA ≤ x.s.acks
  dCle : dC ≤ x.s.cti
  aL   : b2 (accept x.s) ≤ 1
  pL   : b2 (pop x.s i) ≤ 1

/-- a pending flag that `set` raises and the completion `d` of its command clears (the clear wins) -/
theorem flag_step (p set : Bool) (d : Bool) :
    b2 (if d then false else if set then true else p) ≤ b2 p + b2 set ∧
    b2 p ≤ b2 (if d then false else if set then true else p) + b2 d ∧
    b2 (if d then false else if set then true else p) + b2 d ≤ 1 := by
  cases p <;> cases set <;> cases d <;> decide

theorem cyc_of {c : Config} {x : World} {i : In} (hI : Inv c x.s x.g) (e : EnvStep x.s x.g i) :
    Cyc x (World.next c x i) i (cpl x.s i .sendAcks) (cpl x.s i .issueCredits) (cpl x.s i .sendLbad)
      (cpl x.s i .sendLrty) (cpl x.s i .sendLxu) (cpl x.s i .sendKeepalive) := by
  obtain ⟨-, f2, f3, -, f5, f6⟩ := counter_bounds hI e
  obtain ⟨c1, c2, c3⟩ := counters_step (c := c) hI e
  obtain ⟨-, -, l3⟩ := lbad_flag_step (c := c) hI e
  have nr := no_reset (c := c) e
  obtain ⟨r1, r2, r3⟩ := flag_step x.s.lrty i.retryRequired (x.s.fsm == .sendLrty && done x.s i)
  obtain ⟨x1, x2, x3⟩ := flag_step x.s.lxu i.rejectPower (x.s.fsm == .sendLxu && done x.s i)
  obtain ⟨-, k2, -⟩ := flag_step x.s.keepalive i.keepaliveRequired (x.s.fsm == .sendKeepalive && done x.s i)
  have hI' : b2 x.s.lbad + b2 (accept x.s) ≤ 1 := by
    cases hl : x.s.lbad
    · rw [b2_false, Nat.zero_add]; exact b2_le _
    · simp [accept, hI.hlb1 hl]
  refine ⟨c1, c2, c3, len_lgoods hI i, len_lcrds hI i, len_accepted _ _ _, len_lbads hI i, cnt_lrtys _ _ _,
    cnt_lxus _ _ _, cnt_kas _ _ _, l3, ?_, ?_, ?_, x1, x2, x3, ?_, f2, f3, hI', f5, f6, b2_le _, b2_le _⟩
  · show b2 (step c x.s i).1.lrty ≤ _
    rw [step_lrty, nr]; exact r1
  · show _ ≤ b2 (step c x.s i).1.lrty + _
    rw [step_lrty, nr]; exact r2
  · show b2 (step c x.s i).1.lrty + _ ≤ 1
    rw [step_lrty, nr]; exact r3
  · show _ ≤ b2 (step c x.s i).1.keepalive + _
    rw [step_keepalive, nr]; exact k2

/-! ## the shape of the six ranks -/

def rank (tgt : World → Nat) (ahead : Fsm → World → Nat) (T : Nat) (x : World) : Nat :=
  if T ≤ tgt x then 0 else cur x.s.fsm x.s.gen + ahead x.s.fsm x

theorem cur_pos (f : Fsm) (g : Gen) : 1 ≤ cur f g := by cases f <;> cases g <;> decide
theorem cur_le (f : Fsm) (g : Gen) : cur f g ≤ 3 := by cases f <;> cases g <;> decide

theorem rank_zero {tgt ahead T x} (hz : rank tgt ahead T x = 0) : T ≤ tgt x := by
  unfold rank at hz
  split at hz
  · assumption
  · have := cur_pos x.s.fsm x.s.gen; omega

theorem rank_le_of {tgt : World → Nat} {ahead : Fsm → World → Nat} {T R : Nat} {x : World}
    (h : ∀ f, ahead f x + 3 ≤ R) : rank tgt ahead T x ≤ R := by
  have := cur_le x.s.fsm x.s.gen; have := h x.s.fsm
  unfold rank; split <;> omega

/-- `tgt` counts the completed commands of the kind, `owe` those still owed (`hown`: neither `tgt` nor `tgt + owe`
decreases); `ahead` must pay, row by row of the dispatch FSM's transition table, for the state chosen next (`hstep`), up to
the work `B x i` the cycle adds, which is 0 outside the bad cycles and at most `C` in one (`hB`). -/
theorem rank_stepOk (c : Config) {tgt owe : World → Nat} {ahead : Fsm → World → Nat} {T C : Nat}
    {bad : World → In → Bool} (B : World → In → Nat) (hB : ∀ x i, B x i ≤ if bad x i then C else 0)
    (hown : ∀ {x x' i dA dC dB dR dX dK}, Cyc x x' i dA dC dB dR dX dK →
      tgt x ≤ tgt x' ∧ tgt x + owe x ≤ tgt x' + owe x')
    (hstep : ∀ {x x' i f f' k dA dC dB dR dX dK}, Cyc x x' i dA dC dB dR dX dK →
      Trans x.s f f' k dA dC dB dR dX dK → tgt x' < T → T ≤ tgt x + owe x →
      k + ahead f' x' ≤ ahead f x + B x i) :
    StepOk (World.next c) WOk (fun x => Inv c x.s x.g ∧ T ≤ tgt x + owe x) (rank tgt ahead T) rdyW bad C := by
  intro x i ⟨hI, hT⟩ e
  have hc := cyc_of (c := c) hI e
  obtain ⟨m1, m2⟩ := hown hc
  refine ⟨⟨inv_step hI e, by omega⟩, fun hz => ?_, fun hz => ?_⟩
  · have := rank_zero hz
    unfold rank; rw [if_pos (by omega)]
  · obtain ⟨k, ht, hk, -⟩ : ∃ k, Trans x.s x.s.fsm (World.next c x i).s.fsm k _ _ _ _ _ _ ∧
        cur (World.next c x i).s.fsm (World.next c x i).s.gen + b2 i.srcReady ≤ cur x.s.fsm x.s.gen + k ∧ _ :=
      trans_up (c := c) hI.hgen0 e.up
    have hb := hB x i
    have := cur_pos x.s.fsm x.s.gen; have := b2_le i.srcReady
    show rank tgt ahead T (World.next c x i) + b2 i.srcReady ≤ rank tgt ahead T x + (if bad x i then C else 0)
    unfold rank at hz ⊢
    rw [if_neg (fun h => hz (if_pos h))]
    split
    · omega
    · have hs := hstep hc ht (by omega) hT
      omega

theorem rank_live {c : Config} {tgt : World → Nat} {ahead : Fsm → World → Nat} {T C R : Nat} {I : World → Prop}
    {bad : World → In → Bool} (hs : StepOk (World.next c) WOk I (rank tgt ahead T) rdyW bad C)
    (x : World) (hx : I x) (hle : rank tgt ahead T x ≤ R) (is : List In) (ho : EnvOk c x.s x.g is)
    (hn : R + C * cntS (World.next c) bad x is ≤ readyCount is) : T ≤ tgt (runW c x is) :=
  rank_zero (converge _ _ _ _ _ _ _ hs is x hx ((okW_iff c is x).2 ho) (by rw [cnt_rdyW]; omega))

end LunaVerif.HeaderRx
