import LunaVerif.Lemmas.C20DeviceDecInv
import LunaVerif.Model.Usb2.Handshake
/-!
# C20 — the closed device with control endpoint, setup decoder AND handshake detector

`USBDevice.elaborate` connects `handshake_detector.detected` (the registered strobes of `USBHandshakeDetector`, C04 model
`Handshake.Det.step`, listening to the same UTMI receive bytes) to `handshakes_in` of every endpoint.  `DevDet` adds the
detector to `DevDec`: `handshakes_in.ack`, an input of `DevDec`, is the detector's strobe.  The detector strobes `ack` in the cycle after `rx_active`
fell; in that cycle the packet layer's invariant shows nothing owed (the response window was closed while the handshake
packet was being received, mode M0) and no pulse, so the control slot is idle when the strobe is visible: the clause
"no forwarded host ACK while the control slot is armed or sending" of `decOk2` is a THEOREM under `hostOk` (a legal
half-duplex host never sends a handshake while the device's response window is open — which is what `hostOk` says of
every packet).

All of this is for full / low speed: every theorem from `decHolds2_of_k` on carries `hfs : c.hs = false` (the decoder timing of
`DevDec.dj_step`, Lemmas/C20DeviceDecInv.lean).

What remains assumed per cycle is `decOk3`: the legal-host clause on `start_position` (the host does not ask for more
descriptor data after the short packet), the reset sequencer does not transmit, the receive bytes are 8 bits wide.
-/
namespace LunaVerif.DevDet
open LunaVerif LunaVerif.DevCyc LunaVerif.DevCyc.Abs LunaVerif.C20Ctr LunaVerif.DevEp LunaVerif.CtrlCyc LunaVerif.DevCtl
open LunaVerif.DevDec (DI DJ decOk2 decHolds2 suOf xOf dOf ysOf extsD)

structure State where
  d   : DevDec.State
  det : Handshake.Det.State

def init (c : DevDec.Config) : State := ⟨DevDec.init c, Handshake.Det.init⟩

/-- The inputs of `DevDec` in this cycle: `handshakes_in.ack` is the detector's registered strobe. -/
def xIn (S : State) (x : Ext) : Ext := { x with hsAck := S.det.ack }

def step (c : DevDec.Config) (S : State) (x : Ext) (ac : Nat) : State :=
  ⟨DevDec.step c S.d (xIn S x) ac, (Handshake.Det.step S.det x.rx).1⟩

/-- The `DevDec` input history along the run of the device with its handshake detector. -/
def zsOf (c : DevDec.Config) : State → List (Ext × Nat) → List (Ext × Nat)
  | _, [] => []
  | S, (x, ac) :: zs => (xIn S x, ac) :: zsOf c (step c S x ac) zs

theorem det_facts (s : Handshake.Det.State) (i : Utmi.RxCycle) :
    ((Handshake.Det.step s i).1.fsm ≠ .idle → i.active = true) ∧
    ((Handshake.Det.step s i).1.ack = true → s.fsm ≠ .idle ∧ i.active = false) := by
  cases hf : s.fsm <;> simp only [Handshake.Det.step, hf] <;> cases i.active <;> cases i.valid <;> simp <;>
    (repeat' split) <;> simp

structure K (S : State) (g : Ghost) (q : Phs) : Prop where
  k1 : S.det.fsm ≠ .idle → g.a1 = true
  k2 : S.det.ack = true → q.r = .idle

theorem k_init (c : DevDec.Config) : K (init c) ghostInit phs0 := ⟨fun h => absurd rfl h, fun _ => rfl⟩

/-- What is still assumed in one cycle: legal-host clause on `start_position`, reset sequencer silent, 8-bit receive
bytes. -/
def decOk3 (c : DevDec.Config) (S : State) (x : Ext) : Bool :=
  (S.d.w.ctl.blk.fsm != .start || decide (S.d.w.ctl.cs.h.startPos < 2 ^ c.dc.blk.img.posW)) && !x.rsValid &&
  decide (x.rx.data < 256)

theorem decOk2_of (c : DevDec.Config) {S : State} {g : Ghost} {q : Phs} {x : Ext} {ac : Nat} (hk : K S g q)
    (h : decOk3 c S x = true) : decOk2 c S.d q (xIn S x) ac = true := by
  simp only [decOk3, Bool.and_eq_true, Bool.or_eq_true, Bool.not_eq_eq_eq_not, Bool.not_true] at h
  obtain ⟨⟨h1, h2⟩, h3⟩ := h
  simp only [decOk2, Bool.and_eq_true, Bool.or_eq_true, beq_iff_eq, Bool.not_eq_eq_eq_not, Bool.not_true]
  refine ⟨⟨⟨?_, h1⟩, h2⟩, h3⟩
  cases ha : S.det.ack with
  | true => exact Or.inl (hk.k2 ha)
  | false =>
    right
    simp [ctrlComb, ctlIn, xIn, ha]

def decHolds3 (c : DevDec.Config) (p : Params) : State → Ghost → Phs → List (Ext × Nat) → Bool
  | _, _, _, [] => true
  | S, g, q, (x, ac) :: zs =>
    let x' := extOf c.dc S.d.w (xOf S.d (xIn S x)) (dOf c S.d (xIn S x) ac)
    decOk3 c S x &&
      decHolds3 c p (step c S x ac)
        (ghostNext p g S.d.w.ep.dev (fullIn c.dc.ep S.d.w.ep x') (DevEp.step c.dc.ep S.d.w.ep x').2)
        (nextPhs p.L c.dc.ep S.d.w.ep x' q) zs

theorem decHolds2_of_k (c : DevDec.Config) (p : Params) (hs : strobes c.dc.ep.dev.tok.timer c.dc.ep.dev.speed = true)
    (hT : delayOf c.dc.ep.dev.tok.timer c.dc.ep.dev.speed + p.L + 2 < p.T) (hne : c.dc.ep.epIn ≠ c.dc.ep.sig.epNum)
    (he : epsOk c.dc) (hL : 3 ≤ p.L) (hfs : c.hs = false) (zs : List (Ext × Nat)) (S : State) (g : Ghost) (q : Phs)
    (pty : Nat) (hJ : Joint c.dc p S.d.w g q pty) (hi : DI S.d g pty) (hj : DJ c S.d q) (hk : K S g q)
    (hh : hostHolds c.dc.ep.dev p S.d.w.ep.dev g
      (devIns c.dc.ep S.d.w.ep (extsOf c.dc S.d.w (ysOf c S.d (zsOf c S zs)))) = true)
    (h3 : decHolds3 c p S g q zs = true) : decHolds2 c p S.d g q (zsOf c S zs) = true := by
  induction zs generalizing S g q pty with
  | nil => rfl
  | cons z zs ih =>
    simp only [zsOf, ysOf, extsOf, devIns, hostHolds, decHolds3, Bool.and_eq_true] at hh h3
    have h2 := decOk2_of c (ac := z.2) hk h3.1
    obtain ⟨_, hJ', hI', hj', hcl⟩ := DevDec.dj_step c p hs hT hne he hL hfs hJ hi hj hh.1 h2
    obtain ⟨f1, f2⟩ := det_facts S.det z.1.rx
    simp only [zsOf, decHolds2, Bool.and_eq_true]
    -- the detector strobes `ack` in the cycle after `rx_active` fell: the window was closed, the slot is idle
    exact ⟨h2, ih _ _ _ _ hJ' hI' hj' ⟨f1, fun h => hcl (hJ.good.inv.act (hk.k1 (f2 h).1))⟩ hh.2 h3.2⟩

/-- The `DevEp` input history of the device with control endpoint, setup decoder and handshake detector. -/
def extsT (c : DevDec.Config) (zs : List (Ext × Nat)) : List Ext := extsD c (zsOf c (init c) zs)

/-- **`decHolds2` reduced to the legal-host / reset-sequencer / byte-width clauses.** -/
theorem decHolds2_of_det (c : DevDec.Config) (p : Params)
    (hs : strobes c.dc.ep.dev.tok.timer c.dc.ep.dev.speed = true)
    (hT : delayOf c.dc.ep.dev.tok.timer c.dc.ep.dev.speed + p.L + 2 < p.T) (hne : c.dc.ep.epIn ≠ c.dc.ep.sig.epNum)
    (he : epsOk c.dc) (hL : 3 ≤ p.L) (hfs : c.hs = false) (zs : List (Ext × Nat))
    (hh : hostHolds c.dc.ep.dev p DevCyc.init ghostInit (devIns c.dc.ep (DevEp.init c.dc.ep) (extsT c zs)) = true)
    (h3 : decHolds3 c p (init c) ghostInit phs0 zs = true) :
    decHolds2 c p (DevDec.init c) ghostInit phs0 (zsOf c (init c) zs) = true :=
  decHolds2_of_k c p hs hT hne he hL hfs zs (init c) ghostInit phs0 0 (joint_init c.dc p) (DevDec.di_init c)
    (DevDec.dj_init c) (k_init c) hh h3

/-- The device with control endpoint, setup decoder and handshake detector never transmits while a received packet is
in progress; of the decoder / detector side only `decHolds3` is assumed (at full / low speed, `hfs`). -/
theorem det_closed_tx_never_during_rx (c : DevDec.Config) (p : Params)
    (hs : strobes c.dc.ep.dev.tok.timer c.dc.ep.dev.speed = true)
    (hT : delayOf c.dc.ep.dev.tok.timer c.dc.ep.dev.speed + p.L + 2 < p.T) (hne : c.dc.ep.epIn ≠ c.dc.ep.sig.epNum)
    (he : epsOk c.dc) (hL : 3 ≤ p.L) (hfs : c.hs = false) (zs : List (Ext × Nat))
    (hh : hostHolds c.dc.ep.dev p DevCyc.init ghostInit (devIns c.dc.ep (DevEp.init c.dc.ep) (extsT c zs)) = true)
    (h3 : decHolds3 c p (init c) ghostInit phs0 zs = true) :
    ∀ o ∈ DevEp.run c.dc.ep (DevEp.init c.dc.ep) (extsT c zs), o.txValid = true → o.rxActive = false :=
  DevDec.dec2_closed_tx_never_during_rx c p hs hT hne he hL hfs _ hh (decHolds2_of_det c p hs hT hne he hL hfs zs hh h3)

theorem det_closed_transmitters_exclusive (c : DevDec.Config) (p : Params)
    (hs : strobes c.dc.ep.dev.tok.timer c.dc.ep.dev.speed = true)
    (hT : delayOf c.dc.ep.dev.tok.timer c.dc.ep.dev.speed + p.L + 2 < p.T) (hne : c.dc.ep.epIn ≠ c.dc.ep.sig.epNum)
    (he : epsOk c.dc) (hL : 3 ≤ p.L) (hfs : c.hs = false) (zs : List (Ext × Nat))
    (hh : hostHolds c.dc.ep.dev p DevCyc.init ghostInit (devIns c.dc.ep (DevEp.init c.dc.ep) (extsT c zs)) = true)
    (h3 : decHolds3 c p (init c) ghostInit phs0 zs = true) :
    ∀ o ∈ DevEp.run c.dc.ep (DevEp.init c.dc.ep) (extsT c zs), ¬ (o.hsValid = true ∧ o.genValid = true) :=
  DevDec.dec2_closed_transmitters_exclusive c p hs hT hne he hL hfs _ hh
    (decHolds2_of_det c p hs hT hne he hL hfs zs hh h3)

theorem det_closed_tx_only_in_response_window (c : DevDec.Config) (p : Params)
    (hs : strobes c.dc.ep.dev.tok.timer c.dc.ep.dev.speed = true)
    (hT : delayOf c.dc.ep.dev.tok.timer c.dc.ep.dev.speed + p.L + 2 < p.T) (hne : c.dc.ep.epIn ≠ c.dc.ep.sig.epNum)
    (he : epsOk c.dc) (hL : 3 ≤ p.L) (hfs : c.hs = false) (zs : List (Ext × Nat))
    (hh : hostHolds c.dc.ep.dev p DevCyc.init ghostInit (devIns c.dc.ep (DevEp.init c.dc.ep) (extsT c zs)) = true)
    (h3 : decHolds3 c p (init c) ghostInit phs0 zs = true) :
    ∀ go ∈ traceG c.dc.ep.dev p DevCyc.init ghostInit (devIns c.dc.ep (DevEp.init c.dc.ep) (extsT c zs)),
      go.2.txValid = true → go.1.win ≠ .closed :=
  DevDec.dec2_closed_tx_only_in_response_window c p hs hT hne he hL hfs _ hh
    (decHolds2_of_det c p hs hT hne he hL hfs zs hh h3)

end LunaVerif.DevDet
