import LunaVerif.Lemmas.C20DeviceDec
/-!
# C20 — the setup decoder's ACK and `received` clauses of `decHolds'` are theorems

`Lemmas/C20DeviceDec.lean` leaves `decOk'` assumed in every cycle.  Two of its clauses are proved here for every history
of the device with control endpoint and setup decoder (`DevDec`) at full / low speed (`hs = false`):

* the ACK clause: the decoder's `ack` is driven only in a cycle in which the receiver gives `ready_for_response` and the tokenizer
  shows SETUP.  Joint invariant `DJ`: the deserializer and the receiver parse in lock-step with equal CRC16 checks
  (`DeserRx.DR`); a `new_packet` of length 8 finds the receiver entering its inter-packet DELAY with the shared counter
  at 0 (`j3`), so READ_DATA never ACKs directly (`tx_allowed` needs `counter = delay >= 1`); the decoder is in DELAY only
  while the receiver is, with the counter not beyond the delay and the token detector's `pid` still SETUP (`j4`), so
  `tx_allowed` there IS the receiver's pulse.
* the `received` clause: no `received` while the control slot is armed or sending: `new_packet` comes in the cycle after `rx_active` fell,
  when the packet layer's invariant shows nothing owed (mode M0: window closed one cycle earlier), no pulse can come in
  that cycle nor in the next (a pulse needs `counter = delay >= 1` resp. an IN/PING pid), and an idle slot that keeps the
  contract stays idle without a pulse (`j1`, `j2`).  `dj_next` keeps `DJ` for any next phases in which that last
  fact holds; `dj_step` puts in the device's own.

`deser_new` in this file is `DevDec.deser_new` (Lemmas/C20DeviceDec.lean: the two implications of `DeserRx.deser_new` used here),
not `DeserRx.deser_new` itself.

What remains assumed per cycle is `decOk2`: no forwarded host ACK while the control slot is armed / sending (the handshake
detector is not part of the composition), the legal-host clause on `start_position`, reset sequencer silent, and the
receive bytes are 8 bits wide.
-/
namespace LunaVerif.DevDec
open LunaVerif LunaVerif.DevCyc LunaVerif.DevCyc.Abs LunaVerif.C20Ctr LunaVerif.DevEp LunaVerif.CtrlCyc LunaVerif.DevCtl
open LunaVerif.SetupDecoder (Deser Dec deserStep decStep)
open LunaVerif.DeserRx (DR dr_step dr_new8 dr_init)

/-- Every rx-to-tx delay of the timer table is at least one cycle. -/
theorem delay_pos (tc : InterpacketTimer.Config) (speed : Nat) : 1 ≤ delayOf tc speed := by
  unfold delayOf InterpacketTimer.hsRxToTxDelay InterpacketTimer.fsRxToTxDelay InterpacketTimer.lsRxToTxDelay
  split
  · simp
  · split
    · cases tc.clk12 <;> simp
    · simp

theorem fwd_crc (c : DevEp.Config) (S : DevEp.State) (x : Ext) :
    (fwd c S x).rxo.crcOut = DataCrc.output S.dev.rx.crc := rfl

theorem fwd_rx_ready (c : DevEp.Config) (hs : strobes c.dev.tok.timer c.dev.speed = true) (S : DevEp.State) (x : Ext) :
    (fwd c S x).rxo.ready =
      (S.dev.rx.fsm == .delay && S.dev.rx.counter == delayOf c.dev.tok.timer c.dev.speed) := by
  show (DataReceiver.fsmStep (rxCfg c.dev) S.dev.rx x.rx).2.2.2.1 = _
  rw [rx_ready, rx_delay c.dev hs]

theorem fwd_allowed (c : DevEp.Config) (hs : strobes c.dev.tok.timer c.dev.speed = true) (S : DevEp.State) (x : Ext) :
    (fwd c S x).txAllowed = (S.dev.rx.counter == delayOf c.dev.tok.timer c.dev.speed) := by
  show (InterpacketTimer.outputs c.dev.tok.timer S.dev.rx.counter c.dev.speed).txAllowed = _
  exact allowed_eq _ _ _ hs

theorem step_rx (c : Config) (D : State) (x : Ext) (ac : Nat) :
    (step c D x ac).w.ep.dev.rx.fsm = (DataReceiver.fsmStep (rxCfg c.dc.ep.dev) D.w.ep.dev.rx x.rx).1.fsm ∧
    (step c D x ac).w.ep.dev.rx.counter =
      DataReceiver.counterNext (rxCfg c.dc.ep.dev) D.w.ep.dev.rx.counter
        ((DataReceiver.fsmStep (rxCfg c.dc.ep.dev) D.w.ep.dev.rx x.rx).2.2.2.2 || D.ds.newPacket) := ⟨rfl, rfl⟩

/-- `DR` does not read the receiver's CRC unit and counter, which the cycle updates on top of `fsmStep`. -/
theorem dev_rx_dr (c : DevEp.Config) (S : DevEp.State) (x : Ext) (d : Deser)
    (h : DR d (DataReceiver.fsmStep (rxCfg c.dev) S.dev.rx x.rx).1) : DR d (DevEp.step c S x).1.dev.rx := h

structure DJ (c : Config) (D : State) (q : Phs) : Prop where
  dr : DR D.ds D.w.ep.dev.rx
  j1 : D.ds.newPacket = true → q.r = .idle
  j2 : D.dec.received = true → q.r = .idle
  j3 : D.ds.newPacket = true → D.ds.length = 8 → D.w.ep.dev.rx.fsm = .delay ∧ D.w.ep.dev.rx.counter = 0
  j4 : D.dec.fsm = .delay → D.w.ep.dev.rx.fsm = .delay ∧
        D.w.ep.dev.rx.counter ≤ delayOf c.dc.ep.dev.tok.timer c.dc.ep.dev.speed ∧
        D.w.ep.dev.tok.tok.regs.pid = SetupDecoder.SETUP_PID

theorem dj_init (c : Config) : DJ c (init c) phs0 := ⟨dr_init, fun _ => rfl, fun _ => rfl, nofun, nofun⟩

/-- What is still assumed of the decoder's surroundings in one cycle (`decOk'` without its ACK clause and its `received`
clause, and with: the receive bytes are 8 bits wide). -/
def decOk2 (c : Config) (D : State) (q : Phs) (x : Ext) (ac : Nat) : Bool :=
  let o := fwd c.dc.ep D.w.ep x
  (q.r == .idle || !(ctrlComb c.dc.ctl D.w.ctl.cs.stage (ctlIn x (dOf c D x ac) o)).hsAck) &&
  (D.w.ctl.blk.fsm != .start || decide (D.w.ctl.cs.h.startPos < 2 ^ c.dc.blk.img.posW)) && !x.rsValid &&
  decide (x.rx.data < 256)

/-- With the tokenizer showing SETUP and `rx_active` high two cycles ago there is no `ready_for_response` pulse. -/
theorem no_pulse_setup (c : DevEp.Config) (p : Params) {S : DevEp.State} {g : Ghost} {q : Phs}
    (hg : Good c p S g q) (hpid : S.dev.tok.tok.regs.pid = SetupDecoder.SETUP_PID) (ha2 : g.a2 = true) :
    aPulse (delayOf c.dev.tok.timer c.dev.speed) (skel S.dev) = false := by
  have hd := delay_pos c.dev.tok.timer c.dev.speed
  have harm : (skel S.dev).armed = false := by
    simp [skel, hpid, SetupDecoder.SETUP_PID, inPid, pingPid]
  refine Bool.eq_false_iff.mpr fun hp => ?_
  simp only [aPulse, harm, Bool.and_false, Bool.false_or, Bool.and_eq_true, beq_iff_eq] at hp
  -- the receiver in DELAY is mode M2, and there `a2` puts the shared counter at 0 < delay
  obtain ⟨_, k, _, hk, hka⟩ := hg.inv.mode.cases.2.1 hp.1
  have : ¬ 1 ≤ k := fun h0 => by simpa [ha2] using hka h0
  omega

theorem decOk'_of (c : Config) (hs : strobes c.dc.ep.dev.tok.timer c.dc.ep.dev.speed = true)
    (hfs : c.hs = false) {D : State} {q : Phs} {x : Ext} {ac : Nat} (hj : DJ c D q)
    (h : decOk2 c D q x ac = true) : decOk' c D q x ac = true := by
  simp only [decOk2, Bool.and_eq_true, Bool.or_eq_true, Bool.not_eq_eq_eq_not, Bool.not_true, beq_iff_eq] at h
  obtain ⟨⟨⟨h3, h4⟩, h5⟩, _⟩ := h
  have hd := delay_pos c.dc.ep.dev.tok.timer c.dc.ep.dev.speed
  simp only [decOk', Bool.and_eq_true, Bool.or_eq_true, Bool.not_eq_eq_eq_not, Bool.not_true, beq_iff_eq]
  refine ⟨⟨⟨(Bool.eq_false_or_eq_true _).symm.imp id fun hack => ?_, ?_⟩, h4⟩, h5⟩
  · rcases dec_ack_origin (decCfg c) _ _ _ _ _ _ _ hack with ⟨_, hn, hl, _, hta | hta⟩ | ⟨hf, hta⟩
    · -- READ_DATA never ACKs directly: the shared counter was restarted by the receiver
      rw [fwd_allowed c.dc.ep hs, (hj.j3 hn hl).2, beq_iff_eq] at hta
      omega
    · simp [decCfg, hfs] at hta
    · -- in DELAY, `tx_allowed` is the receiver's pulse
      obtain ⟨hrf, _, hpid⟩ := hj.j4 hf
      rw [fwd_allowed c.dc.ep hs] at hta
      refine ⟨?_, ?_⟩
      · rw [fwd_rx_ready c.dc.ep hs, hrf, hta]; rfl
      · rw [(DevCtl.pid_decode c.dc D.w x).2.2.1, fwd_regs, hpid]; rfl
  · exact (Bool.eq_false_or_eq_true D.dec.received).elim (fun hr => .inl (hj.j2 hr)) fun hr => h3.imp id (⟨hr, ·⟩)

/-- The joint invariant after one cycle, for any next phases `q'` in which an idle control slot without a pulse has
stayed idle. -/
theorem dj_next (c : Config) (p : Params) (hs : strobes c.dc.ep.dev.tok.timer c.dc.ep.dev.speed = true)
    {D : State} {g : Ghost} {q q' : Phs} {pty : Nat} {x : Ext} (ac : Nat) {i : DevCyc.In} (hrx : i.rx = x.rx)
    (hg : Good c.dc.ep p D.w.ep g q) (hi : DI D g pty) (hj : DJ c D q) (hh : hostOk g i = true)
    (hb : x.rx.data < 256)
    (stay : q.r = .idle → aPulse (delayOf c.dc.ep.dev.tok.timer c.dc.ep.dev.speed) (skel D.w.ep.dev) = false →
      q'.r = .idle) : DJ c (step c D x ac) q' := by
  have hd := delay_pos c.dc.ep.dev.tok.timer c.dc.ep.dev.speed
  -- `rx_valid` only under `rx_active`; the receiver sits in DELAY only while the window is open: nothing is received
  obtain ⟨hv, hdel⟩ := host_facts (ai := skelIn c.dc.ep.dev D.w.ep.dev i) hg.inv hh
  simp only [skelIn, hrx] at hv hdel
  obtain ⟨n1, _⟩ := deser_new D.ds (fwd c.dc.ep D.w.ep x).rxo.crcOut x.rx
  obtain ⟨hfsm, hcnt⟩ := step_rx c D x ac
  refine ⟨?_, fun hn => ?_, fun hrc => ?_, fun hn hl => ?_, fun hdl => ?_⟩
  · exact dev_rx_dr c.dc.ep D.w.ep _ _ (dr_step (rxCfg c.dc.ep.dev) D.ds D.w.ep.dev.rx x.rx hj.dr (fun h => (hdel h).1) hv hb)
  · -- `new_packet` next cycle: `rx_active` was high one cycle ago, so the window is closed and nothing is owed
    obtain ⟨hq, hp⟩ := hg.idle_of_closed (hg.inv.act (hi.i1 (n1 hn).1))
    exact stay hq hp
  · -- `received` next cycle: `new_packet` now, under a SETUP pid
    obtain ⟨hn, hpid⟩ := dec_received_origin _ _ _ _ _ _ _ _ hrc
    rw [fwd_regs] at hpid
    exact stay (hj.j1 hn) (no_pulse_setup c.dc.ep p hg hpid (hi.i2 hn).2)
  · -- a `new_packet` of length 8 is accepted by the receiver in the same cycle
    obtain ⟨k1, k2⟩ := dr_new8 (rxCfg c.dc.ep.dev) D.ds D.w.ep.dev.rx x.rx hj.dr hn hl
    refine ⟨hfsm.trans k2, ?_⟩
    rw [hcnt, k1]; simp [DataReceiver.counterNext]
  · -- decoder in DELAY next cycle: the receiver is in DELAY and stays there until `tx_allowed`
    have hstay : D.w.ep.dev.rx.fsm = .delay →
        D.w.ep.dev.rx.counter ≠ delayOf c.dc.ep.dev.tok.timer c.dc.ep.dev.speed →
        (step c D x ac).w.ep.dev.rx.fsm = .delay := fun hrf hcs => by
      rw [hfsm, rx_fsm, hrf, rx_delay c.dc.ep.dev hs]
      simp [rxNext, hcs]
    rcases (decStep_spec (decCfg c) _ _ _ _ _ _ _).2.2.1.mp hdl with ⟨⟨_, hn, hl, hpid⟩, _⟩ | ⟨hf, hta⟩
    · obtain ⟨hrf, h0⟩ := hj.j3 hn hl
      rw [fwd_regs] at hpid
      refine ⟨hstay hrf (by omega), ?_, (pid_kept c x ac hi (hi.i2 hn).1).trans hpid⟩
      rw [hcnt, hn]; simp [DataReceiver.counterNext]
    · obtain ⟨hrf, hle, hpid⟩ := hj.j4 hf
      rw [fwd_allowed c.dc.ep hs, beq_eq_false_iff_ne] at hta
      refine ⟨hstay hrf hta, ?_, (pid_kept c x ac hi (hdel hrf).2).trans hpid⟩
      rw [hcnt]
      simp only [DataReceiver.counterNext]
      split
      · omega
      · split <;> omega

theorem dj_step (c : Config) (p : Params) (hs : strobes c.dc.ep.dev.tok.timer c.dc.ep.dev.speed = true)
    (hT : delayOf c.dc.ep.dev.tok.timer c.dc.ep.dev.speed + p.L + 2 < p.T) (hne : c.dc.ep.epIn ≠ c.dc.ep.sig.epNum)
    (he : epsOk c.dc) (hL : 3 ≤ p.L) (hfs : c.hs = false)
    {D : State} {g : Ghost} {q : Phs} {pty : Nat} {x : Ext} {ac : Nat}
    (hJ : Joint c.dc p D.w g q pty) (hi : DI D g pty) (hj : DJ c D q)
    (hh : hostOk g (fullIn c.dc.ep D.w.ep (extOf c.dc D.w (xOf D x) (dOf c D x ac))) = true)
    (h2 : decOk2 c D q x ac = true) :
    decOk' c D q x ac = true ∧
    Joint c.dc p (step c D x ac).w
      (ghostNext p g D.w.ep.dev (fullIn c.dc.ep D.w.ep (extOf c.dc D.w (xOf D x) (dOf c D x ac)))
        (DevEp.step c.dc.ep D.w.ep (extOf c.dc D.w (xOf D x) (dOf c D x ac))).2)
      (nextPhs p.L c.dc.ep D.w.ep (extOf c.dc D.w (xOf D x) (dOf c D x ac)) q) (suOf D.dec).type ∧
    DI (step c D x ac)
      (ghostNext p g D.w.ep.dev (fullIn c.dc.ep D.w.ep (extOf c.dc D.w (xOf D x) (dOf c D x ac)))
        (DevEp.step c.dc.ep D.w.ep (extOf c.dc D.w (xOf D x) (dOf c D x ac))).2) (suOf D.dec).type ∧
    DJ c (step c D x ac) (nextPhs p.L c.dc.ep D.w.ep (extOf c.dc D.w (xOf D x) (dOf c D x ac)) q) ∧
    (g.win = .closed → (nextPhs p.L c.dc.ep D.w.ep (extOf c.dc D.w (xOf D x) (dOf c D x ac)) q).r = .idle) := by
  have hok' := decOk'_of c hs hfs hj h2
  obtain ⟨hr, hJ'⟩ := joint_step c.dc p hs hT hne he hL hJ hh (decOk_of c hi hok')
  have stay := rest_stays_idle c.dc.ep hs hr
  have hb : x.rx.data < 256 := by
    simp only [decOk2, Bool.and_eq_true, decide_eq_true_eq] at h2
    exact h2.2
  exact ⟨hok', hJ', di_step c p x ac _ _ rfl hi, dj_next c p hs ac rfl hJ.good hi hj hh hb stay,
    fun hw => (hJ.good.idle_of_closed hw).elim stay⟩

/-- `decOk2` along the run. -/
def decHolds2 (c : Config) (p : Params) : State → Ghost → Phs → List (Ext × Nat) → Bool
  | _, _, _, [] => true
  | D, g, q, (x, ac) :: zs =>
    let x' := extOf c.dc D.w (xOf D x) (dOf c D x ac)
    decOk2 c D q x ac &&
      decHolds2 c p (step c D x ac) (ghostNext p g D.w.ep.dev (fullIn c.dc.ep D.w.ep x') (DevEp.step c.dc.ep D.w.ep x').2)
        (nextPhs p.L c.dc.ep D.w.ep x' q) zs

theorem decHolds'_of_dj (c : Config) (p : Params) (hs : strobes c.dc.ep.dev.tok.timer c.dc.ep.dev.speed = true)
    (hT : delayOf c.dc.ep.dev.tok.timer c.dc.ep.dev.speed + p.L + 2 < p.T) (hne : c.dc.ep.epIn ≠ c.dc.ep.sig.epNum)
    (he : epsOk c.dc) (hL : 3 ≤ p.L) (hfs : c.hs = false) (zs : List (Ext × Nat)) (D : State) (g : Ghost) (q : Phs)
    (pty : Nat) (hJ : Joint c.dc p D.w g q pty) (hi : DI D g pty) (hj : DJ c D q)
    (hh : hostHolds c.dc.ep.dev p D.w.ep.dev g (devIns c.dc.ep D.w.ep (extsOf c.dc D.w (ysOf c D zs))) = true)
    (h2 : decHolds2 c p D g q zs = true) : decHolds' c p D g q zs = true := by
  induction zs generalizing D g q pty with
  | nil => rfl
  | cons z zs ih =>
    simp only [ysOf, extsOf, devIns, hostHolds, decHolds2, Bool.and_eq_true] at hh h2
    obtain ⟨hok, hJ', hI', hj', _⟩ := dj_step c p hs hT hne he hL hfs hJ hi hj hh.1 h2.1
    simp only [decHolds', Bool.and_eq_true]
    exact ⟨hok, ih _ _ _ _ hJ' hI' hj' hh.2 h2.2⟩

/-- **The decoder's ACK clause and `received` clause of `decHolds'` are theorems** (full / low speed): along every
history of the device with control endpoint and setup decoder, `hostHolds` + `decHolds2` imply `decHolds'`. -/
theorem decHolds'_of_dec (c : Config) (p : Params) (hs : strobes c.dc.ep.dev.tok.timer c.dc.ep.dev.speed = true)
    (hT : delayOf c.dc.ep.dev.tok.timer c.dc.ep.dev.speed + p.L + 2 < p.T) (hne : c.dc.ep.epIn ≠ c.dc.ep.sig.epNum)
    (he : epsOk c.dc) (hL : 3 ≤ p.L) (hfs : c.hs = false) (zs : List (Ext × Nat))
    (hh : hostHolds c.dc.ep.dev p DevCyc.init ghostInit (devIns c.dc.ep (DevEp.init c.dc.ep) (extsD c zs)) = true)
    (h2 : decHolds2 c p (init c) ghostInit phs0 zs = true) :
    decHolds' c p (init c) ghostInit phs0 zs = true :=
  decHolds'_of_dj c p hs hT hne he hL hfs zs (init c) ghostInit phs0 0 (joint_init c.dc p) (di_init c) (dj_init c) hh h2

/-- Along every run in which the host assumption (`hostHolds`) and `decHolds2` hold (no forwarded host ACK while the control
slot is armed or sending, the legal-host clause on `start_position`, reset sequencer silent, 8-bit receive bytes), at full / low
speed (`hfs`), with `strobes`, `delay + L + 2 < T`, `hne`, `epsOk` and `3 ≤ L`: the device with its control endpoint and setup
decoder never transmits while a received packet is in progress.  The decoder's ACK timing and `received` timing are not
assumed. -/
theorem dec2_closed_tx_never_during_rx (c : Config) (p : Params)
    (hs : strobes c.dc.ep.dev.tok.timer c.dc.ep.dev.speed = true)
    (hT : delayOf c.dc.ep.dev.tok.timer c.dc.ep.dev.speed + p.L + 2 < p.T) (hne : c.dc.ep.epIn ≠ c.dc.ep.sig.epNum)
    (he : epsOk c.dc) (hL : 3 ≤ p.L) (hfs : c.hs = false) (zs : List (Ext × Nat))
    (hh : hostHolds c.dc.ep.dev p DevCyc.init ghostInit (devIns c.dc.ep (DevEp.init c.dc.ep) (extsD c zs)) = true)
    (h2 : decHolds2 c p (init c) ghostInit phs0 zs = true) :
    ∀ o ∈ DevEp.run c.dc.ep (DevEp.init c.dc.ep) (extsD c zs), o.txValid = true → o.rxActive = false :=
  dec_closed_tx_never_during_rx c p hs hT hne he hL zs hh (decHolds'_of_dec c p hs hT hne he hL hfs zs hh h2)

theorem dec2_closed_transmitters_exclusive (c : Config) (p : Params)
    (hs : strobes c.dc.ep.dev.tok.timer c.dc.ep.dev.speed = true)
    (hT : delayOf c.dc.ep.dev.tok.timer c.dc.ep.dev.speed + p.L + 2 < p.T) (hne : c.dc.ep.epIn ≠ c.dc.ep.sig.epNum)
    (he : epsOk c.dc) (hL : 3 ≤ p.L) (hfs : c.hs = false) (zs : List (Ext × Nat))
    (hh : hostHolds c.dc.ep.dev p DevCyc.init ghostInit (devIns c.dc.ep (DevEp.init c.dc.ep) (extsD c zs)) = true)
    (h2 : decHolds2 c p (init c) ghostInit phs0 zs = true) :
    ∀ o ∈ DevEp.run c.dc.ep (DevEp.init c.dc.ep) (extsD c zs), ¬ (o.hsValid = true ∧ o.genValid = true) :=
  dec_closed_transmitters_exclusive c p hs hT hne he hL zs hh (decHolds'_of_dec c p hs hT hne he hL hfs zs hh h2)

theorem dec2_closed_tx_only_in_response_window (c : Config) (p : Params)
    (hs : strobes c.dc.ep.dev.tok.timer c.dc.ep.dev.speed = true)
    (hT : delayOf c.dc.ep.dev.tok.timer c.dc.ep.dev.speed + p.L + 2 < p.T) (hne : c.dc.ep.epIn ≠ c.dc.ep.sig.epNum)
    (he : epsOk c.dc) (hL : 3 ≤ p.L) (hfs : c.hs = false) (zs : List (Ext × Nat))
    (hh : hostHolds c.dc.ep.dev p DevCyc.init ghostInit (devIns c.dc.ep (DevEp.init c.dc.ep) (extsD c zs)) = true)
    (h2 : decHolds2 c p (init c) ghostInit phs0 zs = true) :
    ∀ go ∈ traceG c.dc.ep.dev p DevCyc.init ghostInit (devIns c.dc.ep (DevEp.init c.dc.ep) (extsD c zs)),
      go.2.txValid = true → go.1.win ≠ .closed :=
  dec_closed_tx_only_in_response_window c p hs hT hne he hL zs hh (decHolds'_of_dec c p hs hT hne he hL hfs zs hh h2)

end LunaVerif.DevDec
