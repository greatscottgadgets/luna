import LunaVerif.Model.Device.SlotContract
/-!
# C20 — the endpoint side of the cycle-level composition: the SLOT CONTRACT

`envOk` (Model/Device/DevCyc.lean) is a discipline on what the endpoint logic behind `USBEndpointMultiplexer.shared`
drives.  Model/Device/SlotContract.lean states it PER ENDPOINT as a small ghost automaton over the endpoint's own ports
— the "slot contract" — so that it can be proved of every endpoint model separately (Lemmas/C20Endpoints.lean).  Here:
what the contract says of the drives that occur, and that slots combined through the multiplexer keep it (`merge_ok`,
`mergeAll_ok`).  `Lemmas/C20EnvOk.lean` proves that a device whose slots keep the contract satisfies `envOk` in every
cycle.
-/
namespace LunaVerif.C20Ctr

theorem idle_silent {L : Nat} {rdy : Bool} {d : Sig} (h : cok .idle false d = true) :
    d.hs = false ∧ d.valid = false ∧ d.first = false ∧ d.last = false ∧ cnext L .idle false rdy d = .idle := by
  obtain ⟨hs, v, f, l, t⟩ := d
  cases hs <;> cases v <;> cases f <;> cases l <;> simp_all [cok, cokB, cnext, cnextB, expire]

/-! ## The contract's verdict on the drives that occur

Every endpoint drives one of: no data word (at most a handshake); a data word outside a packet (the first word of a
packet, or a zero-length packet); a data word of a packet under way. -/

theorem cstep_noT {L : Nat} {ph : Ph} {pul rdy a1 a2 : Bool} {d : Sig} (h : d.tstart = false) :
    cstep L ph pul rdy a1 a2 d = (cok ph pul d, cnext L ph pul rdy d) := by
  simp [cstep, tOk, h]

theorem cok_hs {ph : Ph} (hp : ph ≠ .sending) (pul hs t : Bool) :
    cok ph pul ⟨hs, false, false, false, t⟩ = (!hs || (pul || ph != .idle)) := by
  simp [cok, cokB, hp]

theorem cnext_hs (L : Nat) {ph : Ph} (hp : ph ≠ .sending) (pul rdy hs t : Bool) :
    cnext L ph pul rdy ⟨hs, false, false, false, t⟩ =
      if hs = true then .idle else if pul = true then .armed 0 else expire L ph := by
  simp [cnext, cnextB, hp]

theorem cok_word {ph : Ph} (hp : ph ≠ .sending) (pul f l t : Bool) :
    cok ph pul ⟨false, true, f, l, t⟩ = ((f || l) && (pul || ph != .idle)) := by
  simp [cok, cokB, hp]

theorem cnext_word (L : Nat) {ph : Ph} (hp : ph ≠ .sending) (pul rdy f l t : Bool) :
    cnext L ph pul rdy ⟨false, true, f, l, t⟩ =
      if f = true then (if (rdy && l) = true then .idle else .sending) else .idle := by
  simp [cnext, cnextB, hp]

theorem cnext_sending (L : Nat) (pul rdy : Bool) (d : Sig) :
    cnext L .sending pul rdy d = if (rdy && d.last) = true then .idle else .sending := rfl

theorem word_ok (L : Nat) {ph : Ph} (hi : ph ≠ .idle) {f : Bool} (hf : ph ≠ .sending → f = true) (pul rdy l t : Bool) :
    cok ph pul ⟨false, true, f, l, t⟩ = true ∧
    cnext L ph pul rdy ⟨false, true, f, l, t⟩ = if (rdy && l) = true then .idle else .sending := by
  by_cases hp : ph = .sending
  · subst hp; exact ⟨rfl, rfl⟩
  · rw [hf hp, cok_word hp, cnext_word L hp]
    simp [hi]

theorem expire_ne_sending (L : Nat) (ph : Ph) : expire L ph ≠ .sending := by
  unfold expire
  split
  · split <;> simp
  · simp

theorem cnext_ne_sending (L : Nat) (ph : Ph) (pul rdy : Bool) (d : Sig) (hph : ph ≠ .sending) (hf : d.first = false) :
    cnext L ph pul rdy d ≠ .sending := by
  simp only [cnext, cnextB, hph, if_false, hf, Bool.and_false]
  cases d.hs <;> cases d.valid <;> cases pul <;> simp [expire_ne_sending]

theorem cok_sending_iff {pul : Bool} {d : Sig} : cok .sending pul d = true ↔ d.valid = true ∧ d.hs = false := by
  simp [cok, cokB]

theorem cok_iff {ph : Ph} (hp : ph ≠ .sending) {pul : Bool} {d : Sig} :
    cok ph pul d = true ↔
      (d.first = true → d.valid = true) ∧ (d.last = true → d.valid = true) ∧
      (d.valid = true → d.first = true ∨ d.last = true) ∧
      (d.hs = true ∨ d.valid = true → pul = true ∨ ph ≠ .idle) ∧ ¬(d.hs = true ∧ d.valid = true) := by
  simp only [cok, cokB, hp, if_false, Bool.and_eq_true, Bool.or_eq_true, Bool.not_eq_true', bne_iff_ne, ne_eq]
  cases d.hs <;> cases d.valid <;> cases d.first <;> cases d.last <;> simp

theorem cnext_eq_sending {L : Nat} {ph : Ph} {pul rdy : Bool} {d : Sig} :
    cnext L ph pul rdy d = .sending ↔
      (ph = .sending ∨ (d.hs = false ∧ d.valid = true ∧ d.first = true)) ∧ (rdy && d.last) = false := by
  by_cases hp : ph = .sending
  · subst hp
    rw [cnext_sending]
    split <;> simp_all
  · simp only [cnext, cnextB, hp, if_false, false_or]
    cases d.hs <;> cases d.valid <;> cases d.first <;> cases pul <;> simp [expire_ne_sending]

theorem expire_eq_armed {L : Nat} {ph : Ph} {k : Nat} :
    expire L ph = .armed k ↔ ∃ j, ph = .armed j ∧ j < L ∧ k = j + 1 := by
  cases ph with
  | armed j =>
    simp only [expire, Ph.armed.injEq, exists_eq_left']
    split
    · simp_all [eq_comm]
    · simp; omega
  | _ => simp [expire]

theorem cnext_eq_armed {L : Nat} {ph : Ph} {pul rdy : Bool} {d : Sig} {k : Nat} (h : cnext L ph pul rdy d = .armed k) :
    ph ≠ .sending ∧ d.hs = false ∧ d.valid = false ∧
      ((pul = true ∧ k = 0) ∨ (pul = false ∧ ∃ j, ph = .armed j ∧ j < L ∧ k = j + 1)) := by
  by_cases hp : ph = .sending
  · subst hp
    rw [cnext_sending] at h
    split at h <;> cases h
  · refine ⟨hp, ?_⟩
    simp only [cnext, cnextB, hp, if_false] at h
    cases hh : d.hs <;> cases hv : d.valid <;>
      simp only [hh, hv, Bool.false_eq_true, if_false, if_true, Bool.true_and, Bool.false_and] at h
    · -- neither a handshake nor a word: the pulse arms the slot, or an older one ages
      refine ⟨rfl, rfl, ?_⟩
      cases pul
      · exact Or.inr ⟨rfl, expire_eq_armed.mp h⟩
      · exact Or.inl ⟨rfl, (Ph.armed.inj h).symm⟩
    · (repeat' split at h) <;> cases h
    · cases h
    · cases h

/-! ## Merging two slots (what `USBEndpointMultiplexer` does: OR) -/

def orSig (a b : Sig) : Sig :=
  { hs := a.hs || b.hs, valid := a.valid || b.valid, first := a.first || b.first, last := a.last || b.last,
    tstart := a.tstart || b.tstart }

def orPh (a b : Ph) : Ph := if a = .idle then b else a

theorem orPh_idle {a b : Ph} : orPh a b = .idle ↔ a = .idle ∧ b = .idle := by
  unfold orPh; split <;> simp_all

theorem tOk_or (a1 a2 : Bool) (a b : Sig) : tOk a1 a2 (orSig a b) = (tOk a1 a2 a && tOk a1 a2 b) := by
  simp only [tOk, orSig]; cases a.tstart <;> cases b.tstart <;> simp

/-- Two slots that keep the contract, of which at most one is busy and at most one is addressed, and which are
addressed only while both are idle (the device guarantees this: no pulse while an answer is owed or under way), behave
together like one slot that keeps the contract. -/
theorem merge_ok {L : Nat} {pa pb : Ph} {ua ub rdy a1 a2 : Bool} {da db : Sig}
    (hx : pa = .idle ∨ pb = .idle) (hu : (ua && ub) = false)
    (hq : (ua || ub) = true → pa = .idle ∧ pb = .idle)
    (ha : (cstep L pa ua rdy a1 a2 da).1 = true) (hb : (cstep L pb ub rdy a1 a2 db).1 = true) :
    cstep L (orPh pa pb) (ua || ub) rdy a1 a2 (orSig da db) =
      (true, orPh (cstep L pa ua rdy a1 a2 da).2 (cstep L pb ub rdy a1 a2 db).2) ∧
    ((cstep L pa ua rdy a1 a2 da).2 = .idle ∨ (cstep L pb ub rdy a1 a2 db).2 = .idle) := by
  simp only [cstep, Bool.and_eq_true] at ha hb ⊢
  obtain ⟨ha, hta⟩ := ha
  obtain ⟨hb, htb⟩ := hb
  simp only [tOk_or, hta, htb, Bool.and_true, Prod.mk.injEq]
  have key : ∀ (p : Ph) (u : Bool) (d e : Sig), cok .idle false e = true →
      cok p u (orSig d e) = cok p u d ∧ cnext L p u rdy (orSig d e) = cnext L p u rdy d ∧
      cok p u (orSig e d) = cok p u d ∧ cnext L p u rdy (orSig e d) = cnext L p u rdy d := by
    intro p u d e he
    obtain ⟨h1, h2, h3, h4, _⟩ := idle_silent (L := L) (rdy := rdy) he
    simp [cok, cnext, orSig, h1, h2, h3, h4]
  have hsil : (pb = .idle ∧ ub = false) ∨ (pa = .idle ∧ ua = false) := by
    clear key
    cases ua <;> cases ub <;> simp_all [or_comm]
  rcases hsil with ⟨rfl, rfl⟩ | ⟨rfl, rfl⟩
  · obtain ⟨k1, k2, _, _⟩ := key pa ua da db hb
    have hbn := (idle_silent (L := L) (rdy := rdy) hb).2.2.2.2
    have hor : ∀ q, orPh q .idle = q := fun q => by unfold orPh; split <;> simp_all
    simp only [hor, Bool.or_false, k1, k2, ha, hbn, true_and]
    exact Or.inr trivial
  · obtain ⟨_, _, k3, k4⟩ := key pb ub db da ha
    have han := (idle_silent (L := L) (rdy := rdy) ha).2.2.2.2
    simp only [orPh, if_true, Bool.false_or, k3, k4, hb, han, true_and]
    exact Or.inl trivial

/-- Non-vacuity of `merge_ok`: an addressed slot that answers NAK next to an idle silent one. -/
example : (cstep 8 .idle true false false false { hs := true }).1 = true ∧
    (cstep 8 .idle false false false false {}).1 = true := by decide

/-- One slot in one cycle: its phase, whether a pulse is addressed to it, what it drives. -/
structure Slot where
  ph  : Ph
  pul : Bool
  d   : Sig
deriving Repr

def allIdle (l : List Slot) : Prop := ∀ x ∈ l, x.ph = .idle

def Excl : List Slot → Prop
  | [] => True
  | x :: xs => (x.ph = .idle ∨ allIdle xs) ∧ Excl xs

def exclPul : List Slot → Bool
  | [] => true
  | x :: xs => !(x.pul && xs.any (·.pul)) && exclPul xs

def orPhs : List Slot → Ph
  | [] => .idle
  | x :: xs => orPh x.ph (orPhs xs)

def orSigs : List Slot → Sig
  | [] => silent
  | x :: xs => orSig x.d (orSigs xs)

/-- Only the phases advance: the pulse / drive fields stay those of the cycle that has passed. -/
def nextSlots (L : Nat) (rdy : Bool) (l : List Slot) : List Slot :=
  l.map (fun x => { x with ph := cnext L x.ph x.pul rdy x.d })

theorem orPhs_idle {l : List Slot} : orPhs l = .idle ↔ allIdle l := by
  induction l with
  | nil => simp [orPhs, allIdle]
  | cons x xs ih => simp [orPhs, orPh_idle, allIdle, ih]

/-- **The multiplexer preserves the contract**: slots that each keep the contract, of which at most one is busy and at
most one is addressed, and which are addressed only while all are idle, behave together — OR-merged, as
`USBEndpointMultiplexer` does — like one slot that keeps the contract; and at most one is busy afterwards. -/
theorem mergeAll_ok {L : Nat} {rdy a1 a2 : Bool} (l : List Slot) (hx : Excl l) (hu : exclPul l = true)
    (hq : l.any (·.pul) = true → allIdle l)
    (hok : ∀ x ∈ l, (cstep L x.ph x.pul rdy a1 a2 x.d).1 = true) :
    cstep L (orPhs l) (l.any (·.pul)) rdy a1 a2 (orSigs l) = (true, orPhs (nextSlots L rdy l)) ∧
    Excl (nextSlots L rdy l) := by
  induction l with
  | nil => simp [orPhs, orSigs, nextSlots, Excl, cstep, cok, cokB, cnext, cnextB, expire, silent, tOk]
  | cons x xs ih =>
    obtain ⟨hx1, hx2⟩ := hx
    simp only [exclPul, Bool.and_eq_true, Bool.not_eq_eq_eq_not, Bool.not_true] at hu
    obtain ⟨hu1, hu2⟩ := hu
    have hq2 : xs.any (·.pul) = true → allIdle xs := by
      intro h
      have := hq (by simp only [List.any_cons, h, Bool.or_true])
      intro y hy; exact this y (List.mem_cons_of_mem _ hy)
    obtain ⟨ih1, ih2⟩ := ih hx2 hu2 hq2 (fun y hy => hok y (List.mem_cons_of_mem _ hy))
    have hb : (cstep L (orPhs xs) (xs.any (·.pul)) rdy a1 a2 (orSigs xs)).1 = true := by rw [ih1]
    have hm := merge_ok (L := L) (pa := x.ph) (pb := orPhs xs) (ua := x.pul) (ub := xs.any (·.pul)) (rdy := rdy)
      (a1 := a1) (a2 := a2) (da := x.d) (db := orSigs xs)
      (by rcases hx1 with h | h
          · exact Or.inl h
          · exact Or.inr (orPhs_idle.mpr h))
      hu1
      (by intro h
          have := hq (by simpa only [List.any_cons] using h)
          exact ⟨this x (List.mem_cons_self ..), orPhs_idle.mpr (fun y hy => this y (List.mem_cons_of_mem _ hy))⟩)
      (hok x (List.mem_cons_self ..)) hb
    obtain ⟨hm1, hm2⟩ := hm
    rw [ih1] at hm1 hm2
    refine ⟨?_, ?_, ih2⟩
    · simpa only [orPhs, List.any_cons, orSigs, nextSlots, List.map_cons, cstep] using hm1
    · rcases hm2 with h | h
      · exact Or.inl (by simpa only [cstep] using h)
      · exact Or.inr (orPhs_idle.mp h)

end LunaVerif.C20Ctr
