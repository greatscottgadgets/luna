import LunaVerif.Lemmas.C13Write
/-!
# C13 — the write-side invariant through the end of a transaction (commit / discard / response)
-/
namespace LunaVerif.StreamOutEndpoint
open LunaVerif

theorem winv_step_finStrobe {c : Config} {t : Tok} {pid : Nat} {bytes : List Nat} {ok responded : Bool}
    {s : WState} {o : BoundaryDetector.Out} {full : Bool} {space : Nat}
    {i : In} {p' : Phase} (hmps : 1 ≤ c.mps) (h : s.Inv c (.finStrobe t pid bytes ok responded))
    (hv : View (.finStrobe t pid bytes ok responded) o)
    (hs : Phase.step c (.finStrobe t pid bytes ok responded) i = some p') :
    (s.next c (.finStrobe t pid bytes ok responded) o full space i).Inv c p' := by
  obtain ⟨a, r, W, com, acc⟩ := s
  obtain ⟨htg, hwf, hlen, hrsp, h⟩ := h
  obtain ⟨hn, hco, hio⟩ := hv
  obtain ⟨hst, _, hrok, h3⟩ := step_finStrobe_inv hs
  obtain ⟨htok, hpid, hnew, hclr⟩ := stable_inv hst
  simp only at htg hlen h hrsp
  cases hT : t.targets c
  · rw [WState.Inv, next_foreign htok hT hnew (by simp [Phase.answered, hT])]
    rcases h3 with ⟨_, rfl⟩ | ⟨_, _, _, rfl⟩ <;> simp_all [WInv, okayP]
  · obtain ⟨hping, hep⟩ := targets_not_ping hwf hT
    have hc : i.clearHalt = false := by simpa [hT] using hclr
    rw [htg] at h
    simp only [hT, if_true] at h
    replace hlen := hlen hT
    simp only [WState.Inv, WState.next, regsNext, combG_tok htok hpid, wNext, wctl, Acct.step, Phase.answered,
      hsG, hn, hco, hio, hnew, hc, hT, hping, hep, htg, okayP, Bool.true_and, Bool.and_true, Bool.false_and,
      Bool.and_false, Bool.or_false, if_false, Bool.false_eq_true, Bool.not_false,
      List.append_nil]
    clear htok hpid hn hco hio hnew hc hping hep hst hclr hs o
    rcases h3 with ⟨hend, rfl⟩ | ⟨hr1, hR, hok1, rfl⟩
    · -- the transaction ends here: by the response request, after an earlier response, or as a corrupted packet
      cases hR : i.rxReady
      · cases responded
        · have hok : ok = false := by simpa [hR] using hend
          subst hok
          cases hM : (pid == tn a.toggle) <;> cases bytes <;> simp_all [WInv, pktEntries, marks]
        · have hok : ok = true := hrsp rfl
          subst hok
          cases hO : r.overflow <;> cases hP : r.packetHasData <;> cases bytes <;> simp_all [WInv] <;> grind
      · obtain ⟨hok, hre⟩ := hrok hR
        subst hok hre
        cases hM : (pid == tn a.toggle)
        · cases bytes <;> simp_all [WInv]
        · cases hO : r.overflow <;> cases bytes <;> simp_all [WInv, pktEntries, marks] <;> omega
    · subst hr1 hok1
      cases hM : (pid == tn a.toggle)
      · cases bytes <;> simp_all [WInv, okayP]
      · cases hO : r.overflow <;> cases bytes <;> simp_all [WInv, okayP, pktEntries, marks]

theorem winv_step_finWait {c : Config} {t : Tok} {pid : Nat} {bytes : List Nat}
    {s : WState} {o : BoundaryDetector.Out} {full : Bool} {space : Nat}
    {i : In} {p' : Phase} (hmps : 1 ≤ c.mps) (h : s.Inv c (.finWait t pid bytes))
    (hv : View (.finWait t pid bytes) o)
    (hs : Phase.step c (.finWait t pid bytes) i = some p') :
    (s.next c (.finWait t pid bytes) o full space i).Inv c p' := by
  obtain ⟨a, r, W, com, acc⟩ := s
  obtain ⟨htg, hwf, hW, hcnt, h⟩ := h
  obtain ⟨hn, hco, hio⟩ := hv
  obtain ⟨hst, _, h3⟩ := step_finWait_inv hs
  obtain ⟨htok, hpid, hnew, hclr⟩ := stable_inv hst
  simp only at htg hW hcnt h
  cases hT : t.targets c
  · rw [WState.Inv, next_foreign htok hT hnew (by simp [Phase.answered, hT])]
    rcases h3 with ⟨_, rfl⟩ | ⟨_, rfl⟩ <;> simp_all [WInv, okayP]
  · obtain ⟨hping, hep⟩ := targets_not_ping hwf hT
    have hc : i.clearHalt = false := by simpa [hT] using hclr
    rw [htg] at h
    simp only [WState.Inv, WState.next, regsNext, combG_tok htok hpid, wNext, wctl, Acct.step, Phase.answered,
      hsG, hn, hco, hio, hnew, hc, hT, hping, hep, htg, hW, hcnt, Bool.true_and, Bool.and_true, Bool.false_and,
      Bool.and_false, Bool.or_false, if_false, Bool.false_eq_true, Bool.not_false,
      List.append_nil]
    clear htok hpid hn hco hio hnew hc hping hep hst hclr hs
    rcases h3 with ⟨hR, rfl⟩ | ⟨hR, rfl⟩
    · -- the response request: accepted iff the toggle is the expected one and nothing was lost
      cases hA : (okayP c t pid a.toggle && !r.overflow)
      · simp_all [WInv]
      · have hM : pid = tn a.toggle := by simp_all [okayP]
        cases bytes <;> simp_all [WInv, pktEntries, marks] <;> omega
    · simp_all [WInv]

/-- **Write-side layer**: the invariant is preserved by every accepted cycle, whatever the boundary
detector's irrelevant outputs, `fifo.full` and `fifo.space_available` are. -/
theorem winv_step {c : Config} {p p' : Phase} {s : WState} {o : BoundaryDetector.Out} {full : Bool} {space : Nat}
    {i : In} (hmps : 1 ≤ c.mps) (h : s.Inv c p) (hv : View p o) (hs : p.step c i = some p') :
    (s.next c p o full space i).Inv c p' := by
  cases p with
  | idle => exact winv_step_idle h hv hs
  | tok t => exact winv_step_tok h hv hs
  | rx t pid sent now buf => exact winv_step_rx h hv hs
  | finByte t pid sent now ok => exact winv_step_finByte hmps h hv hs
  | finStrobe t pid bytes ok responded => exact winv_step_finStrobe hmps h hv hs
  | finWait t pid bytes => exact winv_step_finWait hmps h hv hs

end LunaVerif.StreamOutEndpoint
