import LunaVerif.Model.Device.Control
/-!
Invariant of the event-level device model, shared by the C07 / C08 / C10 theorems.

`Inv s` holds in every state reachable from `init` by ANY event history (legal or not); the theorems that
need `LegalHost` use it on top.  What a request to the handlers, a data packet and a token for the device can do is
listed once (`request_fst`, `request_std`, `onData_elim`, `onToken_elim`); `Inv` here, and `RJ` (Lemmas/C07MpsLegal.lean)
and `Handling` (Props/C10.lean) later, are preserved by cases on it.
-/
namespace LunaVerif.CtrlCyc
open LunaVerif.Device

/-- A clause of `Inv` below and, of the cycle-level stage register, of the cycle-level invariant (Lemmas/C07CycInv.lean),
which is why it is declared in `CtrlCyc`: a data or status stage fits the direction and length of the latched SETUP packet. -/
def StageOk (st : Stage) (su : Setup) : Prop :=
  match st with
  | .setup => True
  | .dataIn => su.isIn = true ∧ su.length ≠ 0
  | .dataOut => su.isIn = false ∧ su.length ≠ 0
  | .statusOut => su.isIn = true ∧ su.length ≠ 0
  | .statusIn => ¬ (su.isIn = true ∧ su.length ≠ 0)

theorem stageOk_after_setup (su : Setup) : StageOk (stageAfterSetup su) su := by
  unfold stageAfterSetup
  by_cases h1 : su.length = 0 <;> cases h2 : su.isIn <;> simp [StageOk, h1, h2]

end LunaVerif.CtrlCyc

namespace LunaVerif.Device
open CtrlCyc (StageOk stageOk_after_setup)

/-- What the control-endpoint stage says about the latched SETUP packet, what the setup decoder says about
the token detector, and what the standard handler's state says about the request. -/
structure Inv (s : DevState) : Prop where
  wait_stage : s.sdWait = true → s.stage = .setup
  wait_pid   : s.sdWait = true → (s.tokPid = PID_SETUP ∨ s.tokPid = 0)
  data_in    : s.stage = .dataIn → (s.setup.isIn = true ∧ s.setup.length ≠ 0)
  data_out   : s.stage = .dataOut → (s.setup.isIn = false ∧ s.setup.length ≠ 0)
  status_out : s.stage = .statusOut → (s.setup.isIn = true ∧ s.setup.length ≠ 0)
  status_in  : s.stage = .statusIn → ¬ (s.setup.isIn = true ∧ s.setup.length ≠ 0)
  handler    : s.setup.type = TYPE_STANDARD → (s.hstate = .idle ∨ s.hstate = dispatch s.setup.request)

theorem inv_init : Inv init := by
  constructor <;> simp [init]

theorem Inv.stageOk {s : DevState} (i : Inv s) : StageOk s.stage s.setup := by
  cases h : s.stage with
  | setup => trivial
  | dataIn => exact i.data_in h
  | dataOut => exact i.data_out h
  | statusOut => exact i.status_out h
  | statusIn => exact i.status_in h

theorem Inv.of_stageOk {s : DevState} (w1 : s.sdWait = true → s.stage = .setup)
    (w2 : s.sdWait = true → (s.tokPid = PID_SETUP ∨ s.tokPid = 0)) (st : StageOk s.stage s.setup)
    (hh : s.setup.type = TYPE_STANDARD → (s.hstate = .idle ∨ s.hstate = dispatch s.setup.request)) : Inv s :=
  ⟨w1, w2, fun h => by rw [h] at st; exact st, fun h => by rw [h] at st; exact st, fun h => by rw [h] at st; exact st,
    fun h => by rw [h] at st; exact st, hh⟩

/-- Two states agree on everything except the standard handler's registers (`hstate` may have returned to IDLE) and
the ghosts. -/
structure SameCtl (s s' : DevState) : Prop where
  address : s'.address = s.address
  config  : s'.config = s.config
  tokPid  : s'.tokPid = s.tokPid
  tokEp   : s'.tokEp = s.tokEp
  sdWait  : s'.sdWait = s.sdWait
  setup   : s'.setup = s.setup
  stage   : s'.stage = s.stage
  hstate  : s'.hstate = s.hstate ∨ s'.hstate = .idle

theorem SameCtl.refl (s : DevState) : SameCtl s s := ⟨rfl, rfl, rfl, rfl, rfl, rfl, rfl, Or.inl rfl⟩

/-- Two states agree on every control register: all but `start_position` and the ghosts. -/
structure SameRegs (s s' : DevState) : Prop extends SameCtl s s' where
  hstate_eq    : s'.hstate = s.hstate
  txPid        : s'.txPid = s.txPid
  expectingAck : s'.expectingAck = s.expectingAck

theorem SameRegs.refl (s : DevState) : SameRegs s s := ⟨SameCtl.refl s, rfl, rfl, rfl⟩

/-! ### What an event can do -/

theorem request_fst (c : DevConfig) (s : DevState) (r : Req) :
    (request c s r).1 = s ∨ (request c s r).1 = toIdle s ∨
    (s.hstate = .getDescriptor ∧ r = .data ∧
      ((request c s r).1 = toIdle { s with expectingAck := false } ∨ (request c s r).1 = { s with expectingAck := true })) := by
  have hs : (request c s r).1 = (if s.setup.type = TYPE_STANDARD then stdRequest c s r else (s, Resp.none)).1 := by
    unfold request; simp only []; split <;> (cases owner c s.setup <;> rfl)
  rw [hs]
  split
  · unfold stdRequest
    cases hd : s.hstate <;> cases r <;> simp only [true_or, or_true, true_and, reduceCtorEq, false_and, or_false]
    split <;> simp
  · exact Or.inl rfl

theorem sameCtl_request (c : DevConfig) (s : DevState) (r : Req) : SameCtl s (request c s r).1 := by
  rcases request_fst c s r with h | h | ⟨-, -, h | h⟩ <;> rw [h]
  · exact SameCtl.refl s
  · exact ⟨rfl, rfl, rfl, rfl, rfl, rfl, rfl, Or.inr rfl⟩
  · exact ⟨rfl, rfl, rfl, rfl, rfl, rfl, rfl, Or.inr rfl⟩
  · exact ⟨rfl, rfl, rfl, rfl, rfl, rfl, rfl, Or.inl rfl⟩

theorem owner_of_std (c : DevConfig) {su : Setup} (hty : su.type = TYPE_STANDARD) :
    owner c su = .std ∨ owner c su = .fallback := by
  unfold owner
  simp only [hty, beq_self_eq_true, Bool.true_and, Bool.not_true, Bool.false_and, Bool.false_eq_true, if_false]
  split <;> simp

theorem request_std (c : DevConfig) (s : DevState) (r : Req) (hty : s.setup.type = TYPE_STANDARD) :
    request c s r = stdRequest c s r ∨ request c s r = ((stdRequest c s r).1, .hs PID_STALL) := by
  unfold request
  rw [if_pos hty]
  rcases owner_of_std c hty with ho | ho <;> rw [ho]
  · exact Or.inl rfl
  · exact Or.inr rfl

theorem onData_elim {P : DevState × Resp → Prop} (c : DevConfig) (s : DevState) (p : List Nat) (ok : Bool)
    (ign : P (s, .none))
    (setup : ok = true → s.sdWait = true → p.length = 8 → s.tokPid = PID_SETUP → P (onSetupData s p))
    (drop : s.sdWait = true → P ({ s with sdWait := false }, .none))
    (status : ok = true → s.sdWait = false → s.stage = .statusOut → s.tokEp = 0 → s.tokPid = PID_OUT →
      P (request c s .status)) : P (onData c s p ok) := by
  unfold onData
  cases ok with
  | false => exact ign
  | true =>
    simp only [Bool.not_true, Bool.false_eq_true, if_false]
    by_cases w : s.sdWait = true
    · rw [if_pos w]
      by_cases h8 : p.length ≤ 8
      · rw [if_pos h8]
        by_cases g : p.length = 8 ∧ s.tokPid = PID_SETUP
        · rw [if_pos g]; exact setup rfl w g.1 g.2
        · rw [if_neg g]; exact drop w
      · rw [if_neg h8]; exact ign
    · rw [if_neg w]
      by_cases g : s.stage = .statusOut ∧ s.tokEp = 0 ∧ s.tokPid = PID_OUT
      · rw [if_pos g]; exact status rfl (by simpa using w) g.1 g.2.1 g.2.2
      · rw [if_neg g]; exact ign

def Req.stage : Req → Stage
  | .data => .dataIn
  | .status => .statusIn

theorem onToken_elim {P : DevState × Resp → Prop} (c : DevConfig) (s : DevState) (pid ep : Nat)
    (none : P (afterToken s pid ep, .none))
    (ping : ep = 0 → pid = PID_PING → P (afterToken s pid ep, .hs PID_ACK))
    (req : ep = 0 → pid = PID_IN → ∀ r : Req, (afterToken s pid ep).stage = r.stage →
      P (request c (afterToken s pid ep) r)) : P (onToken c s pid ep) := by
  unfold onToken
  simp only []
  by_cases hep : ep = 0
  · rw [if_pos hep]
    cases hst : (afterToken s pid ep).stage <;> dsimp only
    case setup => exact none
    case dataIn =>
      split
      · exact req hep ‹_› .data hst
      · exact none
    case dataOut =>
      split
      · exact ping hep ‹_›
      · exact none
    case statusIn =>
      split
      · exact req hep ‹_› .status hst
      · exact none
    case statusOut =>
      split
      · exact ping hep ‹_›
      · exact none
  · rw [if_neg hep]; exact none

/-! ### `Inv` is kept by every reaction -/

theorem inv_of_ctl {s s' : DevState} (i : Inv s) (hp : s'.tokPid = s.tokPid) (hw : s'.sdWait = s.sdWait)
    (hs : s'.setup = s.setup) (hst : s'.stage = s.stage) (hh : s'.hstate = s.hstate ∨ s'.hstate = .idle) : Inv s' := by
  refine .of_stageOk (fun w => ?_) (fun w => ?_) (by rw [hst, hs]; exact i.stageOk) (fun w => ?_)
  · rw [hst]; exact i.wait_stage (hw ▸ w)
  · rw [hp]; exact i.wait_pid (hw ▸ w)
  · rw [hs] at w ⊢
    rcases hh with hh | hh
    · rw [hh]; exact i.handler w
    · exact Or.inl hh

theorem inv_of_sameCtl {s s' : DevState} (h : SameCtl s s') (i : Inv s) : Inv s' :=
  inv_of_ctl i h.tokPid h.sdWait h.setup h.stage h.hstate

theorem inv_request (c : DevConfig) (s : DevState) (r : Req) (i : Inv s) : Inv (request c s r).1 :=
  inv_of_sameCtl (sameCtl_request c s r) i

theorem stageOk_tokenStage (s : DevState) (pid ep : Nat) {su : Setup} (h : StageOk s.stage su) :
    StageOk (tokenStage s pid ep) su := by
  unfold tokenStage
  split
  · trivial
  · split
    · cases hs : s.stage <;> rw [hs] at h <;> dsimp only
      case dataIn => split <;> exact h
      case dataOut =>
        split
        · exact fun g => by rw [h.1] at g; cases g.1
        · exact h
      all_goals exact h
    · exact h

theorem inv_afterToken (s : DevState) (pid ep : Nat) (i : Inv s) : Inv (afterToken s pid ep) := by
  refine .of_stageOk (fun w => ?_) (fun w => ?_) (stageOk_tokenStage s pid ep i.stageOk) i.handler
  · have : pid = PID_SETUP := by simpa [afterToken] using w
    simp [afterToken, tokenStage, this]
  · have : pid = PID_SETUP := by simpa [afterToken] using w
    exact Or.inl (by simp [afterToken, this])

theorem inv_onToken (c : DevConfig) (s : DevState) (pid ep : Nat) (i : Inv s) : Inv (onToken c s pid ep).1 :=
  have h1 := inv_afterToken s pid ep i
  onToken_elim (P := fun r => Inv r.1) c s pid ep h1 (fun _ _ => h1) (fun _ _ r _ => inv_request c _ r h1)

theorem inv_onSetupData (s : DevState) (p : List Nat) (i : Inv s) (w : s.sdWait = true) : Inv (onSetupData s p).1 := by
  have hst : StageOk (if s.stage = .setup ∧ s.tokEp = 0 then stageAfterSetup (parseSetup p) else s.stage) (parseSetup p) := by
    split
    · exact stageOk_after_setup _
    · rw [i.wait_stage w]; trivial
  unfold onSetupData
  dsimp only
  split
  · exact .of_stageOk nofun nofun hst (fun _ => Or.inr rfl)
  · exact .of_stageOk nofun nofun hst (fun h => absurd h ‹_›)

theorem inv_onData (c : DevConfig) (s : DevState) (p : List Nat) (ok : Bool) (i : Inv s) : Inv (onData c s p ok).1 :=
  onData_elim (P := fun r => Inv r.1) c s p ok i (fun _ w _ _ => inv_onSetupData s p i w)
    (fun _ => .of_stageOk nofun nofun i.stageOk i.handler)
    (fun _ _ _ _ _ => inv_request c s _ i)

/-! ### The host handshake -/

/-- `stdAck` may write `address` and `config`; of the other clauses of `SameCtl s (stdAck s)` each holds. -/
theorem stdAck_keeps (s : DevState) :
    (stdAck s).tokPid = s.tokPid ∧ (stdAck s).tokEp = s.tokEp ∧ (stdAck s).sdWait = s.sdWait ∧
    (stdAck s).setup = s.setup ∧ (stdAck s).stage = s.stage ∧
    ((stdAck s).hstate = s.hstate ∨ (stdAck s).hstate = .idle) := by
  unfold stdAck
  split <;> (try split) <;> simp [toIdle]

/-- The condition under which `onHandshake` passes a host handshake to the standard handler (F3 repaired). -/
def AckReachesHandler (s : DevState) (pid : Nat) : Prop :=
  pid = PID_ACK ∧ s.tokEp = 0 ∧ s.tokPid = PID_IN ∧ s.setup.type = TYPE_STANDARD

instance (s : DevState) (pid : Nat) : Decidable (AckReachesHandler s pid) := by
  unfold AckReachesHandler; infer_instance

theorem onHandshake_noreach (s : DevState) (pid : Nat) (g : ¬ AckReachesHandler s pid) :
    onHandshake s pid = s := by
  unfold AckReachesHandler at g
  unfold onHandshake
  rw [if_neg g]

theorem onHandshake_reach_eq (s : DevState) (pid : Nat) (g : AckReachesHandler s pid) :
    ∃ b, onHandshake s pid = { stdAck s with gDataDone := b } := by
  unfold AckReachesHandler at g
  unfold onHandshake
  rw [if_pos g]
  dsimp only
  split
  · exact ⟨true, rfl⟩
  · exact ⟨_, rfl⟩

theorem inv_onHandshake (s : DevState) (pid : Nat) (i : Inv s) : Inv (onHandshake s pid) := by
  by_cases g : AckReachesHandler s pid
  · obtain ⟨b, h⟩ := onHandshake_reach_eq s pid g
    obtain ⟨hp, _, hw, hs, hst, hh⟩ := stdAck_keeps s
    rw [h]; exact inv_of_ctl i hp hw hs hst hh
  · rw [onHandshake_noreach s pid g]; exact i

/-! ### `Inv` along `core`, `step`, `final` -/

theorem inv_core (c : DevConfig) (s : DevState) (e : HostEvent) (i : Inv s) : Inv (core c s e).1 := by
  unfold core
  split
  · split
    · exact inv_onToken c s _ _ i
    · exact .of_stageOk i.wait_stage (fun _ => Or.inr rfl) i.stageOk i.handler
  · exact inv_onData c s _ _ i
  · exact inv_onHandshake s _ i
  · exact inv_of_ctl i rfl rfl rfl rfl (Or.inl rfl)
  · exact i

theorem inv_step (c : DevConfig) (s : DevState) (x : Stim) (i : Inv s) : Inv (step c s x).1 :=
  inv_of_ctl (inv_core c s x.ev i) rfl rfl rfl rfl (Or.inl rfl)

theorem inv_final (c : DevConfig) (s : DevState) (h : List Stim) (i : Inv s) : Inv (final c s h) := by
  induction h generalizing s with
  | nil => exact i
  | cons x xs ih => exact ih _ (inv_step c s x i)

theorem inv_reachable (c : DevConfig) (h : List Stim) : Inv (final c init h) :=
  inv_final c init h inv_init

end LunaVerif.Device
