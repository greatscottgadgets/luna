import LunaVerif.Props.C40
/-!
# C40 — the header phase: what the CRC units hold when CHECK_HEADER runs

`Props/C40.lean` starts at the data packet payload (`dpp_start_requires_header_crcs`: a payload is only
started when `crc16Of s.crc16In = dw3[0:16]` and `expCrc5 = dw3[27:32]`).  Here is the invariant over the
header states that gives those two comparisons their meaning: in every state reachable from reset, by
any word history whatsoever (valid or not, framed or not),

* in RECEIVE_DWn the CRC-16 unit has absorbed exactly the DWORDs latched so far, in CHECK_HEADER exactly
  DWORD 0, 1, 2 of the latched header, and `expected_crc5` is the CRC-5 of DWORD 3's link control word;
* the CRC-32 unit is empty from the header start until the first payload word;
* inside a payload the published header is a DATA header whose CRC-16 and CRC-5 are valid.

Consequences: `good`/`bad`/payload bytes only ever appear under a published header with valid CRCs
(`verdict_implies_header_crcs_valid`), and the `hfresh` hypothesis of `good_iff_crcs_valid` holds at
every payload start (`dpp_start_header_valid`).
-/
namespace LunaVerif.DataPacketReceiver

/-- DATA header with valid CRC-16 (over DWORD 0..2) and CRC-5 (over DWORD 3 bits 26:16). -/
def HdrOk (h : Hdr) : Prop :=
  h.dw0 % 32 = TYPE_DATA ∧ crc16Of [h.dw0, h.dw1, h.dw2] = h.dw3 % 2 ^ 16 ∧
  crc5Of (h.dw3 / 2 ^ 16 % 2 ^ 11) = h.dw3 / 2 ^ 27

instance (h : Hdr) : Decidable (HdrOk h) := by unfold HdrOk; infer_instance

def HInv (s : State) : Prop :=
  match s.fsm with
  | .waitHp => True
  | .dw0 => s.crc16In = [] ∧ s.crc32In = []
  | .dw1 => s.crc16In = [s.hdr.dw0] ∧ s.crc32In = [] ∧ s.hdr.dw0 % 32 = TYPE_DATA
  | .dw2 => s.crc16In = [s.hdr.dw0, s.hdr.dw1] ∧ s.crc32In = [] ∧ s.hdr.dw0 % 32 = TYPE_DATA
  | .dw3 => s.crc16In = [s.hdr.dw0, s.hdr.dw1, s.hdr.dw2] ∧ s.crc32In = [] ∧ s.hdr.dw0 % 32 = TYPE_DATA
  | .checkHeader => s.crc16In = [s.hdr.dw0, s.hdr.dw1, s.hdr.dw2] ∧ s.crc32In = [] ∧
      s.hdr.dw0 % 32 = TYPE_DATA ∧ s.expCrc5 = crc5Of (s.hdr.dw3 / 2 ^ 16 % 2 ^ 11)
  | .payload => HdrOk s.outHdr ∧ (s.first = true → s.crc32In = [])
  | .checkCrc => HdrOk s.outHdr ∧ (s.first = true → s.crc32In = [])

theorem hinv_init : HInv init := by simp [HInv, init]

theorem hinv_step (s : State) (i : In) (h : HInv s) : HInv (step s i).1 := by
  obtain ⟨v, d, c⟩ := i
  cases v
  · rcases step_invalid s d c with e | e
    · rwa [e]
    · simp only [HInv, e]
  · obtain ⟨f, hd, e, r, pw, pv, c16, c32, oh, nh, fi⟩ := s
    cases f <;> simp only [HInv] at h <;> simp only [step]
    all_goals (repeat' split) <;> simp_all [HInv, HdrOk]

theorem hinv_reachable (h : List In) : HInv (final init h) := by
  suffices ∀ s, HInv s → HInv (final s h) from this init hinv_init
  induction h with
  | nil => intro s hs; exact hs
  | cons i is ih => intro s hs; exact ih _ (hinv_step s i hs)

theorem check_header_units (h : List In) (hs : (final init h).fsm = .checkHeader) :
    let s := final init h
    s.crc16In = [s.hdr.dw0, s.hdr.dw1, s.hdr.dw2] ∧ s.expCrc5 = crc5Of (s.hdr.dw3 / 2 ^ 16 % 2 ^ 11) ∧
    s.crc32In = [] ∧ s.hdr.dw0 % 32 = TYPE_DATA := by
  have := hinv_reachable h
  simp only [HInv, hs] at this
  exact ⟨this.1, this.2.2.2, this.2.1, this.2.2.1⟩

/-- A payload is started (reachable state) only for a DATA header whose CRC-16 over its own DWORD 0..2
and CRC-5 over its own link control word are valid; that header is published, the byte counter is
loaded with its length field, and the CRC-32 unit is empty (`hfresh` of `good_iff_crcs_valid`). -/
theorem dpp_start_header_valid (h : List In) (i : In) (hst : startsDpp (final init h) i = true) :
    let s := final init h
    HdrOk s.hdr ∧ (step s i).1.outHdr = s.hdr ∧ (step s i).1.remaining = s.hdr.dw1 / 2 ^ 16 % 2 ^ 11 ∧
    (step s i).1.crc32In = [] := by
  obtain ⟨a1, a2, a3, _, _, _, a7, a8, a9, _⟩ := dpp_start_requires_header_crcs (final init h) i hst
  obtain ⟨b1, b2, b3, b4⟩ := check_header_units h a1
  refine ⟨⟨b4, ?_, ?_⟩, a7, a8, ?_⟩
  · rw [← b1]; exact a3
  · rw [← b2]; exact a2
  · rw [a9]; exact b3

theorem activity_in_dpp (s : State) (i : In)
    (h : (step s i).2.good = true ∨ (step s i).2.bad = true ∨ (step s i).2.srcValid ≠ 0) :
    inDpp s = true ∧ (step s i).2.hdr = s.outHdr := by
  cases hin : inDpp s
  · rw [(outside_dpp s i hin).1] at h; simp [quiet] at h
  · exact ⟨rfl, (inside_dpp s i hin).1⟩

/-- **C40 (b), header part.**  In every run from reset, whatever the word history: whenever
`packet_good` or `packet_bad` is raised, or payload bytes are delivered, the published header
(`header`, in the same cycle) is a DATA header with valid CRC-16 and CRC-5.  Together with
`good_iff_crcs_valid` (good ⇔ the CRC-32 field is right): `good` ⇒ all three CRCs are valid; and a
header with an invalid CRC never gets a verdict or a payload byte. -/
theorem verdict_implies_header_crcs_valid (h : List In) :
    ∀ o ∈ run init h, (o.good = true ∨ o.bad = true ∨ o.srcValid ≠ 0) → HdrOk o.hdr := by
  suffices ∀ s, HInv s → ∀ o ∈ run s h, (o.good = true ∨ o.bad = true ∨ o.srcValid ≠ 0) → HdrOk o.hdr from
    this init hinv_init
  induction h with
  | nil => intro s _ o ho; simp [run] at ho
  | cons i is ih =>
    intro s hs o ho hact
    simp only [run, List.mem_cons] at ho
    rcases ho with ho | ho
    · subst ho
      obtain ⟨hin, hh⟩ := activity_in_dpp s i hact
      rw [hh]
      simp only [inDpp, Bool.or_eq_true, beq_iff_eq] at hin
      rcases hin with hf | hf <;> simp only [HInv, hf] at hs <;> exact hs.1
    · exact ih _ (hinv_step s i hs) o ho hact

/-- **C40 (b) from reset.**  Whatever happened before (any word history `pre` from reset): if the next
word starts a data packet payload, then the header just received is a DATA header with valid CRC-16 and
CRC-5 (over its own words), it is the published header, and — for a non-zero length field `r` — any
continuation whose valid words are the ⌈r/4⌉ payload words (no control symbol in any lane, `payloadIns`) and one
further valid word has the first verdict of `good_iff_crcs_valid`: after exactly those `r` bytes, good iff the
value `data_to_check` assembles from that word and the registers `previous_valid` / `previous_word` as the payload
words left them is the CRC-32 of the `r` bytes.  No hypothesis on the CRC units is left: their contents are the
invariant `hinv_reachable`. -/
theorem good_iff_crcs_valid_from_reset (pre : List In) (i : In) (hst : startsDpp (final init pre) i = true)
    (ws : List Nat) (crcw cc : Nat) (hw : ∀ w ∈ ws, w < 2 ^ 32)
    (hr : 1 ≤ (final init pre).hdr.dw1 / 2 ^ 16 % 2 ^ 11)
    (hn : ws.length = ((final init pre).hdr.dw1 / 2 ^ 16 % 2 ^ 11 + 3) / 4) (h : List In)
    (hh : validOnly h = payloadIns ws ++ [⟨true, crcw, cc⟩]) :
    let s0 := final init pre
    let s := (step s0 i).1
    let payload := (ws.flatMap wordBytes).take (s0.hdr.dw1 / 2 ^ 16 % 2 ^ 11)
    let st := final s (payloadIns ws)
    HdrOk s0.hdr ∧ s.outHdr = s0.hdr ∧
    firstVerdict s h [] =
      some (dataToCheck st.prevValid st.prevWord (crcw % 2 ^ 32) == crc32Of payload, payload) := by
  obtain ⟨a1, a2, a3, a4⟩ := dpp_start_header_valid pre i hst
  have hf := (dpp_start_requires_header_crcs (final init pre) i hst).2.2.2.2.2.2.2.2.2.1
  have hne : ¬ ((final init pre).hdr.dw1 / 2 ^ 16 % 2 ^ 11 = 0) := by omega
  rw [if_neg hne] at hf
  have := good_iff_crcs_valid ws crcw cc (step (final init pre) i).1 hf a4 hw (by rw [a3]; exact hr)
    (by rw [a3]; exact hn) h hh
  rw [a3] at this
  exact ⟨a1, a2, this⟩

/-- **C40 (b) from reset, zero-length payload** (F17 repaired): after any history from reset, a payload
start with length field 0 is followed — whatever invalid words come in between — by exactly one
verdict on the next valid word: good iff that word is the CRC-32 of the empty payload; no byte is
delivered. -/
theorem good_iff_crc_valid_zero_length_from_reset (pre : List In) (i : In)
    (hst : startsDpp (final init pre) i = true) (hz : (final init pre).hdr.dw1 / 2 ^ 16 % 2 ^ 11 = 0)
    (crcw cc : Nat) (h : List In) (hh : validOnly h = [⟨true, crcw, cc⟩]) :
    HdrOk (final init pre).hdr ∧
    firstVerdict (step (final init pre) i).1 h [] = some (crcw % 2 ^ 32 == crc32Of [], []) := by
  obtain ⟨a1, _, _, a4⟩ := dpp_start_header_valid pre i hst
  obtain ⟨_, _, _, _, _, _, _, _, _, hf, hpv⟩ := dpp_start_requires_header_crcs (final init pre) i hst
  rw [if_pos hz] at hf
  have hpv := hpv hz
  refine ⟨a1, ?_⟩
  have hin : inDpp (step (final init pre) i).1 = true := by simp [inDpp, hf]
  rw [independent_of_invalid_words _ hin h [], hh]
  generalize (step (final init pre) i).1 = s at hf hpv a4
  cases hc : (crcw % 2 ^ 32 == crc32Of []) <;>
    simp [firstVerdict, step, hf, hpv, a4, quiet, laneBytes, dataToCheck, hc, wordBytes]

-- non-vacuity: a DATA header (type 8, length 0, all other fields 0) with its CRCs is `HdrOk`; one with a
-- flipped CRC-16 bit is not
example : HdrOk ⟨8, 0, 0, crc16Of [8, 0, 0] + 2 ^ 27 * crc5Of 0⟩ := by decide +kernel
example : ¬ HdrOk ⟨8, 0, 0, (crc16Of [8, 0, 0] + 2 ^ 27 * crc5Of 0) ^^^ 1⟩ := by decide +kernel

end LunaVerif.DataPacketReceiver
