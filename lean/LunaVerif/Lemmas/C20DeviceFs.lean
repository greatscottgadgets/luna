import LunaVerif.Lemmas.C20DeviceDet
import LunaVerif.Model.Usb2.ResetSequencer
/-!
# C20 — the closed device of a full-speed-only build: "reset sequencer silent" is a theorem too

`USBDevice` on a plain UTMI bus selects `always_fs`, which ties `reset_sequencer.full_speed_only` to 1 (and
`low_speed_only` to 0).  For the C19 model of `USBResetSequencer` and EVERY input history with these two inputs constant
(`line_state`, VBUS, `bus_busy`, `disconnect` arbitrary): the chirp states are never entered, so `tx.valid` is low in every
cycle, and `current_speed` is FULL in every cycle (`ResetSeq.fs_only_silent`).  The first half discharges, for such
devices, the assumption "the reset sequencer does not transmit" of the C20 cycle-level theorems.  The second half
supports their other assumption, "the speed is a constant of the history", but is not composed: the packet layer's
`speed` stays a constant of the configuration.

`decHolds3` (Lemmas/C20DeviceDet.lean) assumes `reset_sequencer.tx.valid = 0` in every cycle.  When the `rsValid`
column of the history is what that model drives for ANY history of `line_state` / VBUS / `bus_busy` / `disconnect` of a
full-speed-only sequencer, the three closed-device theorems hold under `hostHolds` + `decHolds4`, where `decHolds4` is only
the legal-host clause on `start_position` and `rx_data < 256`.
-/
namespace LunaVerif.ResetSeq

def outs (c : Config) : State → List In → List Out
  | _, [] => []
  | s, i :: is => (step c s i).2 :: outs c (step c s i).1 is

/-- The states a full-speed-only sequencer can be in. -/
structure Q (s : State) : Prop where
  fsm : s.fsm = .INITIALIZE ∨ s.fsm = .LS_FS_NON_RESET ∨ s.fsm = .IS_LOW_OR_FULL_SPEED ∨ s.fsm = .SUSPENDED ∨
        s.fsm = .DISCONNECT
  was : s.wasHs = false
  sp  : s.speed = .FULL

theorem q_step (c : Config) (s : State) (i : In) (h : Q s) (hf : i.fullOnly = true) (hl : i.lowOnly = false) :
    Q (step c s i).1 ∧ (step c s i).2.txValid = false ∧ (step c s i).2.speed = .FULL := by
  obtain ⟨hfsm, hw, hsp⟩ := h
  -- START_HS_DETECTION is entered only when `restricted i` is false, IS_HIGH_SPEED only with `was_hs_pre_suspend` set, and
  -- `current_speed` is written with LOW only under `low_speed_only`
  rcases hfsm with h | h | h | h | h <;>
    refine ⟨⟨?_, ?_, ?_⟩, ?_, ?_⟩ <;>
    simp [step, h, stepInitialize, stepLsFs, stepIsLsFs, stepSuspended, stepDisconnect, mkOut, restricted, hf, hl, hsp,
      hw] <;>
    (repeat' split) <;> simp_all

/-- **A full-speed-only reset sequencer is silent and keeps FULL speed**, for every history of the other inputs. -/
theorem fs_only_silent (c : Config) (is : List In) (h : ∀ i ∈ is, i.fullOnly = true ∧ i.lowOnly = false) :
    ∀ o ∈ outs c init is, o.txValid = false ∧ o.speed = .FULL := by
  suffices H : ∀ (s : State), Q s → ∀ o ∈ outs c s is, o.txValid = false ∧ o.speed = .FULL from H init ⟨.inl rfl, rfl, rfl⟩
  induction is with
  | nil => intro s _ o ho; simp [outs] at ho
  | cons i is ih =>
    intro s hq o ho
    obtain ⟨hf, hl⟩ := h i (List.mem_cons_self ..)
    obtain ⟨hq', h1, h2⟩ := q_step c s i hq hf hl
    simp only [outs, List.mem_cons] at ho
    rcases ho with rfl | ho
    · exact ⟨h1, h2⟩
    · exact ih (fun j hj => h j (List.mem_cons_of_mem _ hj)) _ hq' o ho

/-- Non-vacuity: a bus reset (SE0 for longer than 5 us at the small constants) of a full-speed-only sequencer: the
`bus_reset` strobe is given, and nothing is transmitted. -/
example :
    let c : Config := ⟨2, 4, 6, 8, 10, 12, 64⟩
    let idle : In := ⟨false, true, false, true, .J, false⟩
    let se0 : In := { idle with line := .SE0 }
    let os := outs c init ([idle, idle] ++ List.replicate 8 se0 ++ [idle, idle])
    os.any (·.busReset) = true ∧ os.all (fun o => !o.txValid) = true := by decide

end LunaVerif.ResetSeq

namespace LunaVerif.DevDet
open LunaVerif LunaVerif.DevCyc LunaVerif.DevCyc.Abs LunaVerif.C20Ctr LunaVerif.DevEp LunaVerif.CtrlCyc LunaVerif.DevCtl
open LunaVerif.DevDec (xOf dOf)

/-- `decOk3` without the reset-sequencer clause. -/
def decOk4 (c : DevDec.Config) (S : State) (x : Ext) : Bool :=
  (S.d.w.ctl.blk.fsm != .start || decide (S.d.w.ctl.cs.h.startPos < 2 ^ c.dc.blk.img.posW)) && decide (x.rx.data < 256)

def decHolds4 (c : DevDec.Config) (p : Params) : State → Ghost → Phs → List (Ext × Nat) → Bool
  | _, _, _, [] => true
  | S, g, q, (x, ac) :: zs =>
    let x' := extOf c.dc S.d.w (xOf S.d (xIn S x)) (dOf c S.d (xIn S x) ac)
    decOk4 c S x &&
      decHolds4 c p (step c S x ac)
        (ghostNext p g S.d.w.ep.dev (fullIn c.dc.ep S.d.w.ep x') (DevEp.step c.dc.ep S.d.w.ep x').2)
        (nextPhs p.L c.dc.ep S.d.w.ep x' q) zs

theorem decHolds3_of_silent (c : DevDec.Config) (p : Params) (zs : List (Ext × Nat)) (S : State) (g : Ghost)
    (q : Phs) (hr : ∀ z ∈ zs, z.1.rsValid = false) (h4 : decHolds4 c p S g q zs = true) :
    decHolds3 c p S g q zs = true := by
  induction zs generalizing S g q with
  | nil => rfl
  | cons z zs ih =>
    simp only [decHolds4, decOk4, Bool.and_eq_true] at h4
    simp only [decHolds3, decOk3, Bool.and_eq_true, hr z (List.mem_cons_self ..), Bool.not_false, and_true]
    exact ⟨h4.1, ih _ _ _ (fun z hz => hr z (List.mem_cons_of_mem _ hz)) h4.2⟩

/-- The `reset_sequencer.tx.valid` column of the history is what the reset sequencer model drives on `ris`. -/
def rsDriven (rc : ResetSeq.Config) (ris : List ResetSeq.In) (zs : List (Ext × Nat)) : Prop :=
  zs.map (fun z => z.1.rsValid) = (ResetSeq.outs rc ResetSeq.init ris).map (·.txValid)

theorem silent_of_driven (rc : ResetSeq.Config) (ris : List ResetSeq.In) (zs : List (Ext × Nat))
    (hfo : ∀ i ∈ ris, i.fullOnly = true ∧ i.lowOnly = false) (hd : rsDriven rc ris zs) :
    ∀ z ∈ zs, z.1.rsValid = false := by
  intro z hz
  have : z.1.rsValid ∈ zs.map (fun z => z.1.rsValid) := List.mem_map.mpr ⟨z, hz, rfl⟩
  rw [hd] at this
  obtain ⟨o, ho, he⟩ := List.mem_map.mp this
  rw [← he]
  exact (ResetSeq.fs_only_silent rc ris hfo o ho).1

/-- Full-speed-only device: never transmits while a received packet is in progress; assumed are only the host's
half-duplex discipline (`hostHolds`), the legal-host clause on `start_position` and the byte width (`decHolds4`). -/
theorem fs_closed_tx_never_during_rx (c : DevDec.Config) (p : Params)
    (hs : strobes c.dc.ep.dev.tok.timer c.dc.ep.dev.speed = true)
    (hT : delayOf c.dc.ep.dev.tok.timer c.dc.ep.dev.speed + p.L + 2 < p.T) (hne : c.dc.ep.epIn ≠ c.dc.ep.sig.epNum)
    (he : epsOk c.dc) (hL : 3 ≤ p.L) (hfs : c.hs = false) (zs : List (Ext × Nat))
    (rc : ResetSeq.Config) (ris : List ResetSeq.In) (hfo : ∀ i ∈ ris, i.fullOnly = true ∧ i.lowOnly = false)
    (hd : rsDriven rc ris zs)
    (hh : hostHolds c.dc.ep.dev p DevCyc.init ghostInit (devIns c.dc.ep (DevEp.init c.dc.ep) (extsT c zs)) = true)
    (h4 : decHolds4 c p (init c) ghostInit phs0 zs = true) :
    ∀ o ∈ DevEp.run c.dc.ep (DevEp.init c.dc.ep) (extsT c zs), o.txValid = true → o.rxActive = false :=
  det_closed_tx_never_during_rx c p hs hT hne he hL hfs zs hh
    (decHolds3_of_silent c p zs _ _ _ (silent_of_driven rc ris zs hfo hd) h4)

theorem fs_closed_transmitters_exclusive (c : DevDec.Config) (p : Params)
    (hs : strobes c.dc.ep.dev.tok.timer c.dc.ep.dev.speed = true)
    (hT : delayOf c.dc.ep.dev.tok.timer c.dc.ep.dev.speed + p.L + 2 < p.T) (hne : c.dc.ep.epIn ≠ c.dc.ep.sig.epNum)
    (he : epsOk c.dc) (hL : 3 ≤ p.L) (hfs : c.hs = false) (zs : List (Ext × Nat))
    (rc : ResetSeq.Config) (ris : List ResetSeq.In) (hfo : ∀ i ∈ ris, i.fullOnly = true ∧ i.lowOnly = false)
    (hd : rsDriven rc ris zs)
    (hh : hostHolds c.dc.ep.dev p DevCyc.init ghostInit (devIns c.dc.ep (DevEp.init c.dc.ep) (extsT c zs)) = true)
    (h4 : decHolds4 c p (init c) ghostInit phs0 zs = true) :
    ∀ o ∈ DevEp.run c.dc.ep (DevEp.init c.dc.ep) (extsT c zs), ¬ (o.hsValid = true ∧ o.genValid = true) :=
  det_closed_transmitters_exclusive c p hs hT hne he hL hfs zs hh
    (decHolds3_of_silent c p zs _ _ _ (silent_of_driven rc ris zs hfo hd) h4)

theorem fs_closed_tx_only_in_response_window (c : DevDec.Config) (p : Params)
    (hs : strobes c.dc.ep.dev.tok.timer c.dc.ep.dev.speed = true)
    (hT : delayOf c.dc.ep.dev.tok.timer c.dc.ep.dev.speed + p.L + 2 < p.T) (hne : c.dc.ep.epIn ≠ c.dc.ep.sig.epNum)
    (he : epsOk c.dc) (hL : 3 ≤ p.L) (hfs : c.hs = false) (zs : List (Ext × Nat))
    (rc : ResetSeq.Config) (ris : List ResetSeq.In) (hfo : ∀ i ∈ ris, i.fullOnly = true ∧ i.lowOnly = false)
    (hd : rsDriven rc ris zs)
    (hh : hostHolds c.dc.ep.dev p DevCyc.init ghostInit (devIns c.dc.ep (DevEp.init c.dc.ep) (extsT c zs)) = true)
    (h4 : decHolds4 c p (init c) ghostInit phs0 zs = true) :
    ∀ go ∈ traceG c.dc.ep.dev p DevCyc.init ghostInit (devIns c.dc.ep (DevEp.init c.dc.ep) (extsT c zs)),
      go.2.txValid = true → go.1.win ≠ .closed :=
  det_closed_tx_only_in_response_window c p hs hT hne he hL hfs zs hh
    (decHolds3_of_silent c p zs _ _ _ (silent_of_driven rc ris zs hfo hd) h4)

end LunaVerif.DevDet
