import LunaVerif.Props.C57Streams
import LunaVerif.Lemmas.C12InRefine
import LunaVerif.Lemmas.C12OutRefine
/-!
# C57 — the event-level endpoints of the whole-device model (`Device.Full`) are those of C12's slice machines

C57's theorems (`rx_in_order`, `tx_in_order`) are proved on the whole-device model `Full.step`
(Model/Device/Full.lean: both packet buffers of `USBInTransferManager`, FIFO entries as triples, overflow -> NAK);
C12's `cycle_refines_event` lemmas (Lemmas/C12InRefine.lean, C12OutRefine.lean) are proved for the endpoint model of
Model/Device/Endpoints.lean (`EpDev.epStep`; write / read buffer, FIFO entries as 10-bit words, no overflow path).
This file relates the two, event by event, for the endpoint kinds `USBSerialDevice` uses, and then lifts C12's lemmas to
histories of the whole device (`in_cycles_refine`, `out_cycles_refine`, last section):

* `in_bridge`  — stream IN endpoint: `Full.epStep` on `.sIn a` under the context `ctxOf d ev` does what
  `C12In.inEv` does under `EpDev.sharedOf c d ev` on any related state (`RIn`: same FSM state, data PID, write
  buffer + `stream_ended`, read buffer; `stream_ended` of the read buffer only where the gateware reads it — for a
  full packet —; the read buffer is empty while the FSM waits for data), same answer, same number of producer bytes
  accepted;
* `out_bridge` — stream OUT endpoint: the same for `C12Out.outEv` (`ROut`: toggle, `transfer_active`, FIFO entries
  decoded) for every event except a data packet for the endpoint that does not fit into the FIFO (`OutFits`; with a valid
  CRC and the expected toggle the whole-device model NAKs it, the C12 model excludes it by `legalEvent`) and under
  "payload bytes are bytes".

Both hold for every control state `d`.  Of the device configuration they use only that a STANDARD request is owned by
the standard handler (`StdOwned`: no extra handler claims STANDARD requests; `ACMRequestHandlers` claims CLASS / 0x20),
which makes the two models' halt-clear strobes the same; of the endpoint, a max packet size > 0, and for the IN
endpoint a number ≠ 0 (a host ACK that carries the halt-clear strobe belongs to endpoint 0, so it is never also the
ACK of this endpoint's packet: `rin_ack`).
-/

namespace LunaVerif.C57Cyc
open LunaVerif LunaVerif.Device

/-! ### The shared front end -/

/-- No additional request handler claims STANDARD requests (so the multiplexer hands them to the standard handler). -/
def StdOwned (c : DevConfig) : Prop := ∀ h ∈ c.extra, h.rtype ≠ TYPE_STANDARD

theorem owner_std (c : DevConfig) (hc : StdOwned c) (su : Setup) (h : su.type = TYPE_STANDARD) : owner c su = .std := by
  have h0 : extraClaims c su = 0 := by
    simp only [extraClaims, List.length_eq_zero_iff, List.filter_eq_nil_iff, Bool.and_eq_true, beq_iff_eq, not_and]
    intro x hx hty
    exact absurd (hty.symm.trans h) (hc x hx)
  simp [owner, h, h0]

theorem halt_eq (c : DevConfig) (hc : StdOwned c) (d : DevState) (ev : HostEvent) :
    (Full.ctxOf d ev).clearHalt = EpDev.haltStrobe c d ev := by
  cases ev with
  | handshake pid =>
    simp only [Full.ctxOf, EpDev.haltStrobe]
    by_cases h : (Full.ackReachesStd d pid && d.hstate == .clearFeature) = true
    · have h' := h
      simp only [Full.ackReachesStd, Bool.and_eq_true, beq_iff_eq] at h'
      rw [if_pos h, if_pos ⟨h'.1.1.1.1, h'.1.1.1.2, h'.1.1.2, h'.1.2, h'.2, owner_std c hc d.setup h'.1.2⟩]
      rfl
    · rw [if_neg h, if_neg (fun x => h (by simp [Full.ackReachesStd, x.1, x.2.1, x.2.2.1, x.2.2.2.1, x.2.2.2.2.1]))]
  | _ => rfl

theorem haltFor_eq (c : DevConfig) (hc : StdOwned c) (d : DevState) (ev : HostEvent) (ec : EpDev.EpCfg) (dir : Bool) :
    Full.haltFor (Full.ctxOf d ev) dir ec.num = EpDev.haltHits ec dir (EpDev.sharedOf c d ev) := by
  simp only [Full.haltFor, EpDev.haltHits, EpDev.sharedOf, halt_eq c hc d ev]
  cases EpDev.haltStrobe c d ev with
  | none => rfl
  | some x => cases x; rfl

theorem shared_token_mine (c : DevConfig) (d : DevState) (pid ep : Nat) :
    EpDev.sharedOf c d (.token pid d.address ep) = { tokPid := pid, tokEp := ep, newTok := true, halt := none } := by
  have h := onToken_ctl c d pid ep
  simp only [EpDev.sharedOf, core, if_true, EpDev.acceptedToken, beq_self_eq_true, EpDev.haltStrobe, h.tokPid, h.tokEp,
    afterToken]

theorem shared_token_other (c : DevConfig) (d : DevState) (pid addr ep : Nat) (h : addr ≠ d.address) :
    (EpDev.sharedOf c d (.token pid addr ep)).newTok = false ∧ (EpDev.sharedOf c d (.token pid addr ep)).halt = none := by
  simp [EpDev.sharedOf, EpDev.acceptedToken, EpDev.haltStrobe, h]

theorem shared_hs (c : DevConfig) (d : DevState) (pid : Nat) :
    (EpDev.sharedOf c d (.handshake pid)).tokPid = d.tokPid ∧ (EpDev.sharedOf c d (.handshake pid)).tokEp = d.tokEp ∧
    (EpDev.sharedOf c d (.handshake pid)).newTok = false := by
  have h := onHandshake_tok d pid
  simp [EpDev.sharedOf, core, h.1, h.2, EpDev.acceptedToken]

theorem shared_data (c : DevConfig) (d : DevState) (pid : Nat) (p : List Nat) (ok : Bool) :
    EpDev.sharedOf c d (.data pid p ok) = { tokPid := d.tokPid, tokEp := d.tokEp, newTok := false, halt := none } := by
  have h := onData_tok c d p ok
  simp [EpDev.sharedOf, core, h.1, h.2, EpDev.acceptedToken, EpDev.haltStrobe]

theorem haltHits_ack (c : DevConfig) (hc : StdOwned c) (d : DevState) (pid : Nat) (ec : EpDev.EpCfg) (dir : Bool)
    (h : EpDev.haltHits ec dir (EpDev.sharedOf c d (.handshake pid)) = true) :
    pid = PID_ACK ∧ d.tokEp = 0 ∧ d.tokPid = PID_IN :=
  C57.haltFor_ack d pid dir ec.num ((haltFor_eq c hc d _ ec dir).trans h)

/-! ### Stream IN endpoint -/

def fsmIn : Full.InFsm → EpDev.InFsm
  | .waitData => .waitData
  | .waitSend => .waitSend
  | .waitAck => .waitAck

/-- The whole-device model's `USBInTransferManager` state `a` (two buffers + `buffer_toggle`) and the C12 model's `e`
(write / read buffer). -/
structure RIn (mps : Nat) (a : Full.InEp) (e : EpDev.InState) : Prop where
  fsm   : e.fsm = fsmIn a.fsm
  pid   : e.pid = a.pid
  wbuf  : e.wbuf = a.wbuf
  wend  : e.wended = a.wended
  rbuf  : e.rbuf = a.rbuf
  rend  : a.rbuf.length = mps → e.rended = a.rended
  empty : a.fsm = .waitData → a.rbuf = []

theorem rin_init (mps : Nat) : RIn mps {} {} := ⟨rfl, rfl, rfl, rfl, rfl, fun _ => rfl, fun _ => rfl⟩

theorem RIn.ready {mps : Nat} {a : Full.InEp} {e : EpDev.InState} (hr : RIn mps a e) :
    a.ready mps = true ↔ ¬(e.wbuf.length = mps ∨ e.wended = true) := by
  rw [hr.wbuf, hr.wend]
  simp [Full.InEp.ready]

/-- an empty read buffer is not a full packet, so its `stream_ended` flag is not read -/
theorem rbuf_nil_not_full {mps : Nat} (hm : 0 < mps) (x : Full.InEp) (hx : x.rbuf = []) (hl : x.rbuf.length = mps) :
    False := by
  rw [hx] at hl
  exact absurd hl.symm (Nat.ne_of_gt hm)

def inCfg (fc : Full.EpCfg) : EpDev.EpCfg := ⟨.streamIn, fc.num, fc.mps, 0⟩
def outCfg (fc : Full.EpCfg) : EpDev.EpCfg := ⟨.streamOut, fc.num, fc.mps, fc.depth⟩

theorem fsmIn_eq (x : Full.InFsm) :
    (fsmIn x = .waitData ↔ x = .waitData) ∧ (fsmIn x = .waitSend ↔ x = .waitSend) ∧ (fsmIn x = .waitAck ↔ x = .waitAck) := by
  cases x <;> simp [fsmIn]

structure Bufs (x : Full.InEp) (w : List Nat) (we : Bool) (r : List Nat) (re : Bool) : Prop where
  wbuf : x.wbuf = w
  wend : x.wended = we
  rbuf : x.rbuf = r
  rend : x.rended = re

structure BufsOf (x a : Full.InEp) (w : List Nat) (we : Bool) (r : List Nat) (re : Bool) : Prop
    extends Bufs x w we r re where
  fsm    : x.fsm = a.fsm
  pid    : x.pid = a.pid
  toggle : x.toggle = a.toggle

theorem setW_acc (a : Full.InEp) (b : List Nat) (en : Bool) : BufsOf (a.setW b en) a b en a.rbuf a.rended := by
  refine ⟨⟨?_, ?_, ?_, ?_⟩, ?_, ?_, ?_⟩ <;> cases h : a.toggle <;>
    simp [Full.InEp.setW, Full.InEp.wbuf, Full.InEp.wended, Full.InEp.rbuf, Full.InEp.rended, h]

theorem setR_acc (a : Full.InEp) (b : List Nat) (en : Bool) : BufsOf (a.setR b en) a a.wbuf a.wended b en := by
  refine ⟨⟨?_, ?_, ?_, ?_⟩, ?_, ?_, ?_⟩ <;> cases h : a.toggle <;>
    simp [Full.InEp.setR, Full.InEp.wbuf, Full.InEp.wended, Full.InEp.rbuf, Full.InEp.rended, h]

theorem swap_acc (a : Full.InEp) (f : Full.InFsm) (p : Bool) :
    Bufs { a with fsm := f, toggle := !a.toggle, pid := p } a.rbuf a.rended a.wbuf a.wended := by
  refine ⟨?_, ?_, ?_, ?_⟩ <;> cases h : a.toggle <;>
    simp [Full.InEp.wbuf, Full.InEp.wended, Full.InEp.rbuf, Full.InEp.rended, h]

theorem rin_byte (mps : Nat) (a : Full.InEp) (e : EpDev.InState) (b : Nat) (last : Bool) (hr : RIn mps a e) :
    (Full.inByte mps a b last).isSome = (EpDev.inFeed mps e b last).2 ∧
    ∀ a', Full.inByte mps a b last = some a' → RIn mps a' (EpDev.inFeed mps e b last).1 := by
  have hrdy := hr.ready
  by_cases he : e.wbuf.length = mps ∨ e.wended = true
  · have hr' : a.ready mps = false := by simpa using mt hrdy.1 (not_not_intro he)
    simp [Full.inByte, hr', EpDev.inFeed, he]
  · have hr' := hrdy.2 he
    simp only [Full.inByte, hr', if_true, EpDev.inFeed, if_neg he]
    have hfs : (e.fsm = .waitData ∧ (last = true ∨ e.wbuf.length + 1 = mps)) ↔
        (a.fsm = .waitData ∧ (last = true ∨ a.wbuf.length + 1 = mps)) := by
      rw [hr.fsm, hr.wbuf, (fsmIn_eq a.fsm).1]
    have w := setW_acc a (a.wbuf ++ [b]) last
    by_cases hsw : a.fsm = .waitData ∧ (last = true ∨ a.wbuf.length + 1 = mps)
    · rw [if_pos hsw, if_pos (hfs.mpr hsw)]
      refine ⟨rfl, fun a' ha' => ?_⟩
      injection ha' with ha'
      subst ha'
      have r := setR_acc (a.setW (a.wbuf ++ [b]) last) (a.setW (a.wbuf ++ [b]) last).rbuf false
      have hto : a.toggle = ((a.setW (a.wbuf ++ [b]) last).setR (a.setW (a.wbuf ++ [b]) last).rbuf false).toggle := by
        rw [r.toggle, w.toggle]
      rw [hto]
      have sw := swap_acc ((a.setW (a.wbuf ++ [b]) last).setR (a.setW (a.wbuf ++ [b]) last).rbuf false) .waitSend (!a.pid)
      refine ⟨rfl, by rw [hr.pid], ?_, ?_, ?_, fun _ => ?_, fun hh => by cases hh⟩
      · rw [sw.wbuf, r.rbuf, w.rbuf, hr.empty hsw.1]
      · rw [sw.wend, r.rend]
      · rw [sw.rbuf, r.wbuf, w.wbuf, hr.wbuf]
      · rw [sw.rend, r.wend, w.wend]
    · rw [if_neg hsw, if_neg (fun x => hsw (hfs.mp x))]
      refine ⟨rfl, fun a' ha' => ?_⟩
      injection ha' with ha'
      subst ha'
      refine ⟨by rw [w.fsm]; exact hr.fsm, by rw [w.pid]; exact hr.pid, by rw [w.wbuf, ← hr.wbuf], by rw [w.wend],
        by rw [w.rbuf]; exact hr.rbuf, by rw [w.rbuf, w.rend]; exact hr.rend, by rw [w.rbuf, w.fsm]; exact hr.empty⟩

theorem rin_produce (mps : Nat) (bs : List Nat) (last : Bool) : ∀ (a : Full.InEp) (e : EpDev.InState), RIn mps a e →
    (Full.inProduce mps a bs last).2 = (EpDev.inProduce mps e bs last).2 ∧
    RIn mps (Full.inProduce mps a bs last).1 (EpDev.inProduce mps e bs last).1 := by
  induction bs with
  | nil => intro a e hr; exact ⟨rfl, hr⟩
  | cons b bs ih =>
    intro a e hr
    obtain ⟨h1, h2⟩ := rin_byte mps a e b (last && bs.isEmpty) hr
    simp only [Full.inProduce, EpDev.inProduce]
    cases hb : Full.inByte mps a b (last && bs.isEmpty) with
    | none =>
      rw [hb] at h1
      simp only [Option.isSome_none] at h1
      simp [← h1, hr]
    | some a' =>
      rw [hb] at h1
      simp only [Option.isSome_some] at h1
      obtain ⟨i1, i2⟩ := ih a' _ (h2 a' hb)
      simp only [← h1, if_true]
      exact ⟨by rw [i1], i2⟩

theorem rin_newToken (mps : Nat) (a : Full.InEp) (e : EpDev.InState) (hr : RIn mps a e) :
    RIn mps (if a.fsm = .waitAck then { a with fsm := .waitSend } else a) (EpDev.inNewToken e) := by
  simp only [EpDev.inNewToken, hr.fsm, (fsmIn_eq a.fsm).2.2]
  by_cases hf : a.fsm = .waitAck
  · simp only [hf, if_true]
    exact ⟨rfl, hr.pid, hr.wbuf, hr.wend, hr.rbuf, hr.rend, fun hh => by cases hh⟩
  · simp only [hf, if_false]
    exact hr

theorem rin_token (mps num : Nat) (hm : 0 < mps) (a : Full.InEp) (e : EpDev.InState) (hr : RIn mps a e) (pid ep : Nat) :
    (Full.inToken num a pid ep).2
        = (if ep = num ∧ pid = PID_IN then EpDev.inToken (EpDev.inNewToken e) else (EpDev.inNewToken e, .none)).2 ∧
    RIn mps (Full.inToken num a pid ep).1
        (if ep = num ∧ pid = PID_IN then EpDev.inToken (EpDev.inNewToken e) else (EpDev.inNewToken e, .none)).1 := by
  have hn := rin_newToken mps a e hr
  simp only [Full.inToken]
  generalize (if a.fsm = .waitAck then { a with fsm := .waitSend } else a) = a1 at hn ⊢
  generalize EpDev.inNewToken e = e1 at hn ⊢
  have ⟨h1, h2, h3, h4, h5, h6, _⟩ := hn
  by_cases ho : pid = PID_IN ∧ ep = num
  · have ho' : ep = num ∧ pid = PID_IN := ⟨ho.2, ho.1⟩
    rw [if_pos ho, if_pos ho']
    cases hf : a1.fsm with
    | waitData =>
      have : e1.fsm = .waitData := by rw [h1, hf]; rfl
      simp only [EpDev.inToken, this]
      exact ⟨trivial, hn⟩
    | waitAck =>
      have : e1.fsm = .waitAck := by rw [h1, hf]; rfl
      simp only [EpDev.inToken, this]
      exact ⟨trivial, hn⟩
    | waitSend =>
      have : e1.fsm = .waitSend := by rw [h1, hf]; rfl
      simp only [EpDev.inToken, this]
      refine ⟨by rw [h2, h5]; rfl, ?_⟩
      by_cases hb : a1.rbuf.isEmpty = true
      · have r := setR_acc a1 a1.rbuf false
        simp only [hb, if_true]
        exact ⟨rfl, h2.trans r.pid.symm, h3.trans r.wbuf.symm, h4.trans r.wend.symm, h5.trans r.rbuf.symm,
          fun hl => (rbuf_nil_not_full hm _ (r.rbuf.trans (List.isEmpty_iff.1 hb)) hl).elim, fun hh => by cases hh⟩
      · simp only [hb]
        exact ⟨rfl, h2, h3, h4, h5, h6, fun hh => by cases hh⟩
  · have ho' : ¬(ep = num ∧ pid = PID_IN) := fun x => ho ⟨x.2, x.1⟩
    rw [if_neg ho, if_neg ho']
    exact ⟨rfl, hn⟩

/-- a host ACK: `mine` = the token registers show an IN token for the endpoint, `reset` = the halt-clear strobe names
it (never both: the strobe needs the registers to show endpoint 0) -/
theorem rin_ack (mps : Nat) (hm : 0 < mps) (a : Full.InEp) (e : EpDev.InState) (hr : RIn mps a e) (mine reset : Bool)
    (hx : ¬(mine = true ∧ reset = true)) :
    RIn mps (Full.inAck mps a mine reset)
      (if mine then EpDev.inAck mps (if reset then EpDev.inClearHalt e else e)
       else (if reset then EpDev.inClearHalt e else e)) := by
  cases mine with
  | false =>
    cases reset with
    | false =>
      rw [C57.inAck_idle]; exact hr
    | true =>
      -- `reset_sequence` alone: the PID register gets 1, in WAIT_TO_SEND (already toggled) 0
      have h1 : Full.inAck mps a false true = { a with pid := decide (a.fsm ≠ .waitSend) } := by
        simp only [Full.inAck]; cases a.fsm <;> rfl
      have h2 : EpDev.inClearHalt e = { e with pid := decide (a.fsm ≠ .waitSend) } := by
        simp only [EpDev.inClearHalt, hr.fsm]; cases a.fsm <;> rfl
      rw [h1]
      simp only [Bool.false_eq_true, if_false, if_true, h2]
      exact ⟨hr.fsm, rfl, hr.wbuf, hr.wend, hr.rbuf, hr.rend, hr.empty⟩
  | true =>
    have hres : reset = false := by cases reset <;> simp_all
    subst hres
    simp only [if_true, Bool.false_eq_true, if_false]
    by_cases hfs : a.fsm = .waitAck
    case neg =>
      rw [C57.inAck_other mps a hfs, EpDev.inAck, if_neg (by rw [hr.fsm, (fsmIn_eq a.fsm).2.2]; exact hfs)]
      exact hr
    have hrdy := hr.ready
    have he : e.fsm = .waitAck := by rw [hr.fsm, hfs]; rfl
    simp only [Full.inAck, hfs, EpDev.inAck, he, if_true, Bool.false_eq_true, if_false]
    -- `read_fill_count := 0`: the read buffer is empty afterwards
    have r := setR_acc a [] a.rended
    by_cases hz : a.rbuf.length = mps ∧ a.rended = true
    · have hz' : e.rbuf.length = mps ∧ e.rended = true := by rw [hr.rbuf, hr.rend hz.1]; exact hz
      rw [if_pos hz, if_pos hz']
      exact ⟨rfl, by rw [hr.pid], hr.wbuf.trans r.wbuf.symm, hr.wend.trans r.wend.symm, r.rbuf.symm,
        fun hl => (rbuf_nil_not_full hm _ r.rbuf hl).elim, fun hh => by cases hh⟩
    · have hz' : ¬(e.rbuf.length = mps ∧ e.rended = true) := by
        intro x
        rw [hr.rbuf] at x
        exact hz ⟨x.1, by rw [← hr.rend x.1]; exact x.2⟩
      rw [if_neg hz, if_neg hz']
      by_cases hnr : a.ready mps = true
      · simp only [hnr, Bool.not_true, Bool.false_eq_true, if_false, if_neg (hrdy.1 hnr)]
        exact ⟨rfl, by rw [hr.pid], hr.wbuf.trans r.wbuf.symm, hr.wend.trans r.wend.symm, r.rbuf.symm,
          fun hl => (rbuf_nil_not_full hm _ r.rbuf hl).elim, fun _ => r.rbuf⟩
      · -- the other buffer is complete: the buffers are swapped
        have hw : e.wbuf.length = mps ∨ e.wended = true := Decidable.not_not.1 (fun hx => hnr (hrdy.2 hx))
        have hnr' : a.ready mps = false := by simpa using hnr
        simp only [hnr', Bool.not_false, if_true, if_pos hw]
        have r2 := setR_acc (a.setR [] a.rended) [] false
        have hto : a.toggle = ((a.setR [] a.rended).setR [] false).toggle := by rw [r2.toggle, r.toggle]
        rw [hto]
        have sw := swap_acc ((a.setR [] a.rended).setR [] false) .waitSend (!a.pid)
        exact ⟨rfl, by rw [hr.pid], by rw [sw.wbuf, r2.rbuf], by rw [sw.wend, r2.rend], by rw [sw.rbuf, r2.wbuf, r.wbuf]; exact hr.wbuf,
          fun _ => by rw [sw.rend, r2.wend, r.wend]; exact hr.wend, fun hh => by cases hh⟩

/-- number of producer bytes an event-level output of the C12 model reports -/
def appCount : List Nat → Nat
  | [k] => k
  | _ => 0

/-- **One event, stream IN endpoint.**  From states related by `RIn`, under any control state `d`, the whole-device
model's endpoint step and `C12In.inEv` (the stream IN branch of `EpDev.epStep`, `C12In.epStep_sin`, which C12's
`in_cycle_refines_event` is about) end in related states, give the same answer and accept the same number of producer
bytes.  Hypotheses: `StdOwned`, endpoint number and max packet size > 0. -/
theorem in_bridge (c : DevConfig) (hc : StdOwned c) (fc : Full.EpCfg) (hn : 0 < fc.num) (hm : 0 < fc.mps)
    (d : DevState) (a : Full.InEp) (e : EpDev.InState) (ev : HostEvent) (hr : RIn fc.mps a e) :
    ∃ a', (Full.epStep fc (.sIn a) (Full.ctxOf d ev) ev).1 = .sIn a' ∧
      RIn fc.mps a' (C12In.inEv (inCfg fc) (EpDev.sharedOf c d ev) e ev).1 ∧
      (Full.epStep fc (.sIn a) (Full.ctxOf d ev) ev).2.1 = (C12In.inEv (inCfg fc) (EpDev.sharedOf c d ev) e ev).2.resp ∧
      (Full.epStep fc (.sIn a) (Full.ctxOf d ev) ev).2.2.count
        = appCount (C12In.inEv (inCfg fc) (EpDev.sharedOf c d ev) e ev).2.app := by
  cases ev with
  | token pid addr ep =>
    by_cases haddr : addr = d.address
    · subst haddr
      have hmine : (Full.ctxOf d (.token pid d.address ep)).mine = true := by simp [Full.ctxOf]
      obtain ⟨t1, t2⟩ := rin_token fc.mps fc.num hm a e hr pid ep
      simp only [Full.epStep, hmine, if_true, C12In.inEv, shared_token_mine, C12In.inPre, EpDev.haltHits, true_and,
        Bool.false_eq_true, if_false, inCfg]
      by_cases ho : ep = fc.num ∧ pid = PID_IN
      · rw [if_pos ho] at t1 t2 ⊢
        exact ⟨_, rfl, t2, t1, by simp [appCount]⟩
      · rw [if_neg ho] at t1 t2 ⊢
        exact ⟨_, rfl, t2, t1, by simp [appCount]⟩
    · have hmine : (Full.ctxOf d (.token pid addr ep)).mine = false := by simp [Full.ctxOf, haddr]
      obtain ⟨s1, s2⟩ := shared_token_other c d pid addr ep haddr
      simp only [Full.epStep, hmine, Bool.false_eq_true, if_false, C12In.inEv, C12In.inPre_quiet _ _ e s1 s2, s1, false_and]
      exact ⟨a, rfl, hr, by simp [appCount]⟩
  | handshake pid =>
    obtain ⟨s1, s2, s3⟩ := shared_hs c d pid
    have hh := haltFor_eq c hc d (.handshake pid) (inCfg fc) true
    have hnum : (inCfg fc).num = fc.num := rfl
    rw [hnum] at hh
    by_cases hp : pid = PID_ACK
    · subst hp
      have hmine : ((Full.ctxOf d (.handshake PID_ACK)).tokPid == PID_IN && (Full.ctxOf d (.handshake PID_ACK)).tokEp == fc.num)
          = decide (d.tokEp = fc.num ∧ d.tokPid = PID_IN) := by
        simp only [Full.ctxOf]
        by_cases h1 : d.tokPid = PID_IN <;> by_cases h2 : d.tokEp = fc.num <;> simp [h1, h2]
      have hx : ¬(decide (d.tokEp = fc.num ∧ d.tokPid = PID_IN) = true ∧
          EpDev.haltHits (inCfg fc) true (EpDev.sharedOf c d (.handshake PID_ACK)) = true) := fun x =>
        (C12Sig.shOk_sharedOf c (inCfg fc) hn d (.handshake PID_ACK)).2 x.2 (by rw [s1, s2]; exact of_decide_eq_true x.1)
      have t := rin_ack fc.mps hm a e hr _ _ hx
      simp only [Full.epStep, if_true, hmine, hh, C12In.inEv, C12In.inPre, s1, s2, s3, Bool.false_eq_true, if_false,
        true_and, inCfg] at t ⊢
      by_cases ho : d.tokEp = fc.num ∧ d.tokPid = PID_IN
      · simp only [ho, and_self, decide_true, if_true] at t ⊢
        exact ⟨_, rfl, t, by simp [appCount]⟩
      · simp only [ho, decide_false, Bool.false_eq_true, if_false] at t ⊢
        exact ⟨_, rfl, t, by simp [appCount]⟩
    · have hhalt : EpDev.haltHits (inCfg fc) true (EpDev.sharedOf c d (.handshake pid)) = false := by
        cases hx : EpDev.haltHits (inCfg fc) true (EpDev.sharedOf c d (.handshake pid))
        · rfl
        · exact absurd (haltHits_ack c hc d pid _ _ hx).1 hp
      simp only [Full.epStep, hp, if_false, C12In.inEv, C12In.inPre, s3, hhalt, Bool.false_eq_true, false_and]
      exact ⟨a, rfl, hr, by simp [appCount]⟩
  | produce ep bytes last =>
    have hq := C12In.inPre_quiet (inCfg fc) (EpDev.sharedOf c d (.produce ep bytes last)) e rfl rfl
    simp only [Full.epStep, C12In.inEv, hq]
    have hnum : (inCfg fc).num = fc.num := rfl
    have hsz : (inCfg fc).size = fc.mps := rfl
    rw [hnum, hsz]
    by_cases hep : ep = fc.num
    · obtain ⟨p1, p2⟩ := rin_produce fc.mps bytes last a e hr
      simp only [hep, if_true]
      exact ⟨_, rfl, p2, by simp [appCount, p1]⟩
    · simp only [hep, if_false]
      exact ⟨a, rfl, hr, by simp [appCount]⟩
  | _ =>
    -- no `new_token`, no halt-clear strobe, and neither model reacts to the event
    simp only [Full.epStep, C12In.inEv, C12In.inPre, EpDev.haltHits, EpDev.sharedOf, EpDev.acceptedToken,
      EpDev.haltStrobe, Bool.false_eq_true, if_false]
    exact ⟨a, rfl, hr, by simp [appCount]⟩

/-! ### Stream OUT endpoint -/

/-- a FIFO entry as the consumer sees it (C13: payload, first, last) as the whole-device model stores it (payload, last,
first) -/
def flipE (x : StreamOutEndpoint.Entry) : Full.Entry := (x.1, x.2.2, x.2.1)

def decF (x : Nat) : Full.Entry := flipE (StreamOutEndpoint.dec x)

structure ROut (b : Full.OutEp) (e : EpDev.OutState) : Prop where
  toggle : e.toggle = b.expToggle
  active : e.active = b.transferActive
  fifo   : e.fifo.map decF = b.fifo

theorem rout_init : ROut {} {} := ⟨rfl, rfl, rfl⟩

theorem ROut.len {b : Full.OutEp} {e : EpDev.OutState} (h : ROut b e) : e.fifo.length = b.fifo.length := by
  rw [← h.fifo, List.length_map]

theorem entries_zip (mps len : Nat) (active : Bool) (p : List Nat) (hb : ∀ x ∈ p, x < 256) : ∀ k,
    (List.zipWith (fun i b => EpDev.outEntry mps len active i b) (List.range' k p.length) p).map decF
      = Full.entriesFrom mps active len p k := by
  induction p with
  | nil => intro k; rfl
  | cons b bs ih =>
    intro k
    have hlt : b % 256 = b := Nat.mod_eq_of_lt (hb b (by simp))
    have hd : decide (k + 1 = len ∧ k + 1 ≠ mps) = decide (k + 1 = len ∧ len ≠ mps) := by
      rw [Bool.eq_iff_iff]; simp only [decide_eq_true_eq]; omega
    simp only [List.length_cons, List.range', List.zipWith_cons_cons, List.map_cons, Full.entriesFrom, decF,
      C12Out.dec_outEntry, flipE, hlt, hd]
    rw [← ih (fun x hx => hb x (by simp [hx])) (k + 1)]

theorem entries_eq (mps : Nat) (active : Bool) (p : List Nat) (hb : ∀ x ∈ p, x < 256) :
    (EpDev.outEntries mps active p).map decF = Full.entries mps active p := by
  simp only [EpDev.outEntries, Full.entries, List.range_eq_range']
  exact entries_zip mps p.length active p hb 0

/-- The environment condition of a data event for the OUT endpoint (the C12 model's `legalEvent`; the whole-device
model has the overflow path — NAK, nothing stored — instead): payload bytes are bytes and, while the token registers
name the endpoint, the packet fits into the FIFO. -/
def OutFits (fc : Full.EpCfg) (d : DevState) (b : Full.OutEp) (ev : HostEvent) : Prop :=
  match ev with
  | .data _ p _ => (∀ x ∈ p, x < 256) ∧ ((d.tokEp = fc.num ∧ d.tokPid = PID_OUT) → b.fifo.length + p.length ≤ fc.depth)
  | _ => True

instance (fc : Full.EpCfg) (d : DevState) (b : Full.OutEp) (ev : HostEvent) : Decidable (OutFits fc d b ev) := by
  cases ev <;> unfold OutFits <;> infer_instance

/-- **One event, stream OUT endpoint.**  From states related by `ROut`, for an event that `OutFits` admits (a data packet
for the endpoint fits the FIFO and its bytes are bytes), the whole-device model's endpoint step and `C12Out.outEv` (the
stream OUT branch of `EpDev.epStep`, `C12Out.epStep_sout`) end in related states, give the same answer and hand the
consumer the same items.  Hypotheses: `StdOwned`, max packet size > 0. -/
theorem out_bridge (c : DevConfig) (hc : StdOwned c) (fc : Full.EpCfg) (hm : 0 < fc.mps)
    (d : DevState) (b : Full.OutEp) (e : EpDev.OutState) (ev : HostEvent) (hr : ROut b e) (hf : OutFits fc d b ev) :
    ∃ b', (Full.epStep fc (.sOut b) (Full.ctxOf d ev) ev).1 = .sOut b' ∧
      ROut b' (C12Out.outEv (outCfg fc) (EpDev.sharedOf c d ev) e ev).1 ∧
      (Full.epStep fc (.sOut b) (Full.ctxOf d ev) ev).2.1 = (C12Out.outEv (outCfg fc) (EpDev.sharedOf c d ev) e ev).2.resp ∧
      (Full.epStep fc (.sOut b) (Full.ctxOf d ev) ev).2.2.items
        = (C12Out.outEv (outCfg fc) (EpDev.sharedOf c d ev) e ev).2.app.map decF := by
  have hnum : (outCfg fc).num = fc.num := rfl
  have hsz : (outCfg fc).size = fc.mps := rfl
  have hdp : (outCfg fc).depth = fc.depth := rfl
  cases ev with
  | token pid addr ep =>
    by_cases haddr : addr = d.address
    · subst haddr
      have hmine : (Full.ctxOf d (.token pid d.address ep)).mine = true := by simp [Full.ctxOf]
      have hq := C12Out.outPre_quiet (outCfg fc) (EpDev.sharedOf c d (.token pid d.address ep)) e rfl
      simp only [Full.epStep, hmine, if_true, C12Out.outEv, hq, Full.outToken]
      simp only [shared_token_mine, true_and, hnum]
      by_cases ho : pid = PID_PING ∧ ep = fc.num
      · have ho' : ep = fc.num ∧ pid = PID_PING := ⟨ho.2, ho.1⟩
        rw [if_pos ho, if_pos ho']
        refine ⟨b, rfl, hr, ?_, rfl⟩
        simp only [EpDev.outPing, hsz, hdp, hr.len]
      · have ho' : ¬(ep = fc.num ∧ pid = PID_PING) := fun x => ho ⟨x.2, x.1⟩
        rw [if_neg ho, if_neg ho']
        exact ⟨b, rfl, hr, by simp⟩
    · have hmine : (Full.ctxOf d (.token pid addr ep)).mine = false := by simp [Full.ctxOf, haddr]
      obtain ⟨s1, s2⟩ := shared_token_other c d pid addr ep haddr
      simp only [Full.epStep, hmine, Bool.false_eq_true, if_false, C12Out.outEv, C12Out.outPre_quiet _ _ e s2, s1, false_and]
      exact ⟨b, rfl, hr, by simp⟩
  | data pid p ok =>
    obtain ⟨hbytes, hfit⟩ := hf
    have hq := C12Out.outPre_quiet (outCfg fc) (EpDev.sharedOf c d (.data pid p ok)) e rfl
    have hctx : (Full.ctxOf d (.data pid p ok)).tokPid = d.tokPid ∧ (Full.ctxOf d (.data pid p ok)).tokEp = d.tokEp :=
      ⟨rfl, rfl⟩
    simp only [Full.epStep, C12Out.outEv, hq, hctx.1, hctx.2, Full.outData]
    simp only [shared_data, hnum, hsz]
    by_cases ho : d.tokPid = PID_OUT ∧ d.tokEp = fc.num
    · have ho' : d.tokEp = fc.num ∧ d.tokPid = PID_OUT := ⟨ho.2, ho.1⟩
      rw [if_pos ho, if_pos ho']
      have hfit' := hfit ho'
      have hpt : Full.pidToggle pid = EpDev.pidToggleBit pid := rfl
      simp only [EpDev.outData, hpt, hr.toggle]
      by_cases htg : EpDev.pidToggleBit pid = b.expToggle
      · simp only [htg, bne_self_eq_false, Bool.false_eq_true, if_false, beq_self_eq_true, if_true]
        cases ok with
        | false => simp only [Bool.not_false, if_true, Bool.false_eq_true, if_false]; exact ⟨b, rfl, hr, by simp⟩
        | true =>
          simp only [Bool.not_true, Bool.false_eq_true, if_false, if_true]
          by_cases hemp : p = []
          · subst hemp
            simp only [List.isEmpty_nil, if_true]
            refine ⟨_, rfl, ⟨by simp, ?_, ?_⟩, by simp⟩
            · simp only [List.length_nil, decide_eq_false_iff_not]; omega
            · simp [EpDev.outEntries, hr.fifo]
          · have hne : p.isEmpty = false := by cases p <;> simp_all
            have hle : p.length ≤ fc.depth - b.fifo.length := by omega
            simp only [hne, Bool.false_eq_true, if_false, if_pos hle]
            refine ⟨_, rfl, ⟨by simp, rfl, ?_⟩, by simp⟩
            simp only [List.map_append, hr.fifo, hr.active, entries_eq fc.mps b.transferActive p hbytes]
      · have htg' : (EpDev.pidToggleBit pid != b.expToggle) = true := by simpa using htg
        have htg'' : (EpDev.pidToggleBit pid == b.expToggle) = false := by simpa using htg
        simp only [htg', if_true, htg'', Bool.false_eq_true, if_false]
        cases ok <;> exact ⟨b, rfl, hr, by simp, rfl⟩
    · have ho' : ¬(d.tokEp = fc.num ∧ d.tokPid = PID_OUT) := fun x => ho ⟨x.2, x.1⟩
      rw [if_neg ho, if_neg ho']
      exact ⟨b, rfl, hr, by simp⟩
  | handshake pid =>
    have hh := haltFor_eq c hc d (.handshake pid) (outCfg fc) false
    rw [hnum] at hh
    by_cases hx : EpDev.haltHits (outCfg fc) false (EpDev.sharedOf c d (.handshake pid)) = true
    · have hp := (haltHits_ack c hc d pid _ _ hx).1
      have hc1 : pid = PID_ACK ∧ Full.haltFor (Full.ctxOf d (.handshake pid)) false fc.num = true := ⟨hp, by rw [hh, hx]⟩
      simp only [Full.epStep, if_pos hc1, C12Out.outEv, C12Out.outPre, hx, if_true]
      exact ⟨_, rfl, ⟨rfl, hr.active, hr.fifo⟩, by simp⟩
    · have hc1 : ¬(pid = PID_ACK ∧ Full.haltFor (Full.ctxOf d (.handshake pid)) false fc.num = true) := by
        rw [hh]; exact fun x => hx x.2
      simp only [Full.epStep, if_neg hc1, C12Out.outEv, C12Out.outPre, hx, if_false, Bool.false_eq_true]
      exact ⟨b, rfl, hr, by simp⟩
  | consume ep n =>
    have hq := C12Out.outPre_quiet (outCfg fc) (EpDev.sharedOf c d (.consume ep n)) e rfl
    simp only [Full.epStep, C12Out.outEv, hq, hnum]
    by_cases hep : ep = fc.num
    · simp only [hep, if_true]
      refine ⟨_, rfl, ⟨hr.toggle, hr.active, ?_⟩, trivial, ?_⟩
      · simp only [← hr.fifo, List.map_drop]
      · simp only [← hr.fifo, List.map_take]
    · simp only [hep, if_false]
      exact ⟨b, rfl, hr, by simp⟩
  | _ =>
    -- no halt-clear strobe, and neither model reacts to the event
    simp only [Full.epStep, C12Out.outEv, C12Out.outPre, EpDev.haltHits, EpDev.sharedOf, EpDev.haltStrobe,
      Bool.false_eq_true, if_false]
    exact ⟨b, rfl, hr, by simp⟩

/-! ## Cycle-level endpoints along whole-device histories

The cycle-level machines of C11 (`InXfer.step`, `USBInTransferManager` under `USBStreamInEndpoint`'s wiring) and C13
(`StreamOutEndpoint.step`: boundary detector + transactional FIFO + glue), run over the clock-cycle expansions of the
events of a history of the WHOLE serial-device model (`Full.step`, the model `rx_in_order` / `tx_in_order` are proved
on), put out — decoded event by event — exactly what the whole-device model's endpoints put out.

The expansion of an event is C12's (`C12In.expand`, `C12Out.expand`: arbitrary idle-cycle counts, stall patterns, free
input values, any acceptor-legal cycle sequence per data packet); the token registers and the halt-clear strobe are
those of the whole-device model's control endpoint (`s.ctl`, `EpDev.sharedOf c.dev s.ctl ev`).
-/

def epOuts (c : Full.FullConfig) (fc : Full.EpCfg) (π : Full.FullState → Full.EpState) :
    Full.FullState → List HostEvent → List (Resp × Full.Delivery)
  | _, [] => []
  | s, ev :: es => (Full.epStep fc (π s) (Full.ctxOf s.ctl ev) ev).2 :: epOuts c fc π (Full.step c s ev).1 es

/-- `e`: the C12 event-level state, which decides how many beats a transmission has and which producer bytes are taken. -/
def inCycles (c : Full.FullConfig) (ec : EpDev.EpCfg) :
    Full.FullState → EpDev.InState → List (HostEvent × C12In.Gaps) → List InXfer.In
  | _, _, [] => []
  | s, e, (ev, g) :: rest =>
    C12In.expand ec ⟨s.ctl.tokPid, s.ctl.tokEp⟩ (EpDev.sharedOf c.dev s.ctl ev) e ev g ++
      inCycles c ec (Full.step c s ev).1 (C12In.inEv ec (EpDev.sharedOf c.dev s.ctl ev) e ev).1 rest

def inWires (c : Full.FullConfig) (ec : EpDev.EpCfg) :
    Full.FullState → EpDev.InState → InXfer.State → List (HostEvent × C12In.Gaps) → List (List C12In.Wire)
  | _, _, _, [] => []
  | s, e, x, (ev, g) :: rest =>
    let is := C12In.expand ec ⟨s.ctl.tokPid, s.ctl.tokEp⟩ (EpDev.sharedOf c.dev s.ctl ev) e ev g
    (C12In.wires false (InXfer.trace (C12In.cfgOf ec) x is)).1 ::
      inWires c ec (Full.step c s ev).1 (C12In.inEv ec (EpDev.sharedOf c.dev s.ctl ev) e ev).1
        (InXfer.runState (C12In.cfgOf ec) x is) rest

/-- What an event-level output of a stream IN endpoint looks like on the wires: the producer bytes accepted, then NAK /
the beats of a DATA packet / a zero-length packet. -/
def inWiresOf (r : Resp × Full.Delivery) : List C12In.Wire := C12In.wiresOf { resp := r.1, app := [r.2.count] }

theorem wiresOf_appCount (o : EpDev.EpOut) : C12In.wiresOf o = C12In.wiresOf { resp := o.resp, app := [appCount o.app] } := by
  obtain ⟨r, app⟩ := o
  cases app with
  | nil => simp [C12In.wiresOf, appCount]
  | cons k t => cases t <;> simp [C12In.wiresOf, appCount]

/-- **Cycles refine events, stream IN endpoint inside the whole device.**  `π` selects the endpoint's state in the
whole-device state; `Ok` is any invariant under which the device updates it by `Full.epStep fc`. -/
theorem in_cycles_refine (c : Full.FullConfig) (hs : StdOwned c.dev) (fc : Full.EpCfg) (hn : 0 < fc.num) (hm : 0 < fc.mps)
    (π : Full.FullState → Full.InEp) (Ok : Full.FullState → Prop)
    (hok : ∀ s ev, Ok s → Ok (Full.step c s ev).1)
    (hπ : ∀ s ev, Ok s → (Full.epStep fc (.sIn (π s)) (Full.ctxOf s.ctl ev) ev).1 = .sIn (π (Full.step c s ev).1))
    (h : List (HostEvent × C12In.Gaps)) (hev : ∀ x ∈ h, C12In.EvOk x.1) :
    ∀ (s : Full.FullState) (e : EpDev.InState) (x : InXfer.State), Ok s → RIn fc.mps (π s) e →
      C12In.Rel (C12In.cfgOf (inCfg fc)) e x →
      ∃ e', RIn fc.mps (π (Full.final c s (h.map (·.1)))) e' ∧
        C12In.Rel (C12In.cfgOf (inCfg fc)) e'
          (InXfer.runState (C12In.cfgOf (inCfg fc)) x (inCycles c (inCfg fc) s e h)) ∧
        inWires c (inCfg fc) s e x h = (epOuts c fc (fun s => .sIn (π s)) s (h.map (·.1))).map inWiresOf := by
  induction h with
  | nil => intro s e x _ hr hx; exact ⟨e, hr, hx, rfl⟩
  | cons y rest ih =>
    obtain ⟨ev, g⟩ := y
    intro s e x hs0 hr hx
    obtain ⟨a', b1, b2, b3, b4⟩ := in_bridge c.dev hs fc hn hm s.ctl (π s) e ev hr
    obtain ⟨a1, a2⟩ := C12In.in_cycle_refines_event (inCfg fc) hm ⟨s.ctl.tokPid, s.ctl.tokEp⟩
      (EpDev.sharedOf c.dev s.ctl ev) e ev g (C12Sig.shOk_sharedOf c.dev (inCfg fc) hn s.ctl ev)
      (hev (ev, g) (by simp)) x hx
    have hπ' := hπ s ev hs0
    rw [b1] at hπ'
    injection hπ' with hπ'
    rw [hπ'] at b2
    obtain ⟨e', c1, c2, c3⟩ := ih (fun z hz => hev z (by simp [hz])) _ _ _ (hok s ev hs0) b2 a1
    refine ⟨e', ?_, ?_, ?_⟩
    · simpa only [List.map_cons, Full.final] using c1
    · simpa only [inCycles, InXfer.runState, C12In.runState_append] using c2
    · simp only [List.map_cons, inWires, epOuts, a2, c3]
      congr 1
      rw [wiresOf_appCount, ← b3, ← b4]
      rfl

def outCycles (c : Full.FullConfig) (ec : EpDev.EpCfg) :
    Full.FullState → List (HostEvent × C12Out.Gaps) → List StreamOutEndpoint.In
  | _, [] => []
  | s, (ev, g) :: rest =>
    C12Out.expand ec (C12Out.tkD s.ctl) (EpDev.sharedOf c.dev s.ctl ev) ev g ++ outCycles c ec (Full.step c s ev).1 rest

def outWires (c : Full.FullConfig) (ec : EpDev.EpCfg) :
    Full.FullState → StreamOutEndpoint.State → List (HostEvent × C12Out.Gaps) → List (List C12Out.Wire)
  | _, _, [] => []
  | s, x, (ev, g) :: rest =>
    let is := C12Out.expand ec (C12Out.tkD s.ctl) (EpDev.sharedOf c.dev s.ctl ev) ev g
    C12Out.cycWires (C12Out.cfgOf ec) x is ::
      outWires c ec (Full.step c s ev).1 (StreamOutEndpoint.runState (C12Out.cfgOf ec) x is) rest

/-- What an event-level output of the stream OUT endpoint looks like on the wires: the handshake request, then the
entries handed to the consumer as (payload, first, last). -/
def outWiresOf (r : Resp × Full.Delivery) : List C12Out.Wire :=
  (match r.1 with
   | .hs pid => if pid = PID_ACK then [C12Out.Wire.ack] else if pid = PID_NAK then [C12Out.Wire.nak] else []
   | _ => []) ++ r.2.items.map (fun x => C12Out.Wire.xfer (x.1, x.2.2, x.2.1))

theorem outWiresOf_eq (o : EpDev.EpOut) (r : Resp × Full.Delivery) (h1 : r.1 = o.resp)
    (h2 : r.2.items = o.app.map decF) : C12Out.wiresOf o = outWiresOf r := by
  obtain ⟨resp, app⟩ := o
  obtain ⟨r1, r2⟩ := r
  simp only at h1 h2
  subst h1
  simp only [C12Out.wiresOf, outWiresOf, h2, List.map_map]
  cases r1 <;> simp [decF, flipE, Function.comp_def]

/-- **Environment hypotheses of an OUT-endpoint history** (C12's `legalOk` on the whole-device model): every data packet
directly follows a token event; its cycles are a transaction of C13's `LegalHost` acceptor carrying its PID toggle,
payload and CRC verdict (`segOk`); its bytes are bytes; and while the token registers name the endpoint it fits into
the FIFO as the whole-device model has it at that point (`OutFits`). -/
def outLegal (c : Full.FullConfig) (fc : Full.EpCfg) (π : Full.FullState → Full.OutEp) :
    Full.FullState → Bool → List (HostEvent × C12Out.Gaps) → Bool
  | _, _, [] => true
  | s, prevTok, (ev, g) :: rest =>
    (match ev with
     | .data pid p ok =>
       prevTok &&
       C12Out.segOk (C12Out.cfgOf (outCfg fc)) (C12Out.tokOf (C12Out.tkD s.ctl)) (StreamOutEndpoint.tn (EpDev.pidToggleBit pid))
         p ok g.seg g.resp g.tail &&
       decide (OutFits fc s.ctl (π s) ev)
     | _ => true) &&
    outLegal c fc π (Full.step c s ev).1 (C12Out.isToken ev) rest

/-- **Cycles refine events, stream OUT endpoint inside the whole device**, under `outLegal`; `π` and `Ok` as in
`in_cycles_refine`.  Beyond the IN induction it carries C12's ghost `a` (a token accepted by the device is open) and
the flag `pt` (the previous event was a token) with the invariant `pt → a ∨ tokPid ≠ OUT`: a data packet follows a
token directly (`outLegal`), and that token either was accepted, so the acceptor is armed, or was for another device,
so the detector cleared its PID register and the registers do not name the endpoint — which is what `C12Out.EvOk` asks
for the packet.  `hj'` re-establishes the invariant behind each event. -/
theorem out_cycles_refine (c : Full.FullConfig) (hs : StdOwned c.dev) (fc : Full.EpCfg) (hn : 0 < fc.num) (hm : 0 < fc.mps)
    (π : Full.FullState → Full.OutEp) (Ok : Full.FullState → Prop)
    (hok : ∀ s ev, Ok s → Ok (Full.step c s ev).1)
    (hπ : ∀ s ev, Ok s → (Full.epStep fc (.sOut (π s)) (Full.ctxOf s.ctl ev) ev).1 = .sOut (π (Full.step c s ev).1))
    (h : List (HostEvent × C12Out.Gaps)) :
    ∀ (s : Full.FullState) (e : EpDev.OutState) (a pt : Bool) (x : StreamOutEndpoint.State), Ok s →
      outLegal c fc π s pt h = true → (pt = true → a = true ∨ s.ctl.tokPid ≠ PID_OUT) → ROut (π s) e →
      C12Out.Rel (C12Out.cfgOf (outCfg fc)) e x (C12Out.phOf a (C12Out.tkD s.ctl)) →
      ∃ e' a', ROut (π (Full.final c s (h.map (·.1)))) e' ∧
        C12Out.Rel (C12Out.cfgOf (outCfg fc)) e'
          (StreamOutEndpoint.runState (C12Out.cfgOf (outCfg fc)) x (outCycles c (outCfg fc) s h))
          (C12Out.phOf a' (C12Out.tkD (Full.final c s (h.map (·.1))).ctl)) ∧
        outWires c (outCfg fc) s x h = (epOuts c fc (fun s => .sOut (π s)) s (h.map (·.1))).map outWiresOf := by
  induction h with
  | nil => intro s e a pt x _ _ _ hr hx; exact ⟨e, a, hr, hx, rfl⟩
  | cons y rest ih =>
    obtain ⟨ev, g⟩ := y
    intro s e a pt x hs0 hl hj hr hx
    simp only [outLegal, Bool.and_eq_true] at hl
    obtain ⟨hl1, hl2⟩ := hl
    have hfits : OutFits fc s.ctl (π s) ev := by
      cases ev with
      | data pid p ok =>
        simp only [Bool.and_eq_true, decide_eq_true_eq] at hl1
        exact hl1.2
      | _ => trivial
    have hevok : C12Out.EvOk (outCfg fc) a (C12Out.tkD s.ctl) (EpDev.sharedOf c.dev s.ctl ev) e ev g := by
      cases ev with
      | data pid p ok =>
        simp only [Bool.and_eq_true, decide_eq_true_eq] at hl1
        obtain ⟨⟨hpt, hseg⟩, hbytes, hfit⟩ := hl1
        refine ⟨by rw [shared_data]; rfl, hseg, fun hown => ⟨?_, ?_⟩⟩
        · rcases hj hpt with ha | hne
          · exact ha
          · exact absurd hown.2 hne
        · rw [hr.len]; exact hfit hown
      | _ => trivial
    obtain ⟨b', b1, b2, b3, b4⟩ := out_bridge c.dev hs fc hm s.ctl (π s) e ev hr hfits
    obtain ⟨a1, a2⟩ := C12Out.out_cycle_refines_event (outCfg fc) hm a (C12Out.tkD s.ctl)
      (EpDev.sharedOf c.dev s.ctl ev) e ev g (C12Sig.shOk_sharedOf c.dev (outCfg fc) hn s.ctl ev) hevok x hx
    have hπ' := hπ s ev hs0
    rw [b1] at hπ'
    injection hπ' with hπ'
    rw [hπ'] at b2
    have htk : C12Sig.tkOf (EpDev.sharedOf c.dev s.ctl ev) = C12Out.tkD (Full.step c s ev).1.ctl := rfl
    rw [htk] at a1
    have hj' : C12Out.isToken ev = true →
        C12Out.armedNext a (C12Out.tkD s.ctl) (EpDev.sharedOf c.dev s.ctl ev) ev = true ∨
        (Full.step c s ev).1.ctl.tokPid ≠ PID_OUT := by
      intro ht
      cases ev with
      | token pid addr ep =>
        by_cases haddr : addr = s.ctl.address
        · left; simp [C12Out.armedNext, EpDev.sharedOf, EpDev.acceptedToken, haddr]
        · right
          rw [(C57.step_tk c s _).1]
          simp [core, haddr, PID_OUT]
      | _ => simp [C12Out.isToken] at ht
    obtain ⟨e', a', c1, c2, c3⟩ := ih _ _ _ _ _ (hok s ev hs0) hl2 hj' b2 a1
    refine ⟨e', a', ?_, ?_, ?_⟩
    · simpa only [List.map_cons, Full.final] using c1
    · simpa only [List.map_cons, Full.final, outCycles, StreamOutEndpoint.runState, StreamOutEndpoint.runState_append] using c2
    · simp only [List.map_cons, outWires, epOuts, a2, c3]
      congr 1
      exact outWiresOf_eq _ _ b3 b4

end LunaVerif.C57Cyc
