import LunaVerif.Lemmas.C37LiveBase
/-!
# C37 — liveness: every freed buffer gets its LCRD

`rankC T` bounds the number of ready cycles until `T` LCRDs have completed on the wire, for every
`T ≤ lcrds + credits_to_issue`.  Ahead of an owed LCRD: the rest of the command in progress, one LRTY per
retry request (*bad* cycles, cost 4), and all LGOODs — those owed and those for headers the partner may
still send with the credits it holds (`acks_to_send + (lcrds − accepted)`), each possibly in a SEND_ACKS
session of its own (cost 4 each).
-/
namespace LunaVerif.HeaderRx

def aheadC (T : Nat) : Fsm → World → Nat
  | .issueCredits, x => 3 * (T - x.g.lcrds.length - 1)
  | .dispatch, x => 4 * b2 x.s.lrty + 4 * (x.s.acks + x.g.lcrds.length - x.g.accepted.length) +
      3 * (T - x.g.lcrds.length)
  | .sendAcks, x => 4 * (x.s.acks + x.g.lcrds.length - x.g.accepted.length - 1) + 1 + 4 * b2 x.s.lrty +
      3 * (T - x.g.lcrds.length)
  | .sendLrty, x => 1 + 4 * (x.s.acks + x.g.lcrds.length - x.g.accepted.length) + 3 * (T - x.g.lcrds.length)
  | _, x => 1 + 4 * b2 x.s.lrty + 4 * (x.s.acks + x.g.lcrds.length - x.g.accepted.length) +
      3 * (T - x.g.lcrds.length)

variable {T : Nat} {x x' : World} {i : In} {f f' : Fsm} {k dA dC dB dR dX dK : Nat}

theorem aheadC_step (h : Cyc x x' i dA dC dB dR dX dK) (t : Trans x.s f f' k dA dC dB dR dX dK)
    (hlt : x'.g.lcrds.length < T) (hT : T ≤ x.g.lcrds.length + x.s.cti) :
    k + aheadC T f' x' ≤ aheadC T f x + 4 * b2 i.retryRequired := by
  have := h.acks; have := h.lc; have := h.ac; have := h.lrty; have := h.lrtyD; have := h.cred
  have := h.dAle
  cases t <;> simp only [aheadC] <;> omega

def rankC (T : Nat) : World → Nat := rank (·.g.lcrds.length) (aheadC T) T

theorem rankC_step (c : Config) (T : Nat) :
    StepOk (World.next c) WOk (fun x => Inv c x.s x.g ∧ T ≤ x.g.lcrds.length + x.s.cti) (rankC T) rdyW
      (fun _ i => i.retryRequired) 4 :=
  rank_stepOk c (fun _ i => 4 * b2 i.retryRequired) (fun _ i => by cases i.retryRequired <;> decide)
    (fun h => by have := h.cti; have := h.lc; have := h.pL; omega) aheadC_step

theorem rankC_le {c : Config} {T : Nat} {x : World} (hI : Inv c x.s x.g) (hT : T ≤ x.g.lcrds.length + x.s.cti) :
    rankC T x ≤ 52 := by
  have := hI.hbf; have := hI.hcti; have := hI.hcred; have := hI.hacks4; have := b2_le x.s.lrty
  exact rank_le_of fun f => by cases f <;> simp only [aheadC] <;> omega

/-- **LCRD liveness from any state that satisfies the invariant.**  If `T ≤ LCRDs sent + credits_to_issue` (the `T`-th
LCRD is owed) then it has completed on the wire once the history contains `52 + 4·(retry requests)` ready cycles. -/
theorem lcrd_live (c : Config) (T : Nat) (s : State) (g : Ghost) (h : Inv c s g)
    (hT : T ≤ g.lcrds.length + s.cti) (is : List In) (ho : EnvOk c s g is)
    (hn : 52 + 4 * countIn (·.retryRequired) is ≤ readyCount is) :
    T ≤ (runG c s g is).2.lcrds.length := by
  have := rank_live (rankC_step c T) ⟨s, g, Cnt.init⟩ ⟨h, hT⟩ (rankC_le h hT) is ho
    (by rw [cntS_in c (·.retryRequired)]; exact hn)
  rwa [← runW_sg c is ⟨s, g, Cnt.init⟩]

set_option hygiene false in
local macro "rank_go" hf:ident h0:ident h1:ident : tactic =>
  `(tactic| (
    have hlr : lr s = if s.lrty then 4 else 0 := rfl
    cases hg : s.gen <;> cases hr : i.srcReady <;> cases hl : s.lrty <;> cases hq : i.retryRequired <;>
      simp [$hf:ident, $h0:ident, $h1:ident, hg, hr, hl, hq, fsm_beq, gen_beq, fsmNext, genNext, done, lgoodDone, lcrdDone,
        dispatchNext, generate, ph, nf, nr, na, en, step_fsm, step_gen]
        at fa fc fb flg flc fac lgA lcC fA fC g0 lrD lrN hlr hz ⊢ <;>
      (repeat' split) <;> (try simp only [ph] at *) <;> omega))

end LunaVerif.HeaderRx
