import LunaVerif.Lemmas.C20Control
import LunaVerif.Model.Usb2.ControlCycSys
import LunaVerif.Lemmas.C20Contract
import LunaVerif.Lemmas.C09Block
import LunaVerif.Lemmas.C07Wires
/-!
# C20 — the control endpoint keeps the slot contract (`ctrl_keeps_contract`)

The closed loop `sys2Step` of Model/Usb2/ControlCycSys.lean (C07: `USBControlEndpoint` + `USBRequestHandlerMultiplexer`
+ `StandardRequestHandler` + the `StreamSerializer` transmitter + `GetDescriptorHandlerBlock`) against the slot contract
of Model/Device/SlotContract.lean, in assume/guarantee form.  The setup decoder is outside the loop: `received`, `sdAck`
and the `SetupPacket` registers are inputs of every cycle; what the environment (packet layer + host + decoder) must keep is
the decidable per-cycle predicate `ctlEnv`:

* a `ready_for_response` pulse for the endpoint (`ctlPulse`) is a pulse of the slot (`pul`);
* `setup_decoder.ack` only at a pulse of the slot while the tokenizer shows SETUP; `packet.received` only while the
  tokenizer shows SETUP; the tokenizer's PID decode shows at most one of IN / OUT / SETUP / PING;
* while the slot is armed or sending: no pulse, no `received`, no host ACK forwarded to the handlers, and
  `setup.type` keeps its value (the control endpoint does NOT keep the contract otherwise: a new SETUP in mid-stream
  switches the handler and cuts `tx.valid`);
* while the descriptor handler is in START, the handler's `start_position` fits `position_in_stream` (a host that keeps
  asking for data after the short packet makes `GetDescriptorHandlerBlock` present data without `first`).

The ghost `CG` carries the contract's phase and the previous `setup.type`; `R` relates it to the loop's state.  Idle:
both streamers at rest; armed j: at rest, or the serializer has just been started (j = 0), or the descriptor handler is
in START / LOOKUP_TYPE / LOOKUP_DESCRIPTOR / first byte / ZLP with j = 0 / 1 / 2 / 3 / 2..3; sending: the serializer or
the descriptor handler is streaming.  One cycle keeps the contract and `R` (`ctl_step`), disjunct by disjunct of `R`:
`step_quiet`, `step_ser`, `step_blk`.
-/
namespace LunaVerif.CtrlCyc
open LunaVerif.Device LunaVerif.StreamGen LunaVerif.C20Ctr
open LunaVerif.Desc

theorem hin_su (i : CycIn) (cc : CtrlComb) : (handlerIn i cc).su = i.su := rfl

theorem wires_blk (c : Cfg) (cs : CycState) (i : CycIn) :
    blkInOf cs i (step c cs i).2.h =
      ⟨i.su.value, i.su.length, cs.h.startPos, gd cs i && (ctrlComb c cs.stage i).dataRequested, gd cs i && i.txReady⟩ :=
  blkIn_eq c cs i

theorem wires_ser (c : Cfg) (cs : CycState) (i : CycIn) :
    (serInOf (step c cs i).2.h).start = (gs cs i && (ctrlComb c cs.stage i).dataRequested) ∧
    (serInOf (step c cs i).2.h).ready = (gs cs i && i.txReady) ∧
    (serInOf (step c cs i).2.h).startPosition = 0 ∧
    (gs cs i = true → (serInOf (step c cs i).2.h).maxLength = 1 ∨ (serInOf (step c cs i).2.h).maxLength = 2) := by
  rw [serIn_eq]
  refine ⟨rfl, rfl, rfl, fun h => ?_⟩
  simp only [gs, Bool.and_eq_true, decide_eq_true_eq, Bool.or_eq_true, beq_iff_eq] at h
  rcases h with ⟨hstd, hh | hh⟩ <;> simp [txLen, hstd, hh]

/-- What the control endpoint drives on `handshakes_out` / `tx`, as a signal of its slot. -/
def ctlSig (o : CycOut) : Sig :=
  { hs := o.ack || o.nak || o.stall, valid := o.txValid, first := o.txFirst, last := o.txLast, tstart := false }

/-- `ctlSig` of a cycle as a function of the request handler's state and what reaches the multiplexer (`ctl_sig`): `std` =
`setup.type` is STANDARD, `sd` = the setup decoder's ACK, `stl` = CLEAR_FEATURE stalls this request, `tv tf tl` = the
serializer's `valid` / `first` / `last`, `dv df dl ds` = the descriptor handler's and its `stall`. -/
def sigF (h : HState) (std : Bool) (cc : CtrlComb) (sd stl tv tf tl dv df dl ds : Bool) : Sig :=
  if std then
    match h with
    | .idle => ⟨sd || cc.pingAck, false, false, false, false⟩
    | .getStatus | .getConfiguration => ⟨sd || cc.statusRequested || cc.pingAck, tv, tf, tl, false⟩
    | .clearFeature =>
      ⟨sd || cc.pingAck || (cc.statusRequested && stl), cc.statusRequested && !stl, false, cc.statusRequested && !stl, false⟩
    | .setAddress | .setConfiguration => ⟨sd || cc.pingAck, cc.statusRequested, false, cc.statusRequested, false⟩
    | .getDescriptor => ⟨sd || cc.statusRequested || cc.pingAck || ds, dv, df, dl, false⟩
    | .unhandled => ⟨sd || cc.pingAck || (cc.dataRequested || cc.statusRequested), false, false, false, false⟩
  else ⟨sd || cc.pingAck || (cc.dataRequested || cc.statusRequested), false, false, false, false⟩

theorem ctl_sig (c : Cfg) (cs : CycState) (i : CycIn) :
    ctlSig (step c cs i).2 = sigF cs.h.hstate (decide (i.su.type = TYPE_STANDARD)) (ctrlComb c cs.stage i) i.sdAck
      (clearFeatureStalls i.su) i.tValid i.tFirst i.tLast i.dValid i.dFirst i.dLast i.dStall := by
  simp only [ctlSig, step, stdStep, hin_su, sigF]
  by_cases h : i.su.type = TYPE_STANDARD
  · simp only [h, if_true, decide_true, stdComb]
    cases cs.h.hstate <;> simp [simpleDataOut, regWriteZlp, muxOut, handlerIn]
  · simp [h, muxOut, fallbackOut, handlerIn]

theorem blk_idle' (bc : Block.Config) (b : Block.State) (w : Block.In) (hb : b.fsm = .idle) :
    (Block.step bc b w).2 = Beat.quiet ∧ (Block.step bc b w).1.fsm = (if w.start then .start else .idle) := by
  rw [Block.step_idle bc b hb]
  exact ⟨rfl, rfl⟩

theorem blk_start (bc : Block.Config) (b : Block.State) (w : Block.In) (hb : b.fsm = .start) :
    ((Block.step bc b w).2 = Beat.quiet ∧ (Block.step bc b w).1.fsm = .lookupType ∧
        (Block.step bc b w).1.pos = w.startPos % 2 ^ bc.img.posW) ∨
    ((Block.step bc b w).2 = { Beat.quiet with stall := true } ∧ (Block.step bc b w).1.fsm = .idle) :=
  Block.shape_start bc b w hb

theorem blk_lookupType (bc : Block.Config) (b : Block.State) (w : Block.In) (hb : b.fsm = .lookupType) :
    ((Block.step bc b w).2 = Beat.quiet ∧ (Block.step bc b w).1.pos = b.pos ∧
        ((Block.step bc b w).1.fsm = .lookupDescriptor ∨ (Block.step bc b w).1.fsm = .sendZlp)) ∨
    ((Block.step bc b w).2 = { Beat.quiet with stall := true } ∧ (Block.step bc b w).1.fsm = .idle) :=
  Block.shape_lookupType bc b w hb

theorem blk_lookupDescriptor (bc : Block.Config) (b : Block.State) (w : Block.In) (hb : b.fsm = .lookupDescriptor) :
    (Block.step bc b w).2 = Beat.quiet ∧ (Block.step bc b w).1.pos = b.pos ∧
        ((Block.step bc b w).1.fsm = .sendDescriptor ∨ (Block.step bc b w).1.fsm = .sendZlp) :=
  Block.shape_lookupDescriptor bc b w hb

theorem blk_sendZlp (bc : Block.Config) (b : Block.State) (w : Block.In) (hb : b.fsm = .sendZlp) :
    (Block.step bc b w).2 = ⟨true, false, true, 0, false⟩ ∧ (Block.step bc b w).1.fsm = .idle :=
  Block.step_zlp bc b hb

theorem blk_send (bc : Block.Config) (b : Block.State) (w : Block.In) (hb : b.fsm = .sendDescriptor) :
    (Block.step bc b w).2.valid = true ∧ (Block.step bc b w).2.stall = false ∧
    (Block.step bc b w).2.first = (b.pos == w.startPos) ∧
    (Block.step bc b w).1.fsm = (if w.ready && (Block.step bc b w).2.last then .idle else .sendDescriptor) :=
  Block.shape_send bc b w hb

theorem ser_idle (σ : SerState) (w : SerIn) (hq : σ.fsm = .idle) (h0 : w.startPosition = 0) :
    (serStep txCfg σ w).2.valid = false ∧ (serStep txCfg σ w).2.first = false ∧ (serStep txCfg σ w).2.last = false ∧
    (((serStep txCfg σ w).1.fsm = .idle) ∨
      (w.start = true ∧ (serStep txCfg σ w).1.fsm = .streaming ∧ (serStep txCfg σ w).1.pos = 0)) := by
  simp only [serStep, hq, h0, txCfg]
  cases w.start <;> by_cases h : w.maxLength > 0 <;> simp [h]

theorem ser_done (σ : SerState) (w : SerIn) (hq : σ.fsm = .done) :
    (serStep txCfg σ w).2.valid = false ∧ (serStep txCfg σ w).2.first = false ∧ (serStep txCfg σ w).2.last = false ∧
    (serStep txCfg σ w).1.fsm = .idle := by
  simp [serStep, hq]

theorem ser_stream (σ : SerState) (w : SerIn) (hq : σ.fsm = .streaming) (h0 : w.startPosition = 0) :
    (serStep txCfg σ w).2.valid = true ∧ (serStep txCfg σ w).2.first = (σ.pos == 0) ∧
    (serStep txCfg σ w).1.fsm = (if w.ready && (serStep txCfg σ w).2.last then .done else .streaming) := by
  simp only [serStep, hq, h0]
  simp

/-- Ghost of the control slot: the contract's phase and `setup.type` as it was in the previous cycle. -/
structure CG where
  ph  : Ph
  pty : Nat
deriving DecidableEq, Repr

def ctlEnv (c : Cfg) (bc : Block.Config) (S : Sys2State) (g : CG) (i : CycIn) (pul : Bool) : Bool :=
  (!ctlPulse c i || pul) &&
  (!i.sdAck || (pul && i.isSetup)) &&
  (!i.received || i.isSetup) &&
  pidExcl i &&
  (g.ph == .idle || (!pul && !i.received && !(ctrlComb c S.cs.stage i).hsAck && i.su.type == g.pty)) &&
  (S.blk.fsm != .start || decide (S.cs.h.startPos < 2 ^ bc.img.posW))

def cgNext (L : Nat) (g : CG) (i : CycIn) (pul : Bool) (o : CycOut) : CG :=
  ⟨cnext L g.ph pul i.txReady (ctlSig o), i.su.type⟩

def SerQ' (σ : SerState) : Prop := σ.fsm = .idle ∨ σ.fsm = .done
def Quiet (S : Sys2State) : Prop := S.blk.fsm = .idle ∧ SerQ' S.ser
def SerBusy (S : Sys2State) (g : CG) : Prop :=
  S.blk.fsm = .idle ∧ S.ser.fsm = .streaming ∧ g.pty = TYPE_STANDARD ∧
    (S.cs.h.hstate = .getStatus ∨ S.cs.h.hstate = .getConfiguration)
def BlkBusy (S : Sys2State) (g : CG) : Prop :=
  SerQ' S.ser ∧ g.pty = TYPE_STANDARD ∧ S.cs.h.hstate = .getDescriptor

def R (S : Sys2State) (g : CG) : Prop :=
  (g.ph ≠ .sending ∧ Quiet S) ∨
  (SerBusy S g ∧ (g.ph = .sending ∨ (g.ph = .armed 0 ∧ S.ser.pos = 0))) ∨
  (BlkBusy S g ∧ ((g.ph = .sending ∧ S.blk.fsm = .sendDescriptor) ∨
       (g.ph = .armed 0 ∧ S.blk.fsm = .start) ∨
       (g.ph = .armed 1 ∧ S.blk.fsm = .lookupType ∧ S.blk.pos = S.cs.h.startPos) ∨
       (g.ph = .armed 2 ∧ S.blk.fsm = .lookupDescriptor ∧ S.blk.pos = S.cs.h.startPos) ∨
       (g.ph = .armed 3 ∧ S.blk.fsm = .sendDescriptor ∧ S.blk.pos = S.cs.h.startPos) ∨
       ((g.ph = .armed 2 ∨ g.ph = .armed 3) ∧ S.blk.fsm = .sendZlp)))

/-- With both streamers silent the control endpoint's own drive keeps the contract of a slot that is not sending. -/
theorem sigF_quiet (h : HState) (std : Bool) (cc : CtrlComb) (sd stl : Bool) (ph : Ph) (pul : Bool)
    (hph : ph ≠ .sending) (hi : ph = .idle ∨ pul = false)
    (f1 : pul = false → cc.dataRequested = false ∧ cc.statusRequested = false ∧ cc.pingAck = false ∧ sd = false)
    (f2 : cc.dataRequested = true → cc.statusRequested = false ∧ cc.pingAck = false ∧ sd = false)
    (f3 : cc.statusRequested = true → cc.pingAck = false ∧ sd = false) :
    cok ph pul (sigF h std cc sd stl false false false false false false false) = true ∧
    (sigF h std cc sd stl false false false false false false false).first = false ∧
    (cc.dataRequested = true → std = true →
      (h = .getDescriptor ∨ h = .getStatus ∨ h = .getConfiguration) →
      (sigF h std cc sd stl false false false false false false false).hs = false ∧
      (sigF h std cc sd stl false false false false false false false).valid = false) := by
  obtain ⟨dr, sr, ha, pa⟩ := cc
  dsimp only at f1 f2 f3 ⊢
  refine ⟨?_, by cases std <;> cases h <;> rfl, fun hdr hstd hh => ?_⟩
  · cases pul with
    | false =>
      -- no pulse: no strobe, nothing is driven
      obtain ⟨rfl, rfl, rfl, rfl⟩ := f1 rfl
      cases std <;> cases h <;> simp [sigF, cok, cokB, hph]
    | true =>
      -- a pulse in the idle phase: what remains is that a handshake and the status stage's zero-length packet are
      -- not driven together; the packet needs `status_requested`, which excludes the PING ACK and the decoder's ACK
      obtain rfl : ph = .idle := by simpa using hi
      cases sr with
      | false => cases std <;> cases h <;> simp [sigF, cok, cokB]
      | true =>
        obtain ⟨rfl, rfl⟩ := f3 rfl
        cases std <;> cases h <;> simp [sigF, cok, cokB]
  · obtain ⟨rfl, rfl, rfl⟩ := f2 hdr
    subst hstd
    rcases hh with rfl | rfl | rfl <;> simp [sigF]

def bOut (c : Cfg) (bc : Block.Config) (S : Sys2State) (i : CycIn) : Beat := (blkCycle c bc S.cs S.blk i).2
def sOut (c : Cfg) (S : Sys2State) (i : CycIn) : SerOut := (serCycle c ⟨S.cs, S.ser⟩ i).2
def inOf (c : Cfg) (bc : Block.Config) (S : Sys2State) (i : CycIn) : CycIn :=
  withD (withT i (sOut c S i)) (bOut c bc S i)

theorem inOf_su (c : Cfg) (bc : Block.Config) (S : Sys2State) (i : CycIn) : (inOf c bc S i).su = i.su := rfl
theorem inOf_rc (c : Cfg) (bc : Block.Config) (S : Sys2State) (i : CycIn) : (inOf c bc S i).received = i.received := rfl
/-- The streamers' outputs are no input of `ctrlComb`.  A lemma, and used as one below, because the unifier asked for
`ctrlComb c st (inOf c bc S i) ≡ ctrlComb c st i` first compares `inOf c bc S i` with `i` field by field, which evaluates
both streamers. -/
theorem inOf_cc (c : Cfg) (bc : Block.Config) (S : Sys2State) (i : CycIn) (st : Stage) :
    ctrlComb c st (inOf c bc S i) = ctrlComb c st i := by
  simp only [ctrlComb, targeted, inOf, withD, withT]
theorem inOf_ds (c : Cfg) (bc : Block.Config) (S : Sys2State) (i : CycIn) :
    (inOf c bc S i).dStall = (bOut c bc S i).stall := rfl

theorem sys2_cs (c : Cfg) (bc : Block.Config) (S : Sys2State) (i : CycIn) :
    (sys2Step c bc S i).1.cs = (step c S.cs (inOf c bc S i)).1 := rfl
theorem sys2_blk (c : Cfg) (bc : Block.Config) (S : Sys2State) (i : CycIn) :
    (sys2Step c bc S i).1.blk = (Block.step bc S.blk (blkInOf S.cs i (step c S.cs i).2.h)).1 := rfl
theorem sys2_ser (c : Cfg) (bc : Block.Config) (S : Sys2State) (i : CycIn) :
    (sys2Step c bc S i).1.ser = (serStep txCfg S.ser (serInOf (step c S.cs i).2.h)).1 := rfl
theorem bOut_eq (c : Cfg) (bc : Block.Config) (S : Sys2State) (i : CycIn) :
    bOut c bc S i = (Block.step bc S.blk (blkInOf S.cs i (step c S.cs i).2.h)).2 := rfl
theorem sOut_eq (c : Cfg) (S : Sys2State) (i : CycIn) :
    sOut c S i = (serStep txCfg S.ser (serInOf (step c S.cs i).2.h)).2 := rfl

theorem sys2_sig (c : Cfg) (bc : Block.Config) (S : Sys2State) (i : CycIn) :
    ctlSig (sys2Step c bc S i).2 = sigF S.cs.h.hstate (decide (i.su.type = TYPE_STANDARD)) (ctrlComb c S.cs.stage i)
      i.sdAck (clearFeatureStalls i.su) (sOut c S i).valid (sOut c S i).first (sOut c S i).last
      (bOut c bc S i).valid (bOut c bc S i).first (bOut c bc S i).last (bOut c bc S i).stall := by
  change ctlSig (step c S.cs (inOf c bc S i)).2 = _
  rw [ctl_sig, inOf_cc]; rfl

theorem h_keep_gd_ack (c : Cfg) (cs : CycState) (i : CycIn) (hstd : i.su.type = TYPE_STANDARD)
    (hh : cs.h.hstate = .getDescriptor) (hrc : i.received = false)
    (hsr : (ctrlComb c cs.stage i).statusRequested = false) (hds : i.dStall = false) :
    (step c cs i).1.h.hstate = .getDescriptor ∧
    ((ctrlComb c cs.stage i).hsAck = false → (step c cs i).1.h.startPos = cs.h.startPos) := by
  simp +contextual [step, stdStep, hstd, stdStateBody, hh, handleNewSetup, handlerIn, hrc, hsr, hds]

theorem h_keep_gd (c : Cfg) (cs : CycState) (i : CycIn) (hstd : i.su.type = TYPE_STANDARD)
    (hh : cs.h.hstate = .getDescriptor) (hrc : i.received = false)
    (hsr : (ctrlComb c cs.stage i).statusRequested = false) (hds : i.dStall = false)
    (hak : (ctrlComb c cs.stage i).hsAck = false) :
    (step c cs i).1.h.hstate = .getDescriptor ∧ (step c cs i).1.h.startPos = cs.h.startPos :=
  (h_keep_gd_ack c cs i hstd hh hrc hsr hds).imp id (· hak)

theorem h_keep_gs (c : Cfg) (cs : CycState) (i : CycIn) (hstd : i.su.type = TYPE_STANDARD)
    (hh : cs.h.hstate = .getStatus ∨ cs.h.hstate = .getConfiguration) (hrc : i.received = false)
    (hsr : (ctrlComb c cs.stage i).statusRequested = false) :
    (step c cs i).1.h.hstate = cs.h.hstate := by
  rcases hh with hh | hh <;>
    simp [step, stdStep, hstd, stdStateBody, hh, handleNewSetup, handlerIn, hrc, hsr]

/-- `h_keep_gs` in the closed loop, over the cycle's own inputs. -/
theorem sys2_keep_gs (c : Cfg) (bc : Block.Config) {S : Sys2State} {i : CycIn} (hstd : i.su.type = TYPE_STANDARD)
    (hh : S.cs.h.hstate = .getStatus ∨ S.cs.h.hstate = .getConfiguration) (hrc : i.received = false)
    (hsr : (ctrlComb c S.cs.stage i).statusRequested = false) :
    (sys2Step c bc S i).1.cs.h.hstate = S.cs.h.hstate :=
  h_keep_gs c S.cs (inOf c bc S i) hstd hh hrc (by rwa [inOf_cc])

/-- `h_keep_gd_ack` in the closed loop, over the cycle's own inputs and the descriptor handler's drive. -/
theorem sys2_keep_gd (c : Cfg) (bc : Block.Config) {S : Sys2State} {i : CycIn} (hstd : i.su.type = TYPE_STANDARD)
    (hh : S.cs.h.hstate = .getDescriptor) (hrc : i.received = false)
    (hsr : (ctrlComb c S.cs.stage i).statusRequested = false) (hds : (bOut c bc S i).stall = false) :
    (sys2Step c bc S i).1.cs.h.hstate = .getDescriptor ∧
    ((ctrlComb c S.cs.stage i).hsAck = false → (sys2Step c bc S i).1.cs.h.startPos = S.cs.h.startPos) := by
  have := h_keep_gd_ack c S.cs (inOf c bc S i) hstd hh hrc (by rwa [inOf_cc]) hds
  rwa [inOf_cc] at this

/-- What a cycle's environment assumption gives the proofs (`envF_of`; one direction): `f1`–`f3` are what `strobe_facts` draws
from its first four clauses, `busy` and `pos` are its last two. -/
structure EnvF (c : Cfg) (bc : Block.Config) (S : Sys2State) (g : CG) (i : CycIn) (pul : Bool) : Prop where
  f1 : pul = false → (ctrlComb c S.cs.stage i).dataRequested = false ∧ (ctrlComb c S.cs.stage i).statusRequested = false ∧
        (ctrlComb c S.cs.stage i).pingAck = false ∧ i.sdAck = false
  f2 : (ctrlComb c S.cs.stage i).dataRequested = true → (ctrlComb c S.cs.stage i).statusRequested = false ∧
        (ctrlComb c S.cs.stage i).pingAck = false ∧ i.sdAck = false ∧ i.received = false
  f3 : (ctrlComb c S.cs.stage i).statusRequested = true → (ctrlComb c S.cs.stage i).pingAck = false ∧ i.sdAck = false
  busy : g.ph = .idle ∨ (pul = false ∧ i.received = false ∧ (ctrlComb c S.cs.stage i).hsAck = false ∧ i.su.type = g.pty)
  pos : S.blk.fsm = .start → S.cs.h.startPos < 2 ^ bc.img.posW

theorem envF_of (c : Cfg) (bc : Block.Config) (S : Sys2State) (g : CG) (i : CycIn) (pul : Bool)
    (he : ctlEnv c bc S g i pul = true) : EnvF c bc S g i pul := by
  simp only [ctlEnv, Bool.and_eq_true, Bool.or_eq_true, Bool.not_eq_eq_eq_not, Bool.not_true, beq_iff_eq,
    decide_eq_true_eq, bne_iff_ne, ne_eq] at he
  obtain ⟨⟨⟨⟨⟨e1, e2⟩, e3⟩, e4⟩, e5⟩, e6⟩ := he
  obtain ⟨s1, s2, s3, _⟩ := strobe_facts c S.cs.stage i pul
    (by intro h; rcases e1 with e | e; simp [h] at e; exact e)
    (by intro h; rcases e2 with e | e; simp [h] at e; exact e)
    (by intro h; rcases e3 with e | e; simp [h] at e; exact e) e4
  refine ⟨s1, s2, s3, ?_, ?_⟩
  · rcases e5 with e | e
    · exact Or.inl e
    · exact Or.inr ⟨e.1.1.1, e.1.1.2, e.1.2, e.2⟩
  · intro h; rcases e6 with e | e
    · exact absurd h e
    · exact e

theorem cnext_armed0 (L : Nat) (rdy : Bool) (d : Sig) (h1 : d.hs = false) (h2 : d.valid = false) :
    cnext L .idle true rdy d = .armed 0 := by
  simp [cnext, cnextB, h1, h2]

/-- A serializer at rest drives nothing; only GET_STATUS / GET_CONFIGURATION's `data_requested` starts it. -/
theorem ser_rest (c : Cfg) (bc : Block.Config) {S : Sys2State} (i : CycIn) (hs : SerQ' S.ser) :
    (sOut c S i).valid = false ∧ (sOut c S i).first = false ∧ (sOut c S i).last = false ∧
    ((sys2Step c bc S i).1.ser.fsm = .idle ∨
      ((gs S.cs i && (ctrlComb c S.cs.stage i).dataRequested) = true ∧
        (sys2Step c bc S i).1.ser.fsm = .streaming ∧ (sys2Step c bc S i).1.ser.pos = 0)) := by
  obtain ⟨w1, _, w3, _⟩ := wires_ser c S.cs i
  rw [sOut_eq, sys2_ser, ← w1]
  rcases hs with hs | hs
  · exact ser_idle _ _ hs w3
  · obtain ⟨a, b, c', d⟩ := ser_done S.ser (serInOf (step c S.cs i).2.h) hs
    exact ⟨a, b, c', Or.inl d⟩

theorem step_quiet (c : Cfg) (bc : Block.Config) (L : Nat) {S : Sys2State} {g : CG} {i : CycIn} {pul : Bool}
    (hq : Quiet S) (hph : g.ph ≠ .sending) (he : EnvF c bc S g i pul) :
    cok g.ph pul (ctlSig (sys2Step c bc S i).2) = true ∧
    R (sys2Step c bc S i).1 (cgNext L g i pul (sys2Step c bc S i).2) := by
  obtain ⟨hb, hs⟩ := hq
  obtain ⟨f1, f2, f3, hbusy, _⟩ := he
  obtain ⟨hbo, hbn⟩ := blk_idle' bc S.blk (blkInOf S.cs i (step c S.cs i).2.h) hb
  rw [← bOut_eq] at hbo
  rw [← sys2_blk, wires_blk] at hbn
  obtain ⟨so1, so2, so3, hsn⟩ := ser_rest c bc i hs
  have hi : g.ph = .idle ∨ pul = false := hbusy.imp id (·.1)
  have hsig := sys2_sig c bc S i
  rw [hbo, so1, so2, so3] at hsig
  simp only [Beat.quiet] at hsig
  obtain ⟨k1, k2, k3⟩ := sigF_quiet S.cs.h.hstate (decide (i.su.type = TYPE_STANDARD)) (ctrlComb c S.cs.stage i) i.sdAck
    (clearFeatureStalls i.su) g.ph pul hph hi f1 (fun h => ⟨(f2 h).1, (f2 h).2.1, (f2 h).2.2.1⟩) f3
  rw [← hsig] at k1 k2 k3
  refine ⟨k1, ?_⟩
  -- `data_requested` to a standard data handler comes with the pulse, in the idle phase, and nothing answers yet
  have arm : (ctrlComb c S.cs.stage i).dataRequested = true → i.su.type = TYPE_STANDARD →
      (S.cs.h.hstate = .getDescriptor ∨ S.cs.h.hstate = .getStatus ∨ S.cs.h.hstate = .getConfiguration) →
      (cgNext L g i pul (sys2Step c bc S i).2).ph = .armed 0 := by
    intro hdr hstd hh
    obtain ⟨k4, k5⟩ := k3 hdr (by simp [hstd]) hh
    have hpul : pul = true := by
      cases hp : pul with
      | true => rfl
      | false => have := (f1 hp).1; simp [hdr] at this
    have hidle : g.ph = .idle := by rcases hi with h | h; exact h; simp [hpul] at h
    show cnext L g.ph pul i.txReady _ = _
    rw [hidle, hpul]; exact cnext_armed0 L _ _ k4 k5
  rcases hsn with h | ⟨h1, h2, h3⟩
  · by_cases hst : (gd S.cs i && (ctrlComb c S.cs.stage i).dataRequested) = true
    · -- the descriptor handler is started
      simp only [gd, Bool.and_eq_true, decide_eq_true_eq, beq_iff_eq] at hst
      obtain ⟨⟨hstd, hh⟩, hdr⟩ := hst
      obtain ⟨d1, _, _, d4⟩ := f2 hdr
      refine Or.inr (Or.inr ⟨⟨Or.inl h, hstd, ?_⟩, Or.inr (Or.inl ⟨arm hdr hstd (Or.inl hh), ?_⟩)⟩)
      · exact (sys2_keep_gd c bc hstd hh d4 d1 (by rw [hbo]; rfl)).1
      · rw [hbn]; simp [gd, hstd, hh, hdr]
    · -- neither streamer is started
      exact Or.inl ⟨cnext_ne_sending L g.ph pul i.txReady _ hph k2, by rw [hbn]; simp [hst], Or.inl h⟩
  · -- the serializer is started
    simp only [gs, Bool.and_eq_true, decide_eq_true_eq, Bool.or_eq_true, beq_iff_eq] at h1
    obtain ⟨⟨hstd, hh⟩, hdr⟩ := h1
    obtain ⟨d1, _, _, d4⟩ := f2 hdr
    refine Or.inr (Or.inl ⟨⟨?_, h2, hstd, ?_⟩, Or.inr ⟨arm hdr hstd (Or.inr hh), h3⟩⟩)
    · rw [hbn]; rcases hh with h | h <;> simp [gd, h]
    · rw [sys2_keep_gs c bc hstd hh d4 d1]; exact hh

theorem step_ser (c : Cfg) (bc : Block.Config) (L : Nat) {S : Sys2State} {g : CG} {i : CycIn} {pul : Bool}
    (hb : SerBusy S g) (hp : g.ph = .sending ∨ (g.ph = .armed 0 ∧ S.ser.pos = 0)) (he : EnvF c bc S g i pul) :
    cok g.ph pul (ctlSig (sys2Step c bc S i).2) = true ∧
    R (sys2Step c bc S i).1 (cgNext L g i pul (sys2Step c bc S i).2) := by
  obtain ⟨hbi, hsf, hpt, hh⟩ := hb
  obtain ⟨f1, _, _, hbusy, _⟩ := he
  have hni : g.ph ≠ .idle := by rcases hp with h | h <;> simp [h]
  obtain ⟨hpul, hrc, _, hty⟩ := hbusy.resolve_left hni
  have hstd : i.su.type = TYPE_STANDARD := hty.trans hpt
  obtain ⟨_, s2, s3, s4⟩ := f1 hpul
  have hgs : gs S.cs i = true := by rcases hh with h | h <;> simp [gs, hstd, h]
  have hgd : gd S.cs i = false := by rcases hh with h | h <;> simp [gd, h]
  obtain ⟨hbo, hbn⟩ := blk_idle' bc S.blk (blkInOf S.cs i (step c S.cs i).2.h) hbi
  rw [← bOut_eq] at hbo
  rw [← sys2_blk, wires_blk] at hbn
  simp only [hgd, Bool.false_and, Bool.false_eq_true, if_false] at hbn
  obtain ⟨_, w2, w3, _⟩ := wires_ser c S.cs i
  obtain ⟨t1, t2, t3⟩ := ser_stream S.ser (serInOf (step c S.cs i).2.h) hsf w3
  rw [← sOut_eq] at t1 t2 t3
  rw [← sys2_ser (bc := bc), w2, hgs, Bool.true_and] at t3
  have hsig := sys2_sig c bc S i
  have hsig' : ctlSig (sys2Step c bc S i).2 = ⟨false, true, S.ser.pos == 0, (sOut c S i).last, false⟩ := by
    rw [hsig, hbo, t1, t2]
    rcases hh with h | h <;> simp [sigF, h, hstd, s2, s3, s4]
  have hkeep := sys2_keep_gs c bc hstd hh hrc s2
  have hpty : (cgNext L g i pul (sys2Step c bc S i).2).pty = TYPE_STANDARD := hstd
  have hphn : (cgNext L g i pul (sys2Step c bc S i).2).ph =
      cnext L g.ph pul i.txReady (ctlSig (sys2Step c bc S i).2) := rfl
  have hnext := word_ok L hni (f := S.ser.pos == 0)
    (fun h => by rcases hp with h' | ⟨_, h0⟩; exact absurd h' h; simp [h0]) pul i.txReady (sOut c S i).last false
  rw [← hsig'] at hnext
  refine ⟨hnext.1, ?_⟩
  by_cases hl : (i.txReady && (sOut c S i).last) = true
  · left
    rw [hphn, hnext.2, if_pos hl]
    rw [if_pos hl] at t3
    exact ⟨by simp, hbn, Or.inr t3⟩
  · right; left
    rw [hphn, hnext.2, if_neg hl]
    rw [if_neg hl] at t3
    exact ⟨⟨hbn, t3, hpty, by rw [hkeep]; exact hh⟩, Or.inl rfl⟩

/-- The descriptor handler's inputs while the slot is busy with it. -/
def blkW (S : Sys2State) (i : CycIn) : Block.In := ⟨i.su.value, i.su.length, S.cs.h.startPos, false, i.txReady⟩

/-- One cycle of a slot that is busy with the descriptor handler, read off `Block.step` on `blkW`: there is no pulse, the
endpoint drives what the handler drives, the serializer stays at rest, and unless the handler stalls the request handler
keeps GET_DESCRIPTOR and its `start_position`. -/
structure BlkBusyCycle (c : Cfg) (bc : Block.Config) (L : Nat) (S : Sys2State) (g : CG) (i : CycIn) (pul : Bool) : Prop where
  npul : pul = false
  sig  : ctlSig (sys2Step c bc S i).2 =
          ⟨(Block.step bc S.blk (blkW S i)).2.stall, (Block.step bc S.blk (blkW S i)).2.valid,
           (Block.step bc S.blk (blkW S i)).2.first, (Block.step bc S.blk (blkW S i)).2.last, false⟩
  serq : SerQ' (sys2Step c bc S i).1.ser
  pty  : (cgNext L g i pul (sys2Step c bc S i).2).pty = TYPE_STANDARD
  keep : (Block.step bc S.blk (blkW S i)).2.stall = false →
          (sys2Step c bc S i).1.cs.h.hstate = .getDescriptor ∧ (sys2Step c bc S i).1.cs.h.startPos = S.cs.h.startPos
  bn   : (sys2Step c bc S i).1.blk = (Block.step bc S.blk (blkW S i)).1

theorem blk_common (c : Cfg) (bc : Block.Config) (L : Nat) {S : Sys2State} {g : CG} {i : CycIn} {pul : Bool}
    (hb : BlkBusy S g) (hni : g.ph ≠ .idle) (he : EnvF c bc S g i pul) : BlkBusyCycle c bc L S g i pul := by
  obtain ⟨hsq, hpt, hh⟩ := hb
  obtain ⟨f1, _, _, hbusy, _⟩ := he
  obtain ⟨hpul, hrc, hak, hty⟩ := hbusy.resolve_left hni
  have hstd : i.su.type = TYPE_STANDARD := hty.trans hpt
  obtain ⟨s1, s2, s3, s4⟩ := f1 hpul
  have hgs : gs S.cs i = false := by simp [gs, hh]
  have hgd : gd S.cs i = true := by simp [gd, hstd, hh]
  have hw : blkInOf S.cs i (step c S.cs i).2.h = blkW S i := by
    rw [wires_blk, hgd, s1]; rfl
  have hbo : bOut c bc S i = (Block.step bc S.blk (blkW S i)).2 := by rw [bOut_eq, hw]
  obtain ⟨_, _, _, hsn⟩ := ser_rest c bc i hsq
  rw [hgs, Bool.false_and] at hsn
  refine ⟨hpul, ?_, hsn.elim Or.inl (fun h => nomatch h.1), hstd, ?_, ?_⟩
  · rw [sys2_sig, hbo]
    simp [sigF, hh, hstd, s2, s3, s4]
  · exact fun hst => (sys2_keep_gd c bc hstd hh hrc s2 (by rw [hbo]; exact hst)).imp id (· hak)
  · rw [sys2_blk, hw]

theorem step_blk (c : Cfg) (bc : Block.Config) (L : Nat) (hL : 3 ≤ L) {S : Sys2State} {g : CG} {i : CycIn} {pul : Bool}
    (hb : BlkBusy S g)
    (hp : (g.ph = .sending ∧ S.blk.fsm = .sendDescriptor) ∨
       (g.ph = .armed 0 ∧ S.blk.fsm = .start) ∨
       (g.ph = .armed 1 ∧ S.blk.fsm = .lookupType ∧ S.blk.pos = S.cs.h.startPos) ∨
       (g.ph = .armed 2 ∧ S.blk.fsm = .lookupDescriptor ∧ S.blk.pos = S.cs.h.startPos) ∨
       (g.ph = .armed 3 ∧ S.blk.fsm = .sendDescriptor ∧ S.blk.pos = S.cs.h.startPos) ∨
       ((g.ph = .armed 2 ∨ g.ph = .armed 3) ∧ S.blk.fsm = .sendZlp))
    (he : EnvF c bc S g i pul) :
    cok g.ph pul (ctlSig (sys2Step c bc S i).2) = true ∧
    R (sys2Step c bc S i).1 (cgNext L g i pul (sys2Step c bc S i).2) := by
  have hni : g.ph ≠ .idle := by
    rcases hp with h | h | h | h | h | ⟨h | h, _⟩ <;> simp [h]
  have hpos := he.pos
  obtain ⟨hpul, hsig, hsq, hpty, hkeep, hbn⟩ := blk_common c bc L hb hni he
  subst hpul
  have hphn : (cgNext L g i false (sys2Step c bc S i).2).ph =
      cnext L g.ph false i.txReady (ctlSig (sys2Step c bc S i).2) := rfl
  rw [hsig] at hphn ⊢
  have toQuiet : (sys2Step c bc S i).1.blk.fsm = .idle → (cgNext L g i false (sys2Step c bc S i).2).ph = .idle →
      R (sys2Step c bc S i).1 (cgNext L g i false (sys2Step c bc S i).2) :=
    fun h1 h2 => Or.inl ⟨by simp [h2], h1, hsq⟩
  have toBusy := fun h d => (Or.inr (Or.inr ⟨⟨hsq, hpty, (hkeep h).1⟩, d⟩) :
      R (sys2Step c bc S i).1 (cgNext L g i false (sys2Step c bc S i).2))
  -- the three drives: nothing (the unanswered pulse ages), STALL, a word of the descriptor
  have quietB : ∀ j, g.ph = .armed j → j < L → (Block.step bc S.blk (blkW S i)).2 = Beat.quiet →
      cok g.ph false ⟨false, false, false, false, false⟩ = true ∧
      (Block.step bc S.blk (blkW S i)).2.stall = false ∧
      (cgNext L g i false (sys2Step c bc S i).2).ph = .armed (j + 1) := by
    intro j hj hl ho
    rw [hphn, ho, hj]
    dsimp only [Beat.quiet]
    rw [cok_hs (by simp), cnext_hs L (by simp)]
    simp [expire, hl]
  have stallB : ∀ j, g.ph = .armed j → (Block.step bc S.blk (blkW S i)).2 = { Beat.quiet with stall := true } →
      cok g.ph false ⟨true, false, false, false, false⟩ = true ∧
      (cgNext L g i false (sys2Step c bc S i).2).ph = .idle := by
    intro j hj ho
    rw [hphn, ho, hj]
    dsimp only [Beat.quiet]
    rw [cok_hs (by simp), cnext_hs L (by simp)]
    simp
  have wordB : (g.ph ≠ .sending → (Block.step bc S.blk (blkW S i)).2.first = true) → S.blk.fsm = .sendDescriptor →
      cok g.ph false ⟨(Block.step bc S.blk (blkW S i)).2.stall, (Block.step bc S.blk (blkW S i)).2.valid,
        (Block.step bc S.blk (blkW S i)).2.first, (Block.step bc S.blk (blkW S i)).2.last, false⟩ = true ∧
      R (sys2Step c bc S i).1 (cgNext L g i false (sys2Step c bc S i).2) := by
    intro hfi hf
    obtain ⟨b1, b2, _, b4⟩ := blk_send bc S.blk (blkW S i) hf
    obtain ⟨k1, k2⟩ := word_ok L hni hfi false i.txReady (Block.step bc S.blk (blkW S i)).2.last false
    rw [b1, b2] at hphn ⊢
    rw [k2] at hphn
    refine ⟨k1, ?_⟩
    by_cases hl : (i.txReady && (Block.step bc S.blk (blkW S i)).2.last) = true
    · exact toQuiet (by rw [hbn, b4]; exact if_pos hl) (by rw [hphn, if_pos hl])
    · exact toBusy b2 (Or.inl ⟨by rw [hphn, if_neg hl], by rw [hbn, b4]; exact if_neg hl⟩)
  -- by the descriptor handler's state: streaming, START, LOOKUP_TYPE, LOOKUP_DESCRIPTOR, its first word, the ZLP
  rcases hp with ⟨hph, hf⟩ | ⟨hph, hf⟩ | ⟨hph, hf, hps⟩ | ⟨hph, hf, hps⟩ | ⟨hph, hf, hps⟩ | ⟨hph, hf⟩
  · exact wordB (fun h => absurd hph h) hf
  · rcases blk_start bc S.blk (blkW S i) hf with ⟨b1, b2, b3⟩ | ⟨b1, b2⟩
    · obtain ⟨k1, k2, k3⟩ := quietB 0 hph (by omega) b1
      rw [b1]
      refine ⟨k1, toBusy k2 (Or.inr (Or.inr (Or.inl ⟨k3, by rw [hbn, b2], ?_⟩)))⟩
      rw [hbn, b3, (hkeep k2).2]
      exact Nat.mod_eq_of_lt (hpos hf)
    · obtain ⟨k1, k2⟩ := stallB 0 hph b1
      rw [b1]
      exact ⟨k1, toQuiet (by rw [hbn, b2]) k2⟩
  · rcases blk_lookupType bc S.blk (blkW S i) hf with ⟨b1, b2, b3⟩ | ⟨b1, b2⟩
    · obtain ⟨k1, k2, k3⟩ := quietB 1 hph (by omega) b1
      rw [b1]
      -- the new phase `k3` and the handler's new state `b3` pick the disjunct of `R`; `b2`, `hkeep`, `hps` give the position
      exact ⟨k1, toBusy k2 (by rcases b3 with b3 | b3 <;> simp [k3, hbn, b3, b2, (hkeep k2).2, hps])⟩
    · obtain ⟨k1, k2⟩ := stallB 1 hph b1
      rw [b1]
      exact ⟨k1, toQuiet (by rw [hbn, b2]) k2⟩
  · obtain ⟨b1, b2, b3⟩ := blk_lookupDescriptor bc S.blk (blkW S i) hf
    obtain ⟨k1, k2, k3⟩ := quietB 2 hph (by omega) b1
    rw [b1]
    exact ⟨k1, toBusy k2 (by rcases b3 with b3 | b3 <;> simp [k3, hbn, b3, b2, (hkeep k2).2, hps])⟩
  · refine wordB (fun _ => ?_) hf
    rw [(blk_send bc S.blk (blkW S i) hf).2.2.1, hps]
    exact beq_self_eq_true _
  · obtain ⟨b1, b2⟩ := blk_sendZlp bc S.blk (blkW S i) hf
    have hns : g.ph ≠ .sending := by rcases hph with h | h <;> simp [h]
    rw [b1] at hphn ⊢
    rw [cnext_word L hns] at hphn
    rw [cok_word hns]
    exact ⟨by simp [hni], toQuiet (by rw [hbn, b2]) hphn⟩

def cg0 : CG := ⟨.idle, 0⟩

theorem R_init : R sys2Init cg0 := Or.inl ⟨by simp [cg0], rfl, Or.inl rfl⟩

theorem ctl_step (c : Cfg) (bc : Block.Config) (L : Nat) (hL : 3 ≤ L) {S : Sys2State} {g : CG} {i : CycIn} {pul : Bool}
    (hR : R S g) (he : ctlEnv c bc S g i pul = true) :
    cok g.ph pul (ctlSig (sys2Step c bc S i).2) = true ∧
    R (sys2Step c bc S i).1 (cgNext L g i pul (sys2Step c bc S i).2) := by
  have hf := envF_of c bc S g i pul he
  rcases hR with ⟨h1, h2⟩ | ⟨h1, h2⟩ | ⟨h1, h2⟩
  · exact step_quiet c bc L h2 h1 hf
  · exact step_ser c bc L h1 h2 hf
  · exact step_blk c bc L hL h1 h2 hf

/-- The contract's verdict on the control endpoint's drive of a cycle (`timer.start` is the setup decoder's, not part
of `CycOut`: `tstart = false`), for any `a1`, `a2`. -/
theorem cstep_ctl (L : Nat) (g : CG) (i : CycIn) (pul a1 a2 : Bool) (o : CycOut) :
    cstep L g.ph pul i.txReady a1 a2 (ctlSig o) = (cok g.ph pul (ctlSig o), (cgNext L g i pul o).ph) := by
  simp [cstep, tOk, ctlSig, cgNext]

/-- `pul`: the slot is addressed by a `ready_for_response` pulse in that cycle. -/
def ctlEnvHolds (c : Cfg) (bc : Block.Config) (L : Nat) : Sys2State → CG → List (CycIn × Bool) → Bool
  | _, _, [] => true
  | S, g, (i, pul) :: xs =>
    ctlEnv c bc S g i pul &&
      ctlEnvHolds c bc L (sys2Step c bc S i).1 (cgNext L g i pul (sys2Step c bc S i).2) xs

def ctlKeeps (c : Cfg) (bc : Block.Config) (L : Nat) : Sys2State → CG → List (CycIn × Bool) → Bool
  | _, _, [] => true
  | S, g, (i, pul) :: xs =>
    (cstep L g.ph pul i.txReady false false (ctlSig (sys2Step c bc S i).2)).1 &&
      ctlKeeps c bc L (sys2Step c bc S i).1 (cgNext L g i pul (sys2Step c bc S i).2) xs

/-- Assume/guarantee form: the contract holds in every cycle up to and including the first one in which the
environment breaks its side. -/
def ctlAG (c : Cfg) (bc : Block.Config) (L : Nat) : Sys2State → CG → List (CycIn × Bool) → Bool
  | _, _, [] => true
  | S, g, (i, pul) :: xs =>
    !ctlEnv c bc S g i pul ||
      ((cstep L g.ph pul i.txReady false false (ctlSig (sys2Step c bc S i).2)).1 &&
        ctlAG c bc L (sys2Step c bc S i).1 (cgNext L g i pul (sys2Step c bc S i).2) xs)

theorem ctlAG_of_R (c : Cfg) (bc : Block.Config) (L : Nat) (hL : 3 ≤ L) (xs : List (CycIn × Bool)) :
    ∀ (S : Sys2State) (g : CG), R S g → ctlAG c bc L S g xs = true := by
  induction xs with
  | nil => intros; rfl
  | cons x xs ih =>
    intro S g hR
    obtain ⟨i, pul⟩ := x
    simp only [ctlAG, Bool.or_eq_true, Bool.not_eq_eq_eq_not, Bool.not_true, Bool.and_eq_true]
    cases he : ctlEnv c bc S g i pul with
    | false => exact Or.inl rfl
    | true =>
      obtain ⟨h1, h2⟩ := ctl_step c bc L hL hR he
      refine Or.inr ⟨?_, ih _ _ h2⟩
      rw [cstep_ctl]; exact h1

/-- **The control endpoint keeps the slot contract** (assume/guarantee).  For the closed loop of `USBControlEndpoint` +
request-handler multiplexer + `StandardRequestHandler` + its `StreamSerializer` + `GetDescriptorHandlerBlock`
(`sys2Step`), from reset, for EVERY input history: in every cycle up to and including the first one in which the
environment breaks `ctlEnv`, what the endpoint drives on `handshakes_out` / `tx` is allowed by the slot contract of
`Model/Device/SlotContract.lean` with respect to the pulses `pul` (`3 ≤ L`: the descriptor handler answers at most 4
cycles after `data_requested`). -/
theorem ctrl_keeps_contract (c : Cfg) (bc : Block.Config) (L : Nat) (hL : 3 ≤ L) (xs : List (CycIn × Bool)) :
    ctlAG c bc L sys2Init cg0 xs = true :=
  ctlAG_of_R c bc L hL xs _ _ R_init

theorem ctlKeeps_of_AG (c : Cfg) (bc : Block.Config) (L : Nat) (xs : List (CycIn × Bool)) :
    ∀ (S : Sys2State) (g : CG), ctlAG c bc L S g xs = true → ctlEnvHolds c bc L S g xs = true →
      ctlKeeps c bc L S g xs = true := by
  induction xs with
  | nil => intros; rfl
  | cons x xs ih =>
    intro S g ha he
    simp only [ctlAG, ctlEnvHolds, ctlKeeps, Bool.and_eq_true, Bool.or_eq_true, Bool.not_eq_eq_eq_not,
      Bool.not_true] at ha he ⊢
    obtain ⟨h1, h2⟩ := ha.resolve_left (by simp [he.1])
    exact ⟨h1, ih _ _ h2 he.2⟩

/-- The same as an implication between the two folds. -/
theorem ctrl_keeps_contract_run (c : Cfg) (bc : Block.Config) (L : Nat) (hL : 3 ≤ L) (xs : List (CycIn × Bool))
    (he : ctlEnvHolds c bc L sys2Init cg0 xs = true) : ctlKeeps c bc L sys2Init cg0 xs = true :=
  ctlKeeps_of_AG c bc L xs _ _ (ctrl_keeps_contract c bc L hL xs) he
end LunaVerif.CtrlCyc
