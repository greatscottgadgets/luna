import LunaVerif.Model.Phy.FsRxCdc
/-!
# C25: Amaranth's `AsyncFIFOBuffered` (as instantiated by `RxPipeline`) when writes are far enough apart

`RxPipeline` writes into each of its two clock-domain-crossing FIFOs at most once per bit time (flags) resp. once per
byte (payload), and reads them unconditionally every `usb` cycle; the write cycles are not aligned to the `usb` clock
(under clock drift the bit strobes are 3, 4 or 5 `usb_io` cycles apart).

The FIFO only moves data, so relabelling the data commutes with `Fifo.next` (`next_mapData`, `runFifo_mapData`); the
control behaviour is then a finite check with tags for the data (`tagged_write17`: 8 pointer values x 4 x 4 clock
positions).

* `fifo_idle_run`: without a write nothing is seen and an empty, settled FIFO stays as it is;
* `fifo_write17`: a write into an empty, settled FIFO followed by 16 cycles without a write is shown to the `usb` side
  at the 4th `usb`-edge cycle strictly after the write cycle (sample 3, or 4 if the write cycle is itself an edge
  cycle), exactly once, and the FIFO is empty and settled again after these 17 cycles; `fifo_isolated_write` is the same
  with three more quiet cycles, in terms of the samples with `r_rdy` (a statement of its own: the lemmas below rest on
  `fifo_write17`);
* `fifo_bins`: any write stream whose writes are at least 17 cycles apart, with at least 16 cycles without a write before the
  first and after the last (`Sparse 16 g`, `16 ≤ g`): what the `usb` side samples is the write stream binned at the `usb`
  edges (`bins`), three samples late -- the FIFO is a delay line --, no write is left waiting for its edge (`binsAcc`), and
  the FIFO ends empty and settled;
* `sparse_flatV`: a stream of blocks of ≥ 3 cycles (`flatV`: one optional write per block, in cycle 0 or 2) with at least six
  blocks without a write after every write is such a stream;
* `SpacedB`, `spacedB_nones`: a spacing predicate per bit time (five bit times without a write after every write) and its
  one lemma; nothing uses them (the spacing of a packet's writes is `SpacedGt`, Lemmas/C25RxCdcCross).
-/
namespace LunaVerif.FsRxCdc
open Fifo

/-- one FIFO over a write stream (`some d` = `w_en` with `w_data = d`), `c` = cycle number mod 4, `usb` edge at the end
of the cycles with `c = φ`; returns the (`r_rdy`, `r_data`) the `usb` side samples at its edges -/
def runFifo (φ : Nat) : Nat → Fifo → List (Option Nat) → Fifo × List (Bool × Nat)
  | _, s, [] => (s, [])
  | c, s, w :: ws =>
    let r := runFifo φ ((c + 1) % 4) (s.next w.isSome (w.getD 0) (c == φ)) ws
    (r.1, (if c == φ then [(s.oRdy, s.oData)] else []) ++ r.2)

/-- empty and settled, pointers at `p`; `port`/`r_data` show the (stale) slot the pointers are at -/
def settled (p : Nat) (mem : List Nat) : Fifo :=
  { wBin := p, wGry := gray p, cw0 := gray p, cw1 := gray p, mem := mem, rBin := p, rGry := gray p, pr0 := gray p,
    pr1 := gray p, rs0 := false, rs1 := false, port := mem.getD (p % 4) 0, oData := mem.getD (p % 4) 0, oRdy := false }

def mapData (f : Nat → Nat) (s : Fifo) : Fifo :=
  { s with mem := s.mem.map f, port := f s.port, oData := f s.oData }

theorem next_mapData (f : Nat → Nat) (h0 : f 0 = 0) (s : Fifo) (wEn : Bool) (d : Nat) (e : Bool) :
    (mapData f s).next wEn (f d) e = mapData f (s.next wEn d e) := by
  have hg : ∀ i, (s.mem.map f).getD i 0 = f (s.mem.getD i 0) := by
    intro i
    simp only [List.getD, List.getElem?_map]
    cases s.mem[i]? <;> simp [h0]
  cases e <;> cases wEn <;>
    simp [Fifo.next, mapData, Fifo.wNxt, Fifo.doWrite, Fifo.wRdy, Fifo.wFull, Fifo.rNxt, Fifo.rRdyInner] <;> split <;> simp_all [List.map_set]

theorem runFifo_mapData (f : Nat → Nat) (h0 : f 0 = 0) (φ : Nat) (ws : List (Option Nat)) : ∀ (c : Nat) (s : Fifo),
    runFifo φ c (mapData f s) (ws.map (Option.map f)) =
      (mapData f (runFifo φ c s ws).1, (runFifo φ c s ws).2.map (fun x => (x.1, f x.2))) := by
  induction ws with
  | nil => intro c s; rfl
  | cons w ws ih =>
    intro c s
    have h1 : (Option.map f w).isSome = w.isSome := by cases w <;> rfl
    have h2 : (Option.map f w).getD 0 = f (w.getD 0) := by cases w <;> simp [h0]
    simp only [List.map, runFifo, h1, h2, next_mapData f h0, ih]
    refine Prod.ext rfl ?_
    simp only [List.map_append]
    congr 1
    split <;> simp [mapData]

theorem settled_idle (p : Nat) (hp : p < 8) (mem : List Nat) (e : Bool) :
    (settled p mem).next false 0 e = settled p mem := by
  cases e <;> simp [settled, Fifo.next, Fifo.wNxt, Fifo.doWrite, Fifo.rNxt, Fifo.rRdyInner, Nat.mod_eq_of_lt hp]

/-- what the `usb` side gets out of a sample: the data if `r_rdy` -/
def rdyData (x : Bool × Nat) : Option Nat := if x.1 then some x.2 else none

theorem rdyData_map (f : Nat → Nat) (l : List (Bool × Nat)) :
    (l.map (fun x => (x.1, f x.2))).map rdyData = (l.map rdyData).map (Option.map f) := by
  induction l with
  | nil => rfl
  | cons x xs ih =>
    simp only [List.map] at ih ⊢
    rw [ih]
    obtain ⟨b, v⟩ := x
    cases b <;> rfl

theorem mapData_settled4 (f : Nat → Nat) (p : Nat) (hp : p < 8) (a b c d : Nat) :
    mapData f (settled p [a, b, c, d]) = settled p [f a, f b, f c, f d] := by
  have : p = 0 ∨ p = 1 ∨ p = 2 ∨ p = 3 ∨ p = 4 ∨ p = 5 ∨ p = 6 ∨ p = 7 := by omega
  rcases this with h | h | h | h | h | h | h | h <;> subst h <;> rfl

theorem len4 (mem : List Nat) (h : mem.length = 4) : ∃ a b c d, mem = [a, b, c, d] := by
  match mem, h with
  | [a, b, c, d], _ => exact ⟨a, b, c, d, rfl⟩

theorem runFifo_append (φ : Nat) (a b : List (Option Nat)) : ∀ (c : Nat) (s : Fifo), c < 4 →
    runFifo φ c s (a ++ b) =
      ((runFifo φ ((c + a.length) % 4) (runFifo φ c s a).1 b).1,
       (runFifo φ c s a).2 ++ (runFifo φ ((c + a.length) % 4) (runFifo φ c s a).1 b).2) := by
  induction a with
  | nil => intro c s hc; simp [runFifo, Nat.mod_eq_of_lt hc]
  | cons w ws ih =>
    intro c s hc
    have := ih ((c + 1) % 4) (s.next w.isSome (w.getD 0) (c == φ)) (Nat.mod_lt _ (by omega))
    have hcc : ((c + 1) % 4 + ws.length) % 4 = (c + (ws.length + 1)) % 4 := by omega
    simp only [List.cons_append, runFifo, this, List.length_cons, hcc, List.append_assoc]

/-- number of `usb` edges in `n` cycles starting at cycle number `c` -/
def edges (φ : Nat) : Nat → Nat → Nat
  | _, 0 => 0
  | c, n + 1 => (if c == φ then 1 else 0) + edges φ ((c + 1) % 4) n

theorem runFifo_length (φ : Nat) (W : List (Option Nat)) : ∀ c s, (runFifo φ c s W).2.length = edges φ c W.length := by
  induction W with
  | nil => intro c s; rfl
  | cons w ws ih => intro c s; simp only [runFifo, List.length_append, ih, List.length_cons, edges]; split <;> simp

theorem fifo_idle_run (φ : Nat) (_hφ : φ < 4) (p : Nat) (hp : p < 8) (mem : List Nat) (n : Nat) :
    ∀ c, (runFifo φ c (settled p mem) (List.replicate n none)).1 = settled p mem ∧
      (runFifo φ c (settled p mem) (List.replicate n none)).2.map rdyData = List.replicate (edges φ c n) none := by
  induction n with
  | zero => intro c; exact ⟨rfl, rfl⟩
  | succ n ih =>
    intro c
    obtain ⟨i1, i2⟩ := ih ((c + 1) % 4)
    rw [List.replicate_succ]
    simp only [runFifo, Option.isSome_none, Option.getD_none, settled_idle p hp mem, i1, edges, List.map_append, i2]
    refine ⟨trivial, ?_⟩
    cases hcc : (c == φ)
    · simp
    · simp [settled, rdyData]
      rw [Nat.add_comm 1, List.replicate_succ]

theorem edges_add (φ : Nat) (a b : Nat) : ∀ c, c < 4 → edges φ c (a + b) = edges φ c a + edges φ ((c + a) % 4) b := by
  induction a with
  | zero => intro c hc; simp [edges, Nat.mod_eq_of_lt hc]
  | succ a ih =>
    intro c hc
    have h1 : a + 1 + b = (a + b) + 1 := by omega
    have hcc : ((c + 1) % 4 + a) % 4 = (c + (a + 1)) % 4 := by omega
    rw [h1]
    simp only [edges, ih _ (Nat.mod_lt _ (by omega : 4 > 0)), hcc]
    omega

theorem edges_mono (φ : Nat) (a b : Nat) (h : a ≤ b) (c : Nat) (hc : c < 4) : edges φ c a ≤ edges φ c b := by
  obtain ⟨d, rfl⟩ : ∃ d, b = a + d := ⟨b - a, by omega⟩
  rw [edges_add φ a d c hc]; omega

theorem edges_blocks (φ : Nat) (hφ : φ < 4) (n : Nat) : ∀ c, c < 4 → edges φ c (4 * n) = n := by
  have four : ∀ φ c : Fin 4, edges φ.val c.val 4 = 1 := by decide
  induction n with
  | zero => intro c _; rfl
  | succ n ih =>
    intro c hc
    rw [show 4 * (n + 1) = 4 + 4 * n by omega, edges_add φ 4 (4 * n) c hc, four ⟨φ, hφ⟩ ⟨c, hc⟩,
      show (c + 4) % 4 = c by omega, ih c hc]
    omega

theorem tagged_write17 : ∀ (p : Fin 8) (c φ : Fin 4),
    (runFifo φ.val c.val (settled p.val [1, 2, 3, 4]) (some 5 :: List.replicate 16 none)).1 =
      settled ((p.val + 1) % 8) ([1, 2, 3, 4].set (p.val % 4) 5) ∧
    (runFifo φ.val c.val (settled p.val [1, 2, 3, 4]) (some 5 :: List.replicate 16 none)).2.map rdyData =
      List.replicate (3 + (if c.val == φ.val then 1 else 0)) none ++ [some 5] := by
  decide +kernel

theorem fifo_write17 (p c φ : Nat) (hp : p < 8) (hc : c < 4) (hφ : φ < 4) (mem : List Nat) (hm : mem.length = 4)
    (d : Nat) :
    (runFifo φ c (settled p mem) (some d :: List.replicate 16 none)).1 = settled ((p + 1) % 8) (mem.set (p % 4) d) ∧
    (runFifo φ c (settled p mem) (some d :: List.replicate 16 none)).2.map rdyData =
      List.replicate (3 + (if c == φ then 1 else 0)) none ++ [some d] := by
  obtain ⟨m0, m1, m2, m3, rfl⟩ := len4 mem hm
  let f : Nat → Nat := fun i => [0, m0, m1, m2, m3, d].getD i 0
  have h0 : f 0 = 0 := rfl
  obtain ⟨t1, t2⟩ := tagged_write17 ⟨p, hp⟩ ⟨c, hc⟩ ⟨φ, hφ⟩
  dsimp only at t1 t2
  have hmap := runFifo_mapData f h0 φ (some 5 :: List.replicate 16 none) c (settled p [1, 2, 3, 4])
  have hs : mapData f (settled p [1, 2, 3, 4]) = settled p [m0, m1, m2, m3] := mapData_settled4 f p hp 1 2 3 4
  have hw : (some 5 :: List.replicate 16 none).map (Option.map f) = some d :: List.replicate 16 none := by
    simp [f]
  rw [hw, hs] at hmap
  rw [hmap, t1]
  constructor
  · have : p = 0 ∨ p = 1 ∨ p = 2 ∨ p = 3 ∨ p = 4 ∨ p = 5 ∨ p = 6 ∨ p = 7 := by omega
    rcases this with h | h | h | h | h | h | h | h <;> subst h <;> rfl
  · simp only []
    rw [rdyData_map, t2]
    simp [f]

theorem filter_rdy_none (l : List (Bool × Nat)) (n : Nat) (h : l.map rdyData = List.replicate n none) :
    l.filter (·.1) = [] := by
  rw [List.filter_eq_nil_iff]
  intro x hx
  have : rdyData x ∈ l.map rdyData := List.mem_map.mpr ⟨x, hx, rfl⟩
  rw [h] at this
  have := (List.mem_replicate.mp this).2
  obtain ⟨b, v⟩ := x
  cases b <;> simp_all [rdyData]

theorem filter_rdy (l : List (Bool × Nat)) (n d : Nat) (h : l.map rdyData = List.replicate n none ++ [some d]) :
    l.filter (·.1) = [(true, d)] := by
  obtain ⟨l1, l2, rfl, h1, h2⟩ := List.map_eq_append_iff.mp h
  obtain ⟨⟨b, v⟩, rfl, h3⟩ := List.map_eq_singleton_iff.mp h2
  have : b = true ∧ v = d := by cases b <;> simp_all [rdyData]
  rw [List.filter_append, filter_rdy_none l1 n h1, this.1, this.2]
  rfl

/-- **an isolated write crosses the clock domains exactly once**: from an empty, settled `AsyncFIFOBuffered` (pointers at
any `p`, any memory contents), for any phase `φ` of the `usb` clock and any cycle `c` of the write: one write of `d`
followed by 19 `usb_io` cycles without a write shows `r_rdy` to the `usb` side in exactly one `usb` cycle, with
`r_data = d`, and leaves the FIFO empty and settled with the pointers advanced by one. -/
theorem fifo_isolated_write (p c φ : Nat) (hp : p < 8) (hc : c < 4) (hφ : φ < 4) (m0 m1 m2 m3 d : Nat) :
    (runFifo φ c (settled p [m0, m1, m2, m3]) (some d :: List.replicate 19 none)).1 =
      settled ((p + 1) % 8) ([m0, m1, m2, m3].set (p % 4) d) ∧
    (runFifo φ c (settled p [m0, m1, m2, m3]) (some d :: List.replicate 19 none)).2.filter (·.1) = [(true, d)] := by
  have hl : (some d :: List.replicate 19 none) = (some d :: List.replicate 16 none) ++ List.replicate 3 none := rfl
  have h17 : (some d :: List.replicate 16 (none : Option Nat)).length = 17 := rfl
  obtain ⟨a1, a2⟩ := fifo_write17 p c φ hp hc hφ [m0, m1, m2, m3] rfl d
  obtain ⟨b1, b2⟩ := fifo_idle_run φ hφ ((p + 1) % 8) (Nat.mod_lt _ (by omega)) ([m0, m1, m2, m3].set (p % 4) d)
    3 ((c + 17) % 4)
  rw [hl, runFifo_append φ _ _ c _ hc, h17, a1]
  dsimp only
  refine ⟨b1, ?_⟩
  rw [List.filter_append, filter_rdy _ _ _ a2, filter_rdy_none _ _ b2]
  rfl

/-! ### the FIFO as a delay line -/

/-- The write stream as the `usb` side can at best see it: one entry per `usb` edge, the write of the cycles since the edge
before (`acc` = the write seen since then; the cycle of an edge opens the next entry). -/
def bins (φ : Nat) : Nat → Option Nat → List (Option Nat) → List (Option Nat)
  | _, _, [] => []
  | c, acc, w :: ws => if c == φ then acc :: bins φ ((c + 1) % 4) w ws else bins φ ((c + 1) % 4) (acc.or w) ws

/-- the write still waiting for its edge -/
def binsAcc (φ : Nat) : Nat → Option Nat → List (Option Nat) → Option Nat
  | _, acc, [] => acc
  | c, acc, w :: ws => if c == φ then binsAcc φ ((c + 1) % 4) w ws else binsAcc φ ((c + 1) % 4) (acc.or w) ws

theorem bins_append (φ : Nat) (x y : List (Option Nat)) : ∀ c acc, c < 4 →
    bins φ c acc (x ++ y) = bins φ c acc x ++ bins φ ((c + x.length) % 4) (binsAcc φ c acc x) y ∧
    binsAcc φ c acc (x ++ y) = binsAcc φ ((c + x.length) % 4) (binsAcc φ c acc x) y := by
  induction x with
  | nil => intro c acc hc; simp [bins, binsAcc, Nat.mod_eq_of_lt hc]
  | cons w ws ih =>
    intro c acc hc
    have hcc : ((c + 1) % 4 + ws.length) % 4 = (c + (ws.length + 1)) % 4 := by omega
    have h1 := ih ((c + 1) % 4) w (Nat.mod_lt _ (by omega))
    have h2 := ih ((c + 1) % 4) (acc.or w) (Nat.mod_lt _ (by omega))
    simp only [List.cons_append, bins, binsAcc, List.length_cons]
    split
    · rw [h1.1, h1.2, hcc]; exact ⟨rfl, rfl⟩
    · rw [h2.1, h2.2, hcc]; exact ⟨rfl, rfl⟩

theorem bins_quiet (φ : Nat) (n : Nat) : ∀ c, bins φ c none (List.replicate n none) = List.replicate (edges φ c n) none ∧
    binsAcc φ c none (List.replicate n none) = none := by
  induction n with
  | zero => intro c; exact ⟨rfl, rfl⟩
  | succ n ih =>
    intro c
    obtain ⟨i1, i2⟩ := ih ((c + 1) % 4)
    rw [List.replicate_succ]
    simp only [bins, binsAcc, edges, Option.or_none, i1, i2]
    split <;> simp [List.replicate_succ, Nat.add_comm 1]

/-- a pending write is shown at the next edge -/
theorem bins_flush (φ : Nat) (d : Nat) (n : Nat) : ∀ c, 1 ≤ edges φ c n →
    bins φ c (some d) (List.replicate n none) = some d :: List.replicate (edges φ c n - 1) none ∧
    binsAcc φ c (some d) (List.replicate n none) = none := by
  induction n with
  | zero => intro c h; simp [edges] at h
  | succ n ih =>
    intro c h
    rw [List.replicate_succ]
    simp only [bins, binsAcc, edges] at h ⊢
    by_cases hc : (c == φ) = true
    · obtain ⟨q1, q2⟩ := bins_quiet φ n ((c + 1) % 4)
      simp only [hc, if_true, q1, q2] at h ⊢
      exact ⟨by congr 2; omega, trivial⟩
    · simp only [hc] at h ⊢
      obtain ⟨i1, i2⟩ := ih ((c + 1) % 4) (by simpa using h)
      simp only [Option.or_none, if_false, i1, i2, Bool.false_eq_true]
      exact ⟨by congr 2; omega, trivial⟩

/-- writes more than `thr` entries apart, the last one followed by at least `thr` entries (`g` = entries since the last
write) -/
def Sparse (thr : Nat) : Nat → List (Option Nat) → Bool
  | g, [] => decide (thr ≤ g)
  | g, none :: r => Sparse thr (g + 1) r
  | g, some _ :: r => decide (thr ≤ g) && Sparse thr 0 r

theorem sparse_quiet (thr n : Nat) : ∀ (g : Nat) (R : List (Option Nat)),
    Sparse thr g (List.replicate n none ++ R) = Sparse thr (g + n) R := by
  induction n with
  | zero => intro g R; rfl
  | succ n ih => intro g R; rw [List.replicate_succ]; simp only [List.cons_append, Sparse, ih]; congr 1; omega

theorem sparse_nones (thr n g : Nat) (h : thr ≤ g + n) : Sparse thr g (List.replicate n none) = true := by
  have := sparse_quiet thr n g []
  rw [List.append_nil] at this
  rw [this]; simpa [Sparse] using h

/-- right after a write the next `thr` entries are not writes -/
theorem sparse_lead (thr j : Nat) : ∀ (g : Nat) (W : List (Option Nat)), Sparse thr g W = true → g + j ≤ thr →
    ∃ W', W = List.replicate j none ++ W' ∧ Sparse thr (g + j) W' = true := by
  induction j with
  | zero => intro g W h _; exact ⟨W, rfl, h⟩
  | succ j ih =>
    intro g W h hg
    match W, h with
    | [], h => simp only [Sparse, decide_eq_true_eq] at h; omega
    | some _ :: r, h => simp only [Sparse, Bool.and_eq_true, decide_eq_true_eq] at h; omega
    | none :: r, h =>
      obtain ⟨W', e1, e2⟩ := ih (g + 1) r h (by omega)
      exact ⟨W', by rw [e1, List.replicate_succ]; rfl, by rw [show g + (j + 1) = g + 1 + j by omega]; exact e2⟩

/-- **the crossing is a delay line**: with the writes at least 17 cycles apart, at least 16 cycles without a write before the
first and after the last (`Sparse 16 g`, `16 ≤ g`; `fifo_write17`: the FIFO is empty and settled again before the next write),
what the `usb` side samples is the binned write stream three samples late, whatever the clock phase, the pointers and the
memory contents; no write is left waiting for its edge, and the FIFO ends empty and settled. -/
theorem fifo_bins (φ : Nat) (hφ : φ < 4) (N : Nat) : ∀ (W : List (Option Nat)), W.length ≤ N → ∀ (g : Nat), 16 ≤ g →
    Sparse 16 g W = true → ∀ (p : Nat) (mem : List Nat) (c : Nat), p < 8 → mem.length = 4 → c < 4 →
    (∃ p' mem', p' < 8 ∧ mem'.length = 4 ∧ (runFifo φ c (settled p mem) W).1 = settled p' mem') ∧
    (runFifo φ c (settled p mem) W).2.map rdyData ++ List.replicate 3 none =
      List.replicate 3 none ++ bins φ c none W ∧
    binsAcc φ c none W = none := by
  induction N with
  | zero =>
    intro W hl g _ _ p mem c hp hm _
    have : W = [] := List.eq_nil_of_length_eq_zero (by omega)
    subst this
    exact ⟨⟨p, mem, hp, hm, rfl⟩, rfl, rfl⟩
  | succ N ih =>
    intro W hl g hg hs p mem c hp hm hc
    match W, hl, hs with
    | [], _, _ => exact ⟨⟨p, mem, hp, hm, rfl⟩, rfl, rfl⟩
    | none :: r, hl, hs =>
      obtain ⟨i1, i2, i3⟩ := ih r (by simpa using hl) (g + 1) (by omega) hs p mem ((c + 1) % 4) hp hm (Nat.mod_lt _ (by omega))
      simp only [runFifo, Option.isSome_none, Option.getD_none, settled_idle p hp mem, bins, binsAcc, Option.or_none]
      refine ⟨i1, ?_, ?_⟩
      · by_cases hcc : (c == φ) = true
        · simp only [hcc, if_true, List.map_append, List.append_assoc, i2]
          simp [settled, rdyData, List.replicate_succ]
        · simp only [hcc, if_false, List.nil_append, i2, Bool.false_eq_true]
      · split <;> exact i3
    | some d :: r, hl, hs =>
      simp only [Sparse, Bool.and_eq_true, decide_eq_true_eq] at hs
      obtain ⟨r', rfl, hs'⟩ := sparse_lead 16 16 0 r hs.2 (by omega)
      have hc1 : (c + 17) % 4 < 4 := Nat.mod_lt _ (by omega)
      obtain ⟨a1, a2⟩ := fifo_write17 p c φ hp hc hφ mem hm d
      obtain ⟨i1, i2, i3⟩ := ih r' (by simp at hl; omega) 16 (by omega) (by simpa using hs') ((p + 1) % 8)
        (mem.set (p % 4) d) ((c + 17) % 4) (Nat.mod_lt _ (by omega)) (by simp [hm]) hc1
      have hsp : some d :: (List.replicate 16 none ++ r') = (some d :: List.replicate 16 none) ++ r' := rfl
      have h17 : (some d :: List.replicate 16 (none : Option Nat)).length = 17 := rfl
      obtain ⟨b1, b2⟩ := bins_append φ (some d :: List.replicate 16 none) r' c none hc
      -- the write opens an entry (the next one if its cycle has an edge); the four edges of the 16 cycles close it
      have hb : bins φ c none (some d :: List.replicate 16 none) =
          List.replicate (if c == φ then 1 else 0) none ++ some d :: List.replicate 3 none ∧
          binsAcc φ c none (some d :: List.replicate 16 none) = none := by
        have he : edges φ ((c + 1) % 4) 16 = 4 := edges_blocks φ hφ 4 _ (Nat.mod_lt _ (by omega))
        obtain ⟨f1, f2⟩ := bins_flush φ d 16 ((c + 1) % 4) (by omega)
        simp only [bins, binsAcc, Option.none_or, f1, f2, he]
        split <;> exact ⟨rfl, rfl⟩
      rw [hsp, runFifo_append φ _ _ c _ hc, h17, a1, b1, b2, hb.1, hb.2, h17]
      refine ⟨i1, ?_, i3⟩
      simp only [List.map_append, List.append_assoc, a2, i2]
      simp only [← List.append_assoc, List.replicate_append_replicate]
      simp [List.replicate_succ, Nat.add_comm]

/-! ### streams of blocks of 3, 4 or 5 cycles -/

/-- the cycles of a block of `n` cycles with an optional write in cycle `off` (0: flags, 2: payload) -/
def vblk (off n : Nat) (w : Option Nat) : List (Option Nat) :=
  if off == 0 then w :: List.replicate (n - 1) none else [none, none, w] ++ List.replicate (n - 3) none

def flatV (off : Nat) : List (Nat × Option Nat) → List (Option Nat)
  | [] => []
  | (n, w) :: r => vblk off n w ++ flatV off r

theorem flatV_append (off : Nat) (x y : List (Nat × Option Nat)) : flatV off (x ++ y) = flatV off x ++ flatV off y := by
  induction x with
  | nil => rfl
  | cons a x ih => obtain ⟨n, w⟩ := a; simp only [List.cons_append, flatV, ih, List.append_assoc]

theorem vblk_none (off n : Nat) (hn : 3 ≤ n) : vblk off n none = List.replicate n none := by
  obtain ⟨m, rfl⟩ : ∃ m, n = m + 3 := ⟨n - 3, by omega⟩
  unfold vblk
  split
  · simp [List.replicate_succ]
  · simp [List.replicate_succ]

theorem vblk_some (off n d : Nat) (hn : 3 ≤ n) (ho : off = 0 ∨ off = 2) :
    vblk off n (some d) = List.replicate off none ++ some d :: List.replicate (n - off - 1) none := by
  rcases ho with h | h <;> subst h
  · simp [vblk]
  · have : n - 3 = n - 2 - 1 := by omega
    simp [vblk, List.replicate_succ, this]

def lenSum : List (Nat × Option Nat) → Nat
  | [] => 0
  | (n, _) :: r => n + lenSum r

theorem flatV_length (off : Nat) (l : List (Nat × Option Nat)) (hl : ∀ x ∈ l, 3 ≤ x.1) :
    (flatV off l).length = lenSum l := by
  induction l with
  | nil => rfl
  | cons a r ih =>
    obtain ⟨n, w⟩ := a
    have hn : 3 ≤ n := hl (n, w) (by simp)
    have := ih (fun x hx => hl x (by simp [hx]))
    simp only [flatV, List.length_append, this, lenSum]
    congr 1
    unfold vblk
    split <;> simp <;> omega

/-- block level to cycle level: six blocks are at least 18 cycles (`G` = cycles, `g` = blocks since the last write) -/
theorem sparse_flatV (off : Nat) (ho : off = 0 ∨ off = 2) (W : List (Nat × Option Nat)) : ∀ (g G : Nat),
    (∀ x ∈ W, 3 ≤ x.1) → Sparse 6 g (W.map (·.2)) = true → (3 * g ≤ G ∨ 16 ≤ G) → Sparse 16 G (flatV off W) = true := by
  induction W with
  | nil => intro g G _ hs _; simp only [List.map, Sparse, decide_eq_true_eq, flatV] at hs ⊢; omega
  | cons x W ih =>
    intro g G hl hs hG
    obtain ⟨n, w⟩ := x
    have hn : 3 ≤ n := hl (n, w) (by simp)
    have hl' : ∀ x ∈ W, 3 ≤ x.1 := fun x hx => hl x (by simp [hx])
    cases w with
    | none =>
      rw [flatV, vblk_none off n hn, sparse_quiet]
      exact ih (g + 1) (G + n) hl' hs (by omega)
    | some d =>
      simp only [List.map, Sparse, Bool.and_eq_true, decide_eq_true_eq] at hs
      rw [flatV, vblk_some off n d hn ho, List.append_assoc, sparse_quiet, List.cons_append, Sparse, sparse_quiet]
      simp only [Bool.and_eq_true, decide_eq_true_eq]
      exact ⟨by omega, ih 0 (0 + (n - off - 1)) hl' hs.2 (by omega)⟩

/-! ### writes per bit time -/

/-- every write is followed by at least five bit times without one -/
def SpacedB : List (Option Nat) → Bool
  | [] => true
  | none :: r => SpacedB r
  | some _ :: none :: none :: none :: none :: none :: r => SpacedB r
  | _ => false

theorem spacedB_nones (n : Nat) (r : List (Option Nat)) : SpacedB (List.replicate n none ++ r) = SpacedB r := by
  induction n with
  | zero => rfl
  | succ n ih => rw [List.replicate_succ]; simp only [List.cons_append, SpacedB, ih]

end LunaVerif.FsRxCdc
