import LunaVerif.Model.Periph.StreamGenerator
/-!
# C27 — specification (the players) and what the model's definitions compute; the theorems are in `Props/C27.lean`

The specification is a *player*: a request (start strobe with `max_length > 0` while idle) selects the
list of words `xfer c s M 0 … xfer c s M (N-1)` — computed directly from the constant bytes — and the
player presents word `k` unchanged until it is taken (`ready`), then word `k+1`, …; after the last word it
pulses `done` for one cycle and is idle again.  `emits_slice` proves that the gateware model *is* this
player for every valid configuration, every request within the data and every ready pattern.
-/
namespace LunaVerif.StreamGen

/-- Configurations covered: word width 1, 2 or 4 bytes, non-empty data, a max_length port, valid either
one bit or one bit per byte of a multi-byte word. -/
def Config.Valid (c : Config) : Prop :=
  (c.wb = 1 ∨ c.wb = 2 ∨ c.wb = 4) ∧ 1 ≤ c.data.length ∧ 1 ≤ c.mlw ∧ (c.vw = 1 ∨ (c.vw = c.wb ∧ 1 < c.wb))

/-- bytes to be sent for start position `s` (in words) and length limit `M` (in bytes) -/
def budget (c : Config) (s M : Nat) : Nat := min M (c.data.length - s * c.wb)

def nXfers (c : Config) (s M : Nat) : Nat := (budget c s M + c.wb - 1) / c.wb

structure Xfer where
  payload : Nat
  valid   : Nat
  first   : Bool
  last    : Bool
deriving DecidableEq, Repr

/-- word `k` of the emission -/
def xfer (c : Config) (s M k : Nat) : Xfer :=
  ⟨wordOf c.big ((c.data.drop ((s + k) * c.wb)).take c.wb),
   if c.vw = 1 then 1 else ones (min c.wb (budget c s M - k * c.wb)),
   k == 0,
   k + 1 == nXfers c s M⟩

def xfers (c : Config) (s M : Nat) : List Xfer := (List.range (nXfers c s M)).map (xfer c s M)

/-- The player.  `idle m` / `done m`: `m` is the latched `max_length`; `output_length` shows `outLen c m`, the smaller of it and
the length of the data. -/
inductive Spec
  | idle (m : Nat)
  | play (s M k : Nat)
  | done (m : Nat)
deriving DecidableEq, Repr

def outLen (c : Config) (m : Nat) : Nat := min m c.data.length

def specOut (c : Config) : Spec → Out
  | .idle m => ⟨0, 0, false, false, false, outLen c m⟩
  | .play s M k =>
    let x := xfer c s M k
    ⟨x.valid, x.payload, x.first, x.last, false, outLen c M⟩
  | .done m => ⟨0, 0, false, false, true, outLen c m⟩

def specNext (c : Config) : Spec → In → Spec
  | .idle _, i => if i.start = true ∧ 0 < i.maxLength then .play i.startPosition i.maxLength 0 else .idle i.maxLength
  | .play s M k, i => if i.ready then (if k + 1 = nXfers c s M then .done M else .play s M (k + 1)) else .play s M k
  | .done m, _ => .idle m

def specRun (c : Config) : Spec → List In → List Out
  | _, [] => []
  | q, x :: xs => specOut c q :: specRun c (specNext c q x) xs

/-- Environment: `max_length` fits its port; a request names a start position within the data (in
words); `start_position` is held while the emission is in progress (`first` is computed from the live
input). -/
def Env (c : Config) : Spec → In → Prop
  | .idle _, i => i.maxLength < 2 ^ c.mlw ∧ (i.start = true → 0 < i.maxLength → i.startPosition < nWords c)
  | .play s _ _, i => i.startPosition = s
  | .done _, _ => True

def EnvRun (c : Config) : Spec → List In → Prop
  | _, [] => True
  | q, x :: xs => Env c q x ∧ EnvRun c (specNext c q x) xs

/-- player for the serializer: words are counted, data and max_length are live inputs -/
inductive SerSpec
  | idle
  | play (s M k : Nat)
  | done
deriving DecidableEq, Repr

def serCount (c : SerConfig) (s M : Nat) : Nat := min M (c.n - s)

def serLimit (c : SerConfig) (i : SerIn) : Nat := if c.mlw != 0 then i.maxLength else c.n

def serSpecOut (c : SerConfig) : SerSpec → SerIn → SerOut
  | .idle, _ => ⟨false, 0, false, false, false⟩
  | .play s M k, i =>
    ⟨true, (match i.data[s + k]? with | some v => v | none => i.data.getLastD 0), k == 0, k + 1 == serCount c s M, false⟩
  | .done, _ => ⟨false, 0, false, false, true⟩

def serSpecNext (c : SerConfig) : SerSpec → SerIn → SerSpec
  | .idle, i => if i.start = true ∧ 0 < serLimit c i then .play i.startPosition (serLimit c i) 0 else .idle
  | .play s M k, i => if i.ready then (if k + 1 = serCount c s M then .done else .play s M (k + 1)) else .play s M k
  | .done, _ => .idle

def serSpecRun (c : SerConfig) : SerSpec → List SerIn → List SerOut
  | _, [] => []
  | q, x :: xs => serSpecOut c q x :: serSpecRun c (serSpecNext c q x) xs

/-- Environment of the serializer: requests name a position within the array; `start_position` and
`max_length` are held during an emission (neither is latched); `max_length` fits its port. -/
def SerEnv (c : SerConfig) : SerSpec → SerIn → Prop
  | .idle, i => i.maxLength < 2 ^ c.mlw ∧ (i.start = true → 0 < serLimit c i → i.startPosition < c.n)
  | .play s M _, i => i.startPosition = s ∧ serLimit c i = M
  | .done, _ => True

def SerEnvRun (c : SerConfig) : SerSpec → List SerIn → Prop
  | _, [] => True
  | q, x :: xs => SerEnv c q x ∧ SerEnvRun c (serSpecNext c q x) xs

/-! ## Word count and last word

`nWords`, `nXfers`, `nXfersA` are `⌈· / wb⌉`; through `lt_ceilDiv` the proofs see products `k * wb` only. -/

theorem lt_ceilDiv (wb n a : Nat) (hwb : 0 < wb) : a < (n + wb - 1) / wb ↔ a * wb < n := by
  rw [Nat.lt_div_iff_mul_lt hwb]; omega

theorem ceilDiv_split (wb n : Nat) (hwb : 0 < wb) (hn : 0 < n) :
    ((n + wb - 1) / wb - 1) * wb + (if n % wb = 0 then wb else n % wb) = n ∧ 1 ≤ (n + wb - 1) / wb := by
  have h1 : 0 < (n + wb - 1) / wb := (lt_ceilDiv wb n 0 hwb).mpr (by omega)
  have h2 := (lt_ceilDiv wb n ((n + wb - 1) / wb - 1) hwb).mp (by omega)
  have h3 := mt (lt_ceilDiv wb n ((n + wb - 1) / wb) hwb).mpr (Nat.lt_irrefl _)
  generalize (n + wb - 1) / wb = W at *
  obtain ⟨d, rfl⟩ : ∃ d, W = d + 1 := ⟨W - 1, by omega⟩
  rw [Nat.add_sub_cancel] at h2 ⊢
  rw [Nat.add_mul, Nat.one_mul] at h3
  -- `n = l + d * wb` with `1 ≤ l ≤ wb`, so `n % wb = l % wb`
  obtain ⟨l, rfl⟩ : ∃ l, n = l + d * wb := ⟨n - d * wb, by omega⟩
  rw [Nat.add_mul_mod_self_right]
  refine ⟨?_, h1⟩
  by_cases hl : l = wb
  · subst hl; rw [Nat.mod_self, if_pos rfl]; omega
  · rw [Nat.mod_eq_of_lt (by omega), if_neg (by omega)]; omega

theorem Config.Valid.wb_pos {c : Config} (hc : c.Valid) : 0 < c.wb := by
  obtain ⟨hwb, _⟩ := hc; omega

theorem lt_nWords_iff (c : Config) (hc : c.Valid) (a : Nat) : a < nWords c ↔ a * c.wb < c.data.length :=
  lt_ceilDiv _ _ _ hc.wb_pos

theorem lt_nXfers_iff (c : Config) (hc : c.Valid) (s M k : Nat) : k < nXfers c s M ↔ k * c.wb < budget c s M :=
  lt_ceilDiv _ _ _ hc.wb_pos

theorem lastWord_split (c : Config) (hc : c.Valid) :
    (nWords c - 1) * c.wb + lastWordBytes c = c.data.length ∧ 1 ≤ nWords c :=
  ceilDiv_split _ _ hc.wb_pos hc.2.1

theorem lastWordBytes_le (c : Config) (hc : c.Valid) : 1 ≤ lastWordBytes c ∧ lastWordBytes c ≤ c.wb := by
  have := hc.wb_pos
  have := Nat.mod_lt c.data.length this
  unfold lastWordBytes; split <;> omega

theorem nWords_pos (c : Config) (hc : c.Valid) : 1 ≤ nWords c := (lastWord_split c hc).2

theorem nWords_le_len (c : Config) (hc : c.Valid) : nWords c ≤ c.data.length := by
  apply Nat.le_of_not_lt
  intro h
  have := (lt_nWords_iff c hc _).mp h
  have := Nat.le_mul_of_pos_right c.data.length hc.wb_pos
  omega

/-- `hN` is `N = ⌈B / wb⌉` in the form `lt_nXfers_iff` and `lt_nXfersA_iff` give it. -/
theorem partial_word (wb B k N : Nat) (hN : ∀ j, j < N ↔ j * wb < B) (hk : k < N) :
    (k + 1 < N → ones (min wb (B - k * wb)) = ones wb) ∧
    (k + 1 = N → ones (min wb (B - k * wb)) = ones (B - k * wb) ∧
      1 ≤ B - k * wb ∧ B - k * wb ≤ wb ∧ k * wb + (B - k * wb) = B) := by
  have h0 := (hN k).mp hk
  have h1 := hN (k + 1)
  rw [Nat.add_mul, Nat.one_mul] at h1
  constructor
  · intro h
    rw [Nat.min_eq_left (by omega)]
  · intro h
    rw [Nat.min_eq_right (by omega)]
    omega

/-! ## What the model's definitions compute -/

theorem le_two_pow_rangeWidth (n : Nat) : n ≤ 2 ^ rangeWidth n := by
  unfold rangeWidth
  split
  · simp; omega
  · have := Nat.lt_log2_self (n := n - 1); omega

theorem romRead_eq (c : Config) (a : Nat) (h : a < nWords c) :
    romRead c a = wordOf c.big ((c.data.drop (a * c.wb)).take c.wb) := by
  simp [romRead, rom, List.getElem?_map, List.getElem?_range h]

theorem romRead_oob (c : Config) (a : Nat) (h : nWords c ≤ a) : romRead c a = 0 := by
  have : (rom c)[a]? = none := by
    apply List.getElem?_eq_none
    simp [rom]; exact h
  simp [romRead, this]

theorem ones_and (a b : Nat) (ha : a ≤ 4) (hb : b ≤ 4) : ones a &&& ones b = ones (min a b) := by
  have : ∀ a : Fin 5, ∀ b : Fin 5, ones a.1 &&& ones b.1 = ones (min a.1 b.1) := by decide
  exact this ⟨a, by omega⟩ ⟨b, by omega⟩

theorem ones_lt (a w : Nat) (h : a ≤ w) : ones a % 2 ^ w = ones a := by
  apply Nat.mod_eq_of_lt
  have h1 : 2 ^ a ≤ 2 ^ w := Nat.pow_le_pow_right (by decide) h
  have h2 : 0 < 2 ^ a := Nat.two_pow_pos a
  unfold ones; omega

/-- `rangeWidth` at 3, 5 and 2. -/
theorem rw3 : rangeWidth 3 = 2 := by decide
theorem rw5 : rangeWidth 5 = 3 := by decide
theorem rw2 : rangeWidth 2 = 1 := by decide

theorem outLen_eq (c : Config) (m : Nat) :
    (if m < c.data.length then m else c.data.length) = outLen c m := by
  unfold outLen; split <;> omega

theorem serLimit_lt (c : SerConfig) (i : SerIn) (h : i.maxLength < 2 ^ c.mlw) :
    serLimit c i < 2 ^ serCountWidth c := by
  unfold serLimit serCountWidth
  by_cases hm : c.mlw = 0
  · simp only [hm, bne_self_eq_false, Bool.false_eq_true, if_false]
    have := Nat.lt_log2_self (n := c.n)
    have h2 : 2 ^ (c.n.log2 + 1) ≤ 2 ^ max 1 (c.n.log2 + 1) := Nat.pow_le_pow_right (by decide) (by omega)
    omega
  · have : (c.mlw != 0) = true := by simpa using hm
    simp only [this, if_true]; exact h

/-- Closed form of `stream.valid` (the `bytes_left_over` Switch, the mask of the constant's last word, their AND)
while `bytes_sent` is below the latched limit. -/
theorem validMask_gen (c : Config) (hc : c.Valid) (p b M : Nat) (hb : b < M) :
    validMask c p b M =
      if c.vw = 1 then 1
      else ones (min (M - b) (if p = nWords c - 1 then lastWordBytes c else c.wb)) := by
  have hl4 := lastWordBytes_le c hc
  obtain ⟨hwb, hlen, hmlw, hvw⟩ := hc
  rcases hvw with hv1 | ⟨hvw, hwb1⟩
  · simp [validMask, hv1]
  · have hvne : c.vw ≠ 1 := by omega
    have hne1 : c.wb ≠ 1 := by omega
    have hP : ∃ P, 2 ^ rangeWidth (c.wb + 1) = P ∧ ((c.wb = 2 ∧ P = 4) ∨ (c.wb = 4 ∧ P = 8)) := by
      rcases hwb with h1 | h1 | h1
      · omega
      · exact ⟨4, by rw [h1]; decide, Or.inl ⟨h1, rfl⟩⟩
      · exact ⟨8, by rw [h1]; decide, Or.inr ⟨h1, rfl⟩⟩
    obtain ⟨P, hP1, hP2⟩ := hP
    have hvb : validBitsLastWord c = lastWordBytes c := by simp [validBitsLastWord, hne1]
    have hwb4 : c.wb ≤ 4 := by omega
    -- the step everything turns on: within one word of the limit the truncated subtraction of `bytes_left_over`,
    -- `(M + 2^mlw·P − b) mod P` with `P = 2 ^ rangeWidth (wb + 1)` (4 or 8, `hP`), is `M − b`, and that is in `[1, wb]`
    have hleft : b + c.wb ≥ M → (M + 2 ^ c.mlw * P - b) % P = M - b ∧ 1 ≤ M - b ∧ M - b ≤ c.wb := by
      intro h
      generalize 2 ^ c.mlw = X
      rcases hP2 with ⟨h1, rfl⟩ | ⟨h1, rfl⟩ <;> omega
    simp only [validMask, hvne, if_false, onLast, endData, endMax, Nat.pow_add, hP1, hvb]
    rw [ones_lt _ _ (by omega : lastWordBytes c ≤ c.vw)]
    -- four cases: last word of the data or not × limit within this word or not
    by_cases hd : p = nWords c - 1
    · by_cases hm : b + c.wb ≥ M
      · obtain ⟨g1, g2, g3⟩ := hleft hm
        simp only [hd, beq_self_eq_true, hm, decide_true, Bool.or_self, Bool.and_self, if_true, g1, g2, g3,
          and_self]
        rw [ones_and _ _ (by omega) (by omega)]
        congr 1; omega
      · have e2 : decide (b + c.wb ≥ M) = false := by simp; omega
        simp only [hd, beq_self_eq_true, e2, Bool.or_false, Bool.and_false, Bool.false_eq_true, if_true,
          if_false]
        congr 1; omega
    · have e1 : (p == nWords c - 1) = false := beq_eq_false_iff_ne.mpr hd
      by_cases hm : b + c.wb ≥ M
      · obtain ⟨g1, g2, g3⟩ := hleft hm
        simp only [e1, hm, decide_true, Bool.false_or, Bool.false_and, Bool.false_eq_true, if_true, if_false,
          g1, g2, g3, and_self, hd]
        congr 1; omega
      · have e2 : decide (b + c.wb ≥ M) = false := by simp; omega
        simp only [e1, e2, Bool.or_false, Bool.false_eq_true, if_false, hd, hvw]
        congr 1; omega

theorem onLast_eq (c : Config) (p b M : Nat) :
    onLast c p b M = decide (p = nWords c - 1 ∨ b + c.wb ≥ M) := by
  simp only [onLast, endData, endMax, Bool.decide_or, Bool.beq_eq_decide_eq]

end LunaVerif.StreamGen
