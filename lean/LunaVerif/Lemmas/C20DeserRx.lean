import LunaVerif.Model.Usb2.SetupDecoder
import LunaVerif.Model.Usb2.DataReceiver
/-!
# C20 — the setup decoder's deserializer and the device's data receiver parse the same packet in lock-step

`USBDataPacketDeserializer` (packet.py, instantiated by `USBSetupDecoder` in request.py) and `USBDataPacketReceiver`
(packet.py, instantiated by `USBDevice`) both listen to the same UTMI receive bytes and both read the SHARED CRC16 unit.  `DR` relates their
registers: the FSM states correspond, and from the second payload byte on the deserializer's `last_word` /
`last_word_crc` / `last_byte_crc` equal the receiver's `data_pipeline` / `last_word_crc` / `last_byte_crc`, so that the two
CRC16 checks made when `rx_active` falls (`last_word_crc == last_word` there, `last_word_crc == data_pipeline` here)
decide the same.  `dr_step`: the relation is kept by one cycle (both modules see the same `RxCycle` and the same CRC
output; the bytes are 8 bits wide; `rx_valid` comes only under `rx_active`; nothing is received while the receiver sits in its
inter-packet DELAY).
`deser_new`: the deserializer raises `new_packet` exactly when it is in CAPTURE, `rx_active` falls and its CRC check
passes.  `dr_new8`: such a strobe with `length = 8` (the only one the setup decoder accepts) comes only when the
receiver accepts the packet too (`timer.start`, next state DELAY).
-/
namespace LunaVerif.DeserRx
open LunaVerif LunaVerif.Utmi
open LunaVerif.SetupDecoder (Deser deserStep)

theorem isDataPid_eq (b : Nat) : SetupDecoder.isDataPid b = DataReceiver.isDataPid b := rfl

/-- `(d.position + 14) % 16` is the position less the two CRC bytes. -/
theorem deser_new (d : Deser) (crc : Nat) (i : RxCycle) :
    let r := deserStep d crc i
    (r.newPacket = true ↔ d.fsm = .capture ∧ i.active = false ∧ d.lastWordCrc = d.lastWord) ∧
    (r.newPacket = true → r.length = (d.position + 14) % 16) ∧ (r.fsm ≠ .idle → i.active = true) := by
  cases hf : d.fsm <;> simp only [deserStep, hf] <;> cases i.active <;> simp <;> (repeat' split) <;> simp_all

def DR (d : Deser) (r : DataReceiver.State) : Prop :=
  match d.fsm with
  | .idle => r.fsm = .idle ∨ r.fsm = .delay
  | .readPid => r.fsm = .readPid
  | .capture =>
      (d.position = 0 ∧ r.fsm = .first) ∨
      (d.position = 1 ∧ r.fsm = .second ∧ d.lastByteCrc = r.lastByteCrc ∧ d.lastWord / 256 % 256 = r.pipeHi ∧
        r.pipeHi < 256) ∨
      (2 ≤ d.position ∧ d.position ≤ 10 ∧ r.fsm = .emit ∧ d.lastByteCrc = r.lastByteCrc ∧
        d.lastWordCrc = r.lastWordCrc ∧ d.lastWord = r.pipeLo + 256 * r.pipeHi ∧ r.pipeLo < 256 ∧ r.pipeHi < 256)
  | .irrelevant => r.fsm = .irrelevant ∨ r.fsm = .emit

theorem dr_init : DR SetupDecoder.init.ds DataReceiver.init := by
  simp [DR, SetupDecoder.init, DataReceiver.init]

theorem dr_step (cfg : DataReceiver.Config) (d : Deser) (r : DataReceiver.State) (i : RxCycle)
    (h : DR d r) (hd : r.fsm = .delay → i.active = false) (hv : i.valid = true → i.active = true)
    (hb : i.data < 256) :
    DR (deserStep d (DataCrc.output r.crc) i) (DataReceiver.fsmStep cfg r i).1 := by
  have hm : i.data % 256 = i.data := Nat.mod_eq_of_lt hb
  cases hf : d.fsm <;> simp only [DR, hf] at h
  ·
    rcases h with h | h
    · cases ha : i.active <;> simp [DR, deserStep, DataReceiver.fsmStep, hf, h, ha]
    · by_cases hc : r.counter = cfg.delay <;> simp [DR, deserStep, DataReceiver.fsmStep, hf, h, hd h, hc]
  ·
    cases ha : i.active <;> cases hvv : i.valid <;> cases hp : DataReceiver.isDataPid i.data <;>
      simp [DR, deserStep, DataReceiver.fsmStep, hf, h, ha, hvv, isDataPid_eq, hp]
  ·
    cases ha : i.active <;> cases hvv : i.valid
    · -- `rx_active` falls: in EMIT both make their CRC check
      rcases h with ⟨h0, h1⟩ | ⟨h0, h1, _⟩ | ⟨_, _, h1, _⟩ <;>
        by_cases hc : d.lastWordCrc = d.lastWord <;>
        simp [DR, deserStep, DataReceiver.fsmStep, hf, h1, ha, hvv, hc] <;> split <;> simp
    · simp [hv hvv] at ha
    · rcases h with ⟨h0, h1⟩ | ⟨h0, h1, h2, h3, h4⟩ | ⟨h0, h0', h1, h2, h3, h4, h5, h6⟩ <;>
        simp [DR, deserStep, DataReceiver.fsmStep, *]
    · -- a byte arrives: the first, the second, or a later one (the deserializer gives up after position 10)
      rcases h with ⟨h0, h1⟩ | ⟨h0, h1, h2, h3, h4⟩ | ⟨h0, h0', h1, h2, h3, h4, h5, h6⟩
      · simp [DR, deserStep, DataReceiver.fsmStep, hf, h1, ha, hvv, h0, hm, hb]
        omega
      · simp [DR, deserStep, DataReceiver.fsmStep, hf, h1, ha, hvv, h0, hm, hb, h2, h3, h4]
      · by_cases h10 : d.position = 10
        · simp [DR, deserStep, DataReceiver.fsmStep, hf, h1, ha, hvv, h10]
        · have hlt : ¬ d.position ≥ 10 := by omega
          have : (d.position + 1) % 16 = d.position + 1 := by omega
          simp [DR, deserStep, DataReceiver.fsmStep, hf, h1, ha, hvv, hlt, hm, hb, h2, h6, this]
          refine ⟨by omega, by omega, ?_⟩
          rw [h4]; omega
  ·
    rcases h with h | h <;> cases ha : i.active <;> cases hvv : i.valid <;>
      by_cases hr : r.lastWordCrc = r.pipeLo + 256 * r.pipeHi <;>
      simp [DR, deserStep, DataReceiver.fsmStep, hf, h, ha, hr, hvv]

/-- A `new_packet` strobe with `length = 8` is raised only when the receiver accepts the same packet: the
receiver's `timer.start` is high in that cycle and its next state is DELAY. -/
theorem dr_new8 (cfg : DataReceiver.Config) (d : Deser) (r : DataReceiver.State) (i : RxCycle) (h : DR d r)
    (hn : (deserStep d (DataCrc.output r.crc) i).newPacket = true)
    (hl : (deserStep d (DataCrc.output r.crc) i).length = 8) :
    (DataReceiver.fsmStep cfg r i).2.2.2.2 = true ∧ (DataReceiver.fsmStep cfg r i).1.fsm = .delay := by
  obtain ⟨hn', hlen, _⟩ := deser_new d (DataCrc.output r.crc) i
  obtain ⟨hf, ha, hc⟩ := hn'.mp hn
  rw [hlen hn] at hl
  simp only [DR, hf] at h
  -- `length = 8` puts the position at 10: the receiver is in EMIT, and its CRC check compares the same registers
  rcases h with ⟨h0, _⟩ | ⟨h0, _⟩ | ⟨_, _, h1, _, h3, h4, _⟩
  · omega
  · omega
  · simp [DataReceiver.fsmStep, h1, ha, ← h3, ← h4, hc]
end LunaVerif.DeserRx
