import LunaVerif.Lemmas.C07MpsRead
/-!
# C09 end to end, event level: one whole GET_DESCRIPTOR transfer on the event-level control model (`stepM`)

Helpers of Props/C09EndToEnd.lean.  The host's side of a GET_DESCRIPTOR(`v`, wLength `l`) control read is the script
`getDescriptorScript a v l n` = SETUP token, the 8-byte SETUP data packet, `n` IN + ACK pairs.  From ANY state of the
event-level model (whatever the device did before), for 16-bit `v`, `l` and `l ≠ 0` (with `wLength = 0` there is no data
stage):

* `setup_reading`        the two SETUP events are answered with (nothing, ACK) and leave the standard handler at the
                         start of the data stage (`Reading … 0`: GET_DESCRIPTOR, DATA_IN, `start_position` = 0, DATA1);
* `transfer_resps`       the whole transfer for an existing descriptor `dd`: (nothing, ACK) then
                         `readResps 0 (Desc.dataStage dd l mps)` (C07 `get_descriptor_data_stage_mps`);
* `first_in_resps`, `firstAnswer_stall_iff`   SETUP + first IN: (nothing, ACK, first packet under DATA1 or STALL);
                         STALL iff there is no such descriptor;
* `payloads_readResps`   the payload bytes of `readResps k ps` are `ps.flatten`, so with C09 `dataStage_concat` the
                         data packets concatenate to `dd.take l`;
* `script_legal`         the script is a legal host behaviour (`legalFromM`) after any history, so `LegalHostM` of
                         "prefix ++ script" is `LegalHostM` of the prefix.
-/
namespace LunaVerif.CtrlCyc
open LunaVerif.Device

/-- The SETUP data packet of a standard device-to-host GET_DESCRIPTOR(`wValue = v`, `wIndex = 0`, `wLength = l`). -/
def getDescriptorSetup (v l : Nat) : List Nat := [0x80, 6, v % 256, v / 256, 0, 0, l % 256, l / 256]

/-- The SETUP transaction of the transfer (host side). -/
def setupScript (a v l : Nat) : List Stim :=
  [⟨.token PID_SETUP a 0, .none⟩, ⟨.data PID_DATA0 (getDescriptorSetup v l) true, .none⟩]

/-- The host's side of the transfer up to the end of the data stage: SETUP transaction, `n` IN + ACK pairs. -/
def getDescriptorScript (a v l n : Nat) : List Stim := setupScript a v l ++ readScript a n

theorem getDescriptorScript_length (a v l n : Nat) : (getDescriptorScript a v l n).length = 2 + 2 * n := by
  simp only [getDescriptorScript, setupScript, List.length_append, readScript_length, List.length_cons,
    List.length_nil]

theorem parse_getDescriptorSetup (v l : Nat) (hv : v < 65536) (hl : l < 65536) :
    parseSetup (getDescriptorSetup v l) =
      { isIn := true, type := TYPE_STANDARD, recipient := 0, request := REQ_GET_DESCRIPTOR, value := v, index := 0,
        length := l } := by
  simp only [parseSetup, getDescriptorSetup, byteAt, List.getD_cons_zero, List.getD_cons_succ, TYPE_STANDARD,
    REQ_GET_DESCRIPTOR]
  have h1 : v % 256 % 256 + 256 * (v / 256 % 256) = v := by omega
  have h2 : l % 256 % 256 + 256 * (l / 256 % 256) = l := by omega
  simp only [Nat.mod_mod] at h1 h2
  simp [h1, h2]

theorem setup_token (c : DevConfig) (d : DevState) :
    stepM c d ⟨.token PID_SETUP d.address 0, .none⟩ =
      ({ d with tokPid := PID_SETUP, tokEp := 0, sdWait := true, stage := .setup,
                gRespData := false, gRespLen := 0, gPrevTok := PID_SETUP }, .none) := by
  simp [stepM, coreM, core, onToken, afterToken, tokenStage, Resp.isNone, Resp.isData, Resp.dataLen, tokenPidOf]

/-- **The SETUP transaction of GET_DESCRIPTOR, from any state**, for 16-bit `wValue`, `wLength` and `wLength ≠ 0`
(with 0 the SETUP goes on to the status stage): nothing after the token, ACK after the data packet, and the standard
handler is at the start of the data stage. -/
theorem setup_reading (c : DevConfig) (d : DevState) (v l : Nat) (hv : v < 65536) (hl : l < 65536) (hl0 : l ≠ 0) :
    respsM c d (setupScript d.address v l) = [.none, .hs PID_ACK] ∧
    Reading c v l d.address (finalM c d (setupScript d.address v l)) 0 ∧
    (finalM c d (setupScript d.address v l)).gDataDone = false := by
  have hp := parse_getDescriptorSetup v l hv hl
  have hlen : (getDescriptorSetup v l).length = 8 := rfl
  have h2 : stepM c
      { d with tokPid := PID_SETUP, tokEp := 0, sdWait := true, stage := .setup,
               gRespData := false, gRespLen := 0, gPrevTok := PID_SETUP }
      ⟨.data PID_DATA0 (getDescriptorSetup v l) true, .none⟩ =
      ({ d with tokPid := PID_SETUP, tokEp := 0, sdWait := false, stage := .dataIn,
                setup := parseSetup (getDescriptorSetup v l), hstate := .getDescriptor, startPos := 0, txPid := true,
                gDataDone := false, gRespData := false, gRespLen := 0, gPrevTok := 0 }, .hs PID_ACK) := by
    simp only [stepM, coreM, core, onData, hlen, onSetupData, hp]
    simp [stageAfterSetup, hl0, dispatch, REQ_GET_DESCRIPTOR, REQ_GET_STATUS, REQ_CLEAR_FEATURE, REQ_SET_ADDRESS,
      REQ_SET_CONFIGURATION, TYPE_STANDARD, Resp.isNone, Resp.isData, Resp.dataLen, tokenPidOf]
  refine ⟨?_, ?_, ?_⟩
  · simp only [setupScript, respsM, setup_token, h2]
  · simp only [setupScript, finalM, setup_token, h2, hp]
    constructor <;> simp
  · simp only [setupScript, finalM, setup_token, h2]

theorem setupScript_noforeign (a v l : Nat) : ∀ x ∈ setupScript a v l, x.foreign = .none := by
  intro x hx
  simp only [setupScript, List.mem_cons, List.not_mem_nil, or_false] at hx
  rcases hx with rfl | rfl <;> rfl

theorem getDescriptorScript_noforeign (a v l n : Nat) : ∀ x ∈ getDescriptorScript a v l n, x.foreign = .none := by
  intro x hx
  simp only [getDescriptorScript, List.mem_append] at hx
  rcases hx with hx | hx
  · exact setupScript_noforeign a v l x hx
  · exact readScript_noforeign a n x hx

/-- **The whole transfer for an existing descriptor, event level, from any state.** -/
theorem transfer_resps (c : DevConfig) (hx : c.extra = [])
    (hm : c.maxPacket = 8 ∨ c.maxPacket = 16 ∨ c.maxPacket = 32 ∨ c.maxPacket = 64) (v l : Nat) (dd : List Nat)
    (hv : v < 65536) (hl : l < 65536) (hl0 : l ≠ 0)
    (hlk : lookupDescriptor c.descriptors (v / 256 % 256) (v % 256) = some dd) (hpb : dd.length < 2 ^ c.posBits)
    (h11 : min l dd.length < 2048) (d : DevState) :
    coreRespsM c d (getDescriptorScript d.address v l (Desc.dataStage dd l c.maxPacket).length) =
      [.none, .hs PID_ACK] ++ readResps 0 (Desc.dataStage dd l c.maxPacket) := by
  rw [← respsM_noforeign c d _ (getDescriptorScript_noforeign _ _ _ _), getDescriptorScript, respsM_append]
  obtain ⟨r1, r2, _⟩ := setup_reading c d v l hv hl hl0
  rw [r1, get_descriptor_data_stage_mps c hx hm v l d.address dd hl hlk hpb h11 _ r2]

/-- The SETUP transaction and the first data-stage IN token. -/
def firstInScript (a v l : Nat) : List Stim := setupScript a v l ++ [⟨.token PID_IN a 0, .none⟩]

theorem firstInScript_noforeign (a v l : Nat) : ∀ x ∈ firstInScript a v l, x.foreign = .none := by
  intro x hx
  simp only [firstInScript, List.mem_append, List.mem_cons, List.not_mem_nil, or_false] at hx
  rcases hx with hx | rfl
  · exact setupScript_noforeign a v l x hx
  · rfl

/-- What the standard handler answers to the first data-stage IN token of GET_DESCRIPTOR. -/
def firstAnswer (c : DevConfig) (v l : Nat) : Resp :=
  match descriptorPacket c v l 0 with
  | none => .hs PID_STALL
  | some b => .data PID_DATA1 b

theorem first_in (c : DevConfig) (hx : c.extra = []) (v l a : Nat) (d : DevState) (hr : Reading c v l a d 0) :
    (stepM c d ⟨.token PID_IN a 0, .none⟩).2 = firstAnswer c v l := by
  have h7 : d.startPos = 0 := by rw [hr.pos]; simp
  cases hp : descriptorPacket c v l 0 with
  | some b => rw [read_in c hx v l a d 0 b hr (by rw [h7]; exact hp)]; simp only [firstAnswer, hp]; rfl
  | none =>
    have hreq : request c (afterToken d PID_IN 0) .data =
        (toIdle { afterToken d PID_IN 0 with expectingAck := false }, .hs PID_STALL) := by
      rw [request_noextra c hx]
      simp [afterToken, hr.ty, stdRequest, hr.hstate, hr.value, hr.length, h7, hp]
    have hcore := (coreM_data_in c d hr.stage).2
    rw [hr.addr, hreq] at hcore
    simp only [stepM, hcore, firstAnswer, hp]
    simp [Resp.isNone]

/-- **SETUP transaction + first IN token, event level, from any state**: nothing, ACK, then the first packet under
DATA1 -- or STALL. -/
theorem first_in_resps (c : DevConfig) (hx : c.extra = []) (v l : Nat) (hv : v < 65536) (hl : l < 65536)
    (hl0 : l ≠ 0) (d : DevState) :
    coreRespsM c d (firstInScript d.address v l) = [.none, .hs PID_ACK, firstAnswer c v l] := by
  rw [← respsM_noforeign c d _ (firstInScript_noforeign _ _ _), firstInScript, respsM_append]
  obtain ⟨r1, r2, _⟩ := setup_reading c d v l hv hl hl0
  rw [r1]
  simp only [respsM, first_in c hx v l d.address _ r2, List.cons_append, List.nil_append]

theorem descriptorPacket_some (c : DevConfig) (v l p : Nat) (dd : List Nat)
    (hlk : lookupDescriptor c.descriptors (v / 256 % 256) (v % 256) = some dd) :
    ∃ b, descriptorPacket c v l p = some b := by
  unfold descriptorPacket
  rw [hlk]
  dsimp only
  repeat' split
  all_goals exact ⟨_, rfl⟩

/-- **STALL iff the descriptor does not exist.** -/
theorem firstAnswer_stall_iff (c : DevConfig) (v l : Nat) :
    firstAnswer c v l = .hs PID_STALL ↔ lookupDescriptor c.descriptors (v / 256 % 256) (v % 256) = none := by
  cases hlk : lookupDescriptor c.descriptors (v / 256 % 256) (v % 256) with
  | none =>
    have : descriptorPacket c v l 0 = none := by unfold descriptorPacket; rw [hlk]
    simp [firstAnswer, this]
  | some dd =>
    obtain ⟨b, hb⟩ := descriptorPacket_some c v l 0 dd hlk
    simp [firstAnswer, hb]

/-- The payload bytes of the DATA packets in a list of responses, in order. -/
def payloads : List Resp → List Nat
  | [] => []
  | .data _ p :: rs => p ++ payloads rs
  | _ :: rs => payloads rs

theorem payloads_readResps (ps : List (List Nat)) : ∀ k, payloads (readResps k ps) = ps.flatten := by
  induction ps with
  | nil => intro k; rfl
  | cons p ps ih => intro k; simp only [readResps, payloads, List.flatten_cons, ih]

/-- The data packets of the transfer concatenate to the first `wLength` bytes of the descriptor. -/
theorem payloads_dataStage (dd : List Nat) (l mps : Nat) (hm : 0 < mps) :
    payloads ([.none, .hs PID_ACK] ++ readResps 0 (Desc.dataStage dd l mps)) = dd.take l := by
  simp only [List.cons_append, List.nil_append, payloads, payloads_readResps, Desc.dataStage_concat dd l mps hm]

theorem c09_finalM_append (c : DevConfig) (h₁ h₂ : List Stim) : ∀ d,
    finalM c d (h₁ ++ h₂) = finalM c (finalM c d h₁) h₂ :=
  fun d => finalM_append c d h₁ h₂

theorem setupScript_legal (c : DevConfig) (d : DevState) (v l : Nat) (ha : d.address < 128) (hv : v < 65536)
    (hl : l < 65536) : legalFromM c d (setupScript d.address v l) = true := by
  have hb : (getDescriptorSetup v l).all (· < 256) = true := by
    simp only [getDescriptorSetup, List.all_cons, List.all_nil, Bool.and_true, Bool.and_eq_true, decide_eq_true_eq]
    omega
  simp only [setupScript, legalFromM, setup_token, Bool.and_true, Bool.and_eq_true]
  refine ⟨?_, ?_⟩
  · simp [legalEventM, Resp.isNone, isTokenPid, PID_SETUP, PID_OUT, PID_IN, PID_PING, ha]
  · simp only [legalEventM, hb]
    simp [Resp.isNone, isDataPid, PID_DATA0, PID_SETUP, PID_OUT]

/-- One IN + ACK pair of the read is legal while the data stage is not over; after a full packet it is still not
over. -/
theorem read_pair_legal (c : DevConfig) (hx : c.extra = []) (v l a : Nat) (d : DevState) (k : Nat) (b : List Nat)
    (ha : a < 128) (hr : Reading c v l a d k) (hg : d.gDataDone = false)
    (hp : descriptorPacket c v l ((k * c.maxPacket) % 2048) = some b) :
    legalEventM c d ⟨.token PID_IN a 0, .none⟩ = true ∧
    legalEventM c (stepM c d ⟨.token PID_IN a 0, .none⟩).1 ⟨.handshake PID_ACK, .none⟩ = true ∧
    (c.maxPacket ≤ b.length →
      (stepM c (stepM c d ⟨.token PID_IN a 0, .none⟩).1 ⟨.handshake PID_ACK, .none⟩).1.gDataDone = false) := by
  rw [← hr.pos] at hp
  have h := read_in c hx v l a d k b hr hp
  have hak := read_ack c (stepM c d ⟨.token PID_IN a 0, .none⟩).1 (by rw [h]; exact hr.hstate) (by rw [h]; exact hr.ty)
    (by rw [h]) (by rw [h]) (by rw [h])
  refine ⟨?_, ?_, ?_⟩
  · simp [legalEventM, Resp.isNone, isTokenPid, PID_SETUP, PID_OUT, PID_IN, PID_PING, ha, hg]
  · simp only [legalEventM]
    rw [h]
    simp [Resp.isNone, isHsPid, PID_ACK]
  · intro hfull
    rw [hak, h]
    show (if b.length < c.maxPacket then true else d.gDataDone) = false
    rw [if_neg (by omega), hg]

/-- The read of the packets `ps` from packet `k` on (C07 `read_list`) is legal as long as every packet but the last is
full: a short packet ends the data stage. -/
theorem read_list_legal (c : DevConfig) (hx : c.extra = []) (v l a : Nat) (ha : a < 128) (ps : List (List Nat)) :
    ∀ (k : Nat) (d : DevState), Reading c v l a d k → (ps ≠ [] → d.gDataDone = false) →
      (∀ j p, ps[j]? = some p → descriptorPacket c v l (((k + j) * c.maxPacket) % 2048) = some p ∧
        (j + 1 < ps.length → c.maxPacket ≤ p.length)) →
      legalFromM c d (readScript a ps.length) = true := by
  induction ps with
  | nil => intro k d _ _ _; rfl
  | cons p ps ih =>
    intro k d hr hg hp
    obtain ⟨hp0, hfull⟩ := hp 0 p rfl
    obtain ⟨q1, q2, q3⟩ := read_pair_legal c hx v l a d k p ha hr (hg (List.cons_ne_nil _ _)) hp0
    obtain ⟨_, _, r3⟩ := read_pair c hx v l a d k p hr hp0
    simp only [List.length_cons, readScript, legalFromM, q1, q2, Bool.true_and]
    refine ih (k + 1) _ r3 (fun hne => q3 (hfull ?_)) fun j p' hj => ?_
    · have := List.length_pos_iff.mpr hne; simp only [List.length_cons]; omega
    · rw [Nat.add_right_comm k 1 j]
      exact ⟨(hp (j + 1) p' hj).1, fun h => (hp (j + 1) p' hj).2 (by simp only [List.length_cons]; omega)⟩

/-- **The host's read of an existing descriptor is a legal host behaviour after every history**: SETUP transaction,
then one IN + ACK pair per packet of `Desc.dataStage` (the host stops after the short / zero-length packet or when
`wLength` bytes have arrived). -/
theorem script_legal (c : DevConfig) (hx : c.extra = [])
    (hm : c.maxPacket = 8 ∨ c.maxPacket = 16 ∨ c.maxPacket = 32 ∨ c.maxPacket = 64) (v l : Nat) (dd : List Nat)
    (hv : v < 65536) (hl : l < 65536) (hl0 : l ≠ 0)
    (hlk : lookupDescriptor c.descriptors (v / 256 % 256) (v % 256) = some dd) (hpb : dd.length < 2 ^ c.posBits)
    (h11 : min l dd.length < 2048) (d : DevState) (ha : d.address < 128) :
    legalFromM c d (getDescriptorScript d.address v l (Desc.dataStage dd l c.maxPacket).length) = true := by
  obtain ⟨_, r2, r3⟩ := setup_reading c d v l hv hl hl0
  rw [getDescriptorScript, legalFromM_append, setupScript_legal c d v l ha hv hl, Bool.true_and]
  exact read_list_legal c hx v l d.address ha _ 0 _ r2 (fun _ => r3) fun j p hj =>
    ⟨by rw [Nat.zero_add]; exact descriptorPacket_dataStage c v l dd (by omega) hl hlk hpb h11 j p hj,
     fun h => Nat.le_of_eq ((Desc.dataStage_get dd l c.maxPacket (by omega) j p hj).2.2.2.1 h).1.symm⟩

theorem firstInScript_legal (c : DevConfig) (v l : Nat) (hv : v < 65536) (hl : l < 65536) (hl0 : l ≠ 0)
    (d : DevState) (ha : d.address < 128) : legalFromM c d (firstInScript d.address v l) = true := by
  obtain ⟨_, _, r3⟩ := setup_reading c d v l hv hl hl0
  rw [firstInScript, legalFromM_append, setupScript_legal c d v l ha hv hl, Bool.true_and]
  simp only [legalFromM, Bool.and_true]
  simp [legalEventM, Resp.isNone, isTokenPid, PID_SETUP, PID_OUT, PID_IN, PID_PING, ha, r3]

end LunaVerif.CtrlCyc
