import LunaVerif.Props.C31Phy
import LunaVerif.Props.C32
import LunaVerif.Props.C34
import LunaVerif.Model.Usb3.PhyRx

/-!
# C31 — the receive half of `USB3PhysicalLayer` as a stream function

`Model/Usb3/PhyRx.lean` composes the models of CTCSkipRemover (C32), RxWordAligner / RxPacketAligner (C34) and
Descrambler (C31) as physical/layer.py wires them.  The stages are coupled feed-forward only (valid/data/ctrl;
every `ready` is constant 1), so a run of the composition is the composition of the stages' traces (`run_split`).
Per stage:

* remover  — `remover_stream` (C32's `run_refines`): words out ++ symbols held = symbols held ++ pin symbols
             without SKP;
* aligner  — while its shift stays `e` it is a symbol FIFO (`aligner_fifoS`; at shift 0 a two-word FIFO,
             `aligner_fifo0`): one valid beat in, one valid beat out, an invalid beat in, an invalid beat out;
* descrambler — `descrambler_on_valid_words`: the register moves exactly once per VALID beat, the valid beats
             leave descrambled in order: "the keystream advances only when a word is actually transferred".

`front_stream` / `back_stream` put the stages together.
-/
namespace LunaVerif.PhyRx
open LunaVerif.Crc LunaVerif.Scrambler LunaVerif.Ss
open LunaVerif.PhyTx (toSs headIsCom)

abbrev Word := List Ss.Sym

/-! ## The four stages as trace transformers -/

/-- valid words of an aligner's output trace -/
def alWords : List RxAligner.Out → List Word
  | [] => []
  | o :: os => if o.srcValid then o.srcWord :: alWords os else alWords os

/-- valid words of an aligner's input trace -/
def inWords : List RxAligner.In → List Word
  | [] => []
  | i :: is => if i.valid then i.word :: inWords is else inWords is

/-- the descrambler over the word aligner's output trace: the packet aligner's input trace -/
def dTrace (en : Bool) : Reg → List RxAligner.Out → List RxAligner.In
  | _, [] => []
  | r, o :: os =>
    palIn (Scrambler.step descrInit r (descrIn o en)).2 :: dTrace en (Scrambler.step descrInit r (descrIn o en)).1 os

def dFinal (en : Bool) : Reg → List RxAligner.Out → Reg
  | r, [] => r
  | r, o :: os => dFinal en (Scrambler.step descrInit r (descrIn o en)).1 os

/-- the receive path's `source` beats -/
def srcWords : List Out → List Word
  | [] => []
  | o :: os => if o.srcValid then o.srcWord :: srcWords os else srcWords os

def ctcTrace (s : State) (ins : List In) : List CtcRemover.Out := (CtcRemover.run s.ctc (ins.map ctcIn)).1
def walTrace (s : State) (ins : List In) : List RxAligner.Out :=
  RxAligner.run .word s.wal ((ctcTrace s ins).map walIn)
def palInTrace (en : Bool) (s : State) (ins : List In) : List RxAligner.In := dTrace en s.reg (walTrace s ins)

theorem run_split (en : Bool) (s : State) (ins : List In) (hen : ∀ i ∈ ins, i.enable = en) :
    srcWords (run s ins).1 = alWords (RxAligner.run .packet s.pal (palInTrace en s ins)) ∧
    (run s ins).2.ctc = (CtcRemover.run s.ctc (ins.map ctcIn)).2 ∧
    (run s ins).2.wal = RxAligner.final .word s.wal ((ctcTrace s ins).map walIn) ∧
    (run s ins).2.reg = dFinal en s.reg (walTrace s ins) ∧
    (run s ins).2.pal = RxAligner.final .packet s.pal (palInTrace en s ins) := by
  induction ins generalizing s with
  | nil => simp [run, srcWords, alWords, palInTrace, walTrace, ctcTrace, CtcRemover.run, RxAligner.run, dTrace,
      RxAligner.final, dFinal]
  | cons i is ih =>
    have hi : i.enable = en := hen i (by simp)
    have := ih (step s i).1 (fun j hj => hen j (by simp [hj]))
    simp only [palInTrace, walTrace, ctcTrace] at this ⊢
    simp only [run, srcWords, List.map_cons, CtcRemover.run, RxAligner.run, dTrace, alWords, RxAligner.final, dFinal]
    simp only [step, RxAligner.step, hi] at this ⊢
    refine ⟨?_, this.2.1, this.2.2.1, this.2.2.2.1, this.2.2.2.2⟩
    rw [this.1]


/-! ## An aligner that keeps shift `e` is a symbol FIFO -/

def srcS (a : RxAligner.State) : List Ss.Sym := if a.srcValid then a.src else []

/-- the symbols an aligner at shift `e` still holds: the registered output beat (if valid) and the last `4 - e`
symbols of the history word -/
def tailS (e : Nat) (a : RxAligner.State) : List Ss.Sym := srcS a ++ a.prev.drop e

theorem window_tail (e : Nat) (p w : Word) (hp : p.length = 4) (he : e ≤ 4) :
    RxAligner.window e (p ++ w) ++ w.drop e = p.drop e ++ w := by
  unfold RxAligner.window
  rw [List.drop_append_of_le_length (by omega)]
  have h4 : 4 = (p.drop e).length + e := by simp [hp]; omega
  conv => lhs; arg 1; rw [h4, List.take_length_add_append]
  rw [List.append_assoc, List.take_append_drop]

theorem length_window (e : Nat) (p w : Word) (hp : p.length = 4) (hw : w.length = 4) (he : e ≤ 4) :
    (RxAligner.window e (p ++ w)).length = 4 := by
  simp [RxAligner.window, hp, hw]; omega

theorem aligner_fifoS (kd : RxAligner.Kind) (e : Nat) (a : RxAligner.State) (I : List RxAligner.In)
    (hs : a.shift = e) (he : e < 4) (hp : a.prev.length = 4) (hsl : a.srcValid = true → a.src.length = 4)
    (hwf : ∀ w ∈ inWords I, w.length = 4) (hq : RxAligner.NoRealign kd e a.prev I) :
    (alWords (RxAligner.run kd a I)).flatten ++ tailS e (RxAligner.final kd a I)
      = tailS e a ++ (inWords I).flatten ∧
    (∀ w ∈ alWords (RxAligner.run kd a I), w.length = 4) ∧
    (RxAligner.final kd a I).shift = e ∧ (RxAligner.final kd a I).prev.length = 4 ∧
    ((RxAligner.final kd a I).srcValid = true → (RxAligner.final kd a I).src.length = 4) := by
  induction I generalizing a with
  | nil => simp [RxAligner.run, RxAligner.final, alWords, inWords, hs, hp]; exact hsl
  | cons i is ih =>
    obtain ⟨hd, hq'⟩ := RxAligner.noRealign_cons kd e a.prev i is hq
    have hn := RxAligner.next_at_offset kd e a i hs hd
    have hout : alWords (RxAligner.run kd a (i :: is))
        = (if a.srcValid then [a.src] else []) ++ alWords (RxAligner.run kd (RxAligner.next kd a i) is) := by
      cases hsv : a.srcValid <;> simp [RxAligner.run, alWords, RxAligner.outOf, hsv]
    have hlen0 : ∀ w ∈ (if a.srcValid then [a.src] else []), w.length = 4 := by
      intro w hw
      cases hsv : a.srcValid <;> simp [hsv] at hw
      rw [hw]; exact hsl hsv
    have hfl : ((if a.srcValid then [a.src] else []) : List Word).flatten = srcS a := by
      cases hsv : a.srcValid <;> simp [srcS, hsv]
    have hiw : i.valid = true → i.word.length = 4 := fun hv => hwf _ (by simp [inWords, hv])
    have hwf' : ∀ w ∈ inWords is, w.length = 4 := by
      intro w hw; apply hwf; cases hv : i.valid <;> simp [inWords, hv, hw]
    have := ih (RxAligner.next kd a i) (by rw [hn])
      (by rw [hn]; show (if i.valid then i.word else a.prev).length = 4
          split
          · exact hiw ‹_›
          · exact hp)
      (by rw [hn]; exact fun hv => length_window e _ _ hp (hiw hv) (by omega)) hwf' (by rw [hn]; exact hq')
    refine ⟨?_, ?_, this.2.2⟩
    · rw [hout, List.flatten_append, hfl, List.append_assoc]
      simp only [RxAligner.final]
      rw [this.1, hn]
      cases hv : i.valid
      · simp [tailS, srcS, inWords, hv]
      · simp only [tailS, srcS, inWords, hv, if_true, List.flatten_cons]
        rw [List.append_assoc, ← List.append_assoc _ (i.word.drop e), window_tail e _ _ hp (by omega)]
        simp [List.append_assoc]
    · rw [hout]; intro w hw
      rcases List.mem_append.1 hw with h | h
      · exact hlen0 w h
      · exact this.2.1 w h

/-! ## At shift 0: a two-word FIFO -/

/-- the words an aligner at shift 0 still holds: the registered output beat (if valid) and the history word -/
def tailW (a : RxAligner.State) : List Word := (if a.srcValid then [a.src] else []) ++ [a.prev]

theorem tailW_len4 (a : RxAligner.State) (h1 : a.srcValid = true → a.src.length = 4) (h2 : a.prev.length = 4) :
    ∀ w ∈ tailW a, w.length = 4 := by
  intro w hw
  cases hv : a.srcValid <;> simp [tailW, hv] at hw
  · rw [hw]; exact h2
  · rcases hw with rfl | rfl
    · exact h1 hv
    · exact h2

theorem flatten_tailW (a : RxAligner.State) : (tailW a).flatten = tailS 0 a := by
  cases hv : a.srcValid <;> simp [tailW, tailS, srcS, hv]

theorem aligner_fifo0 (kd : RxAligner.Kind) (a : RxAligner.State) (I : List RxAligner.In)
    (hs : a.shift = 0) (hp : a.prev.length = 4) (hsl : a.srcValid = true → a.src.length = 4)
    (hwf : ∀ w ∈ inWords I, w.length = 4) (hq : RxAligner.NoRealign kd 0 a.prev I) :
    alWords (RxAligner.run kd a I) ++ tailW (RxAligner.final kd a I) = tailW a ++ inWords I ∧
    (RxAligner.final kd a I).shift = 0 ∧ (RxAligner.final kd a I).prev.length = 4 ∧
    ((RxAligner.final kd a I).srcValid = true → (RxAligner.final kd a I).src.length = 4) := by
  obtain ⟨h1, h2, h3, h4, h5⟩ := aligner_fifoS kd 0 a I hs (by omega) hp hsl hwf hq
  refine ⟨flatten_inj4 _ _ ?_ ?_ ?_, h3, h4, h5⟩
  · intro w hw
    rcases List.mem_append.1 hw with h | h
    · exact h2 w h
    · exact tailW_len4 _ h5 h4 w h
  · intro w hw
    rcases List.mem_append.1 hw with h | h
    · exact tailW_len4 a hsl hp w h
    · exact hwf w h
  · rw [List.flatten_append, List.flatten_append, flatten_tailW, flatten_tailW, h1]

/-! ## The descrambler on the valid words -/

/-- one word through the descrambler (symbols converted to the scrambler model's bit lists and back) -/
def dW (en : Bool) (r : Reg) (w : Word) : Word := (scrWord en (w.map ofSs) (keyBytes r)).map toSs

/-- the descrambler's register after a valid word: restart after COM in symbol 0, else one word on -/
def nextReg (r : Reg) (w : Word) : Reg := if headIsCom (w.map ofSs) then initReg descrInit else lfsrNext r

/-- the descrambler as a function on word streams: the register moves once per word -/
def descr (en : Bool) : Reg → List Word → List Word
  | _, [] => []
  | r, w :: ws => dW en r w :: descr en (nextReg r w) ws

def regAfterW : Reg → List Word → Reg
  | r, [] => r
  | r, w :: ws => regAfterW (nextReg r w) ws

theorem descr_append (en : Bool) (r : Reg) (u v : List Word) :
    descr en r (u ++ v) = descr en r u ++ descr en (regAfterW r u) v := by
  induction u generalizing r with
  | nil => rfl
  | cons w ws ih => simp [descr, regAfterW, ih]

theorem regAfterW_append (r : Reg) (u v : List Word) : regAfterW r (u ++ v) = regAfterW (regAfterW r u) v := by
  induction u generalizing r with
  | nil => rfl
  | cons w ws ih => simp [regAfterW, ih]

/-- **The keystream advances only when a word is actually transferred**: over the word aligner's output trace
the descrambler's register moves exactly once per VALID beat (not in the gaps the removed SKP symbols leave), and
the valid beats it hands to the packet aligner are the valid words descrambled in order. -/
theorem descrambler_on_valid_words (en : Bool) (r : Reg) (os : List RxAligner.Out) :
    inWords (dTrace en r os) = descr en r (alWords os) ∧ dFinal en r os = regAfterW r (alWords os) := by
  induction os generalizing r with
  | nil => simp [dTrace, dFinal, inWords, alWords, descr, regAfterW]
  | cons o os ih =>
    cases hv : o.srcValid
    · have hr : (Scrambler.step descrInit r (descrIn o en)).1 = r := by
        simp [Scrambler.step, lfsrStep, lfsrClear, lfsrAdvance, commaPresent, descrIn, hv]
      simp only [dTrace, dFinal, inWords, alWords, hv, hr, Bool.false_eq_true, if_false]
      simpa [palIn, Scrambler.step, descrIn, hv] using ih r
    · have hr : (Scrambler.step descrInit r (descrIn o en)).1 = nextReg r o.srcWord := by
        have hcp : commaPresent (descrIn o en) = headIsCom (o.srcWord.map ofSs) := by
          simp only [commaPresent, descrIn, hv, Bool.true_and]
          cases o.srcWord.map ofSs <;> rfl
        simp only [Scrambler.step, lfsrStep, lfsrClear, lfsrAdvance, hcp, nextReg]
        simp [descrIn, hv]
      simp only [dTrace, dFinal, inWords, alWords, hv, hr, if_true, descr, regAfterW]
      have := ih (nextReg r o.srcWord)
      simp [palIn, Scrambler.step, descrIn, hv, dW, this.1, this.2]


/-! ## The chain -/

theorem inWords_walIn (os : List CtcRemover.Out) : inWords (os.map walIn) = CtcRemover.outWords os := by
  induction os with
  | nil => rfl
  | cons o os ih => cases h : o.srcValid <;> simp [inWords, CtcRemover.outWords, walIn, h, ih]

theorem length_dW (en : Bool) (r : Reg) (w : Word) : (dW en r w).length = w.length := by
  simp [dW, length_scrWord]

theorem descr_len4 (en : Bool) (r : Reg) (ws : List Word) (h : ∀ w ∈ ws, w.length = 4) :
    ∀ w ∈ descr en r ws, w.length = 4 := by
  induction ws generalizing r with
  | nil => simp [descr]
  | cons x xs ih =>
    intro w hw
    simp only [descr, List.mem_cons] at hw
    rcases hw with rfl | hw
    · rw [length_dW]; exact h x (by simp)
    · exact ih _ (fun y hy => h y (by simp [hy])) w hw

def pinSyms (ins : List In) : List Ss.Sym := ins.flatMap (·.rx)

theorem spec_ctcIn (ins : List In) :
    CtcRemover.spec (ins.map ctcIn) = (pinSyms ins).filter (fun x => !isSkp x) := by
  induction ins with
  | nil => rfl
  | cons i is ih =>
    simp only [CtcRemover.spec] at ih
    simp [CtcRemover.spec, CtcRemover.inSyms, ctcIn, pinSyms, List.filter_append, ih]

theorem remover_stream (s : State) (ins : List In) (hc : CtcRemover.Inv s.ctc) (hrx : ∀ i ∈ ins, i.rx.length = 4) :
    CtcRemover.Inv (CtcRemover.run s.ctc (ins.map ctcIn)).2 ∧
    (CtcRemover.outWords (ctcTrace s ins)).flatten ++ CtcRemover.pending (CtcRemover.run s.ctc (ins.map ctcIn)).2
      = CtcRemover.pending s.ctc ++ (pinSyms ins).filter (fun x => !isSkp x) ∧
    ∀ w ∈ CtcRemover.outWords (ctcTrace s ins), w.length = 4 := by
  have henv : CtcRemover.Env (ins.map ctcIn) := by
    intro i hi
    obtain ⟨j, hj, rfl⟩ := List.mem_map.1 hi
    exact ⟨rfl, hrx j hj⟩
  have h := CtcRemover.run_refines s.ctc (ins.map ctcIn) hc henv
  rwa [CtcRemover.outSyms_eq_flatten, spec_ctcIn] at h

/-- the state of the receive path is one the theorems speak about: the remover's invariant, the word aligner
at shift `e`, the packet aligner at shift 0, four-symbol registers -/
structure Locked (e : Nat) (s : State) : Prop where
  ctc  : CtcRemover.Inv s.ctc
  he   : e < 4
  wsh  : s.wal.shift = e
  wpv  : s.wal.prev.length = 4
  wsrc : s.wal.srcValid = true → s.wal.src.length = 4
  psh  : s.pal.shift = 0
  ppv  : s.pal.prev.length = 4
  psrc : s.pal.srcValid = true → s.pal.src.length = 4

/-- the (still scrambled) symbols in flight in front of the descrambler: the word aligner's registered beat and
the last `4 - e` symbols of its history word, then the symbols the remover holds -/
def inflightS (e : Nat) (s : State) : List Ss.Sym := tailS e s.wal ++ CtcRemover.pending s.ctc

/-- the words the descrambler consumes during a pin history: the word aligner's valid beats -/
def consumed (s : State) (ins : List In) : List Word := alWords (walTrace s ins)

/-- **Front of the receive path (SKP remover, word aligner) as a stream function.**  For every locked state and
every pin history (SKP symbols anywhere, in any number) during which the word aligner finds COM COM COM COM at
no offset other than `e`: the words handed to the descrambler, followed by the symbols still in flight, are the
symbols that were in flight followed by the pin symbol stream with the SKP symbols deleted - nothing else lost,
nothing duplicated, regrouped into four-symbol words at the aligner's offset.  Neither stage reads
`enable_scrambling`; `en`/`hen` (its value constant over the history) are asked because `run_split`, which cuts the
run into the stages' traces, is stated for the whole path, descrambler included. -/
theorem front_stream (en : Bool) (e : Nat) (s : State) (ins : List In) (hl : Locked e s)
    (hrx : ∀ i ∈ ins, i.rx.length = 4) (hen : ∀ i ∈ ins, i.enable = en)
    (hq1 : RxAligner.NoRealign .word e s.wal.prev ((ctcTrace s ins).map walIn)) :
    let s' := (run s ins).2
    (consumed s ins).flatten ++ inflightS e s'
      = inflightS e s ++ (pinSyms ins).filter (fun x => !isSkp x) ∧
    (∀ w ∈ consumed s ins, w.length = 4) ∧
    CtcRemover.Inv s'.ctc ∧ s'.wal.shift = e ∧ s'.wal.prev.length = 4 ∧
    (s'.wal.srcValid = true → s'.wal.src.length = 4) := by
  intro s'
  obtain ⟨_, hctc, hwal, _, _⟩ := run_split en s ins hen
  obtain ⟨hinv, h1, hW1len⟩ := remover_stream s ins hl.ctc hrx
  have h2 := aligner_fifoS .word e s.wal ((ctcTrace s ins).map walIn) hl.wsh hl.he hl.wpv hl.wsrc
    (by rw [inWords_walIn]; exact hW1len) hq1
  rw [inWords_walIn] at h2
  have hwal' : s'.wal = RxAligner.final .word s.wal ((ctcTrace s ins).map walIn) := hwal
  have hctc' : s'.ctc = (CtcRemover.run s.ctc (ins.map ctcIn)).2 := hctc
  refine ⟨?_, h2.2.1, by rw [hctc']; exact hinv, by rw [hwal']; exact h2.2.2.1, by rw [hwal']; exact h2.2.2.2.1,
    by rw [hwal']; exact h2.2.2.2.2⟩
  show (alWords (walTrace s ins)).flatten ++ (tailS e s'.wal ++ CtcRemover.pending s'.ctc) = _
  rw [hwal', hctc', ← List.append_assoc]
  show (alWords (RxAligner.run .word s.wal ((ctcTrace s ins).map walIn))).flatten ++ _ ++ _ = _
  rw [h2.1, List.append_assoc, h1, inflightS, List.append_assoc]

/-- **Back of the receive path (descrambler, packet aligner) as a stream function.**  While the packet aligner
stays at shift 0: the words that left `source`, followed by the packet aligner's two registers, are the packet
aligner's registers at the start followed by the consumed words descrambled by ONE pass of the word-stream
descrambler `descr`: the register moves once per consumed word - not in the cycles without a valid beat, which is
what the removed SKP symbols leave - and restarts after a word with COM in symbol 0. -/
theorem back_stream (en : Bool) (s : State) (ins : List In)
    (hpsh : s.pal.shift = 0) (hppv : s.pal.prev.length = 4) (hpsrc : s.pal.srcValid = true → s.pal.src.length = 4)
    (hen : ∀ i ∈ ins, i.enable = en) (hD : ∀ w ∈ consumed s ins, w.length = 4)
    (hq2 : RxAligner.NoRealign .packet 0 s.pal.prev (palInTrace en s ins)) :
    let s' := (run s ins).2
    srcWords (run s ins).1 ++ tailW s'.pal = tailW s.pal ++ descr en s.reg (consumed s ins) ∧
    s'.reg = regAfterW s.reg (consumed s ins) ∧
    s'.pal.shift = 0 ∧ s'.pal.prev.length = 4 ∧ (s'.pal.srcValid = true → s'.pal.src.length = 4) := by
  intro s'
  obtain ⟨hsrc, _, _, hreg, hpal⟩ := run_split en s ins hen
  have h3 := descrambler_on_valid_words en s.reg (walTrace s ins)
  have h4 := aligner_fifo0 .packet s.pal (palInTrace en s ins) hpsh hppv hpsrc
    (by show ∀ w ∈ inWords (dTrace en s.reg (walTrace s ins)), _
        rw [h3.1]; exact descr_len4 _ _ _ hD) hq2
  have hpal' : s'.pal = RxAligner.final .packet s.pal (palInTrace en s ins) := hpal
  refine ⟨?_, by show (run s ins).2.reg = _; rw [hreg, h3.2]; rfl, by rw [hpal']; exact h4.2.1,
    by rw [hpal']; exact h4.2.2.1, by rw [hpal']; exact h4.2.2.2⟩
  rw [hsrc, hpal', h4.1]
  show _ ++ inWords (dTrace en s.reg (walTrace s ins)) = _
  rw [h3.1]; rfl

end LunaVerif.PhyRx
