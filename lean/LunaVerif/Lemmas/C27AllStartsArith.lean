import LunaVerif.Lemmas.StreamGenSpec
/-!
# C27 — every `start_position` value: definitions of the as-coded emission and its arithmetic

`self.start_position` is `Signal(range(len(data)))` (sized by the BYTE length, `rangeWidth len` bits), the
internal `start_position` / `position_in_stream` are `Signal(range(words))` (`posMod = 2 ^ rangeWidth words`
values), the clamp compares with the BYTE length:

    with m.If(self.start_position >= self._data_length):  start_position.eq(data_length - 1)   # words - 1
    with m.Else():                                         start_position.eq(self.start_position)  # truncates

`effStart` is the word position the generator really starts from.  From there `position_in_stream` counts
upwards modulo `posMod` until it *equals* `words - 1` (or the max-length end comes first): a start beyond
the last word (`words ≤ e < posMod`, possible for multi-byte words only) first walks through the `lead`
out-of-range ROM addresses (which read 0 in the simulator), wraps to 0 and then plays the whole constant.
-/
namespace LunaVerif.StreamGen

/-- number of values of `position_in_stream` (`Signal(range(words))`) -/
def posMod (c : Config) : Nat := 2 ^ rangeWidth (nWords c)

/-- the internal `start_position`: clamp against the BYTE length, else truncation to the word-position width -/
def effStart (c : Config) (sp : Nat) : Nat :=
  if sp ≥ c.data.length then nWords c - 1 else sp % posMod c

/-- out-of-range word positions walked through before the position wraps to 0 -/
def lead (c : Config) (e : Nat) : Nat := if e < nWords c then 0 else posMod c - e

/-- first word of the constant that is played -/
def base (c : Config) (e : Nat) : Nat := if e < nWords c then e else 0

/-- `position_in_stream` at word `k` of the emission -/
def posA (c : Config) (e k : Nat) : Nat := if k < lead c e then e + k else base c e + (k - lead c e)

/-- bytes the generator can play from effective start `e` before the data-length end: `lead` full
(out-of-range, all-zero) words, then the constant from word `base` -/
def availA (c : Config) (e : Nat) : Nat := lead c e * c.wb + (c.data.length - base c e * c.wb)

def budgetA (c : Config) (sp M : Nat) : Nat := min M (availA c (effStart c sp))

def nXfersA (c : Config) (sp M : Nat) : Nat := (budgetA c sp M + c.wb - 1) / c.wb

/-- word `k` of the emission for ANY value `sp` of the `start_position` port -/
def xferA (c : Config) (sp M k : Nat) : Xfer :=
  let e := effStart c sp
  ⟨if k < lead c e then 0 else wordOf c.big ((c.data.drop ((base c e + (k - lead c e)) * c.wb)).take c.wb),
   if c.vw = 1 then 1 else ones (min c.wb (budgetA c sp M - k * c.wb)),
   k == 0 && sp == e,
   k + 1 == nXfersA c sp M⟩

def xfersA (c : Config) (sp M : Nat) : List Xfer := (List.range (nXfersA c sp M)).map (xferA c sp M)

/-- words the generator can play from effective start `e` before the data-length end -/
def wordsA (c : Config) (e : Nat) : Nat := lead c e + (nWords c - base c e)

theorem nWords_le_posMod (c : Config) : nWords c ≤ posMod c := le_two_pow_rangeWidth _

theorem effStart_lt (c : Config) (hc : c.Valid) (sp : Nat) : effStart c sp < posMod c := by
  unfold effStart
  split
  · have := nWords_le_posMod c; have := nWords_pos c hc; omega
  · exact Nat.mod_lt _ (Nat.two_pow_pos _)

theorem effStart_of_lt (c : Config) (sp : Nat) (h1 : sp < c.data.length) (h2 : sp < posMod c) :
    effStart c sp = sp := by
  unfold effStart
  rw [if_neg (by omega)]
  exact Nat.mod_eq_of_lt h2

theorem effStart_eq_iff (c : Config) (hc : c.Valid) (sp : Nat) :
    sp = effStart c sp ↔ sp < c.data.length ∧ sp < posMod c := by
  constructor
  · intro h
    have := effStart_lt c hc sp
    refine ⟨Nat.lt_of_not_le fun hle => ?_, by omega⟩
    have he : effStart c sp = nWords c - 1 := if_pos hle
    have := nWords_pos c hc
    have := nWords_le_len c hc
    omega
  · rintro ⟨h1, h2⟩
    exact (effStart_of_lt c sp h1 h2).symm

theorem lt_nXfersA_iff (c : Config) (hc : c.Valid) (sp M k : Nat) :
    k < nXfersA c sp M ↔ k * c.wb < budgetA c sp M :=
  lt_ceilDiv _ _ _ hc.wb_pos

theorem lead_base (c : Config) (e : Nat) :
    (e < nWords c ∧ lead c e = 0 ∧ base c e = e) ∨
    (nWords c ≤ e ∧ lead c e = posMod c - e ∧ base c e = 0) := by
  unfold lead base
  by_cases h : e < nWords c
  · exact Or.inl ⟨h, if_pos h, if_pos h⟩
  · exact Or.inr ⟨Nat.le_of_not_lt h, if_neg h, if_neg h⟩

theorem availA_eq (c : Config) (hc : c.Valid) (e : Nat) :
    availA c e = (wordsA c e - 1) * c.wb + lastWordBytes c ∧ 1 ≤ wordsA c e := by
  obtain ⟨hs, hW⟩ := lastWord_split c hc
  have hb : base c e < nWords c := by rcases lead_base c e with ⟨h, _, hb⟩ | ⟨_, _, hb⟩ <;> omega
  unfold availA wordsA
  generalize lead c e = L, base c e = b at *
  obtain ⟨d, hd⟩ : ∃ d, nWords c - 1 = b + d := ⟨nWords c - 1 - b, by omega⟩
  rw [hd, Nat.add_mul] at hs
  rw [show L + (nWords c - b) - 1 = L + d by omega, Nat.add_mul]
  omega

/-- Word `k` of `B = min M ((D-1)·wb + l)` bytes, `D` words of which the last has `l` bytes: end condition,
byte count, bytes marked valid, and what follows.  `k` is compared with `D - 1` and the comparison carried to
the products; the rest is linear. -/
theorem slice_arith (wb D l M k B : Nat) (hl1 : 1 ≤ l) (hl : l ≤ wb) (hD : 1 ≤ D)
    (hB : B = min M ((D - 1) * wb + l)) (hk : k * wb < B) :
    k < D ∧ k * wb < M ∧
    ((k + 1 = D ∨ k * wb + wb ≥ M) ↔ ¬ (k + 1) * wb < B) ∧
    min (M - k * wb) (if k + 1 = D then l else wb) = min wb (B - k * wb) ∧
    ((k + 1) * wb < B → (k + 1) * wb < M ∧ k + 1 < D) := by
  rw [Nat.add_mul, Nat.one_mul]
  rcases Nat.lt_trichotomy (k + 1) D with h | h | h
  · have := Nat.mul_le_mul_right wb (show k + 1 ≤ D - 1 by omega)
    rw [Nat.add_mul, Nat.one_mul] at this
    rw [if_neg (Nat.ne_of_lt h)]
    omega
  · subst h
    rw [if_pos rfl, Nat.add_sub_cancel] at *
    omega
  · have := Nat.mul_le_mul_right wb (show D - 1 + 1 ≤ k by omega)
    rw [Nat.add_mul, Nat.one_mul] at this
    omega

theorem posA_facts (c : Config) (hc : c.Valid) (e k : Nat) (he : e < posMod c) (hk : k < wordsA c e) :
    (posA c e k = nWords c - 1 ↔ k + 1 = wordsA c e) ∧
    (k < lead c e → nWords c ≤ posA c e k) ∧
    (¬ k < lead c e → posA c e k < nWords c ∧ posA c e k = base c e + (k - lead c e)) ∧
    posA c e k < posMod c ∧ (posA c e k = e ↔ k = 0) ∧
    (k + 1 < wordsA c e → (posA c e k + 1) % posMod c = posA c e (k + 1)) := by
  have hWP := nWords_le_posMod c
  have hW := nWords_pos c hc
  unfold posA wordsA at *
  have hLb := lead_base c e
  generalize lead c e = L, base c e = b at *
  rcases hLb with ⟨h, rfl, rfl⟩ | ⟨h, rfl, rfl⟩
  · simp only [Nat.not_lt_zero, if_false, Nat.sub_zero, Nat.zero_add] at *
    refine ⟨by omega, False.elim, fun _ => ⟨by omega, trivial⟩, by omega, by omega, fun h1 => ?_⟩
    rw [Nat.mod_eq_of_lt (by omega)]; omega
  · by_cases hkL : k < posMod c - e
    · simp only [if_pos hkL] at *
      refine ⟨by omega, fun _ => by omega, fun h => absurd hkL h, by omega, by omega, fun h1 => ?_⟩
      by_cases hk1 : k + 1 < posMod c - e
      · rw [if_pos hk1, Nat.mod_eq_of_lt (by omega)]; omega
      · rw [if_neg hk1, show e + k + 1 = posMod c by omega, Nat.mod_self]; omega
    · simp only [if_neg hkL] at *
      refine ⟨by omega, fun h => absurd h hkL, fun _ => ⟨by omega, trivial⟩, by omega, by omega, fun h1 => ?_⟩
      rw [if_neg (by omega), Nat.mod_eq_of_lt (by omega)]; omega

end LunaVerif.StreamGen
