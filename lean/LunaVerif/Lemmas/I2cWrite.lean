import LunaVerif.Lemmas.I2cStep
/-!
Byte-level invariant of the I2C initiator's write path (C52), for every input history: with the
ghost `d` = octet latched from `data_i` when the write was accepted, `WRITE-DATA-SCL-H` and
`WRITE-DATA-SDA-N` (the SCL-high phases of data clock number `bitno`) carry
`sda_o = bit (7 - bitno) of d` (`write_msb_first_and_ack`), via `w_shreg = d * 2^bitno % 256`
through the four-state loop; and the read-acknowledge clock carries `~r_ack` (the acknowledge a read drives stands
here, in `WInv`, because it is a fact about `sda_o` in an SCL-high phase like the others).
-/
namespace LunaVerif.I2c

def bitOf (d k : Nat) : Bool := d / 2 ^ k % 2 == 1

/-- bit 7 of the shift register after `b` left shifts is bit `7-b` of the octet -/
theorem bit_lemma (d b : Nat) (hb : b < 8) : (d * 2 ^ b % 256 / 128 % 2 == 1) = bitOf d (7 - b) := by
  unfold bitOf
  have h128 : 128 = 2 ^ (7 - b) * 2 ^ b := by rw [← Nat.pow_add, Nat.sub_add_cancel (by omega)]
  rw [show 256 = 128 * 2 from rfl, Nat.mod_mul_right_div_self, Nat.mod_mod, h128,
    Nat.mul_div_mul_right _ _ (Nat.two_pow_pos b)]

theorem shift_lemma (d b : Nat) : d * 2 ^ b % 256 * 2 % 256 = d * 2 ^ (b + 1) % 256 := by
  rw [Nat.pow_succ, ← Nat.mul_assoc]
  omega

/-- ghost: the octet latched by the last accepted write -/
def gstep (s : State) (d : Nat) (i : In) : Nat :=
  if s.fsm = .idle ∧ i.start = false ∧ i.stop = false ∧ i.write = true then i.dataI % 256 else d

def afterG (c : Config) : State × Nat → List In → State × Nat
  | sd, [] => sd
  | (s, d), i :: is => afterG c (step c s i, gstep s d i) is

theorem gstep_nonidle (s : State) (d : Nat) (i : In) (h : s.fsm ≠ .idle) : gstep s d i = d := by
  simp [gstep, h]

def WInv (s : State) (d : Nat) : Prop :=
  match s.fsm with
  | .wrDataSclL | .wrDataSdaX => s.wShreg = d * 2 ^ s.bitno % 256
  | .wrDataSclH => s.wShreg = d * 2 ^ s.bitno % 256 ∧ s.sdaO = bitOf d (7 - s.bitno)
  | .wrDataSdaN => s.wShreg = d * 2 ^ (s.bitno + 1) % 256 ∧ s.sdaO = bitOf d (7 - s.bitno)
  | .rdAckSclH | .rdAckSdaN => s.sdaO = !s.rAck
  | _ => True

/-- `WInv` does not mention SCL, so waiting and releasing keep it.  At a handover the new FSM state is known, so
`WInv` of the new state is the one clause of the state entered.  The handovers that do something: IDLE accepts
the write with `bitno = 0` (`LoopInv.bit0`) and loads `d`; `WRITE-DATA-SDA-X` puts bit 7 of the shift register on
SDA (`bit_lemma`); `WRITE-DATA-SCL-H` shifts (`shift_lemma`); `WRITE-DATA-SDA-N` counts, and goes round again only
if `bitno ≠ 7`; `READ-ACK-SDA-X` drives `~r_ack`.  Every other one leaves these registers alone or ends in a state
of which `WInv` says nothing. -/
theorem winv_step (c : Config) (s : State) (d : Nat) (i : In) (hl : LoopInv s) (h : WInv s d) :
    WInv (step c s i) (gstep s d i) := by
  by_cases hi : s.fsm = .idle
  · have hz : s.bitno = 0 := hl.bit0 (by rw [hi]; rfl)
    rw [step_idle c s i hi]
    refine idle_cases (P := fun s' => WInv s' _) c s i hi ?_ (fun h1 h2 h3 => ?_) (fun _ _ _ _ => trivial)
      fun _ _ _ _ => ?_
    · rintro f (⟨_, rfl | rfl | rfl⟩ | ⟨_, _, rfl | rfl | rfl⟩) <;> trivial
    · simp [WInv, gstep, tick_fields, hz, hi, h1, h2, h3]
    · simp [WInv, tick_fields, hi]
  rw [gstep_nonidle s d i hi]
  refine step_cases (P := fun s' => WInv s' d) c s i (fun _ _ => h) (fun _ _ _ => h) fun _ => ?_
  unfold WInv at h
  cases hf : s.fsm <;> simp only [hf] at h
  case idle => exact absurd hf hi
  case wrDataSdaX =>
    have hb := bit_lemma d s.bitno hl.bitLt
    simp [WInv, handover, hf, tick_fields, hb, h]
  case wrDataSclH =>
    have hs := shift_lemma d s.bitno
    simp [WInv, handover, hf, tick_fields, hs, h]
  case wrDataSdaN =>
    have hn : s.bitno ≠ 7 → (s.bitno + 1) % 8 = s.bitno + 1 := fun _ => by have := hl.bitLt; omega
    by_cases h7 : s.bitno = 7 <;> simp [WInv, handover, hf, tick_fields, h7, hn, h]
  case rdDataSdaN => by_cases h7 : s.bitno = 7 <;> simp [WInv, handover, hf, h7]
  all_goals simp [WInv, handover, hf, tick_fields, h]

theorem winv_init : WInv init 0 := trivial

theorem winv_reachable (c : Config) :
    ∀ (h : List In) (sd : State × Nat), LoopInv sd.1 → WInv sd.1 sd.2 →
      LoopInv (afterG c sd h).1 ∧ WInv (afterG c sd h).1 (afterG c sd h).2
  | [], _, hl, hw => ⟨hl, hw⟩
  | i :: is, (s, d), hl, hw => winv_reachable c is _ (loopInv_step c s i hl) (winv_step c s d i hl hw)

/-- **Write, byte level.**  After ANY input history (any target behaviour, stretching, strobes), with `d` the octet
latched from `data_i` by the last accepted write: whenever the FSM is in the SCL-high phase of data clock number
`bitno` (0…7) the initiator's SDA output is bit `7 - bitno` of `d` (most significant bit first); during the
acknowledge clock SDA is released; and the acknowledge clock of a read carries the complement of the register
`r_ack`, which an accepted read loads from `ack_i` (`idle_cases`; that the register still holds that value at the
acknowledge clock is not part of this statement). (That SDA does not move during these phases is
`sda_changes_under_scl_high_only_for_start_stop`; that `ack_o` is the complement of SDA sampled with SCL high is
`write_and_ack_step_facts`.) -/
theorem write_msb_first_and_ack (c : Config) (h : List In) :
    let s := (afterG c (init, 0) h).1
    let d := (afterG c (init, 0) h).2
    ((s.fsm = .wrDataSclH ∨ s.fsm = .wrDataSdaN) → s.bitno < 8 ∧ s.sdaO = bitOf d (7 - s.bitno)) ∧
    ((s.fsm = .wrAckSclH ∨ s.fsm = .wrAckSdaN) → s.sdaO = true) ∧
    ((s.fsm = .rdAckSclH ∨ s.fsm = .rdAckSdaN) → s.sdaO = !s.rAck) := by
  intro s d
  have ⟨l, w⟩ : LoopInv s ∧ WInv s d := winv_reachable c h (init, 0) loopInv_init winv_init
  refine ⟨fun hs => ⟨l.bitLt, ?_⟩, l.w4, fun hs => ?_⟩
  · rcases hs with hf | hf <;> rw [WInv, hf] at w <;> exact w.2
  · rcases hs with hf | hf <;> rw [WInv, hf] at w <;> exact w

/-- the ghost does not act on the state: the states of `afterG` are those of `stateAfter`, of which Props/C52 speaks -/
theorem afterG_state (c : Config) (h : List In) : ∀ sd : State × Nat, (afterG c sd h).1 = stateAfter c sd.1 h := by
  induction h with
  | nil => intro sd; rfl
  | cons i is ih => intro (s, d); exact ih _

end LunaVerif.I2c
