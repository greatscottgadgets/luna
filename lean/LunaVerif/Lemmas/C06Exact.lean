import LunaVerif.Lemmas.C06Packet
/-!
# C06 — the packet-level specification of the SETUP decoder composition, and one packet exactly

`specStep` is the packet-level automaton: state = (`armed`, the deserializer's three CRC-comparison
registers); input = the bytes of one packet; output = the report it causes, if any.
`specStep_eq` reads it by whether the deserializer's `new_packet` fires (`dsNew`).
`packet_exact`: from ANY packet boundary, ANY legal packet behaves exactly as `specStep` says, with
the cycle numbers of the report and of the one ACK.
-/
namespace LunaVerif.SetupDecoder
open LunaVerif.Utmi LunaVerif.DataCrc LunaVerif.Crc

/-! ## The packet-level specification -/

/-- effect of a non-data packet on `armed`: a token of ours sets it iff it is a SETUP, a token for
another device clears it, SOF and everything that is not a token leave it alone -/
def tokArmed (addr : Nat) (armed : Bool) (bytes : List Nat) : Bool :=
  match tokenOf bytes with
  | some (p4, d11) => if p4 = SOF_PID then armed else if d11 % 128 = addr then p4 == SETUP_PID else false
  | none => armed

def specStep (addr : Nat) (a : Abs) (bytes : List Nat) : Abs × Option Event :=
  match bytes with
  | [] => (a, none)
  | b0 :: bs =>
    if isDataPid b0 then
      if dsStrobes a.st bs then
        (⟨false, captureRegs a.st [] (bs.take 10)⟩,
         if a.armed && bs.length == 10 then some (report (bs.take 8)) else none)
      else (⟨a.armed, captureRegs a.st [] (bs.take 10)⟩, none)
    else (⟨tokArmed addr a.armed (b0 :: bs), a.st⟩, none)

/-- index, within `render p`, of the cycle in which a deserializer strobe caused by `p` is seen -/
def strobeIndex (p : RxPacket) : Nat := p.lead.length + (renderSlots p.slots).length + 1

/-- the state in that cycle -/
def strobeState (c : Config) (s : State) (p : RxPacket) : State :=
  final c s (p.lead.map waitC ++ (renderSlots p.slots ++ (p.gap.take 1).map idleC))

/-- the cycle-indexed events a packet must cause: none, or the report in cycle `n` and one ACK —
in the same cycle if `imm`, else `delay + 1` cycles later -/
def expectT (c : Config) (imm : Bool) (n : Nat) : Option Event → List (Nat × Event)
  | none => []
  | some e => if imm then [(n, .ack), (n, e)] else [(n, e), (n + c.delay + 1, .ack)]

/-! ## `specStep` in the terms of the components: `tokSpec`, `dsNew`, `dsRegs` -/

theorem armed_tok (addr pid : Nat) (rd : Bool) (bytes : List Nat) :
    ((tokSpec addr pid bytes).1 == SETUP_PID && (rd || (tokSpec addr pid bytes).2))
      = tokArmed addr (pid == SETUP_PID && rd) bytes := by
  unfold tokSpec tokArmed
  cases tokenOf bytes with
  | none => simp
  | some x =>
    obtain ⟨p4, d11⟩ := x
    simp only
    split
    · simp
    · split
      · simp
      · simp [SETUP_PID]

theorem tokenOf_data (b0 : Nat) (bs : List Nat) (h : isDataPid b0 = true) : tokenOf (b0 :: bs) = none := by
  have := data_pid_not_token b0 h
  match bs with
  | [] => rfl
  | [_] => rfl
  | [_, _] => simp [tokenOf, this]
  | _ :: _ :: _ :: _ => rfl

theorem pk_take (bs : List Nat) (k : Nat) (hk : k < 8) : pk (bs.take 8) k = pk bs k := by
  simp only [pk, List.getD_eq_getElem?_getD, List.getElem?_take, hk, if_true]

theorem report_take (bs : List Nat) : report (bs.take 8) = report bs := by
  simp [report, pk_take]

theorem specStep_eq (addr : Nat) (a : Abs) (bytes : List Nat) :
    specStep addr a bytes =
      if dsNew a.st bytes then
        (⟨false, dsRegs a.st bytes⟩, if a.armed && bytes.tail.length == 10 then some (report (bytes.tail.take 8)) else none)
      else (⟨tokArmed addr a.armed bytes, dsRegs a.st bytes⟩, none) := by
  match bytes with
  | [] => simp [specStep, dsNew, dsRegs, tokArmed, tokenOf]
  | b0 :: bs =>
    cases hp : isDataPid b0 with
    | false => simp [specStep, dsNew, dsRegs, hp]
    | true =>
      cases hs : dsStrobes a.st bs <;> simp [specStep, dsNew, dsRegs, hp, hs, tokArmed, tokenOf_data b0 bs hp]

/-! ## One packet from a packet boundary -/

/-- **One arbitrary packet from a packet boundary, exactly.**  Whatever the packet (its bytes, 8-bit
values behind a data PID; its timing; the don't-care data of its byte-less cycles; at least 2 idle
cycles after a packet that starts with a data PID, and the handshake gap of `delay + 3` idle cycles
after a packet that is reported): afterwards the composition is at a packet boundary again, its abstract state is what the
packet-level `specStep` says, and the events it caused — with their cycle numbers — are exactly:
nothing, or (iff `specStep` reports) the report in the cycle in which the deserializer strobe is seen
together with exactly one ACK, in that same cycle at high speed (or if the timer reads `delay` just
then), and `delay + 1` cycles later otherwise.  Last conjunct: the timer has counted on since the boundary. -/
theorem packet_exact (c : Config) (hc : c.delay ≤ c.counterMax + 1) (p : RxPacket) (s : State) (a : Abs)
    (hs : At s a) (hw : p.wf)
    (hb : ∀ pid rest, p.bytes = pid :: rest → isDataPid pid = true → ∀ b ∈ rest, b < 256)
    (hg2 : (∃ pid rest, p.bytes = pid :: rest ∧ isDataPid pid = true) → 2 ≤ p.gap.length)
    (hg3 : (specStep c.addr a p.bytes).2 ≠ none → c.delay + 3 ≤ p.gap.length) (t : Nat) :
    At (final c s (render p)) (specStep c.addr a p.bytes).1 ∧
    ttrace c s (render p) t =
      expectT c ((strobeState c s p).counter == c.delay || c.hs) (t + strobeIndex p) (specStep c.addr a p.bytes).2 ∧
    min (s.counter + strobeIndex p) (c.counterMax + 1) ≤ (strobeState c s p).counter := by
  obtain ⟨hs, rfl⟩ := hs
  obtain ⟨lead, slots, gap⟩ := p
  obtain ⟨d, ds, g, gs, rfl, rfl⟩ := hw.cons
  obtain ⟨tr, tp1, f2, f3, hlen3, tp2, harm, hcnt, hds⟩ := active_phase c d g ds slots s _ hs rfl
  obtain ⟨st3, np3, pk3⟩ := hds hb
  have hss : strobeState c s ⟨d :: ds, slots, g :: gs⟩
      = final c s (((d :: ds).map waitC ++ renderSlots slots) ++ [idleC g]) := by simp [strobeState]
  have hidx : strobeIndex ⟨d :: ds, slots, g :: gs⟩
      = (((d :: ds).map waitC ++ renderSlots slots) ++ [idleC g]).length := by simp [strobeIndex]; omega
  rw [render_cut, ttrace_append, ttrace_nil c _ _ _ tr, final_append, hss, hidx]
  -- the timer bound is `hcnt`; boundary and trace are left, and from here on speak of `S3` and `n` only
  refine (fun (h3 : _ ∧ _) => ⟨h3.1, h3.2, hcnt⟩) ?_
  clear hcnt hss hidx tr
  simp only [RxPacket.bytes] at hg2 hg3 ⊢
  generalize final c s (((d :: ds).map waitC ++ renderSlots slots) ++ [idleC g]) = S3 at *
  generalize (((d :: ds).map waitC ++ renderSlots slots) ++ [idleC g]).length = n
  have harm3 : armedB S3 = tokArmed c.addr (armedB s) (slots.map (·.1)) := by
    have h1 : S3.tok.pid = (tokSpec c.addr s.tok.pid (slots.map (·.1))).1 := congrArg Prod.fst tp2
    have h2 : S3.tok.newToken = (tokSpec c.addr s.tok.pid (slots.map (·.1))).2 := congrArg Prod.snd tp2
    rw [armedB, h1, h2, armed_tok, harm]
  rw [specStep_eq]
  rw [specStep_eq] at hg3
  cases hn : dsNew (absOf s).st (slots.map (·.1)) with
  | false =>
    -- no deserializer strobe: the rest of the gap is idle cycles at a boundary
    rw [hn] at hg3
    have hn' : dsNew (staleOf s) (slots.map (·.1)) = false := hn
    obtain ⟨b3, b1⟩ := at_idles c gs S3 ⟨tokArmed c.addr (armedB s) (slots.map (·.1)), dsRegs (staleOf s) (slots.map (·.1))⟩
      ⟨⟨tp1, f2, np3.trans hn', f3, hlen3⟩, by rw [absOf, harm3, st3]⟩
      (t + n)
    exact ⟨b1, by rw [b3]; rfl⟩
  | true =>
    -- a strobe (data PID, at most 10 bytes): the decoder sees it in the second idle cycle
    rw [hn] at hg3
    have hn' : dsNew (staleOf s) (slots.map (·.1)) = true := hn
    obtain ⟨b0, rest, hbs, hp, hfit⟩ := dsNew_data hn'
    obtain ⟨len3, pkt3⟩ := pk3 hn'
    rw [hbs, List.tail_cons] at len3 pkt3
    have htk : tokSpec c.addr s.tok.pid (slots.map (·.1)) = (s.tok.pid, false) := by
      simp [hbs, tokSpec, tokenOf_data b0 _ hp]
    rw [htk] at tp2
    have hpid3 : S3.tok.pid = s.tok.pid := congrArg Prod.fst tp2
    have h8 : ((rest.length + 14) % 16 == 8) = (rest.length == 10) := by rw [Bool.eq_iff_iff]; simp; omega
    have hcondeq : (S3.dec.fsm == .readData && (S3.ds.length == 8 && S3.tok.pid == SETUP_PID))
        = ((absOf s).armed && (slots.map (·.1)).tail.length == 10) := by
      show _ = (armedB s && _)
      rw [← harm, hpid3, len3, h8, hbs, List.tail_cons]
      cases (s.tok.pid == SETUP_PID) <;> cases (S3.dec.fsm == DecFsm.readData) <;> cases (rest.length == 10) <;> rfl
    have hlong2 : 2 ≤ (g :: gs).length := hg2 ⟨b0, rest, hbs, hp⟩
    match gs, hlong2, hg3 with
    | g2 :: gs3, _, hg3 =>
      obtain ⟨u1, u4⟩ := strobe_tail c hc S3 g2 gs3 tp1 f2 (np3.trans hn') (congrArg Prod.snd tp2) f3 hlen3
        (fun h => by
          have := hg3 (by rw [hcondeq] at h; simp only [if_true, h]; simp)
          simp at this; omega)
        (t + n)
      rw [st3] at u1
      refine ⟨u1, ?_⟩
      rw [List.map_cons, u4, hcondeq]
      cases hcond : ((absOf s).armed && (slots.map (·.1)).tail.length == 10) with
      | false => simp [expectT]
      | true =>
        have h10 : rest.length = 10 := by
          rw [hbs, Bool.and_eq_true] at hcond; simpa using hcond.2
        simp [expectT, pkt3 h10, hbs]

end LunaVerif.SetupDecoder
