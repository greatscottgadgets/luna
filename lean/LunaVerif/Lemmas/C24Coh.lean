import LunaVerif.Lemmas.C24Step
/-!
# C24 — coherence of link and PHY for every legal PHY (safety)

`coh_step`: the invariant `Coh` of `Lemmas/C24World.lean` is preserved by every cycle that satisfies
the PHY-side hypotheses `safeCycle` (no NXT in the turnaround cycle, no abort of an accepted link
transmission, NXT with an idle parser only when a byte is on the bus) — whatever the UTMI
transmitter and the control inputs do.  Four lemmas, the cases of `coh_step`: the four busy
states of the register window together (`coh_step_busy`), the `done` cycle (`coh_step_idle_done`), the cycle that
accepts a write request (`coh_step_accept`), and the cycles in which the window is at rest and the bus is the
transmitter's — blocked, claiming or transmitting (`coh_step_tx`).
-/
namespace LunaVerif.Ulpi

theorem Latched.addr {x : World} (h : Latched x) : x.u.win.curAddr = 4 ∨ x.u.win.curAddr = 10 :=
  h.imp And.left And.left

variable (cfg : Config) {x : World} (i : UtmiIn)

theorem step_tx_blocked (ht : x.u.tx = ⟨.idle, false⟩)
    (hb : x.u.ctl.busy = true ∨ (x.u.ctlOut i.ctrl).writeReq = true) :
    (x.step cfg i).u.tx = ⟨.idle, false⟩ ∧ (x.u.step cfg i).2.dataO = x.u.win.dataOut ∧
    (x.u.step cfg i).2.stp = x.u.win.stop ∧ (x.u.step cfg i).2.txReady = false := by
  have hbi : (x.u.txIn i).busIdle = false := by
    rcases hb with g | g <;> simp [Utmi.txIn, Utmi.txBusIdle, g]
  have hst : x.u.tx.st = .idle := by rw [ht]
  have hoq : x.u.tx.outReq = false := by rw [ht]
  have htx : x.u.tx.step (x.u.txIn i) = (x.u.tx, ⟨0, false, false⟩) :=
    Tx.step_blocked hst (by rw [hbi, Bool.and_false])
  refine ⟨?_, ?_, ?_, ?_⟩
  · rw [step_tx, htx, ht]
  · rw [step_dataO, hoq]; rfl
  · rw [step_stp, hoq]; rfl
  · rw [step_txReady, htx]

theorem step_busy (hw : x.u.win.st ≠ .idle) (hc : BusyCommon x) :
    (x.step cfg i).u.ctl = ⟨x.u.ctl.cur04, x.u.ctl.cur0A, true⟩ ∧ (x.step cfg i).u.tx = ⟨.idle, false⟩ ∧
    (x.step cfg i).p = x.p.step i.phy.dir i.phy.nxt x.u.win.dataOut x.u.win.stop ∧
    (x.step cfg i).e.prevDir = i.phy.dir ∧ (x.step cfg i).e.dones = x.e.dones ∧
    (x.step cfg i).e.acc04 = x.e.acc04 ∧ (x.step cfg i).e.acc0A = x.e.acc0A := by
  obtain ⟨hb, ht, -, hd, -, -⟩ := hc
  obtain ⟨et, eo, es, -⟩ := step_tx_blocked cfg i ht (.inl hb)
  have hbz : x.u.win.busy = true := by simpa [Window.busy] using hw
  have hidle : (x.u.win.st == .idle) = false := by simpa using hw
  refine ⟨?_, et, ?_, rfl, ?_, ?_, ?_⟩
  · simp [step_ctl, hd, hbz]
  · rw [step_p, eo, es]
  all_goals simp [step_e, Env.step, hd, hidle]

theorem coh_step_busy (cfg : Config) (x : World) (i : UtmiIn) (h : Coh x) (hw : x.u.win.st ≠ .idle)
    (hs : safeCycle x.p.bus x.e i (x.u.step cfg i).2 = true) : Coh (x.step cfg i) := by
  have ew := step_win cfg x i
  cases hst : x.u.win.st <;> simp only [Coh, hst, and_false] at h
  case idle => exact absurd hst hw
  all_goals
    obtain ⟨h1, h2, hc, hpb, hsp, hrest⟩ := h
    obtain ⟨ec, et, ep, e1, e2, e3, e4⟩ := step_busy cfg i hw hc
    obtain ⟨hb, ht, ha, hd, hr4, hrA⟩ := hc
    obtain ⟨hdiv, hmod⟩ := regWrite_cmd ha.addr
    simp only [Latched] at ha
  case startWrite =>
    rw [Window.step_startWrite _ hst] at ew
    obtain ⟨-, eo, -, -⟩ := step_tx_blocked cfg i ht (.inl hb)
    simp only [safeCycle, eo, hpb, PhyBus.isIdle, PhyBus.isTx] at hs
    cases hdir : i.phy.dir <;> cases hnxt : i.phy.nxt <;>
      simp only [hdir, hnxt, Bool.not_false, Bool.not_true, Bool.and_true, Bool.and_false, Bool.true_and,
        Bool.false_and] at hs <;>
      simp [Coh, BusyCommon, Latched, ew, ec, et, ep, e1, e2, e3, e4, hdir, hnxt, Utmi.winIn, PhyRegs.step_dir,
        PhyRegs.step_idle _ _ _ hpb, h1, h2, hd, ha, hr4, hrA, hpb, COMMAND_REG_WRITE]
    -- DIR low and NXT: excluded by E1 in the turnaround cycle, by E3 with nothing on the bus
    rcases hrest with g | g <;> simp [g] at hs
  case sendWriteAddress =>
    rw [Window.step_sendWriteAddress _ hst] at ew
    cases hdir : i.phy.dir <;> cases hnxt : i.phy.nxt <;>
      simp [Coh, BusyCommon, Latched, ew, ec, et, ep, e1, e2, e3, e4, hdir, hnxt, Utmi.winIn, PhyRegs.step_dir,
        PhyRegs.step_idle _ _ _ hpb, h1, h2, hd, ha, hr4, hrA, hpb, hrest.1, hsp, hdiv, hmod]
  case holdWrite =>
    rw [Window.step_holdWrite _ hst] at ew
    cases hdir : i.phy.dir <;> cases hnxt : i.phy.nxt <;>
      simp [Coh, BusyCommon, Latched, ew, ec, et, ep, e1, e2, e3, e4, hdir, hnxt, Utmi.winIn, PhyRegs.step_dir,
        PhyRegs.step_wantData _ _ _ hpb, h1, h2, hd, ha, hr4, hrA, hpb, hrest.1, hsp]
  case stopping =>
    rw [Window.step_stopping _ hst] at ew
    cases hdir : i.phy.dir
    · -- DIR low: the PHY commits the latched pair, the window shows `done`
      rcases ha with ⟨ha, hv⟩ | ⟨ha, hv⟩ <;>
        simp [Coh, Latched, ew, ec, et, ep, e2, e3, e4, hdir, Utmi.winIn,
          PhyRegs.step_wantStp _ _ _ hpb, PhyRegs.commit, h1, h2, hd, ha, hv, hr4, hrA, hrest, hsp,
          ADDR_FUNCTION_CONTROL, ADDR_OTG_CONTROL]
    · simp [Coh, BusyCommon, Latched, ew, ec, et, ep, e1, e2, e3, e4, hdir, Utmi.winIn, PhyRegs.step_dir, h1, h2,
        hd, ha, hr4, hrA, hrest]

theorem coh_step_idle_done (cfg : Config) (x : World) (i : UtmiIn) (h : Coh x)
    (hw : x.u.win.st = .idle) (hdn : x.u.win.done = true) : Coh (x.step cfg i) := by
  simp only [Coh, hw, hdn, true_and, Bool.true_eq_false, false_and, or_false, if_true] at h
  obtain ⟨h1, h2, hdo, hsp, hb, ht, hpb, ha, hr4, hrA⟩ := h
  obtain ⟨et, eo, es, -⟩ := step_tx_blocked cfg i ht (.inl hb)
  have hq := done_no_request i.ctrl hdn
  have ew := step_win cfg x i
  rw [Window.step_idle _ hw rfl] at ew
  cases hdir : i.phy.dir <;>
    simp [Coh, ew, et, step_ctl, step_p, eo, es, step_e, Env.step, Utmi.winIn, hq, hw, hdn, hdo, hsp, hdir,
      Window.busy, PhyRegs.step_dir, PhyRegs.step_idle _ _ _ hpb, h1, h2, hr4, hrA, hpb, ADDR_FUNCTION_CONTROL,
      ADDR_OTG_CONTROL]

theorem coh_step_accept (cfg : Config) (x : World) (i : UtmiIn) (h : Coh x)
    (hw : x.u.win.st = .idle) (hdn : x.u.win.done = false) (hq : (x.u.ctlOut i.ctrl).writeReq = true) :
    Coh (x.step cfg i) := by
  simp only [Coh, hw, hdn, true_and, Bool.false_eq_true, false_and, false_or, if_false, Nat.add_zero] at h
  obtain ⟨h1, h2, hdo, hsp, hb, hr4, hrA, h4⟩ := h
  obtain ⟨hst, hoq, -⟩ := writeReq_free hq
  have ht : x.u.tx = ⟨.idle, false⟩ := by rw [← hst, ← hoq]
  have hpb : x.p.bus = .idle := by
    rcases h4 with g | g | g
    · exact g.2
    · rw [g.1] at hoq; exact absurd hoq (by decide)
    · rw [g.1] at hoq; exact absurd hoq (by decide)
  obtain ⟨et, eo, es, -⟩ := step_tx_blocked cfg i ht (.inr hq)
  have ew := step_win cfg x i
  rw [Window.step_idle _ hw rfl] at ew
  have hp := request_pair _ _ _ _ _ hq
  cases hdir : i.phy.dir <;>
    simp [Coh, BusyCommon, Latched, ew, et, step_ctl, step_p, eo, es, step_e, Env.step, Utmi.winIn, hq, hw, hdn,
      hdo, hsp, hdir, PhyRegs.step_dir, PhyRegs.step_idle _ _ _ hpb, h1, h2, hr4, hrA, hpb]
  all_goals exact hp.imp (fun g => ⟨g.1, g.2.1⟩) (fun g => ⟨g.1, g.2.1⟩)

theorem coh_step_tx (cfg : Config) (x : World) (i : UtmiIn) (h : Coh x)
    (hw : x.u.win.st = .idle) (hdn : x.u.win.done = false) (hq : (x.u.ctlOut i.ctrl).writeReq = false)
    (hs : safeCycle x.p.bus x.e i (x.u.step cfg i).2 = true) : Coh (x.step cfg i) := by
  simp only [Coh, hw, hdn, true_and, Bool.false_eq_true, false_and, false_or, if_false, Nat.add_zero] at h
  obtain ⟨h1, h2, hdo, hsp, hb, hr4, hrA, h4⟩ := h
  have ew := step_win cfg x i
  rw [Window.step_idle _ hw rfl] at ew
  have hbi : (x.u.txIn i).busIdle = (!i.phy.dir && x.u.phyReady) := by
    simp [Utmi.txIn, Utmi.txBusIdle, hb, hq]
  simp [Coh, ew, step_ctl, step_e, Env.step, Utmi.winIn, hq, hw, hdn, Window.busy]
  rcases h4 with ⟨ht, hpb⟩ | ⟨ht, hpb⟩ | ⟨ht, hpb⟩
  all_goals
    have hst := congrArg Tx.st ht
    have hoq := congrArg Tx.outReq ht
    dsimp only at hst hoq
    simp only [safeCycle, hpb, PhyBus.isIdle, PhyBus.isTx, Bool.true_and, Bool.false_and, Bool.not_false,
      Bool.and_true] at hs
    rw [step_p, step_dataO, step_stp, step_tx, hoq]
  · -- unclaimed: the pins show the idle window, so E3 forbids NXT and a claim is not answered yet
    cases hc : (x.u.txIn i).txValid && (x.u.txIn i).busIdle
    · rw [Tx.step_blocked hst hc, ht]
      cases hdir : i.phy.dir <;>
        simp [hdo, PhyRegs.step_dir, PhyRegs.step_idle _ _ _ hpb, h1, h2, hr4, hrA, hpb]
    · rw [(Tx.step_claim hst hc).1]
      rw [hbi] at hc
      simp only [Bool.and_eq_true, Bool.not_eq_true'] at hc
      have hdir := hc.2.1
      cases hnxt : i.phy.nxt
      · simp [hdir, hdo, hsp, Utmi.txIn_nxt, hnxt, PhyRegs.step_idle _ _ _ hpb, h1, h2, hr4, hrA, hpb]
      · simp [step_dataO, hoq, hdir, hdo, hnxt] at hs
  · cases hc : (x.u.txIn i).txValid && (x.u.txIn i).busIdle
    · rw [Tx.step_blocked hst hc, ht]
      cases hdir : i.phy.dir <;>
        simp [PhyRegs.step_dir, PhyRegs.step_idle _ _ _ hpb, h1, h2, hr4, hrA, hpb]
    · obtain ⟨e1, e2, e3⟩ := Tx.step_claim hst hc
      rw [hbi] at hc
      simp only [Bool.and_eq_true, Bool.not_eq_true'] at hc
      have hdir := hc.2.1
      rw [e1]
      cases hnxt : i.phy.nxt <;>
      simp [hdir, e2, e3, Utmi.txIn_nxt, hnxt, PhyRegs.step_idle _ _ _ hpb, h1, h2, hr4, hrA, hpb]
  · -- transmitting: E2, the PHY does not raise DIR
    simp only [Bool.and_eq_true, Bool.not_eq_true'] at hs
    have hdir := hs.2
    rw [Tx.step_transmit _ hst]
    cases hv : (x.u.txIn i).txValid <;>
      simp [hdir, PhyRegs.step_transmitting _ _ _ hpb, h1, h2, hr4, hrA, hpb, ht]

theorem coh_step (cfg : Config) (x : World) (i : UtmiIn) (h : Coh x)
    (hs : safeCycle x.p.bus x.e i (x.u.step cfg i).2 = true) : Coh (x.step cfg i) := by
  by_cases hw : x.u.win.st = .idle
  · cases hdn : x.u.win.done
    · cases hq : (x.u.ctlOut i.ctrl).writeReq
      · exact coh_step_tx cfg x i h hw hdn hq hs
      · exact coh_step_accept cfg x i h hw hdn hq
    · exact coh_step_idle_done cfg x i h hw hdn
  · exact coh_step_busy cfg x i h hw hs

theorem coh_run (cfg : Config) (x : World) (h : List UtmiIn) (hx : Coh x) (hs : SafeOk cfg x h = true) :
    Coh (World.run cfg x h) := by
  induction h generalizing x with
  | nil => exact hx
  | cons i is ih =>
    simp only [SafeOk, Bool.and_eq_true] at hs
    exact ih _ (coh_step cfg x i hx hs.1) hs.2

end LunaVerif.Ulpi
