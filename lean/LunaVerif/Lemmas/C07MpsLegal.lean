import LunaVerif.Lemmas.C07MpsClosed
import LunaVerif.Lemmas.DeviceStepsM
/-!
# Descriptor reads of a legal host are in order

`closed2_refines_event_run_mps` assumes, for every GET_DESCRIPTOR data-stage IN, a well-sized in-order request
(`DescReqOk`: `wValue`, `wLength` < 2^16, `start_position ≤ min(wLength, |descriptor|)`).  This file derives it from
`LegalHostM` (Model/Device/ControlM.lean: `LegalHost` over `stepM`; in particular "no further data-stage IN after the
host has ACKed a short packet", USB 2.0 §8.5.3, where the ghost `gDataDone` is set by `onHandshakeM` after a packet
shorter than `max_packet_size`) for every `max_packet_size > 0`: `ReadInv` is an invariant of legal histories
(`readInv_legal_mps`), at every legal data-stage IN token of a GET_DESCRIPTOR transfer it gives `DescReqOk`
(`legal_read_in_order_mps`: `start_position` advanced by `max_packet_size` per ACKed full packet), so the closed loop
with the block descriptor handler model simulates the event-level model along every `LegalHostM` history
(`closed2_refines_legal_run_mps`).  The model with the advance by 64: Lemmas/C07Legal.lean.

The file opens (namespace `Device`) with the bridge between the two legality predicates: `legalEventM_eq` (an event is legal
under `stepM` iff under `step`, every size) and, for `max_packet_size = 64`, `legalFromM_64`, `LegalHostM_64`.
-/
namespace LunaVerif.Device

/-- Legality of an event reads the successor state through the token registers only, on which the two models agree. -/
theorem legalEventM_eq (c : DevConfig) (s : DevState) (x : Stim) : legalEventM c s x = legalEvent c s x := by
  unfold legalEventM legalEvent
  simp only [(stepM_regs c s x).tokPid, (stepM_regs c s x).tokEp]
  obtain ⟨ev, f⟩ := x
  cases ev <;> rfl

set_option linter.unusedVariables false in -- holds for every `max_packet_size`
theorem legalEventM_64 (c : DevConfig) (hmp : c.maxPacket = 64) (s : DevState) (x : Stim) :
    legalEventM c s x = legalEvent c s x := legalEventM_eq c s x

theorem legalFromM_64 (c : DevConfig) (hmp : c.maxPacket = 64) (s : DevState) (h : List Stim) :
    legalFromM c s h = legalFrom c s h := by
  induction h generalizing s with
  | nil => rfl
  | cons x xs ih => simp only [legalFromM, legalFrom, legalEventM_eq, stepM_eq_step c hmp, ih]

theorem LegalHostM_64 (c : DevConfig) (hmp : c.maxPacket = 64) (h : List Stim) : LegalHostM c h = LegalHost c h :=
  legalFromM_64 c hmp init h

end LunaVerif.Device

namespace LunaVerif.CtrlCyc
open LunaVerif.Device

/-- `posBits ≤ 11`: `start_position` has 11 bits. -/
def DescsFit (c : DevConfig) : Prop :=
  c.posBits ≤ 11 ∧ ∀ ty idx dd, lookupDescriptor c.descriptors ty idx = some dd → dd.length < 2 ^ c.posBits

theorem pkt_full_mps (c : DevConfig) (hmp : 0 < c.maxPacket) (v l p : Nat) (bytes dd : List Nat) (hl : l < 65536)
    (hlk : lookupDescriptor c.descriptors (v / 256 % 256) (v % 256) = some dd)
    (hp : p ≤ min l dd.length) (hfit : dd.length < 2 ^ c.posBits)
    (hpk : descriptorPacket c v l p = some bytes) (hfull : c.maxPacket ≤ bytes.length) :
    p + c.maxPacket ≤ min l dd.length := by
  -- C09's specification of the packet at an in-order offset: the next `max_packet_size` bytes, or the zero-length packet
  have hs := descriptorPacket_spec c v l p hmp hl (fun d hd => by rw [hlk] at hd; cases hd; exact ⟨hp, hfit⟩)
  rw [hpk, hlk] at hs
  simp only [Desc.specResponse] at hs
  split at hs
  · injection descResp_data hs with hb
    rw [hb] at hfull
    simp only [List.length_take, List.length_drop] at hfull
    omega
  · injection descResp_zlp hs with hb
    rw [hb] at hfull
    simp only [List.length_nil] at hfull
    omega

structure ReadInv (c : DevConfig) (d : DevState) : Prop where
  sizes : d.setup.value < 65536 ∧ d.setup.length < 65536
  /-- the ACK the host may send now answers the descriptor packet at `start_position` -/
  k : d.gRespData = true → d.tokEp = 0 → d.tokPid = PID_IN → d.hstate = .getDescriptor →
        d.setup.type = TYPE_STANDARD →
        ∃ bytes, descriptorPacket c d.setup.value d.setup.length d.startPos = some bytes ∧ d.gRespLen = bytes.length
  /-- while the data stage is not over, `start_position` is in order -/
  j : d.hstate = .getDescriptor → d.setup.type = TYPE_STANDARD → d.gDataDone = false →
        ∀ dd, lookupDescriptor c.descriptors (d.setup.value / 256 % 256) (d.setup.value % 256) = some dd →
          d.startPos ≤ min d.setup.length dd.length

theorem readInv_init (c : DevConfig) : ReadInv c Device.init :=
  { sizes := by decide
    k := fun h => by cases h
    j := fun h => by cases h }

theorem parseSetup_sizes (p : List Nat) : (parseSetup p).value < 65536 ∧ (parseSetup p).length < 65536 := by
  simp only [parseSetup, byteAt]
  omega

/-! ### `ReadInv` without its clause `k` (`RJ`: the sizes and the in-order clause), kept by every legal event -/

structure RJ (c : DevConfig) (d : DevState) : Prop where
  sizes : d.setup.value < 65536 ∧ d.setup.length < 65536
  j : d.hstate = .getDescriptor → d.setup.type = TYPE_STANDARD → d.gDataDone = false →
        ∀ dd, lookupDescriptor c.descriptors (d.setup.value / 256 % 256) (d.setup.value % 256) = some dd →
          d.startPos ≤ min d.setup.length dd.length

theorem RJ.mono {c : DevConfig} {d d' : DevState} (h : RJ c d) (h1 : d'.setup = d.setup)
    (h2 : d'.gDataDone = d.gDataDone)
    (h3 : d'.hstate = .getDescriptor → d.hstate = .getDescriptor ∧ d'.startPos = d.startPos) : RJ c d' := by
  refine ⟨by rw [h1]; exact h.sizes, ?_⟩
  intro a b e dd hdd
  rw [h1] at b hdd ⊢
  rw [h2] at e
  obtain ⟨a1, a2⟩ := h3 a
  rw [a2]
  exact h.j a1 b e dd hdd

theorem request_read (c : DevConfig) (d : DevState) (r : Req) :
    (request c d r).1.setup = d.setup ∧ (request c d r).1.gDataDone = d.gDataDone ∧
    ((request c d r).1.hstate = .getDescriptor → d.hstate = .getDescriptor ∧ (request c d r).1.startPos = d.startPos) := by
  rcases request_fst c d r with h | h | ⟨hg, -, h | h⟩ <;> rw [h]
  · exact ⟨rfl, rfl, fun h => ⟨h, rfl⟩⟩
  · exact ⟨rfl, rfl, nofun⟩
  · exact ⟨rfl, rfl, nofun⟩
  · exact ⟨rfl, rfl, fun _ => ⟨hg, rfl⟩⟩

theorem rj_request (c : DevConfig) (d : DevState) (r : Req) (h : RJ c d) : RJ c (request c d r).1 :=
  h.mono (request_read c d r).1 (request_read c d r).2.1 (request_read c d r).2.2

theorem rj_afterToken (c : DevConfig) (d : DevState) (pid ep : Nat) (h : RJ c d) : RJ c (afterToken d pid ep) :=
  h.mono rfl rfl (fun a => ⟨a, rfl⟩)

theorem rj_onToken (c : DevConfig) (d : DevState) (pid ep : Nat) (h : RJ c d) : RJ c (onToken c d pid ep).1 :=
  have h1 := rj_afterToken c d pid ep h
  onToken_elim (P := fun r => RJ c r.1) c d pid ep h1 (fun _ _ => h1) (fun _ _ r _ => rj_request c _ r h1)

theorem rj_onSetupData (c : DevConfig) (d : DevState) (p : List Nat) : RJ c (onSetupData d p).1 := by
  unfold onSetupData
  simp only []
  split
  · exact ⟨parseSetup_sizes p, fun _ _ _ dd _ => Nat.zero_le _⟩
  · rename_i hty
    exact ⟨parseSetup_sizes p, fun _ b => absurd b hty⟩

theorem rj_onData (c : DevConfig) (d : DevState) (p : List Nat) (ok : Bool) (h : RJ c d) : RJ c (onData c d p ok).1 :=
  onData_elim (P := fun r => RJ c r.1) c d p ok h (fun _ _ _ _ => rj_onSetupData c d p)
    (fun _ => h.mono rfl rfl (fun a => ⟨a, rfl⟩)) (fun _ _ _ _ _ => rj_request c d .status h)

theorem pow_le_2048 {n : Nat} (h : n ≤ 11) : 2 ^ n ≤ 2048 := by
  have : 2 ^ n ≤ 2 ^ 11 := Nat.pow_le_pow_right (by decide) h
  simpa using this

/-- A host ACK: the position advances (by `max_packet_size`) only past a full packet, which keeps it in order; after a
short packet the data stage is over (`gDataDone`). -/
theorem rj_onHandshakeM (c : DevConfig) (hmp : 0 < c.maxPacket) (hfit : DescsFit c) (d : DevState) (pid : Nat)
    (h : ReadInv c d) (hleg : d.gRespData = true ∨ d.tokPid = 0) : RJ c (onHandshakeM c.maxPacket d pid) := by
  have hrj : RJ c d := ⟨h.sizes, h.j⟩
  unfold onHandshakeM
  split
  · rename_i hfw
    obtain ⟨_, hep, hpid, hty⟩ := hfw
    have hgr : d.gRespData = true := by
      rcases hleg with g | g
      · exact g
      · rw [hpid] at g; exact absurd g (by decide)
    by_cases hg : d.hstate = .getDescriptor
    · by_cases he : d.expectingAck = true
      · by_cases hlen : d.gRespLen < c.maxPacket
        · -- short packet ACKed: the data stage is over
          simp only [hg, he, hlen, and_self, if_true]
          exact ⟨by simp only [stdAckM, hg, he, if_true]; exact h.sizes, fun _ _ e => by simp at e⟩
        · simp only [hg, he, hlen, and_false, if_false]
          simp only [stdAckM, hg, he, if_true]
          refine ⟨h.sizes, ?_⟩
          intro _ _ e dd hdd
          simp only at e hdd ⊢
          obtain ⟨bytes, hb1, hb2⟩ := h.k hgr hep hpid hg hty
          have hp := h.j hg hty e dd hdd
          have hf := hfit.2 _ _ dd hdd
          have := pkt_full_mps c hmp d.setup.value d.setup.length d.startPos bytes dd h.sizes.2 hdd hp hf hb1
            (by omega)
          have h2 := pow_le_2048 hfit.1
          omega
      · have : stdAckM c.maxPacket d = d := by simp [stdAckM, hg, he]
        simp only [hg, he, Bool.false_eq_true, false_and, and_false, if_false, this]
        exact hrj
    · have hne : (stdAckM c.maxPacket d).hstate ≠ .getDescriptor ∧ (stdAckM c.maxPacket d).setup = d.setup := by
        unfold stdAckM
        cases hd : d.hstate <;> simp_all [toIdle]
      simp only [hg, false_and, if_false]
      exact ⟨by rw [hne.2]; exact h.sizes, fun a => absurd a hne.1⟩
  · exact hrj

theorem rj_coreM (c : DevConfig) (hmp : 0 < c.maxPacket) (hfit : DescsFit c) (d : DevState) (x : Stim)
    (h : ReadInv c d) (hleg : legalEventM c d x = true) : RJ c (coreM c d x.ev).1 := by
  have hrj : RJ c d := ⟨h.sizes, h.j⟩
  cases hev : x.ev with
  | token pid addr ep =>
    simp only [coreM, core]
    split
    · exact rj_onToken c d pid ep hrj
    · exact hrj.mono rfl rfl (fun a => ⟨a, rfl⟩)
  | data dp p ok => exact rj_onData c d p ok hrj
  | handshake pid =>
    refine rj_onHandshakeM c hmp hfit d pid h ?_
    unfold legalEventM at hleg
    rw [hev] at hleg
    simp only [Bool.and_eq_true, Bool.or_eq_true, beq_iff_eq] at hleg
    exact hleg.2.2
  | busReset => exact hrj.mono rfl rfl (fun a => ⟨a, rfl⟩)
  | _ => exact hrj

/-! ### The clause `k`: a data answer to a GET_DESCRIPTOR data-stage IN token is the descriptor packet at `start_position` -/

theorem request_desc_data (c : DevConfig) (hx : c.extra = []) (s : DevState) (r : Req)
    (h1 : (request c s r).2.isData = true) (h2 : (request c s r).1.hstate = .getDescriptor)
    (h3 : (request c s r).1.setup.type = TYPE_STANDARD) :
    ∃ bytes, descriptorPacket c (request c s r).1.setup.value (request c s r).1.setup.length
        (request c s r).1.startPos = some bytes ∧ (request c s r).2.dataLen = bytes.length := by
  obtain ⟨e1, _, e3⟩ := request_read c s r
  obtain ⟨hs, e4⟩ := e3 h2
  rw [e1] at h3 ⊢
  rw [e4]
  rw [request_noextra c hx, if_pos h3] at h1 ⊢
  unfold stdRequest at h1 ⊢
  simp only [hs] at h1 ⊢
  cases r with
  | status => simp [Resp.isData] at h1
  | data =>
    cases hpk : descriptorPacket c s.setup.value s.setup.length s.startPos with
    | none => simp [hpk, Resp.isData] at h1
    | some b => exact ⟨b, rfl, by simp [Resp.dataLen]⟩

theorem onToken_in_data (c : DevConfig) (hx : c.extra = []) (d : DevState)
    (h1 : (onToken c d PID_IN 0).2.isData = true) (h2 : (onToken c d PID_IN 0).1.hstate = .getDescriptor)
    (h3 : (onToken c d PID_IN 0).1.setup.type = TYPE_STANDARD) :
    ∃ bytes, descriptorPacket c (onToken c d PID_IN 0).1.setup.value (onToken c d PID_IN 0).1.setup.length
        (onToken c d PID_IN 0).1.startPos = some bytes ∧ (onToken c d PID_IN 0).2.dataLen = bytes.length := by
  revert h1 h2 h3
  exact onToken_elim (P := fun r => r.2.isData = true → r.1.hstate = .getDescriptor → r.1.setup.type = TYPE_STANDARD →
    ∃ bytes, descriptorPacket c r.1.setup.value r.1.setup.length r.1.startPos = some bytes ∧ r.2.dataLen = bytes.length)
    c d PID_IN 0 (fun h => nomatch h) (fun _ _ h => nomatch h) (fun _ _ r _ => request_desc_data c hx _ r)

/-! ### `ReadInv` along legal histories; the descriptor reads are in order -/

theorem readInv_stepM (c : DevConfig) (hx : c.extra = []) (hmp : 0 < c.maxPacket) (hfit : DescsFit c) (d : DevState)
    (x : Stim) (h : ReadInv c d) (hleg : legalEventM c d x = true) :
    ReadInv c (stepM c d x).1 := by
  have hrj := rj_coreM c hmp hfit d x h hleg
  refine ⟨hrj.sizes, ?_, hrj.j⟩
  intro hd hep hpid hhs hty
  obtain ⟨hev, hresp, hcore⟩ := data_answer_is_to_in_token_M c d x hd hep hpid
  have e3 : (stepM c d x).1.startPos = (coreM c d x.ev).1.startPos := rfl
  rw [stepM_hstate, hcore] at hhs
  rw [stepM_setup, hcore] at hty
  have h1 : (onToken c d PID_IN 0).2.isData = true := by
    rw [← hresp]; exact hd
  obtain ⟨bytes, hb1, hb2⟩ := onToken_in_data c hx d h1 hhs hty
  refine ⟨bytes, ?_, ?_⟩
  · rw [stepM_setup, e3, hcore]; exact hb1
  · have : (stepM c d x).1.gRespLen = (stepM c d x).2.dataLen := rfl
    rw [this, hresp]; exact hb2

theorem readInv_legalFromM (c : DevConfig) (hx : c.extra = []) (hmp : 0 < c.maxPacket) (hfit : DescsFit c)
    (h : List Stim) : ∀ d, ReadInv c d → legalFromM c d h = true → ReadInv c (finalM c d h) := by
  induction h with
  | nil => intro d hr _; exact hr
  | cons x xs ih =>
    intro d hr hl
    simp only [legalFromM, Bool.and_eq_true] at hl
    exact ih _ (readInv_stepM c hx hmp hfit d x hr hl.1) hl.2

theorem readInv_legal_mps (c : DevConfig) (hx : c.extra = []) (hmp : 0 < c.maxPacket) (hfit : DescsFit c)
    (h : List Stim) (hl : LegalHostM c h = true) : ReadInv c (finalM c Device.init h) :=
  readInv_legalFromM c hx hmp hfit h Device.init (readInv_init c) hl

/-- **Descriptor reads of a legal host are in order**: at a legal data-stage IN token that starts the descriptor
handler, the request is well-sized and `start_position ≤ min(wLength, |descriptor|)`. -/
theorem legal_read_in_order_mps (c : DevConfig) (hfit : DescsFit c) (d : DevState) (x : Stim) (pid ep : Nat)
    (hev : x.ev = .token pid d.address ep) (h : ReadInv c d) (hleg : legalEventM c d x = true) (R : Desc.Response)
    (hso : streamOf c (afterToken d pid ep) = some (true, R)) : DescReqOk c (afterToken d pid ep) = true := by
  obtain ⟨hdr, hty, ⟨hf, -⟩ | ⟨-, hhs, -⟩⟩ := streamOf_some hso
  · cases hf
  · simp only [readyDr, Bool.and_eq_true, decide_eq_true_eq] at hdr
    obtain ⟨⟨hep0, hstg⟩, hpin⟩ := hdr
    have hpid : pid = PID_IN := hpin
    have hep : ep = 0 := hep0
    subst hpid hep
    have hstg0 : d.stage = .dataIn := by
      have : tokenStage d PID_IN 0 = .dataIn := hstg
      unfold tokenStage at this
      simp only [PID_IN, PID_SETUP, PID_OUT, PID_PING] at this
      cases hs : d.stage <;> simp_all
    have hdone : d.gDataDone = false := by
      unfold legalEventM at hleg
      rw [hev] at hleg
      simp only [Bool.and_eq_true, Bool.not_eq_eq_eq_not, Bool.not_true] at hleg
      have := hleg.2.2
      simpa [hstg0] using this
    unfold DescReqOk
    have hsz := h.sizes
    simp only [Bool.and_eq_true, decide_eq_true_eq]
    refine ⟨⟨hsz.1, hsz.2⟩, ?_⟩
    cases hlk : lookupDescriptor c.descriptors ((afterToken d PID_IN 0).setup.value / 256 % 256)
        ((afterToken d PID_IN 0).setup.value % 256) with
    | none => rfl
    | some dd =>
      simp only [Bool.and_eq_true, decide_eq_true_eq]
      exact ⟨h.j hhs hty hdone dd hlk, hfit.2 _ _ dd hlk⟩

/-! ### The closed loop under `LegalHostM` -/

/-- `ReadyFits` without the request condition `DescReqOk` (which `LegalHost` provides). -/
def ReadyWin (c : DevConfig) (d1 : DevState) (g : GapsS) : Bool :=
  match streamOf c d1 with
  | some (true, R) => Fits 3 R (g.stream.map (·.txReady))
  | some (false, R) => decide (g.lat = 0) && Fits 0 R (g.stream.map (·.txReady))
  | none => true

/-- `StreamFits2` without `DescReqOk`. -/
def StreamWin (c : DevConfig) (d : DevState) (e : HostEvent) (g : GapsS) : Bool :=
  match e with
  | .token pid addr ep => if addr = d.address then !g.stallNow && ReadyWin c (afterToken d pid ep) g else true
  | _ => true

def WinFromM (c : DevConfig) : DevState → List (Stim × GapsS) → Bool
  | _, [] => true
  | d, (x, g) :: rest => StreamWin c d x.ev g && WinFromM c (stepM c d x).1 rest

theorem fits2_of_legal_mps (c : DevConfig) (hx : c.extra = []) (hmp : 0 < c.maxPacket) (hfit : DescsFit c)
    (h : List (Stim × GapsS)) : ∀ d, ReadInv c d → legalFromM c d (h.map (·.1)) = true →
      WinFromM c d h = true → Fits2FromM c d h = true := by
  induction h with
  | nil => intro d _ _ _; rfl
  | cons xg rest ih =>
    intro d hr hl hw
    obtain ⟨x, g⟩ := xg
    simp only [List.map_cons, legalFromM, Bool.and_eq_true] at hl
    simp only [WinFromM, Bool.and_eq_true] at hw
    simp only [Fits2FromM, Bool.and_eq_true]
    refine ⟨?_, ih _ (readInv_stepM c hx hmp hfit d x hr hl.1) hl.2 hw.2⟩
    have hw1 := hw.1
    unfold StreamWin at hw1
    unfold StreamFits2
    cases hev : x.ev with
    | token pid addr ep =>
      rw [hev] at hw1
      simp only at hw1 ⊢
      by_cases ha : addr = d.address
      · subst ha
        simp only [if_true, Bool.and_eq_true] at hw1 ⊢
        refine ⟨hw1.1, ?_⟩
        have hw2 := hw1.2
        unfold ReadyWin at hw2
        unfold ReadyFits
        cases hso : streamOf c (afterToken d pid ep) with
        | none => rfl
        | some fr =>
          obtain ⟨fd, R⟩ := fr
          rw [hso] at hw2
          cases fd with
          | false => exact hw2
          | true =>
            simp only at hw2 ⊢
            rw [hw2, legal_read_in_order_mps c hfit d x pid ep hev hr hl.1 R hso]
            rfl
      · simp [ha]
    | _ => rfl

/-- **`cycle_refines_event`, closed loop with both streamers, for every history of a legal host, every legal control
max packet size.**  For `c.maxPacket ∈ {8, 16, 32, 64}`, descriptors that fit the position register (`DescsFit`) and
every `LegalHostM` event history with silent streamer noise and windows that are long enough (`WinFromM`): the closed
loop of the cycle-level control-endpoint model, the serializer model and the block descriptor handler model
(`max_packet_length = c.maxPacket`) simulates the event-level model `stepM` (statement as in
`closed2_refines_event_run_mps`); that the descriptor reads are well-sized and in order (`start_position` = 0, `mps`,
2·`mps`, … `≤ min(wLength, |descriptor|)`) is a theorem (`legal_read_in_order_mps`). -/
theorem closed2_refines_legal_run_mps (c : DevConfig) (hx : c.extra = [])
    (hm : c.maxPacket = 8 ∨ c.maxPacket = 16 ∨ c.maxPacket = 32 ∨ c.maxPacket = 64)
    (hwf : Desc.wellFormed (collOf c.descriptors) = true)
    (hpw : 2 ≤ (Desc.Rom.layout (collOf c.descriptors)).maxLen) (hfit : DescsFit c)
    (h : List (Stim × GapsS)) (hl : LegalHostM c (h.map (·.1)) = true) (hw : WinFromM c Device.init h = true)
    (ht : ∀ xg ∈ h, TDSil xg.2) :
    ∃ h', SameButLat h h' ∧
      Rel (finalM c Device.init (h.map (·.1)))
        (sys2Final (cfgOf c) (Desc.blockOf (collOf c.descriptors) c.maxPacket) sys2Init
          ((expandAllRM c Device.init h').map (·.2))).cs ∧
      sys2BusRespsM c (Desc.blockOf (collOf c.descriptors) c.maxPacket) Device.init sys2Init h' =
        coreRespsM c Device.init (h.map (·.1)) ∧
      regsAfterR (0, 0) (sys2OutsR (cfgOf c) (Desc.blockOf (collOf c.descriptors) c.maxPacket) sys2Init
          (expandAllRM c Device.init h')) =
        ((finalM c Device.init (h.map (·.1))).address, (finalM c Device.init (h.map (·.1))).config) ∧
      SerQ (sys2Final (cfgOf c) (Desc.blockOf (collOf c.descriptors) c.maxPacket) sys2Init
          ((expandAllRM c Device.init h').map (·.2))).ser ∧
      (sys2Final (cfgOf c) (Desc.blockOf (collOf c.descriptors) c.maxPacket) sys2Init
          ((expandAllRM c Device.init h').map (·.2))).blk.fsm = .idle :=
  closed2_refines_event_run_mps c hx hm hwf hpw h
    (fits2_of_legal_mps c hx (by omega) hfit h Device.init (readInv_init c) hl hw) ht

/-! ### Non-vacuity: the `max_packet_size = 8` example history of Lemmas/C07MpsClosed.lean is a legal host's -/

example : LegalHostM exCfgC8 ((exHistoryD8 0).map (·.1)) = true := by decide +kernel
example : WinFromM exCfgC8 Device.init (exHistoryD8 0) = true := by decide +kernel
example : DescsFit exCfgC8 := by
  refine ⟨by decide, ?_⟩
  intro ty idx dd h
  simp only [exCfgC8, lookupDescriptor] at h
  repeat' split at h
  all_goals first | (injection h with h; subst h; decide) | (exact absurd h (by simp))
-- with the advance by 64 of `Device.core` the same host would NOT be legal for that model's bookkeeping at
-- max_packet_size = 8 (a full 8-byte packet counts as short there): the two notions differ
example : LegalHost exCfgC8 ((exHistoryD8 0).map (·.1)) = false := by decide +kernel

end LunaVerif.CtrlCyc
