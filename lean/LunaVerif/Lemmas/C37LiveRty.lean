import LunaVerif.Lemmas.C37LiveBase
/-!
# C37 — liveness: a requested LRTY is sent

`rankR T` bounds the number of ready cycles until `T` LRTYs have completed on the wire, for every
`T ≤ lrtys + [lrty_pending]`.  LRTY has the highest priority in DISPATCH_COMMAND; ahead of it is only the
session in progress: a SEND_ACKS session (at most `acks_to_send + (lcrds − accepted)` LGOODs: those owed plus
those for headers the partner can still send with the credits it holds) or an ISSUE_CREDITS session (at most
`credits_to_issue + buffers_filled + (4 − acks_to_send)` LCRDs) or one other command.  No *bad* cycles.

As coded, `lrty_pending` is cleared by the completion of an LRTY even when `retry_required` is pulsed in that
very cycle (the FSM's `lrty_pending.eq(0)` comes later in program order): such a request is merged with the
LRTY that has just been sent.  Every other request is latched, in a cycle without the reset-on-disable, which clears
the flag as well (`lrty_request_latched`).
-/
namespace LunaVerif.HeaderRx

/-- In a cycle without the reset-on-disable (`hn`; it clears `lrty_pending` too) a retry request is latched unless an
LRTY completes in that very cycle. -/
theorem lrty_request_latched (c : Config) (s : State) (i : In) (hn : resetNow c s i = false)
    (hr : i.retryRequired = true) (hd : (s.fsm == .sendLrty && done s i) = false) :
    (step c s i).1.lrty = true := by
  simp [step_lrty, hn, hd, hr]

def aheadR : Fsm → World → Nat
  | .sendLrty, _ => 0
  | .dispatch, _ => 3
  | .sendAcks, x => 3 * (x.s.acks + x.g.lcrds.length - x.g.accepted.length - 1) + 4
  | .issueCredits, x => 3 * (x.s.cti + x.s.bf + 3 - x.s.acks) + 4
  | _, _ => 4

variable {T : Nat} {x x' : World} {i : In} {f f' : Fsm} {k dA dC dB dR dX dK : Nat}

theorem aheadR_step (h : Cyc x x' i dA dC dB dR dX dK) (t : Trans x.s f f' k dA dC dB dR dX dK)
    (hlt : x'.n.lrtys < T) (hT : T ≤ x.n.lrtys + b2 x.s.lrty) :
    k + aheadR f' x' ≤ aheadR f x + 0 := by
  have := h.acks; have := h.cti; have := h.bf; have := h.lc; have := h.ac; have := h.nR
  have := h.accA; have := h.cred; have := h.dAle; have := h.dCle; have := b2_le x.s.lrty
  cases t <;> simp only [aheadR] <;> omega

def rankR (T : Nat) : World → Nat := rank (·.n.lrtys) aheadR T

theorem rankR_step (c : Config) (T : Nat) :
    StepOk (World.next c) WOk (fun x => Inv c x.s x.g ∧ T ≤ x.n.lrtys + b2 x.s.lrty) (rankR T) rdyW
      (fun _ _ => false) 0 :=
  rank_stepOk c (fun _ _ => 0) (fun _ _ => Nat.zero_le _)
    (fun h => by have := h.lrtyK; have := h.nR; omega) aheadR_step

theorem rankR_le {c : Config} {T : Nat} {x : World} (hI : Inv c x.s x.g) : rankR T x ≤ 28 := by
  have := hI.hbf; have := hI.hcti; have := hI.hcred; have := hI.hacks4
  exact rank_le_of fun f => by cases f <;> simp only [aheadR] <;> omega

/-- the number of completed LRTYs along a history -/
def lrtysRun (c : Config) : State → Nat → List In → Nat
  | _, k, [] => k
  | s, k, i :: is => lrtysRun c (step c s i).1 (k + b2 (s.fsm == .sendLrty && done s i)) is

theorem runW_lrtys (c : Config) (is : List In) : ∀ x : World,
    (runW c x is).n.lrtys = lrtysRun c x.s x.n.lrtys is := by
  induction is with
  | nil => intro x; rfl
  | cons i is ih =>
    intro x
    simp only [runW, runS, lrtysRun]
    rw [← cnt_lrtys x.s i x.n]
    exact ih (World.next c x i)

/-- **LRTY liveness from any state that satisfies the invariant.**  If `lrty_pending` is set, an LRTY completes on the
wire within 28 ready cycles. -/
theorem lrty_live (c : Config) (s : State) (g : Ghost) (h : Inv c s g) (hp : s.lrty = true) (is : List In)
    (ho : EnvOk c s g is) (hn : 28 ≤ readyCount is) : 1 ≤ lrtysRun c s 0 is := by
  have := rank_live (rankR_step c 1) ⟨s, g, Cnt.init⟩ ⟨h, by simp [Cnt.init, hp]⟩ (rankR_le h) is ho (by omega)
  rwa [runW_lrtys] at this

set_option hygiene false in
local macro "rank_go" hf:ident h0:ident : tactic =>
  `(tactic| (
    cases hg : s.gen <;> cases hr : i.srcReady <;> cases hl : s.lrty <;>
      simp [$hf:ident, $h0:ident, hg, hr, hl, fsm_beq, gen_beq, fsmNext, genNext, done,
        lgoodDone, lcrdDone, dispatchNext, generate, ph, nf, nr, na, en, step_fsm, step_gen]
        at fa fc fb flc fac flr lgA lcC fA fC g0 hT hz ⊢ <;>
      (repeat' split) <;> (try simp only [ph] at *) <;> omega))

end LunaVerif.HeaderRx
