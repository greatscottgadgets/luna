import LunaVerif.Props.C36
import LunaVerif.Lemmas.C36CrcBounds
/-!
# C36 — `tx_emits_frame`: one statement over one history

Definitions: the functional `frame hdr payload` (symbol level for the data packet payload), the
stream words `sinkWords payload` a producer presents on `data_sink`, the stream contract `obeys`
(closed loop: the producer advances exactly when `data_sink.ready`), the packet trace `runPkt`
(the run cut after the first `done`).

The proof: `owed s l` lists the words a state still owes the wire (word level; its payload part `dppTail` is
tied to the symbol-level `dppSyms` by `dppTail_eq_pack`).  A transfer sends the head of that list and leaves the
tail to the next state, `done` when nothing is left (`owed_step`); so every history obeying the contract
transfers a prefix of it, stalled cycles being dealt with there, once (`plays`); and after `generate` what is
owed is the frame (`owed_hpstart`).  At the end, for the receivers of the round trip: no word of the data
packet part looks like a header start (`dppFrame_ctrl`).
-/
namespace LunaVerif.RawPacketTransmitter

/-- The header as presented at `generate`: three protocol words and the 11-bit link control word
(seq[0:3] reserved[3:6] hub_depth[6:9] delayed[9] deferred[10]). -/
structure Header where
  dw0 : Nat
  dw1 : Nat
  dw2 : Nat
  lcw : Nat
deriving Repr, DecidableEq

def Header.wf (h : Header) : Prop := h.dw0 < 2 ^ 32 ∧ h.dw1 < 2 ^ 32 ∧ h.dw2 < 2 ^ 32 ∧ h.lcw < 2 ^ 11
instance (h : Header) : Decidable h.wf := by unfold Header.wf; infer_instance
/-- "is a data header" as coded: `dw0[0:4] == 8` (type 0b01000, and the quirk 0b11000). -/
def Header.isData (h : Header) : Bool := h.dw0 % 16 == 8
def Header.delayed (h : Header) : Bool := h.lcw / 2 ^ 9 % 2 == 1
/-- a data packet payload follows and is taken from the stream -/
def Header.carries (h : Header) : Bool := h.isData && !h.delayed

/-- A symbol: byte and is-K flag. -/
abbrev Sym := Nat × Bool

def k2n (b : Bool) : Nat := if b then 1 else 0

/-- Four symbols, first on the wire in the low byte / ctrl bit 0. -/
def packWord (a b c d : Sym) : Nat × Nat :=
  (a.1 + 256 * b.1 + 65536 * c.1 + 16777216 * d.1, k2n a.2 + 2 * k2n b.2 + 4 * k2n c.2 + 8 * k2n d.2)

def pack : List Sym → List (Nat × Nat)
  | a :: b :: c :: d :: rest => packWord a b c d :: pack rest
  | _ => []

def endSyms : List Sym := [ksym 0xFD, ksym 0xFD, ksym 0xFD, ksym 0xF7]

/-- Data packet payload on the wire, symbol by symbol: the payload bytes, immediately the four
CRC-32 bytes (low byte first), END END END EPF, zero padding up to the word boundary. -/
def dppSyms (payload : List Nat) : List Sym :=
  payload.map dsym ++ ((wordBytes (crc32Of payload)).map dsym ++
    (endSyms ++ List.replicate ((4 - payload.length % 4) % 4) (dsym 0)))

/-- **The frame.**  HPSTART, DWORD 0..2, DWORD 3 (CRC-16 | link control word | CRC-5); for a data
header DPPSTART and then either the abort word (header marked delayed) or the payload symbols. -/
def frame (h : Header) (payload : List Nat) : List (Nat × Nat) :=
  headerFrame h.dw0 h.dw1 h.dw2 h.lcw ++
    (if h.isData then
       (DPPSTART, 0xF) :: (if h.delayed then [(DPPABORT, 0xF)] else pack (dppSyms payload))
     else [])

/-- What follows the header of a data packet. -/
def dppFrame (h : Header) (payload : List Nat) : List (Nat × Nat) :=
  if h.isData then
    (DPPSTART, 0xF) :: (if h.delayed then [(DPPABORT, 0xF)] else pack (dppSyms payload))
  else []

theorem frame_eq (h : Header) (payload : List Nat) :
    frame h payload = headerFrame h.dw0 h.dw1 h.dw2 h.lcw ++ dppFrame h payload := rfl

/-- A word of the `data_sink` stream. -/
structure SinkWord where
  valid : Nat
  data  : Nat
  last  : Bool
deriving Repr, DecidableEq

def le4 (a b c d : Nat) : Nat := a + 256 * b + 65536 * c + 16777216 * d

/-- The payload as the producer presents it: full words, the last one flagged `last` with the
low-lane mask of its 1..4 bytes.  The empty payload is the empty stream (no valid lane). -/
def sinkWords : List Nat → List SinkWord
  | [] => []
  | [a] => [⟨1, a, true⟩]
  | [a, b] => [⟨3, a + 256 * b, true⟩]
  | [a, b, c] => [⟨7, a + 256 * b + 65536 * c, true⟩]
  | [a, b, c, d] => [⟨15, le4 a b c d, true⟩]
  | a :: b :: c :: d :: e :: rest => ⟨15, le4 a b c d, false⟩ :: sinkWords (e :: rest)

/-- What the stream has to present in a cycle, given the words not yet accepted.  `none`: the packet
takes nothing from the stream (no data header, or delayed) — no requirement at all.
`some (w :: _)`: `w` is presented (and held).  `some []`: nothing is left; asked is `data_sink.valid = 0` (its
four bits) in every cycle spent in DWORD 3, the stalled ones included — there it announces a zero-length payload. -/
def presents (ws : Option (List SinkWord)) (s : State) (i : In) : Bool :=
  match ws with
  | none => true
  | some (w :: _) => i.sinkValid == w.valid && i.sinkData == w.data && i.sinkLast == w.last
  | some [] => s.fsm != .dw3 || i.sinkValid % 16 == 0

def advance (ws : Option (List SinkWord)) (taken : Bool) : Option (List SinkWord) :=
  if taken then ws.map List.tail else ws

/-- **Stream contract** (closed loop, decidable): in every cycle up to `done` the producer presents
the head of the words not yet accepted, and it advances exactly on `data_sink.ready`. -/
def obeys : Option (List SinkWord) → State → List In → Bool
  | _, _, [] => true
  | ws, s, i :: is =>
    presents ws s i &&
      ((step s i).2.done || obeys (advance ws (step s i).2.sinkReady) (step s i).1 is)

/-- The run up to and including the first `done`. -/
def runPkt : State → List In → List (In × Out)
  | _, [] => []
  | s, i :: is => (i, (step s i).2) :: (if (step s i).2.done then [] else runPkt (step s i).1 is)

/-- Stream words accepted: cycles with `data_sink.ready`. -/
def accepted (tr : List (In × Out)) : List SinkWord :=
  tr.filterMap fun (i, o) => if o.sinkReady then some ⟨i.sinkValid, i.sinkData, i.sinkLast⟩ else none

def countReady (h : List In) : Nat := (h.filter (·.ready)).length

def pktDone (tr : List (In × Out)) : Bool := tr.any (·.2.done)

theorem runPkt_prefix (s : State) (h : List In) : runPkt s h = (run s h).take (runPkt s h).length := by
  induction h generalizing s with
  | nil => rfl
  | cons i is ih =>
    simp only [runPkt, run]
    split
    · simp
    · simp only [List.length_cons, List.take_succ_cons]; rw [← ih]

theorem runPkt_done_only_last (s : State) (h : List In) :
    ∀ x ∈ (runPkt s h).dropLast, x.2.done = false := by
  induction h generalizing s with
  | nil => simp [runPkt]
  | cons i is ih =>
    simp only [runPkt]
    split
    · simp
    · rename_i hd
      intro x hx
      cases hr : runPkt (step s i).1 is with
      | nil => simp [hr] at hx
      | cons y ys =>
        rw [hr, List.dropLast_cons_cons] at hx
        rcases List.mem_cons.mp hx with h1 | h1
        · subst h1; simpa using hd
        · exact ih _ x (by rw [hr]; exact h1)

theorem done_is_transfer_to_idle (s : State) (i : In) (hd : (step s i).2.done = true) :
    (step s i).2.valid = true ∧ i.ready = true ∧ (step s i).1.fsm = .idle := by
  obtain ⟨f, a, b, c, l, pw, pv, z, c16, c32⟩ := s
  cases f <;> simp_all [step]

/-- The three closing words: those of SEND_LAST_WORD, SEND_CRC and FINISH_DPP. -/
def closing (pv pw crc : Nat) : List (Nat × Nat) :=
  [(lastWordData pv pw crc, 0), crcWord pv crc, finishWord pv]

def SinkWord.bytes (w : SinkWord) : List Nat := (wordBytes w.data).take (lanes w.valid)

/-- A non-empty stream as the contract wants it: full words, then one word flagged `last` that has the
low-lane mask of its 1..4 bytes. -/
def Stream : List SinkWord → Prop
  | [] => False
  | [w] => w.last = true ∧ (w.valid = 1 ∨ w.valid = 3 ∨ w.valid = 7 ∨ w.valid = 15) ∧ w.data < 2 ^ 32
  | w :: ws => w.last = false ∧ w.valid = 15 ∧ w.data < 2 ^ 32 ∧ Stream ws

theorem Stream.of_cons {w : SinkWord} {ws : List SinkWord} (hne : ws ≠ []) (h : Stream (w :: ws)) :
    w.last = false ∧ w.valid = 15 ∧ w.data < 2 ^ 32 ∧ Stream ws := by
  cases ws with
  | nil => exact absurd rfl hne
  | cons x xs => exact h

theorem Stream.cons {w : SinkWord} {ws : List SinkWord} (hl : w.last = false) (hv : w.valid = 15)
    (hd : w.data < 2 ^ 32) (h : Stream ws) : Stream (w :: ws) := by
  cases ws with
  | nil => exact h.elim
  | cons x xs => exact ⟨hl, hv, hd, h⟩

theorem SinkWord.bytes_full {w : SinkWord} (hv : w.valid = 15) : w.bytes = wordBytes w.data := by
  simp [SinkWord.bytes, hv, lanes, wordBytes]

theorem SinkWord.length_bytes {w : SinkWord} (hv : w.valid = 1 ∨ w.valid = 3 ∨ w.valid = 7 ∨ w.valid = 15) :
    w.bytes.length = lanes w.valid ∧ 1 ≤ lanes w.valid ∧ lanes w.valid ≤ 4 := by
  rcases hv with h | h | h | h <;> simp [SinkWord.bytes, wordBytes, lanes, h]

theorem Stream.bytes_pos {ws : List SinkWord} (h : Stream ws) : 0 < (ws.flatMap SinkWord.bytes).length := by
  match ws, h with
  | [w], h =>
    have := SinkWord.length_bytes h.2.1
    simp only [List.flatMap_cons, List.flatMap_nil, List.append_nil]
    omega
  | w :: x :: xs, h => simp [SinkWord.bytes_full h.2.1, wordBytes]

/-- The words that carry the stream `ws` to the end of the data packet, the CRC unit having absorbed `acc`: they follow
DPPSTART or the word in the pipeline register (word level; `dppTail_eq_pack` gives the symbol content).  The empty
stream is the zero-length payload: after DPPSTART, the CRC-32 of nothing and the closing word. -/
def dppTail (acc : List Nat) : List SinkWord → List (Nat × Nat)
  | [] => [crcWord 15 (crc32Of acc), finishWord 15]
  | [w] => closing w.valid w.data (crc32Of (acc ++ w.bytes))
  | w :: ws => (w.data, 0) :: dppTail (acc ++ w.bytes) ws

theorem dppTail_cons (acc : List Nat) (w : SinkWord) (l : List SinkWord) :
    dppTail acc (w :: l) = if l = [] then closing w.valid w.data (crc32Of (acc ++ w.bytes))
      else (w.data, 0) :: dppTail (acc ++ w.bytes) l := by
  cases l <;> simp [dppTail]

theorem crc32Of_lt (bytes : List Nat) : crc32Of bytes < 2 ^ 32 := Crc.usb3Crc32_lt bytes

/-- The four symbols of a word, first on the wire first. -/
def wordSyms (w : Nat × Nat) : List Sym :=
  [(w.1 % 256, w.2 % 2 == 1), (w.1 / 256 % 256, w.2 / 2 % 2 == 1), (w.1 / 65536 % 256, w.2 / 4 % 2 == 1),
   (w.1 / 16777216 % 256, w.2 / 8 % 2 == 1)]

theorem k2n_bit (n : Nat) : k2n (n % 2 == 1) = n % 2 := by
  rcases Nat.mod_two_eq_zero_or_one n with h | h <;> simp [k2n, h]

theorem pack_wordSyms_cons (w : Nat × Nat) (hd : w.1 < 2 ^ 32) (hc : w.2 < 16) (rest : List Sym) :
    pack (wordSyms w ++ rest) = w :: pack rest := by
  simp only [wordSyms, List.cons_append, List.nil_append, pack, packWord, k2n_bit, List.cons.injEq, and_true]
  ext <;> simp only <;> omega

theorem pack_wordSyms (ws : List (Nat × Nat)) (h : ∀ w ∈ ws, w.1 < 2 ^ 32 ∧ w.2 < 16) :
    pack (ws.flatMap wordSyms) = ws := by
  induction ws with
  | nil => rfl
  | cons w ws ih =>
    obtain ⟨hd, hc⟩ := h w List.mem_cons_self
    rw [List.flatMap_cons, pack_wordSyms_cons w hd hc, ih fun x hx => h x (List.mem_cons_of_mem _ hx)]

theorem pack_wordBytes (d : Nat) (hd : d < 2 ^ 32) (rest : List Sym) :
    pack ((wordBytes d).map dsym ++ rest) = (d, 0) :: pack rest := by
  have : (wordBytes d).map dsym = wordSyms (d, 0) := by simp [wordBytes, wordSyms, dsym]
  rw [this, pack_wordSyms_cons (d, 0) hd (Nat.zero_lt_succ 15)]

-- by `simp`: `rfl` is accepted too, but then the kernel unfolds the closing words, at many times the cost
theorem tailSyms_eq (pv pw crc : Nat) : tailSyms pv pw crc = (closing pv pw crc).flatMap wordSyms := by
  simp [tailSyms, closing, wordSyms]

theorem closing_range (pv pw crc : Nat) (hpv : pv = 1 ∨ pv = 3 ∨ pv = 7 ∨ pv = 15) (hp : pw < 2 ^ 32)
    (hc : crc < 2 ^ 32) : ∀ w ∈ closing pv pw crc, w.1 < 2 ^ 32 ∧ w.2 < 16 := by
  -- `END`, `DPPEND` stay atoms for `simp` (their numerals make its proof term too deep for the kernel)
  have hE : END = 0xFD := rfl
  have hD : DPPEND = 0xF7FDFDFD := rfl
  rcases hpv with rfl | rfl | rfl | rfl <;> simp [closing, lastWordData, crcWord, finishWord] <;> omega

/-- The three closing words are, symbol by symbol, the valid bytes of the last payload word, the four
CRC bytes, END END END EPF and the padding: `crc32_immediately_after_last_byte` read through `pack`. -/
theorem closing_eq_pack (pv pw crc : Nat) (hpv : pv = 1 ∨ pv = 3 ∨ pv = 7 ∨ pv = 15) (hp : pw < 2 ^ 32)
    (hc : crc < 2 ^ 32) :
    closing pv pw crc = pack (((wordBytes pw).take (lanes pv)).map dsym ++ ((wordBytes crc).map dsym ++
      (endSyms ++ List.replicate (4 - lanes pv) (dsym 0)))) := by
  rw [← pack_wordSyms _ (closing_range pv pw crc hpv hp hc), ← tailSyms_eq]
  obtain ⟨t15, t7, t3, t1⟩ := crc32_immediately_after_last_byte pw crc hp hc
  rcases hpv with rfl | rfl | rfl | rfl
  · rw [t1]; rfl
  · rw [t3]; rfl
  · rw [t7]; rfl
  · rw [t15]; rfl

theorem wordBytes_le4 (a b c d : Nat) (ha : a < 256) (hb : b < 256) (hc : c < 256) (hd : d < 256) :
    wordBytes (le4 a b c d) = [a, b, c, d] := by
  simp only [wordBytes, le4, List.cons.injEq, and_true]
  omega

/-- The word-level tail is the symbol-level `dppSyms` of what remains, the CRC-32 being that of everything absorbed
and remaining. -/
theorem dppTail_eq_pack (acc : List Nat) (ws : List SinkWord) (hws : ws = [] ∨ Stream ws) :
    dppTail acc ws = pack ((ws.flatMap SinkWord.bytes).map dsym ++
      ((wordBytes (crc32Of (acc ++ ws.flatMap SinkWord.bytes))).map dsym ++
      (endSyms ++ List.replicate ((4 - (ws.flatMap SinkWord.bytes).length % 4) % 4) (dsym 0)))) := by
  fun_induction dppTail acc ws with
  | case1 acc =>
    simp only [List.flatMap_nil, List.map_nil, List.nil_append, List.append_nil, List.length_nil]
    rw [pack_wordBytes _ (crc32Of_lt acc)]
    rfl
  | case2 acc w =>
    obtain ⟨_, hv, hd⟩ := hws.resolve_left (by simp)
    have hk : (4 - w.bytes.length % 4) % 4 = 4 - lanes w.valid := by
      have := SinkWord.length_bytes hv
      omega
    simp only [List.flatMap_cons, List.flatMap_nil, List.append_nil, hk]
    exact closing_eq_pack _ _ _ hv hd (crc32Of_lt _)
  | case3 acc w ws hne ih =>
    obtain ⟨_, hv, hd, hws'⟩ := (hws.resolve_left (by simp)).of_cons (by simpa using hne)
    have hb := SinkWord.bytes_full hv
    have hl : (wordBytes w.data ++ ws.flatMap SinkWord.bytes).length % 4 = (ws.flatMap SinkWord.bytes).length % 4 := by
      simp only [wordBytes, List.length_append, List.length_cons, List.length_nil]; omega
    rw [List.flatMap_cons, hb, List.map_append, List.append_assoc, pack_wordBytes _ hd, hl, ← List.append_assoc acc,
      ← hb, ih (Or.inr hws')]

theorem sinkWords_eq_nil (payload : List Nat) : sinkWords payload = [] ↔ payload = [] := by
  fun_cases sinkWords payload <;> simp

theorem sinkWords_stream (payload : List Nat) (hb : ∀ x ∈ payload, x < 256) :
    (sinkWords payload = [] ∨ Stream (sinkWords payload)) ∧ (sinkWords payload).flatMap SinkWord.bytes = payload := by
  fun_induction sinkWords payload with
  | case1 => exact ⟨Or.inl rfl, rfl⟩
  | case2 a =>
    have := hb a (by simp)
    exact ⟨Or.inr ⟨rfl, Or.inl rfl, by simp only; omega⟩, by simp [SinkWord.bytes, wordBytes, lanes]; omega⟩
  | case3 a b =>
    have := hb a (by simp); have := hb b (by simp)
    exact ⟨Or.inr ⟨rfl, Or.inr (Or.inl rfl), by simp only; omega⟩, by simp [SinkWord.bytes, wordBytes, lanes]; omega⟩
  | case4 a b c =>
    have := hb a (by simp); have := hb b (by simp); have := hb c (by simp)
    exact ⟨Or.inr ⟨rfl, Or.inr (Or.inr (Or.inl rfl)), by simp only; omega⟩,
      by simp [SinkWord.bytes, wordBytes, lanes]; omega⟩
  | case5 a b c d =>
    have h1 := hb a (by simp); have h2 := hb b (by simp); have h3 := hb c (by simp); have h4 := hb d (by simp)
    exact ⟨Or.inr ⟨rfl, Or.inr (Or.inr (Or.inr rfl)), by simp only [le4]; omega⟩,
      by simp [SinkWord.bytes, wordBytes_le4 a b c d h1 h2 h3 h4, lanes]⟩
  | case6 a b c d e rest ih =>
    have h1 := hb a (by simp); have h2 := hb b (by simp); have h3 := hb c (by simp); have h4 := hb d (by simp)
    obtain ⟨i1, i2⟩ := ih (fun x hx => hb x (List.mem_append_right [a, b, c, d] hx))
    exact ⟨Or.inr (Stream.cons rfl rfl (by simp only [le4]; omega) (i1.resolve_left (by simp [sinkWords_eq_nil]))),
      by simp [SinkWord.bytes, wordBytes_le4 a b c d h1 h2 h3 h4, lanes, i2]⟩

theorem dppTail_sinkWords (payload : List Nat) (hb : ∀ x ∈ payload, x < 256) :
    dppTail [] (sinkWords payload) = pack (dppSyms payload) := by
  obtain ⟨h1, h2⟩ := sinkWords_stream payload hb
  rw [dppTail_eq_pack [] _ h1, h2]
  rfl

/-- What follows DPPSTART. -/
def owedDpp (lcw : Nat) (acc : List Nat) (l : List SinkWord) : List (Nat × Nat) :=
  if lcw / 2 ^ 9 % 2 = 1 then [(DPPABORT, 0xF)] else dppTail acc l

/-- What follows DWORD 3. -/
def owedData (s : State) (l : List SinkWord) : List (Nat × Nat) :=
  if s.dw0 % 16 = 8 then (DPPSTART, 0xF) :: owedDpp s.lcw s.crc32In l else []

/-- **The words a state still owes the wire**, the stream holding `l`.  DWORD 3 and the CRC-32 are written over
what the CRC units hold *now* plus what they will still absorb, so the next state owes exactly the tail and no
invariant on the units is needed. -/
def owed (s : State) (l : List SinkWord) : List (Nat × Nat) :=
  match s.fsm with
  | .idle => []
  | .hpstart => (HPSTART, 0xF) :: (s.dw0, 0) :: (s.dw1, 0) :: (s.dw2, 0) ::
      (dw3Word (s.crc16In ++ [s.dw0, s.dw1, s.dw2]) s.lcw, 0) :: owedData s l
  | .dw0 => (s.dw0, 0) :: (s.dw1, 0) :: (s.dw2, 0) ::
      (dw3Word (s.crc16In ++ [s.dw0, s.dw1, s.dw2]) s.lcw, 0) :: owedData s l
  | .dw1 => (s.dw1, 0) :: (s.dw2, 0) :: (dw3Word (s.crc16In ++ [s.dw1, s.dw2]) s.lcw, 0) :: owedData s l
  | .dw2 => (s.dw2, 0) :: (dw3Word (s.crc16In ++ [s.dw2]) s.lcw, 0) :: owedData s l
  | .dw3 => (dw3Word s.crc16In s.lcw, 0) :: owedData s l
  | .startDpp => (DPPSTART, 0xF) :: owedDpp s.lcw s.crc32In l
  | .payload => (s.pipeWord, 0) :: dppTail s.crc32In l
  | .lastWord => closing s.pipeValid s.pipeWord (crc32Of s.crc32In)
  | .crc => [crcWord s.pipeValid (crc32Of s.crc32In), finishWord s.pipeValid]
  | .finish => [finishWord s.pipeValid]
  | .abort => [(DPPABORT, 0xF)]

/-- The stream `ws` fits the state: it holds exactly what the packet will still accept. -/
def Fits (s : State) (ws : Option (List SinkWord)) : Prop :=
  match s.fsm with
  | .payload => ∃ l, ws = some l ∧ Stream l
  | .startDpp =>
    if s.lcw / 2 ^ 9 % 2 = 1 then ws.getD [] = []
    else ∃ l, ws = some l ∧ if s.isZlp then l = [] else Stream l
  | .hpstart | .dw0 | .dw1 | .dw2 | .dw3 =>
    if s.dw0 % 16 = 8 ∧ s.lcw / 2 ^ 9 % 2 = 0 then ∃ l, ws = some l ∧ (l = [] ∨ Stream l) else ws.getD [] = []
  | _ => ws.getD [] = []

/-- The word the stream presents is within the input widths (masking changes nothing), has a valid lane, and is
flagged `last` iff it is the last. -/
theorem presents_head {wv wd : Nat} {wl : Bool} {t : List SinkWord} (hws : Stream (⟨wv, wd, wl⟩ :: t)) {s : State}
    {i : In} (hp : presents (some (⟨wv, wd, wl⟩ :: t)) s i = true) :
    i.sinkValid = wv ∧ i.sinkData = wd ∧ i.sinkLast = wl ∧ wv % 16 = wv ∧ (wv % 16 == 0) = false ∧
      wd % 2 ^ 32 = wd ∧ wl = decide (t = []) ∧ (t ≠ [] → Stream t) := by
  simp only [presents, Bool.and_eq_true, beq_iff_eq] at hp
  refine ⟨hp.1.1, hp.1.2, hp.2, ?_⟩
  cases t with
  | nil => obtain ⟨h1, h2, h3⟩ := hws; simp only at h1 h2 h3; simp [h1]; omega
  | cons x xs => obtain ⟨h1, h2, h3, h4⟩ := hws; simp only at h1 h2 h3; simp [h1, h2, h4]; omega

/-- **One transfer.**  The head of what is owed goes out, the rest is owed by the next state; `done` when nothing is. -/
theorem owed_step (s : State) (ws : Option (List SinkWord)) (hI : Fits s ws) (i : In) (hr : i.ready = true)
    (hp : presents ws s i = true) (hs : s.fsm ≠ .idle) :
    (step s i).2.valid = true ∧
    owed s (ws.getD []) = ((step s i).2.data, (step s i).2.ctrl) ::
      owed (step s i).1 ((advance ws (step s i).2.sinkReady).getD []) ∧
    (if (step s i).2.done then (step s i).1.fsm = .idle ∧ (advance ws (step s i).2.sinkReady).getD [] = []
     else (step s i).1.fsm ≠ .idle ∧ Fits (step s i).1 (advance ws (step s i).2.sinkReady)) ∧
    ws.getD [] = (if (step s i).2.sinkReady then [⟨i.sinkValid, i.sinkData, i.sinkLast⟩] else []) ++
      (advance ws (step s i).2.sinkReady).getD [] := by
  obtain ⟨f, a, b, c, l, pw, pv, z, c16, c32⟩ := s
  cases f
  case idle => exact absurd rfl hs
  case dw3 =>
    -- the cycle in which `data_sink.valid = 0` announces a zero-length payload: by the head of the stream, if any
    by_cases hd : a % 16 = 8
    case neg => simp_all [step, owed, owedData, Fits, advance]
    simp only [Fits, hd, true_and] at hI
    split at hI
    · obtain ⟨ws', rfl, hws⟩ := hI
      cases ws' with
      | nil => simp_all [step, owed, owedData, owedDpp, dppTail, Fits, advance, presents]
      | cons w t =>
        obtain ⟨wv, wd, wl⟩ := w
        obtain ⟨rfl, -, -, -, e5, -⟩ := presents_head (hws.resolve_left (by simp)) hp
        simp_all [step, owed, owedData, owedDpp, Fits, advance]
    · simp_all [step, owed, owedData, owedDpp, Fits, advance]
  case startDpp =>
    simp only [Fits] at hI
    split at hI
    · simp_all [step, owed, owedDpp, Fits, advance]
    · obtain ⟨ws', rfl, hws⟩ := hI
      cases z
      · cases ws' with
        | nil => exact hws.elim
        | cons w t =>
          obtain ⟨wv, wd, wl⟩ := w
          obtain ⟨rfl, rfl, rfl, e4, -, e6, e7, e8⟩ := presents_head hws hp
          by_cases ht : t = [] <;>
            simp [step, owed, owedDpp, Fits, advance, dppTail_cons, absorb, SinkWord.bytes, *]
      · simp_all [step, owed, owedDpp, dppTail, Fits, advance]
  case payload =>
    obtain ⟨ws', rfl, hws⟩ := hI
    cases ws' with
    | nil => exact hws.elim
    | cons w t =>
      obtain ⟨wv, wd, wl⟩ := w
      obtain ⟨rfl, rfl, rfl, e4, -, e6, e7, e8⟩ := presents_head hws hp
      by_cases ht : t = [] <;>
        simp [step, owed, Fits, advance, dppTail_cons, absorb, SinkWord.bytes, hr, e4, e6, e7, e8, ht]
  -- the other eight states: a fixed word goes out and the stream is not touched
  all_goals simp [step, owed, owedData, Fits, advance, closing, hr] at hI ⊢ <;> exact hI

/-- **The transmitter plays `owed`.**  From a state that is not IDLE, the stream fitting it: for every history obeying
the contract (any ready pattern) the words transferred are the first `countReady h` owed words; `done` has been
raised iff all went out, and then exactly the stream was accepted. -/
theorem plays (h : List In) : ∀ (s : State) (ws : Option (List SinkWord)), s.fsm ≠ .idle → Fits s ws →
    obeys ws s h = true →
    emitted (runPkt s h) = (owed s (ws.getD [])).take (countReady h) ∧
    pktDone (runPkt s h) = decide ((owed s (ws.getD [])).length ≤ countReady h) ∧
    ((owed s (ws.getD [])).length ≤ countReady h → accepted (runPkt s h) = ws.getD []) := by
  induction h with
  | nil =>
    intro s ws hs _ _
    have : owed s (ws.getD []) ≠ [] := by cases hf : s.fsm <;> simp_all [owed, closing]
    simp [runPkt, emitted, countReady, pktDone, this]
  | cons i is ih =>
    intro s ws hs hI hob
    simp only [obeys, Bool.and_eq_true, Bool.or_eq_true] at hob
    obtain ⟨hp, hrest⟩ := hob
    cases hr : i.ready
    · obtain ⟨e1, e2, e3, e4⟩ := stall_invariant s hs i hr
      have hc : countReady (i :: is) = countReady is := by simp [countReady, hr]
      rw [e3, e1, e4] at hrest
      obtain ⟨r1, r2, r3⟩ := ih s ws hs hI (hrest.resolve_left (by simp))
      simp only [runPkt, e3, e1, Bool.false_eq_true, if_false, hc]
      refine ⟨?_, ?_, fun hl => ?_⟩
      · simp only [emitted, List.filterMap_cons, hr, Bool.and_false, Bool.false_eq_true, if_false]; exact r1
      · simp only [pktDone, List.any_cons, e3, Bool.false_or]; exact r2
      · simp only [accepted, List.filterMap_cons, e4, Bool.false_eq_true, if_false]; exact r3 hl
    · obtain ⟨v, ho, hnext, ha⟩ := owed_step s ws hI i hr hp hs
      have hc : countReady (i :: is) = countReady is + 1 := by simp [countReady, hr]
      rw [ho, ha, hc]
      cases hd : (step s i).2.done
      · simp only [hd, Bool.false_eq_true, if_false, false_or] at hnext hrest
        obtain ⟨r1, r2, r3⟩ := ih _ _ hnext.1 hnext.2 hrest
        simp only [runPkt, hd, Bool.false_eq_true, if_false]
        refine ⟨?_, ?_, fun hl => ?_⟩
        · simp only [emitted, List.filterMap_cons, v, hr, Bool.and_self, if_true, List.take_succ_cons]
          simp only [emitted] at r1; rw [r1]
        · simp only [pktDone, List.any_cons, hd, Bool.false_or]
          simp only [pktDone] at r2; rw [r2]; simp
        · have := r3 (by simpa using hl)
          simp only [accepted, List.filterMap_cons] at this ⊢
          rw [this]; cases (step s i).2.sinkReady <;> simp
      · simp only [hd, if_true] at hnext
        simp only [runPkt, hd, if_true, owed, hnext.1, hnext.2, List.append_nil]
        refine ⟨by simp [emitted, v, hr], by simp [pktDone, hd], fun _ => ?_⟩
        cases hsr : (step s i).2.sinkReady <;> simp [accepted, hsr]

/-- The stream the packet consumes: the payload words for a data header that is not delayed; no
requirement on the stream otherwise. -/
def streamOf (h : Header) (payload : List Nat) : Option (List SinkWord) :=
  if h.carries then some (sinkWords payload) else none

def acceptedOf (h : Header) (payload : List Nat) : List SinkWord :=
  if h.carries then sinkWords payload else []

theorem owed_hpstart (hdr : Header) (payload : List Nat) (hb : ∀ x ∈ payload, x < 256) (s : State)
    (hs : s.fsm = .hpstart)
    (hl : s.dw0 = hdr.dw0 ∧ s.dw1 = hdr.dw1 ∧ s.dw2 = hdr.dw2 ∧ s.lcw = hdr.lcw) (hc : s.crc16In = []) (hf : s.crc32In = []) :
    Fits s (streamOf hdr payload) ∧ owed s ((streamOf hdr payload).getD []) = frame hdr payload ∧
      (streamOf hdr payload).getD [] = acceptedOf hdr payload := by
  obtain ⟨l0, l1, l2, l3⟩ := hl
  have hd : (hdr.dw0 % 16 = 8) = (hdr.isData = true) := by simp [Header.isData]
  have hdel : (hdr.lcw / 2 ^ 9 % 2 = 1) = (hdr.delayed = true) := by simp [Header.delayed]
  have hnd : (hdr.lcw / 2 ^ 9 % 2 = 0) = (hdr.delayed = false) := by simp [Header.delayed]
  simp only [Fits, owed, hs, owedData, owedDpp, l0, l1, l2, l3, hc, hf, hd, hdel, hnd, frame, headerFrame, specDw3,
    dw3Word, streamOf, acceptedOf, Header.carries, List.nil_append]
  clear hd hdel hnd
  by_cases hdat : hdr.isData = true <;> by_cases hdl : hdr.delayed = true <;> simp [hdat, hdl]
  exact ⟨(sinkWords_stream payload hb).1, dppTail_sinkWords payload hb⟩

/-- **C36 `tx_emits_frame`.**  For every header (`dw0`, `dw1`, `dw2`, link control word) presented with
`generate` in IDLE, every payload (any number of bytes — 0..1024 and beyond, every residue mod 4), and
EVERY history `h` of later inputs — any `source.ready` pattern, any junk on the header inputs, on
`generate`, and on `data_sink` once the stream is exhausted — in which the producer obeys the stream
contract (`obeys`: it presents the payload words in order, holds each until `data_sink.ready`; only
required when the header is a data header not marked delayed): up to the first `done`

* the words transferred on the wire are exactly the first `countReady h` words of `frame hdr payload`
  (so: all of it once the PHY has been ready often enough, and never anything else);
* `done` is raised iff the whole frame has been transferred (and only in the last cycle of the
  packet trace, `runPkt_done_only_last`; it returns the FSM to IDLE, `done_is_transfer_to_idle`);
* the stream words accepted are then exactly `sinkWords payload`, each once, in order (none for a
  header without payload or a delayed one). -/
theorem tx_emits_frame (hdr : Header) (payload : List Nat) (hw : hdr.wf) (hb : ∀ x ∈ payload, x < 256)
    (s : State) (hs : s.fsm = .idle) (g : In) (hg : g.generate = true)
    (hh : g.dw0 = hdr.dw0 ∧ g.dw1 = hdr.dw1 ∧ g.dw2 = hdr.dw2 ∧ g.lcw = hdr.lcw)
    (h : List In) (hob : obeys (streamOf hdr payload) (step s g).1 h = true) :
    emitted (runPkt s (g :: h)) = (frame hdr payload).take (countReady h) ∧
    pktDone (runPkt s (g :: h)) = decide ((frame hdr payload).length ≤ countReady h) ∧
    ((frame hdr payload).length ≤ countReady h → accepted (runPkt s (g :: h)) = acceptedOf hdr payload) := by
  obtain ⟨w0, w1, w2, w3⟩ := hw
  obtain ⟨g0, g1, g2, g3⟩ := hh
  let s1 : State := { s with fsm := .hpstart, dw0 := hdr.dw0, dw1 := hdr.dw1, dw2 := hdr.dw2,
                              lcw := hdr.lcw, crc16In := [], crc32In := [] }
  have hstep : step s g = (s1, ⟨false, 0, 0, false, false⟩) := by
    simp [step, hs, hg, g0, g1, g2, g3, Nat.mod_eq_of_lt w0, Nat.mod_eq_of_lt w1, Nat.mod_eq_of_lt w2,
      Nat.mod_eq_of_lt w3, s1]
  rw [hstep] at hob
  obtain ⟨hfit, hfr, hacc⟩ := owed_hpstart hdr payload hb s1 rfl ⟨rfl, rfl, rfl, rfl⟩ rfl rfl
  have hE := plays h _ _ (by simp [s1]) hfit hob
  rw [hfr, hacc] at hE
  simpa [runPkt, hstep, emitted, pktDone, accepted] using hE

/-- Once the PHY has been ready often enough the whole frame, and nothing else, has been transferred,
`done` has been raised and the stream has been consumed exactly once. -/
theorem tx_emits_frame_complete (hdr : Header) (payload : List Nat) (hw : hdr.wf) (hb : ∀ x ∈ payload, x < 256)
    (s : State) (hs : s.fsm = .idle) (g : In) (hg : g.generate = true)
    (hh : g.dw0 = hdr.dw0 ∧ g.dw1 = hdr.dw1 ∧ g.dw2 = hdr.dw2 ∧ g.lcw = hdr.lcw)
    (h : List In) (hob : obeys (streamOf hdr payload) (step s g).1 h = true)
    (hlen : (frame hdr payload).length ≤ countReady h) :
    emitted (runPkt s (g :: h)) = frame hdr payload ∧ pktDone (runPkt s (g :: h)) = true ∧
    accepted (runPkt s (g :: h)) = acceptedOf hdr payload := by
  obtain ⟨e1, e2, e3⟩ := tx_emits_frame hdr payload hw hb s hs g hg hh h hob
  refine ⟨?_, ?_, e3 hlen⟩
  · rw [e1, List.take_of_length_le hlen]
  · rw [e2]; simpa using hlen

/-! ### non-vacuity: a data header with a 5-byte payload, stalls in SEND_HPSTART, START_DPP and SEND_CRC,
junk on the stream after the last word -/
section example_
def exHdr : Header := ⟨8 + 32 * 5, 5 * 65536, 0x1234, 3⟩
def exGen : In := ⟨8 + 32 * 5, 5 * 65536, 0x1234, 3, true, false, 0, 0, false⟩
def exW0 (r : Bool) : In := ⟨0, 0, 0, 0, false, r, 15, le4 1 2 3 4, false⟩
def exW1 (r : Bool) : In := ⟨7, 7, 7, 7, true, r, 1, 5, true⟩
def exJunk (r : Bool) : In := ⟨9, 9, 9, 9, true, r, 15, 0xDEADBEEF, false⟩
def exHist : List In :=
  [exW0 false, exW0 true, exW0 true, exW0 true, exW0 true, exW0 true, exW0 false, exW0 false, exW0 true,
   exW1 true, exJunk true, exJunk false, exJunk true, exJunk true, exJunk true]

example : exHdr.wf := by decide
example : obeys (streamOf exHdr [1, 2, 3, 4, 5]) (step init exGen).1 exHist = true := by decide
example : (frame exHdr [1, 2, 3, 4, 5]).length = 10 ∧ countReady exHist = 11 := by decide
-- a header without payload: no requirement on the stream at all
example (h : List In) : obeys (streamOf ⟨4, 0, 0, 0⟩ []) (step init ⟨4, 0, 0, 0, true, false, 0, 0, false⟩).1 h = true := by
  have : streamOf ⟨4, 0, 0, 0⟩ [] = none := by decide
  rw [this]
  generalize (step init ⟨4, 0, 0, 0, true, false, 0, 0, false⟩).1 = s
  induction h generalizing s with
  | nil => rfl
  | cons i is ih => simp [obeys, presents, advance, ih]
end example_

/-! ### No word of the data packet part can be taken for a header start

Its ctrl is not 1111, or it is one of the three framing words: of the closing words (`closing_ctrl`), of `dppTail`, of
the packed symbols, and so of every word of `dppFrame` after the header (`dppFrame_ctrl`). -/

theorem closing_ctrl (pv pw crc : Nat) (hpv : pv = 1 ∨ pv = 3 ∨ pv = 7 ∨ pv = 15) :
    ∀ x ∈ closing pv pw crc, x.2 < 15 ∨ x.1 ∈ [DPPSTART, DPPABORT, DPPEND] := by
  rcases hpv with rfl | rfl | rfl | rfl <;> simp [closing, crcWord, finishWord]

theorem dppTail_ctrl (acc : List Nat) (ws : List SinkWord) (hws : ws = [] ∨ Stream ws) :
    ∀ x ∈ dppTail acc ws, x.2 < 15 ∨ x.1 ∈ [DPPSTART, DPPABORT, DPPEND] := by
  fun_induction dppTail acc ws with
  | case1 => simp [crcWord, finishWord]
  | case2 acc w => exact closing_ctrl _ _ _ (hws.resolve_left (by simp)).2.1
  | case3 acc w ws hne ih =>
    intro x hx
    rcases List.mem_cons.mp hx with h | h
    · subst h; exact Or.inl (by simp)
    · exact ih (Or.inr ((hws.resolve_left (by simp)).of_cons (by simpa using hne)).2.2.2) x h

theorem pack_dppSyms_ctrl (payload : List Nat) (hb : ∀ x ∈ payload, x < 256) :
    ∀ x ∈ pack (dppSyms payload), x.2 < 15 ∨ x.1 ∈ [DPPSTART, DPPABORT, DPPEND] := by
  rw [← dppTail_sinkWords payload hb]
  exact dppTail_ctrl [] _ (sinkWords_stream payload hb).1

theorem dppFrame_ctrl (h : Header) (payload : List Nat) (hb : ∀ x ∈ payload, x < 256) :
    ∀ x ∈ dppFrame h payload, x.2 < 15 ∨ x.1 ∈ [DPPSTART, DPPABORT, DPPEND] := by
  intro x hx
  simp only [dppFrame] at hx
  split at hx
  · rcases List.mem_cons.mp hx with rfl | h1
    · simp
    · split at h1
      · simp only [List.mem_cons, List.not_mem_nil, or_false] at h1; subst h1; simp
      · exact pack_dppSyms_ctrl payload hb x h1
  · simp at hx

end LunaVerif.RawPacketTransmitter
