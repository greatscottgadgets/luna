import LunaVerif.Model.Device.DevCyc
/-!
# C20 — control skeleton of the cycle-level device composition, and its invariant

`A` keeps of the composed state (`DevCyc.State`) only what the timing argument needs: the FSM states of the four
packet-layer units, the two inter-packet counters and whether the tokenizer's `pid` register is IN/PING.  `AI` is what
one cycle's inputs (and the data registers) decide, as booleans.  `astep` is the skeleton's clock cycle;
`Lemmas/C20CycMain.lean` proves that the skeleton of `DevCyc.step` is `astep` of the skeleton, so the invariant proved
here (`Inv`, `inv_step`) is an invariant of the composition.
-/
namespace LunaVerif.DevCyc.Abs
open LunaVerif LunaVerif.DevCyc

abbrev TF := TokenDetector.Fsm
abbrev RF := DataReceiver.Fsm
abbrev GF := DataGenerator.Fsm

structure A where
  tf    : TF
  armed : Bool      -- the tokenizer's `pid` register is IN or PING
  ct    : Nat       -- token detector's private timer
  rf    : RF
  cs    : Nat       -- shared timer
  ht    : Bool      -- handshake generator is in TRANSMIT
  gf    : GF
deriving DecidableEq, Repr

structure AI where
  active     : Bool
  valid      : Bool
  isTok      : Bool     -- `isTokenPid rx_data`
  isData     : Bool     -- `isDataPid rx_data`
  crcOk      : Bool     -- token CRC5 check
  sof        : Bool     -- `current_pid == SOF`
  applicable : Bool     -- address filter passes
  cpidArm    : Bool     -- `current_pid` is IN or PING
  crcMatch   : Bool     -- receiver's CRC16 comparison
  hsReq      : Bool
  sRaw       : Bool     -- stream.valid & (first | last)
  sValid     : Bool
  sLast      : Bool
  txReady    : Bool
  isZlp      : Bool     -- generator's `is_zlp` register
  envStart   : Bool
  rsValid    : Bool
deriving DecidableEq, Repr

def tokNext (tf : TF) (active valid isTok crcOk : Bool) : TF :=
  match tf with
  | .idle => if active then .readPid else .idle
  | .readPid => if !active then .idle else if valid then (if isTok then .readToken0 else .irrelevant) else .readPid
  | .readToken0 => if !active then .idle else if valid then .readToken1 else .readToken0
  | .readToken1 => if !active then .idle else if valid then (if crcOk then .tokenComplete else .irrelevant) else .readToken1
  | .tokenComplete => if !active then .idle else if valid then .irrelevant else .tokenComplete
  | .irrelevant => if !active then .idle else .irrelevant

def rxNext (rf : RF) (active valid isData crcMatch allowed : Bool) : RF :=
  match rf with
  | .idle => if active then .readPid else .idle
  | .readPid => if !active then .idle else if valid then (if isData then .first else .irrelevant) else .readPid
  | .first => if !active then .idle else if valid then .second else .first
  | .second => if valid then .emit else if !active then .idle else .second
  | .emit => if !active then (if crcMatch then .delay else .idle) else .emit
  | .delay => if allowed then .idle else .delay
  | .irrelevant => if !active then .idle else .irrelevant

def genNext (gf : GF) (ai : AI) : GF :=
  match gf with
  | .idle => if ai.sRaw then .sendPid else .idle
  | .sendPid => if ai.txReady then (if ai.isZlp then .sendCrcFirst else .sendPayload) else .sendPid
  | .sendPayload => if ai.txReady && (ai.sLast || !ai.sValid) then .sendCrcFirst else .sendPayload
  | .sendCrcFirst => if ai.txReady then .sendCrcSecond else .sendCrcFirst
  | .sendCrcSecond => if ai.txReady then .idle else .sendCrcSecond

def genValid (gf : GF) (ai : AI) : Bool :=
  match gf with
  | .idle => false
  | .sendPayload => ai.sValid
  | _ => true

def cnt (mx c : Nat) (start : Bool) : Nat := if start then 0 else if c < mx + 1 then c + 1 else c

def tokDone (a : A) (ai : AI) : Bool := a.tf == .tokenComplete && !ai.active
def tokStart (a : A) (ai : AI) : Bool := tokDone a ai && !ai.sof && ai.applicable
def rxStart (a : A) (ai : AI) : Bool := a.rf == .emit && !ai.active && ai.crcMatch

def astep (d mx : Nat) (a : A) (ai : AI) : A :=
  { tf := tokNext a.tf ai.active ai.valid ai.isTok ai.crcOk
    armed := if tokDone a ai && !ai.sof then ai.applicable && ai.cpidArm else a.armed
    ct := cnt mx a.ct (tokStart a ai)
    rf := rxNext a.rf ai.active ai.valid ai.isData ai.crcMatch (a.cs == d)
    cs := cnt mx a.cs (rxStart a ai || ai.envStart)
    ht := if !a.ht then ai.hsReq else !ai.txReady
    gf := genNext a.gf ai }

def aSol (a : A) (ai : AI) : Bool := (tokStart a ai && ai.cpidArm) || rxStart a ai
def aTxValid (a : A) (ai : AI) : Bool := ai.rsValid || genValid a.gf ai || a.ht
def aPulse (d : Nat) (a : A) : Bool := (a.ct == d && a.armed) || (a.rf == .delay && a.cs == d)
def aSStart (a : A) (ai : AI) : Bool := a.gf == .idle && ai.sRaw

def aGhostNext (d : Nat) (p : Params) (g : Ghost) (a : A) (ai : AI) : Ghost :=
  { win := winNext p g.win (aSol a ai) (aTxValid a ai), a1 := ai.active, a2 := g.a1,
    pend := pendStep p g.pend (ai.hsReq || aSStart a ai) (aPulse d a) }

def aHostOk (g : Ghost) (ai : AI) : Bool := (g.win == .closed || !ai.active) && (!ai.valid || ai.active)

def aEnvOk (d : Nat) (g : Ghost) (a : A) (ai : AI) : Bool :=
  !ai.rsValid
  && (!(ai.hsReq || aSStart a ai) || aPulse d a || g.pend.isSome)
  && !(ai.hsReq && aSStart a ai)
  && (!(a.gf == .sendPayload) || ai.sValid)
  && (!ai.envStart || (!g.a1 && g.a2))

/-- A byte is not both a token PID and a data PID. -/
def aiOk (ai : AI) : Bool := !(ai.isTok && ai.isData)

/-- The token detector and the receiver parse the same packet in lock-step. -/
def lk : TF → RF → Bool
  | .idle, .idle => true
  | .idle, .delay => true
  | .readPid, .readPid => true
  | .readToken0, .irrelevant => true
  | .readToken1, .irrelevant => true
  | .tokenComplete, .irrelevant => true
  | .irrelevant, .first => true
  | .irrelevant, .second => true
  | .irrelevant, .emit => true
  | .irrelevant, .irrelevant => true
  | _, _ => false

def tokArmed (d : Nat) (a : A) : Prop := a.armed = true ∧ a.ct ≤ d

instance (d : Nat) (a : A) : Decidable (tokArmed d a) := by unfold tokArmed; infer_instance

def quietTx (a : A) : Prop := a.ht = false ∧ a.gf = .idle

def Mode (d : Nat) (p : Params) (a : A) (g : Ghost) : Prop :=
  -- M0 nothing owed
  (quietTx a ∧ ¬ tokArmed d a ∧ a.rf ≠ .delay ∧ g.pend = none) ∨
  -- M1 an IN/PING token has ended, its timer has not passed the delay (the cycle of the pulse, `ct = d`, included)
  (quietTx a ∧ tokArmed d a ∧ a.rf ≠ .delay ∧ g.pend = none ∧ g.win = .wait a.ct) ∨
  -- M2 a good data packet has ended, the receiver waits for the shared timer
  (quietTx a ∧ ¬ tokArmed d a ∧ a.rf = .delay ∧ g.pend = none ∧ a.cs ≤ d ∧
      ∃ k, g.win = .wait k ∧ (k = a.cs ∨ k = a.cs + 1) ∧ (1 ≤ k → g.a2 = false)) ∨
  -- M3 a pulse has been given and not been answered yet
  (quietTx a ∧ ¬ tokArmed d a ∧ a.rf ≠ .delay ∧ ∃ j k, g.pend = some j ∧ j ≤ p.L ∧ g.win = .wait k ∧ k ≤ d + 2 + j) ∨
  -- M4 exactly one transmitter is busy
  (((a.ht = true ∧ a.gf = .idle) ∨ (a.ht = false ∧ a.gf ≠ .idle)) ∧ ¬ tokArmed d a ∧ a.rf ≠ .delay ∧ g.pend = none ∧
      g.win ≠ .closed)

structure Inv (d : Nat) (p : Params) (a : A) (g : Ghost) : Prop where
  act  : g.a1 = true → g.win = .closed
  tokA : a.tf ≠ .idle → g.a1 = true
  rxA  : a.rf ≠ .idle → a.rf ≠ .delay → g.a1 = true
  lock : lk a.tf a.rf = true
  mode : Mode d p a g

def aInit : A := ⟨.idle, false, 0, .idle, 0, false, .idle⟩

theorem inv_init (d : Nat) (p : Params) : Inv d p aInit ghostInit := by
  refine ⟨by simp [ghostInit], by simp [aInit], by simp [aInit], by simp [aInit, lk], ?_⟩
  left
  simp [quietTx, tokArmed, aInit, ghostInit]

/-- One cycle keeps the lock-step, pair of `lk` by pair and kind of cycle by kind.  `hd`: at (IDLE, DELAY) activity would start
the token detector alone, the receiver leaves DELAY only by the timer; `hx`: at the PID byte each machine goes on with its own
kind of packet and sends the other's to IRRELEVANT, a byte of both kinds would take both on; `hv`: a byte is met only inside
a packet. -/
theorem lk_step (tf : TF) (rf : RF) (active valid isTok isData crcOk crcMatch allowed : Bool)
    (h : lk tf rf = true) (hd : rf = .delay → active = false) (hv : valid = true → active = true)
    (hx : (isTok && isData) = false) :
    lk (tokNext tf active valid isTok crcOk) (rxNext rf active valid isData crcMatch allowed) = true := by
  cases tf <;> cases rf <;> simp [lk] at h <;>
    cases active <;> cases valid <;> simp_all [tokNext, rxNext, lk] <;>
    (try (cases isTok <;> cases isData <;> simp_all)) <;>
    (try (cases crcOk <;> simp_all)) <;>
    (try (cases crcMatch <;> simp_all)) <;>
    (try (cases allowed <;> simp_all))

theorem tokNext_active (tf : TF) (active valid isTok crcOk : Bool)
    (h : tokNext tf active valid isTok crcOk ≠ .idle) : active = true := by
  cases tf <;> cases active <;> simp_all [tokNext]

theorem rxNext_active (rf : RF) (active valid isData crcMatch allowed : Bool) (hv : valid = true → active = true)
    (h1 : rxNext rf active valid isData crcMatch allowed ≠ .idle)
    (h2 : rxNext rf active valid isData crcMatch allowed ≠ .delay) : active = true := by
  cases rf <;> cases active <;> cases valid <;> simp_all [rxNext] <;>
    (try (cases crcMatch <;> simp_all)) <;> (try (cases allowed <;> simp_all))

theorem rxNext_delay (rf : RF) (active valid isData crcMatch allowed : Bool)
    (h : rxNext rf active valid isData crcMatch allowed = .delay) :
    (rf = .emit ∧ active = false ∧ crcMatch = true) ∨ (rf = .delay ∧ allowed = false) := by
  cases rf <;> cases active <;> cases valid <;> simp_all [rxNext] <;>
    (try (cases isData <;> simp_all)) <;> (try (cases crcMatch <;> simp_all)) <;> (try (cases allowed <;> simp_all))

variable {d mx : Nat} {p : Params} {a : A} {g : Ghost} {ai : AI}

/-- `Mode` read backwards, one implication per observable: with the token detector armed the clauses of M1 hold, with the
receiver in DELAY those of M2, with a pulse pending those of M3, with a transmitter busy those of M4, with the window closed
those of M0 (M0 itself also occurs with the window open). -/
theorem Mode.cases (h : Mode d p a g) :
    (tokArmed d a → g.win = .wait a.ct) ∧
    (a.rf = .delay → a.cs ≤ d ∧ ∃ k, g.win = .wait k ∧ (k = a.cs ∨ k = a.cs + 1) ∧ (1 ≤ k → g.a2 = false)) ∧
    (g.pend ≠ none → ¬ tokArmed d a ∧ a.rf ≠ .delay) ∧
    (¬ quietTx a → ¬ (a.ht = true ∧ a.gf ≠ .idle) ∧ ¬ tokArmed d a ∧ a.rf ≠ .delay ∧ g.pend = none ∧ g.win ≠ .closed) ∧
    (g.win = .closed → quietTx a ∧ ¬ tokArmed d a ∧ a.rf ≠ .delay ∧ g.pend = none) := by
  rcases h with m | m | m | m | m
  · exact ⟨fun h => absurd h m.2.1, fun h => absurd h m.2.2.1, fun h => absurd m.2.2.2 h, fun h => absurd m.1 h,
      fun _ => m⟩
  · exact ⟨fun _ => m.2.2.2.2, fun h => absurd h m.2.2.1, fun h => absurd m.2.2.2.1 h, fun h => absurd m.1 h,
      fun h => by simp [m.2.2.2.2] at h⟩
  · obtain ⟨q, na, rf, pe, cs, k, hk, r⟩ := m
    exact ⟨fun h => absurd h na, fun _ => ⟨cs, k, hk, r⟩, fun h => absurd pe h, fun h => absurd q h,
      fun h => by simp [hk] at h⟩
  · obtain ⟨q, na, rf, j, k, pe, _, w, _⟩ := m
    exact ⟨fun h => absurd h na, fun h => absurd h rf, fun _ => ⟨na, rf⟩, fun h => absurd q h, fun h => by simp [w] at h⟩
  · obtain ⟨b, na, rf, pe, w⟩ := m
    refine ⟨fun h => absurd h na, fun h => absurd h rf, fun h => absurd pe h, fun _ => ⟨?_, na, rf, pe, w⟩,
      fun h => absurd h w⟩
    rcases b with ⟨_, hg⟩ | ⟨hh, _⟩
    · exact fun hc => hc.2 hg
    · simp [hh]

theorem open_facts (h : Inv d p a g) (hh : aHostOk g ai = true) (hw : g.win ≠ .closed) :
    ai.active = false ∧ g.a1 = false ∧ a.tf = .idle ∧ (a.rf = .idle ∨ a.rf = .delay) := by
  have ha1 : g.a1 = false := Bool.eq_false_iff.mpr fun h1 => hw (h.act h1)
  have hact : ai.active = false := by
    simp [aHostOk] at hh
    exact hh.1.resolve_left hw
  refine ⟨hact, ha1, Decidable.byContradiction fun ht => ?_, Decidable.or_iff_not_imp_left.mpr fun hr =>
    Decidable.byContradiction fun hr2 => ?_⟩
  · simpa [ha1] using h.tokA ht
  · simpa [ha1] using h.rxA hr hr2

theorem delay_open (h : Inv d p a g) (hr : a.rf = .delay) : g.win ≠ .closed := by
  obtain ⟨_, k, hk, _⟩ := h.mode.cases.2.1 hr
  simp [hk]

/-- What a parser in lock-step with the receiver needs of the host in one cycle: `rx_valid` only under `rx_active`, and
nothing is received while the receiver waits in DELAY (the response window is open there). -/
theorem host_facts (h : Inv d p a g) (hh : aHostOk g ai = true) :
    (ai.valid = true → ai.active = true) ∧ (a.rf = .delay → ai.active = false ∧ g.a1 = false) := by
  refine ⟨fun hv => ?_, fun hr => ?_⟩
  · simp [aHostOk, hv] at hh; exact hh.2
  · obtain ⟨h1, h2, _⟩ := open_facts h hh (delay_open h hr)
    exact ⟨h1, h2⟩

theorem envOk_facts (he : aEnvOk d g a ai = true) :
    ai.rsValid = false ∧
    ((ai.hsReq = true ∨ aSStart a ai = true) → aPulse d a = true ∨ g.pend.isSome = true) ∧
    (ai.hsReq = true → aSStart a ai = false) ∧
    (a.gf = .sendPayload → ai.sValid = true) ∧
    (ai.envStart = true → g.a1 = false ∧ g.a2 = true) := by
  simp only [aEnvOk, Bool.and_eq_true, Bool.or_eq_true, Bool.not_eq_eq_eq_not, Bool.not_true] at he
  obtain ⟨⟨⟨⟨h0, h1⟩, h2⟩, h3⟩, h4⟩ := he
  refine ⟨h0, ?_, ?_, ?_, ?_⟩
  · intro hr
    rcases h1 with (h1 | h1) | h1
    · rcases hr with hr | hr <;> simp_all
    · exact Or.inl h1
    · exact Or.inr h1
  · intro hr; cases hs : aSStart a ai <;> simp_all
  · intro hg; simpa [hg] using h3
  · intro hs; simpa [hs] using h4

theorem open_no_start (h : Inv d p a g) (hh : aHostOk g ai = true) (hw : g.win ≠ .closed) :
    tokDone a ai = false ∧ tokStart a ai = false ∧ rxStart a ai = false ∧ aSol a ai = false := by
  obtain ⟨_, _, htf, hrf⟩ := open_facts h hh hw
  have h1 : tokDone a ai = false := by simp [tokDone, htf]
  have h2 : rxStart a ai = false := by rcases hrf with hr | hr <;> simp [rxStart, hr]
  simp [tokStart, aSol, h1, h2]

/-- The token detector gets armed only by the end of an IN / PING token for this device (the token half of `aSol`):
a SOF keeps the `pid` register while the timer runs on, any other token rewrites it. -/
theorem notArmed_next (hna : ¬ tokArmed d a) (h : (tokStart a ai && ai.cpidArm) = false) :
    ¬ tokArmed d (astep d mx a ai) := by
  intro ⟨h1, h2⟩
  simp only [astep] at h1 h2
  by_cases hk : (tokDone a ai && !ai.sof) = true
  · -- a token other than SOF ends: `pid` is rewritten, and the rewritten value is not IN / PING for us
    rw [if_pos hk] at h1
    simp only [tokStart, hk, Bool.true_and] at h
    rw [h] at h1; cases h1
  · -- `pid` keeps its value and the timer is not restarted
    rw [if_neg hk] at h1
    have hts : tokStart a ai = false := by
      simp only [tokStart]; revert hk; cases (tokDone a ai && !ai.sof) <;> simp
    rw [hts] at h2
    refine hna ⟨h1, ?_⟩
    simp only [cnt, Bool.false_eq_true, if_false] at h2
    split at h2 <;> omega

theorem tokPulse_off (hna : ¬ tokArmed d a) : (a.ct == d && a.armed) = false := by
  cases harm : a.armed with
  | false => simp
  | true =>
    have : a.ct ≠ d := fun hc => hna ⟨harm, by omega⟩
    simp [this]

theorem noPulse_of (hna : ¬ tokArmed d a) (hr : a.rf ≠ .delay) : aPulse d a = false := by
  simp [aPulse, tokPulse_off hna, hr]

theorem noReq_of (he : aEnvOk d g a ai = true) (hp : aPulse d a = false) (hpend : g.pend = none) :
    ai.hsReq = false ∧ aSStart a ai = false := by
  obtain ⟨_, e1, _, _, _⟩ := envOk_facts he
  have hn : ¬ (ai.hsReq = true ∨ aSStart a ai = true) := fun hq => by simpa [hp, hpend] using e1 hq
  exact ⟨Bool.eq_false_iff.mpr fun hq => hn (Or.inl hq), Bool.eq_false_iff.mpr fun hq => hn (Or.inr hq)⟩

theorem quiet_keep (hq : quietTx a) (h1 : ai.hsReq = false) (h2 : aSStart a ai = false) :
    quietTx (astep d mx a ai) := by
  have hsr : ai.sRaw = false := by simpa [aSStart, hq.2] using h2
  exact ⟨by simp [astep, hq.1, h1], by simp [astep, hq.2, genNext, hsr]⟩

theorem quiet_noTx (hq : quietTx a) (he : aEnvOk d g a ai = true) : aTxValid a ai = false := by
  simp [aTxValid, (envOk_facts he).1, hq.1, hq.2, genValid]

/-- The three possible reactions to "a request is allowed in this cycle" when both transmitters are idle and the window
after the cycle shows `wait (k + 1)`. -/
theorem react (hq : quietTx a) (he : aEnvOk d g a ai = true)
    (hna : ¬ tokArmed d (astep d mx a ai)) (hrn : (astep d mx a ai).rf ≠ .delay)
    {k : Nat} (hwn : (aGhostNext d p g a ai).win = .wait (k + 1))
    (hpn : ai.hsReq = false → aSStart a ai = false →
      ((aGhostNext d p g a ai).pend = none) ∨
      (∃ j, (aGhostNext d p g a ai).pend = some j ∧ j ≤ p.L ∧ k + 1 ≤ d + 2 + j)) :
    Mode d p (astep d mx a ai) (aGhostNext d p g a ai) := by
  obtain ⟨hht, hgf⟩ := hq
  obtain ⟨_, _, e2, _, _⟩ := envOk_facts he
  cases hq : ai.hsReq with
  | true =>
    have hss := e2 hq
    have hsr : ai.sRaw = false := by simpa [aSStart, hgf] using hss
    right; right; right; right
    refine ⟨Or.inl ⟨?_, ?_⟩, hna, hrn, ?_, by simp [hwn]⟩
    · simp [astep, hht, hq]
    · simp [astep, hgf, genNext, hsr]
    · simp [aGhostNext, pendStep, hq]
  | false =>
    cases hs : aSStart a ai with
    | true =>
      have hsr : ai.sRaw = true := by simpa [aSStart, hgf] using hs
      right; right; right; right
      refine ⟨Or.inr ⟨?_, ?_⟩, hna, hrn, ?_, by simp [hwn]⟩
      · simp [astep, hht, hq]
      · simp [astep, hgf, genNext, hsr]
      · simp [aGhostNext, pendStep, hs]
    | false =>
      have hq' := quiet_keep (d := d) (mx := mx) ⟨hht, hgf⟩ hq hs
      rcases hpn hq hs with hn | ⟨j, hj, hjl, hk⟩
      · left; exact ⟨hq', hna, hrn, hn⟩
      · right; right; right; left
        exact ⟨hq', hna, hrn, j, k + 1, hj, hjl, hwn, hk⟩

theorem open_wait (h : Inv d p a g) (hh : aHostOk g ai = true) (he : aEnvOk d g a ai = true) (hq : quietTx a)
    {k : Nat} (hwin : g.win = .wait k) (hkT : k < p.T) :
    ai.active = false ∧ g.a1 = false ∧ (a.rf ≠ .delay → a.rf = .idle) ∧
    tokDone a ai = false ∧ tokStart a ai = false ∧ rxStart a ai = false ∧
    (aGhostNext d p g a ai).win = .wait (k + 1) := by
  have hw : g.win ≠ .closed := by simp [hwin]
  obtain ⟨hact, ha1, _, hrf⟩ := open_facts h hh hw
  obtain ⟨hdone, hts, hrs, hsol⟩ := open_no_start h hh hw
  exact ⟨hact, ha1, hrf.resolve_right, hdone, hts, hrs,
    by simp [aGhostNext, winNext, hsol, quiet_noTx hq he, hwin, hkT]⟩

theorem m1_step (h : Inv d p a g) (hh : aHostOk g ai = true) (he : aEnvOk d g a ai = true)
    (hd : d ≤ mx) (hT : d + p.L + 2 < p.T)
    (m : quietTx a ∧ tokArmed d a ∧ a.rf ≠ .delay ∧ g.pend = none ∧ g.win = .wait a.ct) :
    Mode d p (astep d mx a ai) (aGhostNext d p g a ai) := by
  obtain ⟨hq, ⟨harm, hct⟩, hrd, hpend, hwin⟩ := m
  obtain ⟨hact, _, hrf, hdone, hts, _, hwn⟩ := open_wait h hh he hq hwin (by omega)
  have hrfn : (astep d mx a ai).rf = .idle := by simp [astep, hrf hrd, rxNext, hact]
  have hctn : (astep d mx a ai).ct = a.ct + 1 := by
    have h1 : a.ct < mx + 1 := by omega
    simp [astep, hts, cnt, h1]
  by_cases hlt : a.ct < d
  · -- the counter has not reached the delay: no pulse, no request
    have hp : aPulse d a = false := by
      have : a.ct ≠ d := by omega
      simp [aPulse, this, hrf hrd]
    have hreq := noReq_of he hp hpend
    right; left
    refine ⟨quiet_keep hq hreq.1 hreq.2, ⟨by simp [astep, hdone, harm], by omega⟩, by simp [hrfn], ?_, by rw [hwn, hctn]⟩
    simp [aGhostNext, pendStep, hreq.1, hreq.2, hp, hpend]
  · have hceq : a.ct = d := by omega
    have hp : aPulse d a = true := by simp [aPulse, hceq, harm]
    apply react hq he (fun hn => by have := hn.2; omega) (by simp [hrfn]) hwn
    intro hq hs
    exact Or.inr ⟨0, by simp [aGhostNext, pendStep, hq, hs, hp], by omega, by omega⟩

theorem m2_step (h : Inv d p a g) (hh : aHostOk g ai = true) (he : aEnvOk d g a ai = true)
    (hd : d ≤ mx) (hT : d + p.L + 2 < p.T)
    (m : quietTx a ∧ ¬ tokArmed d a ∧ a.rf = .delay ∧ g.pend = none ∧ a.cs ≤ d ∧
      ∃ k, g.win = .wait k ∧ (k = a.cs ∨ k = a.cs + 1) ∧ (1 ≤ k → g.a2 = false)) :
    Mode d p (astep d mx a ai) (aGhostNext d p g a ai) := by
  obtain ⟨hq, hnarm, hrf, hpend, hcs, k, hwin, hk, hka2⟩ := m
  obtain ⟨_, ha1, _, hdone, _, hrs, hwn⟩ := open_wait h hh he hq hwin (by omega)
  have e4 := (envOk_facts he).2.2.2.2
  have hna := notArmed_next (mx := mx) (ai := ai) hnarm (by simp [tokStart, hdone])
  have htokp := tokPulse_off hnarm
  by_cases hlt : a.cs < d
  · have hp : aPulse d a = false := by
      have : a.cs ≠ d := by omega
      simp [aPulse, htokp, this]
    obtain ⟨hnq, hns⟩ := noReq_of he hp hpend
    have hne : a.cs ≠ d := by omega
    right; right; left
    refine ⟨quiet_keep hq hnq hns, hna, ?_, ?_, ?_, k + 1, hwn, ?_, ?_⟩
    · simp [astep, hrf, rxNext, hne]
    · simp [aGhostNext, pendStep, hnq, hns, hp, hpend]
    · simp only [astep, cnt, hrs]; split
      · omega
      · split <;> omega
    · have h1 : a.cs < mx + 1 := by omega
      cases hes : ai.envStart with
      | true =>
        have ha2 := (e4 hes).2
        have hk0 : k = 0 := by
          rcases Nat.eq_zero_or_pos k with h0 | h0
          · exact h0
          · have := hka2 h0; simp [ha2] at this
        simp [astep, cnt, hrs, hes]; omega
      | false => simp [astep, cnt, hrs, hes, h1]; omega
    · intro _; simp [aGhostNext, ha1]
  · have hceq : a.cs = d := by omega
    have hp : aPulse d a = true := by simp [aPulse, hrf, hceq]
    have hrn : (astep d mx a ai).rf ≠ .delay := by simp [astep, hrf, rxNext, hceq]
    apply react hq he hna hrn hwn
    intro hnq hns
    right
    refine ⟨0, ?_, by omega, by omega⟩
    simp [aGhostNext, pendStep, hnq, hns, hp]

theorem m3_step (h : Inv d p a g) (hh : aHostOk g ai = true) (he : aEnvOk d g a ai = true)
    (hT : d + p.L + 2 < p.T)
    (m : quietTx a ∧ ¬ tokArmed d a ∧ a.rf ≠ .delay ∧
      ∃ j k, g.pend = some j ∧ j ≤ p.L ∧ g.win = .wait k ∧ k ≤ d + 2 + j) :
    Mode d p (astep d mx a ai) (aGhostNext d p g a ai) := by
  obtain ⟨hq, hnarm, hrd, j, k, hpend, hjl, hwin, hk⟩ := m
  obtain ⟨hact, _, hrf, hdone, _, _, hwn⟩ := open_wait h hh he hq hwin (by omega)
  have hrn : (astep d mx a ai).rf ≠ .delay := by simp [astep, hrf hrd, rxNext, hact]
  have hp := noPulse_of hnarm hrd
  apply react hq he (notArmed_next hnarm (by simp [tokStart, hdone])) hrn hwn
  intro hnq hns
  by_cases hj : j < p.L
  · right
    refine ⟨j + 1, ?_, by omega, by omega⟩
    simp [aGhostNext, pendStep, hnq, hns, hp, hpend, hj]
  · left
    simp [aGhostNext, pendStep, hnq, hns, hp, hpend, hj]

theorem m4_step (h : Inv d p a g) (hh : aHostOk g ai = true) (he : aEnvOk d g a ai = true)
    (m : ((a.ht = true ∧ a.gf = .idle) ∨ (a.ht = false ∧ a.gf ≠ .idle)) ∧ ¬ tokArmed d a ∧ a.rf ≠ .delay ∧
      g.pend = none ∧ g.win ≠ .closed) :
    Mode d p (astep d mx a ai) (aGhostNext d p g a ai) := by
  obtain ⟨hbusy, hnarm, hrd, hpend, hw⟩ := m
  obtain ⟨hact, ha1, htf, hrf⟩ := open_facts h hh hw
  obtain ⟨hdone, hts, hrs, hsol⟩ := open_no_start h hh hw
  obtain ⟨e0, _, _, e3, _⟩ := envOk_facts he
  have hrf' : a.rf = .idle := hrf.resolve_right hrd
  have hna := notArmed_next (mx := mx) (ai := ai) hnarm (by simp [tokStart, hdone])
  have hrn : (astep d mx a ai).rf ≠ .delay := by simp [astep, hrf', rxNext, hact]
  have hp := noPulse_of hnarm hrd
  obtain ⟨hnq, hns⟩ := noReq_of he hp hpend
  have hpn : (aGhostNext d p g a ai).pend = none := by simp [aGhostNext, pendStep, hnq, hns, hp, hpend]
  have htx : aTxValid a ai = true := by
    rcases hbusy with ⟨hht, _⟩ | ⟨_, hgf⟩
    · simp [aTxValid, hht]
    · have : genValid a.gf ai = true := by
        cases hg : a.gf <;> simp [genValid]
        · exact hgf hg
        · exact e3 hg
      simp [aTxValid, this]
  have hwn : (aGhostNext d p g a ai).win ≠ .closed := by
    cases hwc : g.win with
    | closed => exact absurd hwc hw
    | wait k => simp [aGhostNext, winNext, hsol, htx, hwc]
    | resp => simp [aGhostNext, winNext, hsol, htx, hwc]
  rcases hbusy with ⟨hht, hgf⟩ | ⟨hht, hgf⟩
  · have hsr : ai.sRaw = false := by simpa [aSStart, hgf] using hns
    have hgn : (astep d mx a ai).gf = .idle := by simp [astep, hgf, genNext, hsr]
    cases hr : ai.txReady with
    | true =>
      left
      refine ⟨⟨?_, hgn⟩, hna, hrn, hpn⟩
      simp [astep, hht, hr]
    | false =>
      right; right; right; right
      refine ⟨Or.inl ⟨?_, hgn⟩, hna, hrn, hpn, hwn⟩
      simp [astep, hht, hr]
  · have hhn : (astep d mx a ai).ht = false := by simp [astep, hht, hnq]
    by_cases hgn : (astep d mx a ai).gf = .idle
    · left; exact ⟨⟨hhn, hgn⟩, hna, hrn, hpn⟩
    · right; right; right; right
      exact ⟨Or.inr ⟨hhn, hgn⟩, hna, hrn, hpn, hwn⟩

theorem m0_step (h : Inv d p a g) (he : aEnvOk d g a ai = true)
    (m : quietTx a ∧ ¬ tokArmed d a ∧ a.rf ≠ .delay ∧ g.pend = none) :
    Mode d p (astep d mx a ai) (aGhostNext d p g a ai) := by
  obtain ⟨hq, hnarm, hrd, hpend⟩ := m
  have hp := noPulse_of hnarm hrd
  obtain ⟨hnq, hns⟩ := noReq_of he hp hpend
  have hq' := quiet_keep (d := d) (mx := mx) hq hnq hns
  have hpn : (aGhostNext d p g a ai).pend = none := by simp [aGhostNext, pendStep, hnq, hns, hp, hpend]
  -- does a data packet end (with a good CRC) in this cycle?
  cases hrs : rxStart a ai with
  | true =>
    have hrs' := hrs
    simp only [rxStart, Bool.and_eq_true, beq_iff_eq, Bool.not_eq_true'] at hrs'
    obtain ⟨⟨hemit, hact⟩, hcm⟩ := hrs'
    have htf : a.tf = .irrelevant := by
      have := h.lock; rw [hemit] at this
      cases ht : a.tf <;> simp [ht, lk] at this ⊢
    have hna := notArmed_next (mx := mx) (ai := ai) hnarm (by simp [tokStart, tokDone, htf])
    right; right; left
    refine ⟨hq', hna, ?_, hpn, ?_, 0, ?_, ?_, ?_⟩
    · simp [astep, hemit, rxNext, hact, hcm]
    · simp [astep, cnt, hrs]
    · simp [aGhostNext, winNext, aSol, hrs]
    · simp [astep, cnt, hrs]
    · intro h0; omega
  | false =>
    have hrn : (astep d mx a ai).rf ≠ .delay := by
      intro hdl
      simp only [astep] at hdl
      rcases rxNext_delay _ _ _ _ _ _ hdl with ⟨h1, h2, h3⟩ | ⟨h1, _⟩
      · simp [rxStart, h1, h2, h3] at hrs
      · exact hrd h1
    -- does an IN / PING token for this device end?
    cases hsol : (tokStart a ai && ai.cpidArm) with
    | false => left; exact ⟨hq', notArmed_next hnarm hsol, hrn, hpn⟩
    | true =>
      simp only [Bool.and_eq_true] at hsol
      obtain ⟨hts, harm⟩ := hsol
      have hts' := hts
      simp only [tokStart, Bool.and_eq_true, Bool.not_eq_true'] at hts'
      obtain ⟨⟨hdone, hsof⟩, happ⟩ := hts'
      right; left
      refine ⟨hq', ⟨?_, ?_⟩, hrn, hpn, ?_⟩
      · simp [astep, hdone, hsof, happ, harm]
      · simp [astep, cnt, hts]
      · simp [aGhostNext, winNext, aSol, hts, harm, astep, cnt]

theorem inv_step (h : Inv d p a g) (hx : aiOk ai = true) (hh : aHostOk g ai = true) (he : aEnvOk d g a ai = true)
    (hd : d ≤ mx) (hT : d + p.L + 2 < p.T) :
    Inv d p (astep d mx a ai) (aGhostNext d p g a ai) := by
  obtain ⟨hv, hdel⟩ := host_facts h hh
  refine ⟨fun hact => ?_, tokNext_active _ _ _ _ _, rxNext_active _ _ _ _ _ _ hv, ?_, ?_⟩
  · simp only [aGhostNext] at hact ⊢
    have hw : g.win = .closed := by
      simp [aHostOk, hact] at hh; exact hh
    simp [winNext, aSol, tokStart, tokDone, rxStart, hact, hw]
  · apply lk_step _ _ _ _ _ _ _ _ _ h.lock (fun hr => (hdel hr).1) hv
    · simp [aiOk] at hx; cases h1 : ai.isTok <;> cases h2 : ai.isData <;> simp_all
  · rcases h.mode with m | m | m | m | m
    · exact m0_step h he m
    · exact m1_step h hh he hd hT m
    · exact m2_step h hh he hd hT m
    · exact m3_step h hh he hT m
    · exact m4_step h hh he m

/-- What the invariant is for: a transmitter is busy only while the response window is open, and then nothing is
being received; the two transmitters are never busy together. -/
theorem inv_safe (h : Inv d p a g) (hh : aHostOk g ai = true) (he : aEnvOk d g a ai = true)
    (htx : aTxValid a ai = true) : g.win ≠ .closed ∧ ai.active = false ∧ ¬ (a.ht = true ∧ genValid a.gf ai = true) := by
  have hnq : ¬ quietTx a := fun hq => by rw [quiet_noTx hq he] at htx; cases htx
  obtain ⟨k1, _, _, _, k2⟩ := h.mode.cases.2.2.2.1 hnq
  exact ⟨k2, (open_facts h hh k2).1, fun ⟨h1, h2⟩ => k1 ⟨h1, fun hgi => by simp [hgi, genValid] at h2⟩⟩

end LunaVerif.DevCyc.Abs
