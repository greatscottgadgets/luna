import LunaVerif.Lemmas.C20Device
import LunaVerif.Lemmas.C20CtrlContract
/-!
# C20 — the closed device WITH its control endpoint: `restHolds` discharged for the control endpoint's own logic

`Lemmas/C20Device.lean` closes the packet layer with the bulk IN / bulk OUT / status endpoint models and leaves the
control endpoint as the "rest slot", an input ASSUMED to keep the slot contract (`restHolds`).  Here the rest slot is
driven by C07's closed loop `sys2Step` (control endpoint + request-handler multiplexer + standard request handler +
serializer + block descriptor handler), wired to the packet layer as `USBDevice.add_endpoint` wires it (tokenizer,
`rx_ready_for_response`, `handshakes_in.ack`, `tx.ready` in; handshakes, `tx`, `tx_pid_toggle`, halt-clear strobe out).
`ctrl_keeps_contract`'s environment assumption `ctlEnv` is derived from the packet layer's invariant (`ctl_env`: the
pulse decode, the exclusive PID decode, no pulse while an answer is owed or under way) and `decOk`, so `restHolds`
becomes a theorem (`restHolds_of_ctl`) and the three closed-device theorems hold with `hostHolds` + `decHolds`
(`ctl_closed_tx_never_during_rx`, …).

What `decOk` still ASSUMES in every cycle (the setup decoder, the handshake detector and the reset sequencer are inputs):
* `setup_decoder.ack` only in a cycle with the receiver's `ready_for_response` while the tokenizer shows SETUP;
  `packet.received` only while the tokenizer shows SETUP;
* while the control slot is armed or sending: no `packet.received`, no host ACK forwarded to the handlers, `setup.type`
  unchanged;
* `timer.start` (the decoder's `new_packet`) only in the cycle after a reception ended;
* the handler's `start_position` fits `position_in_stream` while the descriptor handler is in START (legal host);
* the reset sequencer does not transmit.
-/
namespace LunaVerif.DevCtl
open LunaVerif LunaVerif.DevCyc LunaVerif.DevCyc.Abs LunaVerif.C20Ctr LunaVerif.DevEp LunaVerif.CtrlCyc

/-- What the setup decoder shows the control endpoint in a cycle (still an input). -/
structure DecIn where
  received     : Bool
  sdAck        : Bool
  su           : Device.Setup
  activeConfig : Nat
deriving Repr

structure Config where
  ep  : DevEp.Config
  ctl : CtrlCyc.Cfg
  blk : Desc.Block.Config

structure State where
  ep  : DevEp.State
  ctl : Sys2State

def init (c : Config) : State := ⟨DevEp.init c.ep, sys2Init⟩

/-- The control endpoint's view of the packet layer (`USBDevice.add_endpoint` / `USBEndpointMultiplexer` wiring). -/
def ctlIn (x : Ext) (d : DecIn) (o : DevCyc.Out) : CycIn :=
  { tokEp := o.tok.regs.endpoint, newToken := o.tok.regs.newToken, readyForResponse := o.tok.readyForResponse,
    isIn := o.tok.isIn, isOut := o.tok.isOut, isSetup := o.tok.isSetup, isPing := o.tok.isPing,
    rxReady := o.rxo.ready, hsAck := x.hsAck, activeConfig := d.activeConfig, txReady := o.streamReady,
    received := d.received, sdAck := d.sdAck, su := d.su }

/-- The control endpoint's `EndpointInterface` outputs. -/
def drvOf (o : CycOut) : EpMux.Drv :=
  { valid := o.txValid, first := o.txFirst, last := o.txLast, payload := o.txPayload, pid := o.txPidToggle,
    ack := o.ack, nak := o.nak, stall := o.stall, chEnable := o.cehEnable, chDir := o.cehDirection,
    chNum := o.cehNumber, addrChg := o.addressChanged, newAddr := o.newAddress, cfgChg := o.configChanged,
    newCfg := o.newConfig }

def ctlCycle (c : Config) (W : State) (x : Ext) (d : DecIn) : Sys2State × CycOut :=
  sys2Step c.ctl c.blk W.ctl (ctlIn x d (fwd c.ep W.ep x))

/-- The inputs of the closed device `DevEp` in this cycle: the rest slot is the control endpoint. -/
def extOf (c : Config) (W : State) (x : Ext) (d : DecIn) : Ext := { x with rest := drvOf (ctlCycle c W x d).2 }

def step (c : Config) (W : State) (x : Ext) (d : DecIn) : State :=
  ⟨(DevEp.step c.ep W.ep (extOf c W x d)).1, (ctlCycle c W x d).1⟩

/-- The `DevEp` input history along the run of the device with its control endpoint. -/
def extsOf (c : Config) : State → List (Ext × DecIn) → List Ext
  | _, [] => []
  | W, (x, d) :: ys => extOf c W x d :: extsOf c (step c W x d) ys

theorem fwd_ext (c : Config) (W : State) (x : Ext) (d : DecIn) : fwd c.ep W.ep (extOf c W x d) = fwd c.ep W.ep x := rfl

/-- the rest slot's pulse does not look at what the rest slot drives -/
theorem pulR_ext (c : Config) (W : State) (x : Ext) (d : DecIn) : pulR c.ep W.ep (extOf c W x d) = pulR c.ep W.ep x := by
  rfl

/-- What is assumed of the setup decoder, the handshake detector, the host and the reset sequencer (`!x.rsValid`: it does not
transmit) in one cycle. -/
def decOk (c : Config) (W : State) (g : Ghost) (q : Phs) (pty : Nat) (x : Ext) (d : DecIn) : Bool :=
  let o := fwd c.ep W.ep x
  (!d.sdAck || (o.rxo.ready && o.tok.isSetup)) &&
  (!d.received || o.tok.isSetup) &&
  (q.r == .idle || (!d.received && !(ctrlComb c.ctl W.ctl.cs.stage (ctlIn x d o)).hsAck && d.su.type == pty)) &&
  (W.ctl.blk.fsm != .start || decide (W.ctl.cs.h.startPos < 2 ^ c.blk.img.posW)) &&
  (!x.restTimer || (!g.a1 && g.a2)) && !x.rsValid

theorem pid_decode (c : Config) (W : State) (x : Ext) :
    let o := fwd c.ep W.ep x
    o.tok.isIn = (o.tok.regs.pid == 9) ∧ o.tok.isOut = (o.tok.regs.pid == 1) ∧ o.tok.isSetup = (o.tok.regs.pid == 13) ∧
    o.tok.isPing = (o.tok.regs.pid == 4) := DevEp.pid_decode c.ep W.ep x

def epsOk (c : Config) : Prop :=
  c.ctl.epNum ≠ c.ep.epIn ∧ c.ctl.epNum ≠ c.ep.out.epNum ∧ c.ctl.epNum ≠ c.ep.sig.epNum

/-- **`ctlEnv` from the packet layer.**  In the closed device the environment assumption of `ctrl_keeps_contract`
follows from the packet layer's invariant and `decOk`. -/
theorem ctl_env (c : Config) (p : Params) (hs : strobes c.ep.dev.tok.timer c.ep.dev.speed = true) (he : epsOk c)
    {W : State} {g : Ghost} {q : Phs} {pty : Nat} {x : Ext} {d : DecIn} (hg : Good c.ep p W.ep g q)
    (hd : decOk c W g q pty x d = true) :
    ctlEnv c.ctl c.blk W.ctl ⟨q.r, pty⟩ (ctlIn x d (fwd c.ep W.ep x)) (pulR c.ep W.ep (extOf c W x d)) = true := by
  obtain ⟨e1, e2, e3⟩ := he
  obtain ⟨k1, k2, k3, k4⟩ := pid_decode c W x
  rw [pulR_ext]
  simp only [decOk, Bool.and_eq_true, Bool.or_eq_true, Bool.not_eq_eq_eq_not, Bool.not_true, beq_iff_eq,
    decide_eq_true_eq, bne_iff_ne, ne_eq] at hd
  obtain ⟨⟨⟨⟨⟨d1, d2⟩, d3⟩, d4⟩, _⟩, _⟩ := hd
  simp only [ctlEnv, Bool.and_eq_true, Bool.or_eq_true, Bool.not_eq_eq_eq_not, Bool.not_true, beq_iff_eq,
    decide_eq_true_eq, bne_iff_ne, ne_eq]
  refine ⟨⟨⟨⟨⟨?_, ?_⟩, d2⟩, ?_⟩, ?_⟩, d4⟩
  · -- a pulse for the control endpoint's number is not addressed to one of the other three
    cases hcp : ctlPulse c.ctl (ctlIn x d (fwd c.ep W.ep x)) with
    | false => exact .inl rfl
    | true =>
      simp only [ctlPulse, targeted, ctlIn, Bool.and_eq_true, Bool.or_eq_true, beq_iff_eq] at hcp
      refine .inr (pulR_of_pulse c.ep W.ep x ?_ (.inr ⟨by omega, by omega, by omega⟩))
      simp only [pulse, Bool.or_eq_true, Bool.and_eq_true]
      exact hcp.2.imp id (·.1)
  · -- the decoder's ACK comes at the receiver's pulse after a SETUP token
    refine d1.imp id fun h => ⟨pulR_of_pulse c.ep W.ep x ?_ (.inl ?_), h.2⟩
    · simp only [pulse, h.1, Bool.or_true]
    · simpa [k3] using h.2
  · simp only [pidExcl, ctlIn, k1, k2, k3, k4]
    generalize (fwd c.ep W.ep x).tok.regs.pid = n
    -- one register cannot hold two PIDs
    have : n = 9 ∨ n = 1 ∨ n = 13 ∨ n = 4 ∨ (n ≠ 9 ∧ n ≠ 1 ∧ n ≠ 13 ∧ n ≠ 4) := by omega
    rcases this with rfl | rfl | rfl | rfl | ⟨n9, n1, n13, n4⟩ <;> simp [*]
  · -- a pulse finds the slot idle
    cases hp : pulR c.ep W.ep x with
    | false => exact d3.imp id fun h => ⟨⟨⟨rfl, h.1.1⟩, h.1.2⟩, h.2⟩
    | true =>
      simp only [pulR, Bool.and_eq_true] at hp
      exact .inl (orPh_idle.mp (hg.idle_of_pulse hs x hp.1)).1

structure Joint (c : Config) (p : Params) (W : State) (g : Ghost) (q : Phs) (pty : Nat) : Prop where
  good : Good c.ep p W.ep g q
  rel  : CtrlCyc.R W.ctl ⟨q.r, pty⟩

theorem joint_init (c : Config) (p : Params) : Joint c p (init c) ghostInit phs0 0 :=
  ⟨good_init c.ep p, R_init⟩

/-- The rest slot (= the control endpoint) keeps the slot contract in this cycle, and the joint invariant is kept. -/
theorem joint_step (c : Config) (p : Params) (hs : strobes c.ep.dev.tok.timer c.ep.dev.speed = true)
    (hT : delayOf c.ep.dev.tok.timer c.ep.dev.speed + p.L + 2 < p.T) (hne : c.ep.epIn ≠ c.ep.sig.epNum)
    (he : epsOk c) (hL : 3 ≤ p.L) {W : State} {g : Ghost} {q : Phs} {pty : Nat} {x : Ext} {d : DecIn}
    (hJ : Joint c p W g q pty) (hh : hostOk g (fullIn c.ep W.ep (extOf c W x d)) = true)
    (hd : decOk c W g q pty x d = true) :
    (cstep p.L q.r (pulR c.ep W.ep (extOf c W x d)) (fwd c.ep W.ep (extOf c W x d)).streamReady g.a1 g.a2
        (restSig (extOf c W x d))).1 = true ∧
    Joint c p (step c W x d)
      (ghostNext p g W.ep.dev (fullIn c.ep W.ep (extOf c W x d)) (DevEp.step c.ep W.ep (extOf c W x d)).2)
      (nextPhs p.L c.ep W.ep (extOf c W x d) q) d.su.type := by
  obtain ⟨c1, c2⟩ := ctl_step c.ctl c.blk p.L hL hJ.rel (ctl_env c p hs he hJ.good hd)
  simp only [decOk, Bool.and_eq_true, Bool.or_eq_true, Bool.not_eq_eq_eq_not, Bool.not_true] at hd
  refine (fun hr => ⟨hr, (good_step c.ep p hs hT hne hJ.good hh hd.2 hr).2, c2⟩) ?_
  -- `timer.start` is the setup decoder's, not the control endpoint's
  simp only [cstep, tOk, restSig, extOf, Bool.and_eq_true, Bool.or_eq_true, Bool.not_eq_eq_eq_not, Bool.not_true]
  exact ⟨c1, hd.1.2⟩

/-- `decOk` along the run. -/
def decHolds (c : Config) (p : Params) : State → Ghost → Phs → Nat → List (Ext × DecIn) → Bool
  | _, _, _, _, [] => true
  | W, g, q, pty, (x, d) :: ys =>
    decOk c W g q pty x d &&
      decHolds c p (step c W x d)
        (ghostNext p g W.ep.dev (fullIn c.ep W.ep (extOf c W x d)) (DevEp.step c.ep W.ep (extOf c W x d)).2)
        (nextPhs p.L c.ep W.ep (extOf c W x d) q) d.su.type ys

theorem restHolds_of_joint (c : Config) (p : Params) (hs : strobes c.ep.dev.tok.timer c.ep.dev.speed = true)
    (hT : delayOf c.ep.dev.tok.timer c.ep.dev.speed + p.L + 2 < p.T) (hne : c.ep.epIn ≠ c.ep.sig.epNum)
    (he : epsOk c) (hL : 3 ≤ p.L) (ys : List (Ext × DecIn)) (W : State) (g : Ghost) (q : Phs) (pty : Nat)
    (hJ : Joint c p W g q pty)
    (hh : hostHolds c.ep.dev p W.ep.dev g (devIns c.ep W.ep (extsOf c W ys)) = true)
    (hd : decHolds c p W g q pty ys = true) : restHolds c.ep p W.ep g q (extsOf c W ys) = true := by
  induction ys generalizing W g q pty with
  | nil => rfl
  | cons y ys ih =>
    simp only [extsOf, devIns, hostHolds, decHolds, Bool.and_eq_true] at hh hd
    obtain ⟨hr, hJ'⟩ := joint_step c p hs hT hne he hL hJ hh.1 hd.1
    simp only [extsOf, restHolds, Bool.and_eq_true]
    refine ⟨⟨hr, ?_⟩, ih _ _ _ _ hJ' hh.2 hd.2⟩
    simp only [decOk, Bool.and_eq_true] at hd
    exact hd.1.2

/-- **`restHolds` discharged for the control endpoint's own logic.**  With the rest slot of the closed device driven by
the closed loop control endpoint + request handlers + serializer + block descriptor handler (`sys2Step`), the slot
contract of the rest slot follows from the host assumption and `decHolds`. -/
theorem restHolds_of_ctl (c : Config) (p : Params) (hs : strobes c.ep.dev.tok.timer c.ep.dev.speed = true)
    (hT : delayOf c.ep.dev.tok.timer c.ep.dev.speed + p.L + 2 < p.T) (hne : c.ep.epIn ≠ c.ep.sig.epNum)
    (he : epsOk c) (hL : 3 ≤ p.L) (ys : List (Ext × DecIn))
    (hh : hostHolds c.ep.dev p DevCyc.init ghostInit (devIns c.ep (DevEp.init c.ep) (extsOf c (init c) ys)) = true)
    (hd : decHolds c p (init c) ghostInit phs0 0 ys = true) :
    restHolds c.ep p (DevEp.init c.ep) ghostInit phs0 (extsOf c (init c) ys) = true :=
  restHolds_of_joint c p hs hT hne he hL ys (init c) ghostInit phs0 0 (joint_init c p) hh hd

/-- The device with its control endpoint never transmits while a received packet is in progress. -/
theorem ctl_closed_tx_never_during_rx (c : Config) (p : Params)
    (hs : strobes c.ep.dev.tok.timer c.ep.dev.speed = true)
    (hT : delayOf c.ep.dev.tok.timer c.ep.dev.speed + p.L + 2 < p.T) (hne : c.ep.epIn ≠ c.ep.sig.epNum)
    (he : epsOk c) (hL : 3 ≤ p.L) (ys : List (Ext × DecIn))
    (hh : hostHolds c.ep.dev p DevCyc.init ghostInit (devIns c.ep (DevEp.init c.ep) (extsOf c (init c) ys)) = true)
    (hd : decHolds c p (init c) ghostInit phs0 0 ys = true) :
    ∀ o ∈ DevEp.run c.ep (DevEp.init c.ep) (extsOf c (init c) ys), o.txValid = true → o.rxActive = false :=
  closed_tx_never_during_rx c.ep p hs hT hne _ hh (restHolds_of_ctl c p hs hT hne he hL ys hh hd)

theorem ctl_closed_transmitters_exclusive (c : Config) (p : Params)
    (hs : strobes c.ep.dev.tok.timer c.ep.dev.speed = true)
    (hT : delayOf c.ep.dev.tok.timer c.ep.dev.speed + p.L + 2 < p.T) (hne : c.ep.epIn ≠ c.ep.sig.epNum)
    (he : epsOk c) (hL : 3 ≤ p.L) (ys : List (Ext × DecIn))
    (hh : hostHolds c.ep.dev p DevCyc.init ghostInit (devIns c.ep (DevEp.init c.ep) (extsOf c (init c) ys)) = true)
    (hd : decHolds c p (init c) ghostInit phs0 0 ys = true) :
    ∀ o ∈ DevEp.run c.ep (DevEp.init c.ep) (extsOf c (init c) ys), ¬ (o.hsValid = true ∧ o.genValid = true) :=
  closed_transmitters_exclusive c.ep p hs hT hne _ hh (restHolds_of_ctl c p hs hT hne he hL ys hh hd)

theorem ctl_closed_tx_only_in_response_window (c : Config) (p : Params)
    (hs : strobes c.ep.dev.tok.timer c.ep.dev.speed = true)
    (hT : delayOf c.ep.dev.tok.timer c.ep.dev.speed + p.L + 2 < p.T) (hne : c.ep.epIn ≠ c.ep.sig.epNum)
    (he : epsOk c) (hL : 3 ≤ p.L) (ys : List (Ext × DecIn))
    (hh : hostHolds c.ep.dev p DevCyc.init ghostInit (devIns c.ep (DevEp.init c.ep) (extsOf c (init c) ys)) = true)
    (hd : decHolds c p (init c) ghostInit phs0 0 ys = true) :
    ∀ go ∈ traceG c.ep.dev p DevCyc.init ghostInit (devIns c.ep (DevEp.init c.ep) (extsOf c (init c) ys)),
      go.2.txValid = true → go.1.win ≠ .closed :=
  closed_tx_only_in_response_window c.ep p hs hT hne _ hh (restHolds_of_ctl c p hs hT hne he hL ys hh hd)

end LunaVerif.DevCtl
