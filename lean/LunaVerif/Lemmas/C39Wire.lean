import LunaVerif.Props.C39Retry
/-!
# C39 — from the headers handed to the raw transmitter to the headers on the wire

`wireHdrs c s ins`: the headers whose last word (DW3) is accepted by the PHY (`source.valid & source.ready`
in SEND_DW3) during the history — `packet_tx`'s latched header `rHdr` in those cycles; its words are on the
wire in SEND_DW0..3 (`tx_word_carries_header`) and the latch does not change while the raw transmitter is
busy.  `wire_latches`: they are, in order, the header that was in flight at the start (if any) followed by
the headers latched during the history, except a last one still in flight at the end.
-/
namespace LunaVerif.PacketTx
open LunaVerif.HeaderRx (Hdr Bufs bufQ)

/-- the last word of a header is accepted in this cycle -/
def wireDone (s : State) (i : In) : Bool := s.raw == .dw3 && i.srcReady

def wireHdrs (c : Config) : State → List In → List Hdr
  | _, [] => []
  | s, i :: is => (if wireDone s i then [s.rHdr] else []) ++ wireHdrs c (step c s i).1 is

/-- a header latched by the raw transmitter whose DW3 has not been accepted yet -/
def inflight (s : State) : List Hdr :=
  match s.raw with
  | .hpstart | .dw0 | .dw1 | .dw2 | .dw3 => [s.rHdr]
  | _ => []

def runS (c : Config) : State → List In → State
  | s, [] => s
  | s, i :: is => runS c (step c s i).1 is

theorem runG_fst (c : Config) (ins : List In) : ∀ (s : State) (g : Ghost), (runG c s g ins).1 = runS c s ins := by
  induction ins with
  | nil => intro s g; rfl
  | cons i is ih => intro s g; exact ih _ _

theorem wire_step (c : Config) (s : State) (i : In) :
    (if wireDone s i then [s.rHdr] else []) ++ inflight (step c s i).1 =
      inflight s ++ (if latch s i then [txHeader s] else []) := by
  cases hr : s.raw <;> cases hs : i.srcReady <;>
    simp [inflight, wireDone, latch, step_raw, step_rHdr, rawNext, hr, hs]
  · cases generate s i <;> rfl
  · cases generate s i <;> rfl
  · cases s.rHdr.isData <;> rfl
  · cases s.rHdr.delayed <;> rfl

theorem wire_latches (c : Config) (ins : List In) : ∀ s : State,
    wireHdrs c s ins ++ inflight (runS c s ins) = inflight s ++ latches c s ins := by
  induction ins with
  | nil => intro s; simp [wireHdrs, latches, runS]
  | cons i is ih =>
    intro s
    simp only [wireHdrs, latches, runS]
    rw [List.append_assoc, ih, ← List.append_assoc, wire_step, List.append_assoc]

theorem prefix_drop_left {α : Type} {w f l : List α} (h : w <+: f ++ l) : w.drop f.length <+: l := by
  obtain ⟨t, ht⟩ := h
  rcases Nat.lt_or_ge w.length f.length with hlt | hge
  · rw [List.drop_eq_nil_of_le (by omega)]; exact List.nil_prefix
  · have := congrArg (List.drop f.length) ht
    rw [List.drop_append_of_le_length hge, List.drop_left] at this
    exact ⟨t, this⟩

theorem prefix_take {α : Type} {a b : List α} (h : a <+: b) (n : Nat) : a.take n <+: b.take n := by
  obtain ⟨t, rfl⟩ := h
  rw [List.take_append]
  exact List.prefix_append _ _

/-- **C39 (4) on the wire**: after an LBAD, leaving aside the packet that was in flight (its header was
latched in the LBAD cycle or before), the next m headers completed on the wire — or as many of them as the
history contains — are the unacknowledged headers, in order from the first, each with the delayed bit, for
all waiting times. -/
theorem lbad_retransmits_on_the_wire (c : Config) (pre : List In) (i0 : In) (post : List In)
    (henv : EnvOkR c init Ghost.init (pre ++ [i0]))
    (hL : retryRequired (runG c init Ghost.init pre).1 = true) :
    let r0 := runG c init Ghost.init pre
    let s1 := (step c r0.1 i0).1
    let g1 := ghostStep r0.1 i0 r0.2
    let unacked := g1.taken.drop g1.retired
    RoundEnv c s1 g1 post →
    (((wireHdrs c s1 post).drop (inflight s1).length).take unacked.length) <+: unacked.map dl := by
  intro r0 s1 g1 unacked hpost
  obtain ⟨_, _, h⟩ := lbad_retransmits_all_unacked_in_order_with_dl c pre i0 post henv hL hpost
  have hw : wireHdrs c s1 post <+: inflight s1 ++ latches c s1 post := ⟨_, wire_latches c post s1⟩
  exact (prefix_take (prefix_drop_left hw) _).trans h

/-- a second LBAD while the first retransmission is in SEND_DW1: the stale packet completes (FLUSH_PACKET),
then both unacknowledged headers are retransmitted from the start -/
def retryPre3 : List In := retryPre ++ [idleIn] ++ (List.replicate 2 idleIn ++ lcIn LBAD 0)
example : let r0 := runG ⟨201, 256⟩ init Ghost.init retryPre3
    let s1 := (step ⟨201, 256⟩ r0.1 idleIn).1
    let g1 := ghostStep r0.1 idleIn r0.2
    EnvOkR ⟨201, 256⟩ init Ghost.init (retryPre3 ++ [idleIn]) ∧ retryRequired r0.1 = true ∧
    RoundEnv ⟨201, 256⟩ s1 g1 (List.replicate 30 idleIn) ∧ s1.fsm = .flush ∧
    (inflight s1).map (fun h => (h.dw0, h.dw1, h.seq, h.delayed)) = [(4, 3, 7, true)] ∧
    (wireHdrs ⟨201, 256⟩ s1 (List.replicate 30 idleIn)).map (fun h => (h.dw0, h.dw1, h.seq, h.delayed)) =
      [(4, 3, 7, true), (4, 3, 7, true), (8, 5, 0, true)] := by
  decide +kernel

end LunaVerif.PacketTx
