import LunaVerif.Model.Device.Full
/-!
# On histories that address the device and do not write its address, its behaviour is the same at every address

The address register is compared with a token's address field (`Device.core`, `Full.ctxOf`) and written by the
status-stage ACK of SET_ADDRESS (`stdAck`) and by a bus reset; everything else carries it along.  So a history in which
EVERY token names the device, there is no bus reset, and no handshake at all arrives while the standard handler is in
SET_ADDRESS (`addrFree`; stronger than "the register is not written": a handshake that would not reach the handler is
excluded too) draws the same answers, and leaves the same state but for that register, at every address (`Full.run_addr`).

`epsStep_payload` is not about the address: the endpoints do not read a data packet's payload unless the token detector
shows OUT (used by Props/C57.lean for the SETUP packet of SET_ADDRESS).
-/
namespace LunaVerif.Device

def withAddr (b : Nat) (s : DevState) : DevState := { s with address := b }

def Carries (f : DevState → DevState × Resp) : Prop :=
  ∀ b s, f (withAddr b s) = (withAddr b (f s).1, (f s).2)

/-- `p` is the same on both sides: where this is used, the condition at `withAddr b s` unfolds to the condition at `s`. -/
theorem ite_addr {b : Nat} {p : Prop} [Decidable p] {x y x' y' : DevState × Resp}
    (hx : x' = (withAddr b x.1, x.2)) (hy : y' = (withAddr b y.1, y.2)) :
    (if p then x' else y') = (withAddr b (if p then x else y).1, (if p then x else y).2) := by
  split <;> assumption

theorem stdRequest_carries (c : DevConfig) (r : Req) : Carries (stdRequest c · r) := by
  intro b s
  cases hh : s.hstate <;> cases r <;> simp only [stdRequest, withAddr, hh] <;> (try split) <;> rfl

theorem request_carries (c : DevConfig) (r : Req) : Carries (request c · r) := by
  intro b s
  simp only [request, stdRequest_carries c r b s]
  rw [show (withAddr b s).setup = s.setup from rfl]
  split <;> split <;> rfl

theorem onToken_carries (c : DevConfig) (pid ep : Nat) : Carries (onToken c · pid ep) := by
  intro b s
  have h : afterToken (withAddr b s) pid ep = withAddr b (afterToken s pid ep) := rfl
  simp only [onToken, h, request_carries c _ b]
  rw [show (withAddr b (afterToken s pid ep)).stage = (afterToken s pid ep).stage from rfl]
  repeat' split
  all_goals rfl

theorem onData_carries (c : DevConfig) (p : List Nat) (ok : Bool) : Carries (onData c · p ok) := fun b s =>
  have hs : onSetupData (withAddr b s) p = (withAddr b (onSetupData s p).1, (onSetupData s p).2) := by
    unfold onSetupData
    dsimp only [withAddr]
    split <;> rfl
  ite_addr rfl (ite_addr (ite_addr (ite_addr hs rfl) rfl) (ite_addr (request_carries c .status b s) rfl))

theorem onHandshake_addr (b : Nat) (s : DevState) (pid : Nat) (h : s.hstate ≠ .setAddress) :
    onHandshake (withAddr b s) pid = withAddr b (onHandshake s pid) := by
  have ha : stdAck (withAddr b s) = withAddr b (stdAck s) := by
    revert h
    rcases s with ⟨a, cfg, tp, te, sw, su, st, hs, sp, tx, ea, g1, g2, g3, g4⟩
    cases hs <;> intro h <;> first | exact absurd rfl h | rfl | (cases ea <;> rfl)
  unfold onHandshake
  rw [ha, apply_ite (withAddr b), apply_ite (withAddr b)]
  rfl

def evAt (b : Nat) : HostEvent → HostEvent
  | .token pid _ ep => .token pid b ep
  | ev => ev

def addrFree (s : DevState) : HostEvent → Bool
  | .token _ addr _ => addr == s.address
  | .handshake _ => s.hstate != .setAddress
  | .busReset => false
  | _ => true

theorem core_addr (c : DevConfig) (b : Nat) (s : DevState) (ev : HostEvent) (h : addrFree s ev = true) :
    core c (withAddr b s) (evAt b ev) = (withAddr b (core c s ev).1, (core c s ev).2) := by
  cases ev with
  | token pid addr ep =>
    have hb : b = (withAddr b s).address := rfl
    simp only [core, evAt, if_pos (beq_iff_eq.1 h), if_pos hb, onToken_carries c pid ep b s]
  | data pid p ok => exact onData_carries c p ok b s
  | handshake pid => simp only [core, evAt, onHandshake_addr b s pid (bne_iff_ne.1 h)]
  | busReset => exact Bool.noConfusion h
  | _ => rfl

namespace Full

def withAddr (b : Nat) (s : FullState) : FullState := { s with ctl := Device.withAddr b s.ctl }

/-- Two events that no single endpoint tells apart, the endpoints together do not tell apart. -/
theorem epsStep_congr (x : Ctx) {ev ev' : HostEvent} (h : ∀ c st, epStep c st x ev = epStep c st x ev')
    (cs : List EpCfg) (sts : List EpState) : epsStep x ev cs sts = epsStep x ev' cs sts := by
  induction cs generalizing sts with
  | nil => rfl
  | cons c cs ih => cases sts with
    | nil => rfl
    | cons st sts => simp only [epsStep, h, ih]

theorem epsStep_evAt (x : Ctx) (b : Nat) (ev : HostEvent) (cs : List EpCfg) (sts : List EpState) :
    epsStep x (evAt b ev) cs sts = epsStep x ev cs sts :=
  epsStep_congr x (fun c st => by cases ev <;> first | rfl | (cases st <;> rfl)) cs sts

theorem epsStep_payload (x : Ctx) (h : x.tokPid ≠ PID_OUT) (pid : Nat) (p q : List Nat) (ok : Bool) (cs : List EpCfg)
    (sts : List EpState) : epsStep x (.data pid p ok) cs sts = epsStep x (.data pid q ok) cs sts :=
  epsStep_congr x (fun c st => by cases st <;> simp [epStep, outData, h]) cs sts

theorem step_addr (c : FullConfig) (b : Nat) (s : FullState) (ev : HostEvent) (h : addrFree s.ctl ev = true) :
    Full.step c (withAddr b s) (evAt b ev) = (withAddr b (Full.step c s ev).1, (Full.step c s ev).2) := by
  have hx : ctxOf (Device.withAddr b s.ctl) (evAt b ev) = ctxOf s.ctl ev := by
    cases ev with
    | token pid addr ep => simp [ctxOf, evAt, Device.withAddr, beq_iff_eq.1 h]
    | _ => rfl
  have ha : acmAcksData (Device.withAddr b s.ctl) (evAt b ev) = acmAcksData s.ctl ev := by cases ev <;> rfl
  have ht : tokenPidOf (evAt b ev) = tokenPidOf ev := by cases ev <;> rfl
  simp only [Full.step, Device.step, withAddr, hx, epsStep_evAt, ha, ht, core_addr c.dev b s.ctl ev h]
  rfl

def addrFreeFrom (c : FullConfig) : FullState → List HostEvent → Bool
  | _, [] => true
  | s, e :: es => addrFree s.ctl e && addrFreeFrom c (Full.step c s e).1 es

theorem run_addr (c : FullConfig) (b : Nat) (h : List HostEvent) : ∀ s, addrFreeFrom c s h = true →
    Full.run c (withAddr b s) (h.map (evAt b)) = Full.run c s h ∧
    Full.final c (withAddr b s) (h.map (evAt b)) = withAddr b (Full.final c s h) := by
  induction h with
  | nil => intro s _; exact ⟨rfl, rfl⟩
  | cons e es ih =>
    intro s hs
    simp only [addrFreeFrom, Bool.and_eq_true] at hs
    simp only [List.map_cons, Full.run, Full.final, step_addr c b s e hs.1]
    exact ⟨congrArg _ (ih _ hs.2).1, (ih _ hs.2).2⟩

end Full
end LunaVerif.Device
