import LunaVerif.Props.C12
import LunaVerif.Lemmas.C11Refine
/-!
# C12 / C14 — `cycle_refines_event` for the stream IN endpoint (`USBStreamInEndpoint` = `USBInTransferManager`)

Cycle level: `InXfer.step` (Model/Usb2/InTransferManager.lean, C11's model with both packet memories) under the
wiring of `USBStreamInEndpoint` (`active = tokenizer.endpoint == number`, `generate_zlps = 1`,
`start_with_data1 = 0`, `flush = discard = 0`, `reset_sequence` = the halt-clear strobe naming the endpoint).
Event level: the `.sin` branch of `EpDev.epStep`.

The expansion of an event (`expand`) follows Lemmas/C12SigRefine.lean; in addition

  * a `produce` event offers its bytes one at a time: any number of idle cycles, then one cycle with
    `stream.valid` (payload, `last` on the final byte) for every byte the event-level model accepts; the producer
    stops at the first refusal; producer activity happens between transactions (DESIGN appendix D);
  * while the endpoint transmits, the packet generator takes one byte per `tx.ready` cycle, with any number of
    stall cycles before each byte; a zero-length packet is the single cycle `valid ∧ last ∧ ¬first`.

The bus observation (`wires`) decodes the endpoint's outputs as the packet generator / handshake generator do:
NAK requests, beats `(payload, first, last, data_pid[0])` taken with `valid ∧ ready`, zero-length packets, and the
bytes accepted from the producer (`valid ∧ ready` on the stream side).
-/

namespace LunaVerif.C12In
open LunaVerif LunaVerif.InXfer
open LunaVerif.Device (HostEvent Resp PID_IN PID_ACK PID_NAK PID_DATA0 PID_DATA1 DevConfig DevState core)
open LunaVerif.EpDev (EpCfg InState InFsm Shared EpOut epStep haltHits inNewToken inClearHalt inToken inAck inProduce
  inFeed sharedOf)
open LunaVerif.C12Sig (Tk tkOf pid_dec)

/-! ### Relation between the two state spaces -/

def fsmOf : InFsm → Fsm
  | .waitData => .waitData
  | .waitSend => .waitSend
  | .waitAck => .waitAck

/-- The registers agree; the two packet memories hold the event-level buffers (`bufBytes` = the first `fill`
bytes); `stream_ended` of the read buffer matters (and agrees) only for a full packet — the gateware reads it
only in the ZLP test `fill == max_packet_size ∧ ended`. -/
structure Rel (c : Config) (e : InState) (s : State) : Prop where
  inv   : Inv c s
  fsm   : s.fsm = fsmOf e.fsm
  pid   : s.pid = e.pid
  wbuf  : bufBytes s.w = e.wbuf
  wend  : s.w.ended = e.wended
  rbuf  : bufBytes s.r = e.rbuf
  rend  : s.r.fill = c.mps → s.r.ended = e.rended
  first : s.first = false

theorem rel_init (c : Config) : Rel c {} (init c) := by
  refine ⟨inv_init c, rfl, rfl, ?_, rfl, ?_, fun _ => rfl, rfl⟩ <;> simp [init, bufBytes, emptyBuf]

def cfgOf (ec : EpCfg) : Config := ⟨ec.size⟩

theorem bufBytes_length (b : Buf) (h : b.fill ≤ b.mem.length) : (bufBytes b).length = b.fill := by
  simp [bufBytes, List.length_take, Nat.min_eq_left h]

theorem Rel.wlen {c : Config} {e : InState} {s : State} (h : Rel c e s) : e.wbuf.length = s.w.fill := by
  rw [← h.wbuf]; exact bufBytes_length _ (by rw [h.inv.wlen]; exact h.inv.wfill)

theorem Rel.rlen {c : Config} {e : InState} {s : State} (h : Rel c e s) : e.rbuf.length = s.r.fill := by
  rw [← h.rbuf]; exact bufBytes_length _ (by rw [h.inv.rlen]; exact h.inv.rfill)

theorem Rel.inReady {c : Config} {e : InState} {s : State} (h : Rel c e s) :
    inReady c s = true ↔ ¬(e.wbuf.length = c.mps ∨ e.wended = true) := by
  rw [h.wlen, ← h.wend]
  simp only [InXfer.inReady, Bool.and_eq_true, bne_iff_ne, ne_eq, Bool.not_eq_true', not_or, Bool.not_eq_true]

/-- the zero-length-packet test of WAIT_FOR_ACK reads the same at both levels -/
theorem Rel.zlpTest {c : Config} {e : InState} {s : State} (h : Rel c e s) :
    (s.r.fill == c.mps && s.r.ended) = decide (e.rbuf.length = c.mps ∧ e.rended = true) := by
  rw [h.rlen]
  by_cases hf : s.r.fill = c.mps
  · simp [hf, h.rend hf]
  · simp [hf]

/-- A cycle without any strobe while the token registers show `tk`: `USBStreamInEndpoint`'s constant wiring, no
producer byte; `tx.ready` (and the unused stream payload / `last`) are taken from the arbitrary record `n`. -/
def envIn (ec : EpCfg) (tk : Tk) (n : In) : In :=
  { n with active := tk.ep == ec.num, isIn := tk.pid == PID_IN, rfr := false, newToken := false, ack := false,
           sValid := false, flush := false, discard := false, genZlps := true, resetSeq := false,
           startData1 := false }

/-! ### Observing a cycle sequence -/

inductive Wire
  | acc                                             -- a producer byte accepted (`stream.valid ∧ ready`)
  | nak                                             -- `handshakes_out.nak`
  | zlp (pid : Bool)                                -- `valid ∧ last ∧ ¬first` outside a packet
  | beat (payload : Nat) (first last pid : Bool)    -- `valid ∧ ready`
deriving DecidableEq, Repr

abbrev Tr := List (In × Out)

/-- One cycle of the decoder; `inPkt` = a packet's first beat has been taken and its last one not yet. -/
def wire1 (inPkt : Bool) (i : In) (o : Out) : List Wire × Bool :=
  let a := (if i.sValid && o.sReady then [Wire.acc] else []) ++ (if o.nak then [Wire.nak] else [])
  if o.valid then
    if !inPkt && !o.first then (a ++ (if o.last then [Wire.zlp o.pid] else []), false)
    else if i.txReady then (a ++ [Wire.beat o.payload o.first o.last o.pid], !o.last)
    else (a, inPkt)
  else (a, inPkt)

def wires : Bool → Tr → List Wire × Bool
  | b, [] => ([], b)
  | b, (i, o) :: rest => ((wire1 b i o).1 ++ (wires (wire1 b i o).2 rest).1, (wires (wire1 b i o).2 rest).2)

theorem wires_append (b : Bool) (x y : Tr) :
    wires b (x ++ y) = ((wires b x).1 ++ (wires (wires b x).2 y).1, (wires (wires b x).2 y).2) := by
  induction x generalizing b with
  | nil => simp [wires]
  | cons io rest ih => obtain ⟨i, o⟩ := io; simp [wires, ih, List.append_assoc]

theorem trace_append (c : Config) (s : State) (a b : List In) :
    trace c s (a ++ b) = trace c s a ++ trace c (runState c s a) b := by
  induction a generalizing s with
  | nil => rfl
  | cons i is ih => simp [trace, runState, ih]

theorem runState_append (c : Config) (s : State) (a b : List In) :
    runState c s (a ++ b) = runState c (runState c s a) b := by
  induction a generalizing s with
  | nil => rfl
  | cons i is ih => simp [runState, ih]

/-- The expected beats of the bytes `bs`, the first of which has index `k` in a packet of `n` bytes. -/
def beatsFrom (pid : Bool) (n : Nat) : Nat → List Nat → List Wire
  | _, [] => []
  | k, b :: bs => Wire.beat b (k == 0) (k + 1 == n) pid :: beatsFrom pid n (k + 1) bs

/-- What the event-level outputs stand for: one `acc` per producer byte accepted (`app = [k]`), then the NAK request,
the zero-length-packet cycle, or the beats of a DATA packet. -/
def wiresOf (o : EpOut) : List Wire :=
  (match o.app with
   | [k] => List.replicate k Wire.acc
   | _ => []) ++
  (match o.resp with
   | .hs pid => if pid = PID_NAK then [Wire.nak] else []
   | .data pid [] => [Wire.zlp (pid == PID_DATA1)]
   | .data pid (b :: bs) => beatsFrom (pid == PID_DATA1) (b :: bs).length 0 (b :: bs)
   | .none => [])

theorem wiresOf_data_ne (pid : Nat) (bs : List Nat) (h : bs ≠ []) :
    wiresOf { resp := .data pid bs } = beatsFrom (pid == PID_DATA1) bs.length 0 bs := by
  cases bs with
  | nil => exact absurd rfl h
  | cons b bs => simp [wiresOf]

def Sim (c : Config) (e e' : InState) (is : List In) (ws : List Wire) : Prop :=
  ∀ s, Rel c e s → Rel c e' (runState c s is) ∧ wires false (trace c s is) = (ws, false)

theorem Sim.nil {c : Config} {e : InState} : Sim c e e [] [] := fun _ h => ⟨h, rfl⟩

theorem Sim.append {c : Config} {e e1 e2 : InState} {a b : List In} {w1 w2 : List Wire}
    (h1 : Sim c e e1 a w1) (h2 : Sim c e1 e2 b w2) : Sim c e e2 (a ++ b) (w1 ++ w2) := by
  intro s hr
  obtain ⟨a1, a2⟩ := h1 s hr
  obtain ⟨b1, b2⟩ := h2 _ a1
  refine ⟨by rw [runState_append]; exact b1, ?_⟩
  rw [trace_append, wires_append, a2, b2]

theorem Sim.single {c : Config} {e e' : InState} {i : In} {ws : List Wire}
    (h : ∀ s, Rel c e s → Rel c e' (step c s i).1 ∧ wire1 false i (step c s i).2 = (ws, false)) :
    Sim c e e' [i] ws := by
  intro s hr
  obtain ⟨a, b⟩ := h s hr
  refine ⟨a, ?_⟩
  simp [trace, wires, b]

theorem Sim.wires_eq {c : Config} {e e' : InState} {is : List In} {w w' : List Wire} (h : Sim c e e' is w)
    (hw : w = w') : Sim c e e' is w' := hw ▸ h

/-! ### Buffer bookkeeping of one cycle without `discard` -/

theorem wNext_ended (c : Config) (s : State) (i : In) (hd : i.discard = false) :
    (wNext c s i).ended = (if i.sLast && wen c s i then true else s.w.ended) := by
  simp [wNext, hd]

theorem wNext_quiet (c : Config) (s : State) (i : In) (hd : i.discard = false) (hv : i.sValid = false)
    (hl : s.w.mem.length = c.mps) (hf : s.w.fill ≤ c.mps) :
    bufBytes (wNext c s i) = bufBytes s.w ∧ (wNext c s i).ended = s.w.ended := by
  have hw : wen c s i = false := by simp [wen, hv]
  exact ⟨by rw [bufBytes_wNext c s i hd hl hf, hw]; simp, by rw [wNext_ended c s i hd, hw]; simp⟩

theorem rNext_facts (c : Config) (s : State) (i : In) (hd : i.discard = false) :
    bufBytes (rNext c s i) = bufBytes s.r ∧ (rNext c s i).ended = s.r.ended ∧ (rNext c s i).fill = s.r.fill := by
  simp [bufBytes, rNext, hd]

theorem Rel.keepW {c : Config} {e : InState} {s : State} (hr : Rel c e s) (i : In) (hd : i.discard = false)
    (hv : i.sValid = false) : bufBytes (wNext c s i) = e.wbuf ∧ (wNext c s i).ended = e.wended := by
  obtain ⟨w1, w2⟩ := wNext_quiet c s i hd hv hr.inv.wlen hr.inv.wfill
  exact ⟨w1.trans hr.wbuf, w2.trans hr.wend⟩

theorem Rel.keepR {c : Config} {e : InState} {s : State} (hr : Rel c e s) (i : In) (hd : i.discard = false) :
    bufBytes (rNext c s i) = e.rbuf ∧ ((rNext c s i).fill = c.mps → (rNext c s i).ended = e.rended) := by
  obtain ⟨r1, r2, r3⟩ := rNext_facts c s i hd
  exact ⟨r1.trans hr.rbuf, fun h => r2.trans (hr.rend (r3.symm.trans h))⟩

/-! ### One-cycle lemmas, for any input record with the stated field values -/

/-- The conditions every cycle of an expansion satisfies: the constant wiring of `USBStreamInEndpoint`. -/
structure Wired (i : In) : Prop where
  discard : i.discard = false
  flush   : i.flush = false
  genZlps : i.genZlps = true
  start1  : i.startData1 = false

theorem Rel.frame {c : Config} {e e' : InState} {s s' : State} {i : In} (hr : Rel c e s) (hd : i.discard = false)
    (hv : i.sValid = false) (hinv : Inv c s') (hw : s'.w = wNext c s i) (hrb : s'.r = rNext c s i)
    (hfsm : s'.fsm = fsmOf e'.fsm) (hpid : s'.pid = e'.pid) (hfirst : s'.first = false)
    (he : e'.wbuf = e.wbuf ∧ e'.wended = e.wended ∧ e'.rbuf = e.rbuf ∧ e'.rended = e.rended) : Rel c e' s' := by
  obtain ⟨h1, h2, h3, h4⟩ := he
  refine ⟨hinv, hfsm, hpid, ?_, ?_, ?_, ?_, hfirst⟩
  · rw [hw, h1]; exact (hr.keepW i hd hv).1
  · rw [hw, h2]; exact (hr.keepW i hd hv).2
  · rw [hrb, h3]; exact (hr.keepR i hd).1
  · rw [hrb, h4]; exact (hr.keepR i hd).2

/-- A cycle in which no producer byte is offered, no ACK is taken and no transmission starts: the
event-level state changes by `new_token` or by the halt-clear strobe (never both: the strobe accompanies a handshake),
and an IN token for the endpoint is answered NAK in WAIT_FOR_DATA. -/
theorem step_calm (c : Config) (e : InState) (s : State) (i : In) (hr : Rel c e s) (hw : Wired i)
    (hv : i.sValid = false) (hx : ¬(i.resetSeq = true ∧ i.newToken = true))
    (hack : e.fsm = .waitAck → ackTaken i = false) (htok : e.fsm = .waitSend → inTok i = false) :
    Rel c (if i.resetSeq then inClearHalt e else if i.newToken then inNewToken e else e) (step c s i).1 ∧
    wire1 false i (step c s i).2 = (if inTok i && decide (e.fsm = .waitData) then [Wire.nak] else [], false) := by
  obtain ⟨hd, hfl, hgz, hs1⟩ := hw
  have hinv := inv_step c s i hd hr.inv
  have hpr : packetReady c s i = false := by simp [packetReady, hv, hfl]
  have hfs := hr.fsm
  cases hf : e.fsm <;> rw [hf] at hfs <;> simp only [fsmOf] at hfs
  · have hs := step_waitData (c := c) i hfs
    simp [hpr, hs1] at hs
    rw [hs] at hinv ⊢
    refine ⟨hr.frame hd hv hinv rfl rfl ?_ ?_ hr.first ?_, by simp [wire1, hv]⟩ <;>
      cases i.resetSeq <;> cases i.newToken <;> simp [inClearHalt, inNewToken, hf, hfs, fsmOf, hr.pid]
  · have hs : step c s i = ({ s with pid := if i.resetSeq then false else s.pid, sendPos := 0, w := wNext c s i,
                                     r := rNext c s i }, ⟨inReady c s, false, s.first, false, s.r.rdata, s.pid, false, s.toggle⟩) := by
      rw [step_waitSend i hfs]
      simp [htok hf, hd, hs1]
      cases i.resetSeq <;> rfl
    rw [hs] at hinv ⊢
    refine ⟨hr.frame hd hv hinv rfl rfl ?_ ?_ hr.first ?_, by simp [wire1, hv]⟩ <;>
      cases i.resetSeq <;> cases i.newToken <;> simp [inClearHalt, inNewToken, hf, hfs, fsmOf, hr.pid]
  · have hs : step c s i = ({ s with pid := if i.resetSeq then true else s.pid, w := wNext c s i, r := rNext c s i,
                                     fsm := if i.newToken then .waitSend else .waitAck },
        ⟨inReady c s, false, s.first, false, s.r.rdata, s.pid, false, s.toggle⟩) := by
      rw [step_waitAck i hfs]
      simp [ackNext, hack hf, hd, hs1]
      cases i.newToken <;> simp [hfs]
    rw [hs] at hinv ⊢
    refine ⟨hr.frame hd hv hinv rfl rfl ?_ ?_ hr.first ?_, by simp [wire1, hv]⟩ <;>
      cases hb : i.resetSeq <;> cases hn : i.newToken <;>
      simp only [hb, hn, and_self, not_true_eq_false] at hx <;> simp [inClearHalt, inNewToken, hf, fsmOf, hr.pid]

/-- `ready_for_response` of an IN token for the endpoint while an empty packet is waiting: the zero-length packet goes out in this very cycle. -/
theorem step_tok_zlp (c : Config) (hmps : 0 < c.mps) (e : InState) (s : State) (i : In) (hr : Rel c e s) (hw : Wired i)
    (hv : i.sValid = false) (hrs : i.resetSeq = false) (htok : inTok i = true) (hf : e.fsm = .waitSend)
    (hb : e.rbuf = []) :
    Rel c { e with fsm := .waitAck } (step c s i).1 ∧ wire1 false i (step c s i).2 = ([Wire.zlp e.pid], false) := by
  obtain ⟨hd, hfl, hgz, hs1⟩ := hw
  have hinv := inv_step c s i hd hr.inv
  have hfs := hr.fsm
  rw [hf] at hfs; simp only [fsmOf] at hfs
  have hfill : s.r.fill = 0 := by rw [← hr.rlen, hb]; rfl
  have hs := step_waitSend (c := c) i hfs
  simp [htok, hrs, hd, hfill] at hs
  rw [hs] at hinv ⊢
  refine ⟨⟨hinv, rfl, hr.pid, (hr.keepW i hd hv).1, (hr.keepW i hd hv).2, (hr.keepR i hd).1, ?_, hr.first⟩,
    by simp [wire1, hv, hr.first, hr.pid]⟩
  intro h; simp only [(rNext_facts c s i hd).2.2, hfill] at h; omega

theorem step_ack (c : Config) (hmps : 0 < c.mps) (e : InState) (s : State) (i : In) (hr : Rel c e s) (hw : Wired i)
    (hv : i.sValid = false) (hrs : i.resetSeq = false) (hnt : i.newToken = false) (hack : ackTaken i = true)
    (htok : inTok i = false) :
    Rel c (inAck c.mps e) (step c s i).1 ∧ wire1 false i (step c s i).2 = ([], false) := by
  by_cases hf : e.fsm = .waitAck
  · obtain ⟨hd, hfl, hgz, hs1⟩ := hw
    have hinv := inv_step c s i hd hr.inv
    obtain ⟨w1, w2⟩ := hr.keepW i hd hv
    have hpr : packetReady c s i = false := by simp [packetReady, hv, hfl]
    have hfs := hr.fsm
    rw [hf] at hfs; simp only [fsmOf] at hfs
    have hs := step_waitAck (c := c) i hfs
    simp only [inAck, hf, if_true]
    by_cases hz : e.rbuf.length = c.mps ∧ e.rended = true
    · -- a full packet that ended the transfer: a zero-length packet follows
      simp [ackNext, hack, hd, hnt, hgz, hr.zlpTest, hz] at hs
      rw [hs] at hinv ⊢
      rw [if_pos hz]
      refine ⟨⟨hinv, rfl, by simp [hr.pid], w1, w2, by simp [bufBytes], ?_, hr.first⟩, by simp [wire1, hv]⟩
      intro h; simp only at h; omega
    · rw [if_neg hz]
      by_cases hnw : e.wbuf.length = c.mps ∨ e.wended = true
      · -- the next packet is waiting: swap the buffers
        have hrdy : inReady c s = false := Bool.eq_false_iff.mpr fun h => hr.inReady.mp h hnw
        simp [ackNext, hack, hd, hnt, hgz, hr.zlpTest, hz, hrdy] at hs
        rw [hs] at hinv ⊢
        rw [if_pos hnw]
        exact ⟨⟨hinv, rfl, by simp [hr.pid], by simp [bufBytes], rfl, w1, fun _ => w2, hr.first⟩, by simp [wire1, hv]⟩
      · -- nothing waiting: back to WAIT_FOR_DATA
        simp [ackNext, hack, hrs, hd, hnt, hgz, hr.zlpTest, hz, hr.inReady.mpr hnw, hpr] at hs
        rw [hs] at hinv ⊢
        rw [if_neg hnw]
        refine ⟨⟨hinv, rfl, hr.pid, w1, w2, by simp [bufBytes], ?_, hr.first⟩, by simp [wire1, hv]⟩
        intro h; simp only at h; omega
  · -- in any other state the ACK is not looked at
    have := step_calm c e s i hr hw hv (by simp [hrs]) (fun h => absurd h hf) (fun _ => htok)
    simpa [inAck, hf, hrs, hnt, htok] using this

theorem step_feed (c : Config) (e : InState) (s : State) (i : In) (hr : Rel c e s) (hw : Wired i)
    (hv : i.sValid = true) (hb8 : i.sPayload < 256)
    (hrs : i.resetSeq = false) (hnt : i.newToken = false) (hack : ackTaken i = false) (htok : inTok i = false)
    (hacc : (inFeed c.mps e i.sPayload i.sLast).2 = true) :
    Rel c (inFeed c.mps e i.sPayload i.sLast).1 (step c s i).1 ∧ wire1 false i (step c s i).2 = ([Wire.acc], false) := by
  obtain ⟨hd, hfl, hgz, hs1⟩ := hw
  have hinv := inv_step c s i hd hr.inv
  obtain ⟨r1, r2⟩ := hr.keepR i hd
  have hwl := hr.wlen
  have hroom : ¬(e.wbuf.length = c.mps ∨ e.wended = true) := by
    intro h; simp [inFeed, h] at hacc
  have hrdy : inReady c s = true := hr.inReady.mpr hroom
  have hwen : wen c s i = true := by simp [wen, hv, hrdy]
  have hwe : s.w.ended = false := by
    simp only [inReady, Bool.and_eq_true, Bool.not_eq_true'] at hrdy; exact hrdy.2
  have w1 : bufBytes (wNext c s i) = e.wbuf ++ [i.sPayload] := by
    rw [bufBytes_wNext c s i hd hr.inv.wlen hr.inv.wfill, hwen, hr.wbuf, Nat.mod_eq_of_lt hb8]; rfl
  have w2 : (wNext c s i).ended = i.sLast := by
    rw [wNext_ended c s i hd, hwen, hwe]; cases i.sLast <;> rfl
  have hpr : packetReady c s i = (i.sLast || e.wbuf.length + 1 == c.mps) := by
    simp [packetReady, hv, hfl, hd, hwl]
  have hfs := hr.fsm
  simp only [inFeed, hroom, if_false]
  by_cases hp : e.fsm = .waitData ∧ (i.sLast = true ∨ e.wbuf.length + 1 = c.mps)
  · -- the byte completes a packet in WAIT_FOR_DATA: the buffers are swapped
    rw [if_pos hp]
    rw [hp.1] at hfs; simp only [fsmOf] at hfs
    have hs := step_waitData (c := c) i hfs
    simp [hpr, hp.2, htok, hrs] at hs
    have hr0 : s.r.fill = 0 := hr.inv.idle hfs
    rw [hs] at hinv ⊢
    refine ⟨⟨hinv, rfl, by simp [hr.pid], ?_, rfl, w1, fun _ => w2, hr.first⟩, by simp [wire1, hv, hrdy]⟩
    simp [bufBytes, rNext, hd, hr0]
  · -- otherwise only the write buffer grows, in every state (the three arms differ in `sendPos`)
    rw [if_neg hp]
    suffices h : ∃ sp, step c s i = ({ s with w := wNext c s i, r := rNext c s i, sendPos := sp },
        ⟨inReady c s, false, s.first, false, s.r.rdata, s.pid, false, s.toggle⟩) by
      obtain ⟨sp, hs⟩ := h
      rw [hs] at hinv ⊢
      exact ⟨⟨hinv, hr.fsm, hr.pid, w1, w2, r1, r2, hr.first⟩, by simp [wire1, hv, hrdy]⟩
    cases hf : e.fsm <;> rw [hf] at hfs <;> simp only [fsmOf] at hfs
    · exact ⟨s.sendPos, by rw [step_waitData i hfs]; simpa [hpr, htok, hrs, hf] using hp⟩
    · exact ⟨0, by rw [step_waitSend i hfs]; simp [htok, hrs, hd]⟩
    · exact ⟨s.sendPos, by rw [step_waitAck i hfs]; simp [ackNext, hack, hrs, hd, hnt]⟩

/-! ### The transmission -/

/-- The event level has no state for a transmission under way (`Rel` covers WAIT_FOR_DATA, WAIT_TO_SEND and
WAIT_FOR_ACK): in SEND_PACKET with `k` bytes taken the registers still agree with the event-level state `e` that waits
to send, and the read buffer is `e.rbuf`. -/
structure RelS (c : Config) (e : InState) (s : State) (k : Nat) : Prop where
  inv   : Inv c s
  fsm   : s.fsm = .sendPacket
  pos   : s.sendPos = k
  first : s.first = decide (k = 0)
  pid   : s.pid = e.pid
  wbuf  : bufBytes s.w = e.wbuf
  wend  : s.w.ended = e.wended
  rbuf  : bufBytes s.r = e.rbuf
  rend  : s.r.fill = c.mps → s.r.ended = e.rended

theorem RelS.keep {c : Config} {e : InState} {s s' : State} {k k' : Nat} {i : In} (h : RelS c e s k)
    (hd : i.discard = false) (hv : i.sValid = false) (hinv : Inv c s') (hfs : s'.fsm = .sendPacket) (hp : s'.sendPos = k')
    (hfi : s'.first = decide (k' = 0)) (hpid : s'.pid = s.pid) (hw : s'.w = wNext c s i) (hrb : s'.r = rNext c s i) :
    RelS c e s' k' := by
  obtain ⟨w1, w2⟩ := wNext_quiet c s i hd hv h.inv.wlen h.inv.wfill
  obtain ⟨r1, r2, r3⟩ := rNext_facts c s i hd
  refine ⟨hinv, hfs, hp, hfi, hpid.trans h.pid, ?_, ?_, ?_, ?_⟩
  · rw [hw, w1]; exact h.wbuf
  · rw [hw, w2]; exact h.wend
  · rw [hrb, r1]; exact h.rbuf
  · rw [hrb, r2, r3]; exact h.rend

theorem RelS.fill {c : Config} {e : InState} {s : State} {k : Nat} (h : RelS c e s k) : s.r.fill = e.rbuf.length := by
  rw [← h.rbuf]; exact (bufBytes_length _ (by rw [h.inv.rlen]; exact h.inv.rfill)).symm

/-- `ready_for_response` of an IN token for the endpoint while a non-empty packet is waiting: SEND_PACKET is entered. -/
theorem step_tok_start (c : Config) (e : InState) (s : State) (i : In) (hr : Rel c e s) (hw : Wired i)
    (hv : i.sValid = false) (hrs : i.resetSeq = false) (htok : inTok i = true) (hf : e.fsm = .waitSend)
    (hb : e.rbuf ≠ []) :
    RelS c e (step c s i).1 0 ∧ wire1 false i (step c s i).2 = ([], false) := by
  have hd := hw.discard
  have hinv := inv_step c s i hd hr.inv
  have hfs := hr.fsm
  rw [hf] at hfs; simp only [fsmOf] at hfs
  have hfill : s.r.fill ≠ 0 := by
    rw [← hr.rlen]; intro h; exact hb (List.eq_nil_of_length_eq_zero h)
  have hs := step_waitSend (c := c) i hfs
  simp [htok, hrs, hd, hfill, beq_eq_false_iff_ne.mpr hfill] at hs
  rw [hs] at hinv ⊢
  exact ⟨⟨hinv, rfl, rfl, rfl, hr.pid, (hr.keepW i hd hv).1, (hr.keepW i hd hv).2, (hr.keepR i hd).1, (hr.keepR i hd).2⟩,
    by simp [wire1, hv]⟩

theorem step_stall (c : Config) (e : InState) (s : State) (k : Nat) (i : In) (h : RelS c e s k) (hw : Wired i)
    (hv : i.sValid = false) (hrs : i.resetSeq = false) (hrdy : i.txReady = false) :
    RelS c e (step c s i).1 k ∧ wire1 (decide (k ≠ 0)) i (step c s i).2 = ([], decide (k ≠ 0)) := by
  have hinv' := inv_step c s i hw.discard h.inv
  have hs := step_sendPacket (c := c) i h.fsm
  simp [hrdy, hrs] at hs
  rw [hs] at hinv' ⊢
  refine ⟨h.keep hw.discard hv hinv' h.fsm h.pos h.first rfl rfl rfl, ?_⟩
  rw [h.first]
  by_cases h0 : k = 0 <;> simp [wire1, hv, hrdy, h0]

theorem step_take (c : Config) (e : InState) (s : State) (k : Nat) (i : In) (h : RelS c e s k) (hw : Wired i)
    (hv : i.sValid = false) (hrs : i.resetSeq = false) (hrdy : i.txReady = true) :
    (if k + 1 = e.rbuf.length then Rel c { e with fsm := .waitAck } (step c s i).1 else RelS c e (step c s i).1 (k + 1)) ∧
    wire1 (decide (k ≠ 0)) i (step c s i).2 =
      ([Wire.beat s.r.rdata (k == 0) (k + 1 == e.rbuf.length) e.pid], !(k + 1 == e.rbuf.length)) := by
  have hinv' := inv_step c s i hw.discard h.inv
  obtain ⟨hlt, _⟩ := h.inv.send h.fsm
  obtain ⟨w1, w2⟩ := wNext_quiet c s i hw.discard hv h.inv.wlen h.inv.wfill
  obtain ⟨r1, r2, r3⟩ := rNext_facts c s i hw.discard
  have hs := step_sendPacket (c := c) i h.fsm
  simp [hrdy, hrs, succ_mod_bitsFor (Nat.lt_of_lt_of_le hlt h.inv.rfill)] at hs
  rw [hs] at hinv' ⊢
  refine ⟨?_, by rw [h.first, h.pos, h.fill, h.pid]; by_cases h0 : k = 0 <;> simp [wire1, hv, hrdy, h0]⟩
  rw [← h.fill, ← h.pos]
  split
  · rename_i hl
    rw [if_pos hl] at hinv'
    exact ⟨hinv', rfl, h.pid, w1.trans h.wbuf, w2.trans h.wend, r1.trans h.rbuf,
      fun g => r2.trans (h.rend (r3.symm.trans g)), rfl⟩
  · rename_i hl
    rw [if_neg hl] at hinv'
    exact h.keep hw.discard hv hinv' rfl (by simp [h.pos]) (by simp) rfl rfl rfl

def stallIn (ec : EpCfg) (tk : Tk) (n : In) : In := { envIn ec tk n with txReady := false }
def takeIn (ec : EpCfg) (tk : Tk) (n : In) : In := { envIn ec tk n with txReady := true }

/-- The cycles in which the packet generator takes bytes `k … k+m-1`: before byte `j` the stall cycles `st j`
(`tx.ready` low), then one cycle with `tx.ready` high (free inputs `tn j`). -/
def sendCyc (ec : EpCfg) (tk : Tk) (st : Nat → List In) (tn : Nat → In) : Nat → Nat → List In
  | _, 0 => []
  | k, m + 1 =>
    (st k).map (stallIn ec tk) ++ (takeIn ec tk (tn k) :: sendCyc ec tk st tn (k + 1) m)

theorem stall_run (ec : EpCfg) (tk : Tk) (e : InState) (k : Nat) (ns : List In) :
    ∀ (s : State), RelS (cfgOf ec) e s k →
      let is := ns.map (stallIn ec tk)
      RelS (cfgOf ec) e (runState (cfgOf ec) s is) k ∧
      wires (decide (k ≠ 0)) (trace (cfgOf ec) s is) = ([], decide (k ≠ 0)) := by
  induction ns with
  | nil => intro s h; exact ⟨h, rfl⟩
  | cons n ns ih =>
    intro s h
    obtain ⟨a1, a2⟩ := step_stall (cfgOf ec) e s k (stallIn ec tk n) h ⟨rfl, rfl, rfl, rfl⟩ rfl rfl rfl
    obtain ⟨b1, b2⟩ := ih _ a1
    simp only [List.map_cons, runState, trace, wires]
    exact ⟨b1, by simp only [a2, b2, List.nil_append]⟩

theorem send_run (ec : EpCfg) (tk : Tk) (e : InState) (st : Nat → List In) (tn : Nat → In) (m : Nat) :
    ∀ (k : Nat) (s : State), RelS (cfgOf ec) e s k → k + m = e.rbuf.length → 0 < m →
      let is := sendCyc ec tk st tn k m
      Rel (cfgOf ec) { e with fsm := .waitAck } (runState (cfgOf ec) s is) ∧
      wires (decide (k ≠ 0)) (trace (cfgOf ec) s is) = (beatsFrom e.pid e.rbuf.length k (e.rbuf.drop k), false) := by
  induction m with
  | zero => intro k s _ _ h; omega
  | succ m ih =>
    intro k s h hkm _
    obtain ⟨a1, a2⟩ := stall_run ec tk e k (st k) s h
    generalize hs1 : runState (cfgOf ec) s ((st k).map (fun n => (stallIn ec tk n))) = s1 at a1
    obtain ⟨b1, b2⟩ := step_take (cfgOf ec) e s1 k (takeIn ec tk (tn k)) a1 ⟨rfl, rfl, rfl, rfl⟩ rfl rfl rfl
    obtain ⟨hlt, hrd⟩ := a1.inv.send a1.fsm
    have hdrop : e.rbuf.drop k = s1.r.rdata :: e.rbuf.drop (k + 1) := by
      have hl : k < e.rbuf.length := by omega
      rw [List.drop_eq_getElem_cons hl]
      congr 1
      have : e.rbuf[k]? = some s1.r.rdata := by
        rw [← a1.rbuf, ← a1.pos]
        simp only [bufBytes, List.getElem?_take, hlt, if_true]; exact hrd
      rw [List.getElem?_eq_getElem hl] at this
      exact Option.some.inj this
    simp only [sendCyc, runState_append, trace_append, wires_append, hs1, a2, runState, trace, wires, b2,
      List.nil_append]
    by_cases hm : m = 0
    · subst hm
      have hlast : k + 1 = e.rbuf.length := by omega
      rw [if_pos hlast] at b1
      have hnil : e.rbuf.drop (k + 1) = [] := List.drop_eq_nil_of_le (by omega)
      simp only [sendCyc, runState, trace, wires, hdrop, hnil, beatsFrom, List.append_nil]
      exact ⟨b1, by simp [hlast]⟩
    · have hnl : ¬(k + 1 = e.rbuf.length) := by omega
      rw [if_neg hnl] at b1
      obtain ⟨d1, d2⟩ := ih (k + 1) _ b1 (by omega) (by omega)
      refine ⟨d1, ?_⟩
      have hnb : (!(k + 1 == e.rbuf.length)) = decide (k + 1 ≠ 0) := by simp [hnl]
      rw [hnb, d2, hdrop]
      simp only [beatsFrom, List.singleton_append]

/-! ### Cycle sequences for the strobes -/

def ntIn (ec : EpCfg) (tk : Tk) (n : In) : In := { envIn ec tk n with newToken := true }
def rfrIn (ec : EpCfg) (tk : Tk) (n : In) : In := { envIn ec tk n with rfr := true }
def hsIn (ec : EpCfg) (tk : Tk) (n : In) (isAck halt : Bool) : In := { envIn ec tk n with ack := isAck, resetSeq := halt }
def feedIn (ec : EpCfg) (tk : Tk) (n : In) (b : Nat) (l : Bool) : In :=
  { envIn ec tk n with sValid := true, sPayload := b, sLast := l }

def own (ec : EpCfg) (tk : Tk) : Prop := tk.ep = ec.num ∧ tk.pid = PID_IN
instance (ec : EpCfg) (tk : Tk) : Decidable (own ec tk) := by unfold own; infer_instance

theorem inTok_rfr (ec : EpCfg) (tk : Tk) (n : In) : inTok (rfrIn ec tk n) = decide (own ec tk) := by
  simp only [inTok, rfrIn, envIn, own]
  by_cases h1 : tk.ep = ec.num <;> by_cases h2 : tk.pid = PID_IN <;> simp [h1, h2]

theorem ackTaken_hs (ec : EpCfg) (tk : Tk) (n : In) (a h : Bool) :
    ackTaken (hsIn ec tk n a h) = (a && decide (own ec tk)) := by
  simp only [ackTaken, hsIn, envIn, own]
  by_cases h1 : tk.ep = ec.num <;> by_cases h2 : tk.pid = PID_IN <;> simp [h1, h2]

theorem sim_calm (ec : EpCfg) (e : InState) (i : In) (hw : Wired i) (hv : i.sValid = false)
    (hx : ¬(i.resetSeq = true ∧ i.newToken = true)) (hack : e.fsm = .waitAck → ackTaken i = false)
    (htok : inTok i = false) :
    Sim (cfgOf ec) e (if i.resetSeq then inClearHalt e else if i.newToken then inNewToken e else e) [i] [] := by
  apply Sim.single; intro s hr
  simpa [htok] using step_calm (cfgOf ec) e s i hr hw hv hx hack (fun _ => htok)

theorem sim_quiet (ec : EpCfg) (e : InState) (tk : Tk) (n : In) : Sim (cfgOf ec) e e [envIn ec tk n] [] :=
  sim_calm ec e (envIn ec tk n) ⟨rfl, rfl, rfl, rfl⟩ rfl (by simp [envIn]) (fun _ => by simp [ackTaken, envIn]) (by simp [inTok, envIn])

def idle (ec : EpCfg) (tk : Tk) (ns : List In) : List In := ns.map (envIn ec tk)

theorem sim_idle (ec : EpCfg) (e : InState) (tk : Tk) (ns : List In) : Sim (cfgOf ec) e e (idle ec tk ns) [] := by
  induction ns with
  | nil => exact Sim.nil
  | cons n ns ih => exact (sim_quiet ec e tk n).append ih

theorem sim_newToken (ec : EpCfg) (e : InState) (tk : Tk) (n : In) :
    Sim (cfgOf ec) e (inNewToken e) [ntIn ec tk n] [] :=
  sim_calm ec e (ntIn ec tk n) ⟨rfl, rfl, rfl, rfl⟩ rfl (by simp [ntIn, envIn]) (fun _ => by simp [ackTaken, ntIn, envIn])
    (by simp [inTok, ntIn, envIn])

theorem sim_rfr_foreign (ec : EpCfg) (e : InState) (tk : Tk) (n : In) (ho : ¬ own ec tk) :
    Sim (cfgOf ec) e e [rfrIn ec tk n] [] :=
  sim_calm ec e (rfrIn ec tk n) ⟨rfl, rfl, rfl, rfl⟩ rfl (by simp [rfrIn, envIn]) (fun _ => by simp [ackTaken, rfrIn, envIn])
    (by rw [inTok_rfr]; simp [ho])

/-- the cycle of a host handshake, with the halt-clear strobe derived from it. -/
theorem sim_hs (ec : EpCfg) (hw : 0 < ec.size) (e : InState) (tk : Tk) (n : In) (isAck halt : Bool)
    (hx : halt = true → ¬ own ec tk) :
    Sim (cfgOf ec) e
      (let s := if halt then inClearHalt e else e
       if isAck = true ∧ own ec tk then inAck ec.size s else s)
      [hsIn ec tk n isAck halt] [] := by
  have htok : inTok (hsIn ec tk n isAck halt) = false := by simp [inTok, hsIn, envIn]
  by_cases h : isAck = true ∧ own ec tk
  · obtain ⟨rfl, ho⟩ := h
    have hh : halt = false := Bool.eq_false_iff.mpr fun hh => hx hh ho
    subst hh
    apply Sim.single; intro s hr
    have hack : ackTaken (hsIn ec tk n true false) = true := by rw [ackTaken_hs]; simp [ho]
    simp only [ho, and_self, if_true, Bool.false_eq_true, if_false]
    exact step_ack (cfgOf ec) hw e s _ hr ⟨rfl, rfl, rfl, rfl⟩ rfl rfl rfl hack htok
  · have hack : ackTaken (hsIn ec tk n isAck halt) = false := by rw [ackTaken_hs]; cases isAck <;> simp_all
    simp only [h, if_false]
    exact sim_calm ec e (hsIn ec tk n isAck halt) ⟨rfl, rfl, rfl, rfl⟩ rfl (by simp [hsIn, envIn]) (fun _ => hack) htok

/-- the `ready_for_response` cycle of an IN token for this endpoint and, if a packet is waiting, its
transmission. -/
theorem sim_rfr (ec : EpCfg) (hw : 0 < ec.size) (e : InState) (tk : Tk) (n : In) (st : Nat → List In) (tn : Nat → In)
    (ho : own ec tk) :
    Sim (cfgOf ec) e (inToken e).1
      (rfrIn ec tk n :: (if e.fsm = .waitSend then sendCyc ec tk st tn 0 e.rbuf.length else []))
      (wiresOf { resp := (inToken e).2 }) := by
  intro s hr
  have htok : inTok (rfrIn ec tk n) = true := by rw [inTok_rfr]; simp [ho]
  cases hf : e.fsm with
  | waitData =>
    obtain ⟨a, b⟩ := step_calm (cfgOf ec) e s (rfrIn ec tk n) hr ⟨rfl, rfl, rfl, rfl⟩ rfl (by simp [rfrIn, envIn])
      (fun h => by simp [hf] at h) (fun h => by simp [hf] at h)
    simp only [inToken, hf, wiresOf, runState, trace, wires, reduceCtorEq, if_false]
    refine ⟨a, ?_⟩
    rw [b, htok, hf]; simp
  | waitAck =>
    obtain ⟨a, b⟩ := step_calm (cfgOf ec) e s (rfrIn ec tk n) hr ⟨rfl, rfl, rfl, rfl⟩ rfl (by simp [rfrIn, envIn])
      (fun _ => by simp [ackTaken, rfrIn, envIn]) (fun h => by simp [hf] at h)
    simp only [inToken, hf, wiresOf, runState, trace, wires, reduceCtorEq, if_false]
    refine ⟨a, ?_⟩
    rw [b, hf]; simp
  | waitSend =>
    by_cases hb : e.rbuf = []
    · obtain ⟨a, b⟩ := step_tok_zlp (cfgOf ec) hw e s _ hr ⟨rfl, rfl, rfl, rfl⟩ rfl rfl htok hf hb
      have hlen : e.rbuf.length = 0 := by rw [hb]; rfl
      simp only [inToken, hf, runState, trace, wires, if_true, hlen, sendCyc]
      refine ⟨a, ?_⟩
      rw [b]
      simp [wiresOf, pid_dec, hb]
    · obtain ⟨a1, a2⟩ := step_tok_start (cfgOf ec) e s (rfrIn ec tk n) hr ⟨rfl, rfl, rfl, rfl⟩ rfl rfl htok hf hb
      obtain ⟨b1, b2⟩ := send_run ec tk e st tn e.rbuf.length 0 _ a1 (by omega) (List.length_pos_iff.mpr hb)
      simp only [inToken, hf, runState, trace, wires, if_true]
      rw [a2]
      refine ⟨b1, ?_⟩
      have : (decide (0 ≠ 0)) = false := by decide
      rw [this] at b2
      simp only [b2, List.nil_append, List.drop_zero]
      rw [wiresOf_data_ne _ _ hb, pid_dec]

/-- The cycles of a `produce` event: for every byte the event-level model accepts, the idle cycles `gs k` and then
one cycle offering it; the producer stops at the first refusal. -/
def prodCyc (ec : EpCfg) (tk : Tk) (gs : Nat → List In) (ns : Nat → In) : InState → Nat → List Nat → Bool → List In
  | _, _, [], _ => []
  | s, k, b :: bs, last =>
    if (inFeed ec.size s b (last && bs.isEmpty)).2 then
      idle ec tk (gs k) ++ (feedIn ec tk (ns k) b (last && bs.isEmpty) ::
        prodCyc ec tk gs ns (inFeed ec.size s b (last && bs.isEmpty)).1 (k + 1) bs last)
    else []

theorem sim_feed (ec : EpCfg) (e : InState) (tk : Tk) (n : In) (b : Nat) (l : Bool) (hb : b < 256)
    (hacc : (inFeed ec.size e b l).2 = true) :
    Sim (cfgOf ec) e (inFeed ec.size e b l).1 [feedIn ec tk n b l] [Wire.acc] := by
  apply Sim.single; intro s hr
  exact step_feed (cfgOf ec) e s (feedIn ec tk n b l) hr ⟨rfl, rfl, rfl, rfl⟩ rfl hb rfl rfl
    (by simp [ackTaken, feedIn, envIn]) (by simp [inTok, feedIn, envIn]) hacc

theorem sim_prod (ec : EpCfg) (tk : Tk) (gs : Nat → List In) (ns : Nat → In) (last : Bool) (bs : List Nat) :
    ∀ (e : InState) (k : Nat), (∀ b ∈ bs, b < 256) →
      Sim (cfgOf ec) e (inProduce ec.size e bs last).1 (prodCyc ec tk gs ns e k bs last)
        (List.replicate (inProduce ec.size e bs last).2 Wire.acc) := by
  induction bs with
  | nil => intro e k _; exact Sim.nil
  | cons b bs ih =>
    intro e k hb
    simp only [prodCyc, inProduce]
    by_cases hacc : (inFeed ec.size e b (last && bs.isEmpty)).2 = true
    · simp only [hacc, if_true, List.replicate_succ]
      have h1 := sim_feed ec e tk (ns k) b (last && bs.isEmpty) (hb b (by simp)) hacc
      have h2 := ih (inFeed ec.size e b (last && bs.isEmpty)).1 (k + 1) (fun x hx => hb x (by simp [hx]))
      have := (sim_idle ec e tk (gs k)).append (h1.append h2)
      simpa using this
    · simp only [hacc, if_false, Bool.false_eq_true, List.replicate_zero]
      exact Sim.nil

/-! ### The expansion of an event -/

/-- The free parameters of an expansion (cf. `C12Sig.Gaps`); `pgaps k` / `pn k` = the idle cycles before, and the
free inputs of, the cycle offering producer byte `k`. -/
structure Gaps where
  pre    : List In
  mid    : List In
  post   : List In
  n1     : In
  n2     : In
  stalls : Nat → List In
  takes  : Nat → In
  pgaps  : Nat → List In
  pn     : Nat → In

/-- The clock cycles the stream IN endpoint sees for the event `ev`, received with the token registers `tk` while
the event-level state is `e`; `sh` = the shared front end's view of the event. -/
def expand (ec : EpCfg) (tk : Tk) (sh : Shared) (e : InState) (ev : HostEvent) (g : Gaps) : List In :=
  let tk' := tkOf sh
  match ev with
  | .token _ _ _ =>
    if sh.newTok then
      idle ec tk g.pre ++ ([ntIn ec tk' g.n1] ++ (idle ec tk' g.mid ++
        ((rfrIn ec tk' g.n2 ::
          (if own ec tk' ∧ (inNewToken e).fsm = .waitSend then
             sendCyc ec tk' g.stalls g.takes 0 (inNewToken e).rbuf.length else [])) ++ idle ec tk' g.post)))
    else idle ec tk g.pre ++ idle ec tk' g.post
  | .handshake pid =>
    idle ec tk g.pre ++ ([hsIn ec tk' g.n1 (pid == PID_ACK) (haltHits ec true sh)] ++ idle ec tk' g.post)
  | .produce ep bytes last =>
    if ep = ec.num then idle ec tk g.pre ++ (prodCyc ec tk' g.pgaps g.pn e 0 bytes last ++ idle ec tk' g.post)
    else idle ec tk g.pre ++ idle ec tk' g.post
  | _ => idle ec tk g.pre ++ idle ec tk' g.post

/-- The producer hands over bytes (`stream.payload` is 8 bits wide). -/
def EvOk : HostEvent → Prop
  | .produce _ bytes _ => ∀ b ∈ bytes, b < 256
  | _ => True

instance (ev : HostEvent) : Decidable (EvOk ev) := by cases ev <;> unfold EvOk <;> infer_instance

theorem sim_idle_only (ec : EpCfg) (e : InState) (tk tk' : Tk) (a b : List In) :
    Sim (cfgOf ec) e e (idle ec tk a ++ idle ec tk' b) [] := by
  simpa using (sim_idle ec e tk a).append (sim_idle ec e tk' b)

/-- **`cycle_refines_event` for the stream IN endpoint.**  For a max packet size ≥ 1, every host event (`EvOk`: a
`produce` event carries bytes), every event-level state `e`, every view `tk` / `sh` of the shared front end
satisfying `ShOk`, and every choice of idle-cycle counts, stall patterns and free input values `g`: running
`InXfer.step` (with `USBStreamInEndpoint`'s wiring) over the expansion from ANY cycle-level state related to `e` ends
in a state related to the event-level successor, and the endpoint's outputs decode to exactly the event-level
outputs: NAK, or a DATA packet with the PID `data_pid[0]` whose beats are the bytes of the read buffer (`first` on
the first, `last` on the last; a zero-length packet as the ZLP cycle), or nothing; and the number of producer bytes
accepted. -/
theorem in_cycle_refines_event (ec : EpCfg) (hw : 0 < ec.size) (tk : Tk) (sh : Shared) (e : InState)
    (ev : HostEvent) (g : Gaps) (hsh : C12Sig.ShOk ec sh ev) (hev : EvOk ev) :
    Sim (cfgOf ec) e (inEv ec sh e ev).1 (expand ec tk sh e ev g) (wiresOf (inEv ec sh e ev).2) := by
  cases ev with
  | token pid addr ep =>
    have hh : haltHits ec true sh = false := C12Sig.haltHits_none ec true sh hsh
    by_cases hnt : sh.newTok = true
    · have hpre : inPre ec sh e = inNewToken e := by simp [inPre, hnt, hh]
      simp only [expand, hnt, if_true, inEv, hpre, true_and]
      by_cases ho : own ec (tkOf sh)
      · have ho' : sh.tokEp = ec.num ∧ sh.tokPid = PID_IN := ho
        simp only [ho, ho', if_true, and_self, true_and]
        have hsend := sim_rfr ec hw (inNewToken e) (tkOf sh) g.n2 g.stalls g.takes ho
        have := (sim_idle ec e tk g.pre).append ((sim_newToken ec e (tkOf sh) g.n1).append
          ((sim_idle ec _ (tkOf sh) g.mid).append (hsend.append (sim_idle ec _ (tkOf sh) g.post))))
        exact this.wires_eq (by simp)
      · have ho' : ¬(sh.tokEp = ec.num ∧ sh.tokPid = PID_IN) := ho
        simp only [ho, ho', if_false, false_and]
        exact (sim_idle ec e tk g.pre).append ((sim_newToken ec e (tkOf sh) g.n1).append
          ((sim_idle ec _ (tkOf sh) g.mid).append ((sim_rfr_foreign ec _ (tkOf sh) g.n2 ho).append (sim_idle ec _ (tkOf sh) g.post))))
    · have hpre : inPre ec sh e = e := by simp [inPre, hnt, hh]
      simp only [expand, hnt, if_false, inEv, hpre, false_and, Bool.false_eq_true]
      exact sim_idle_only ec e _ _ _ _
  | handshake pid =>
    obtain ⟨hnt, hx⟩ := hsh
    have hpre : inPre ec sh e = if haltHits ec true sh then inClearHalt e else e := by simp [inPre, hnt]
    have hhs := sim_hs ec hw e (tkOf sh) g.n1 (pid == PID_ACK) (haltHits ec true sh) hx
    have hev' : (inEv ec sh e (.handshake pid)) =
        ((let s := if haltHits ec true sh then inClearHalt e else e
          if (pid == PID_ACK) = true ∧ own ec (tkOf sh) then inAck ec.size s else s), {}) := by
      simp only [inEv, hpre, tkOf, own, beq_iff_eq]
      split <;> rfl
    rw [hev']
    simp only [expand]
    exact (sim_idle ec e tk g.pre).append (hhs.append (sim_idle ec _ (tkOf sh) g.post))
  | produce ep bytes last =>
    have hpre := inPre_quiet ec sh e hsh.1 hsh.2
    simp only [expand, inEv, hpre]
    by_cases hep : ep = ec.num
    · simp only [hep, if_true]
      have := (sim_idle ec e tk g.pre).append ((sim_prod ec (tkOf sh) g.pgaps g.pn last bytes e 0 hev).append
        (sim_idle ec _ (tkOf sh) g.post))
      exact this.wires_eq (by simp [wiresOf])
    · simp only [hep, if_false]
      exact sim_idle_only ec e _ _ _ _
  | _ =>
    -- the events the endpoint does not see: idle cycles, no change
    simp only [expand, inEv, inPre_quiet ec sh e hsh.1 hsh.2]
    exact sim_idle_only ec e _ _ _ _

/-! ### Histories of the slice machine control endpoint × stream IN endpoint -/

def expandAll (c : DevConfig) (ec : EpCfg) : DevState → InState → List (HostEvent × Gaps) → List In
  | _, _, [] => []
  | d, e, (ev, g) :: rest =>
    expand ec ⟨d.tokPid, d.tokEp⟩ (sharedOf c d ev) e ev g ++
      expandAll c ec (core c d ev).1 (inEv ec (sharedOf c d ev) e ev).1 rest

def cycWires (c : DevConfig) (ec : EpCfg) : DevState → InState → State → List (HostEvent × Gaps) → List (List Wire)
  | _, _, _, [] => []
  | d, e, s, (ev, g) :: rest =>
    let is := expand ec ⟨d.tokPid, d.tokEp⟩ (sharedOf c d ev) e ev g
    (wires false (trace (cfgOf ec) s is)).1 ::
      cycWires c ec (core c d ev).1 (inEv ec (sharedOf c d ev) e ev).1 (runState (cfgOf ec) s is) rest

/-- **`cycle_refines_event`, histories (stream IN)** (endpoint number ≠ 0, max packet size ≥ 1).  Along every event
history of the device whose `produce` events carry bytes: the cycle-level endpoint, run over the concatenated
expansions from any state related to the event-level start state, ends related to the event-level final state of the
slice machine (`C12.sliceFinal`), and its outputs decode, event by event, to the event-level outputs. -/
theorem in_cycle_refines_run (c : DevConfig) (ec : EpCfg) (hw : 0 < ec.size) (hn : 0 < ec.num)
    (h : List (HostEvent × Gaps)) (hev : ∀ x ∈ h, EvOk x.1) :
    ∀ (d : DevState) (e : InState) (s : State), Rel (cfgOf ec) e s →
      ∃ e', (C12.sliceFinal c ec (d, .sin e) (h.map (·.1))).2 = .sin e' ∧
        Rel (cfgOf ec) e' (runState (cfgOf ec) s (expandAll c ec d e h)) ∧
        cycWires c ec d e s h = (C12.sliceRun c ec (d, .sin e) (h.map (·.1))).map wiresOf := by
  induction h with
  | nil => intro d e s hr; exact ⟨e, rfl, hr, rfl⟩
  | cons x rest ih =>
    obtain ⟨ev, g⟩ := x
    intro d e s hr
    obtain ⟨a1, a2⟩ := in_cycle_refines_event ec hw ⟨d.tokPid, d.tokEp⟩ (sharedOf c d ev) e ev g
      (C12Sig.shOk_sharedOf c ec hn d ev) (hev (ev, g) (by simp)) s hr
    obtain ⟨e', b1, b2, b3⟩ := ih (fun y hy => hev y (by simp [hy])) (core c d ev).1
      (inEv ec (sharedOf c d ev) e ev).1 _ a1
    have hstep : C12.sliceStep c ec (d, .sin e) ev =
        (((core c d ev).1, .sin (inEv ec (sharedOf c d ev) e ev).1), (inEv ec (sharedOf c d ev) e ev).2) := by
      simp only [C12.sliceStep, epStep_sin]
    refine ⟨e', ?_, ?_, ?_⟩
    · simp only [List.map_cons, C12.sliceFinal, hstep]; exact b1
    · simp only [expandAll, runState_append]; exact b2
    · simp only [List.map_cons, cycWires, C12.sliceRun, hstep, a2, b3]

/-! ### Non-vacuity: stream IN endpoint 1 with max packet size 2.  An IN token without data is NAKed; `[1,2]` (last)
is produced: DATA0 `[1,2]` goes out, its ACK is lost, a foreign OUT transaction intervenes, the packet is retransmitted
and ACKed; being a full packet that ends a transfer it is followed by a zero-length DATA1 packet; then DATA0 `[3]`;
then `[6]` is produced (it would go out as DATA1) and CLEAR_FEATURE(ENDPOINT_HALT) for IN 1 resets the sequence: it
goes out as DATA0. -/

def exEc : EpCfg := ⟨.streamIn, 1, 2, 0⟩

/-- free inputs: every field the expansion determines is set to the "wrong" value on purpose -/
def exIn : In := ⟨true, true, true, true, true, true, 0x99, true, true, true, false, true, true, true⟩

def exGaps : Gaps :=
  { pre := [exIn, { exIn with txReady := false }], mid := [exIn], post := [exIn], n1 := exIn, n2 := exIn,
    stalls := fun k => List.replicate (k + 1) exIn, takes := fun _ => exIn,
    pgaps := fun k => List.replicate k exIn, pn := fun _ => exIn }

def exHistory : List (HostEvent × Gaps) :=
  [(.token PID_IN 0 1, exGaps), (.produce 1 [1, 2] true, exGaps), (.token PID_IN 0 1, exGaps), (.quiet, exGaps),
   (.token Device.PID_OUT 0 2, exGaps), (.data PID_DATA0 [9] true, exGaps),
   (.token PID_IN 0 1, exGaps), (.handshake PID_ACK, exGaps), (.token PID_IN 0 1, exGaps), (.handshake PID_ACK, exGaps),
   (.produce 1 [3] true, exGaps), (.token PID_IN 0 1, exGaps), (.handshake PID_ACK, exGaps),
   (.produce 1 [6] true, exGaps),
   (.token Device.PID_SETUP 0 0, exGaps), (.data PID_DATA0 [0x02, 1, 0, 0, 0x81, 0, 0, 0] true, exGaps),
   (.token PID_IN 0 0, exGaps), (.handshake PID_ACK, exGaps), (.token PID_IN 0 1, exGaps)]

example : ∀ x ∈ exHistory, EvOk x.1 := by decide
example : (C12.sliceRun {} exEc (Device.init, .sin {}) (exHistory.map (·.1))) =
    [{ resp := .hs PID_NAK }, { app := [2] }, { resp := .data PID_DATA0 [1, 2] }, {}, {}, {},
     { resp := .data PID_DATA0 [1, 2] }, {}, { resp := .data PID_DATA1 [] }, {},
     { app := [1] }, { resp := .data PID_DATA0 [3] }, {}, { app := [1] },
     {}, {}, {}, {}, { resp := .data PID_DATA0 [6] }] := by decide +kernel
/-- … and without the CLEAR_FEATURE transfer `[6]` goes out as DATA1 -/
example : ((C12.sliceRun {} exEc (Device.init, .sin {}) ((exHistory.take 14 ++ exHistory.drop 18).map (·.1))).map (·.resp)).getLast?
    = some (.data PID_DATA1 [6]) := by decide +kernel
example : cycWires {} exEc Device.init {} (init (cfgOf exEc)) exHistory =
    (C12.sliceRun {} exEc (Device.init, .sin {}) (exHistory.map (·.1))).map wiresOf := by decide +kernel
example : (cycWires {} exEc Device.init {} (init (cfgOf exEc)) exHistory).take 3 =
    [[.nak], [.acc, .acc], [.beat 1 true false false, .beat 2 false true false]] := by decide +kernel
example : (expandAll {} exEc Device.init {} exHistory).length = 107 := by decide +kernel

end LunaVerif.C12In
