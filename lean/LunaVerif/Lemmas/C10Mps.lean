import LunaVerif.Lemmas.DeviceStepsM
import LunaVerif.Props.C10
/-!
# C10 — the property theorems for EVERY control `max_packet_size`
(Props/C10.lean over `coreM` / `stepM` / `finalM` of Model/Device/ControlM.lean)

`drv_dev` steps with `stepM` (`start_position += c.maxPacket`) and the event-level co-simulation builds the real
`USBDevice` with control max packet sizes 8 / 16 / 32 / 64; here the C10 theorems are stated of that model with NO
hypothesis on `c.maxPacket`.  `Handling` reads the latched SETUP packet, the setup decoder's state and the handler
state only, and from the same state `stepM` and `Device.step` agree on those, on the registers and on the response
(`stepM_regs`), so `handling_step` transfers event by event; the history theorem is the same induction over `finalM`.
`handling_request`, `unsupported_first_request_stalled` and `dispatch_unimplemented` (Props/C10.lean) are about
`Device.request` / `Device.dispatch`, which both models share: they need no second form.
-/
namespace LunaVerif.Device

/-- A SETUP transaction contains no host handshake: on it `finalM` is `final`. -/
theorem unsupported_setup_establishes_handling_mps (c : DevConfig) (s : DevState) (bytes : List Nat) (f₁ f₂ : Resp)
    (hlen : bytes.length = 8) (hu : Unsupported c (parseSetup bytes)) :
    Handling (parseSetup bytes)
      (finalM c s [⟨.token PID_SETUP s.address 0, f₁⟩, ⟨.data PID_DATA0 bytes true, f₂⟩]) := by
  rw [finalM_eq_final_of c _ (by
    intro x hx pid h
    simp only [List.mem_cons, List.not_mem_nil, or_false] at hx
    rcases hx with rfl | rfl <;> cases h)]
  exact unsupported_setup_establishes_handling c s bytes f₁ f₂ hlen hu

theorem handling_step_mps (c : DevConfig) (su : Setup) (s : DevState) (x : Stim)
    (hu : Unsupported c su) (hh : Handling su s) (hx : isSetupOrPing x.ev = false) :
    ((coreM c s x.ev).2 = .none ∨ (coreM c s x.ev).2 = .hs PID_STALL) ∧
    (x.ev ≠ .busReset → (stepM c s x).1.address = s.address ∧ (stepM c s x).1.config = s.config) ∧
    Handling su (stepM c s x).1 := by
  have h := stepM_regs c s x
  obtain ⟨a, b, d⟩ := handling_step c su s x hu hh hx
  refine ⟨?_, ?_, ?_⟩
  · rw [coreM_resp]; exact a
  · rw [h.address, h.config]; exact b
  · exact ⟨by rw [h.setup]; exact d.latched, by rw [h.sdWait]; exact d.noWait, fun g => by rw [h.hstate_eq]; exact d.handler g⟩

theorem handling_finalM (c : DevConfig) (su : Setup) (hu : Unsupported c su) (k : List Stim) :
    ∀ s, Handling su s → (∀ y ∈ k, isSetupOrPing y.ev = false) → Handling su (finalM c s k) := by
  induction k with
  | nil => intro s h _; exact h
  | cons y ys ih =>
    intro s h hall
    exact ih _ (handling_step_mps c su s y hu h (hall y (by simp))).2.2 (fun z hz => hall z (by simp [hz]))

/-- **C10, every max packet size.**  For EVERY SETUP packet `su` outside the supported set, from the moment it has been
accepted and for an arbitrarily long continuation `k` of host events that contains no new SETUP token (and no PING):
at every event `x` of `k` the control endpoint transmits nothing or a STALL handshake -- never a DATA packet, never an
ACK --, and neither the address nor the configuration changes except by a bus reset. -/
theorem unsupported_never_answered_mps (c : DevConfig) (su : Setup) (s : DevState) (k : List Stim)
    (hu : Unsupported c su) (hh : Handling su s) (hk : ∀ x ∈ k, isSetupOrPing x.ev = false) :
    ∀ k₁ x k₂, k = k₁ ++ x :: k₂ →
      ((coreM c (finalM c s k₁) x.ev).2 = .none ∨ (coreM c (finalM c s k₁) x.ev).2 = .hs PID_STALL) ∧
      (x.ev ≠ .busReset → (finalM c s (k₁ ++ [x])).address = (finalM c s k₁).address ∧
                           (finalM c s (k₁ ++ [x])).config = (finalM c s k₁).config) := by
  intro k₁ x k₂ hk'
  subst hk'
  have h1 := handling_finalM c su hu k₁ s hh (fun y hy => hk y (by simp [hy]))
  have hs := handling_step_mps c su (finalM c s k₁) x hu h1 (hk x (by simp))
  rw [finalM_snoc]
  exact ⟨hs.1, hs.2.1⟩

/-! ### Non-vacuity: `max_packet_size = 8` -/

/-- An unsupported standard request (0x80, 30) with a 10-byte IN data stage, a vendor request, and between them a
two-packet GET_DESCRIPTOR read at max packet size 8 whose second packet the 64 model would not produce. -/
def unsupportedHistory8 : List Stim :=
  [⟨.token PID_SETUP 0 0, .none⟩, ⟨.data PID_DATA0 [0x80, 30, 0, 0, 0, 0, 10, 0] true, .none⟩,
   ⟨.token PID_IN 0 0, .none⟩, ⟨.token PID_IN 0 0, .none⟩,
   ⟨.token PID_SETUP 0 0, .none⟩, ⟨.data PID_DATA0 [0x80, 6, 0, 1, 0, 0, 10, 0] true, .none⟩,
   ⟨.token PID_IN 0 0, .none⟩, ⟨.handshake PID_ACK, .none⟩, ⟨.token PID_IN 0 0, .none⟩, ⟨.handshake PID_ACK, .none⟩,
   ⟨.token PID_OUT 0 0, .none⟩, ⟨.data PID_DATA1 [] true, .none⟩,
   ⟨.token PID_SETUP 0 0, .none⟩, ⟨.data PID_DATA0 [0xC0, 3, 0, 0, 0, 0, 4, 0] true, .none⟩,
   ⟨.token PID_IN 0 0, .none⟩, ⟨.token PID_OUT 0 0, .none⟩, ⟨.data PID_DATA1 [] true, .none⟩]

def cfg8' : DevConfig :=
  { descriptors := [(1, 0, [18, 1, 0, 2, 0, 0, 0, 8, 9, 18, 1, 0, 0, 1, 1, 2, 3, 1])], maxPacket := 8, posBits := 5 }

example : LegalHostM cfg8' unsupportedHistory8 = true := by decide +kernel
example : respsM cfg8' init unsupportedHistory8 =
    [.none, .hs PID_ACK, .hs PID_STALL, .none,
     .none, .hs PID_ACK, .data PID_DATA1 [18, 1, 0, 2, 0, 0, 0, 8], .none, .data PID_DATA0 [9, 18], .none, .none, .hs PID_ACK,
     .none, .hs PID_ACK, .hs PID_STALL, .none, .hs PID_STALL] := by decide +kernel
example : Handling (parseSetup [0x80, 30, 0, 0, 0, 0, 10, 0]) (finalM cfg8' init (unsupportedHistory8.take 2)) :=
  unsupported_setup_establishes_handling_mps cfg8' init _ .none .none rfl (Or.inl (by decide))

end LunaVerif.Device
