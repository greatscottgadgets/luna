import LunaVerif.Lemmas.C07MpsLegal
/-!
# Descriptor reads of a legal host are in order -- the event-level model with the advance by 64

For `max_packet_size = 64` the model `stepM` of Model/Device/ControlM.lean is `Device.step` and `LegalHostM` is `LegalHost`
(Model/Device/Control.lean), so `ReadInv` is an invariant of `LegalHost` histories (`readInv_legal`), every legal
data-stage IN token of a GET_DESCRIPTOR transfer gives `DescReqOk` (`legal_read_in_order`), and the closed loop with the
block descriptor handler model simulates `Device.step` along every `LegalHost` history (`closed2_refines_legal_run`).
-/
namespace LunaVerif.CtrlCyc
open LunaVerif.Device

theorem readInv_legal (c : DevConfig) (hx : c.extra = []) (hmp : c.maxPacket = 64) (hfit : DescsFit c)
    (h : List Stim) (hl : LegalHost c h = true) : ReadInv c (Device.final c Device.init h) := by
  rw [← LegalHostM_64 c hmp] at hl
  rw [← finalM_eq_final c hmp]
  exact readInv_legal_mps c hx (by omega) hfit h hl

/-- `legal_read_in_order_mps` for `legalEvent`; no hypothesis on the size (`legalEventM_eq`). -/
theorem legal_read_in_order (c : DevConfig) (hfit : DescsFit c) (d : DevState) (x : Stim) (pid ep : Nat)
    (hev : x.ev = .token pid d.address ep) (h : ReadInv c d) (hleg : legalEvent c d x = true) (R : Desc.Response)
    (hso : streamOf c (afterToken d pid ep) = some (true, R)) : DescReqOk c (afterToken d pid ep) = true :=
  legal_read_in_order_mps c hfit d x pid ep hev h
    (by rw [legalEventM_eq]; exact hleg) R hso

/-! ### The closed loop under `LegalHost` -/

def WinFrom (c : DevConfig) : DevState → List (Stim × GapsS) → Bool
  | _, [] => true
  | d, (x, g) :: rest => StreamWin c d x.ev g && WinFrom c (Device.step c d x).1 rest

theorem WinFromM_64 (c : DevConfig) (hmp : c.maxPacket = 64) (d : DevState) (h : List (Stim × GapsS)) :
    WinFromM c d h = WinFrom c d h := by
  induction h generalizing d with
  | nil => rfl
  | cons xg rest ih => simp only [WinFromM, WinFrom, stepM_eq_step c hmp, ih]

/-- **`cycle_refines_event`, closed loop with both streamers, for every history of a legal host**, at 64:
`closed2_refines_legal_run_mps` over `Device.step` and `LegalHost` (Model/Device/Control.lean). -/
theorem closed2_refines_legal_run (c : DevConfig) (hx : c.extra = []) (hmp : c.maxPacket = 64)
    (hwf : Desc.wellFormed (collOf c.descriptors) = true)
    (hpw : 2 ≤ (Desc.Rom.layout (collOf c.descriptors)).maxLen) (hfit : DescsFit c)
    (h : List (Stim × GapsS)) (hl : LegalHost c (h.map (·.1)) = true) (hw : WinFrom c Device.init h = true)
    (ht : ∀ xg ∈ h, TDSil xg.2) :
    ∃ h', SameButLat h h' ∧
      Rel (Device.final c Device.init (h.map (·.1)))
        (sys2Final (cfgOf c) (Desc.blockOf (collOf c.descriptors) c.maxPacket) sys2Init
          ((expandAllR c Device.init h').map (·.2))).cs ∧
      sys2BusResps c (Desc.blockOf (collOf c.descriptors) c.maxPacket) Device.init sys2Init h' =
        coreResps c Device.init (h.map (·.1)) ∧
      regsAfterR (0, 0) (sys2OutsR (cfgOf c) (Desc.blockOf (collOf c.descriptors) c.maxPacket) sys2Init
          (expandAllR c Device.init h')) =
        ((Device.final c Device.init (h.map (·.1))).address, (Device.final c Device.init (h.map (·.1))).config) ∧
      SerQ (sys2Final (cfgOf c) (Desc.blockOf (collOf c.descriptors) c.maxPacket) sys2Init
          ((expandAllR c Device.init h').map (·.2))).ser ∧
      (sys2Final (cfgOf c) (Desc.blockOf (collOf c.descriptors) c.maxPacket) sys2Init
          ((expandAllR c Device.init h').map (·.2))).blk.fsm = .idle := by
  obtain ⟨h', sb, this⟩ := closed2_refines_legal_run_mps c hx (Or.inr (Or.inr (Or.inr hmp))) hwf hpw hfit h
    (by rw [LegalHostM_64 c hmp]; exact hl) (by rw [WinFromM_64 c hmp]; exact hw) ht
  rw [expandAllRM_64 c hmp, sys2BusRespsM_64 c hmp, coreRespsM_64 c hmp, finalM_eq_final c hmp] at this
  exact ⟨h', sb, this⟩

/-! ### Non-vacuity: the example history of Lemmas/C07Closed2.lean is a legal host's -/

example : LegalHost exCfgC ((exHistoryD 0).map (·.1)) = true := by decide +kernel
example : WinFrom exCfgC Device.init (exHistoryD 0) = true := by decide +kernel
example : DescsFit exCfgC := by
  refine ⟨by decide, ?_⟩
  intro ty idx dd h
  simp only [exCfgC, lookupDescriptor] at h
  repeat' split at h
  all_goals first | (injection h with h; subst h; decide) | (exact absurd h (by simp))

end LunaVerif.CtrlCyc
