import LunaVerif.Core.XorAlg
/-!
Facts about the reference definitions of `Core/Crc.lean`.

* Bit lists (`lsbBits`, `ofLsbBits`): C30 cuts a data word into bytes with them, C31 moves 8-bit symbols between the
  two models.
* Width bounds of the reference CRCs: the check field of a `w`-bit register is a `w`-bit number, whatever was fed.
  Needed by C35 (`word_format`) and C36 (`tx_emits_frame`, `rx_of_tx`): the CRC fields are packed into words next to
  other fields, and read back by slicing.
-/
namespace LunaVerif.Crc

theorem length_lsbBits (v n : Nat) : (lsbBits v n).length = n := by simp [lsbBits]

theorem lsbBits_succ (v n : Nat) : lsbBits v (n + 1) = v.testBit 0 :: lsbBits (v / 2) n := by
  simp only [lsbBits, List.range_succ_eq_map, List.map_cons, List.map_map, Function.comp_def,
    Nat.testBit_succ]

theorem lsbBits_add (v a b : Nat) : lsbBits v (a + b) = lsbBits v a ++ lsbBits (v / 2 ^ a) b := by
  simp only [lsbBits, List.range_add, List.map_append, List.map_map]
  congr 1
  apply List.map_congr_left
  intro i _
  simp [Nat.testBit_div_two_pow, Nat.add_comm]

theorem lsbBits_mod (v k n : Nat) (h : n ≤ k) : lsbBits (v % 2 ^ k) n = lsbBits v n := by
  simp only [lsbBits]
  apply List.map_congr_left
  intro i hi
  have : i < k := by have := List.mem_range.mp hi; omega
  simp [Nat.testBit_mod_two_pow, this]

theorem lsbBits_ofLsbBits (d : List Bool) : lsbBits (ofLsbBits d) d.length = d := by
  induction d with
  | nil => rfl
  | cons b bs ih =>
    have h0 : (ofLsbBits (b :: bs)).testBit 0 = b := by
      cases b <;> simp [ofLsbBits, Nat.testBit_zero, Nat.add_mod]
    have h2 : ofLsbBits (b :: bs) / 2 = ofLsbBits bs := by
      cases b <;> simp only [ofLsbBits, if_true, if_false, Bool.false_eq_true] <;> omega
    rw [List.length_cons, lsbBits_succ, h0, h2, ih]

theorem ofLsbBits_lt (l : List Bool) : ofLsbBits l < 2 ^ l.length := by
  induction l with
  | nil => simp [ofLsbBits]
  | cons b bs ih =>
    simp only [ofLsbBits, List.length_cons, Nat.pow_succ]
    cases b <;> simp <;> omega

theorem field_lt (reg : List Bool) : field reg < 2 ^ reg.length := by
  have := ofLsbBits_lt (reg.reverse.map (!·))
  simpa [field] using this

theorem field_serial_lt (p n : Nat) (hn : 0 < n) (bits : List Bool) :
    field (serial (lsbBits p n) (ones n) bits) < 2 ^ n := by
  have h := field_lt (serial (lsbBits p n) (ones n) bits)
  have hl : (serial (lsbBits p n) (ones n) bits).length = (lsbBits p n).length :=
    XorAlg.length_serial _ _ bits (by simp [length_lsbBits, ones]) (by rwa [length_lsbBits])
  rwa [hl, length_lsbBits] at h

theorem usb3Crc32_lt (bytes : List Nat) : usb3Crc32 bytes < 2 ^ 32 := field_serial_lt 0x04C11DB7 32 (by decide) _

theorem usb3Crc16_lt (bytes : List Nat) : usb3Crc16 bytes < 2 ^ 16 := field_serial_lt 0x100B 16 (by decide) _

theorem usb3Crc5_lt (d : Nat) : usb3Crc5 d < 2 ^ 5 := field_serial_lt 0x05 5 (by decide) _

end LunaVerif.Crc
