import LunaVerif.Lemmas.C20CycMain
import LunaVerif.Props.C20
/-!
# C20 — cycles refine events, handshake-response case

The event-level full-device model (`Model/Device/Full.lean`) answers an OUT/SETUP data packet (and a PING or a
NAKed/STALLed IN token) with `Resp.hs pid`; `C20.wire (.hs pid) = [pidByte pid]` is that response's wire image.
At the cycle level the endpoint that owns the transaction raises one of `handshakes_out.{ack,nak,stall}` in the
cycle of the `ready_for_response` pulse (environment of `DevCyc`).  `handshake_response_wire` shows that the
composition then puts exactly the wire image of the event-level response on the UTMI transmit port: nothing in the
request cycle, then `tx_valid` with `tx_data = pidByte pid` in every cycle up to and including the first cycle with
`tx_ready`, one accepted byte in total; `pid` is the requested handshake (STALL over NAK over ACK as in
`USBHandshakeGenerator`); in all these cycles the reset sequencer is assumed silent and no endpoint starts a data packet.
With `tx_never_during_rx` (the request cycle is a pulse cycle, hence inside the response
window) this is the cycle-level picture of one OUT-data -> ACK/NAK transaction.

What is NOT proved: that the endpoint requests the handshake the event model predicts (that needs the cycle-level
endpoint models of C11/C13/C17 composed in; the event-level model is tied to the real device by co-simulation).
-/
namespace LunaVerif.DevCyc
open LunaVerif LunaVerif.Device

/-- The handshake an endpoint requests in this cycle (later `If` wins in the generator: stall over nak over ack). -/
def hsOf (i : In) : Nat := if i.stall then PID_STALL else if i.nak then PID_NAK else PID_ACK

/-- Bytes accepted by the PHY: `tx_data` of the cycles with `tx_valid & tx_ready`. -/
def accepted : List Out → List In → List Nat
  | o :: os, i :: is => if o.txValid && i.txReady then o.txData :: accepted os is else accepted os is
  | _, _ => []

theorem hs_request_loads (c : Config) (s : State) (i : In) (h : s.hs.transmit = false) (hr : hsReq i = true) :
    (step c s i).1.hs = ⟨true, C20.pidByte (hsOf i)⟩ := by
  simp only [step, Handshake.Gen.step, hsIn, h, hsOf, hsReq] at hr ⊢
  by_cases hst : i.stall = true
  · simp [hst]; decide
  · by_cases hn : i.nak = true
    · simp [hst, hn]; decide
    · have ha : i.ack = true := by simp_all
      simp [hst, hn, ha]; decide

theorem idle_cycle_silent (c : Config) (s : State) (i : In) (h : s.hs.transmit = false) (hg : s.gen.fsm = .idle)
    (hrs : i.rsValid = false) : (step c s i).2.txValid = false := by
  rw [out_txValid]
  simp [Abs.aTxValid, skel, skelIn, h, hg, hrs, Abs.genValid]

theorem gen_stays_idle (c : Config) (s : State) (i : In) (hg : s.gen.fsm = .idle) (hs : sStart s i = false) :
    (step c s i).1.gen.fsm = .idle := by
  have h1 : (i.sValid && (i.sFirst || i.sLast)) = false := by simpa [sStart, hg] using hs
  have := gen_fsm s.gen i (skelIn c s i) rfl rfl rfl rfl rfl
  simp only [step] at this ⊢
  rw [this]
  simp [Abs.genNext, hg, skelIn, h1]

theorem hs_transmit_cycle (c : Config) (s : State) (i : In) (b : Nat) (h : s.hs = ⟨true, b⟩) (hg : s.gen.fsm = .idle)
    (hrs : i.rsValid = false) :
    (step c s i).2.txValid = true ∧ (step c s i).2.txData = b ∧
      (step c s i).1.hs = ⟨!i.txReady, b⟩ := by
  have hgv : (DataGenerator.fsmStep s.gen (genIn i)).2.1 = false := by
    rw [gen_valid s.gen i (skelIn c s i) rfl]; simp [Abs.genValid, hg]
  refine ⟨?_, ?_, ?_⟩
  · rw [out_txValid]; simp [Abs.aTxValid, skel, h]
  · simp only [step, TxMux.mux, hgv, hrs, Handshake.Gen.step, h]
    simp [TxMux.encode, TxMux.validIdx, TxMux.dataAt]
  · simp only [step, Handshake.Gen.step, hsIn, h]
    cases i.txReady <;> simp

def WaitCycle (i : In) : Prop :=
  i.txReady = false ∧ i.rsValid = false ∧ (i.sValid && (i.sFirst || i.sLast)) = false

theorem hs_wait_run (c : Config) (b : Nat) (waits : List In) (hw : ∀ w ∈ waits, WaitCycle w) (iR : In)
    (hR : iR.txReady = true ∧ iR.rsValid = false ∧ (iR.sValid && (iR.sFirst || iR.sLast)) = false) (s : State)
    (h : s.hs = ⟨true, b⟩) (hg : s.gen.fsm = .idle) :
    accepted (run c s (waits ++ [iR])) (waits ++ [iR]) = [b] ∧
    (∀ o ∈ run c s (waits ++ [iR]), o.txValid = true ∧ o.txData = b) := by
  induction waits generalizing s with
  | nil =>
    obtain ⟨h1, h2, _⟩ := hs_transmit_cycle c s iR b h hg hR.2.1
    simp [run, accepted, h1, h2, hR.1]
  | cons w ws ih =>
    have hww := hw w (List.mem_cons_self ..)
    obtain ⟨h1, h2, h3⟩ := hs_transmit_cycle c s w b h hg hww.2.1
    have hg' : (step c s w).1.gen.fsm = .idle := gen_stays_idle c s w hg (by simp [sStart, hg, hww.2.2])
    have h3' : (step c s w).1.hs = ⟨true, b⟩ := by simpa [hww.1] using h3
    obtain ⟨ih1, ih2⟩ := ih (fun x hx => hw x (List.mem_cons_of_mem _ hx)) (step c s w).1 h3' hg'
    constructor
    · simp only [List.cons_append, run, accepted, h1, hww.1, Bool.and_false]
      exact ih1
    · intro o ho
      simp only [List.cons_append, run, List.mem_cons] at ho
      rcases ho with rfl | ho
      · exact ⟨h1, h2⟩
      · exact ih2 o ho

/-- **Cycles refine events, handshake response**: from a state with both transmitters idle, a handshake request in
cycle 0 makes the composition transmit exactly the wire image of the event-level response `Resp.hs (hsOf i0)`:
silent in the request cycle, then `tx_valid` with the PID byte until the PHY takes it, one byte in total -- provided that
in the request cycle, every wait cycle and the accepting cycle the reset sequencer is silent (`rsValid = false`) and no
endpoint starts a data packet (`sStart`, `WaitCycle`). -/
theorem handshake_response_wire (c : Config) (s : State) (i0 : In) (waits : List In) (iR : In)
    (hidle : s.hs.transmit = false) (hgen : s.gen.fsm = .idle)
    (hreq : hsReq i0 = true) (h0 : i0.rsValid = false ∧ sStart s i0 = false)
    (hw : ∀ w ∈ waits, WaitCycle w)
    (hR : iR.txReady = true ∧ iR.rsValid = false ∧ (iR.sValid && (iR.sFirst || iR.sLast)) = false) :
    accepted (run c s (i0 :: (waits ++ [iR]))) (i0 :: (waits ++ [iR])) = C20.wire (.hs (hsOf i0)) ∧
    (step c s i0).2.txValid = false ∧
    (∀ o ∈ run c (step c s i0).1 (waits ++ [iR]), o.txValid = true ∧ o.txData = C20.pidByte (hsOf i0)) := by
  have hsil := idle_cycle_silent c s i0 hidle hgen h0.1
  have hload := hs_request_loads c s i0 hidle hreq
  have hg' := gen_stays_idle c s i0 hgen h0.2
  obtain ⟨r1, r2⟩ := hs_wait_run c (C20.pidByte (hsOf i0)) waits hw iR hR (step c s i0).1 hload hg'
  refine ⟨?_, hsil, r2⟩
  simp only [run, accepted, hsil, Bool.false_and]
  simpa [C20.wire] using r1

theorem hsOf_ok (i : In) : C20.RespOk (.hs (hsOf i)) := by
  simp only [C20.RespOk, hsOf]
  cases i.stall <;> cases i.nak <;> simp

/-- Non-vacuity: the NAK example of `C20CycMain` (PHY ready in the cycle after the request). -/
example : accepted (run exCfg init exNak) exNak = C20.wire (.hs PID_NAK) := by decide

end LunaVerif.DevCyc
