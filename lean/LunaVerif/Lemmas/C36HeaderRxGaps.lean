import LunaVerif.Lemmas.C36Frame
import LunaVerif.Lemmas.HeaderRx
/-!
# C36 — the frame, received by the header receiver model

The words of `frame hdr payload` (`Lemmas/C36Frame.lean`) are fed, from reset, to `HeaderRx.RawRx`, the
model of `RawHeaderPacketReceiver` (C37), with `expected_sequence` held at the header's own sequence number in every
cycle.  For every well-formed header (`hdr.wf`), every payload of bytes (< 256) and every history of receiver inputs
whose VALID words are the frame (invalid words of any content anywhere, what a stalling PHY produces on the ready-gated
channel), followed by one more cycle that is not a header start: `new_packet` is strobed exactly once, with the
header sent on `packet`, and `bad_packet` / `bad_sequence` never (`hrx_of_frame_gaps`).  The history
without invalid words is the special case `hrx_of_frame`.
-/
namespace LunaVerif.RoundTrip

open LunaVerif.RawPacketTransmitter (Header frame dppFrame headerFrame specDw3)
open LunaVerif.HeaderRx (RawRx.State RawRx.In RawRx.step RawRx.init RawRx.isHpStart RawRx.badPacket
  RawRx.badSequence)

def dw3Of (h : Header) : Nat := specDw3 h.dw0 h.dw1 h.dw2 h.lcw

theorem dw3_fields (h : Header) (hl : h.lcw < 2 ^ 11) :
    dw3Of h < 2 ^ 32 ∧ dw3Of h % 2 ^ 16 = RawPacketTransmitter.crc16Of [h.dw0, h.dw1, h.dw2] ∧
    dw3Of h / 2 ^ 16 % 2 ^ 11 = h.lcw ∧ dw3Of h / 2 ^ 27 = RawPacketTransmitter.crc5Of h.lcw ∧
    dw3Of h / 2 ^ 27 % 32 = RawPacketTransmitter.crc5Of h.lcw ∧ dw3Of h / 2 ^ 16 % 8 = h.lcw % 8 := by
  have h16 : RawPacketTransmitter.crc16Of [h.dw0, h.dw1, h.dw2] < 2 ^ 16 := Crc.usb3Crc16_lt _
  have h5 : RawPacketTransmitter.crc5Of h.lcw < 2 ^ 5 := Crc.usb3Crc5_lt _
  simp only [dw3Of, specDw3]
  generalize RawPacketTransmitter.crc16Of [h.dw0, h.dw1, h.dw2] = c16 at h16
  generalize RawPacketTransmitter.crc5Of h.lcw = c5 at h5
  omega

def hrxHdr (h : Header) : HeaderRx.Hdr := ⟨h.dw0, h.dw1, h.dw2, dw3Of h⟩

def hrxIn (w : Nat × Nat) : HeaderRx.RawRx.In := ⟨true, w.1, w.2⟩

theorem hrxHdr_ok (h : Header) (hw : h.wf) :
    (hrxHdr h).crcOk = true ∧ (hrxHdr h).seq = h.lcw % 8 := by
  obtain ⟨w0, w1, w2, w3⟩ := hw
  obtain ⟨f0, f1, f2, f3, f4, f5⟩ := dw3_fields h w3
  have e16 : HeaderRx.hdrCrc16 (hrxHdr h) = RawPacketTransmitter.crc16Of [h.dw0, h.dw1, h.dw2] := by
    simp [HeaderRx.hdrCrc16, hrxHdr, RawPacketTransmitter.crc16Of, HeaderRx.wordBytes, RawPacketTransmitter.wordBytes]
  have f2' : dw3Of h / 65536 % 2048 = h.lcw := f2
  have f4' : dw3Of h / 134217728 % 32 = RawPacketTransmitter.crc5Of h.lcw := f4
  have f1' : dw3Of h % 65536 = RawPacketTransmitter.crc16Of [h.dw0, h.dw1, h.dw2] := f1
  have f5' : dw3Of h / 65536 % 8 = h.lcw % 8 := f5
  refine ⟨?_, ?_⟩
  · simp only [HeaderRx.Hdr.crcOk, HeaderRx.Hdr.crc5Ok, HeaderRx.Hdr.crc16Ok, e16, HeaderRx.Hdr.lcw,
      HeaderRx.Hdr.crc5, HeaderRx.Hdr.crc16]
    simp only [hrxHdr, f2', f4', f1']
    simp [RawPacketTransmitter.crc5Of]
  · simp only [HeaderRx.Hdr.seq, hrxHdr, f5']

theorem dppFrame_no_hpstart (h : Header) (payload : List Nat) (hb : ∀ x ∈ payload, x < 256) :
    ∀ w ∈ dppFrame h payload, HeaderRx.RawRx.isHpStart (hrxIn w) = false := by
  intro w hw
  rcases RawPacketTransmitter.dppFrame_ctrl h payload hb w hw with h1 | h1
  · have : w.2 ≠ 15 := by omega
    simp [HeaderRx.RawRx.isHpStart, hrxIn, this]
  · simp only [List.mem_cons, List.not_mem_nil, or_false] at h1
    rcases h1 with h1 | h1 | h1 <;>
      simp [HeaderRx.RawRx.isHpStart, hrxIn, h1, HeaderRx.hpStart, RawPacketTransmitter.DPPSTART,
        RawPacketTransmitter.DPPABORT, RawPacketTransmitter.DPPEND]

/-- the state after each input cycle; `e` is a constant `expected_sequence` input -/
def hrxStatesI (s : RawRx.State) (e : Nat) : List RawRx.In → List RawRx.State
  | [] => []
  | i :: is => RawRx.step s i e :: hrxStatesI (RawRx.step s i e) e is

def hrxFinalI (s : RawRx.State) (e : Nat) : List RawRx.In → RawRx.State
  | [] => s
  | i :: is => hrxFinalI (RawRx.step s i e) e is

theorem hrxStatesI_append (s : RawRx.State) (e : Nat) (a b : List RawRx.In) :
    hrxStatesI s e (a ++ b) = hrxStatesI s e a ++ hrxStatesI (hrxFinalI s e a) e b := by
  induction a generalizing s with
  | nil => rfl
  | cons w ws ih => simp [hrxStatesI, hrxFinalI, ih]

def Silent (s : RawRx.State) : Prop := s.st ≠ .check ∧ s.newPkt = false

theorem hrx_silent_invalid (e : Nat) (s : RawRx.State) (hs : Silent s) (i : RawRx.In) (hv : i.valid = false) :
    RawRx.step s i e = s := by
  rw [HeaderRx.RawRx.step_invalid hs.1 hv, ← hs.2]

/-- If every state on the valid-only path is silent, the invalid words only repeat states of that path,
none of them with the strobe. -/
theorem hrx_exact_stutter (e : Nat) (l : List RawRx.In) (s : RawRx.State)
    (hp : ∀ t ∈ s :: hrxStatesI s e (l.filter (·.valid)), Silent t) :
    hrxFinalI s e l = hrxFinalI s e (l.filter (·.valid)) ∧
    (∀ t ∈ hrxStatesI s e l, t ∈ s :: hrxStatesI s e (l.filter (·.valid))) := by
  induction l generalizing s with
  | nil => exact ⟨rfl, by simp [hrxStatesI]⟩
  | cons i is ih =>
    have hs : Silent s := hp s List.mem_cons_self
    cases hv : i.valid
    · have hf : (i :: is).filter (·.valid) = is.filter (·.valid) := by simp [hv]
      rw [hf] at hp ⊢
      obtain ⟨r1, r2⟩ := ih s hp
      simp only [hrxFinalI, hrxStatesI, hrx_silent_invalid e s hs i hv]
      exact ⟨r1, fun t ht => by rcases List.mem_cons.mp ht with h | h; simp [h]; exact r2 t h⟩
    · have hf : (i :: is).filter (·.valid) = i :: is.filter (·.valid) := by simp [hv]
      rw [hf] at hp ⊢
      obtain ⟨r1, r2⟩ := ih (RawRx.step s i e) (fun t ht => hp t (List.mem_cons_of_mem _ ht))
      simp only [hrxFinalI, hrxStatesI]
      refine ⟨r1, fun t ht => ?_⟩
      rcases List.mem_cons.mp ht with h | h
      · simp [h]
      · exact List.mem_cons_of_mem _ (r2 t h)

/-- from WAIT, over words none of which is a header start, the receiver stays in WAIT and strobes nothing -/
theorem hrx_wait_stays (e : Nat) (l : List RawRx.In) (hl : ∀ i ∈ l, RawRx.isHpStart i = false)
    (s : RawRx.State) (hs : s.st = .wait) :
    ∀ t ∈ hrxStatesI s e l, t.newPkt = false ∧ t.st = .wait := by
  induction l generalizing s with
  | nil => simp [hrxStatesI]
  | cons w ws ih =>
    have h1 : RawRx.step s w e = { s with st := .wait, newPkt := false } := by
      simp [RawRx.step, hs, hl w (by simp)]
    intro t ht
    simp only [hrxStatesI, List.mem_cons] at ht
    rcases ht with ht | ht
    · rw [ht, h1]; exact ⟨rfl, rfl⟩
    · exact ih (fun x hx => hl x (List.mem_cons_of_mem _ hx)) _ (by rw [h1]) t ht

/-- **Header receiver half of `rx_of_tx`, with invalid words anywhere.**  From reset, with `expected_sequence` = the
sequence number of the header (`hdr.lcw % 8`) in every cycle, for a well-formed header and payload bytes < 256: over any
history whose valid words are the frame, and one more cycle that is not a header start, `new_packet` is strobed exactly
once, with the header sent on `packet`; `bad_packet` / `bad_sequence` never. -/
theorem hrx_of_frame_gaps (hdr : Header) (payload : List Nat) (hw : hdr.wf) (hb : ∀ x ∈ payload, x < 256)
    (h : List RawRx.In) (hv : h.filter (·.valid) = (frame hdr payload).map hrxIn)
    (x : RawRx.In) (hx : RawRx.isHpStart x = false) :
    let sts := hrxStatesI RawRx.init (hdr.lcw % 8) (h ++ [x])
    (sts.filter (·.newPkt)).map (·.outPkt) = [hrxHdr hdr] ∧
    (∀ t ∈ RawRx.init :: sts, RawRx.badPacket t = false ∧ RawRx.badSequence t (hdr.lcw % 8) = false) := by
  obtain ⟨hok, hseq⟩ := hrxHdr_ok hdr hw
  let e := hdr.lcw % 8
  let four : List RawRx.In :=
    [hrxIn (RawPacketTransmitter.HPSTART, 0xF), hrxIn (hdr.dw0, 0), hrxIn (hdr.dw1, 0), hrxIn (hdr.dw2, 0)]
  have hfr : (frame hdr payload).map hrxIn = four ++ hrxIn (dw3Of hdr, 0) :: (dppFrame hdr payload).map hrxIn := by
    rw [RawPacketTransmitter.frame_eq]; simp [headerFrame, dw3Of, four]
  rw [hfr] at hv
  -- the history: `h1 ++ g4` holds the first four words, then DWORD 3, then `r4`
  obtain ⟨h1, h2, rfl, hv1, hv2⟩ := List.filter_eq_append_iff.mp hv
  obtain ⟨g4, r4, rfl, hg4, _, hv3⟩ := List.filter_eq_cons_iff.mp hv2
  have hvp : (h1 ++ g4).filter (·.valid) = four := by
    rw [List.filter_append, hv1, List.filter_eq_nil_iff.mpr hg4, List.append_nil]
  let S4 : RawRx.State := ⟨.dw3, ⟨hdr.dw0, hdr.dw1, hdr.dw2, 0⟩, false, .zero⟩
  let S5 : RawRx.State := ⟨.check, hrxHdr hdr, false, .zero⟩
  let sN : RawRx.State := ⟨.wait, hrxHdr hdr, true, hrxHdr hdr⟩
  -- up to DWORD 2 every state on the valid-only path is silent: the invalid words only repeat them
  have hq1 : ∀ t ∈ RawRx.init :: hrxStatesI RawRx.init e four, Silent t := by
    simp [four, Silent, hrxStatesI, RawRx.step, RawRx.init, RawRx.isHpStart, hrxIn, RawPacketTransmitter.HPSTART,
      HeaderRx.hpStart]
  obtain ⟨p1, p2⟩ := hrx_exact_stutter e (h1 ++ g4) RawRx.init (by rw [hvp]; exact hq1)
  rw [hvp] at p1 p2
  have f4 : hrxFinalI RawRx.init e four = S4 := by
    simp [four, S4, hrxFinalI, RawRx.step, RawRx.init, RawRx.isHpStart, hrxIn, RawPacketTransmitter.HPSTART,
      HeaderRx.hpStart, HeaderRx.Hdr.zero]
  have t4 : RawRx.step S4 (hrxIn (dw3Of hdr, 0)) e = S5 := by simp [RawRx.step, S4, S5, hrxIn, hrxHdr]
  -- the rest: at least one cycle; none of them is a header start
  have hrest : ∀ i ∈ r4 ++ [x], RawRx.isHpStart i = false := by
    intro i hi
    rcases List.mem_append.mp hi with h1 | h1
    · cases hval : i.valid
      · simp [RawRx.isHpStart, hval]
      · have : i ∈ r4.filter (·.valid) := by simp [h1, hval]
        rw [hv3] at this
        obtain ⟨w, hw', rfl⟩ := List.mem_map.mp this
        exact dppFrame_no_hpstart hdr payload hb w hw'
    · simp only [List.mem_cons, List.not_mem_nil, or_false] at h1; subst h1; exact hx
  obtain ⟨l0, ls, hl⟩ : ∃ l0 ls, r4 ++ [x] = l0 :: ls := by
    cases hd : r4 ++ [x] with
    | nil => simp at hd
    | cons a b => exact ⟨a, b, rfl⟩
  have hls : ∀ i ∈ ls, RawRx.isHpStart i = false := fun i hi => hrest i (by rw [hl]; exact List.mem_cons_of_mem _ hi)
  have t5 : RawRx.step S5 l0 e = sN := by
    simp only [RawRx.step, S5, sN]
    simp [HeaderRx.RawRx.good, hok, hseq, e]
  have hq := hrx_wait_stays e ls hls sN rfl
  intro sts
  have hsts : sts = hrxStatesI RawRx.init e (h1 ++ g4) ++ (S5 :: sN :: hrxStatesI sN e ls) := by
    show hrxStatesI RawRx.init e _ = _
    have hh : (h1 ++ (g4 ++ hrxIn (dw3Of hdr, 0) :: r4)) ++ [x] = (h1 ++ g4) ++ (hrxIn (dw3Of hdr, 0) :: l0 :: ls) := by
      rw [← hl]; simp
    rw [hh, hrxStatesI_append, p1, f4]
    simp only [hrxStatesI, t4, t5]
  have hfil : (hrxStatesI sN e ls).filter (·.newPkt) = [] := by
    rw [List.filter_eq_nil_iff]; intro t ht; simp [(hq t ht).1]
  refine ⟨?_, ?_⟩
  · have h0 : (hrxStatesI RawRx.init e (h1 ++ g4)).filter (·.newPkt) = [] := by
      rw [List.filter_eq_nil_iff]; intro t ht; simp [(hq1 t (p2 t ht)).2]
    rw [hsts, List.filter_append, h0, List.filter_cons, List.filter_cons, hfil]
    simp [S5, sN]
  · intro t ht
    rw [hsts] at ht
    simp only [List.mem_cons, List.mem_append] at ht
    rcases ht with ht | ht | ht | ht | ht
    · simp [RawRx.badPacket, RawRx.badSequence, (hq1 t (by simp [ht])).1]
    · simp [RawRx.badPacket, RawRx.badSequence, (hq1 t (p2 t ht)).1]
    · subst ht; simp [RawRx.badPacket, RawRx.badSequence, S5, hok, hseq]
    · subst ht; simp [RawRx.badPacket, RawRx.badSequence, sN]
    · simp [RawRx.badPacket, RawRx.badSequence, (hq t ht).2]

theorem filter_valid_hrxIn (ws : List (Nat × Nat)) : (ws.map hrxIn).filter (·.valid) = ws.map hrxIn :=
  List.filter_eq_self.mpr (fun a ha => by obtain ⟨w, _, rfl⟩ := List.mem_map.mp ha; rfl)

-- non-vacuity of `hv`: the frame's words with invalid words before, inside and after
example (f g : List (Nat × Nat)) :
    (⟨false, 7, 7⟩ :: (f.map hrxIn ++ ⟨false, 0xF7FBFBFB, 15⟩ :: (g.map hrxIn ++ [⟨false, 1, 2⟩]))).filter (·.valid)
      = (f ++ g).map hrxIn := by
  simp [List.filter_append, filter_valid_hrxIn]

/-- `hrxStatesI` over a gap-free list of words -/
def hrxStates (s : HeaderRx.RawRx.State) (e : Nat) : List (Nat × Nat) → List HeaderRx.RawRx.State
  | [] => []
  | w :: ws => HeaderRx.RawRx.step s (hrxIn w) e :: hrxStates (HeaderRx.RawRx.step s (hrxIn w) e) e ws

theorem hrxStates_eq (s : RawRx.State) (e : Nat) (ws : List (Nat × Nat)) :
    hrxStates s e ws = hrxStatesI s e (ws.map hrxIn) := by
  induction ws generalizing s with
  | nil => rfl
  | cons w ws ih => simp only [hrxStates, List.map_cons, hrxStatesI, ih]

/-- **The header receiver over the whole frame, from reset**, followed by one more word that is not a
header start, with `expected_sequence` = the header's sequence number: `new_packet` is strobed
exactly once, with the header sent on `packet`; `bad_packet` / `bad_sequence` never. -/
theorem hrx_of_frame (h : Header) (payload : List Nat) (hw : h.wf) (hb : ∀ x ∈ payload, x < 256)
    (x : Nat × Nat) (hx : HeaderRx.RawRx.isHpStart (hrxIn x) = false) :
    let sts := hrxStates HeaderRx.RawRx.init (h.lcw % 8) (frame h payload ++ [x])
    (sts.filter (·.newPkt)).map (·.outPkt) = [hrxHdr h] ∧
    (∀ t ∈ HeaderRx.RawRx.init :: sts,
      HeaderRx.RawRx.badPacket t = false ∧ HeaderRx.RawRx.badSequence t (h.lcw % 8) = false) := by
  have := hrx_of_frame_gaps h payload hw hb _ (filter_valid_hrxIn _) (hrxIn x) hx
  simpa only [hrxStates_eq, List.map_append, List.map_cons, List.map_nil] using this

end LunaVerif.RoundTrip
