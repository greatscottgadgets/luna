import LunaVerif.Lemmas.C20DeviceCtl
import LunaVerif.Lemmas.C20DeserRx
/-!
# C20 — the closed device with its control endpoint AND the setup decoder's FSM + deserializer

`DevDec` adds `SetupDecoder.decStep` (the `USBSetupDecoder` FSM) and `SetupDecoder.deserStep` (its
`USBDataPacketDeserializer`) of C06 to `DevCtl`, on the SHARED tokenizer (`new_token`, `pid` of the device's token
detector), the SHARED timer (`tx_allowed`; `timer.start` = the deserializer's registered `new_packet`) and the SHARED CRC16
(`data_crc.start` while the deserializer reads the PID, CRC value = the receiver's), as `USBSetupDecoder.elaborate` /
`USBControlEndpoint.elaborate` wire them.  `packet.received`, `ack` and the `SetupPacket` registers, inputs of `DevCtl`,
are computed here.

Proved (`decHolds_of_dec`, for every history): three clauses of `DevCtl.decHolds` —
* the decoder's `timer.start` comes only in the cycle after a reception ended (`DI.i1/i2`, from `DeserRx.deser_new`: the
  deserializer parses only while `rx_active` was high a cycle ago);
* `setup.type` changes only together with the `received` strobe (`DI.i3`, from `dec_regs`);
* `received` is visible only while the tokenizer shows SETUP (`DI.i4/i5`: the strobe is raised for a `new_packet` under a
  SETUP pid, and the token detector, idle after the cycle without `rx_active`, keeps its `pid` over that edge).

`decStep_spec` describes one cycle of the decoder FSM; `dec_regs`, `dec_received_origin` and `dec_ack_origin` are read off
it.  What remains assumed is `decOk'`: the decoder's ACK coincides with the receiver's `ready_for_response` while the
tokenizer shows SETUP, no `received` / forwarded host ACK while the control slot is armed or sending, the legal-host
clause on `start_position`, reset sequencer silent.  (The ACK clause and the `received` clause need the joint invariant
"decoder in DELAY => receiver in its inter-packet DELAY" + the equality of the deserializer's and the receiver's CRC16
checks: Lemmas/C20DeviceDecInv.lean.)  `dec_ack_tx_allowed` (below) states one
consequence on its own -- at full / low speed the decoder's ACK implies `tx_allowed` of the SHARED timer; the proof of the ACK
clause does not go through it but reads `dec_ack_origin` itself.
-/
namespace LunaVerif.DevDec
open LunaVerif LunaVerif.DevCyc LunaVerif.DevCyc.Abs LunaVerif.C20Ctr LunaVerif.DevEp LunaVerif.CtrlCyc LunaVerif.DevCtl
open LunaVerif.SetupDecoder (Deser Dec deserStep decStep)

/-- The `SetupPacket` record as the request handlers see it. -/
def suOf (k : Dec) : Device.Setup :=
  { isIn := decide (k.requestType / 128 = 1), type := (k.requestType / 32) % 4, recipient := k.requestType % 32,
    request := k.request, value := k.value, index := k.index, length := k.length }

structure Config where
  dc : DevCtl.Config
  hs : Bool                -- speed == HIGH (the decoder ACKs without waiting for the timer)

def decCfg (c : Config) : SetupDecoder.Config := ⟨0, c.hs, 0, 0⟩   -- `decStep` reads `hs` only

structure State where
  w   : DevCtl.State
  ds  : Deser
  dec : Dec

def init (c : Config) : State := ⟨DevCtl.init c.dc, SetupDecoder.init.ds, SetupDecoder.init.dec⟩

/-- The decoder's combinational step of the cycle (`decStep` on the SHARED tokenizer and the SHARED timer). -/
def decCycle (c : Config) (D : State) (x : Ext) : Dec × Bool :=
  let o := fwd c.dc.ep D.w.ep x
  decStep (decCfg c) D.dec o.tok.regs.newToken o.tok.regs.pid D.ds.newPacket D.ds.length D.ds.packet o.txAllowed

/-- The packet layer's / endpoints' inputs with the decoder's `timer.start` (= the deserializer's `new_packet`) and
`data_crc.start`. -/
def xOf (D : State) (x : Ext) : Ext := { x with restTimer := D.ds.newPacket, restCrc := D.ds.fsm == .readPid }

/-- What the decoder shows the control endpoint. -/
def dOf (c : Config) (D : State) (x : Ext) (activeConfig : Nat) : DecIn :=
  ⟨D.dec.received, (decCycle c D x).2, suOf D.dec, activeConfig⟩

def step (c : Config) (D : State) (x : Ext) (ac : Nat) : State :=
  let o := fwd c.dc.ep D.w.ep x
  ⟨DevCtl.step c.dc D.w (xOf D x) (dOf c D x ac), deserStep D.ds o.rxo.crcOut x.rx, (decCycle c D x).1⟩

/-- The `DevCtl` input history along the run of the device with control endpoint and setup decoder. -/
def ysOf (c : Config) : State → List (Ext × Nat) → List (Ext × DecIn)
  | _, [] => []
  | D, (x, ac) :: zs => (xOf D x, dOf c D x ac) :: ysOf c (step c D x ac) zs

theorem fwd_x (c : Config) (D : State) (x : Ext) : fwd c.dc.ep D.w.ep (xOf D x) = fwd c.dc.ep D.w.ep x := rfl

theorem deser_new (d : Deser) (crc : Nat) (i : Utmi.RxCycle) :
    ((deserStep d crc i).newPacket = true → d.fsm ≠ .idle ∧ i.active = false) ∧
    ((deserStep d crc i).fsm ≠ .idle → i.active = true) :=
  let ⟨n1, _, n3⟩ := DeserRx.deser_new d crc i
  ⟨fun h => ⟨by simp [(n1.mp h).1], (n1.mp h).2.1⟩, n3⟩

/-- One cycle of `USBSetupDecoder` in terms of `acc`, "the decoder accepts the packet": it is in READ_DATA and sees a
`new_packet` of 8 bytes under a SETUP pid.  `received` is strobed exactly then; `ack` is driven then if `tx_allowed` or at
high speed, or in DELAY when `tx_allowed`; DELAY is entered / kept exactly otherwise; the registers change only then. -/
theorem decStep_spec (c : SetupDecoder.Config) (k : Dec) (tn : Bool) (tp : Nat) (dn : Bool) (dl : Nat) (p : List Nat)
    (ta : Bool) :
    let acc := k.fsm = .readData ∧ dn = true ∧ dl = 8 ∧ tp = SetupDecoder.SETUP_PID
    let r := decStep c k tn tp dn dl p ta
    (r.1.received = true ↔ acc) ∧ (r.2 = true ↔ (acc ∧ (ta = true ∨ c.hs = true)) ∨ (k.fsm = .delay ∧ ta = true)) ∧
    (r.1.fsm = .delay ↔ (acc ∧ ¬ (ta = true ∨ c.hs = true)) ∨ (k.fsm = .delay ∧ ta = false)) ∧
    (¬ acc → suOf r.1 = suOf k) := by
  cases hf : k.fsm <;> simp only [decStep, hf] <;> (repeat' split) <;> simp_all [suOf]

theorem dec_regs (c : SetupDecoder.Config) (k : Dec) (tn : Bool) (tp : Nat) (dn : Bool) (dl : Nat) (p : List Nat)
    (ta : Bool) : (decStep c k tn tp dn dl p ta).1.received = false → suOf (decStep c k tn tp dn dl p ta).1 = suOf k :=
  fun h => (decStep_spec c k tn tp dn dl p ta).2.2.2 fun ha => by
    simp [(decStep_spec c k tn tp dn dl p ta).1.mpr ha] at h

theorem dec_received_origin (c : SetupDecoder.Config) (k : Dec) (tn : Bool) (tp : Nat) (dn : Bool) (dl : Nat)
    (p : List Nat) (ta : Bool) :
    (decStep c k tn tp dn dl p ta).1.received = true → dn = true ∧ tp = SetupDecoder.SETUP_PID :=
  fun h => let ⟨_, h1, _, h3⟩ := (decStep_spec c k tn tp dn dl p ta).1.mp h; ⟨h1, h3⟩

theorem dec_ack_origin (c : SetupDecoder.Config) (k : Dec) (tn : Bool) (tp : Nat) (dn : Bool) (dl : Nat)
    (p : List Nat) (ta : Bool) (h : (decStep c k tn tp dn dl p ta).2 = true) :
    (k.fsm = .readData ∧ dn = true ∧ dl = 8 ∧ tp = SetupDecoder.SETUP_PID ∧ (ta = true ∨ c.hs = true)) ∨
    (k.fsm = .delay ∧ ta = true) :=
  ((decStep_spec c k tn tp dn dl p ta).2.1.mp h).imp (fun ⟨⟨a, b, c, d⟩, e⟩ => ⟨a, b, c, d, e⟩) id

theorem dec_ack_tx_allowed (c : Config) (hfs : c.hs = false) (D : State) (x : Ext)
    (h : (decCycle c D x).2 = true) : (fwd c.dc.ep D.w.ep x).txAllowed = true := by
  rcases dec_ack_origin (decCfg c) _ _ _ _ _ _ _ h with ⟨_, _, _, _, h5 | h5⟩ | ⟨_, h2⟩
  · exact h5
  · simp [decCfg, hfs] at h5
  · exact h2

theorem tok_facts (cfg : TokenDetector.Config) (s : TokenDetector.State) (i : TokenDetector.In) :
    (i.rx.active = false → (TokenDetector.tokStep cfg s i).1.fsm = .idle) ∧
    (s.fsm = .idle → (TokenDetector.tokStep cfg s i).1.regs.pid = s.regs.pid) := by
  refine ⟨fun h => ?_, fun hf => ?_⟩
  · rw [tok_fsm, h]; cases s.fsm <;> rfl
  · rw [tok_pid, hf]; rfl

theorem dev_tok (c : DevEp.Config) (S : DevEp.State) (x : Ext) :
    (DevEp.step c S x).1.dev.tok.tok = (TokenDetector.tokStep c.dev.tok S.dev.tok.tok ⟨x.rx, x.address⟩).1 := by
  show (DevCyc.step c.dev S.dev (fullIn c S x)).1.tok.tok = _
  simp [DevCyc.step, TokenDetector.step, fullIn]

theorem step_tok (c : Config) (D : State) (x : Ext) (ac : Nat) :
    (step c D x ac).w.ep.dev.tok.tok =
      (TokenDetector.tokStep c.dc.ep.dev.tok D.w.ep.dev.tok.tok ⟨x.rx, x.address⟩).1 :=
  dev_tok c.dc.ep D.w.ep _

theorem fwd_regs (c : DevEp.Config) (S : DevEp.State) (x : Ext) : (fwd c S x).tok.regs = S.dev.tok.tok.regs := by
  simp [fwd, DevCyc.step, TokenDetector.step]

/-- The deserializer parses only while `rx_active` was high in the previous cycle; its `new_packet` strobe appears in
the cycle after a reception ended; the decoded `type` field is the one remembered (`pty`) unless `received` strobes; the
token detector is idle after a cycle without `rx_active`; `received` is seen under a SETUP pid. -/
structure DI (D : State) (g : Ghost) (pty : Nat) : Prop where
  i1 : D.ds.fsm ≠ .idle → g.a1 = true
  i2 : D.ds.newPacket = true → g.a1 = false ∧ g.a2 = true
  i3 : D.dec.received = false → (suOf D.dec).type = pty
  i4 : g.a1 = false → D.w.ep.dev.tok.tok.fsm = .idle
  i5 : D.dec.received = true → D.w.ep.dev.tok.tok.regs.pid = SetupDecoder.SETUP_PID

theorem di_init (c : Config) : DI (init c) ghostInit 0 := by
  refine ⟨?_, ?_, ?_, ?_, ?_⟩ <;>
    simp [init, SetupDecoder.init, suOf, DevCtl.init, DevEp.init, DevCyc.init, TokenDetector.fullInit,
      TokenDetector.init]

/-- What is still assumed of the decoder's surroundings in one cycle (`DevCtl.decOk` without its `timer.start` clause,
its `setup.type` clause and its `received => SETUP` clause). -/
def decOk' (c : Config) (D : State) (q : Phs) (x : Ext) (ac : Nat) : Bool :=
  let o := fwd c.dc.ep D.w.ep x
  (!(decCycle c D x).2 || (o.rxo.ready && o.tok.isSetup)) &&
  (q.r == .idle ||
    (!D.dec.received && !(ctrlComb c.dc.ctl D.w.ctl.cs.stage (ctlIn x (dOf c D x ac) o)).hsAck)) &&
  (D.w.ctl.blk.fsm != .start || decide (D.w.ctl.cs.h.startPos < 2 ^ c.dc.blk.img.posW)) && !x.rsValid

theorem decOk_of (c : Config) {D : State} {g : Ghost} {q : Phs} {pty : Nat} {x : Ext} {ac : Nat}
    (hi : DI D g pty) (h : decOk' c D q x ac = true) :
    decOk c.dc D.w g q pty (xOf D x) (dOf c D x ac) = true := by
  simp only [decOk', Bool.and_eq_true, Bool.or_eq_true, Bool.not_eq_eq_eq_not, Bool.not_true, beq_iff_eq] at h
  obtain ⟨⟨⟨h1, h3⟩, h4⟩, h5⟩ := h
  simp only [decOk, fwd_x, Bool.and_eq_true, Bool.or_eq_true, Bool.not_eq_eq_eq_not, Bool.not_true, beq_iff_eq]
  refine ⟨⟨⟨⟨⟨h1, ?_⟩, h3.imp id fun h => ⟨h, hi.i3 h.1⟩⟩, h4⟩, ?_⟩, h5⟩
  · refine (Bool.eq_false_or_eq_true D.dec.received).symm.imp id fun hr => ?_
    rw [(DevCtl.pid_decode c.dc D.w x).2.2.1, fwd_regs, hi.i5 hr]
    rfl
  · exact (Bool.eq_false_or_eq_true D.ds.newPacket).symm.imp id hi.i2

/-- The tokenizer's PID register is frozen while nothing was being received in the previous cycle. -/
theorem pid_kept (c : Config) {D : State} {g : Ghost} {pty : Nat} (x : Ext) (ac : Nat) (hi : DI D g pty)
    (ha : g.a1 = false) : (step c D x ac).w.ep.dev.tok.tok.regs.pid = D.w.ep.dev.tok.tok.regs.pid :=
  (congrArg (·.regs.pid) (step_tok c D x ac)).trans
    ((tok_facts c.dc.ep.dev.tok D.w.ep.dev.tok.tok ⟨x.rx, x.address⟩).2 (hi.i4 ha))

theorem di_step (c : Config) (p : Params) {D : State} {g : Ghost} {pty : Nat} (x : Ext) (ac : Nat) (i : DevCyc.In)
    (o : DevCyc.Out) (hrx : i.rx = x.rx) (hi : DI D g pty) :
    DI (step c D x ac) (ghostNext p g D.w.ep.dev i o) (suOf D.dec).type := by
  obtain ⟨n1, n2⟩ := deser_new D.ds (fwd c.dc.ep D.w.ep x).rxo.crcOut x.rx
  have t1 := (tok_facts c.dc.ep.dev.tok D.w.ep.dev.tok.tok ⟨x.rx, x.address⟩).1
  have ha : (ghostNext p g D.w.ep.dev i o).a1 = x.rx.active := congrArg (·.active) hrx
  refine ⟨fun h => ha.trans (n2 h), fun h => ⟨ha.trans (n1 h).2, hi.i1 (n1 h).1⟩,
    fun h => congrArg Device.Setup.type (dec_regs _ _ _ _ _ _ _ _ h),
    fun h => (congrArg (·.fsm) (step_tok c D x ac)).trans (t1 (ha.symm.trans h)), fun h => ?_⟩
  obtain ⟨a, b⟩ := dec_received_origin _ _ _ _ _ _ _ _ h
  rw [fwd_regs] at b
  exact (pid_kept c x ac hi (hi.i2 a).1).trans b

def decHolds' (c : Config) (p : Params) : State → Ghost → Phs → List (Ext × Nat) → Bool
  | _, _, _, [] => true
  | D, g, q, (x, ac) :: zs =>
    let x' := extOf c.dc D.w (xOf D x) (dOf c D x ac)
    decOk' c D q x ac &&
      decHolds' c p (step c D x ac) (ghostNext p g D.w.ep.dev (fullIn c.dc.ep D.w.ep x') (DevEp.step c.dc.ep D.w.ep x').2)
        (nextPhs p.L c.dc.ep D.w.ep x' q) zs

theorem decHolds_of_di (c : Config) (p : Params) (zs : List (Ext × Nat)) (D : State) (g : Ghost) (q : Phs)
    (pty : Nat) (hi : DI D g pty) (h : decHolds' c p D g q zs = true) :
    decHolds c.dc p D.w g q pty (ysOf c D zs) = true := by
  induction zs generalizing D g q pty with
  | nil => rfl
  | cons z zs ih =>
    simp only [decHolds', Bool.and_eq_true] at h
    simp only [ysOf, decHolds, Bool.and_eq_true]
    exact ⟨decOk_of c hi h.1, ih _ _ _ _ (di_step c p z.1 z.2 _ _ rfl hi) h.2⟩

/-- **`decHolds` reduced.**  With the setup decoder's FSM and its deserializer composed in (on the shared tokenizer,
timer and CRC), the decoder's `timer.start` clause, the `setup.type` clause and the `received => SETUP` clause of
`decHolds` are theorems. -/
theorem decHolds_of_dec (c : Config) (p : Params) (zs : List (Ext × Nat))
    (h : decHolds' c p (init c) ghostInit phs0 zs = true) :
    decHolds c.dc p (DevCtl.init c.dc) ghostInit phs0 0 (ysOf c (init c) zs) = true :=
  decHolds_of_di c p zs (init c) ghostInit phs0 0 (di_init c) h

/-- The `DevEp` input history of the device with control endpoint and setup decoder. -/
def extsD (c : Config) (zs : List (Ext × Nat)) : List Ext := extsOf c.dc (DevCtl.init c.dc) (ysOf c (init c) zs)

/-- Along every run in which the host assumption (`hostHolds`) and `decHolds'` (the four clauses of the header) hold, with
`strobes`, `delay + L + 2 < T`, `hne`, `epsOk` and `3 ≤ L`: the device with its control endpoint and setup decoder never
transmits while a received packet is in progress. -/
theorem dec_closed_tx_never_during_rx (c : Config) (p : Params)
    (hs : strobes c.dc.ep.dev.tok.timer c.dc.ep.dev.speed = true)
    (hT : delayOf c.dc.ep.dev.tok.timer c.dc.ep.dev.speed + p.L + 2 < p.T) (hne : c.dc.ep.epIn ≠ c.dc.ep.sig.epNum)
    (he : epsOk c.dc) (hL : 3 ≤ p.L) (zs : List (Ext × Nat))
    (hh : hostHolds c.dc.ep.dev p DevCyc.init ghostInit (devIns c.dc.ep (DevEp.init c.dc.ep) (extsD c zs)) = true)
    (hd : decHolds' c p (init c) ghostInit phs0 zs = true) :
    ∀ o ∈ DevEp.run c.dc.ep (DevEp.init c.dc.ep) (extsD c zs), o.txValid = true → o.rxActive = false :=
  ctl_closed_tx_never_during_rx c.dc p hs hT hne he hL _ hh (decHolds_of_dec c p zs hd)

theorem dec_closed_transmitters_exclusive (c : Config) (p : Params)
    (hs : strobes c.dc.ep.dev.tok.timer c.dc.ep.dev.speed = true)
    (hT : delayOf c.dc.ep.dev.tok.timer c.dc.ep.dev.speed + p.L + 2 < p.T) (hne : c.dc.ep.epIn ≠ c.dc.ep.sig.epNum)
    (he : epsOk c.dc) (hL : 3 ≤ p.L) (zs : List (Ext × Nat))
    (hh : hostHolds c.dc.ep.dev p DevCyc.init ghostInit (devIns c.dc.ep (DevEp.init c.dc.ep) (extsD c zs)) = true)
    (hd : decHolds' c p (init c) ghostInit phs0 zs = true) :
    ∀ o ∈ DevEp.run c.dc.ep (DevEp.init c.dc.ep) (extsD c zs), ¬ (o.hsValid = true ∧ o.genValid = true) :=
  ctl_closed_transmitters_exclusive c.dc p hs hT hne he hL _ hh (decHolds_of_dec c p zs hd)

theorem dec_closed_tx_only_in_response_window (c : Config) (p : Params)
    (hs : strobes c.dc.ep.dev.tok.timer c.dc.ep.dev.speed = true)
    (hT : delayOf c.dc.ep.dev.tok.timer c.dc.ep.dev.speed + p.L + 2 < p.T) (hne : c.dc.ep.epIn ≠ c.dc.ep.sig.epNum)
    (he : epsOk c.dc) (hL : 3 ≤ p.L) (zs : List (Ext × Nat))
    (hh : hostHolds c.dc.ep.dev p DevCyc.init ghostInit (devIns c.dc.ep (DevEp.init c.dc.ep) (extsD c zs)) = true)
    (hd : decHolds' c p (init c) ghostInit phs0 zs = true) :
    ∀ go ∈ traceG c.dc.ep.dev p DevCyc.init ghostInit (devIns c.dc.ep (DevEp.init c.dc.ep) (extsD c zs)),
      go.2.txValid = true → go.1.win ≠ .closed :=
  ctl_closed_tx_only_in_response_window c.dc p hs hT hne he hL _ hh (decHolds_of_dec c p zs hd)

end LunaVerif.DevDec
