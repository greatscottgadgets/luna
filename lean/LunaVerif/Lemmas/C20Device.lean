import LunaVerif.Lemmas.C20EnvOk
import LunaVerif.Lemmas.C20Endpoints
import LunaVerif.Model.Usb2.EndpointMux
/-!
# C20 — the packet layer closed with the real endpoint models: `envOk` discharged

`DevEp` closes the loop that `DevCyc` leaves open: the endpoint side of every cycle is not an input but is
computed by the cycle-level endpoint models, wired as `USBDevice.add_endpoint` / `USBEndpointMultiplexer` /
`USBStreamInEndpoint` / `USBStreamOutEndpoint` / `USBSignalInEndpoint` wire them:

    packet layer (DevCyc)  --tokenizer, rx stream + strobes, tx.ready-->  endpoints
    endpoints              --EndpointInterface-->  EpMux.outOf  --handshakes_out, tx, tx_pid_toggle-->  packet layer

Modelled endpoints: one bulk IN endpoint (`InXfer`, C11), one bulk OUT endpoint (`StreamOutEndpoint`, C13), one status
endpoint (`SignalIn`, C17).  Everything else that sits on the multiplexer — the control endpoint with its setup decoder
and request handlers, further endpoints — is the REST slot: what it drives is an input of every cycle (`Ext.rest`), and
the theorems assume that it keeps the slot contract with respect to the pulses that are not addressed to one of the
three modelled endpoints (`restHolds`).  The host's handshakes (`handshakes_in`, from the handshake detector), the user
side of the endpoints' streams and the device address are free inputs.
-/
namespace LunaVerif.DevEp
open LunaVerif LunaVerif.DevCyc LunaVerif.DevCyc.Abs LunaVerif.C20Ctr

structure Config where
  dev  : DevCyc.Config
  inx  : InXfer.Config                 -- bulk IN: max packet size
  epIn : Nat                           --          endpoint number
  out  : StreamOutEndpoint.Config      -- bulk OUT (endpoint number, max packet size, FIFO depth)
  sig  : SignalIn.Config               -- status endpoint (width, endianness, endpoint number)

/-- Inputs of one cycle of the closed device. -/
structure Ext where
  rx        : Utmi.RxCycle
  txReady   : Bool
  address   : Nat
  rsValid   : Bool                     -- reset sequencer's transmitter
  rsData    : Nat
  hsAck     : Bool                     -- handshakes_in.ack (handshake detector)
  -- user side of the bulk IN endpoint
  inValid   : Bool
  inPayload : Nat
  inLast    : Bool
  inFlush   : Bool
  inDiscard : Bool
  -- user side of the bulk OUT endpoint / the status endpoint
  outReady  : Bool
  signal    : Nat
  -- the rest slot (control endpoint, further endpoints): its `EndpointInterface` outputs
  rest      : EpMux.Drv
  restTimer : Bool                     -- timer.start
  restCrc   : Bool                     -- data_crc.start

structure State where
  dev  : DevCyc.State
  inx  : InXfer.State
  out  : StreamOutEndpoint.State
  sig  : SignalIn.State
  past : EpMux.State                   -- the multiplexer's `past_valid` bits

def init (c : Config) : State :=
  ⟨DevCyc.init, InXfer.init c.inx, StreamOutEndpoint.init, SignalIn.init, EpMux.init 4⟩

/-- The packet layer's inputs without the endpoint side. -/
def baseIn (x : Ext) : DevCyc.In :=
  { rx := x.rx, txReady := x.txReady, address := x.address, ack := false, nak := false, stall := false,
    sValid := false, sFirst := false, sLast := false, sPayload := 0, pidToggle := 0, timerStart := false,
    crcStart := false, rsValid := x.rsValid, rsData := x.rsData }

/-- What the packet layer shows the endpoints in this cycle (none of it depends on what they drive: `fwd_tok`, `fwd_rxo`, `fwd_pulse`). -/
def fwd (c : Config) (S : State) (x : Ext) : DevCyc.Out := (DevCyc.step c.dev S.dev (baseIn x)).2

def inIn (c : Config) (x : Ext) (o : DevCyc.Out) : InXfer.In :=
  { active := o.tok.regs.endpoint == c.epIn, isIn := o.tok.isIn, rfr := o.tok.readyForResponse,
    newToken := o.tok.regs.newToken, ack := x.hsAck, sValid := x.inValid, sPayload := x.inPayload, sLast := x.inLast,
    flush := x.inFlush, discard := x.inDiscard, genZlps := true,
    resetSeq := x.rest.chEnable && x.rest.chDir && x.rest.chNum == c.epIn, startData1 := false,
    txReady := o.streamReady }

def outIn (c : Config) (x : Ext) (o : DevCyc.Out) : StreamOutEndpoint.In :=
  { rx := { valid := o.rxo.streamValid, next := o.rxo.streamNext, payload := o.rxo.payload,
            completeIn := o.rxo.packetComplete, invalidIn := o.rxo.crcMismatch }
    rxReady := o.rxo.ready, pidToggle := o.rxo.activePid / 8 % 2, tokEp := o.tok.regs.endpoint,
    tokIsOut := o.tok.isOut, tokIsPing := o.tok.isPing, tokReady := o.tok.readyForResponse,
    tokNew := o.tok.regs.newToken,
    clearHalt := x.rest.chEnable && !x.rest.chDir && x.rest.chNum == c.out.epNum, ready := x.outReady }

def sigIn (c : Config) (x : Ext) (o : DevCyc.Out) : SignalIn.In :=
  { endpoint := o.tok.regs.endpoint, isIn := o.tok.isIn, rfr := o.tok.readyForResponse,
    newToken := o.tok.regs.newToken, ack := x.hsAck, txReady := o.streamReady, signal := x.signal,
    clearHalt := x.rest.chEnable && x.rest.chDir && x.rest.chNum == c.sig.epNum }

def inDrv (o : InXfer.Out) : EpMux.Drv :=
  { valid := o.valid, first := o.first, last := o.last, payload := o.payload, pid := if o.pid then 1 else 0,
    nak := o.nak }

def outDrv (o : StreamOutEndpoint.Out) : EpMux.Drv := { ack := o.ack, nak := o.nak }

def sigDrv (o : SignalIn.Out) : EpMux.Drv :=
  { valid := o.valid, first := o.first, last := o.last, payload := o.payload, pid := if o.toggle then 1 else 0 }

/-- The four `EndpointInterface`s on the multiplexer. -/
def drvs (c : Config) (S : State) (x : Ext) : List EpMux.Drv :=
  let o := fwd c S x
  [x.rest, inDrv (InXfer.step c.inx S.inx (inIn c x o)).2, outDrv (StreamOutEndpoint.step c.out S.out (outIn c x o)).2,
   sigDrv (SignalIn.step c.sig S.sig (sigIn c x o)).2]

/-- The packet layer's inputs of the cycle: the endpoint side comes from the multiplexer (`timer.start` and
`data_crc.start` are OR-joined in the source; only the rest slot drives them). -/
def fullIn (c : Config) (S : State) (x : Ext) : DevCyc.In :=
  let m := EpMux.outOf S.past (drvs c S x)
  { rx := x.rx, txReady := x.txReady, address := x.address, ack := m.ack, nak := m.nak, stall := m.stall,
    sValid := m.valid, sFirst := m.first, sLast := m.last, sPayload := m.payload, pidToggle := m.pid,
    timerStart := x.restTimer, crcStart := x.restCrc, rsValid := x.rsValid, rsData := x.rsData }

def step (c : Config) (S : State) (x : Ext) : State × DevCyc.Out :=
  let o := fwd c S x
  let r := DevCyc.step c.dev S.dev (fullIn c S x)
  ({ dev := r.1
     inx := (InXfer.step c.inx S.inx (inIn c x o)).1
     out := (StreamOutEndpoint.step c.out S.out (outIn c x o)).1
     sig := (SignalIn.step c.sig S.sig (sigIn c x o)).1
     past := (EpMux.step S.past (drvs c S x)).1 }, r.2)

def run (c : Config) : State → List Ext → List DevCyc.Out
  | _, [] => []
  | S, x :: xs => (step c S x).2 :: run c (step c S x).1 xs

/-- The inputs the packet layer sees along the closed run. -/
def devIns (c : Config) : State → List Ext → List DevCyc.In
  | _, [] => []
  | S, x :: xs => fullIn c S x :: devIns c (step c S x).1 xs

theorem run_eq (c : Config) (S : State) (xs : List Ext) : run c S xs = DevCyc.run c.dev S.dev (devIns c S xs) := by
  induction xs generalizing S with
  | nil => rfl
  | cons x xs ih => simp only [run, devIns, DevCyc.run, ih]; rfl


theorem fwd_tok (c : Config) (S : State) (x : Ext) :
    (DevCyc.step c.dev S.dev (fullIn c S x)).2.tok = (fwd c S x).tok := rfl

theorem fwd_rxo (c : Config) (S : State) (x : Ext) :
    (DevCyc.step c.dev S.dev (fullIn c S x)).2.rxo = (fwd c S x).rxo := rfl

theorem fwd_ready (c : Config) (S : State) (x : Ext) :
    (fwd c S x).streamReady = rdyOf S.dev (fullIn c S x) := by
  simp only [fwd, rdyOf_eq]; rfl

theorem fwd_pulse (c : Config) (S : State) (x : Ext) :
    pulse (DevCyc.step c.dev S.dev (fullIn c S x)).2 = pulse (fwd c S x) := rfl

structure Phs where
  r : Ph
  i : Ph
  o : Ph
  s : Ph
deriving Repr

def restSig (x : Ext) : Sig :=
  { hs := x.rest.ack || x.rest.nak || x.rest.stall, valid := x.rest.valid, first := x.rest.first,
    last := x.rest.last, tstart := x.restTimer }

def pulI (c : Config) (S : State) (x : Ext) : Bool := InXfer.inTok (inIn c x (fwd c S x))
def pulO (c : Config) (S : State) (x : Ext) : Bool := Out2.pul c.out S.out (outIn c x (fwd c S x))
def pulS (c : Config) (S : State) (x : Ext) : Bool := SignalIn.packetRequested c.sig (sigIn c x (fwd c S x))
/-- The rest slot may answer every pulse that is not addressed to one of the three modelled endpoints. -/
def pulR (c : Config) (S : State) (x : Ext) : Bool :=
  pulse (fwd c S x) && !(pulI c S x || pulO c S x || pulS c S x)

def slots (c : Config) (S : State) (x : Ext) (q : Phs) : List Slot :=
  let o := fwd c S x
  [⟨q.r, pulR c S x, restSig x⟩,
   ⟨q.i, pulI c S x, In.sig (InXfer.step c.inx S.inx (inIn c x o)).2⟩,
   ⟨q.o, pulO c S x, Out2.sig (StreamOutEndpoint.step c.out S.out (outIn c x o)).2⟩,
   ⟨q.s, pulS c S x, Sig3.sig (SignalIn.step c.sig S.sig (sigIn c x o)).2⟩]

def nextPhs (L : Nat) (c : Config) (S : State) (x : Ext) (q : Phs) : Phs :=
  let o := fwd c S x
  { r := cnext L q.r (pulR c S x) o.streamReady (restSig x)
    i := cnext L q.i (pulI c S x) o.streamReady (In.sig (InXfer.step c.inx S.inx (inIn c x o)).2)
    o := cnext L q.o (pulO c S x) o.streamReady (Out2.sig (StreamOutEndpoint.step c.out S.out (outIn c x o)).2)
    s := cnext L q.s (pulS c S x) o.streamReady (Sig3.sig (SignalIn.step c.sig S.sig (sigIn c x o)).2) }

/-- The multiplexer's OR is the merged slot. -/
theorem sig_eq (c : Config) (S : State) (x : Ext) (q : Phs) : orSigs (slots c S x q) = sigOf (fullIn c S x) := by
  simp only [slots, orSigs, orSig, silent, sigOf, fullIn, hsReq, EpMux.outOf, drvs, List.any, inDrv, outDrv, sigDrv,
    In.sig, Out2.sig, Sig3.sig, restSig, Sig.mk.injEq, Bool.or_false, Bool.false_or, and_true]
  -- what is left is `hs`: the three handshake ORs over the slots against the OR over the slots of the three handshakes
  ac_rfl

theorem pid_decode (c : Config) (S : State) (x : Ext) :
    let o := fwd c S x
    o.tok.isIn = (o.tok.regs.pid == 9) ∧ o.tok.isOut = (o.tok.regs.pid == 1) ∧ o.tok.isSetup = (o.tok.regs.pid == 13) ∧
    o.tok.isPing = (o.tok.regs.pid == 4) := ⟨rfl, rfl, rfl, rfl⟩

theorem pul_facts (c : Config) (S : State) (x : Ext) :
    let o := fwd c S x
    (pulI c S x = true → pulse o = true ∧ o.tok.regs.pid = 9 ∧ o.tok.regs.endpoint = c.epIn) ∧
    (pulO c S x = true →
      pulse o = true ∧ (o.tok.regs.pid = 1 ∨ o.tok.regs.pid = 4) ∧ o.tok.regs.endpoint = c.out.epNum) ∧
    (pulS c S x = true → pulse o = true ∧ o.tok.regs.pid = 9 ∧ o.tok.regs.endpoint = c.sig.epNum) := by
  obtain ⟨k1, k2, _, k4⟩ := pid_decode c S x
  simp only [pulI, pulO, pulS, pulse, InXfer.inTok, inIn, Out2.pul, StreamOutEndpoint.comb, outIn,
    SignalIn.packetRequested, sigIn, k1, k2, k4, Bool.and_eq_true, Bool.or_eq_true, beq_iff_eq]
  refine ⟨fun h => ⟨.inl ⟨h.2, .inl h.1.2⟩, h.1.2, h.1.1⟩, ?_, fun h => ⟨.inl ⟨h.2, .inl h.1.2⟩, h.1.2, h.1.1⟩⟩
  rintro (h | h)
  · exact ⟨.inr h.2, .inl h.1.2, h.1.1.1⟩
  · exact ⟨.inl ⟨h.2, .inr h.1.2⟩, .inr h.1.2, h.1.1⟩

theorem pulR_of_pulse (c : Config) (S : State) (x : Ext) (hp : pulse (fwd c S x) = true)
    (h : (fwd c S x).tok.regs.pid = 13 ∨
      ((fwd c S x).tok.regs.endpoint ≠ c.epIn ∧ (fwd c S x).tok.regs.endpoint ≠ c.out.epNum ∧
        (fwd c S x).tok.regs.endpoint ≠ c.sig.epNum)) : pulR c S x = true := by
  obtain ⟨fI, fO, fS⟩ := pul_facts c S x
  simp only [pulR, hp, Bool.true_and, Bool.not_eq_eq_eq_not, Bool.not_true, Bool.or_eq_false_iff]
  refine ⟨⟨Bool.eq_false_iff.mpr fun k => ?_, Bool.eq_false_iff.mpr fun k => ?_⟩, Bool.eq_false_iff.mpr fun k => ?_⟩
  · have := fI k; omega
  · have := fO k; omega
  · have := fS k; omega

theorem pul_pulse (c : Config) (S : State) (x : Ext) (q : Phs) (h : (slots c S x q).any (·.pul) = true) :
    pulse (fwd c S x) = true := by
  obtain ⟨fI, fO, fS⟩ := pul_facts c S x
  simp only [slots, List.any, Bool.or_false, Bool.or_eq_true] at h
  rcases h with h | h | h | h
  · simp only [pulR, Bool.and_eq_true] at h; exact h.1
  · exact (fI h).1
  · exact (fO h).1
  · exact (fS h).1

/-- At most one slot is addressed: two of the three modelled endpoints addressed together would need two PIDs in the
tokenizer, or one IN token naming two endpoints. -/
theorem pul_excl (c : Config) (hne : c.epIn ≠ c.sig.epNum) (S : State) (x : Ext) (q : Phs) :
    exclPul (slots c S x q) = true := by
  obtain ⟨fI, fO, fS⟩ := pul_facts c S x
  have hio : ¬ (pulI c S x = true ∧ pulO c S x = true) := fun h => by
    have := fI h.1; have := fO h.2; omega
  have his : ¬ (pulI c S x = true ∧ pulS c S x = true) := fun h => by
    have := fI h.1; have := fS h.2; omega
  have hos : ¬ (pulO c S x = true ∧ pulS c S x = true) := fun h => by
    have := fO h.1; have := fS h.2; omega
  simp only [slots, exclPul, List.any, pulR]
  revert hio his hos
  cases pulse (fwd c S x) <;> cases pulI c S x <;> cases pulO c S x <;> cases pulS c S x <;> decide


structure Good (c : Config) (p : Params) (S : State) (g : Ghost) (q : Phs) : Prop where
  inv  : Inv (delayOf c.dev.tok.timer c.dev.speed) p (skel S.dev) g
  link : Link S.dev g (orPh q.r (orPh q.i (orPh q.o (orPh q.s .idle))))
  excl : (q.r = .idle ∨ (q.i = .idle ∧ q.o = .idle ∧ q.s = .idle)) ∧ (q.i = .idle ∨ (q.o = .idle ∧ q.s = .idle)) ∧
         (q.o = .idle ∨ q.s = .idle)
  rin  : In.R S.inx q.i
  rout : q.o ≠ .sending
  rsig : Sig3.R S.sig q.s

/-- A pulse finds every slot idle (the packet layer's invariant: no pulse while an answer is owed or under way). -/
theorem Good.idle_of_pulse {c : Config} {p : Params} (hs : strobes c.dev.tok.timer c.dev.speed = true)
    {S : State} {g : Ghost} {q : Phs} (hg : Good c p S g q) (x : Ext) (hp : pulse (fwd c S x) = true) :
    orPh q.r (orPh q.i (orPh q.o (orPh q.s .idle))) = .idle := by
  obtain ⟨m1, _, m3⟩ := mode_facts hg.inv.mode
  rw [← pulse_eq c.dev hs S.dev (fullIn c S x), fwd_pulse, hp] at m1 m3
  exact hg.link.idle (m3 rfl) (Decidable.byContradiction fun h => by simpa using (m1 h).1)

/-- While the response window is closed nothing is owed (mode M0): the rest slot is idle, and there is no pulse. -/
theorem Good.idle_of_closed {c : Config} {p : Params} {S : State} {g : Ghost} {q : Phs} (hg : Good c p S g q)
    (hw : g.win = .closed) : q.r = .idle ∧ aPulse (delayOf c.dev.tok.timer c.dev.speed) (skel S.dev) = false := by
  obtain ⟨hq, na, rf, pe⟩ := hg.inv.mode.cases.2.2.2.2 hw
  exact ⟨(orPh_idle.mp (hg.link.idle pe hq.2)).1, noPulse_of na rf⟩

theorem rest_stays_idle (c : Config) (hs : strobes c.dev.tok.timer c.dev.speed = true) {L : Nat} {S : State}
    {q : Phs} {x : Ext} {a1 a2 : Bool}
    (hr : (cstep L q.r (pulR c S x) (fwd c S x).streamReady a1 a2 (restSig x)).1 = true) (hq : q.r = .idle)
    (hp : aPulse (delayOf c.dev.tok.timer c.dev.speed) (skel S.dev) = false) : (nextPhs L c S x q).r = .idle := by
  have hpul : pulR c S x = false := by
    rw [← pulse_eq c.dev hs S.dev (fullIn c S x), fwd_pulse] at hp
    simp [pulR, hp]
  simp only [cstep, Bool.and_eq_true, hq, hpul] at hr
  show cnext L q.r (pulR c S x) _ _ = .idle
  rw [hq, hpul]
  exact (idle_silent hr.1).2.2.2.2

def phs0 : Phs := ⟨.idle, .idle, .idle, .idle⟩

theorem good_init (c : Config) (p : Params) : Good c p (init c) ghostInit phs0 :=
  ⟨inv_init _ _, link_init, ⟨.inl rfl, .inl rfl, .inl rfl⟩, In.R_init c.inx, nofun, Sig3.R_init⟩

theorem orPhs_slots (c : Config) (S : State) (x : Ext) (q : Phs) :
    orPhs (slots c S x q) = orPh q.r (orPh q.i (orPh q.o (orPh q.s .idle))) := rfl

theorem excl_slots (c : Config) (S : State) (x : Ext) (q : Phs) :
    Excl (slots c S x q) ↔
      ((q.r = .idle ∨ (q.i = .idle ∧ q.o = .idle ∧ q.s = .idle)) ∧ (q.i = .idle ∨ (q.o = .idle ∧ q.s = .idle)) ∧
         (q.o = .idle ∨ q.s = .idle)) := by
  simp [slots, Excl, allIdle]

theorem next_slots (c : Config) (S : State) (x : Ext) (q : Phs) (L : Nat) :
    nextSlots L (fwd c S x).streamReady (slots c S x q) = slots c S x (nextPhs L c S x q) := by
  simp only [nextSlots, slots, List.map, nextPhs]

theorem good_step (c : Config) (p : Params) (hs : strobes c.dev.tok.timer c.dev.speed = true)
    (hT : delayOf c.dev.tok.timer c.dev.speed + p.L + 2 < p.T) (hne : c.epIn ≠ c.sig.epNum)
    {S : State} {g : Ghost} {q : Phs} {x : Ext} (hg : Good c p S g q)
    (hh : hostOk g (fullIn c S x) = true) (hrs : x.rsValid = false)
    (hr : (cstep p.L q.r (pulR c S x) (fwd c S x).streamReady g.a1 g.a2 (restSig x)).1 = true) :
    envOk g S.dev (fullIn c S x) (step c S x).2 = true ∧
    Good c p (step c S x).1 (ghostNext p g S.dev (fullIn c S x) (step c S x).2) (nextPhs p.L c S x q) := by
  obtain ⟨hi1, hi2⟩ := In.step_ok p.L c.inx S.inx (inIn c x (fwd c S x)) q.i g.a1 g.a2 hg.rin
  obtain ⟨ho1, ho2⟩ :=
    Out2.step_ok p.L c.out S.out (outIn c x (fwd c S x)) q.o (fwd c S x).streamReady g.a1 g.a2 hg.rout
  obtain ⟨hs1, hs2⟩ := Sig3.step_ok p.L c.sig S.sig (sigIn c x (fwd c S x)) q.s g.a1 g.a2 hg.rsig
  have hpul : (slots c S x q).any (·.pul) = true → pulse (DevCyc.step c.dev S.dev (fullIn c S x)).2 = true :=
    fun h => (fwd_pulse c S x).trans (pul_pulse c S x q h)
  -- the four slots behave together like one slot that keeps the contract
  obtain ⟨hm1, hm2⟩ := mergeAll_ok (L := p.L) (rdy := (fwd c S x).streamReady) (a1 := g.a1) (a2 := g.a2)
    (slots c S x q) ((excl_slots c S x q).mpr hg.excl) (pul_excl c hne S x q)
    (fun h => orPhs_idle.mp (hg.idle_of_pulse hs x (pul_pulse c S x q h)))
    (fun y hy => by
      simp only [slots, List.mem_cons, List.not_mem_nil, or_false] at hy
      rcases hy with rfl | rfl | rfl | rfl <;> assumption)
  rw [next_slots] at hm2
  rw [orPhs_slots, sig_eq, next_slots, fwd_ready] at hm1
  obtain ⟨he, hinv, hl⟩ := slot_cycle c.dev p hs hT hg.inv hg.link hh hrs hpul (congrArg Prod.fst hm1)
  rw [hm1] at hl
  exact ⟨he, hinv, hl, (excl_slots c S x _).mp hm2, hi2, ho2, hs2⟩


/-- What is still ASSUMED about the endpoint side: the rest slot (control endpoint, …) keeps the slot contract with
respect to the pulses not addressed to the three modelled endpoints, and the reset sequencer does not transmit. -/
def restHolds (c : Config) (p : Params) : State → Ghost → Phs → List Ext → Bool
  | _, _, _, [] => true
  | S, g, q, x :: xs =>
    (cstep p.L q.r (pulR c S x) (fwd c S x).streamReady g.a1 g.a2 (restSig x)).1 && !x.rsValid &&
      restHolds c p (step c S x).1 (ghostNext p g S.dev (fullIn c S x) (step c S x).2) (nextPhs p.L c S x q) xs

theorem assumptions_of_good (c : Config) (p : Params) (hs : strobes c.dev.tok.timer c.dev.speed = true)
    (hT : delayOf c.dev.tok.timer c.dev.speed + p.L + 2 < p.T) (hne : c.epIn ≠ c.sig.epNum)
    (xs : List Ext) (S : State) (g : Ghost) (q : Phs) (hg : Good c p S g q)
    (hh : hostHolds c.dev p S.dev g (devIns c S xs) = true) (hr : restHolds c p S g q xs = true) :
    assumptionsHold c.dev p S.dev g (devIns c S xs) = true := by
  induction xs generalizing S g q with
  | nil => rfl
  | cons x xs ih =>
    simp only [devIns, hostHolds, restHolds, Bool.and_eq_true, Bool.not_eq_eq_eq_not, Bool.not_true] at hh hr
    obtain ⟨he, hg'⟩ := good_step c p hs hT hne hg hh.1 hr.1.2 hr.1.1
    simp only [devIns, assumptionsHold, Bool.and_eq_true]
    exact ⟨⟨hh.1, he⟩, ih _ _ _ hg' hh.2 hr.2⟩

/-- **`envOk` discharged for the real endpoints.**  For the packet layer closed with the bulk IN, bulk OUT and status
endpoint models through the endpoint multiplexer, both assumptions of the cycle-level theorems (`hostOk ∧ envOk` in
every cycle) follow from the host assumption and the rest slot's contract alone -- for a build whose timer drives its strobes
at the speed in use (`strobes`), with `delay + L + 2 < T`, and with different numbers for the bulk IN and the status endpoint
(`hne`). -/
theorem envOk_of_endpoints (c : Config) (p : Params) (hs : strobes c.dev.tok.timer c.dev.speed = true)
    (hT : delayOf c.dev.tok.timer c.dev.speed + p.L + 2 < p.T) (hne : c.epIn ≠ c.sig.epNum) (xs : List Ext)
    (hh : hostHolds c.dev p DevCyc.init ghostInit (devIns c (init c) xs) = true)
    (hr : restHolds c p (init c) ghostInit phs0 xs = true) :
    assumptionsHold c.dev p DevCyc.init ghostInit (devIns c (init c) xs) = true :=
  assumptions_of_good c p hs hT hne xs (init c) ghostInit phs0 (good_init c p) hh hr

/-- The closed device never transmits while a received packet is in progress (hypotheses as for `envOk_of_endpoints`). -/
theorem closed_tx_never_during_rx (c : Config) (p : Params) (hs : strobes c.dev.tok.timer c.dev.speed = true)
    (hT : delayOf c.dev.tok.timer c.dev.speed + p.L + 2 < p.T) (hne : c.epIn ≠ c.sig.epNum) (xs : List Ext)
    (hh : hostHolds c.dev p DevCyc.init ghostInit (devIns c (init c) xs) = true)
    (hr : restHolds c p (init c) ghostInit phs0 xs = true) :
    ∀ o ∈ run c (init c) xs, o.txValid = true → o.rxActive = false := by
  rw [run_eq]
  exact tx_never_during_rx c.dev p hs hT _ (envOk_of_endpoints c p hs hT hne xs hh hr)

/-- In the closed device the handshake generator and the data packet generator are never valid together (hypotheses as for
`envOk_of_endpoints`). -/
theorem closed_transmitters_exclusive (c : Config) (p : Params) (hs : strobes c.dev.tok.timer c.dev.speed = true)
    (hT : delayOf c.dev.tok.timer c.dev.speed + p.L + 2 < p.T) (hne : c.epIn ≠ c.sig.epNum) (xs : List Ext)
    (hh : hostHolds c.dev p DevCyc.init ghostInit (devIns c (init c) xs) = true)
    (hr : restHolds c p (init c) ghostInit phs0 xs = true) :
    ∀ o ∈ run c (init c) xs, ¬ (o.hsValid = true ∧ o.genValid = true) := by
  rw [run_eq]
  exact transmitters_exclusive c.dev p hs hT _ (envOk_of_endpoints c p hs hT hne xs hh hr)

/-- In the closed device every cycle with `tx_valid` lies inside a response window (hypotheses as for `envOk_of_endpoints`). -/
theorem closed_tx_only_in_response_window (c : Config) (p : Params)
    (hs : strobes c.dev.tok.timer c.dev.speed = true)
    (hT : delayOf c.dev.tok.timer c.dev.speed + p.L + 2 < p.T) (hne : c.epIn ≠ c.sig.epNum) (xs : List Ext)
    (hh : hostHolds c.dev p DevCyc.init ghostInit (devIns c (init c) xs) = true)
    (hr : restHolds c p (init c) ghostInit phs0 xs = true) :
    ∀ go ∈ traceG c.dev p DevCyc.init ghostInit (devIns c (init c) xs), go.2.txValid = true → go.1.win ≠ .closed :=
  tx_only_in_response_window c.dev p hs hT _ (envOk_of_endpoints c p hs hT hne xs hh hr)

/-! ### Non-vacuity: histories that satisfy the hypotheses and in which the endpoints really answer -/

/-- 12 MHz full-speed device; bulk IN endpoint 1 (8-byte packets), bulk OUT endpoint 2, status endpoint 3 (8 bits). -/
def exCfg : Config := ⟨DevCyc.exCfg, ⟨8⟩, 1, ⟨2, 8, 16⟩, ⟨8, false, 3⟩⟩

def quiet : Ext :=
  { rx := ⟨false, false, 0⟩, txReady := true, address := 0, rsValid := false, rsData := 0, hsAck := false,
    inValid := false, inPayload := 0, inLast := false, inFlush := false, inDiscard := false, outReady := false,
    signal := 0x5A, rest := {}, restTimer := false, restCrc := false }

def rxE (r : Utmi.RxCycle) : Ext := { quiet with rx := r }

/-- IN token for endpoint 1 (69 80 A0) while the bulk IN endpoint has no data: it answers NAK. -/
def exInNak : List Ext :=
  [rxE (Utmi.waitC 0), rxE (Utmi.byteC 0x69), rxE (Utmi.byteC 0x80), rxE (Utmi.byteC 0xA0)] ++ List.replicate 10 quiet

/-- IN token for endpoint 3 (69 80 89): the status endpoint sends its one-byte packet DATA0 5A + CRC16. -/
def exStatus : List Ext :=
  [rxE (Utmi.waitC 0), rxE (Utmi.byteC 0x69), rxE (Utmi.byteC 0x80), rxE (Utmi.byteC 0x89)] ++ List.replicate 14 quiet

example : exCfg.epIn ≠ exCfg.sig.epNum := by decide

example : hostHolds exCfg.dev exPar DevCyc.init ghostInit (devIns exCfg (init exCfg) exInNak) = true ∧
    restHolds exCfg exPar (init exCfg) ghostInit phs0 exInNak = true := by decide +kernel

example : (run exCfg (init exCfg) exInNak).map (fun o => (o.txValid, o.txData)) =
    List.replicate 8 (false, 0) ++ [(true, 0x5A)] ++ List.replicate 5 (false, 0) := by decide +kernel

example : hostHolds exCfg.dev exPar DevCyc.init ghostInit (devIns exCfg (init exCfg) exStatus) = true ∧
    restHolds exCfg exPar (init exCfg) ghostInit phs0 exStatus = true := by decide +kernel

example : (run exCfg (init exCfg) exStatus).map (fun o => (o.txValid, o.txData)) =
    List.replicate 9 (false, 0) ++ [(true, 0xC3), (true, 0x5A), (true, 0xC0), (true, 0x84)] ++
      List.replicate 5 (false, 0) := by decide +kernel

/-- OUT token for endpoint 2 (E1 00 39), DATA0 11 22 + CRC16 (C3 11 22 72 06): the bulk OUT endpoint answers ACK at the
receiver's `ready_for_response`. -/
def exOut : List Ext :=
  [rxE (Utmi.waitC 0), rxE (Utmi.byteC 0xE1), rxE (Utmi.byteC 0x00), rxE (Utmi.byteC 0x39), quiet, quiet,
   rxE (Utmi.waitC 0), rxE (Utmi.byteC 0xC3), rxE (Utmi.byteC 0x11), rxE (Utmi.byteC 0x22), rxE (Utmi.byteC 0x72),
   rxE (Utmi.byteC 0x06)] ++ List.replicate 10 quiet

example : hostHolds exCfg.dev exPar DevCyc.init ghostInit (devIns exCfg (init exCfg) exOut) = true ∧
    restHolds exCfg exPar (init exCfg) ghostInit phs0 exOut = true := by decide +kernel

example : ((run exCfg (init exCfg) exOut).map (fun o => (o.txValid, o.txData))).filter (·.1) = [(true, 0xD2)] := by
  decide +kernel

/-- The rest slot's contract is not redundant: a rest slot that requests a handshake out of the blue makes the device
transmit outside every response window. -/
def exRogue : List Ext := [quiet, { quiet with rest := { stall := true } }, quiet, quiet]

example : restHolds exCfg exPar (init exCfg) ghostInit phs0 exRogue = false ∧
    (run exCfg (init exCfg) exRogue).any (·.txValid) = true := by decide +kernel

end LunaVerif.DevEp
