import LunaVerif.Model.Phy.FsRx
/-!
# C25 receive chain, front end (synchronizers, line-state FSM, clock recovery, NRZI decoder), with CLOCK DRIFT and SKEW

The decoupling `run_split` says that the whole path is the back end fed with the front end's
(`o_valid`, `o_data`, `o_se0`) registers: there is no feedback.

The line is a sequence of *bit cells* `(symbol, number of 48 MHz samples, first sample)`: a transmitter whose bit clock is off
against the receiver's 48 MHz sampler produces cells of 4 samples with, now and then, a cell of 3 (fast transmitter)
or 5 (slow transmitter) samples (`dwave`); nominal rate is four samples in every cell (`wave`, `dwave_nominal`).
`RxClockDataRecovery` re-synchronises `line_state_phase` on every line transition (the FSM passes through `DT`, which
clears the phase counter) and free-runs, one strobe per four samples, between transitions.

The invariant is the position of the recovered bit clock against the cell boundaries: `Gk od c d k g` is the front end
in the cycle in which `RxNRZIDecoder.o_valid` presents the bit `od` of the cell with symbol `c`, when `k` samples of
the next cell (symbol `d`, first sample `g`) have been taken.  At nominal rate `k = 3` (`Gk od c d 3 g = G od c d`); a
slipped sample since the last transition makes it 2 or 4.  `blockD` (a finite check over all symbols, `k` and cell
lengths) moves `Gk od c d k g` over the rest of cell `d` and the first `k'` samples of the next cell to `Gk _ d e k' g'`,
where `k' = 7 - n` if cell `d` started with a transition (the phase counter was cleared: the slip is forgotten) and
`k' = k + 4 - n` otherwise (`nextK`).  A cell stream is *trackable* (`track`) when `2 ≤ k ≤ 4` and `k ≤ n` all
along: then exactly one strobe falls into every cell, on a sample of that cell (`front_blocksD`: the bits presented
to the back end are `symBits`, `dbits_bits`; only the number of cycles between two strobes varies, 3, 4 or 5).
`front_idle` is the idle line, `lockF` the first K of a packet in any of the four phases of the idle bit clock.

Skew: at a J↔K transition both lines switch; the synchronizers may see them switch one sample apart, so that the first
sample of the new cell shows SE0 (falling line first) or SE1 (rising line first).  A cell carries what its first sample
shows (`Cell`, `firstIn`, `skewOk1`); the line FSM leaves the old state on that sample as it would on the new symbol,
enters `DT`, and reads the settled pair one cycle later, so the only trace is in the second synchronizer stage of
`Gk … 2 g`; `blockD` covers all combinations.

`track_of_drift`: a stream is trackable when every cell has 3, 4 or 5 samples, two cells of length ≠ 4 are at least
`M` cells apart (`driftOk M`), and no symbol is repeated more than `L < M` times (`runsOk L`; bit stuffing -- a
transition at least every seven bit times -- gives `L = 7`, so `M = 8` will do; ±0.25 % gives `M = 100`,
`floor_cells_apart` in `Props/C25RxDrift`).
-/
namespace LunaVerif.FsRx
open LunaVerif.FsCodec

/-- what the back end sees of the front end in one cycle: `o_valid`, `o_data`, `o_se0` -/
abbrev Vdz := Bool × Bool × Bool

def Front.vdz (s : Front) : Vdz := (s.oValid, s.oData, s.oSe0)

/-- the line inputs of a symbol: J = D+ high, K = D- high -/
def symIn : Sym → In
  | .J => ⟨true, false⟩
  | .K => ⟨false, true⟩
  | .SE0 => ⟨false, false⟩

/-- nominal-rate sampling: four samples per bit time -/
def wave : List Sym → List In
  | [] => []
  | x :: w => symIn x :: symIn x :: symIn x :: symIn x :: wave w

def runF : Front → List In → Front
  | s, [] => s
  | s, i :: is => runF (s.next i.usbp i.usbn) is

def traceF : Front → List In → List Vdz
  | _, [] => []
  | s, i :: is => s.vdz :: traceF (s.next i.usbp i.usbn) is

def runB : Back → List Vdz → Back
  | s, [] => s
  | s, (v, d, z) :: xs => runB (s.next v d z) xs

def outsB : Back → List Vdz → List Out
  | _, [] => []
  | s, (v, d, z) :: xs => s.out v d z :: outsB (s.next v d z) xs

def run : St → List In → St × List Out
  | s, [] => (s, [])
  | s, i :: is => let r := run (step s i).1 is; (r.1, (step s i).2 :: r.2)

theorem run_split (ins : List In) : ∀ s : St,
    run s ins = (⟨runF s.f ins, runB s.b (traceF s.f ins)⟩, outsB s.b (traceF s.f ins)) := by
  induction ins with
  | nil => intro s; rfl
  | cons i is ih =>
    intro s
    simp only [run, step, ih, St.next, St.out, runF, traceF, runB, outsB, Front.vdz]

theorem runF_append (a b : List In) : ∀ s, runF s (a ++ b) = runF (runF s a) b := by
  induction a with
  | nil => intro s; rfl
  | cons i is ih => intro s; simp only [List.cons_append, runF, ih]

theorem traceF_append (a b : List In) : ∀ s, traceF s (a ++ b) = traceF s a ++ traceF (runF s a) b := by
  induction a with
  | nil => intro s; rfl
  | cons i is ih => intro s; simp only [List.cons_append, runF, traceF, ih]

theorem runB_append (a b : List Vdz) : ∀ s, runB s (a ++ b) = runB (runB s a) b := by
  induction a with
  | nil => intro s; rfl
  | cons x xs ih => intro s; obtain ⟨v, d, z⟩ := x; simp only [List.cons_append, runB, ih]

theorem outsB_append (a b : List Vdz) : ∀ s, outsB s (a ++ b) = outsB s a ++ outsB (runB s a) b := by
  induction a with
  | nil => intro s; rfl
  | cons x xs ih => intro s; obtain ⟨v, d, z⟩ := x; simp only [List.cons_append, runB, outsB, ih]

/-! ### the state at a strobe -/

/-- `line_state_dk` for a symbol (the source's DK is D+ high, i.e. the full-speed J) -/
def dkOf : Sym → Bool | .J => true | _ => false
def djOf : Sym → Bool | .K => true | _ => false
def se0Of : Sym → Bool | .SE0 => true | _ => false
def lineOf : Sym → Line | .J => .dk | .K => .dj | .SE0 => .se0

/-- the bit the NRZI decoder produces for symbol `x` after symbol `p` -/
def bitOf (p x : Sym) : Bool := dkOf x == dkOf p

/-- The front end in the cycle that presents the bit `od` of symbol `c` on `o_valid`/`o_data`/`o_se0`, three samples
of the next symbol `d` being in. -/
def G (od : Bool) (c d : Sym) : Front :=
  { p0 := (symIn d).usbp, p1 := (symIn d).usbp, n0 := (symIn d).usbn, n1 := (symIn d).usbn,
    line := if d = c then lineOf c else .dt,
    lsSe0 := se0Of c, lsSe1 := false, lsDj := djOf c, lsDk := dkOf c,
    phase := 3, lsValid := false,
    lastData := dkOf c, oData := od, oSe0 := se0Of c, oValid := true }

/-- the (`o_data`, `o_se0`) bits of the symbols `w` after symbol `p` -/
def symBits : Sym → List Sym → List (Bool × Bool)
  | _, [] => []
  | p, x :: w => (bitOf p x, se0Of x) :: symBits x w

/-- what the back end sees per bit time at nominal rate -/
def bitBlock (b : Bool × Bool) : List Vdz := [(true, b.1, b.2), (false, b.1, b.2), (false, b.1, b.2), (false, b.1, b.2)]

def lastSym : Sym → List Sym → Sym
  | d, [] => d
  | _, e :: w => lastSym e w

/-- second to last element of `c :: d :: w` -/
def prevSym : Sym → Sym → List Sym → Sym
  | c, _, [] => c
  | _, d, e :: w => prevSym d e w

/-! ### bit cells -/

def rep (n : Nat) (x : Sym) : List In := List.replicate n (symIn x)

/-- idle bus: `n` samples of J -/
def jn (n : Nat) : List In := List.replicate n (symIn .J)

theorem rep_J (n : Nat) : rep n .J = jn n := rfl

theorem rep_add (a b : Nat) (x : Sym) : rep a x ++ rep b x = rep (a + b) x := by
  simp only [rep, List.replicate_append_replicate]

/-- A bit cell: symbol, number of samples, and what its FIRST sample shows: `none` = the symbol (both lines switched in
the same sample), `some false` = SE0 (at a J↔K transition the falling line was seen one sample before the rising
one), `some true` = SE1 (the rising line first). -/
abbrev Cell := Sym × Nat × Option Bool

def firstIn (x : Sym) : Option Bool → In
  | none => symIn x
  | some false => ⟨false, false⟩
  | some true => ⟨true, true⟩

/-- the first `n ≥ 1` samples of a cell with symbol `x` -/
def cellIn (x : Sym) (n : Nat) (g : Option Bool) : List In := firstIn x g :: rep (n - 1) x

theorem cellIn_add (x : Sym) (a b : Nat) (g : Option Bool) (ha : 1 ≤ a) : cellIn x a g ++ rep b x = cellIn x (a + b) g := by
  simp only [cellIn, List.cons_append, rep_add]
  congr 2; omega

/-- a skewed first sample only where both lines switch: between J and K (`p` = the symbol before) -/
def skewOk1 (p x : Sym) (g : Option Bool) : Bool := g.isNone || ((p == .J && x == .K) || (p == .K && x == .J))

def dwave : List Cell → List In
  | [] => []
  | (x, n, g) :: w => cellIn x n g ++ dwave w

theorem dwave_append (a b : List Cell) : dwave (a ++ b) = dwave a ++ dwave b := by
  induction a with
  | nil => rfl
  | cons x xs ih => obtain ⟨s, n, g⟩ := x; simp only [List.cons_append, dwave, ih, List.append_assoc]

theorem dwave_nominal (w : List Sym) : dwave (w.map (·, 4, none)) = wave w := by
  induction w with
  | nil => rfl
  | cons x xs ih => simp only [List.map, dwave, wave, ih]; rfl

/-- The front end in the cycle that presents the bit `od` of the cell with symbol `c` on `o_valid`/`o_data`/`o_se0`,
`k` samples of the next cell (symbol `d`, first sample `g`) being in.  Without a transition (`d = c`) the cell boundary
leaves no trace.  With one: after 2 samples the line FSM has not seen it yet (the first sample, skewed or not, is in the
second synchronizer stage); after 3 it is in `DT`; after 4 it has been through `DT` (flopped line state all-zero), and
`line_state_phase` has been cleared. -/
def Gk (od : Bool) (c d : Sym) (k : Nat) (g : Option Bool) : Front :=
  if d = c then G od c d
  else if k = 2 then { G od c d with line := lineOf c, p1 := (firstIn d g).usbp, n1 := (firstIn d g).usbn }
  else if k = 4 then { G od c d with line := lineOf d, lsSe0 := false, lsDj := false, lsDk := false, phase := 0 }
  else G od c d

theorem Gk_three (od : Bool) (c d : Sym) (g : Option Bool) : Gk od c d 3 g = G od c d := by
  simp [Gk]

/-- samples of the cell after `d` that are in when the bit of cell `d` (length `n`) is presented -/
def nextK (k : Nat) (c d : Sym) (n : Nat) : Nat := if d = c then k + 4 - n else 7 - n

/-- the recovered bit clock stays inside the cells over cell `d` of `n` samples -/
def okCell (k : Nat) (c d : Sym) (n : Nat) : Bool :=
  decide (2 ≤ k) && decide (k ≤ 4) && decide (3 ≤ n) && decide (n ≤ 5) && decide (k ≤ n) &&
    decide (2 ≤ nextK k c d n) && decide (nextK k c d n ≤ 4)

theorem okCell_iff (k : Nat) (c d : Sym) (n : Nat) : okCell k c d n = true ↔
    (2 ≤ k ∧ k ≤ 4 ∧ 3 ≤ n ∧ n ≤ 5 ∧ k ≤ n ∧ 2 ≤ nextK k c d n ∧ nextK k c d n ≤ 4) := by
  simp only [okCell, Bool.and_eq_true, decide_eq_true_eq, and_assoc]

/-- what the back end sees from one strobe up to the next, `n` cycles later -/
def vblock (n : Nat) (b : Bool × Bool) : List Vdz := (true, b.1, b.2) :: List.replicate (n - 1) (false, b.1, b.2)

theorem vblock_four (b : Bool × Bool) : vblock 4 b = bitBlock b := rfl

theorem vblock_split (n : Nat) (hn : 3 ≤ n) (b : Bool × Bool) :
    vblock n b = [(true, b.1, b.2), (false, b.1, b.2), (false, b.1, b.2)] ++ List.replicate (n - 3) (false, b.1, b.2) := by
  obtain ⟨m, rfl⟩ : ∃ m, n = m + 3 := ⟨n - 3, by omega⟩
  simp only [vblock, Nat.add_sub_cancel, show m + 3 - 1 = m + 2 by omega, List.replicate_succ,
    List.cons_append, List.nil_append]

/-- the finite checks below run over all symbols and all first samples -/
local instance (p : Sym → Prop) [DecidablePred p] : Decidable (∀ x, p x) :=
  decidable_of_iff (p .J ∧ p .K ∧ p .SE0) ⟨fun h x => by cases x <;> simp_all, fun h => ⟨h _, h _, h _⟩⟩

local instance (p : Option Bool → Prop) [DecidablePred p] : Decidable (∀ g, p g) :=
  decidable_of_iff (p none ∧ p (some false) ∧ p (some true))
    ⟨fun h g => by rcases g with _ | _ | _ <;> simp_all, fun h => ⟨h _, h _, h _⟩⟩

/-- **one bit cell under drift and skew**: from the cycle presenting cell `c` (`k` samples of cell `d` in), over the
other `n - k` samples of `d` and the first `nextK` samples of the cell after it (`ge` = what its first sample shows). -/
theorem blockD (od : Bool) (c d e : Sym) (k n : Nat) (gd ge : Option Bool) (h : okCell k c d n = true)
    (hd : skewOk1 c d gd = true) (he : skewOk1 d e ge = true) :
    runF (Gk od c d k gd) (rep (n - k) d ++ cellIn e (nextK k c d n) ge) = Gk (bitOf c d) d e (nextK k c d n) ge ∧
    traceF (Gk od c d k gd) (rep (n - k) d ++ cellIn e (nextK k c d n) ge) =
      vblock (n - k + nextK k c d n) (od, se0Of c) := by
  -- `okCell` reads `k`, `n`, `c`, `d` only: it stands in front of the other quantifiers, so that the 54 combinations of
  -- first samples, next symbol and `od` are run for the cells inside the envelope only (918 of 17 496 combinations)
  have key : ∀ (k n : Fin 6) (c d : Sym), okCell k.val c d n.val = true →
      ∀ (gd : Option Bool), skewOk1 c d gd = true → ∀ (e : Sym) (ge : Option Bool), skewOk1 d e ge = true →
      ∀ (od : Bool),
      runF (Gk od c d k.val gd) (rep (n.val - k.val) d ++ cellIn e (nextK k.val c d n.val) ge) =
        Gk (bitOf c d) d e (nextK k.val c d n.val) ge ∧
      traceF (Gk od c d k.val gd) (rep (n.val - k.val) d ++ cellIn e (nextK k.val c d n.val) ge) =
        vblock (n.val - k.val + nextK k.val c d n.val) (od, se0Of c) := by
    decide +kernel
  obtain ⟨_, h2, _, h4, _, _, _⟩ := (okCell_iff k c d n).mp h
  exact key ⟨k, by omega⟩ ⟨n, by omega⟩ c d h gd hd e ge he od

/-! ### a whole stream -/

/-- the recovered bit clock stays inside the cells over cell `(d, n, g)` and all of `w`, and ends in the nominal
position; skewed first samples only at J↔K transitions -/
def track : Nat → Sym → Sym → Nat → Option Bool → List Cell → Bool
  | k, c, d, n, g, [] => okCell k c d n && skewOk1 c d g && decide (nextK k c d n = 3)
  | k, c, d, n, g, (e, ne, ge) :: w => okCell k c d n && skewOk1 c d g && track (nextK k c d n) d e ne ge w

/-- the inputs from the presenting cycle of cell `c` on (`k` samples of `(d, n, _)` are in): the cells of `w` follow,
then three samples of J (idle) -/
def dblocks : Nat → Sym → Sym → Nat → List Cell → List In
  | k, c, d, n, [] => rep (n - k) d ++ cellIn .J (nextK k c d n) none
  | k, c, d, n, (e, ne, ge) :: w =>
    (rep (n - k) d ++ cellIn e (nextK k c d n) ge) ++ dblocks (nextK k c d n) d e ne w

/-- (cycles until the next strobe, (`o_data`, `o_se0`)) for every strobe from the one presenting cell `c` on -/
def dbits : Bool → Nat → Sym → Sym → Nat → List Cell → List (Nat × (Bool × Bool))
  | od, k, c, d, n, [] => [(n - k + nextK k c d n, (od, se0Of c))]
  | od, k, c, d, n, (e, ne, _) :: w =>
    (n - k + nextK k c d n, (od, se0Of c)) :: dbits (bitOf c d) (nextK k c d n) d e ne w

def vblocks : List (Nat × (Bool × Bool)) → List Vdz
  | [] => []
  | (n, b) :: l => vblock n b ++ vblocks l

def lsum : List (Nat × (Bool × Bool)) → Nat
  | [] => 0
  | (n, _) :: l => n + lsum l

theorem lsum_append (x y : List (Nat × (Bool × Bool))) : lsum (x ++ y) = lsum x + lsum y := by
  induction x with
  | nil => simp [lsum]
  | cons a x ih => obtain ⟨n, b⟩ := a; simp only [List.cons_append, lsum, ih]; omega

theorem lsum_ge (l : List (Nat × (Bool × Bool))) (hl : ∀ p ∈ l, 3 ≤ p.1) : 3 * l.length ≤ lsum l := by
  induction l with
  | nil => simp [lsum]
  | cons a r ih =>
    obtain ⟨n, w⟩ := a
    have hn : 3 ≤ n := hl (n, w) (by simp)
    have := ih (fun x hx => hl x (by simp [hx]))
    simp only [lsum, List.length_cons]; omega

theorem vblocks_append (x y : List (Nat × (Bool × Bool))) : vblocks (x ++ y) = vblocks x ++ vblocks y := by
  induction x with
  | nil => rfl
  | cons a x ih => obtain ⟨n, b⟩ := a; simp only [List.cons_append, vblocks, ih, List.append_assoc]

theorem front_idle (q : Nat) : runF (G true .J .J) (jn (4 * q)) = G true .J .J ∧
    traceF (G true .J .J) (jn (4 * q)) = vblocks (List.replicate q (4, (true, false))) := by
  induction q with
  | zero => exact ⟨rfl, rfl⟩
  | succ q ih =>
    obtain ⟨b1, b2⟩ : runF (G true .J .J) (jn 4) = G true .J .J ∧ traceF (G true .J .J) (jn 4) = vblock 4 (true, false) :=
      blockD true .J .J .J 3 4 none none rfl rfl rfl
    have hj : jn (4 * (q + 1)) = jn 4 ++ jn (4 * q) := by
      simp only [jn, List.replicate_append_replicate]; congr 1; omega
    rw [hj, runF_append, traceF_append, b1, b2, ih.1, ih.2]
    exact ⟨rfl, rfl⟩

/-- **lock**: whatever the sampling phase `r` of the first K against the idle bit clock and whatever its length `n`, the
first transition re-aligns `line_state_phase`: the back end is shown two more idle 1s (the second held for `r + 3` cycles),
and seven samples into the packet the front end is in the tracking regime. -/
theorem lockF : ∀ (g0 g1 : Option Bool) (r : Fin 4) (n : Fin 6), 3 ≤ n.val →
    runF (G true .J .J) (jn r.val ++ (cellIn .K n.val g0 ++ cellIn .J (7 - n.val) g1)) = Gk false .K .J (7 - n.val) g1 ∧
    traceF (G true .J .J) (jn r.val ++ (cellIn .K n.val g0 ++ cellIn .J (7 - n.val) g1)) =
      vblocks [(4, (true, false)), (r.val + 3, (true, false))] := by
  decide +kernel

/-- regrouping the sample stream at the strobes -/
theorem dwave_dblocks (w : List Cell) : ∀ (k : Nat) (c d : Sym) (n : Nat) (g : Option Bool),
    track k c d n g w = true →
    cellIn d k g ++ dblocks k c d n w = dwave ((d, n, g) :: w) ++ rep 3 .J := by
  induction w with
  | nil =>
    intro k c d n g h
    simp only [track, Bool.and_eq_true, decide_eq_true_eq] at h
    obtain ⟨⟨h1, _⟩, h2⟩ := h
    obtain ⟨h3, _, _, _, h5, _, _⟩ := (okCell_iff k c d n).mp h1
    have hJ : cellIn .J 3 none = rep 3 .J := rfl
    simp only [dblocks, dwave, h2, hJ, List.append_nil, ← List.append_assoc, cellIn_add d k (n - k) g (by omega)]
    congr 3; omega
  | cons x w ih =>
    intro k c d n g h
    obtain ⟨e, ne, ge⟩ := x
    simp only [track, Bool.and_eq_true] at h
    obtain ⟨⟨h1, _⟩, h2⟩ := h
    obtain ⟨h3, _, _, _, h5, _, _⟩ := (okCell_iff k c d n).mp h1
    have := ih (nextK k c d n) d e ne ge h2
    simp only [dblocks, List.append_assoc]
    rw [this]
    simp only [dwave, ← List.append_assoc, cellIn_add d k (n - k) g (by omega)]
    congr 5; omega

/-- **the front end under drift**: from `Gk od c d k g`, over a trackable cell stream, the back end is shown one strobe
per cell -- the bit of `c`, then those of `d :: w` without its last cell (`dbits_bits`) -- and the front end ends in the
nominal-rate state `G`. -/
theorem front_blocksD (w : List Cell) : ∀ (od : Bool) (k : Nat) (c d : Sym) (n : Nat) (g : Option Bool),
    track k c d n g w = true →
    runF (Gk od c d k g) (dblocks k c d n w) =
      G (bitOf (prevSym c d (w.map (·.1))) (lastSym d (w.map (·.1)))) (lastSym d (w.map (·.1))) .J ∧
    traceF (Gk od c d k g) (dblocks k c d n w) = vblocks (dbits od k c d n w) := by
  induction w with
  | nil =>
    intro od k c d n g h
    simp only [track, Bool.and_eq_true, decide_eq_true_eq] at h
    obtain ⟨⟨h1, hg⟩, h2⟩ := h
    obtain ⟨b1, b2⟩ := blockD od c d .J k n g none h1 hg (by simp [skewOk1])
    simp only [dblocks, dbits, vblocks, List.map, lastSym, prevSym, List.append_nil]
    rw [b1, b2, h2, Gk_three]
    exact ⟨rfl, rfl⟩
  | cons x w ih =>
    intro od k c d n g h
    obtain ⟨e, ne, ge⟩ := x
    simp only [track, Bool.and_eq_true] at h
    obtain ⟨⟨h1, hg⟩, h2⟩ := h
    have hge : skewOk1 d e ge = true := by
      cases w with
      | nil => simp only [track, Bool.and_eq_true] at h2; exact h2.1.2
      | cons y w' => obtain ⟨y1, y2, y3⟩ := y; simp only [track, Bool.and_eq_true] at h2; exact h2.1.2
    obtain ⟨b1, b2⟩ := blockD od c d e k n g ge h1 hg hge
    obtain ⟨i1, i2⟩ := ih (bitOf c d) (nextK k c d n) d e ne ge h2
    simp only [dblocks, dbits, vblocks, List.map, lastSym, prevSym]
    rw [runF_append, traceF_append, b1, b2, i1, i2]
    exact ⟨rfl, rfl⟩

/-- the bits presented are `symBits`: they do not depend on the cell lengths -/
theorem dbits_bits (w : List Cell) : ∀ (od : Bool) (k : Nat) (c d : Sym) (n : Nat),
    (dbits od k c d n w).map (·.2) = (od, se0Of c) :: (symBits c (d :: w.map (·.1))).dropLast := by
  induction w with
  | nil => intro od k c d n; rfl
  | cons x w ih =>
    intro od k c d n
    obtain ⟨e, ne, ge⟩ := x
    have := ih (bitOf c d) (nextK k c d n) d e ne
    simp only [dbits, List.map, this, symBits, List.dropLast]

theorem dbits_lens (w : List Cell) : ∀ (od : Bool) (k : Nat) (c d : Sym) (n : Nat) (g : Option Bool),
    track k c d n g w = true → ∀ p ∈ dbits od k c d n w, 3 ≤ p.1 ∧ p.1 ≤ 5 := by
  have one : ∀ (k : Nat) (c d : Sym) (n : Nat), okCell k c d n = true →
      3 ≤ n - k + nextK k c d n ∧ n - k + nextK k c d n ≤ 5 := by
    intro k c d n h
    obtain ⟨h1, h2, h3, h4, h5, h6, h7⟩ := (okCell_iff k c d n).mp h
    revert h6 h7
    unfold nextK
    split <;> intros <;> omega
  induction w with
  | nil =>
    intro od k c d n g h p hp
    simp only [track, Bool.and_eq_true, decide_eq_true_eq] at h
    simp only [dbits, List.mem_singleton] at hp
    subst hp
    exact one k c d n h.1.1
  | cons x w ih =>
    intro od k c d n g h p hp
    obtain ⟨e, ne, ge⟩ := x
    simp only [track, Bool.and_eq_true] at h
    simp only [dbits, List.mem_cons] at hp
    rcases hp with hp | hp
    · subst hp; exact one k c d n h.1.1
    · exact ih _ _ _ _ _ ge h.2 p hp

theorem track_nominal (w : List Sym) : ∀ c d : Sym, track 3 c d 4 none (w.map (·, 4, none)) = true := by
  have h1 : ∀ c d : Sym, okCell 3 c d 4 = true := by intro c d; cases c <;> cases d <;> rfl
  have h2 : ∀ c d : Sym, nextK 3 c d 4 = 3 := by intro c d; unfold nextK; split <;> rfl
  induction w with
  | nil => intro c d; simp [track, h1, h2, skewOk1]
  | cons x w ih => intro c d; simp [track, h1, h2, skewOk1, ih]

/-! ### the drift envelope -/

/-- **drift envelope** on the cell lengths: every cell has 3, 4 or 5 samples, and two cells of length ≠ 4 are at
least `M` cells apart (`g` = number of cells since the last one of length ≠ 4). -/
def driftOk (M : Nat) : Nat → List Nat → Bool
  | _, [] => true
  | g, n :: ns => if n = 4 then driftOk M (g + 1) ns
                  else (decide (n = 3 ∨ n = 5) && decide (M ≤ g + 1) && driftOk M 0 ns)

/-- no symbol more than `L` times in a row (`j` = how often `c` has been seen so far) -/
def runsOk (L : Nat) : Sym → Nat → List Sym → Bool
  | _, _, [] => true
  | c, j, d :: w => if d = c then decide (j + 1 ≤ L) && runsOk L c (j + 1) w else runsOk L d 1 w

def endSym : Sym → List Sym → Sym
  | c, [] => c
  | _, d :: w => endSym d w

theorem endSym_concat (c : Sym) (w : List Sym) (x : Sym) : endSym c (w ++ [x]) = x := by
  induction w generalizing c with
  | nil => rfl
  | cons d w ih => exact ih d

/-- skewed first samples only at J↔K transitions (`p` = the symbol before the stream) -/
def skewOk : Sym → List Cell → Bool
  | _, [] => true
  | p, (x, _, g) :: w => skewOk1 p x g && skewOk x w

theorem driftOk_cons (M g n : Nat) (ns : List Nat) (h : driftOk M g (n :: ns) = true) :
    (n = 4 ∨ ((n = 3 ∨ n = 5) ∧ M ≤ g + 1)) ∧ driftOk M (if n = 4 then g + 1 else 0) ns = true := by
  by_cases h4 : n = 4
  · simp only [driftOk, h4, if_true] at h ⊢
    exact ⟨Or.inl trivial, h⟩
  · simp only [driftOk, h4, if_false, Bool.and_eq_true, decide_eq_true_eq] at h ⊢
    exact ⟨Or.inr h.1, h.2⟩

theorem runsOk_cons (L : Nat) (c d : Sym) (j : Nat) (w : List Sym) (h : runsOk L c j (d :: w) = true) :
    (d = c → j + 1 ≤ L) ∧ runsOk L d (if d = c then j + 1 else 1) w = true := by
  by_cases hdc : d = c
  · subst hdc
    simp only [runsOk, if_true, Bool.and_eq_true, decide_eq_true_eq] at h ⊢
    exact ⟨fun _ => h.1, h.2⟩
  · simp only [runsOk, hdc, if_false] at h ⊢
    exact ⟨False.elim, h⟩

/-- one cell of the envelope: the bit clock stays inside the cell, and afterwards `k ≠ 3` only if this cell has slipped or
continues the run in which the slip lies (`g`, `j` as in `driftOk`, `runsOk`) -/
theorem cell_step (L M : Nat) (hLM : L + 1 ≤ M) (k j g : Nat) (c d : Sym) (n : Nat) (hk2 : 2 ≤ k) (hk4 : k ≤ 4)
    (hj : j ≤ L) (hinv : k ≠ 3 → g < j) (hn : n = 4 ∨ ((n = 3 ∨ n = 5) ∧ M ≤ g + 1)) :
    okCell k c d n = true ∧ 2 ≤ nextK k c d n ∧ nextK k c d n ≤ 4 ∧
    (nextK k c d n ≠ 3 → (if n = 4 then g + 1 else 0) < (if d = c then j + 1 else 1)) := by
  rw [okCell_iff]
  unfold nextK
  by_cases hdc : d = c <;> by_cases h4 : n = 4 <;> simp only [hdc, h4, if_true, if_false] <;> omega

/-- **the envelope is trackable**: a slipped sample is forgotten at the next transition, which comes within `L` cells
(bit stuffing: `L = 7`); the next slip is at least `M ≥ L + 1` cells away.  Invariant: `k ≠ 3` only if the cell of
length ≠ 4 lies in the current run of `j ≤ L` equal symbols (`g < j`).  The cells after `cells` are handled by the
caller (`tail`). -/
theorem track_of_drift (L M : Nat) (hL : 1 ≤ L) (hLM : L + 1 ≤ M) (cells : List Cell) :
    ∀ (k : Nat) (c : Sym) (j g : Nat) (d : Sym) (n : Nat) (gd : Option Bool) (tail : List Cell),
    2 ≤ k → k ≤ 4 → j ≤ L → (k ≠ 3 → g < j) →
    driftOk M g (n :: cells.map (·.2.1)) = true → runsOk L c j (d :: cells.map (·.1)) = true →
    skewOk c ((d, n, gd) :: cells) = true →
    (∀ k', 2 ≤ k' → k' ≤ 4 → match tail with
      | [] => k' = 3
      | (e, ne, ge) :: t => track k' (endSym d (cells.map (·.1))) e ne ge t = true) →
    track k c d n gd (cells ++ tail) = true := by
  induction cells with
  | nil =>
    intro k c j g d n gd tail hk2 hk4 hj hinv hd hr hsk ht
    obtain ⟨h1, h2, h3, _⟩ := cell_step L M hLM k j g c d n hk2 hk4 hj hinv (driftOk_cons M g n [] hd).1
    simp only [skewOk, Bool.and_true] at hsk
    have := ht (nextK k c d n) h2 h3
    match tail, this with
    | [], this => simp only [List.append_nil, track, h1, hsk, this, decide_true, Bool.and_self]
    | (e, ne, ge) :: t, this =>
      simp only [List.nil_append, track, h1, hsk, Bool.true_and]
      exact this
  | cons x cells ih =>
    intro k c j g d n gd tail hk2 hk4 hj hinv hd hr hsk ht
    obtain ⟨e, ne, ge⟩ := x
    obtain ⟨hn, hd'⟩ := driftOk_cons M g n _ hd
    obtain ⟨hr1, hr'⟩ := runsOk_cons L c d j _ hr
    obtain ⟨h1, h2, h3, h4⟩ := cell_step L M hLM k j g c d n hk2 hk4 hj hinv hn
    rw [skewOk, Bool.and_eq_true] at hsk
    simp only [List.cons_append, track, Bool.and_eq_true, h1, hsk.1, and_self, true_and]
    have hj' : (if d = c then j + 1 else 1) ≤ L := by
      split
      · exact hr1 ‹_›
      · exact hL
    exact ih (nextK k c d n) d (if d = c then j + 1 else 1) (if n = 4 then g + 1 else 0) e ne ge tail h2 h3 hj' h4 hd' hr'
      hsk.2 ht

end LunaVerif.FsRx
