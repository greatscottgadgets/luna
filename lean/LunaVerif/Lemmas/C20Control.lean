import LunaVerif.Model.Usb2.ControlCyc
/-!
# C20 — the control endpoint's own logic requests only at a pulse (one-cycle lemmas over the C07 cycle model)

`CtrlCyc` (Model/Usb2/ControlCyc.lean) models `USBControlEndpoint` + `USBRequestHandlerMultiplexer` +
`StandardRequestHandler`; the setup decoder (`sdAck`, `received`), the descriptor handler (`dValid`…, `dStall`) and the
`StreamSerializer` (`tValid`…) are INPUTS of every cycle.  For every state and every input:

* `ctrl_requests_only_after_pulse` — whatever the control endpoint drives on `handshakes_out` / `tx.valid` in a cycle is
  either caused by a `ready_for_response` pulse addressed to it in that same cycle (`ctlPulse`: the token detector's
  after an IN or PING token for its endpoint number, or the receiver's after an OUT token for it), or is passed through
  combinationally from one of the three abstracted submodules (`setup_decoder.ack`, the descriptor handler's `stall` /
  `tx.valid`, the serializer's `stream.valid`);
* `ctrl_no_handshake_and_data_together` — with the three submodules silent and the tokenizer's PID decode exclusive, it
  never drives a handshake and `tx.valid` in the same cycle.

* `strobe_facts` — given that the control endpoint sees a pulse only when there is one (`e1`), that the decoder ACKs only in
  a pulse cycle after a SETUP token (`e2`), that it reports a packet only after a SETUP token (`e3`), and an exclusive PID decode
  (`pidExcl`): the control FSM's strobes (`data_requested`, `status_requested`, the PING acknowledgement) and the decoder's
  ACK exclude one another, and none of the FSM's strobes occurs without a pulse.

These are the control endpoint's share of the slot contract (Model/Device/SlotContract.lean) as far as its own FSMs
decide it; `Lemmas/C20CtrlContract.lean` closes the loop with the serializer and the descriptor handler.
-/
namespace LunaVerif.CtrlCyc
open LunaVerif.Device

/-- A `ready_for_response` pulse addressed to the control endpoint. -/
def ctlPulse (c : Cfg) (i : CycIn) : Bool :=
  targeted c i && ((i.readyForResponse && (i.isIn || i.isPing)) || (i.rxReady && i.isOut))

theorem comb_pulse (c : Cfg) (st : Stage) (i : CycIn) :
    ((ctrlComb c st i).dataRequested = true → ctlPulse c i = true) ∧
    ((ctrlComb c st i).statusRequested = true → ctlPulse c i = true) ∧
    ((ctrlComb c st i).pingAck = true → ctlPulse c i = true) := by
  simp only [ctrlComb, ctlPulse, Bool.and_eq_true, Bool.or_eq_true]
  refine ⟨?_, ?_, ?_⟩
  · rintro ⟨_, ⟨hr, ht⟩, hi⟩
    exact ⟨ht, Or.inl ⟨hr, Or.inl hi⟩⟩
  · rintro (⟨_, ⟨hr, ht⟩, hi⟩ | ⟨_, ⟨hr, ht⟩, ho⟩)
    · exact ⟨ht, Or.inl ⟨hr, Or.inl hi⟩⟩
    · exact ⟨ht, Or.inr ⟨hr, ho⟩⟩
  · rintro ⟨_, ⟨ht, hr⟩, hp⟩
    exact ⟨ht, Or.inl ⟨hr, Or.inr hp⟩⟩

/-- The request handlers (standard handler behind the multiplexer, stall-only fallback) act on `data_requested` /
`status_requested` only, or pass their submodules through. -/
theorem handler_origin (c : Cfg) (s : StdState) (hi : HIn) :
    ((muxOut (stdStep c s hi).2 hi).ack = true → hi.statusRequested = true) ∧
    ((muxOut (stdStep c s hi).2 hi).stall = true →
      hi.dataRequested = true ∨ hi.statusRequested = true ∨ hi.dStall = true) ∧
    ((muxOut (stdStep c s hi).2 hi).txValid = true →
      hi.statusRequested = true ∨ hi.dValid = true ∨ hi.tValid = true) := by
  have stallOnly : ∀ a b c : Prop, a ∨ b → a ∨ b ∨ c := fun _ _ _ h => h.elim Or.inl (fun h => Or.inr (Or.inl h))
  by_cases ht : hi.su.type = TYPE_STANDARD
  · simp only [stdStep, ht, if_true]
    cases hs : s.hstate <;> simp +contextual [stdComb, hs, simpleDataOut, regWriteZlp, muxOut, stallOnly]
  · simp +contextual [stdStep, ht, muxOut, fallbackOut, stallOnly]

/-- **The control endpoint requests only at a pulse**, or passes a submodule's request through. -/
theorem ctrl_requests_only_after_pulse (c : Cfg) (s : CycState) (i : CycIn) :
    ((step c s i).2.ack = true → i.sdAck = true ∨ ctlPulse c i = true) ∧
    ((step c s i).2.stall = true → ctlPulse c i = true ∨ i.dStall = true) ∧
    ((step c s i).2.txValid = true → ctlPulse c i = true ∨ i.dValid = true ∨ i.tValid = true) ∧
    ((step c s i).2.nak = false) := by
  obtain ⟨p1, p2, p3⟩ := comb_pulse c s.stage i
  obtain ⟨h1, h2, h3⟩ := handler_origin c s.h (handlerIn i (ctrlComb c s.stage i))
  simp only [handlerIn] at h1 h2 h3
  refine ⟨?_, ?_, ?_, rfl⟩
  · intro h
    simp only [step, Bool.or_eq_true] at h
    rcases h with (h | h) | h
    · exact Or.inl h
    · exact Or.inr (p2 (h1 h))
    · exact Or.inr (p3 h)
  · intro h
    rcases h2 h with h | h | h
    · exact Or.inl (p1 h)
    · exact Or.inl (p2 h)
    · exact Or.inr h
  · intro h
    rcases h3 h with h | h | h
    · exact Or.inl (p2 h)
    · exact Or.inr (Or.inl h)
    · exact Or.inr (Or.inr h)

theorem handler_excl (c : Cfg) (s : StdState) (hi : HIn) (hd : hi.dValid = false) (hds : hi.dStall = false)
    (ht : hi.tValid = false) :
    (((muxOut (stdStep c s hi).2 hi).ack || (muxOut (stdStep c s hi).2 hi).stall) &&
        (muxOut (stdStep c s hi).2 hi).txValid) = false ∧
    ((muxOut (stdStep c s hi).2 hi).txValid = true → hi.statusRequested = true) := by
  by_cases hty : hi.su.type = TYPE_STANDARD
  · simp only [stdStep, hty, if_true]
    cases hs : s.hstate <;>
      simp +contextual [stdComb, hs, simpleDataOut, regWriteZlp, muxOut, hd, hds, ht]
  · simp [stdStep, hty, muxOut, fallbackOut]

theorem status_ping_excl (c : Cfg) (st : Stage) (i : CycIn) (hx : (i.isPing && i.isOut) = false) :
    ((ctrlComb c st i).statusRequested && (ctrlComb c st i).pingAck) = false := by
  -- only STATUS_OUT has both strobes; there the one needs `is_out`, the other `is_ping`
  simp only [ctrlComb]
  revert hx
  cases i.isPing <;> cases i.isOut <;> cases st <;> simp

theorem bool_key (sd a st tv sr pa : Bool) (h0 : sd = false) (h1 : ((a || st) && tv) = false)
    (h2 : tv = true → sr = true) (h3 : (sr && pa) = false) : (((sd || a || pa) || st) && tv) = false := by
  cases sd <;> cases a <;> cases st <;> cases tv <;> cases sr <;> cases pa <;> simp_all

/-- With the setup decoder, the descriptor handler and the serializer silent, and an exclusive PID decode, the control
endpoint never drives a handshake together with `tx.valid`. -/
theorem ctrl_no_handshake_and_data_together (c : Cfg) (s : CycState) (i : CycIn)
    (hsd : i.sdAck = false) (hd : i.dValid = false) (hds : i.dStall = false) (ht : i.tValid = false)
    (hx : (i.isPing && i.isOut) = false) :
    (((step c s i).2.ack || (step c s i).2.stall) && (step c s i).2.txValid) = false := by
  obtain ⟨e1, e2⟩ := handler_excl c s.h (handlerIn i (ctrlComb c s.stage i)) hd hds ht
  exact bool_key i.sdAck _ _ _ _ _ hsd e1 e2 (status_ping_excl c s.stage i hx)

/-- The tokenizer's PID decode shows at most one of IN / OUT / SETUP / PING. -/
def pidExcl (i : CycIn) : Bool :=
  !(i.isIn && i.isOut) && !(i.isIn && i.isSetup) && !(i.isIn && i.isPing) && !(i.isOut && i.isSetup) &&
  !(i.isOut && i.isPing) && !(i.isSetup && i.isPing)

theorem strobe_facts (c : Cfg) (st : Stage) (i : CycIn) (pul : Bool)
    (e1 : ctlPulse c i = true → pul = true) (e2 : i.sdAck = true → pul = true ∧ i.isSetup = true)
    (e3 : i.received = true → i.isSetup = true) (e4 : pidExcl i = true) :
    (pul = false → (ctrlComb c st i).dataRequested = false ∧ (ctrlComb c st i).statusRequested = false ∧
        (ctrlComb c st i).pingAck = false ∧ i.sdAck = false) ∧
    ((ctrlComb c st i).dataRequested = true → (ctrlComb c st i).statusRequested = false ∧
        (ctrlComb c st i).pingAck = false ∧ i.sdAck = false ∧ i.received = false) ∧
    ((ctrlComb c st i).statusRequested = true → (ctrlComb c st i).pingAck = false ∧ i.sdAck = false) ∧
    (i.sdAck = true → (ctrlComb c st i).pingAck = false) := by
  -- each strobe belongs to one or two stages and carries one PID flag: `data_requested` DATA_IN / IN,
  -- `status_requested` STATUS_IN / IN or STATUS_OUT / OUT, the PING ACK DATA_OUT or STATUS_OUT / PING
  revert e1 e2 e3 e4
  simp only [ctrlComb, ctlPulse, pidExcl]
  generalize targeted c i = tg
  cases st <;> simp <;> grind

/-- Non-vacuity: the status stage of SET_ADDRESS — hypotheses hold, the endpoint answers the IN token's pulse with a
zero-length packet; and the unhandled-request STALL at the data stage's pulse. -/
example :
    let i : CycIn := { readyForResponse := true, isIn := true }
    let o := (step {} { stage := .statusIn, h := { hstate := .setAddress } } i).2
    ctlPulse {} i = true ∧ o.txValid = true ∧ o.txLast = true ∧ o.ack = false ∧ o.stall = false := by decide

example :
    let i : CycIn := { readyForResponse := true, isIn := true }
    let o := (step {} { stage := .dataIn, h := { hstate := .unhandled } } i).2
    ctlPulse {} i = true ∧ o.stall = true ∧ o.txValid = false := by decide

end LunaVerif.CtrlCyc
