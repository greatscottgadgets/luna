import LunaVerif.Lemmas.C07StreamCycles
import LunaVerif.Lemmas.C09Seq
/-!
# The simulation for every handler state (`cycle_refines_event_streams`) — part 3: cycle sequences under the bus observer, a streamer's payload bytes
(see Lemmas/C07Stream.lean for the set-up).
-/
namespace LunaVerif.CtrlCyc
open LunaVerif.Device

/-! ### Cycle sequences with the bus observer -/

/-- `Sim` with the bus observer in place of `cycResp`: the cycles `is` take it from `ob` to `ob'`. -/
def SimO (cyc : Cfg) (d d' : DevState) (is : List CycIn) (ob ob' : Obs) : Prop :=
  ∀ cs, Rel d cs →
    Rel d' (final cyc cs is) ∧ obsRun cyc ob cs is = ob' ∧
    regsAfter (d.address, d.config) (outs cyc cs is) = (d'.address, d'.config)

/-- … and the bus carries exactly `r`. -/
def SimS (cyc : Cfg) (d d' : DevState) (is : List CycIn) (r : Resp) : Prop := SimO cyc d d' is .idle (obsOf r)

theorem SimO.relabel {cyc : Cfg} {d d' : DevState} (ob : Obs) (h1 : d'.stage = d.stage) (h2 : d'.hstate = d.hstate)
    (h3 : d'.expectingAck = d.expectingAck) (h4 : d'.startPos = d.startPos) (h5 : d'.txPid = d.txPid)
    (h6 : d'.address = d.address) (h7 : d'.config = d.config) : SimO cyc d d' [] ob ob := by
  intro cs hr
  exact ⟨hr.congr h1 h2 h3 h4 h5, rfl, by simp [outs, run, regsAfter, h6, h7]⟩

theorem SimO.append {cyc : Cfg} {d d1 d2 : DevState} {a b : List CycIn} {o0 o1 o2 : Obs}
    (h1 : SimO cyc d d1 a o0 o1) (h2 : SimO cyc d1 d2 b o1 o2) : SimO cyc d d2 (a ++ b) o0 o2 := by
  intro cs hr
  obtain ⟨a1, a2, a3⟩ := h1 cs hr
  obtain ⟨b1, b2, b3⟩ := h2 _ a1
  refine ⟨by rw [final_append]; exact b1, ?_, ?_⟩
  · rw [obsRun_append, a2, b2]
  · rw [outs_append, regsAfter_append, a3, b3]

/-- Once the answer is complete the observer ignores the rest. -/
theorem SimO.done {cyc : Cfg} {d d' : DevState} {is : List CycIn} {o0 o1 : Obs} (h : SimO cyc d d' is o0 o1)
    (r : Resp) : SimO cyc d d' is (.done r) (.done r) := by
  intro cs hr
  obtain ⟨a1, _, a3⟩ := h cs hr
  exact ⟨a1, obsRun_done _ _ _ _, a3⟩

theorem SimO.cons {cyc : Cfg} {d d1 d2 : DevState} {i : CycIn} {is : List CycIn} {o0 o1 o2 : Obs}
    (h1 : SimO cyc d d1 [i] o0 o1) (h2 : SimO cyc d1 d2 is o1 o2) : SimO cyc d d2 (i :: is) o0 o2 :=
  h1.append h2

theorem SimO.of_step {cyc : Cfg} {d d1 : DevState} {i : CycIn} {o0 o1 : Obs}
    (h : ∀ cs, Rel d cs → Rel d1 (step cyc cs i).1 ∧ obsStep o0 i.txReady (seen (step cyc cs i).2) = o1 ∧
      (if (step cyc cs i).2.addressChanged then (step cyc cs i).2.newAddress else d.address) = d1.address ∧
      (if (step cyc cs i).2.configChanged then (step cyc cs i).2.newConfig else d.config) = d1.config) :
    SimO cyc d d1 [i] o0 o1 := by
  intro cs hr
  obtain ⟨a, b, e, f⟩ := h cs hr
  exact ⟨a, by simp only [obsRun, b], by simp only [outs, run, List.map_cons, List.map_nil, regsAfter, e, f]⟩

theorem SimS.single {cyc : Cfg} {d d' : DevState} {i : CycIn} {r : Resp} (h : Sim1S cyc d d' i r) :
    SimS cyc d d' [i] r := by
  refine SimO.of_step fun cs hr => ?_
  obtain ⟨a, b, nf, e, f⟩ := h cs hr
  refine ⟨a, ?_, e, f⟩
  simp only [obsStep, seen, b, nf]
  cases r <;> simp [Resp.isNone, obsOf]

theorem SimS.none_append {cyc : Cfg} {d d1 d2 : DevState} {a b : List CycIn} {r : Resp}
    (h1 : SimS cyc d d1 a .none) (h2 : SimS cyc d1 d2 b r) : SimS cyc d d2 (a ++ b) r :=
  SimO.append h1 h2

theorem SimS.append_none {cyc : Cfg} {d d1 d2 : DevState} {a b : List CycIn} {r : Resp}
    (h1 : SimS cyc d d1 a r) (h2 : SimS cyc d1 d2 b .none) : SimS cyc d d2 (a ++ b) r := by
  cases r with
  | none => exact SimO.append h1 h2
  | hs p => exact SimO.append h1 (h2.done _)
  | data p b => exact SimO.append h1 (h2.done _)

theorem SimS.relabel {cyc : Cfg} {d d' : DevState} (h1 : d'.stage = d.stage) (h2 : d'.hstate = d.hstate)
    (h3 : d'.expectingAck = d.expectingAck) (h4 : d'.startPos = d.startPos) (h5 : d'.txPid = d.txPid)
    (h6 : d'.address = d.address) (h7 : d'.config = d.config) : SimS cyc d d' [] .none :=
  SimO.relabel _ h1 h2 h3 h4 h5 h6 h7

theorem SimS.busResp {cyc : Cfg} {d d' : DevState} {is : List CycIn} {r : Resp} (h : SimS cyc d d' is r)
    (cs : CycState) (hr : Rel d cs) : busResp cyc cs is = r := by
  unfold CtrlCyc.busResp
  rw [(h cs hr).2.1, obsOf_resp]

/-! ### Idle cycles under the stream contract -/

/-- Idle cycles (arbitrary free inputs `ns`, streamers silent). -/
def idleS (d : DevState) (ns : List CycIn) : List CycIn := ns.map (fun n => envIn d (calm d n))

theorem all_idleS {P Q : CycIn → Prop} (hcalm : ∀ d n, Q n → P (envIn d (calm d n))) (d : DevState) (ns : List CycIn)
    (h : ∀ n ∈ ns, Q n) : ∀ i ∈ idleS d ns, P i := by
  intro i hi
  simp only [idleS, List.mem_map] at hi
  obtain ⟨n, hn, rfl⟩ := hi
  exact hcalm d n (h n hn)

theorem idleS_noStream {d : DevState} (h : NoStream d) (ns : List CycIn) : idleS d ns = idle d ns := by
  unfold idleS idle
  apply List.map_congr_left
  intro n _
  rw [calm_of_noStream h]

theorem sim_idleS (c : DevConfig) (d : DevState) (ns : List CycIn) : SimS (cfgOf c) d d (idleS d ns) .none := by
  induction ns with
  | nil => exact SimS.relabel rfl rfl rfl rfl rfl rfl rfl
  | cons n ns ih =>
    have := (SimS.single (sim_quiet_s c d (calm d n) (calmH_calm d n))).none_append ih
    simpa [idleS] using this

/-! ### A streamer's payload bytes -/

/-- The cycles in which the streamer `fd` presents the beats `bs` (one per cycle; free inputs `ns`). -/
def streamSeg (d : DevState) (fd : Bool) : List Desc.Beat → List CycIn → List CycIn
  | b :: bs, n :: ns => envIn d (beatIn fd b n) :: streamSeg d fd bs ns
  | _, _ => []

theorem mem_streamSeg (d : DevState) (fd : Bool) (bs : List Desc.Beat) :
    ∀ (ns : List CycIn), ∀ i ∈ streamSeg d fd bs ns, ∃ b ∈ bs, ∃ n ∈ ns, i = envIn d (beatIn fd b n) := by
  induction bs with
  | nil => intro ns i hi; cases ns <;> cases hi
  | cons b bs ih =>
    intro ns i hi
    cases ns with
    | nil => cases hi
    | cons m ms =>
      simp only [streamSeg, List.mem_cons] at hi
      rcases hi with rfl | hi
      · exact ⟨b, List.mem_cons_self .., m, List.mem_cons_self .., rfl⟩
      · obtain ⟨b', hb', n, hn, e⟩ := ih ms i hi
        exact ⟨b', List.mem_cons_of_mem _ hb', n, List.mem_cons_of_mem _ hn, e⟩

theorem envIn_congr {d d' : DevState} (h1 : d'.tokEp = d.tokEp) (h2 : d'.tokPid = d.tokPid) (h3 : d'.config = d.config)
    (h4 : d'.setup = d.setup) (n : CycIn) : envIn d' n = envIn d n := by
  simp [envIn, h1, h2, h3, h4]

theorem streamSeg_congr {d d' : DevState} (h1 : d'.tokEp = d.tokEp) (h2 : d'.tokPid = d.tokPid)
    (h3 : d'.config = d.config) (h4 : d'.setup = d.setup) (fd : Bool) (bs : List Desc.Beat) (ns : List CycIn) :
    streamSeg d' fd bs ns = streamSeg d fd bs ns := by
  induction bs generalizing ns with
  | nil => cases ns <;> rfl
  | cons b bs ih =>
    cases ns with
    | nil => rfl
    | cons n ns => simp only [streamSeg, ih, envIn_congr h1 h2 h3 h4]

theorem sim_seg_quiet (c : DevConfig) (d : DevState) (fd : Bool)
    (hcalm : ∀ n, CalmH d.hstate (noiseH (beatIn fd Desc.Beat.quiet n))) (bs : List Desc.Beat) (ns : List CycIn)
    (hq : ∀ b ∈ bs, b = Desc.Beat.quiet) : SimS (cfgOf c) d d (streamSeg d fd bs ns) .none := by
  induction bs generalizing ns with
  | nil => cases ns <;> exact SimS.relabel rfl rfl rfl rfl rfl rfl rfl
  | cons b bs ih =>
    cases ns with
    | nil => exact SimS.relabel rfl rfl rfl rfl rfl rfl rfl
    | cons n ns =>
      have hb : b = Desc.Beat.quiet := hq b (List.mem_cons_self ..)
      subst hb
      exact (SimS.single (sim_quiet_s c d _ (hcalm n))).none_append
        (ih ns (fun b hb => hq b (List.mem_cons_of_mem _ hb)))

theorem calm_stream {d : DevState} {fd : Bool} (hs : StreamState d fd) (n : CycIn) :
    CalmH d.hstate (noiseH (beatIn fd Desc.Beat.quiet n)) := by
  rw [noiseH_beatIn]; exact calmH_quiet_beat hs _

theorem beat_cycle (c : DevConfig) (d : DevState) (fd : Bool) (b : Desc.Beat) (n : CycIn) (hs : StreamState d fd)
    (hb : b.stall = false) (cs : CycState) (hr : Rel d cs) :
    Rel d (step (cfgOf c) cs (envIn d (beatIn fd b n))).1 ∧
    seen (step (cfgOf c) cs (envIn d (beatIn fd b n))).2 =
      ⟨if b.valid && b.last && !b.first then .data (dataPid d) [] else .none, b.valid, b.first, b.last, b.payload,
       dataPid d⟩ ∧
    (step (cfgOf c) cs (envIn d (beatIn fd b n))).2.addressChanged = false ∧
    (step (cfgOf c) cs (envIn d (beatIn fd b n))).2.configChanged = false := by
  have hc : ctrlComb (cfgOf c) cs.stage (envIn d (beatIn fd b n)) = ⟨false, false, false, false⟩ :=
    ctrlComb_idle _ _ rfl rfl rfl
  have hn : ctrlNext (cfgOf c) cs.stage (envIn d (beatIn fd b n)) = cs.stage := ctrlNext_idle _ _ rfl rfl
  have hi : handlerIn (envIn d (beatIn fd b n)) ⟨false, false, false, false⟩ =
      hin d (beatH fd b (noiseH n)) false false false := by
    cases fd <;> rfl
  obtain ⟨q1, q2, q3, q4, q5, q6, q7, q8, q9⟩ := hs_beat (cfgOf c) d cs.h (noiseH n) fd b hr.h hs hb
  refine ⟨⟨by rw [step_stage, hn]; exact hr.stage, by rw [step_h, hc, hi]; exact q1⟩, ?_, ?_, ?_⟩
  · simp only [seen]
    rw [step_outResp, step_txValid, step_txFirst, step_txLast, step_txPayload, step_txPidToggle, selOut_eq hc hi, hc,
      q4, q5, q6, q7, q8]
    have hsd : (envIn d (beatIn fd b n)).sdAck = false := rfl
    simp only [hsd, hResp, q2, q3, q4, q5, q6, q8, dataPid]
    cases d.txPid <;> simp
  · rw [step_addressChanged, selOut_eq hc hi]; exact q9.1
  · rw [step_configChanged, selOut_eq hc hi]; exact q9.2

theorem sendTrace_over (bytes : List Nat) (k : Nat) (hk : ¬ k < bytes.length) (rs : List Bool) :
    ∀ b ∈ Desc.sendTrace bytes k rs, b = Desc.Beat.quiet := by
  rw [Desc.sendTrace_done bytes k (Nat.le_of_not_lt hk)]
  exact Desc.idleTrace_all (· = Desc.Beat.quiet) rfl rs

theorem take_snoc_getD (bytes : List Nat) (k : Nat) (hk : k < bytes.length) :
    bytes.take k ++ [bytes.getD k 0] = bytes.take (k + 1) := by
  rw [List.take_add_one]
  simp [List.getD, hk]

theorem sim_beat (c : DevConfig) (d : DevState) (fd : Bool) (v f l : Bool) (p : Nat) (n : CycIn)
    (hs : StreamState d fd) (ob : Obs) :
    SimO (cfgOf c) d d [envIn d (beatIn fd ⟨v, f, l, p, false⟩ n)] ob
      (obsStep ob n.txReady ⟨if v && l && !f then .data (dataPid d) [] else .none, v, f, l, p, dataPid d⟩) := by
  refine SimO.of_step fun cs hr => ?_
  obtain ⟨q1, q2, q3, q4⟩ := beat_cycle c d fd ⟨v, f, l, p, false⟩ n hs rfl cs hr
  rw [q2, q3, q4, show (envIn d (beatIn fd ⟨v, f, l, p, false⟩ n)).txReady = n.txReady from beatIn_txReady ..]
  exact ⟨q1, rfl, rfl, rfl⟩

theorem obsStep_byte (pid : Nat) (bytes : List Nat) (k : Nat) (hk : k < bytes.length) (ob : Obs)
    (hob : ob = .coll pid (bytes.take k) ∨ (k = 0 ∧ ob = .idle)) (rdy : Bool) :
    obsStep ob rdy ⟨if true && (k + 1 == bytes.length) && !(k == 0) then .data pid [] else .none, true, k == 0,
        k + 1 == bytes.length, bytes.getD k 0, pid⟩ =
      if rdy then (if k + 1 = bytes.length then .done (.data pid bytes) else .coll pid (bytes.take (k + 1)))
      else .coll pid (bytes.take k) := by
  have hsn : bytes.take k ++ [bytes[k]?.getD 0] = bytes.take (k + 1) := take_snoc_getD bytes k hk
  have hfull : k + 1 = bytes.length → bytes.take k ++ [bytes[k]?.getD 0] = bytes := fun h => by
    rw [hsn, h, List.take_length]
  rcases hob with rfl | ⟨rfl, rfl⟩
  · by_cases hl : k + 1 = bytes.length <;> cases rdy <;> simp [obsStep, obsTake, hl, hfull, hsn]
  · have h0 : [bytes[0]?.getD 0] = bytes.take 1 := hsn
    by_cases hl : 0 + 1 = bytes.length <;> cases rdy <;> simp [obsStep, obsTake, hl, Resp.isNone, h0]
    exact h0 ▸ hfull hl

/-- The payload bytes from byte `k` on: whatever the `tx.ready` pattern, as long as it accepts the remaining
bytes, the observer ends with the complete packet. -/
theorem sim_send (c : DevConfig) (d : DevState) (fd : Bool) (hs : StreamState d fd) (bytes : List Nat) :
    ∀ (ns : List CycIn) (k : Nat) (ob : Obs), k < bytes.length →
      bytes.length - k ≤ (ns.map (·.txReady)).count true →
      (ob = .coll (dataPid d) (bytes.take k) ∨ (k = 0 ∧ ob = .idle)) →
      SimO (cfgOf c) d d (streamSeg d fd (Desc.sendTrace bytes k (ns.map (·.txReady))) ns) ob
        (.done (.data (dataPid d) bytes)) := by
  intro ns
  induction ns with
  | nil => intro k ob hk hcnt _; simp at hcnt; omega
  | cons n ns ih =>
    intro k ob hk hcnt hob
    simp only [List.map_cons, Desc.sendTrace, hk, if_true, streamSeg]
    have hstep := sim_beat c d fd true (k == 0) (k + 1 == bytes.length) (bytes.getD k 0) n hs ob
    rw [obsStep_byte (dataPid d) bytes k hk ob hob] at hstep
    cases hrd : n.txReady with
    | false =>
      simp only [hrd, Bool.false_eq_true, if_false] at hstep ⊢
      exact SimO.cons hstep (ih k _ hk (by simpa [hrd] using hcnt) (Or.inl rfl))
    | true =>
      simp only [hrd, if_true] at hstep ⊢
      by_cases hl : k + 1 = bytes.length
      · rw [if_pos hl] at hstep
        exact SimO.cons hstep ((sim_seg_quiet c d fd (fun n => calm_stream hs n) _ ns
          (sendTrace_over bytes (k + 1) (by omega) _)).done _)
      · rw [if_neg hl] at hstep
        refine SimO.cons hstep (ih (k + 1) _ (by omega) ?_ (Or.inl rfl))
        simp [hrd] at hcnt
        omega

end LunaVerif.CtrlCyc
