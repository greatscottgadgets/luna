import LunaVerif.Lemmas.C33Fairness
/-!
# C33 — why the fairness bound must be conditional

Without idle opportunities (`can_send_skip = 0` throughout — e.g. while the link layer transmits
training sets, its arbiter is never idle) no SKP word is ever inserted and the 3-bit debt counter is
simply the number of 354-byte boundaries crossed MODULO 8: after 708 words (2832 bytes) eight owed
ordered sets have been forgotten.  And the window bound `W ≤ 177` of `ctc_bounded_fairness` cannot be
relaxed: with one opportunity per 178 words the unpaid bytes grow by 4 per window, until the counter wraps in
the 532nd window.
-/
namespace LunaVerif.CtcInserter
open LunaVerif.Ss

theorem step_no_idle (s : State) (i : In) (hc : i.canSend = false) (he : s.elapsed < 354) (hk : s.skips < 8) :
    sending s i = false ∧
    (next s i).skips = (s.skips + (s.elapsed + 4 * (if xfer s i then 1 else 0)) / 354) % 8 ∧
    (next s i).elapsed = (s.elapsed + 4 * (if xfer s i then 1 else 0)) % 354 := by
  have hs : sending s i = false := by rw [skp_sent_as_soon_as_allowed, hc, Bool.false_and]
  obtain ⟨e1, e2⟩ := next_elapsed s i he
  have k1 := (next_skips s i hk).1
  rw [hs, if_neg Bool.false_ne_true] at k1
  refine ⟨hs, ?_, ?_⟩ <;> omega

/-- Counting `t` more bytes after `a`: the owed sets modulo 8, and the remainder, compose. -/
theorem owed_add (k a t : Nat) :
    ((k + a / 354) % 8 + (a % 354 + t) / 354) % 8 = (k + (a + t) / 354) % 8 ∧
    (a % 354 + t) % 354 = (a + t) % 354 := by omega

/-- **Without idle opportunities** (any stream with `can_send_skip = 0` throughout, from any legal
state): no SKP word is sent and `skips_to_send` = (owed sets) mod 8, the remainder being kept. -/
theorem no_idle_counter_is_mod_8 (s : State) (ins : List In) (hc : ∀ i ∈ ins, i.canSend = false)
    (he : s.elapsed < 354) (hk : s.skips < 8) :
    sentWords s ins = 0 ∧
    (final s ins).skips = (s.skips + (s.elapsed + 4 * transfers s ins) / 354) % 8 ∧
    (final s ins).elapsed = (s.elapsed + 4 * transfers s ins) % 354 := by
  induction ins generalizing s with
  | nil =>
    refine ⟨rfl, ?_, ?_⟩
    · show s.skips = (s.skips + (s.elapsed + 4 * 0) / 354) % 8
      omega
    · show s.elapsed = (s.elapsed + 4 * 0) % 354
      omega
  | cons i is ih =>
    obtain ⟨h1, h2, h3⟩ := step_no_idle s i (hc i (List.mem_cons_self ..)) he hk
    obtain ⟨g1, g2, g3⟩ := ih (next s i) (fun j hj => hc j (List.mem_cons_of_mem _ hj))
      (by rw [h3]; omega) (by rw [h2]; omega)
    rw [h2, h3] at g2
    rw [h3] at g3
    obtain ⟨a1, a2⟩ := owed_add s.skips (s.elapsed + 4 * (if xfer s i then 1 else 0))
      (4 * transfers (next s i) is)
    simp only [sentWords, final, transfers, h1, g1, Bool.false_eq_true, if_false]
    rw [Nat.mul_add, ← Nat.add_assoc]
    exact ⟨trivial, g2.trans a1, g3.trans a2⟩

theorem all_taken (s : State) (ins : List In) (hr : s.sinkReady = true)
    (hv : ∀ i ∈ ins, i.sink.valid = true ∧ i.srcReady = true ∧ i.canSend = false) :
    transfers s ins = ins.length ∧ (final s ins).sinkReady = true := by
  induction ins generalizing s with
  | nil => exact ⟨rfl, hr⟩
  | cons i is ih =>
    obtain ⟨a, b, c⟩ := hv i (List.mem_cons_self ..)
    have hx : xfer s i = true := by simp [xfer, a, hr]
    have hn : (next s i).sinkReady = true := by simp [next, sending, c, b]
    obtain ⟨h1, h2⟩ := ih (next s i) hn (fun j hj => hv j (List.mem_cons_of_mem _ hj))
    refine ⟨?_, h2⟩
    simp only [transfers, hx, if_true, List.length_cons, h1]
    omega

/-- **The negative fact, witness family.**  EVERY stream of 708 words offered back to back without an
idle opportunity (`can_send_skip = 0`, all words taken), started with nothing owed: the counter reads
0 again although 8 ordered sets are owed and none was sent; the accounting identity of
`debt_from_reset` fails and `NoWrap` is false.  (Training sets are such a stream.) -/
theorem no_idle_debt_counter_wraps (s : State) (ins : List In) (hr : s.sinkReady = true)
    (h0 : s.skips = 0) (he : s.elapsed = 0) (hlen : ins.length = 708)
    (hv : ∀ i ∈ ins, i.sink.valid = true ∧ i.srcReady = true ∧ i.canSend = false) :
    sentWords s ins = 0 ∧ (final s ins).skips = 0 ∧ 4 * transfers s ins / 354 = 8 ∧ ¬ NoWrap s ins := by
  have ht := (all_taken s ins hr hv).1
  obtain ⟨a, b, _⟩ := no_idle_counter_is_mod_8 s ins (fun i hi => (hv i hi).2.2) (by omega) (by omega)
  rw [ht, hlen, h0, he] at b
  refine ⟨a, by rw [b], by rw [ht, hlen], ?_⟩
  intro hnw
  obtain ⟨c, _, d⟩ := skp_debt_accounting s ins (by omega) (by omega) hnw
  rw [a, ht, hlen, h0, he] at c
  omega

/-- … and from reset: one cycle in which `sink.ready` rises, then any 708 such words. -/
theorem no_idle_debt_counter_wraps_from_reset (i0 : In) (ins : List In) (h0 : i0.srcReady = true)
    (hc0 : i0.canSend = false) (hlen : ins.length = 708)
    (hv : ∀ i ∈ ins, i.sink.valid = true ∧ i.srcReady = true ∧ i.canSend = false) :
    sentWords init (i0 :: ins) = 0 ∧ (final init (i0 :: ins)).skips = 0 ∧
      4 * transfers init (i0 :: ins) / 354 = 8 := by
  have hs : sending init i0 = false := by simp [sending, hc0]
  have hx : xfer init i0 = false := by simp [xfer, init]
  have hr : (next init i0).sinkReady = true := by simp [next, hs, h0]
  have hk : (next init i0).skips = 0 := by
    simp only [next, skipNeeded, hx, hs]
    simp [init]
  have he : (next init i0).elapsed = 0 := by
    simp only [next, hx]
    simp [init]
  obtain ⟨a, b, c, _⟩ := no_idle_debt_counter_wraps (next init i0) ins hr hk he hlen hv
  simp only [sentWords, final, transfers, hs, hx, a, b, Bool.false_eq_true, if_false]
  exact ⟨trivial, trivial, by omega⟩

example : (final init (busyCycle 0 :: List.replicate 708 (busyCycle 0xBC))).skips = 0 := by decide +kernel

/-! ## One opportunity per 178 words is not enough -/

theorem final_append (s : State) (a b : List In) : final s (a ++ b) = final (final s a) b := by
  induction a generalizing s with
  | nil => rfl
  | cons i is ih => exact ih (next s i)

theorem noWrap_append (s : State) (a b : List In) :
    NoWrap s (a ++ b) ↔ NoWrap s a ∧ NoWrap (final s a) b := by
  induction a generalizing s with
  | nil => exact ⟨fun h => ⟨trivial, h⟩, fun h => h.2⟩
  | cons i is ih =>
    constructor
    · intro h
      obtain ⟨h1, h2⟩ := h
      obtain ⟨g1, g2⟩ := (ih (next s i)).1 h2
      exact ⟨⟨h1, g1⟩, g2⟩
    · intro h
      obtain ⟨⟨h1, h2⟩, h3⟩ := h
      exact ⟨h1, (ih (next s i)).2 ⟨h2, h3⟩⟩

theorem idleEvery_busy_run (W c n : Nat) (d : Nat) (rest : List In) (h : c + n < W)
    (hr : IdleEvery W (c + n) rest) : IdleEvery W c (List.replicate n (busyCycle d) ++ rest) := by
  induction n generalizing c with
  | zero => simpa using hr
  | succ n ih =>
    rw [List.replicate_succ, List.cons_append]
    unfold IdleEvery
    have e : c + 1 + n = c + (n + 1) := by omega
    simp only [busyCycle, Bool.false_eq_true, if_false, if_true]
    exact ⟨by omega, ih (c + 1) (by omega) (by rw [e]; exact hr)⟩

/-- 177 packet words, then one idle word: an idle opportunity in every window of 178 words. -/
def period178 : List In := List.replicate 177 (busyCycle 0) ++ [idleCycle]

def stream178 : Nat → List In
  | 0 => []
  | k + 1 => period178 ++ stream178 k

theorem idleEvery_stream178 (k : Nat) : IdleEvery 178 0 (stream178 k) := by
  induction k with
  | zero => trivial
  | succ k ih =>
    unfold stream178 period178
    rw [List.append_assoc]
    apply idleEvery_busy_run 178 0 177 0 _ (by omega)
    show IdleEvery 178 (0 + 177) (idleCycle :: stream178 k)
    unfold IdleEvery
    simpa [idleCycle] using ih

theorem busy_all_taken (n d : Nat) :
    ∀ i ∈ List.replicate n (busyCycle d), i.sink.valid = true ∧ i.srcReady = true ∧ i.canSend = false := by
  intro i hi
  rw [List.mem_replicate] at hi
  rw [hi.2]
  simp [busyCycle]

/-- One period from a state with `p` unpaid bytes, `p + 708 < 2832`: the burst raises the debt to
`(p + 708)/354 ≥ 2`, the idle word is replaced by a SKP word — and `p + 4` bytes remain unpaid. -/
theorem period178_step (s : State) (hr : s.sinkReady = true) (he : s.elapsed < 354)
    (hp : 354 * s.skips + s.elapsed + 708 < 2832) :
    (final s period178).sinkReady = true ∧ (final s period178).elapsed < 354 ∧
    354 * (final s period178).skips + (final s period178).elapsed = 354 * s.skips + s.elapsed + 4 ∧
    NoWrap s period178 := by
  have hk : s.skips < 8 := by omega
  have hv := busy_all_taken 177 0
  obtain ⟨ht, hr'⟩ := all_taken s _ hr hv
  rw [List.length_replicate] at ht
  obtain ⟨_, b2, b3⟩ := no_idle_counter_is_mod_8 s _ (fun i hi => (hv i hi).2.2) he hk
  rw [ht] at b2 b3
  have hnw1 : NoWrap s (List.replicate 177 (busyCycle 0)) :=
    no_wrap_below_2832_bytes s _ he hk (by rw [ht]; omega)
  unfold period178
  rw [final_append, noWrap_append]
  generalize final s (List.replicate 177 (busyCycle 0)) = t at b2 b3 hr'
  have he' : t.elapsed < 354 := by omega
  have hk' : t.skips < 8 := by omega
  have h2 : 2 ≤ t.skips := by omega
  have hs : sending t idleCycle = true := by simp [sending, idleCycle, h2]
  have hx : xfer t idleCycle = true := by simp [xfer, idleCycle, hr']
  have hnw : skipNeeded t idleCycle = true → sending t idleCycle = false → t.skips < 7 := by
    intro _ h; rw [hs] at h; exact absurd h (by decide)
  obtain ⟨a1, a2, a3⟩ := step_accounting t idleCycle he' hk' hnw
  rw [hs, hx] at a1
  simp only [if_true] at a1
  show (next t idleCycle).sinkReady = true ∧ (next t idleCycle).elapsed < 354 ∧
    354 * (next t idleCycle).skips + (next t idleCycle).elapsed = 354 * s.skips + s.elapsed + 4 ∧
    NoWrap s (List.replicate 177 (busyCycle 0)) ∧ NoWrap t [idleCycle]
  refine ⟨by simp [next, hs, hr'], a2, by omega, hnw1, hnw, trivial⟩

theorem stream178_snoc (k : Nat) : stream178 (k + 1) = stream178 k ++ period178 := by
  induction k with
  | zero => simp [stream178]
  | succ k ih =>
    show period178 ++ stream178 (k + 1) = (period178 ++ stream178 k) ++ period178
    rw [ih, List.append_assoc]

theorem stream178_run (k : Nat) (s : State) (hr : s.sinkReady = true) (he : s.elapsed < 354)
    (hp : k = 0 ∨ 354 * s.skips + s.elapsed + 4 * k + 704 < 2832) :
    (final s (stream178 k)).sinkReady = true ∧ (final s (stream178 k)).elapsed < 354 ∧
    354 * (final s (stream178 k)).skips + (final s (stream178 k)).elapsed = 354 * s.skips + s.elapsed + 4 * k ∧
    NoWrap s (stream178 k) := by
  induction k generalizing s with
  | zero => exact ⟨hr, he, by simp [stream178, final], trivial⟩
  | succ k ih =>
    obtain ⟨a1, a2, a3, a4⟩ := period178_step s hr he (by omega)
    obtain ⟨b1, b2, b3, b4⟩ := ih (final s period178) a1 a2 (by omega)
    show (final s (period178 ++ stream178 k)).sinkReady = true ∧ (final s (period178 ++ stream178 k)).elapsed < 354 ∧
      354 * (final s (period178 ++ stream178 k)).skips + (final s (period178 ++ stream178 k)).elapsed =
        354 * s.skips + s.elapsed + 4 * (k + 1) ∧ NoWrap s (period178 ++ stream178 k)
    rw [final_append, noWrap_append]
    exact ⟨b1, b2, by omega, a4, b4⟩

/-- **The window bound `W ≤ 177` cannot be relaxed.**  The streams `idle, (177 packet words, idle)^k`
offer an idle opportunity in every window of 178 words, for every `k`; the unpaid bytes grow by 4 per
window (712 accepted, 708 paid by the one SKP word an opportunity allows): after `k ≤ 531` windows
`skips_to_send = ⌊4k/354⌋` (6 at `k = 531`, beyond the bound 3 of `ctc_bounded_fairness`), and in the
532nd window the counter wraps. -/
theorem idle_every_178_not_enough :
    (∀ k, IdleEvery 178 0 (idleCycle :: stream178 k)) ∧
    (∀ k, k ≤ 531 → NoWrap init (idleCycle :: stream178 k) ∧
      (final init (idleCycle :: stream178 k)).skips = 4 * k / 354 ∧
      (final init (idleCycle :: stream178 k)).elapsed = 4 * k % 354) ∧
    ¬ NoWrap init (idleCycle :: stream178 532) := by
  have hr0 : (next init idleCycle).sinkReady = true := by decide
  have he0 : (next init idleCycle).elapsed = 0 := by decide
  have hk0 : (next init idleCycle).skips = 0 := by decide
  have hn0 : skipNeeded init idleCycle = false := by decide
  refine ⟨?_, ?_, ?_⟩
  · intro k
    unfold IdleEvery
    simpa [idleCycle] using idleEvery_stream178 k
  · intro k hk
    obtain ⟨_, b2, b3, b4⟩ := stream178_run k (next init idleCycle) hr0 (by omega) (by omega)
    rw [he0, hk0] at b3
    refine ⟨⟨fun h => by rw [hn0] at h; exact absurd h (by decide), b4⟩, ?_, ?_⟩
    · show (final (next init idleCycle) (stream178 k)).skips = _
      omega
    · show (final (next init idleCycle) (stream178 k)).elapsed = _
      omega
  · intro h
    obtain ⟨_, h⟩ := h
    rw [stream178_snoc, noWrap_append] at h
    obtain ⟨_, h⟩ := h
    unfold period178 at h
    rw [noWrap_append] at h
    obtain ⟨h, _⟩ := h
    obtain ⟨b1, b2, b3, _⟩ := stream178_run 531 (next init idleCycle) hr0 (by omega) (by omega)
    rw [he0, hk0] at b3
    generalize final (next init idleCycle) (stream178 531) = t at h b1 b2 b3
    have hv := busy_all_taken 177 0
    have ht := (all_taken t _ b1 hv).1
    rw [List.length_replicate] at ht
    obtain ⟨c1, _, _⟩ := no_idle_counter_is_mod_8 t _ (fun i hi => (hv i hi).2.2) b2 (by omega)
    obtain ⟨d1, d2, d3⟩ := skp_debt_accounting t _ b2 (by omega) h
    rw [c1, ht] at d1
    omega

/-- the closed form on a short instance, by evaluation: two windows leave 8 bytes unpaid, two SKP words sent -/
example : (final init (idleCycle :: stream178 2)).elapsed = 8 ∧ (final init (idleCycle :: stream178 2)).skips = 0 ∧
    sentWords init (idleCycle :: stream178 2) = 2 := by decide +kernel

end LunaVerif.CtcInserter
