import LunaVerif.Lemmas.C09Seq
import LunaVerif.Model.Usb2.DescriptorDistributed
/-!
Helper lemmas for C09 on the distributed handler model: one step of the stream generator per FSM state
and branch, which entry the `Switch(value)` steps and shows, one complete request (`dist_data`,
`dist_zlp`, `dist_stall`), and the return to quiescence (every generator idle with its registered
`start` low, no `send_zlp`) one cycle after the response is over.

Return to quiescence: entries the request's `value` does not select never leave (idle, start low).  The
selected entry's registered `start` and `send_zlp` are low from the second cycle after `start`; from
then on a cycle with a quiet output is a cycle in which its generator is in IDLE or DONE, hence in IDLE
a cycle later.

Last, for a handler built from a collection (`coll.map F`, keys `type · 256 + index`): the entry a present
`(type, index)` selects is the one `find?` returns (`dist_selects`), no other entry has its key (`dist_unique`), and an
absent `(type, index)` selects none (`dist_selects_none`).
-/
namespace LunaVerif.Desc

namespace Gen

def quietOut : Out := ⟨false, false, false, 0⟩

def clamp (c : Config) (i : In) : Nat := if i.startPos ≥ c.len then c.len - 1 else i.startPos

theorem step_idle (c : Config) (s : State) (i : In) (h : s.fsm = .idle) :
    step c s i = ({ s with pos := clamp c i % 2 ^ c.w, sent := 0, maxLen := i.maxLength,
                           fsm := if i.start && i.maxLength > 0 then .streaming else .idle,
                           romData := c.data.getD (clamp c i % 2 ^ c.w) 0 }, quietOut) := by
  simp only [step, h, clamp, quietOut]

theorem step_done (c : Config) (s : State) (i : In) (h : s.fsm = .done) :
    step c s i = ({ s with fsm := .idle, romData := c.data.getD 0 0 }, quietOut) := by
  simp only [step, h, quietOut]

def streamOut (c : Config) (s : State) (i : In) : Out := ⟨true, s.pos == i.startPos, onLast c s, s.romData⟩

theorem step_stream_hold (c : Config) (s : State) (i : In) (h : s.fsm = .streaming) (hr : i.ready = false) :
    step c s i = ({ s with romData := c.data.getD s.pos 0 }, streamOut c s i) := by
  simp [step, h, hr, streamOut]

theorem step_stream_next (c : Config) (s : State) (i : In) (h : s.fsm = .streaming) (hr : i.ready = true)
    (hl : onLast c s = false) :
    step c s i = ({ s with pos := (s.pos + 1) % 2 ^ c.w, sent := (s.sent + 1) % 65536,
                           romData := c.data.getD ((s.pos + 1) % 2 ^ c.w) 0 }, streamOut c s i) := by
  simp [step, h, hr, hl, streamOut]

theorem step_stream_last (c : Config) (s : State) (i : In) (h : s.fsm = .streaming) (hr : i.ready = true)
    (hl : onLast c s = true) :
    step c s i = ({ s with fsm := .done, romData := c.data.getD s.pos 0 }, streamOut c s i) := by
  simp [step, h, hr, hl, streamOut]

end Gen

namespace Dist

def reqInputs (v l p : Nat) : List Bool → List In
  | [] => []
  | r :: rs => ⟨v, l, p, true, r⟩ :: rs.map (fun r => ⟨v, l, p, false, r⟩)

def holdInputs (v l p : Nat) (rs : List Bool) : List In := rs.map (fun r => ⟨v, l, p, false, r⟩)

theorem holdInputs_cons (v l p : Nat) (r : Bool) (rs : List Bool) :
    holdInputs v l p (r :: rs) = ⟨v, l, p, false, r⟩ :: holdInputs v l p rs := rfl

theorem reqInputs_cons (v l p : Nat) (r : Bool) (rs : List Bool) :
    reqInputs v l p (r :: rs) = ⟨v, l, p, true, r⟩ :: holdInputs v l p rs := rfl

theorem stepAll_sel (c : Config) (i : In) :
    ∀ (es : List Entry) (gs : List (Gen.State × Bool)) (j : Nat) (e : Entry) (g : Gen.State × Bool),
      es[j]? = some e → e.key = i.value →
      (∀ k e', k < j → es[k]? = some e' → e'.key ≠ i.value) → gs[j]? = some g →
      (stepAll c i es gs).2 = some (e, (stepEntry c i e g).2)
      ∧ (stepAll c i es gs).1[j]? = some (stepEntry c i e g).1 := by
  intro es
  induction es with
  | nil => intro gs j e g h; simp at h
  | cons e0 es ih =>
    intro gs j e g he hk hfirst hg
    cases gs with
    | nil => simp at hg
    | cons g0 gs =>
      cases j with
      | zero =>
        simp only [List.getElem?_cons_zero, Option.some.injEq] at he hg
        subst he; subst hg
        simp [stepAll, hk]
      | succ j =>
        simp only [List.getElem?_cons_succ] at he hg
        have h0 : e0.key ≠ i.value := hfirst 0 e0 (by omega) (by simp)
        have := ih gs j e g he hk (fun k e' hkj hget => hfirst (k + 1) e' (by omega) (by simpa using hget)) hg
        simp only [stepAll, List.getElem?_cons_succ]
        have hb : (e0.key == i.value) = false := by simpa using h0
        simp only [hb, Bool.false_eq_true, if_false]
        exact this

theorem stepAll_none (c : Config) (i : In) :
    ∀ (es : List Entry) (gs : List (Gen.State × Bool)), (∀ e ∈ es, e.key ≠ i.value) →
      (stepAll c i es gs).2 = none := by
  intro es
  induction es with
  | nil => intro gs _; rfl
  | cons e0 es ih =>
    intro gs h
    cases gs with
    | nil => rfl
    | cons g0 gs =>
      have hb : (e0.key == i.value) = false := by simpa using h e0 (by simp)
      simp only [stepAll, hb, Bool.false_eq_true, if_false]
      exact ih gs (fun e he => h e (by simp [he]))

/-- entry `j` is the one the request's `value` selects. -/
structure Selects (c : Config) (v j : Nat) (e : Entry) : Prop where
  hget   : c.entries[j]? = some e
  hkey   : e.key = v
  hfirst : ∀ k e', k < j → c.entries[k]? = some e' → e'.key ≠ v

/-- what matters of the handler state for the selected entry `j`: its generator state `g`, its
registered `start` and the `send_zlp` strobe. -/
structure View (s : State) (j : Nat) (g : Gen.State) (sr z : Bool) : Prop where
  hg : s.gens[j]? = some (g, sr)
  hz : s.sendZlp = z

def genIn (c : Config) (e : Entry) (l p : Nat) (sr r : Bool) : Gen.In :=
  ⟨sr, curLength c.mps l p, p % 2 ^ e.gen.w, r⟩

def beatOf (o : Gen.Out) (z : Bool) : Beat := ⟨o.valid || z, o.first, o.last || z, o.payload, false⟩

theorem step_view (c : Config) (s : State) (v l p : Nat) (start r : Bool) (j : Nat) (e : Entry)
    (g : Gen.State) (sr z : Bool) (hs : Selects c v j e) (hv : View s j g sr z) :
    (step c s ⟨v, l, p, start, r⟩).2 = beatOf (Gen.step e.gen g (genIn c e l p sr r)).2 z
    ∧ View (step c s ⟨v, l, p, start, r⟩).1 j (Gen.step e.gen g (genIn c e l p sr r)).1
        (start && !pastEnd e p) (start && pastEnd e p) := by
  obtain ⟨h1, h2⟩ := stepAll_sel c ⟨v, l, p, start, r⟩ c.entries s.gens j e (g, sr) hs.hget hs.hkey hs.hfirst hv.hg
  have hk : (e.key == v) = true := by simp [hs.hkey]
  refine ⟨?_, ⟨?_, ?_⟩⟩
  · simp only [step, h1, hv.hz, mkOut, stepEntry, hk, Bool.true_and, beatOf, genIn]
  · show (stepAll c ⟨v, l, p, start, r⟩ c.entries s.gens).1[j]? = _
    rw [h2]
    simp only [stepEntry, hk, Bool.true_and, if_true, genIn]
  · simp only [step, h1]

theorem beatOf_quiet : beatOf Gen.quietOut false = Beat.quiet := rfl

theorem beatOf_zlp : beatOf Gen.quietOut true = zlpBeat := rfl

theorem step_view_idle (c : Config) (s : State) (v l p : Nat) (start r : Bool) (j : Nat) (e : Entry)
    (g : Gen.State) (sr z : Bool) (hs : Selects c v j e) (hv : View s j g sr z) (hg : g.fsm = .idle) :
    (step c s ⟨v, l, p, start, r⟩).2 = beatOf Gen.quietOut z
    ∧ ∃ g', View (step c s ⟨v, l, p, start, r⟩).1 j g' (start && !pastEnd e p) (start && pastEnd e p)
      ∧ g'.fsm = (if sr && curLength c.mps l p > 0 then .streaming else .idle)
      ∧ g'.pos = Gen.clamp e.gen (genIn c e l p sr r) % 2 ^ e.gen.w ∧ g'.sent = 0
      ∧ g'.maxLen = curLength c.mps l p
      ∧ g'.romData = e.gen.data.getD (Gen.clamp e.gen (genIn c e l p sr r) % 2 ^ e.gen.w) 0 := by
  obtain ⟨ho, hv'⟩ := step_view c s v l p start r j e g sr z hs hv
  rw [Gen.step_idle _ _ _ hg] at ho hv'
  exact ⟨ho, _, hv', rfl, rfl, rfl, rfl, rfl⟩

theorem run_peel (c : Config) (s : State) (v l p n : Nat) (f : List Bool → List Beat)
    (h : ∀ r, (step c s ⟨v, l, p, false, r⟩).2 = Beat.quiet
      ∧ ∀ rs, run c (step c s ⟨v, l, p, false, r⟩).1 (holdInputs v l p rs) = delayed n f rs) :
    ∀ rs, run c s (holdInputs v l p rs) = delayed (n + 1) f rs := by
  intro rs
  cases rs with
  | nil => rfl
  | cons r rs =>
    rw [holdInputs_cons]
    simp only [run, delayed]
    rw [(h r).1, (h r).2 rs]

theorem run_first (c : Config) (s : State) (v l p n : Nat) (f : List Bool → List Beat)
    (h : ∀ r, (step c s ⟨v, l, p, true, r⟩).2 = Beat.quiet
      ∧ ∀ rs, run c (step c s ⟨v, l, p, true, r⟩).1 (holdInputs v l p rs) = delayed n f rs) :
    ∀ rs, run c s (reqInputs v l p rs) = delayed (n + 1) f rs := by
  intro rs
  cases rs with
  | nil => rfl
  | cons r rs =>
    rw [reqInputs_cons]
    simp only [run, delayed]
    rw [(h r).1, (h r).2 rs]

theorem run_idle (c : Config) (v l p j : Nat) (e : Entry) (hs : Selects c v j e) (rs : List Bool) :
    ∀ (s : State) (g : Gen.State), g.fsm = .idle → View s j g false false →
      run c s (holdInputs v l p rs) = idleTrace rs := by
  induction rs with
  | nil => intro s g _ _; rfl
  | cons r rs ih =>
    intro s g hg hv
    obtain ⟨ho, g', hv', hf, -⟩ := step_view_idle c s v l p false r j e g false false hs hv hg
    rw [holdInputs_cons, idleTrace_cons]
    simp only [run]
    rw [ho, beatOf_quiet]
    congr 1
    exact ih _ g' hf hv'

theorem run_done (c : Config) (v l p j : Nat) (e : Entry) (hs : Selects c v j e) (rs : List Bool)
    (s : State) (g : Gen.State) (hg : g.fsm = .done) (hv : View s j g false false) :
    run c s (holdInputs v l p rs) = idleTrace rs := by
  cases rs with
  | nil => rfl
  | cons r rs =>
    obtain ⟨ho, hv'⟩ := step_view c s v l p false r j e g false false hs hv
    rw [holdInputs_cons, idleTrace_cons]
    simp only [run]
    rw [ho, Gen.step_done _ _ _ hg, beatOf_quiet]
    congr 1
    rw [Gen.step_done _ _ _ hg] at hv'
    simp only [Bool.false_and] at hv'
    exact run_idle c v l p j e hs rs _ _ rfl hv'

/-- generator state while byte `k` of the packet that starts at offset `p` is shown. -/
structure GenInv (e : Entry) (M p k : Nat) (g : Gen.State) : Prop where
  hfsm  : g.fsm = .streaming
  hpos  : g.pos = p + k
  hsent : g.sent = k
  hmax  : g.maxLen = M
  hrom  : g.romData = e.gen.data.getD (p + k) 0

theorem send_loop (c : Config) (v l p j : Nat) (e : Entry) (hs : Selects c v j e) (chunk : List Nat)
    (hp : p < e.gen.len) (hM : curLength c.mps l p < 65536)
    (hn : chunk.length = min (curLength c.mps l p) (e.gen.len - p))
    (hb : ∀ i, i < chunk.length → chunk.getD i 0 = e.gen.data.getD (p + i) 0)
    (rs : List Bool) :
    ∀ (k : Nat) (s : State) (g : Gen.State), k < chunk.length → GenInv e (curLength c.mps l p) p k g →
      View s j g false false → run c s (holdInputs v l p rs) = sendTrace chunk k rs := by
  have hw : e.gen.len - 1 < 2 ^ e.gen.w := lt_two_pow_bitsFor _
  have hpp : p % 2 ^ e.gen.w = p := Nat.mod_eq_of_lt (by omega)
  induction rs with
  | nil => intro k s g _ _ _; rfl
  | cons r rs ih =>
    intro k s g hk inv hv
    obtain ⟨ho, hv'⟩ := step_view c s v l p false r j e g false false hs hv
    simp only [Bool.false_and] at hv'
    rw [holdInputs_cons]
    simp only [run, sendTrace, hk, if_true]
    rw [ho]
    have hlast : Gen.onLast e.gen g = (k + 1 == chunk.length) := by
      unfold Gen.onLast
      rw [inv.hpos, inv.hsent, inv.hmax, Bool.eq_iff_iff]
      simp only [Bool.or_eq_true, beq_iff_eq, decide_eq_true_eq]
      omega
    have hbeat : ∀ r, beatOf (Gen.streamOut e.gen g (genIn c e l p false r)) false
        = ⟨true, k == 0, k + 1 == chunk.length, chunk.getD k 0, false⟩ := by
      intro r
      unfold beatOf Gen.streamOut genIn
      simp only [hlast, hb k hk, inv.hpos, inv.hrom, hpp, Bool.or_false]
      have : (p + k == p) = (k == 0) := by
        rw [Bool.eq_iff_iff]; simp
      rw [this]
    cases r with
    | false =>
      rw [Gen.step_stream_hold _ _ _ inv.hfsm rfl, hbeat]
      simp only [Bool.false_eq_true, if_false]
      congr 1
      rw [Gen.step_stream_hold _ _ _ inv.hfsm rfl] at hv'
      refine ih k _ _ hk ?_ hv'
      exact ⟨inv.hfsm, inv.hpos, inv.hsent, inv.hmax, by
        show e.gen.data.getD g.pos 0 = _
        rw [inv.hpos]⟩
    | true =>
      simp only [if_true]
      by_cases hfin : k + 1 = chunk.length
      · have hl : Gen.onLast e.gen g = true := by rw [hlast]; simp [hfin]
        rw [Gen.step_stream_last _ _ _ inv.hfsm rfl hl, hbeat]
        congr 1
        rw [Gen.step_stream_last _ _ _ inv.hfsm rfl hl] at hv'
        rw [run_done c v l p j e hs rs _ _ rfl hv', sendTrace_done _ _ (by omega)]
      · have hl : Gen.onLast e.gen g = false := by rw [hlast]; simp [hfin]
        rw [Gen.step_stream_next _ _ _ inv.hfsm rfl hl, hbeat]
        congr 1
        rw [Gen.step_stream_next _ _ _ inv.hfsm rfl hl] at hv'
        have hk' : k + 1 < chunk.length := by omega
        have hpos : (p + k + 1) % 2 ^ e.gen.w = p + k + 1 := Nat.mod_eq_of_lt (by omega)
        refine ih (k + 1) _ _ hk' ?_ hv'
        refine ⟨inv.hfsm, ?_, ?_, inv.hmax, ?_⟩
        · show (g.pos + 1) % 2 ^ e.gen.w = p + (k + 1)
          rw [inv.hpos, hpos]; omega
        · show (g.sent + 1) % 65536 = k + 1
          rw [inv.hsent, Nat.mod_eq_of_lt (by omega)]
        · show e.gen.data.getD ((g.pos + 1) % 2 ^ e.gen.w) 0 = _
          rw [inv.hpos, hpos]; rfl

/-- a request inside the descriptor: two quiet cycles (the registered `start`, the generator's
IDLE→STREAMING edge), then the packet. -/
theorem dist_data (c : Config) (s0 : State) (g0 : Gen.State) (v l p j : Nat) (e : Entry)
    (hs : Selects c v j e) (hv : View s0 j g0 false false) (hg0 : g0.fsm = .idle)
    (hfix : ∀ n, e.fixedLen = some n → p < n)
    (hmps : 0 < c.mps) (hmps' : c.mps < 65536) (hl : l < 65536)
    (hp : p < min l e.gen.len) (rs : List Bool) :
    run c s0 (reqInputs v l p rs)
      = delayed 2 (sendTrace (((e.gen.data.take l).drop p).take c.mps) 0) rs := by
  have hM : curLength c.mps l p = min (l - p) c.mps := length_inorder c.mps l p (by omega) hl hmps'
  have hMpos : curLength c.mps l p > 0 := by omega
  have hk0 : 0 < (((e.gen.data.take l).drop p).take c.mps).length := by
    rw [chunk_length]; show 0 < min (min (l - p) c.mps) (e.gen.len - p); omega
  have hw : e.gen.len - 1 < 2 ^ e.gen.w := lt_two_pow_bitsFor _
  have hpp : p % 2 ^ e.gen.w = p := Nat.mod_eq_of_lt (by omega)
  have hpe : pastEnd e p = false := by
    unfold pastEnd
    cases hf : e.fixedLen with
    | none => rfl
    | some n => have := hfix n hf; simp; omega
  have hclamp : ∀ sr r, Gen.clamp e.gen (genIn c e l p sr r) % 2 ^ e.gen.w = p := by
    intro sr r
    unfold Gen.clamp genIn
    simp only [hpp]
    rw [if_neg (by omega), hpp]
  refine run_first c s0 v l p 1 _ (fun r0 => ?_) rs
  obtain ⟨ho0, g1, hv1, hf1, -⟩ := step_view_idle c s0 v l p true r0 j e g0 false false hs hv hg0
  rw [hpe] at hv1
  refine ⟨ho0, run_peel c _ v l p 0 _ fun r1 => ?_⟩
  obtain ⟨ho1, g2, hv2, hf2, hp2, hs2, hm2, hr2⟩ := step_view_idle c _ v l p false r1 j e g1 true false hs hv1 hf1
  rw [hclamp] at hp2 hr2
  refine ⟨ho1, fun rs => ?_⟩
  show run c _ (holdInputs v l p rs) = sendTrace _ 0 rs
  refine send_loop c v l p j e hs _ (by omega) (by omega) ?_ ?_ rs 0 _ g2 hk0
    ⟨by rw [hf2]; simp [hMpos], hp2, hs2, hm2, hr2⟩ hv2
  · rw [chunk_length, hM]; rfl
  · intro i hi
    exact chunk_getD _ _ _ _ _ hi

/-- (repaired code) a fixed descriptor asked for at or past its end: one quiet cycle, then a
single ZLP pulse, then quiet. -/
theorem dist_zlp (c : Config) (s0 : State) (g0 : Gen.State) (v l p j n : Nat) (e : Entry)
    (hs : Selects c v j e) (hv : View s0 j g0 false false) (hg0 : g0.fsm = .idle)
    (hfix : e.fixedLen = some n) (hp : n ≤ p) (rs : List Bool) :
    run c s0 (reqInputs v l p rs) = delayed 1 (pulseTrace zlpBeat) rs := by
  have hpe : pastEnd e p = true := by
    unfold pastEnd; rw [hfix]; simp; omega
  refine run_first c s0 v l p 0 _ (fun r0 => ?_) rs
  obtain ⟨ho0, g1, hv1, hf1, -⟩ := step_view_idle c s0 v l p true r0 j e g0 false false hs hv hg0
  rw [hpe] at hv1
  refine ⟨ho0, fun rs => ?_⟩
  show run c _ (holdInputs v l p rs) = pulseTrace zlpBeat rs
  cases rs with
  | nil => rfl
  | cons r1 rs =>
    obtain ⟨ho, g2, hv2, hf2, -⟩ := step_view_idle c _ v l p false r1 j e g1 false true hs hv1 hf1
    rw [holdInputs_cons]
    simp only [run, pulseTrace]
    rw [ho, beatOf_zlp]
    congr 1
    exact run_idle c v l p j e hs rs _ g2 hf2 hv2

theorem step_none (c : Config) (s : State) (i : In) (h : ∀ e ∈ c.entries, e.key ≠ i.value) :
    (step c s i).2 = ⟨s.sendZlp, false, s.sendZlp, 0, i.start⟩ ∧ (step c s i).1.sendZlp = false := by
  have hn := stepAll_none c i c.entries s.gens h
  constructor <;> simp only [step, hn, mkOut]

theorem run_none_idle (c : Config) (v l p : Nat) (h : ∀ e ∈ c.entries, e.key ≠ v) (rs : List Bool) :
    ∀ s : State, s.sendZlp = false → run c s (holdInputs v l p rs) = idleTrace rs := by
  induction rs with
  | nil => intro s _; rfl
  | cons r rs ih =>
    intro s hz
    obtain ⟨ho, hz'⟩ := step_none c s ⟨v, l, p, false, r⟩ h
    rw [holdInputs_cons, idleTrace_cons]
    simp only [run]
    rw [ho, hz, ih _ hz']
    rfl

theorem dist_stall (c : Config) (s0 : State) (v l p : Nat) (h : ∀ e ∈ c.entries, e.key ≠ v)
    (hz : s0.sendZlp = false) (rs : List Bool) :
    run c s0 (reqInputs v l p rs) = delayed 0 (pulseTrace stallBeat) rs := by
  cases rs with
  | nil => rfl
  | cons r rs =>
    obtain ⟨ho, hz'⟩ := step_none c s0 ⟨v, l, p, true, r⟩ h
    rw [reqInputs_cons]
    simp only [run, delayed, pulseTrace]
    rw [ho, hz, run_none_idle c v l p h rs _ hz']
    rfl

def final (c : Config) : State → List In → State
  | s, [] => s
  | s, i :: is => final c (step c s i).1 is

theorem isRun (c : Config) : IsRun (step c) (run c) (final c) :=
  ⟨fun _ => rfl, fun _ _ _ => rfl, fun _ => rfl, fun _ _ _ => rfl⟩

/-- no request in flight in the distributed handler. -/
def Quiescent (c : Config) (s : State) : Prop :=
  s.sendZlp = false ∧ s.gens.length = c.entries.length ∧ ∀ g ∈ s.gens, g.1.fsm = .idle ∧ g.2 = false

theorem stepAll_gens (c : Config) (i : In) : ∀ (es : List Entry) (gs : List (Gen.State × Bool)),
    (stepAll c i es gs).1 = List.zipWith (fun e g => (stepEntry c i e g).1) es gs := by
  intro es
  induction es with
  | nil => intro gs; rfl
  | cons e es ih =>
    intro gs
    cases gs with
    | nil => rfl
    | cons g gs => simp only [stepAll, List.zipWith_cons_cons, ih]

def Others (c : Config) (v : Nat) (s : State) : Prop :=
  s.gens.length = c.entries.length ∧
  ∀ (k : Nat) (e : Entry) (g : Gen.State × Bool), c.entries[k]? = some e → s.gens[k]? = some g → e.key ≠ v →
    g.1.fsm = .idle ∧ g.2 = false

theorem others_of_quiescent (c : Config) (v : Nat) (s : State) (h : Quiescent c s) : Others c v s :=
  ⟨h.2.1, fun _ _ g _ hg _ => h.2.2 g (List.mem_of_getElem? hg)⟩

theorem step_others (c : Config) (v l p : Nat) (st r : Bool) (s : State) (h : Others c v s) :
    Others c v (step c s ⟨v, l, p, st, r⟩).1 := by
  obtain ⟨hl, ho⟩ := h
  have hg : (step c s ⟨v, l, p, st, r⟩).1.gens
      = List.zipWith (fun e g => (stepEntry c ⟨v, l, p, st, r⟩ e g).1) c.entries s.gens := by
    simp only [step]; exact stepAll_gens c _ _ _
  refine ⟨by rw [hg, List.length_zipWith]; omega, ?_⟩
  intro k e g' he hg' hne
  rw [hg, List.getElem?_zipWith, he] at hg'
  cases hgk : s.gens[k]? with
  | none => rw [hgk] at hg'; simp at hg'
  | some g =>
    rw [hgk] at hg'
    simp only [Option.some.injEq] at hg'
    obtain ⟨hi, hs⟩ := ho k e g he hgk hne
    have hsel : (e.key == v) = false := beq_false_of_ne hne
    subst hg'
    simp only [stepEntry, hsel, Bool.false_and, Bool.false_eq_true, if_false]
    rw [Gen.step_idle _ _ _ hi]
    simp [hs]

theorem final_others (c : Config) (v l p : Nat) (rs : List Bool) : ∀ s, Others c v s →
    Others c v (final c s (holdInputs v l p rs)) := by
  induction rs with
  | nil => intro s h; exact h
  | cons r rs ih =>
    intro s h
    rw [holdInputs_cons]
    exact ih _ (step_others c v l p false r s h)

theorem quiescent_of_others (c : Config) (v : Nat) (s : State) (hz : s.sendZlp = false) (ho : Others c v s)
    (hsel : ∀ (k : Nat) (e : Entry) (g : Gen.State × Bool), c.entries[k]? = some e → s.gens[k]? = some g →
      e.key = v → g.1.fsm = .idle ∧ g.2 = false) : Quiescent c s := by
  refine ⟨hz, ho.1, fun g hg => ?_⟩
  obtain ⟨k, hk⟩ := List.getElem?_of_mem hg
  have hklt : k < c.entries.length := by rw [← ho.1]; exact (List.getElem?_eq_some_iff.mp hk).1
  by_cases hkey : c.entries[k].key = v
  · exact hsel k _ g (List.getElem?_eq_getElem hklt) hk hkey
  · exact ho.2 k _ g (List.getElem?_eq_getElem hklt) hk hkey

theorem settle (c : Config) (s : State) (v l p : Nat) (r : Bool) (j : Nat) (e : Entry) (g : Gen.State) (z : Bool)
    (hs : Selects c v j e) (hv : View s j g false z) (hq : (step c s ⟨v, l, p, false, r⟩).2 = Beat.quiet) :
    ∃ g', View (step c s ⟨v, l, p, false, r⟩).1 j g' false false ∧ g'.fsm = .idle := by
  obtain ⟨ho, hv'⟩ := step_view c s v l p false r j e g false z hs hv
  simp only [Bool.false_and] at hv'
  refine ⟨_, hv', ?_⟩
  rw [ho] at hq
  have hval : ((Gen.step e.gen g (genIn c e l p false r)).2.valid || z) = false := by
    have := congrArg Beat.valid hq
    simpa [beatOf, Beat.quiet] using this
  cases hf : g.fsm with
  | idle => rw [Gen.step_idle _ _ _ hf]; simp [genIn]
  | done => rw [Gen.step_done _ _ _ hf]
  | streaming =>
    exfalso
    have : (Gen.step e.gen g (genIn c e l p false r)).2.valid = true := by
      simp only [Gen.step, hf]
      (repeat' split) <;> rfl
    rw [this] at hval
    simp at hval

theorem reqInputs_snoc (v l p : Nat) (r : Bool) (rs : List Bool) (x : Bool) :
    reqInputs v l p ((r :: rs) ++ [x]) = reqInputs v l p (r :: rs) ++ [⟨v, l, p, false, x⟩] := by
  simp [reqInputs]

theorem holdInputs_snoc (v l p : Nat) (rs : List Bool) (x : Bool) :
    holdInputs v l p (rs ++ [x]) = holdInputs v l p rs ++ [⟨v, l, p, false, x⟩] := by
  simp [holdInputs]

theorem final_quiet_sel (c : Config) (s0 : State) (v l p lat j : Nat) (e : Entry) (r : Response)
    (r0 y x : Bool) (mid : List Bool)
    (hQ : Quiescent c s0) (hs : Selects c v j e)
    (huniq : ∀ (k : Nat) (e' : Entry), k ≠ j → c.entries[k]? = some e' → e'.key ≠ v)
    (hc : Complete lat r (r0 :: (mid ++ [y])))
    (htrace : run c s0 (reqInputs v l p (r0 :: (mid ++ [y]) ++ [x])) = respTrace lat r (r0 :: (mid ++ [y]) ++ [x])) :
    Quiescent c (final c s0 (reqInputs v l p (r0 :: (mid ++ [y]) ++ [x]))) := by
  rw [respTrace_snoc r x lat _ hc, reqInputs_snoc] at htrace
  have hq := (isRun c).run_snoc_last s0 _ _ _ _ htrace
  rw [reqInputs_snoc, (isRun c).final_append]
  have hA : reqInputs v l p (r0 :: (mid ++ [y])) = reqInputs v l p (r0 :: mid) ++ [⟨v, l, p, false, y⟩] :=
    reqInputs_snoc v l p r0 mid y
  rw [hA, (isRun c).final_append] at hq ⊢
  generalize hB : final c s0 (reqInputs v l p (r0 :: mid)) = sB at hq ⊢
  have hoB : Others c v sB := by
    rw [← hB, reqInputs_cons]
    exact final_others c v l p mid _ (step_others c v l p true r0 s0 (others_of_quiescent c v s0 hQ))
  simp only [final] at hq ⊢
  have hjlt : j < sB.gens.length := by
    rw [hoB.1]; exact (List.getElem?_eq_some_iff.mp hs.hget).1
  obtain ⟨⟨gB, srB⟩, hgB⟩ : ∃ g, sB.gens[j]? = some g := ⟨sB.gens[j], List.getElem?_eq_getElem hjlt⟩
  have hvB : View sB j gB srB sB.sendZlp := ⟨hgB, rfl⟩
  have hvA := (step_view c sB v l p false y j e gB srB sB.sendZlp hs hvB).2
  simp only [Bool.false_and] at hvA
  obtain ⟨g', hv', hidle⟩ := settle c _ v l p x j e _ false hs hvA hq
  have hoF := step_others c v l p false x _ (step_others c v l p false y sB hoB)
  refine quiescent_of_others c v _ hv'.hz hoF fun k e' g he hk hkey => ?_
  by_cases hkj : k = j
  · subst hkj
    rw [hv'.hg] at hk
    injection hk with hk
    subst hk
    exact ⟨hidle, rfl⟩
  · exact absurd hkey (huniq k e' hkj he)

theorem final_quiet_none (c : Config) (s0 : State) (v l p : Nat) (r0 : Bool) (rs : List Bool)
    (hQ : Quiescent c s0) (hnone : ∀ e ∈ c.entries, e.key ≠ v) :
    Quiescent c (final c s0 (reqInputs v l p (r0 :: rs))) := by
  rw [reqInputs_cons]
  simp only [final]
  have ho := final_others c v l p rs _ (step_others c v l p true r0 s0 (others_of_quiescent c v s0 hQ))
  have hz : ∀ (rs : List Bool) (s : State), s.sendZlp = false → (final c s (holdInputs v l p rs)).sendZlp = false := by
    intro rs
    induction rs with
    | nil => intro s h; exact h
    | cons r rs ih =>
      intro s _
      rw [holdInputs_cons]
      exact ih _ (step_none c s ⟨v, l, p, false, r⟩ hnone).2
  exact quiescent_of_others c v _ (hz rs _ (step_none c s0 ⟨v, l, p, true, r0⟩ hnone).2) ho
    fun k e g he _ hkey => absurd hkey (hnone e (List.mem_of_getElem? he))

theorem Quiescent.view {c : Config} {s : State} (h : Quiescent c s) {v j : Nat} {e : Entry} (hs : Selects c v j e) :
    ∃ g, g.fsm = .idle ∧ View s j g false false := by
  have hjlt : j < s.gens.length := by rw [h.2.1]; exact (List.getElem?_eq_some_iff.mp hs.hget).1
  obtain ⟨hgi, hsr⟩ := h.2.2 s.gens[j] (List.getElem_mem hjlt)
  exact ⟨s.gens[j].1, hgi, by rw [List.getElem?_eq_getElem hjlt]; exact congrArg some (Prod.ext rfl hsr), h.1⟩

end Dist

theorem find_index (coll : List Descr) (P : Descr → Bool) (d : Descr) (h : coll.find? P = some d) :
    ∃ j : Nat, coll[j]? = some d ∧ P d = true ∧ ∀ (k : Nat) (e : Descr), k < j → coll[k]? = some e → P e = false := by
  obtain ⟨hP, j, hj, rfl, hbefore⟩ := List.find?_eq_some_iff_getElem.mp h
  refine ⟨j, List.getElem?_eq_getElem hj, hP, fun k e hk he => ?_⟩
  obtain ⟨hkl, rfl⟩ := List.getElem?_eq_some_iff.mp he
  simpa using hbefore k hk

theorem key_ne_of_not_match (e : Descr) (ty idx : Nat) (hi : idx < 256) (he : e.idx < 256)
    (h : (e.ty == ty && e.idx == idx) = false) : key e ≠ ty * 256 + idx := by
  intro hk
  unfold key at hk
  have : e.ty = ty ∧ e.idx = idx := by omega
  simp [this.1, this.2] at h

theorem dist_selects (coll : Collection) (F : Descr → Dist.Entry) (hF : ∀ d, (F d).key = key d) (mps ty idx : Nat)
    (hidx : idx < 256) (hwf : ∀ d ∈ coll, d.idx < 256) (d : Descr) (hf : find? coll ty idx = some d) :
    ∃ j, coll[j]? = some d ∧ key d = ty * 256 + idx ∧ Dist.Selects ⟨coll.map F, mps⟩ (ty * 256 + idx) j (F d) := by
  obtain ⟨j, hj, hP, hbefore⟩ := find_index coll _ d hf
  have hkey : key d = ty * 256 + idx := by
    simp only [Bool.and_eq_true, beq_iff_eq] at hP
    unfold key; rw [hP.1, hP.2]
  refine ⟨j, hj, hkey, ?_, by rw [hF]; exact hkey, fun k e' hk hget => ?_⟩
  · show (coll.map F)[j]? = _
    rw [List.getElem?_map, hj]; rfl
  · have hget' : (coll.map F)[k]? = some e' := hget
    rw [List.getElem?_map] at hget'
    obtain ⟨d', hck, rfl⟩ := Option.map_eq_some_iff.mp hget'
    rw [hF]
    exact key_ne_of_not_match d' ty idx hidx (hwf d' (List.mem_of_getElem? hck)) (hbefore k d' hk hck)

theorem dist_unique (coll : Collection) (F : Descr → Dist.Entry) (hF : ∀ d, (F d).key = key d)
    (hn : (coll.map key).Nodup) (j : Nat) (d : Descr) (hj : coll[j]? = some d) :
    ∀ (k : Nat) (e' : Dist.Entry), k ≠ j → (coll.map F)[k]? = some e' → e'.key ≠ key d := by
  intro k e' hkj hget
  rw [List.getElem?_map] at hget
  obtain ⟨d', hck, rfl⟩ := Option.map_eq_some_iff.mp hget
  rw [hF]
  intro heq
  have h1 : (coll.map key)[k]? = (coll.map key)[j]? := by
    rw [List.getElem?_map, List.getElem?_map, hck, hj]; simp [heq]
  have hklt : k < (coll.map key).length := by
    rw [List.length_map]; exact (List.getElem?_eq_some_iff.mp hck).1
  exact hkj ((List.getElem?_inj hklt hn).mp h1)

theorem dist_selects_none (coll : Collection) (F : Descr → Dist.Entry) (hF : ∀ d, (F d).key = key d)
    (ty idx : Nat) (hidx : idx < 256) (hwf : ∀ d ∈ coll, d.idx < 256)
    (hf : find? coll ty idx = none) : ∀ e ∈ coll.map F, e.key ≠ ty * 256 + idx := by
  intro e' he'
  rw [List.mem_map] at he'
  obtain ⟨d', hd', rfl⟩ := he'
  have := List.find?_eq_none.mp hf d' hd'
  rw [hF]
  exact key_ne_of_not_match d' ty idx hidx (hwf d' hd') (by simpa using this)

end LunaVerif.Desc
