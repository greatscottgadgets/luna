import LunaVerif.Props.C06
/-!
# C06 — packet-level lemmas about the three components of the SETUP decoder composition

* the token detector over one arbitrary packet (`tok_packet`): wait cycles are invisible to it (`tok_slots`), so
  what a packet does to it is a fold over the bytes (`tokBytes_end`): a packet is a token iff it is exactly a token
  PID and two bytes with a correct CRC5 (`tokenOf`); `new_token` fires iff moreover it is not a SOF and carries our
  address (`tokSpec`);
* the deserializer over one arbitrary packet (`capture_general`, `dsMid_end`): `DsMid` says what it holds when the
  bytes `bs` of a packet have arrived; behind a data PID the end-of-packet CRC comparison registers (`Stale`, never
  cleared) are `captureRegs` of the first 10 bytes, and `new_packet` fires iff at most 10 came and they agree
  (`dsStrobes`, `dsNew`);
* the decoder between strobes: over any stretch of `rx_active` cycles nothing happens and `armedB` stands still
  (`calm_step`, `calm_active_run`);
* the three together over the `rx_active` phase of any packet from a boundary and the first idle cycle after it
  (`active_phase`), on which `nondata_packet_silent`, `garbage_keeps_boundary` and `packet_exact` rest;
* the decoder with the line idle (`Rest`, `at_idles`, `delay_timed`) and in the cycle a deserializer strobe is seen
  (`strobe_tail`), with cycle-indexed traces (`ttrace`);
* every packet leaves a packet boundary behind (`settle`, `garbage_keeps_boundary`).
-/
namespace LunaVerif.SetupDecoder
open LunaVerif.Utmi LunaVerif.DataCrc LunaVerif.Crc

/-! ## Token detector, packet level -/

def tokenOf : List Nat → Option (Nat × Nat)
  | [tp, b1, b2] =>
    if isTokenPid tp && ((b2 / 8) % 32 == usb2Crc5 (b1 % 256 + 256 * (b2 % 8))) then
      some (tp % 16, b1 % 256 + 256 * (b2 % 8))
    else none
  | _ => none

/-- effect of a packet on the detector's `pid` output and its `new_token` strobe -/
def tokSpec (addr pid : Nat) (bs : List Nat) : Nat × Bool :=
  match tokenOf bs with
  | some (p4, d11) =>
    if p4 = SOF_PID then (pid, false) else if d11 % 128 = addr then (p4, true) else (0, false)
  | none => (pid, false)

theorem tok_active_keeps (c : Config) (s : State) (i : RxCycle) (ha : i.active = true) :
    (step c s i).1.tok.pid = s.tok.pid ∧ (step c s i).1.tok.newToken = false :=
  ⟨(tokStep_active c.addr s.tok i ha).1, (tokStep_active c.addr s.tok i ha).2.1⟩

theorem tok_active_run_pid (c : Config) (h : List RxCycle) (s : State) (ha : ∀ i ∈ h, i.active = true) :
    (final c s h).tok.pid = s.tok.pid :=
  invariant_run c (·.tok.pid = s.tok.pid) (·.active = true) (fun s' i ha h => (tok_active_keeps c s' i ha).1.trans h)
    h s ha rfl

theorem tok_active_run_keeps (c : Config) (h : List RxCycle) (s : State) (ha : ∀ i ∈ h, i.active = true)
    (hn : s.tok.newToken = false) :
    (final c s h).tok.pid = s.tok.pid ∧ (final c s h).tok.newToken = false := by
  exact ⟨tok_active_run_pid c h s ha,
    invariant_run c (·.tok.newToken = false) (·.active = true) (fun s i ha _ => (tok_active_keeps c s i ha).2) h s ha hn⟩

/-- the detector over the bytes of a packet, their timing left out -/
def tokBytes (addr : Nat) (t : Tok) (bytes : List Nat) : Tok :=
  bytes.foldl (fun t b => tokStep addr t (byteC b)) t

theorem tok_waits (c : Config) (ws : List Nat) (s : State) (h : s.tok.fsm ≠ .idle) (hn : s.tok.newToken = false) :
    (final c s (ws.map waitC)).tok = s.tok :=
  invariant_run c (·.tok = s.tok) (∃ d, · = waitC d)
    (fun s' _ ⟨d, e⟩ h' => by rw [e, step_tok, h']; exact tokStep_wait c.addr s.tok d h hn) _ s
    (mem_waits ws) rfl

theorem tok_slots (c : Config) (slots : List (Nat × List Nat)) (s : State) (h : s.tok.fsm ≠ .idle)
    (hn : s.tok.newToken = false) :
    (final c s (renderSlots slots)).tok = tokBytes c.addr s.tok (slots.map (·.1)) := by
  induction slots generalizing s with
  | nil => rfl
  | cons x rest ih =>
    obtain ⟨b, ws⟩ := x
    obtain ⟨_, h2, h1⟩ := tokStep_active c.addr s.tok (byteC b) rfl
    have h3 := tok_waits c ws (step c s (byteC b)).1 h1 h2
    rw [renderSlots, final, final_append, ih _ (by rw [h3]; exact h1) (by rw [h3]; exact h2), h3]
    rfl

theorem tokBytes_irrelevant (addr : Nat) (bytes : List Nat) (t : Tok) (h : t.fsm = .irrelevant) :
    (tokBytes addr t bytes).fsm = .irrelevant ∧ (tokBytes addr t bytes).pid = t.pid := by
  induction bytes generalizing t with
  | nil => exact ⟨h, rfl⟩
  | cons b bs ih =>
    have e : tokStep addr t (byteC b) = { t with newToken := false } := by simp [tokStep, h, byteC]
    rw [tokBytes, List.foldl_cons, e]
    exact ih _ h

theorem tokBytes_end (addr : Nat) (t : Tok) (bytes : List Nat) (g : Nat) (ht : t.fsm = .readPid) :
    ((tokStep addr (tokBytes addr t bytes) (idleC g)).pid, (tokStep addr (tokBytes addr t bytes) (idleC g)).newToken)
      = tokSpec addr t.pid bytes := by
  match bytes with
  | [] => simp [tokBytes, tokStep, ht, idleC, tokSpec, tokenOf]
  | [tp] => by_cases htp : isTokenPid tp = true <;> simp [tokBytes, tokStep, ht, byteC, idleC, tokSpec, tokenOf, htp]
  | [tp, b1] =>
    by_cases htp : isTokenPid tp = true <;> simp [tokBytes, tokStep, ht, byteC, idleC, tokSpec, tokenOf, htp]
  | [tp, b1, b2] =>
    by_cases htp : isTokenPid tp = true
    · by_cases hcrc : (b2 / 8) % 32 = usb2Crc5 (b1 % 256 + 256 * (b2 % 8))
      · by_cases hsof : tp % 16 = SOF_PID
        · simp [tokBytes, tokStep, ht, byteC, idleC, tokSpec, tokenOf, htp, hcrc, hsof]
        · by_cases hadr : (b1 % 256 + 256 * (b2 % 8)) % 128 = addr <;>
            simp [tokBytes, tokStep, ht, byteC, idleC, tokSpec, tokenOf, htp, hcrc, hsof, hadr]
      · simp [tokBytes, tokStep, ht, byteC, idleC, tokSpec, tokenOf, htp, hcrc]
    · simp [tokBytes, tokStep, ht, byteC, idleC, tokSpec, tokenOf, htp]
  | tp :: b1 :: b2 :: b3 :: rest =>
    -- a fourth byte: IRRELEVANT for the rest of the packet
    have h4 : (tokBytes addr t [tp, b1, b2, b3]).fsm = .irrelevant ∧ (tokBytes addr t [tp, b1, b2, b3]).pid = t.pid := by
      by_cases htp : isTokenPid tp = true
      · by_cases hcrc : (b2 / 8) % 32 = usb2Crc5 (b1 % 256 + 256 * (b2 % 8)) <;>
          simp [tokBytes, tokStep, ht, byteC, htp, hcrc]
      · simp [tokBytes, tokStep, ht, byteC, htp]
    have e : tokBytes addr t (tp :: b1 :: b2 :: b3 :: rest) = tokBytes addr (tokBytes addr t [tp, b1, b2, b3]) rest := rfl
    obtain ⟨h5, h6⟩ := tokBytes_irrelevant addr rest _ h4.1
    rw [e]
    simp [tokStep, h5, h6, h4.2, idleC, tokSpec, tokenOf]

/-- **The token detector over one packet** (from IDLE, through the packet and the first idle cycle):
back in IDLE, and `pid` / `new_token` are exactly what the packet-level `tokSpec` says — the packet is a token iff
it is exactly a token PID and two bytes with a correct CRC5 (`tokenOf`); a SOF changes nothing, a token for another
address clears `pid` without a strobe, a token of ours sets `pid` and strobes. -/
theorem tok_packet (c : Config) (s : State) (d g : Nat) (ds : List Nat) (slots : List (Nat × List Nat))
    (hs : s.tok.fsm = .idle) :
    (final c s ((d :: ds).map waitC ++ (renderSlots slots ++ [idleC g]))).tok.fsm = .idle ∧
    ((final c s ((d :: ds).map waitC ++ (renderSlots slots ++ [idleC g]))).tok.pid,
     (final c s ((d :: ds).map waitC ++ (renderSlots slots ++ [idleC g]))).tok.newToken)
      = tokSpec c.addr s.tok.pid (slots.map (·.1)) := by
  have h0 : (final c s ((d :: ds).map waitC)).tok = { s.tok with newToken := false, fsm := .readPid } := by
    have e := tokStep_idle hs c.addr (waitC d)
    rw [List.map_cons, final, tok_waits c ds _ (by rw [step_tok, e]; simp [waitC]) (by rw [step_tok, e]), step_tok, e]
    rfl
  have h1 := tok_slots c slots (final c s ((d :: ds).map waitC)) (by rw [h0]; simp) (by rw [h0])
  rw [final_append, final_append, final, final, step_tok, h1, h0]
  exact ⟨tokStep_inactive _ _ _ rfl, tokBytes_end c.addr _ _ g rfl⟩

/-! ## Deserializer, packet level -/

/-- capturing byte `b` after the bytes `pre` of the same packet -/
def capStep (st : Stale) (pre : List Nat) (b : Nat) : Stale :=
  ⟨(st.lw / 256) % 256 + 256 * b, st.lbc, usb2Crc16 pre⟩

/-- the registers after capturing the bytes `bs`, `pre` being the bytes captured before them -/
def captureRegs : Stale → List Nat → List Nat → Stale
  | st, _, [] => st
  | st, pre, b :: bs => captureRegs (capStep st pre b) (pre ++ [b]) bs

theorem captureRegs_snoc (st : Stale) (pre bs : List Nat) (b : Nat) :
    captureRegs st pre (bs ++ [b]) = capStep (captureRegs st pre bs) (pre ++ bs) b := by
  induction bs generalizing st pre with
  | nil => simp [captureRegs]
  | cons x xs ih => simp [captureRegs, ih]

/-- with at least two bytes captured nothing stale is left: last word = the last two bytes, the CRC
snapshots are those of the bytes before them -/
theorem captureRegs_fresh (st : Stale) (m : List Nat) (lo hi : Nat) (hlo : lo < 256) :
    captureRegs st [] (m ++ [lo, hi]) = ⟨lo + 256 * hi, usb2Crc16 m, usb2Crc16 (m ++ [lo])⟩ := by
  have e : m ++ [lo, hi] = (m ++ [lo]) ++ [hi] := by simp
  rw [e, captureRegs_snoc, captureRegs_snoc]
  simp only [capStep, List.nil_append, Stale.mk.injEq, and_true]
  omega

/-- **When exactly the deserializer's `new_packet` fires**: for a data packet with the bytes `bs`
after its PID, iff at most 10 bytes came and the comparison registers — `captureRegs` of those
bytes, starting from whatever earlier data packets left — agree. -/
def dsStrobes (st : Stale) (bs : List Nat) : Bool :=
  decide (bs.length ≤ 10) &&
    ((captureRegs st [] (bs.take 10)).lwc == (captureRegs st [] (bs.take 10)).lw)

/-- CAPTURE_DATA after the bytes `pre` of the current packet -/
structure CapG (s : State) (pre : List Nat) : Prop where
  hfsm : s.ds.fsm = .capture
  hpos : s.ds.position = pre.length
  hbuf : s.ds.activePacket.take pre.length = pre
  hcrc : s.crc = usb2Crc16Reg pre
  hlen : s.ds.activePacket.length = 10

theorem capG_pid (c : Config) (s : State) (pid : Nat) (hs : s.ds.fsm = .readPid) (hp : isDataPid pid = true)
    (hl : s.ds.activePacket.length = 10) :
    CapG (step c s (byteC pid)).1 [] ∧ staleOf (step c s (byteC pid)).1 = staleOf s := by
  refine ⟨⟨?_, ?_, ?_, ?_, apLen_step c s _ hl⟩, ?_⟩ <;>
    simp [step, deserStep, hs, byteC, hp, DataCrc.next, reg_nil, staleOf]

theorem capG_wait (c : Config) (s : State) (pre : List Nat) (d : Nat) (h : CapG s pre) :
    CapG (step c s (waitC d)).1 pre ∧ staleOf (step c s (waitC d)).1 = staleOf s := by
  refine ⟨⟨?_, ?_, ?_, ?_, apLen_step c s _ h.hlen⟩, ?_⟩ <;>
    simp [step, deserStep, h.hfsm, waitC, h.hpos, h.hbuf, DataCrc.next, h.hcrc, staleOf]

theorem take_set_succ (l : List Nat) (n x : Nat) (h : n < l.length) :
    (l.set n x).take (n + 1) = l.take n ++ [x] := by
  induction l generalizing n with
  | nil => simp at h
  | cons a l ih =>
    cases n with
    | zero => simp
    | succ n => simp at h; simp [ih n h]

theorem capG_byte (c : Config) (s : State) (pre : List Nat) (b : Nat) (hb : b < 256) (hroom : pre.length < 10)
    (h : CapG s pre) :
    CapG (step c s (byteC b)).1 (pre ++ [b]) ∧
      staleOf (step c s (byteC b)).1 = capStep (staleOf s) pre b := by
  have hge : ¬ (10 ≤ s.ds.position) := by rw [h.hpos]; omega
  have e : (step c s (byteC b)).1.ds =
      { s.ds with newPacket := false, activePacket := s.ds.activePacket.set s.ds.position b,
                  position := (s.ds.position + 1) % 16, lastWord := (s.ds.lastWord / 256) % 256 + 256 * b,
                  lastWordCrc := s.ds.lastByteCrc, lastByteCrc := output s.crc } := by
    simp [step_ds, deserStep, h.hfsm, byteC, hge, Nat.mod_eq_of_lt hb]
  have ec : (step c s (byteC b)).1.crc = update s.crc b := by simp [step, byteC, DataCrc.next, h.hfsm]
  refine ⟨⟨by rw [e]; exact h.hfsm, ?_, ?_, by rw [ec, h.hcrc, ← reg_snoc], apLen_step c s _ h.hlen⟩, ?_⟩
  · rw [e, List.length_append]
    show (s.ds.position + 1) % 16 = pre.length + 1
    rw [h.hpos]; omega
  · rw [e, List.length_append]
    show (s.ds.activePacket.set s.ds.position b).take (pre.length + 1) = pre ++ [b]
    rw [h.hpos, take_set_succ _ _ _ (by rw [h.hlen]; omega), h.hbuf]
  · rw [staleOf, e, capStep, staleOf, h.hcrc, output_reg]

theorem capG_over (c : Config) (s : State) (pre : List Nat) (b : Nat) (hfull : pre.length = 10) (h : CapG s pre) :
    (step c s (byteC b)).1.ds.fsm = .irrelevant ∧ staleOf (step c s (byteC b)).1 = staleOf s := by
  constructor <;> simp [step, deserStep, h.hfsm, byteC, h.hpos, hfull, staleOf]

theorem capG_end (c : Config) (s : State) (pre : List Nat) (g : Nat) (h : CapG s pre) :
    staleOf (step c s (idleC g)).1 = staleOf s ∧
    (step c s (idleC g)).1.ds.newPacket = ((staleOf s).lwc == (staleOf s).lw) ∧
    ((staleOf s).lwc = (staleOf s).lw →
      (step c s (idleC g)).1.ds.length = (pre.length + 14) % 16 ∧
      (step c s (idleC g)).1.ds.packet = s.ds.activePacket.take 8) := by
  by_cases he : s.ds.lastWordCrc = s.ds.lastWord
  · refine ⟨?_, ?_, fun _ => ⟨?_, ?_⟩⟩ <;> simp [step, deserStep, h.hfsm, idleC, staleOf, he, h.hpos]
  · refine ⟨?_, ?_, fun h' => absurd h' he⟩ <;> simp [step, deserStep, h.hfsm, idleC, staleOf, he]

/-- The deserializer and the CRC unit inside a packet of which the bytes `bs` have arrived, the comparison registers
having been `st` when it began: READ_PID before the PID byte; behind a data PID CAPTURE_DATA while at most 10 bytes
have come and IRRELEVANT from the eleventh on; IRRELEVANT behind any other PID. -/
inductive DsMid (st : Stale) (s : State) : List Nat → Prop
  | pid : s.ds.fsm = .readPid → s.ds.activePacket.length = 10 → staleOf s = st → DsMid st s []
  | other {pid : Nat} {rest : List Nat} : isDataPid pid = false → s.ds.fsm = .irrelevant → staleOf s = st →
      DsMid st s (pid :: rest)
  | cap {pid : Nat} {rest : List Nat} : isDataPid pid = true → rest.length ≤ 10 → CapG s rest →
      staleOf s = captureRegs st [] rest → DsMid st s (pid :: rest)
  | over {pid : Nat} {rest : List Nat} : isDataPid pid = true → 10 < rest.length → s.ds.fsm = .irrelevant →
      staleOf s = captureRegs st [] (rest.take 10) → DsMid st s (pid :: rest)

theorem ds_irrelevant (c : Config) (s : State) (i : RxCycle) (ha : i.active = true) (hf : s.ds.fsm = .irrelevant) :
    (step c s i).1.ds.fsm = .irrelevant ∧ staleOf (step c s i).1 = staleOf s :=
  ⟨by simp [step, deserStep, hf, ha], stale_not_capture c _ _ (by rw [hf]; decide)⟩

theorem dsMid_wait (c : Config) (st : Stale) (s : State) (bs : List Nat) (d : Nat) (h : DsMid st s bs) :
    DsMid st (step c s (waitC d)).1 bs := by
  cases h with
  | pid hf hl hst =>
    exact .pid (by simp [step, deserStep, hf, waitC]) (apLen_step c s _ hl)
      ((stale_not_capture c s _ (by rw [hf]; decide)).trans hst)
  | other hp hf hst => exact .other hp (ds_irrelevant c s _ rfl hf).1 ((ds_irrelevant c s _ rfl hf).2.trans hst)
  | cap hp hfit h hst => exact .cap hp hfit (capG_wait c s _ d h).1 ((capG_wait c s _ d h).2.trans hst)
  | over hp hlen hf hst => exact .over hp hlen (ds_irrelevant c s _ rfl hf).1 ((ds_irrelevant c s _ rfl hf).2.trans hst)

theorem dsMid_byte (c : Config) (st : Stale) (s : State) (bs : List Nat) (b : Nat)
    (hb : ∀ pid rest, bs = pid :: rest → isDataPid pid = true → b < 256) (h : DsMid st s bs) :
    DsMid st (step c s (byteC b)).1 (bs ++ [b]) := by
  cases h with
  | pid hf hl hst =>
    cases hp : isDataPid b with
    | true => exact .cap hp (Nat.zero_le _) (capG_pid c s b hf hp hl).1 ((capG_pid c s b hf hp hl).2.trans hst)
    | false =>
      exact .other hp (by simp [step, deserStep, hf, byteC, hp]) ((stale_not_capture c s _ (by rw [hf]; decide)).trans hst)
  | other hp hf hst => exact .other hp (ds_irrelevant c s _ rfl hf).1 ((ds_irrelevant c s _ rfl hf).2.trans hst)
  | @cap pid rest hp hfit h hst =>
    by_cases hroom : rest.length < 10
    · obtain ⟨h1, e1⟩ := capG_byte c s rest b (hb pid rest rfl hp) hroom h
      exact .cap (rest := rest ++ [b]) hp (by simp; omega) h1 (by rw [captureRegs_snoc, e1, hst]; rfl)
    · -- the eleventh byte: IRRELEVANT
      obtain ⟨h1, e1⟩ := capG_over c s rest b (by omega) h
      exact .over (rest := rest ++ [b]) hp (by simp; omega) h1
        (by rw [e1, hst, List.take_append_of_le_length (by omega), List.take_of_length_le hfit])
  | @over pid rest hp hlen hf hst =>
    exact .over (rest := rest ++ [b]) hp (by simp; omega) (ds_irrelevant c s _ rfl hf).1
      (by rw [(ds_irrelevant c s _ rfl hf).2, hst, List.take_append_of_le_length (by omega)])

theorem dsMid_slots (c : Config) (st : Stale) (sl : List (Nat × List Nat)) (s : State) (bs : List Nat)
    (hb : ∀ pid rest, bs ++ sl.map (·.1) = pid :: rest → isDataPid pid = true → ∀ b ∈ rest, b < 256)
    (h : DsMid st s bs) : DsMid st (final c s (renderSlots sl)) (bs ++ sl.map (·.1)) := by
  induction sl generalizing s bs with
  | nil => simpa [renderSlots, final] using h
  | cons x rest ih =>
    obtain ⟨b, ws⟩ := x
    have h1 := dsMid_byte c st s bs b (fun pid r e hp => hb pid (r ++ b :: rest.map (·.1)) (by simp [e]) hp b (by simp)) h
    have h2 : DsMid st (final c (step c s (byteC b)).1 (ws.map waitC)) (bs ++ [b]) :=
      invariant_run c (DsMid st · (bs ++ [b])) (∃ d, · = waitC d) (fun s' _ ⟨d, e⟩ h' => e ▸ dsMid_wait c st s' _ d h') _ _
        (mem_waits ws) h1
    have := ih _ (bs ++ [b]) (fun pid r e hp => hb pid r (by simpa using e) hp) h2
    simpa [renderSlots, final, final_append] using this

/-- **The deserializer over the `rx_active` phase of any packet**, from IDLE: lead-in and byte slots, any timing;
8-bit bytes are needed only behind a data PID. -/
theorem capture_general (c : Config) (d : Nat) (ds : List Nat) (slots : List (Nat × List Nat)) (s : State)
    (hs : s.ds.fsm = .idle) (hl : s.ds.activePacket.length = 10)
    (hb : ∀ pid rest, slots.map (·.1) = pid :: rest → isDataPid pid = true → ∀ b ∈ rest, b < 256) :
    DsMid (staleOf s) (final c s ((d :: ds).map waitC ++ renderSlots slots)) (slots.map (·.1)) := by
  rw [final_append]
  exact dsMid_slots c _ slots _ [] hb <|
    invariant_run c (DsMid (staleOf s) · []) (∃ d, · = waitC d) (fun s' _ ⟨d, e⟩ h' => e ▸ dsMid_wait c _ s' [] d h')
      (ds.map waitC) (step c s (waitC d)).1 (mem_waits ds)
      (.pid (by simp [step, deserStep, hs, waitC]) (apLen_step c s _ hl) (stale_not_capture c s _ (by rw [hs]; decide)))

def dsNew (st : Stale) : List Nat → Bool
  | [] => false
  | pid :: rest => isDataPid pid && dsStrobes st rest

def dsRegs (st : Stale) : List Nat → Stale
  | [] => st
  | pid :: rest => if isDataPid pid then captureRegs st [] (rest.take 10) else st

theorem DsMid.stale {st : Stale} {s : State} {bs : List Nat} (h : DsMid st s bs) : staleOf s = dsRegs st bs := by
  cases h with
  | pid _ _ hst => exact hst
  | other hp _ hst => rw [hst, dsRegs, hp]; rfl
  | cap hp hfit _ hst => rw [hst, dsRegs, hp, List.take_of_length_le hfit]; rfl
  | over hp _ _ hst => rw [hst, dsRegs, hp]; rfl

/-- out of READ_PID and IRRELEVANT the end of the packet latches nothing -/
theorem ds_end_quiet (c : Config) (s : State) (g : Nat) (hnc : s.ds.fsm ≠ .capture) :
    staleOf (step c s (idleC g)).1 = staleOf s ∧ (step c s (idleC g)).1.ds.newPacket = false :=
  ⟨stale_not_capture c s _ hnc, (deserStep_inactive s.ds _ _ rfl).2 hnc⟩

theorem dsMid_end (c : Config) (st : Stale) (s : State) (bs : List Nat) (g : Nat) (h : DsMid st s bs) :
    staleOf (step c s (idleC g)).1 = staleOf s ∧ (step c s (idleC g)).1.ds.newPacket = dsNew st bs ∧
    (dsNew st bs = true →
      (step c s (idleC g)).1.ds.length = (bs.tail.length + 14) % 16 ∧
      (bs.tail.length = 10 → (step c s (idleC g)).1.ds.packet = bs.tail.take 8)) := by
  cases h with
  | pid hf _ _ =>
    obtain ⟨k1, k2⟩ := ds_end_quiet c s g (by rw [hf]; decide)
    exact ⟨k1, k2, fun h => absurd h (by simp [dsNew])⟩
  | other hp hf _ =>
    obtain ⟨k1, k2⟩ := ds_end_quiet c s g (by rw [hf]; decide)
    exact ⟨k1, by simp [dsNew, hp, k2], fun h => absurd h (by simp [dsNew, hp])⟩
  | @over pid rest hp hlen hf _ =>
    obtain ⟨k1, k2⟩ := ds_end_quiet c s g (by rw [hf]; decide)
    have hn : dsNew st (pid :: rest) = false := by simp [dsNew, dsStrobes, Nat.not_le.2 hlen]
    exact ⟨k1, k2.trans hn.symm, fun h => absurd (hn.symm.trans h) (by simp)⟩
  | @cap pid rest hp hfit h hst =>
    obtain ⟨k1, k2, k3⟩ := capG_end c s rest g h
    have hn : dsNew st (pid :: rest) = ((captureRegs st [] rest).lwc == (captureRegs st [] rest).lw) := by
      simp [dsNew, hp, dsStrobes, hfit, List.take_of_length_le hfit]
    rw [hst] at k2 k3
    refine ⟨k1, k2.trans hn.symm, fun hn' => ?_⟩
    obtain ⟨l3, p3⟩ := k3 (by simpa [hn] using hn')
    exact ⟨l3, fun h10 => by rw [p3, List.tail_cons, ← h.hbuf, List.take_take]; simp only [List.tail_cons] at h10; rw [h10]; rfl⟩

theorem dsNew_data {st : Stale} {bs : List Nat} (h : dsNew st bs = true) :
    ∃ pid rest, bs = pid :: rest ∧ isDataPid pid = true ∧ rest.length ≤ 10 := by
  match bs, h with
  | pid :: rest, h =>
    simp only [dsNew, dsStrobes, Bool.and_eq_true, decide_eq_true_eq] at h
    exact ⟨pid, rest, rfl, h.1, h.2.1⟩

theorem dsNew_nondata {st : Stale} {bs : List Nat} (h : ¬ ∃ pid rest, bs = pid :: rest ∧ isDataPid pid = true) :
    dsNew st bs = false :=
  Bool.eq_false_iff.2 fun hn => h (let ⟨pid, rest, e, hp, _⟩ := dsNew_data hn; ⟨pid, rest, e, hp⟩)

/-! ## The decoder between strobes -/

/-- `Boundary`-level notion of "a SETUP token of ours is the last token event and no deserializer
strobe came since": the detector's PID is SETUP and the decoder is in READ_DATA or about to enter it -/
def armedB (s : State) : Bool :=
  s.tok.pid == SETUP_PID && (s.dec.fsm == .readData || s.tok.newToken)

/-- Without a deserializer strobe the timer counts on (up to its saturation). -/
theorem counter_counts (c : Config) (s : State) (i : RxCycle) (h : s.ds.newPacket = false) :
    min (s.counter + 1) (c.counterMax + 1) ≤ (step c s i).1.counter := by
  rw [step_counter, counterNext, h]
  simp only [Bool.false_eq_true, if_false]
  split <;> omega

/-- One cycle without a deserializer strobe and outside INTERPACKET_DELAY: nothing is caused, the decoder stays out of
INTERPACKET_DELAY, and it is in READ_DATA under a SETUP PID afterwards exactly if the state was armed — a latched token
strobe is consumed by it. -/
theorem calm_step (c : Config) (s : State) (i : RxCycle) (h : Calm s) :
    (step c s i).1.dec.fsm ≠ .delay ∧ stepEvents c s i = [] ∧
    (s.tok.pid == SETUP_PID && (step c s i).1.dec.fsm == .readData) = armedB s ∧
    min (s.counter + 1) (c.counterMax + 1) ≤ (step c s i).1.counter :=
  ⟨(calm_dec c s i h).1, (calm_dec c s i h).2,
    decStep_armed c s.dec s.tok.newToken s.tok.pid s.ds.newPacket s.ds.length s.ds.packet _ h.1 h.2, counter_counts c s i h.1⟩

/-- … so over any stretch of `rx_active` cycles `armedB` stands still. -/
theorem calm_active_run (c : Config) (h : List RxCycle) (s : State) (ha : ∀ i ∈ h, i.active = true) (hs : Calm s) :
    trace c s h = [] ∧ Calm (final c s h) ∧ armedB (final c s h) = armedB s ∧
    (final c s h).tok.pid = s.tok.pid ∧ min (s.counter + h.length) (c.counterMax + 1) ≤ (final c s h).counter := by
  induction h generalizing s with
  | nil => exact ⟨rfl, hs, rfl, rfl, by simp [final]; omega⟩
  | cons i is ih =>
    have hi := ha i (by simp)
    obtain ⟨a1, a2, a3, a4⟩ := calm_step c s i hs
    obtain ⟨p1, p2⟩ := tok_active_keeps c s i hi
    obtain ⟨b1, b2, b3, b4, b5⟩ := ih _ (fun j hj => ha j (by simp [hj])) ⟨deserStep_active s.ds _ i hi, a1⟩
    refine ⟨by simp [trace, a2, b1], b2, ?_, b4.trans p1, ?_⟩
    · rw [final, b3, armedB, p1, p2, Bool.or_false]; exact a3
    · simp only [final, List.length_cons]; omega

/-- lower bounds of the saturating timer count chain -/
theorem cnt_trans {a b c n k m : Nat} (h1 : min (a + n) m ≤ b) (h2 : min (b + k) m ≤ c) :
    min (a + (n + k)) m ≤ c := by omega

/-! ## The `rx_active` phase of any packet from a boundary -/

theorem render_cut (d g : Nat) (ds gs : List Nat) (slots : List (Nat × List Nat)) :
    render ⟨d :: ds, slots, g :: gs⟩ = (((d :: ds).map waitC ++ renderSlots slots) ++ [idleC g]) ++ gs.map idleC := by
  simp [render]

/-- **The `rx_active` phase of any packet and the first idle cycle after it**, from a packet boundary, `S3` being
the state it leaves: nothing happens, and what each component holds afterwards — the deserializer's part (`dsRegs`,
`dsNew`) for 8-bit bytes behind a data PID.  That the deserializer is back in IDLE is where the F2 repair matters. -/
theorem active_phase (c : Config) (d g : Nat) (ds : List Nat) (slots : List (Nat × List Nat)) (s S3 : State)
    (hs : Boundary s) (e3 : S3 = final c s (((d :: ds).map waitC ++ renderSlots slots) ++ [idleC g])) :
    trace c s (((d :: ds).map waitC ++ renderSlots slots) ++ [idleC g]) = [] ∧
    S3.tok.fsm = .idle ∧ S3.ds.fsm = .idle ∧ S3.dec.fsm ≠ .delay ∧ S3.ds.activePacket.length = 10 ∧
    (S3.tok.pid, S3.tok.newToken) = tokSpec c.addr s.tok.pid (slots.map (·.1)) ∧
    (s.tok.pid == SETUP_PID && S3.dec.fsm == .readData) = armedB s ∧
    min (s.counter + (((d :: ds).map waitC ++ renderSlots slots) ++ [idleC g]).length) (c.counterMax + 1)
      ≤ S3.counter ∧
    ((∀ pid rest, slots.map (·.1) = pid :: rest → isDataPid pid = true → ∀ b ∈ rest, b < 256) →
      staleOf S3 = dsRegs (staleOf s) (slots.map (·.1)) ∧ S3.ds.newPacket = dsNew (staleOf s) (slots.map (·.1)) ∧
      (dsNew (staleOf s) (slots.map (·.1)) = true →
        S3.ds.length = ((slots.map (·.1)).tail.length + 14) % 16 ∧
        ((slots.map (·.1)).tail.length = 10 → S3.ds.packet = (slots.map (·.1)).tail.take 8))) := by
  obtain ⟨tr2, q2, arm2, pid2, cnt2⟩ := calm_active_run c _ s (slots_active (d :: ds) slots) hs.calm
  obtain ⟨dec3, ev3, arm3, cnt3⟩ := calm_step c _ (idleC g) q2
  obtain ⟨tp1, tp2⟩ := tok_packet c s d g ds slots hs.tok
  rw [← List.append_assoc, ← e3] at tp1 tp2
  have e : S3 = (step c (final c s ((d :: ds).map waitC ++ renderSlots slots)) (idleC g)).1 := by
    rw [e3, final_append]; rfl
  rw [← e] at dec3 arm3 cnt3
  refine ⟨by rw [trace_append, tr2, trace, ev3]; rfl, tp1, by rw [e]; exact (deserStep_inactive _ _ _ rfl).1, dec3,
    by rw [e3]; exact apLen_run c _ s hs.apLen, tp2, by rw [← pid2, arm3, arm2], ?_, fun hb => ?_⟩
  · rw [List.length_append]; exact cnt_trans cnt2 cnt3
  · have M := capture_general c d ds slots s hs.ds hs.apLen hb
    rw [e3, final_append, ← M.stale]
    exact dsMid_end c _ _ _ g M

/-- A packet that does not start with a data PID (token, handshake, SOF, garbage PID, empty
burst) causes no `received` and no `ack` at all, from any packet boundary. -/
theorem nondata_packet_silent (c : Config) (p : RxPacket) (s : State) (hs : Boundary s) (hw : p.wf)
    (hnd : ¬ ∃ pid rest, p.bytes = pid :: rest ∧ isDataPid pid = true) : trace c s (render p) = [] := by
  obtain ⟨lead, slots, gap⟩ := p
  obtain ⟨d, ds, g, gs, rfl, rfl⟩ := hw.cons
  obtain ⟨t1, f1, f2, f3, f4, _, _, _, f5⟩ := active_phase c d g ds slots s _ hs rfl
  have f6 := (f5 fun pid rest e hp => absurd ⟨pid, rest, e, hp⟩ hnd).2.1.trans (dsNew_nondata hnd)
  rw [render_cut, trace_append, t1, (boundary_idles c gs _ ⟨f1, f2, f6, f3, f4⟩).1]; rfl

/-! ## Timed traces -/

/-- `trace` with the index of the causing cycle (counted from `t`) attached to every event -/
def ttrace (c : Config) : State → List RxCycle → Nat → List (Nat × Event)
  | _, [], _ => []
  | s, i :: is, t => (stepEvents c s i).map (fun e => (t, e)) ++ ttrace c (step c s i).1 is (t + 1)

theorem ttrace_append (c : Config) (s : State) (h1 h2 : List RxCycle) (t : Nat) :
    ttrace c s (h1 ++ h2) t = ttrace c s h1 t ++ ttrace c (final c s h1) h2 (t + h1.length) := by
  induction h1 generalizing s t with
  | nil => rfl
  | cons i is ih => simp [ttrace, final, ih, Nat.add_assoc, Nat.add_comm 1]

theorem ttrace_snd (c : Config) (s : State) (h : List RxCycle) (t : Nat) :
    (ttrace c s h t).map (·.2) = trace c s h := by
  induction h generalizing s t with
  | nil => rfl
  | cons i is ih => simp [ttrace, trace, ih, Function.comp_def]

theorem ttrace_nil (c : Config) (s : State) (h : List RxCycle) (t : Nat) (h0 : trace c s h = []) :
    ttrace c s h t = [] := by
  have := ttrace_snd c s h t
  rw [h0] at this
  simpa using this

/-! ## With the line idle -/

/-- What of the decoder composition's state matters at a packet boundary: whether a SETUP token of
ours is waiting for its data packet, and the deserializer's CRC comparison registers. -/
structure Abs where
  armed : Bool
  st    : Stale
deriving Repr, DecidableEq

def absOf (s : State) : Abs := ⟨armedB s, staleOf s⟩

def At (s : State) (a : Abs) : Prop := Boundary s ∧ absOf s = a

/-- Token detector and deserializer in IDLE with no strobe latched in either (`Boundary` allows a latched token strobe);
nothing is said of the decoder, which may still be in INTERPACKET_DELAY. -/
structure Rest (s : State) : Prop where
  tok   : s.tok.fsm = .idle
  ds    : s.ds.fsm = .idle
  noPkt : s.ds.newPacket = false
  noTok : s.tok.newToken = false
  apLen : s.ds.activePacket.length = 10

theorem rest_step (c : Config) (s : State) (g : Nat) (ht : s.tok.fsm = .idle) (hd : s.ds.fsm = .idle)
    (hl : s.ds.activePacket.length = 10) :
    Rest (step c s (idleC g)).1 ∧ staleOf (step c s (idleC g)).1 = staleOf s :=
  have h2 := deserStep_inactive s.ds (output s.crc) (idleC g) rfl
  ⟨⟨tokStep_inactive c.addr s.tok _ rfl, h2.1, h2.2 (by rw [hd]; decide), by rw [step_tok, tokStep_idle ht],
    apLen_step c s _ hl⟩, stale_not_capture c s _ (by rw [hd]; decide)⟩

theorem Rest.at {s : State} (h : Rest s) (hd : s.dec.fsm = .idle) : At s ⟨false, staleOf s⟩ :=
  ⟨⟨h.tok, h.ds, h.noPkt, by rw [hd]; simp, h.apLen⟩, by simp [absOf, armedB, hd, h.noTok]⟩

theorem at_idle (c : Config) (s : State) (g : Nat) (a : Abs) (hs : At s a) :
    At (step c s (idleC g)).1 a ∧ stepEvents c s (idleC g) = [] := by
  obtain ⟨hb, rfl⟩ := hs
  obtain ⟨-, hev, harm, -⟩ := calm_step c s (idleC g) hb.calm
  refine ⟨⟨(boundary_idle c s g hb).1, ?_⟩, hev⟩
  -- the idle detector keeps its PID and latches no strobe, so `armedB` afterwards is `calm_step`'s left-hand side
  rw [absOf, absOf, stale_not_capture c s (idleC g) (by rw [hb.ds]; decide), armedB, step_tok, tokStep_idle hb.tok,
    Bool.or_false]
  exact congrArg (Abs.mk · _) harm

theorem at_idles (c : Config) (gs : List Nat) (s : State) (a : Abs) (hs : At s a) (t : Nat) :
    ttrace c s (gs.map idleC) t = [] ∧ At (final c s (gs.map idleC)) a := by
  obtain ⟨h1, h2⟩ := silent_run c (At · a) (∃ g, · = idleC g) (fun s' _ ⟨g, e⟩ h => e ▸ at_idle c s' g a h) _ s
    (mem_idles gs) hs
  exact ⟨ttrace_nil c s _ t h1, h2⟩

theorem delay_timed (c : Config) (hc : c.delay ≤ c.counterMax + 1) (gs : List Nat) (s : State)
    (ht : s.tok.fsm = .idle) (hd : s.ds.fsm = .idle) (hn : s.ds.newPacket = false)
    (hl : s.ds.activePacket.length = 10) (hdec : s.dec.fsm = .delay) (hk : s.counter ≤ c.delay)
    (hg : c.delay - s.counter + 1 ≤ gs.length) (t : Nat) :
    ttrace c s (gs.map idleC) t = [(t + (c.delay - s.counter), .ack)] ∧
    At (final c s (gs.map idleC)) ⟨false, staleOf s⟩ := by
  induction gs generalizing s t with
  | nil => simp at hg
  | cons g gs ih =>
    obtain ⟨r1, r2⟩ := rest_step c s g ht hd hl
    by_cases he : s.counter = c.delay
    · obtain ⟨h5, h6⟩ : (step c s (idleC g)).1.dec.fsm = .idle ∧ stepEvents c s (idleC g) = [.ack] := by
        simp [stepEvents, step, decStep, hdec, he, latched]
      obtain ⟨i1, i2⟩ := at_idles c gs _ _ (r2 ▸ r1.at h5) (t + 1)
      simp only [List.map_cons, ttrace, final, h6, i1]
      exact ⟨by simp [he], i2⟩
    · have hlt : s.counter < c.counterMax + 1 := by omega
      obtain ⟨h5, h6, h7⟩ : (step c s (idleC g)).1.dec.fsm = .delay ∧ stepEvents c s (idleC g) = [] ∧
          (step c s (idleC g)).1.counter = s.counter + 1 := by
        simp [stepEvents, step, decStep, hdec, he, latched, counterNext, hn, hlt]
      obtain ⟨i1, i2⟩ := ih _ r1.tok r1.ds r1.noPkt r1.apLen h5 (by rw [h7]; omega) (by rw [h7]; simp at hg; omega) (t + 1)
      simp only [List.map_cons, ttrace, final, h6, i1, h7]
      refine ⟨?_, r2 ▸ i2⟩
      simp; omega

def report (p : List Nat) : Event :=
  .received (pk p 0) (pk p 1) (pk p 2 + 256 * pk p 3) (pk p 4 + 256 * pk p 5) (pk p 6 + 256 * pk p 7)

/-- **The cycle in which a deserializer strobe is seen, and the idle gap after it.**  The decoder
reports (and ACKs: in this very cycle at high speed or when the timer reads `delay`, otherwise
exactly `delay + 1` cycles later) iff it is in READ_DATA, the length is 8 and the PID is SETUP; in
every case it ends up in IDLE at a packet boundary, not armed.  Only when it reports must the line
stay idle long enough for the ACK (`hlong`). -/
theorem strobe_tail (c : Config) (hc : c.delay ≤ c.counterMax + 1) (s : State) (g2 : Nat) (gs : List Nat)
    (ht : s.tok.fsm = .idle) (hd : s.ds.fsm = .idle) (hn : s.ds.newPacket = true) (hnt : s.tok.newToken = false)
    (hdec : s.dec.fsm ≠ .delay) (hl : s.ds.activePacket.length = 10)
    (hlong : (s.dec.fsm == .readData && (s.ds.length == 8 && s.tok.pid == SETUP_PID)) = true → c.delay + 1 ≤ gs.length)
    (t : Nat) :
    At (final c s (idleC g2 :: gs.map idleC)) ⟨false, staleOf s⟩ ∧
    ttrace c s (idleC g2 :: gs.map idleC) t =
      if s.dec.fsm == .readData && (s.ds.length == 8 && s.tok.pid == SETUP_PID) then
        (if s.counter == c.delay || c.hs then [(t, .ack), (t, report s.ds.packet)]
         else [(t, report s.ds.packet), (t + c.delay + 1, .ack)])
      else [] := by
  obtain ⟨r, rs⟩ := rest_step c s g2 ht hd hl
  have r5 : (step c s (idleC g2)).1.counter = 0 := by simp [step_counter, counterNext, hn]
  have e := step_dec c s (idleC g2)
  rw [hnt, hn, decStep_strobe c s.dec s.tok.pid s.ds.length s.ds.packet _ hdec] at e
  cases hcond : (s.dec.fsm == .readData && (s.ds.length == 8 && s.tok.pid == SETUP_PID)) with
  | false =>
    simp only [hcond, Bool.false_eq_true, if_false, Prod.mk.injEq] at e
    obtain ⟨i1, i2⟩ := at_idles c gs _ _ (rs ▸ r.at (by rw [e.1])) (t + 1)
    simp only [ttrace, final, i1]
    exact ⟨i2, by simp [stepEvents, latched, e.1, e.2]⟩
  | true =>
    simp only [hcond, if_true, Prod.mk.injEq] at e
    have r6 : latched (step c s (idleC g2)).1 = [report s.ds.packet] := by simp [latched, e.1, report]
    cases hi : (s.counter == c.delay || c.hs) with
    | true =>
      obtain ⟨i1, i2⟩ := at_idles c gs _ _ (rs ▸ r.at (by rw [e.1, hi]; rfl)) (t + 1)
      simp only [ttrace, final, i1]
      exact ⟨i2, by simp [stepEvents, e.2, hi, r6]⟩
    | false =>
      obtain ⟨i1, i2⟩ := delay_timed c hc gs _ r.tok r.ds r.noPkt r.apLen (by rw [e.1, hi]; rfl) (by rw [r5]; omega)
        (by rw [r5]; have := hlong hcond; omega) (t + 1)
      simp only [ttrace, final, i1, r5]
      refine ⟨rs ▸ i2, ?_⟩
      simp [stepEvents, e.2, hi, r6]; omega

/-- With detector and deserializer in IDLE and no packet strobe latched, idle cycles end at a packet boundary,
provided a running INTERPACKET_DELAY has the cycles to run out (`hk`). -/
theorem settle (c : Config) (hc : c.delay ≤ c.counterMax + 1) (gs : List Nat) (s : State)
    (ht : s.tok.fsm = .idle) (hd : s.ds.fsm = .idle) (hn : s.ds.newPacket = false)
    (hl : s.ds.activePacket.length = 10)
    (hk : s.dec.fsm = .delay → s.counter ≤ c.delay ∧ c.delay - s.counter + 1 ≤ gs.length) :
    Boundary (final c s (gs.map idleC)) := by
  by_cases hf : s.dec.fsm = .delay
  · exact (delay_timed c hc gs s ht hd hn hl hf (hk hf).1 (hk hf).2 0).2.1
  · exact (boundary_idles c gs s ⟨ht, hd, hn, hf, hl⟩).2

/-- a decoder enters INTERPACKET_DELAY only on a deserializer strobe, and that strobe restarts the timer -/
theorem delay_entered (c : Config) (s : State) (i : RxCycle) (hdec : s.dec.fsm ≠ .delay)
    (hdel : (step c s i).1.dec.fsm = .delay) : (step c s i).1.counter = 0 := by
  cases hn : s.ds.newPacket with
  | true => simp [step_counter, counterNext, hn]
  | false => exact absurd hdel (calm_dec c s _ ⟨hn, hdec⟩).1

/-- **A preceding packet of any kind leaves a packet boundary behind**, given the idle gap `gapOk` asks for (delay + 3
cycles after a packet that starts with a data PID, one cycle after any other).  Corrupted, short, over-long, aborted,
PID-only, handshake, foreign or own token, arbitrary bytes: after the packet and its idle gap, token detector and
deserializer are in IDLE, no deserializer strobe is pending (a token strobe may still be latched) and the decoder is
not waiting for the timer.  (Before the F2 repair the deserializer stayed in CAPTURE_DATA here.) -/
theorem garbage_keeps_boundary (c : Config) (hc : c.delay ≤ c.counterMax + 1) (p : RxPacket) (s : State)
    (hs : Boundary s) (hw : p.wf) (hg : gapOk c p) : Boundary (final c s (render p)) := by
  obtain ⟨lead, slots, gap⟩ := p
  obtain ⟨d, ds, g, gs, rfl, rfl⟩ := hw.cons
  obtain ⟨_, f1, f2, f3, f4, _, _, _, f5⟩ := active_phase c d g ds slots s _ hs rfl
  rw [render_cut, final_append]
  generalize final c s (((d :: ds).map waitC ++ renderSlots slots) ++ [idleC g]) = s1 at f1 f2 f3 f4 f5
  by_cases hdata : ∃ pid rest, slots.map (·.1) = pid :: rest ∧ isDataPid pid = true
  · -- a data packet: the host leaves delay + 3 idle cycles
    have hlong : c.delay + 3 ≤ (g :: gs).length := hg hdata
    match gs, hlong with
    | g2 :: gs2, hlong =>
      obtain ⟨r, _⟩ := rest_step c _ g2 f1 f2 f4
      refine settle c hc gs2 _ r.tok r.ds r.noPkt r.apLen ?_
      intro hdel
      rw [delay_entered c _ _ f3 hdel]
      simp at hlong
      constructor <;> omega
  · -- anything else never puts the deserializer into CAPTURE_DATA
    exact (boundary_idles c gs _ ⟨f1, f2, (f5 fun pid rest e hp => absurd ⟨pid, rest, e, hp⟩ hdata).2.1.trans
      (dsNew_nondata hdata), f3, f4⟩).2

theorem garbage_list_keeps_boundary (c : Config) (hc : c.delay ≤ c.counterMax + 1) (ps : List RxPacket)
    (s : State) (hs : Boundary s) (hw : ∀ p ∈ ps, p.wf) (hg : ∀ p ∈ ps, gapOk c p) :
    Boundary (final c s (renderAll ps)) := by
  induction ps generalizing s with
  | nil => exact hs
  | cons p ps ih =>
    simp only [renderAll, List.flatMap_cons, final_append]
    exact ih _ (garbage_keeps_boundary c hc p s hs (hw p (by simp)) (hg p (by simp)))
      (fun q hq => hw q (by simp [hq])) (fun q hq => hg q (by simp [hq]))

end LunaVerif.SetupDecoder
