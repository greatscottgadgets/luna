import LunaVerif.Lemmas.DeviceInv
/-!
Step-level facts about the event-level device model used by the C07 / C08 / C10 theorems:
which events can change which registers, and which events can be answered with a DATA packet.
-/
namespace LunaVerif.Device

/-! ### `step` = `core` + ghost bookkeeping -/
section
variable (c : DevConfig) (s : DevState) (x : Stim)
@[simp] theorem step_address : (step c s x).1.address = (core c s x.ev).1.address := rfl
@[simp] theorem step_config : (step c s x).1.config = (core c s x.ev).1.config := rfl
@[simp] theorem step_tokPid : (step c s x).1.tokPid = (core c s x.ev).1.tokPid := rfl
@[simp] theorem step_tokEp : (step c s x).1.tokEp = (core c s x.ev).1.tokEp := rfl
@[simp] theorem step_sdWait : (step c s x).1.sdWait = (core c s x.ev).1.sdWait := rfl
@[simp] theorem step_setup : (step c s x).1.setup = (core c s x.ev).1.setup := rfl
@[simp] theorem step_stage : (step c s x).1.stage = (core c s x.ev).1.stage := rfl
@[simp] theorem step_hstate : (step c s x).1.hstate = (core c s x.ev).1.hstate := rfl
@[simp] theorem step_startPos : (step c s x).1.startPos = (core c s x.ev).1.startPos := rfl
@[simp] theorem step_txPid : (step c s x).1.txPid = (core c s x.ev).1.txPid := rfl
@[simp] theorem step_expectingAck : (step c s x).1.expectingAck = (core c s x.ev).1.expectingAck := rfl
theorem step_resp : (step c s x).2 =
    if (core c s x.ev).2.isNone ∧ (core c s x.ev).1.tokEp ≠ 0 then x.foreign else (core c s x.ev).2 := rfl
theorem step_gRespData : (step c s x).1.gRespData = (step c s x).2.isData := rfl
theorem step_gPrevTok : (step c s x).1.gPrevTok = tokenPidOf x.ev := rfl
end

theorem step_resp_ep0 (c : DevConfig) (s : DevState) (x : Stim) (h : (core c s x.ev).1.tokEp = 0) :
    (step c s x).2 = (core c s x.ev).2 := by
  rw [step_resp]; simp [h]

/-! ### Histories: taken apart at the end -/

theorem list_nil_or_snoc {α : Type} (l : List α) : l = [] ∨ ∃ l₀ a, l = l₀ ++ [a] := by
  simpa only [List.concat_eq_append] using List.eq_nil_or_concat l

theorem final_append (c : DevConfig) (s : DevState) (h₁ h₂ : List Stim) :
    final c s (h₁ ++ h₂) = final c (final c s h₁) h₂ := by
  induction h₁ generalizing s with
  | nil => rfl
  | cons x xs ih => simp [final, ih]

theorem final_snoc (c : DevConfig) (s : DevState) (h : List Stim) (x : Stim) :
    final c s (h ++ [x]) = (step c (final c s h) x).1 := by
  rw [final_append]; rfl

theorem legalFrom_append (c : DevConfig) (s : DevState) (h₁ h₂ : List Stim) :
    legalFrom c s (h₁ ++ h₂) = (legalFrom c s h₁ && legalFrom c (final c s h₁) h₂) := by
  induction h₁ generalizing s with
  | nil => simp [legalFrom, final]
  | cons x xs ih => simp [legalFrom, final, ih, Bool.and_assoc]

theorem legal_snoc {c : DevConfig} {h : List Stim} {x : Stim} (l : LegalHost c (h ++ [x]) = true) :
    LegalHost c h = true ∧ legalEvent c (final c init h) x = true := by
  unfold LegalHost at l ⊢
  rw [legalFrom_append] at l
  simp [legalFrom] at l
  exact l

/-! ### Registers only the handlers touch -/

theorem onToken_ctl (c : DevConfig) (s : DevState) (pid ep : Nat) :
    SameCtl (afterToken s pid ep) (onToken c s pid ep).1 :=
  onToken_elim (P := fun r => SameCtl (afterToken s pid ep) r.1) c s pid ep (SameCtl.refl _) (fun _ _ => SameCtl.refl _)
    (fun _ _ r _ => sameCtl_request c _ r)

theorem onToken_regs (c : DevConfig) (s : DevState) (pid ep : Nat) :
    (onToken c s pid ep).1.address = s.address ∧ (onToken c s pid ep).1.config = s.config :=
  ⟨(onToken_ctl c s pid ep).address, (onToken_ctl c s pid ep).config⟩

theorem onSetupData_keeps (s : DevState) (p : List Nat) :
    ((onSetupData s p).1.address = s.address ∧ (onSetupData s p).1.config = s.config) ∧
    (onSetupData s p).1.tokPid = s.tokPid ∧ (onSetupData s p).1.tokEp = s.tokEp := by
  unfold onSetupData; simp only []; split <;> exact ⟨⟨rfl, rfl⟩, rfl, rfl⟩

theorem onData_keeps (c : DevConfig) (s : DevState) (p : List Nat) (ok : Bool) :
    ((onData c s p ok).1.address = s.address ∧ (onData c s p ok).1.config = s.config) ∧
    (onData c s p ok).1.tokPid = s.tokPid ∧ (onData c s p ok).1.tokEp = s.tokEp :=
  have hr := sameCtl_request c s .status
  onData_elim (P := fun r => (r.1.address = s.address ∧ r.1.config = s.config) ∧ r.1.tokPid = s.tokPid ∧ r.1.tokEp = s.tokEp)
    c s p ok ⟨⟨rfl, rfl⟩, rfl, rfl⟩ (fun _ _ _ _ => onSetupData_keeps s p) (fun _ => ⟨⟨rfl, rfl⟩, rfl, rfl⟩)
    (fun _ _ _ _ _ => ⟨⟨hr.address, hr.config⟩, hr.tokPid, hr.tokEp⟩)

theorem onData_regs (c : DevConfig) (s : DevState) (p : List Nat) (ok : Bool) :
    (onData c s p ok).1.address = s.address ∧ (onData c s p ok).1.config = s.config :=
  (onData_keeps c s p ok).1

theorem onData_tok (c : DevConfig) (s : DevState) (p : List Nat) (ok : Bool) :
    (onData c s p ok).1.tokPid = s.tokPid ∧ (onData c s p ok).1.tokEp = s.tokEp :=
  (onData_keeps c s p ok).2

theorem stdAck_address (s : DevState) :
    (stdAck s).address = if s.hstate = .setAddress then s.setup.value % 128 else s.address := by
  unfold stdAck
  cases hs : s.hstate <;> simp [toIdle]
  split <;> rfl

theorem stdAck_config (s : DevState) :
    (stdAck s).config = if s.hstate = .setConfiguration then s.setup.value % 256 else s.config := by
  unfold stdAck
  cases hs : s.hstate <;> simp [toIdle]
  split <;> rfl

theorem onHandshake_reach (s : DevState) (pid : Nat) (g : AckReachesHandler s pid) :
    (onHandshake s pid).address = (stdAck s).address ∧ (onHandshake s pid).config = (stdAck s).config := by
  obtain ⟨b, h⟩ := onHandshake_reach_eq s pid g
  rw [h]; exact ⟨rfl, rfl⟩

theorem onHandshake_address (s : DevState) (pid : Nat) (h : (onHandshake s pid).address ≠ s.address) :
    AckReachesHandler s pid ∧ s.hstate = .setAddress ∧ (onHandshake s pid).address = s.setup.value % 128 := by
  by_cases g : AckReachesHandler s pid
  · rw [(onHandshake_reach s pid g).1, stdAck_address] at h ⊢
    by_cases hs : s.hstate = .setAddress
    · simp [g, hs]
    · simp [hs] at h
  · rw [onHandshake_noreach s pid g] at h; exact absurd rfl h

theorem onHandshake_config (s : DevState) (pid : Nat) (h : (onHandshake s pid).config ≠ s.config) :
    AckReachesHandler s pid ∧ s.hstate = .setConfiguration ∧ (onHandshake s pid).config = s.setup.value % 256 := by
  by_cases g : AckReachesHandler s pid
  · rw [(onHandshake_reach s pid g).2, stdAck_config] at h ⊢
    by_cases hs : s.hstate = .setConfiguration
    · simp [g, hs]
    · simp [hs] at h
  · rw [onHandshake_noreach s pid g] at h; exact absurd rfl h

/-! ### Which events are answered with DATA while the last token is an IN for endpoint 0 -/

theorem onData_resp_of_pid_in (c : DevConfig) (s : DevState) (p : List Nat) (ok : Bool) (h : s.tokPid = PID_IN) :
    (onData c s p ok).2 = .none :=
  onData_elim (P := fun r => r.2 = .none) c s p ok rfl (fun _ _ _ g => absurd (h ▸ g) (by decide)) (fun _ => rfl)
    (fun _ _ _ _ g => absurd (h ▸ g) (by decide))

theorem onHandshake_tok (s : DevState) (pid : Nat) :
    (onHandshake s pid).tokPid = s.tokPid ∧ (onHandshake s pid).tokEp = s.tokEp := by
  by_cases g : AckReachesHandler s pid
  · obtain ⟨b, h⟩ := onHandshake_reach_eq s pid g
    rw [h]; exact ⟨(stdAck_keeps s).1, (stdAck_keeps s).2.1⟩
  · rw [onHandshake_noreach s pid g]; exact ⟨rfl, rfl⟩

/-- If, after an event, the last token is an IN for endpoint 0 and the device has just transmitted a DATA
packet, then that event was this very IN token (addressed to the device), and the DATA packet is the
control endpoint's answer to it. -/
theorem data_answer_is_to_in_token (c : DevConfig) (s : DevState) (t : Stim)
    (hd : (step c s t).1.gRespData = true) (hep : (step c s t).1.tokEp = 0)
    (hpid : (step c s t).1.tokPid = PID_IN) :
    t.ev = .token PID_IN s.address 0 ∧ (step c s t).2 = (onToken c s PID_IN 0).2 ∧
    (core c s t.ev).1 = (onToken c s PID_IN 0).1 := by
  rw [step_gRespData] at hd
  rw [step_tokEp] at hep
  rw [step_tokPid] at hpid
  rw [step_resp_ep0 c s t hep] at hd ⊢
  cases hev : t.ev with
  | token pid addr ep =>
    rw [hev] at hd hep hpid
    unfold core at hd hep hpid ⊢
    simp only [] at hd hep hpid ⊢
    by_cases ha : addr = s.address
    · simp only [if_pos ha] at hd hep hpid ⊢
      have hc := onToken_ctl c s pid ep
      have h1 : pid = PID_IN := by rw [hc.tokPid] at hpid; exact hpid
      have h2 : ep = 0 := by rw [hc.tokEp] at hep; exact hep
      subst h1 h2 ha
      exact ⟨rfl, rfl, rfl⟩
    · simp only [if_neg ha] at hpid
      exact absurd hpid (by decide)
  | data pid p ok =>
    rw [hev] at hd hpid
    unfold core at hd hpid
    simp only [] at hd hpid
    rw [(onData_tok c s p ok).1] at hpid
    rw [onData_resp_of_pid_in c s p ok hpid] at hd
    exact absurd hd (by simp [Resp.isData])
  | _ => rw [hev] at hd; simp [core, Resp.isData] at hd

/-! ### SET_ADDRESS / SET_CONFIGURATION: the only DATA answer is the status-stage ZLP -/

/-- The two states of `handle_register_write_request`. -/
def IsRegWrite (h : HState) : Prop := h = .setAddress ∨ h = .setConfiguration

theorem stdRequest_regwrite (c : DevConfig) (s : DevState) (r : Req)
    (hh : IsRegWrite (stdRequest c s r).1.hstate) :
    s.hstate = (stdRequest c s r).1.hstate ∧
    (stdRequest c s r).2 = (match r with | .status => .data (dataPid s) [] | .data => .none) := by
  unfold IsRegWrite at hh
  cases hs : s.hstate <;> cases r <;> simp [stdRequest, hs, toIdle] at hh ⊢
  all_goals (split at hh <;> simp at hh)

theorem request_regwrite (c : DevConfig) (s : DevState) (r : Req) (hty : s.setup.type = TYPE_STANDARD)
    (hh : IsRegWrite (request c s r).1.hstate) (hd : (request c s r).2.isData = true) :
    r = .status ∧ (request c s r).2 = .data (dataPid s) [] ∧ s.hstate = (request c s r).1.hstate := by
  rcases request_std c s r hty with e | e <;> rw [e] at hh hd ⊢
  · have := stdRequest_regwrite c s r hh
    rw [this.2] at hd ⊢
    cases r <;> simp_all [Resp.isData]
  · cases hd

theorem onToken_regwrite (c : DevConfig) (s : DevState) (hty : s.setup.type = TYPE_STANDARD)
    (hh : IsRegWrite (onToken c s PID_IN 0).1.hstate) (hd : (onToken c s PID_IN 0).2.isData = true) :
    (onToken c s PID_IN 0).1.stage = .statusIn ∧ (onToken c s PID_IN 0).2 = .data (dataPid s) [] ∧
    s.hstate = (onToken c s PID_IN 0).1.hstate := by
  revert hh hd
  refine onToken_elim (P := fun r => IsRegWrite r.1.hstate → r.2.isData = true →
    r.1.stage = .statusIn ∧ r.2 = .data (dataPid s) [] ∧ s.hstate = r.1.hstate) c s PID_IN 0 (fun _ hd => nomatch hd)
    (fun _ _ _ hd => nomatch hd) (fun _ _ r hst hh hd => ?_)
  obtain ⟨rfl, h2, h3⟩ := request_regwrite c (afterToken s PID_IN 0) r hty hh hd
  exact ⟨(sameCtl_request c _ _).stage.trans hst, h2, h3⟩

/-- The chain of `if`s is taken apart by hand: `split` on it is slow. -/
theorem dispatch_regwrite (r : Nat) :
    (dispatch r = .setAddress → r = REQ_SET_ADDRESS) ∧ (dispatch r = .setConfiguration → r = REQ_SET_CONFIGURATION) := by
  unfold dispatch
  by_cases h0 : r = REQ_GET_STATUS
  · rw [if_pos h0]; exact ⟨nofun, nofun⟩
  by_cases h1 : r = REQ_CLEAR_FEATURE
  · rw [if_neg h0, if_pos h1]; exact ⟨nofun, nofun⟩
  by_cases h5 : r = REQ_SET_ADDRESS
  · rw [if_neg h0, if_neg h1, if_pos h5]; exact ⟨fun _ => h5, nofun⟩
  by_cases h9 : r = REQ_SET_CONFIGURATION
  · rw [if_neg h0, if_neg h1, if_neg h5, if_pos h9]; exact ⟨nofun, fun _ => h9⟩
  rw [if_neg h0, if_neg h1, if_neg h5, if_neg h9]
  by_cases h6 : r = REQ_GET_DESCRIPTOR
  · rw [if_pos h6]; exact ⟨nofun, nofun⟩
  rw [if_neg h6]
  by_cases h8 : r = REQ_GET_CONFIGURATION
  · rw [if_pos h8]; exact ⟨nofun, nofun⟩
  · rw [if_neg h8]; exact ⟨nofun, nofun⟩

theorem dispatch_setAddress (r : Nat) (h : dispatch r = .setAddress) : r = REQ_SET_ADDRESS :=
  (dispatch_regwrite r).1 h

theorem dispatch_setConfiguration (r : Nat) (h : dispatch r = .setConfiguration) : r = REQ_SET_CONFIGURATION :=
  (dispatch_regwrite r).2 h

end LunaVerif.Device
