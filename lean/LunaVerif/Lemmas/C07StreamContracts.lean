import LunaVerif.Lemmas.C07StreamMain
import LunaVerif.Lemmas.C07Wires
import LunaVerif.Props.C27
import LunaVerif.Props.C09
/-!
# The stream contracts of `cycle_refines_event_streams`, discharged on the models of the two streamers

`expandS` (Lemmas/C07StreamMain.lean) lets the `StreamSerializer` "transmitter" and the descriptor handler -- inputs
of the cycle-level model -- follow a stream contract: silent unless started; started, they answer with
`Desc.respTrace (lat + 1) R` for the answer `R` named by `streamOf`.  This file proves that this is what the MODELS
of those two modules do when they are driven by the wires of the standard request handler:

  * `streamers_not_started` (Lemmas/C07Wires.lean), `ready_cycle_wires`, `window_wires`: what the handler drives
    towards the streamers (`start` only in the `ready_for_response` cycle of a data-stage IN token in a streaming state;
    `max_length` / `data` resp. `value` / `length` / `start_position` as the contract's answer assumes; `ready` =
    `tx.ready` during the window);
  * `transmitter_contract` (from C27 `ser_run_sim`, the proof of `serializer_emits_slice`): the serializer
    `StreamSerializer(data_length=2, max_length_width=2)` started in any idle state with `max_length = L`, `data`
    held, answers `respTrace 1 (.data (data.take L))` for EVERY `tx.ready` pattern;
  * `descriptorPacket_spec` + `block_handler_contract` (from C09 `block_packet_exact`): the block descriptor handler
    of a well-formed collection, started in any idle state at an in-order offset, answers
    `respTrace lat (descResp (descriptorPacket …))` with `1 ≤ lat ≤ 4` for EVERY `tx.ready` pattern -- the
    event-level `descriptorPacket` is C09's `specResponse`.

The contracts are stated in the vocabulary of the expansion (`Desc.respTrace`); the closed loops (the models of the
streamers composed with `CtrlCyc.step`, Model/Usb2/ControlCycSys.lean) are Lemmas/C07Closed.lean (transmitter) and
Lemmas/C07Closed2.lean (transmitter and block descriptor handler).  For the distributed handler only the contract is
proved.
-/
namespace LunaVerif.CtrlCyc
open LunaVerif.Device

/-! ### The wires -/

theorem gs_rel {d : DevState} {cs : CycState} (hr : Rel d cs) {i : CycIn} (hsu : i.su = d.setup) :
    gs cs i = (decide (d.setup.type = TYPE_STANDARD) && (d.hstate == .getStatus || d.hstate == .getConfiguration)) := by
  simp only [gs, hsu, hr.h.hstate]

theorem gd_rel {d : DevState} {cs : CycState} (hr : Rel d cs) {i : CycIn} (hsu : i.su = d.setup) :
    gd cs i = (decide (d.setup.type = TYPE_STANDARD) && d.hstate == .getDescriptor) := by
  simp only [gd, hsu, hr.h.hstate]

/-- The `ready_for_response` cycle of an event that starts a streamer (`streamOf`): the handler pulses `start` of
exactly that streamer; the transmitter gets `max_length` and `data` such that `data[0:max_length]` is the contract's
answer; the descriptor handler is started at the event-level `start_position` (its `value` / `length` inputs are
wired to the setup packet the cycle shows, `i.su = d.setup`). -/
theorem ready_cycle_wires (c : DevConfig) (d : DevState) (n : CycIn) (cs : CycState) (hr : Rel d cs) (fd : Bool)
    (R : Desc.Response) (h : streamOf c d = some (fd, R)) :
    let o := (step (cfgOf c) cs { envIn d n with readyForResponse := true }).2.h
    if fd then o.dStart = true ∧ o.tStart = false ∧ cs.h.startPos = d.startPos
    else o.tStart = true ∧ o.dStart = false ∧ (o.tMaxLen = 1 ∨ o.tMaxLen = 2) ∧
      R = .data ([o.tData0, 0].take o.tMaxLen) := by
  -- the cycle enters through the SETUP packet and the configuration it shows and through what the stage FSM drives
  have hcc := hr.stage ▸ ctrlComb_ready c d n
  have hsu : ({ envIn d n with readyForResponse := true } : CycIn).su = d.setup := rfl
  have hcf : ({ envIn d n with readyForResponse := true } : CycIn).activeConfig = d.config := rfl
  generalize ({ envIn d n with readyForResponse := true } : CycIn) = i at hcc hsu hcf ⊢
  obtain ⟨hdr, hty, ⟨rfl, L, d0, ha, rfl⟩ | ⟨rfl, hd, rfl⟩⟩ := streamOf_some h
  all_goals have hty' : i.su.type = TYPE_STANDARD := hsu ▸ hty
  · rcases ha with ⟨hd, rfl, rfl⟩ | ⟨hd, rfl, rfl⟩ <;> have hst := hr.h.hstate.trans hd <;>
      simp [step_tStart, step_dStart, step_tMaxLen, step_tData0, gs, gd, txLen, txData0, hty', hst, hcc, hdr, hcf]
  · have hst := hr.h.hstate.trans hd
    simp only [step_tStart, step_dStart, gs, gd, hty', hst, hcc, hdr]
    simpa using (hr.h.regs (by rw [hd]; simp)).1

theorem window_serIn (c : DevConfig) (d : DevState) (b : Desc.Beat) (n : CycIn) (cs : CycState) (hr : Rel d cs)
    (hty : d.setup.type = TYPE_STANDARD) {L d0 : Nat} (ha : TxAns d L d0) :
    serInOf (step (cfgOf c) cs (envIn d (beatIn false b n))).2.h = (⟨false, 0, L, n.txReady, [d0, 0]⟩ : StreamGen.SerIn) := by
  have hty' : (envIn d (beatIn false b n)).su.type = TYPE_STANDARD := hty
  have hcf : (envIn d (beatIn false b n)).activeConfig = d.config := rfl
  rw [serIn_eq, ctrlComb_idle _ _ rfl rfl rfl]
  rcases ha with ⟨hh, rfl, rfl⟩ | ⟨hh, rfl, rfl⟩ <;> have hst := hr.h.hstate.trans hh
  · simp [gs, txLen, txData0, hty', hst]; rfl
  · simp [gs, txLen, txData0, hty', hst, hcf]; rfl

theorem window_blkIn (c : DevConfig) (d : DevState) (b : Desc.Beat) (n : CycIn) (cs : CycState) (hr : Rel d cs)
    (hs : StreamState d true) :
    blkInOf cs (envIn d (beatIn true b n)) (step (cfgOf c) cs (envIn d (beatIn true b n))).2.h =
      ⟨d.setup.value, d.setup.length, d.startPos, false, n.txReady⟩ := by
  have hh : d.hstate = .getDescriptor := hs.2
  rw [blkIn_eq, ctrlComb_idle _ _ rfl rfl rfl, gd_rel hr (i := envIn d (beatIn true b n)) rfl,
    (hr.h.regs (by rw [hh]; simp)).1]
  simp only [hs.1, hh, decide_true, beq_self_eq_true, Bool.and_false, Bool.true_and]
  rfl

/-- During the window the streamer's `ready` is the `tx.ready` of the cycle, the transmitter's `max_length` / `data`
and the descriptor handler's `start_position` are held. -/
theorem window_wires (c : DevConfig) (d : DevState) (fd : Bool) (b : Desc.Beat) (n : CycIn) (cs : CycState)
    (hr : Rel d cs) (hs : StreamState d fd) :
    let o := (step (cfgOf c) cs (envIn d (beatIn fd b n))).2.h
    if fd then o.dReady = n.txReady ∧ cs.h.startPos = d.startPos
    else o.tReady = n.txReady ∧
      ((d.hstate = .getStatus ∧ o.tMaxLen = 2 ∧ o.tData0 = 0) ∨
       (d.hstate = .getConfiguration ∧ o.tMaxLen = 1 ∧ o.tData0 = d.config % 256)) := by
  cases fd
  · rcases hs.2 with a1 | a1
    · have hw := window_serIn c d b n cs hr hs.1 (Or.inl ⟨a1, rfl, rfl⟩)
      exact ⟨congrArg StreamGen.SerIn.ready hw, Or.inl ⟨a1, congrArg StreamGen.SerIn.maxLength hw,
        List.head_eq_of_cons_eq (congrArg StreamGen.SerIn.data hw)⟩⟩
    · have hw := window_serIn c d b n cs hr hs.1 (Or.inr ⟨a1, rfl, rfl⟩)
      exact ⟨congrArg StreamGen.SerIn.ready hw, Or.inr ⟨a1, congrArg StreamGen.SerIn.maxLength hw,
        List.head_eq_of_cons_eq (congrArg StreamGen.SerIn.data hw)⟩⟩
  · have hw := window_blkIn c d b n cs hr hs
    exact ⟨congrArg Desc.Block.In.ready hw, congrArg Desc.Block.In.startPos hw⟩

/-! ### The transmitter: `StreamSerializer(data_length=2, max_length_width=2)` (C27) -/

open LunaVerif.StreamGen in
/-- The serializer's inputs for one request: `start` pulsed in the first cycle; `start_position = 0`,
`max_length = L` and the data array held; `rs` is the `ready` pattern. -/
def serReqInputs (L : Nat) (data : List Nat) : List Bool → List SerIn
  | [] => []
  | r :: rs => ⟨true, 0, L, r, data⟩ :: rs.map (fun r => ⟨false, 0, L, r, data⟩)

def beatOfSer (o : StreamGen.SerOut) : Desc.Beat := ⟨o.valid, o.first, o.last, o.payload, false⟩

section
open LunaVerif.StreamGen

/-- Inputs that hold a request: `start` low, `start_position = s`, `max_length = L` and the data array held. -/
def serHold (s L : Nat) (data : List Nat) (rs : List Bool) : List SerIn := rs.map (fun r => ⟨false, s, L, r, data⟩)

theorem serSpec_idle (c : SerConfig) (s L : Nat) (hL : L < 2 ^ c.mlw) (data : List Nat) (rs : List Bool) :
    (serSpecRun c .idle (serHold s L data rs)).map beatOfSer = Desc.idleTrace rs ∧
    SerEnvRun c .idle (serHold s L data rs) := by
  induction rs with
  | nil => exact ⟨rfl, trivial⟩
  | cons r rs ih =>
    simp only [serHold, List.map_cons, serSpecRun, serSpecOut, serSpecNext, SerEnvRun, SerEnv] at ih ⊢
    simp only [Bool.false_eq_true, false_and, if_false]
    exact ⟨by rw [ih.1]; rfl, ⟨hL, by simp⟩, ih.2⟩

theorem serSpec_done (c : SerConfig) (s L : Nat) (hL : L < 2 ^ c.mlw) (data : List Nat) (rs : List Bool) :
    (serSpecRun c .done (serHold s L data rs)).map beatOfSer = Desc.idleTrace rs ∧
    SerEnvRun c .done (serHold s L data rs) := by
  cases rs with
  | nil => exact ⟨rfl, trivial⟩
  | cons r rs =>
    have ih := serSpec_idle c s L hL data rs
    simp only [serHold, List.map_cons, serSpecRun, serSpecOut, serSpecNext, SerEnvRun, SerEnv] at ih ⊢
    exact ⟨by rw [ih.1]; rfl, trivial, ih.2⟩

theorem serSpec_play (c : SerConfig) (s L M : Nat) (data : List Nat) (hL : L < 2 ^ c.mlw)
    (hlim : ∀ r, serLimit c ⟨false, s, L, r, data⟩ = M) (chunk : List Nat)
    (hn : chunk.length = serCount c s M) (hb : ∀ k, k < chunk.length → data[s + k]? = some (chunk.getD k 0))
    (rs : List Bool) : ∀ k, k < chunk.length →
    (serSpecRun c (.play s M k) (serHold s L data rs)).map beatOfSer = Desc.sendTrace chunk k rs ∧
    SerEnvRun c (.play s M k) (serHold s L data rs) := by
  induction rs with
  | nil => intro k _; exact ⟨rfl, trivial⟩
  | cons r rs ih =>
    intro k hk
    simp only [serHold, List.map_cons, serSpecRun, serSpecOut, serSpecNext, SerEnvRun, SerEnv, Desc.sendTrace, hk,
      if_true, hlim, hb k hk, ← hn, and_self, true_and] at ih ⊢
    have hbeat : beatOfSer ⟨true, chunk.getD k 0, k == 0, k + 1 == chunk.length, false⟩ =
        ⟨true, k == 0, k + 1 == chunk.length, chunk.getD k 0, false⟩ := rfl
    rw [hbeat]
    cases r with
    | false =>
      simp only [Bool.false_eq_true, if_false]
      exact ⟨by rw [(ih k hk).1], (ih k hk).2⟩
    | true =>
      simp only [if_true]
      by_cases hl : k + 1 = chunk.length
      · have hd := serSpec_done c s L hL data rs
        simp only [serHold] at hd
        simp only [if_pos hl]
        rw [Desc.sendTrace_done _ _ (by omega), hd.1]
        exact ⟨rfl, hd.2⟩
      · simp only [if_neg hl]
        exact ⟨by rw [(ih (k + 1) (by omega)).1], (ih (k + 1) (by omega)).2⟩

/-- **The transmitter's contract** (C27): `StreamSerializer(data_length=2, max_length_width=2)`, in ANY idle state
(whatever its position / byte counters hold), started with `max_length = L ∈ {1, 2}` and the data array `[a, b]`
held, presents for EVERY `ready` pattern `rs` exactly `respTrace 1 (.data ([a, b].take L))`: one silent cycle, then
the bytes one by one with `first` / `last`, each held until `ready`, then silence (its `done` cycle included). -/
theorem transmitter_contract (a b L : Nat) (hL : L = 1 ∨ L = 2) (σ : SerState) (hσ : σ.fsm = .idle) (rs : List Bool) :
    (serRun txCfg σ (serReqInputs L [a, b] rs)).map beatOfSer = Desc.respTrace 1 (.data ([a, b].take L)) rs := by
  cases rs with
  | nil => rfl
  | cons r rs =>
    have hlen : ([a, b].take L).length = L := by rcases hL with rfl | rfl <;> rfl
    have hp := serSpec_play txCfg 0 L L [a, b] (by simp only [txCfg]; omega) (fun _ => rfl) ([a, b].take L)
      (by rcases hL with rfl | rfl <;> rfl)
      (fun j hj => by
        rw [List.getD_eq_getElem?_getD, List.getElem?_take, if_pos (hlen ▸ hj), Nat.zero_add]
        rcases (show j = 0 ∨ j = 1 by omega) with rfl | rfl <;> rfl)
      rs 0 (by omega)
    have hE : SerEnvRun txCfg .idle (serReqInputs L [a, b] (r :: rs)) := by
      simp only [serReqInputs, SerEnvRun, SerEnv, serSpecNext]
      have hlim : serLimit txCfg ⟨true, 0, L, r, [a, b]⟩ = L := rfl
      simp only [hlim, true_and]
      rw [if_pos (by omega)]
      exact ⟨⟨by simp only [txCfg]; omega, fun _ _ => by simp [txCfg]⟩, hp.2⟩
    rw [ser_run_sim txCfg (by simp [txCfg]) σ .idle (by simpa [SerR] using hσ) _ hE]
    simp only [serReqInputs, serSpecRun, serSpecOut, serSpecNext, List.map_cons]
    have hlim : serLimit txCfg ⟨true, 0, L, r, [a, b]⟩ = L := rfl
    simp only [hlim, true_and]
    rw [if_pos (by omega)]
    have := hp.1
    simp only [serHold] at this
    rw [this]
    rfl

end

/-! ### The descriptor handler: `GetDescriptorHandlerBlock` (C09) -/

/-- The event-level descriptor table as a C09 collection. -/
def collOf (ds : List (Nat × Nat × List Nat)) : Desc.Collection := ds.map (fun x => ⟨x.1, x.2.1, x.2.2⟩)

theorem lookup_collOf (ds : List (Nat × Nat × List Nat)) (ty idx : Nat) :
    lookupDescriptor ds ty idx = Desc.descrBytes (collOf ds) ty idx := by
  induction ds with
  | nil => rfl
  | cons x ds ih =>
    obtain ⟨t, i, b⟩ := x
    simp only [lookupDescriptor, collOf, List.map_cons, Desc.descrBytes, Desc.find?, List.find?_cons] at ih ⊢
    by_cases h : t = ty ∧ i = idx
    · simp [h]
    · rw [if_neg h]
      have : (t == ty && i == idx) = false := by
        simp only [Bool.and_eq_false_imp, beq_iff_eq, beq_eq_false_iff_ne, ne_eq]
        intro h1 h2; exact h ⟨h1, h2⟩
      simp only [this]
      exact ih

theorem descResp_some_ne (x : List Nat) (h : x ≠ []) : descResp (some x) = .data x := by
  cases x with
  | nil => exact absurd rfl h
  | cons b bs => rfl

/-- **The event-level `descriptorPacket` is C09's `specResponse`** at every in-order offset (`p ≤ min wLength |d|`,
the position register wide enough for the descriptor). -/
theorem descriptorPacket_spec (c : DevConfig) (v l p : Nat) (hmp : 0 < c.maxPacket) (hl : l < 65536)
    (hp : ∀ d, lookupDescriptor c.descriptors (v / 256 % 256) (v % 256) = some d →
      p ≤ min l d.length ∧ d.length < 2 ^ c.posBits) :
    descResp (descriptorPacket c v l p) =
      Desc.specResponse (lookupDescriptor c.descriptors (v / 256 % 256) (v % 256)) l c.maxPacket p := by
  unfold descriptorPacket
  cases hlk : lookupDescriptor c.descriptors (v / 256 % 256) (v % 256) with
  | none => rfl
  | some d =>
    obtain ⟨hp1, hp2⟩ := hp d hlk
    have hrem : (l + 131072 - p) % 131072 = l - p := by omega
    have hpp : p % 2 ^ c.posBits = p := Nat.mod_eq_of_lt (by omega)
    simp only [hrem, hpp, Desc.specResponse]
    by_cases hlt : p < min l d.length
    · rw [if_pos hlt]
      have hlen : (if l - p ≤ c.maxPacket then l - p else c.maxPacket) ≠ 0 := by split <;> omega
      rw [if_neg hlen, if_neg (by omega)]
      have heq : ((d.take l).drop p).take c.maxPacket
          = (d.drop p).take (if l - p ≤ c.maxPacket then l - p else c.maxPacket) := by
        rw [List.drop_take, List.take_take]
        congr 1
        split <;> omega
      rw [heq, descResp_some_ne]
      intro hnil
      have := congrArg List.length hnil
      simp only [List.length_take, List.length_drop, List.length_nil] at this
      omega
    · rw [if_neg hlt]
      by_cases hz : (if l - p ≤ c.maxPacket then l - p else c.maxPacket) = 0
      · rw [if_pos hz]; rfl
      · have hlp : l - p ≠ 0 := by
          intro h; apply hz; split <;> omega
        rw [if_neg hz, if_pos (by omega)]; rfl

open LunaVerif.Desc in
/-- **The descriptor handler's contract** (C09 `block_packet_exact`): the block descriptor handler built from the
event-level descriptor table (well-formed; `max_packet_size` 8, 16, 32 or 64; a ROM whose longest descriptor has at
least two bytes, `hpw`), in ANY idle state, started with the wires of the standard request handler (`value` / `length`
of the setup packet, both below 2^16, and `start_position`) at an in-order offset into a descriptor shorter than
`2 ^ posBits` (`hp`), presents for EVERY `tx.ready` pattern `rs` exactly `respTrace lat R` for the answer
`R = descResp (descriptorPacket …)` that `streamOf` puts into the expansion, with a latency `1 ≤ lat ≤ 4`. -/
theorem block_handler_contract (c : DevConfig) (hwf : wellFormed (collOf c.descriptors) = true)
    (hm : c.maxPacket = 8 ∨ c.maxPacket = 16 ∨ c.maxPacket = 32 ∨ c.maxPacket = 64)
    (hpw : 2 ≤ (Rom.layout (collOf c.descriptors)).maxLen)
    (s0 : Block.State) (h0 : s0.fsm = .idle) (v l p : Nat) (hv : v < 65536) (hl : l < 65536)
    (hp : ∀ d, lookupDescriptor c.descriptors (v / 256 % 256) (v % 256) = some d →
      p ≤ min l d.length ∧ d.length < 2 ^ c.posBits)
    (rs : List Bool) :
    ∃ lat, 1 ≤ lat ∧ lat ≤ 4 ∧
      Block.run (blockOf (collOf c.descriptors) c.maxPacket) s0 (Block.reqInputs v l p rs)
        = respTrace lat (descResp (descriptorPacket c v l p)) rs := by
  have hty : v / 256 % 256 < 256 := Nat.mod_lt _ (by decide)
  have hidx : v % 256 < 256 := Nat.mod_lt _ (by decide)
  have hv' : v / 256 % 256 * 256 + v % 256 = v := by omega
  obtain ⟨lat, h1, h2, h3⟩ := block_packet_exact (collOf c.descriptors) c.maxPacket s0 (v / 256 % 256) (v % 256) l p rs
    hwf hm hpw hty hidx hl h0 (by
      intro d hd
      rw [← lookup_collOf] at hd
      exact (hp d hd).1)
  refine ⟨lat, h1, h2, ?_⟩
  rw [hv'] at h3
  rw [h3, descriptorPacket_spec c v l p (by omega) hl hp, lookup_collOf]

open LunaVerif.Desc in
/-- The same for `GetDescriptorHandlerDistributed` (C09 `dist_packet_exact`; its generators cannot be asked for
`start_position = wLength`, so `p < l`): `respTrace lat (descResp (descriptorPacket …))` for some `lat ≤ 2`.  Which
latency goes with which answer is not stated here (in C09 `dist_packet_exact`'s proof a missing descriptor is STALLed in
the start cycle itself, `lat = 0`, the case `GapsS.stallNow` of the expansion stands for). -/
theorem dist_handler_contract (c : DevConfig)
    (hm : c.maxPacket = 8 ∨ c.maxPacket = 16 ∨ c.maxPacket = 32 ∨ c.maxPacket = 64)
    (hwf : ∀ d ∈ collOf c.descriptors, d.idx < 256)
    (s0 : Dist.State) (h0 : Dist.Quiescent (distOf (collOf c.descriptors) c.maxPacket) s0)
    (v l p : Nat) (hv : v < 65536) (hl : l < 65536)
    (hp : ∀ d, lookupDescriptor c.descriptors (v / 256 % 256) (v % 256) = some d →
      p ≤ min l d.length ∧ d.length < 2 ^ c.posBits ∧ p < l)
    (rs : List Bool) :
    ∃ lat, lat ≤ 2 ∧
      Dist.run (distOf (collOf c.descriptors) c.maxPacket) s0 (Dist.reqInputs v l p rs)
        = respTrace lat (descResp (descriptorPacket c v l p)) rs := by
  have hidx : v % 256 < 256 := Nat.mod_lt _ (by decide)
  have hv' : v / 256 % 256 * 256 + v % 256 = v := by omega
  obtain ⟨lat, h1, h3⟩ := dist_packet_exact (collOf c.descriptors) c.maxPacket s0 (v / 256 % 256) (v % 256) l p rs
    hm hwf hidx hl h0 (by
      intro d hd
      rw [← lookup_collOf] at hd
      exact ⟨(hp d hd).1, (hp d hd).2.2⟩)
  refine ⟨lat, h1, ?_⟩
  rw [hv'] at h3
  rw [h3, descriptorPacket_spec c v l p (by omega) hl (fun d hd => ⟨(hp d hd).1, (hp d hd).2.1⟩), lookup_collOf]

/-- The beats of the expansion's stream window (`streamWindow`: `Desc.delayed g.lat (Desc.bodyTrace R)` over the
`tx.ready` values after the start cycle) are the contract's `respTrace (g.lat + 1) R` from its second cycle on; its
first cycle, the start cycle itself, is silent. -/
theorem window_is_respTrace (lat : Nat) (R : Desc.Response) (r : Bool) (rs : List Bool) :
    Desc.respTrace (lat + 1) R (r :: rs) = Desc.Beat.quiet :: Desc.delayed lat (Desc.bodyTrace R) rs := rfl

/-! ### Non-vacuity -/

def exDescs : List (Nat × Nat × List Nat) :=
  [(1, 0, [18, 1, 0, 2, 0, 0, 0, 64, 9, 18, 1, 0, 0, 1, 1, 2, 3, 1]), (2, 0, List.range 70)]

-- the hypotheses of `block_handler_contract` for the second packet of GET_DESCRIPTOR(type 2, wLength 100)
example : Desc.wellFormed (collOf exDescs) = true ∧ 2 ≤ (Desc.Rom.layout (collOf exDescs)).maxLen := by decide +kernel
example : ∀ d, lookupDescriptor exDescs (0x200 / 256 % 256) (0x200 % 256) = some d → 64 ≤ min 100 d.length ∧ d.length < 2 ^ 7 := by
  intro d hd
  have : d = List.range 70 := by
    have h : lookupDescriptor exDescs (0x200 / 256 % 256) (0x200 % 256) = some (List.range 70) := by decide +kernel
    rw [h] at hd; injection hd with hd; exact hd.symm
  subst this; decide
-- its conclusion evaluated: latency 4 (the start cycle included), the six remaining bytes under a stalling `ready` pattern
example : Desc.Block.run (Desc.blockOf (collOf exDescs) 64) Desc.Block.init
      (Desc.Block.reqInputs 0x200 100 64 [true, true, true, true, true, false, true, true, true, true, true, true])
    = Desc.respTrace 4 (descResp (descriptorPacket { descriptors := exDescs, posBits := 7 } 0x200 100 64))
      [true, true, true, true, true, false, true, true, true, true, true, true] := by decide +kernel
-- `transmitter_contract` evaluated: GET_CONFIGURATION (1 byte) and GET_STATUS (2 bytes), from an idle state with stale counters
example : (StreamGen.serRun txCfg ⟨.idle, 1, 1⟩ (serReqInputs 1 [3, 0] [true, false, true, true])).map beatOfSer
    = Desc.respTrace 1 (.data [3]) [true, false, true, true] := by decide +kernel
example : (StreamGen.serRun txCfg ⟨.idle, 1, 1⟩ (serReqInputs 2 [0, 0] [true, false, true, false, true, true])).map beatOfSer
    = [Desc.Beat.quiet, ⟨true, true, false, 0, false⟩, ⟨true, true, false, 0, false⟩, ⟨true, false, true, 0, false⟩,
       ⟨true, false, true, 0, false⟩, Desc.Beat.quiet] := by decide +kernel

end LunaVerif.CtrlCyc
