import LunaVerif.Props.C12
/-!
# C12 / C14 — `cycle_refines_event` for the status endpoint (`USBSignalInEndpoint`)

The event-level model (`EpDev.epStep` on `.sig`, Model/Device/Endpoints.lean) consumes one host event; the
cycle-level model `SignalIn.step` (Model/Usb2/SignalInEndpoint.lean, C17) one clock cycle.  `expand` turns an
event, received with the token registers `tk` and resulting in the shared front-end record `sh` (token registers
after the event, `new_token`, halt-clear strobe; `Tk`, `ShOk`: Props/C12 §4), into the clock cycles the endpoint
sees — idle cycles of arbitrary number with arbitrary values on every input the expansion does not determine
(`tx.ready`, `signal`) around the strobes of the abstracted neighbours:

  * token detector: an accepted token shows its endpoint number / PID class in the cycle it strobes `new_token`
    and strobes `ready_for_response` later; any other token only changes the registers;
  * the `signal` input holds the event-level value in the `ready_for_response` cycle (the only cycle the
    gateware samples it in), and is arbitrary elsewhere;
  * packet generator: takes the bytes of a transmission one at a time, with any number of stall cycles
    (`tx.ready` low) before each byte, and nothing else happens while the endpoint transmits (one transaction
    at a time);
  * handshake detector / standard request handler: one cycle with `handshakes_in.ack` for a host ACK, which is
    also the cycle of the halt-clear strobe (`haltStrobe` is derived from that ACK).

`sig_cycle_refines_event`: running `SignalIn.step` over the expansion, from ANY cycle-level state related to the
event-level one, ends in a state related to the event-level successor and puts exactly the event-level response
on the transmit stream (PID from `tx_pid_toggle`, the bytes taken with `valid ∧ ready`, framed by `first`/`last`).
`sig_cycle_refines_run` lifts it to histories of the slice machine control endpoint × status endpoint.
Little-endian configuration (the event-level model's byte order).
-/

namespace LunaVerif.C12Sig
open LunaVerif LunaVerif.Device LunaVerif.EpDev

/-! ### Relation between the two state spaces -/

def fsmOf : SigFsm → SignalIn.Fsm
  | .idle => .idle
  | .waitAck => .waitAck
  | .retransmit => .retransmit

structure Rel (e : SigState) (s : SignalIn.State) : Prop where
  fsm     : s.fsm = fsmOf e.fsm
  latched : s.latched = e.latched
  toggle  : s.toggle = e.toggle

theorem rel_init : Rel {} SignalIn.init := ⟨rfl, rfl, rfl⟩

/-- The status endpoint of the event-level configuration `ec` (little-endian). -/
def cfgOf (ec : EpCfg) : SignalIn.Config := { width := ec.size, bigEndian := false, epNum := ec.num }

/-- A cycle without any strobe while the token registers show `tk`; `tx.ready` and `signal` are taken from the
arbitrary record `n`. -/
def envIn (tk : Tk) (n : SignalIn.In) : SignalIn.In :=
  { n with endpoint := tk.ep, isIn := tk.pid == PID_IN, rfr := false, newToken := false, ack := false,
           clearHalt := false }

/-! ### Observing a cycle sequence -/

abbrev Tr := List (SignalIn.In × SignalIn.Out)

/-- The beats taken by the packet generator: (payload, first, last) of every cycle with `valid ∧ ready`. -/
def taken : Tr → List (Nat × Bool × Bool)
  | [] => []
  | (i, o) :: rest => (if o.valid && i.txReady then [(o.payload, o.first, o.last)] else []) ++ taken rest

/-- `tx_pid_toggle` in the first cycle with `tx.valid`. -/
def firstValid : Tr → Option Bool
  | [] => none
  | (_, o) :: rest => if o.valid then some o.toggle else firstValid rest

def frame : List Nat → List (Nat × Bool × Bool)
  | bs => (List.range bs.length).zipWith (fun k b => (b, k == 0, k + 1 == bs.length)) bs

/-- What a cycle sequence puts on the bus, as far as the endpoint determines it. -/
structure BusObs where
  pid   : Option Bool                 -- `tx_pid_toggle[0]` when the transmission starts
  beats : List (Nat × Bool × Bool)
deriving DecidableEq, Repr

def busObs (tr : Tr) : BusObs := ⟨firstValid tr, taken tr⟩

/-- The bus observation an event-level response stands for (the status endpoint never requests a handshake). -/
def obsOf : Resp → BusObs
  | .data pid bytes => ⟨some (pid == PID_DATA1), frame bytes⟩
  | _ => ⟨none, []⟩

theorem taken_append (a b : Tr) : taken (a ++ b) = taken a ++ taken b := by
  induction a with
  | nil => rfl
  | cons x xs ih => obtain ⟨i, o⟩ := x; simp [taken, ih]

theorem firstValid_append (a b : Tr) :
    firstValid (a ++ b) = (firstValid a).orElse (fun _ => firstValid b) := by
  induction a with
  | nil => rfl
  | cons x xs ih =>
    obtain ⟨i, o⟩ := x
    simp only [List.cons_append, firstValid]
    split <;> simp [ih]

theorem trace_append (c : SignalIn.Config) (s : SignalIn.State) (a b : List SignalIn.In) :
    SignalIn.trace c s (a ++ b) = SignalIn.trace c s a ++ SignalIn.trace c (SignalIn.runState c s a) b := by
  induction a generalizing s with
  | nil => rfl
  | cons i is ih => simp [SignalIn.trace, SignalIn.runState, ih]

theorem runState_append (c : SignalIn.Config) (s : SignalIn.State) (a b : List SignalIn.In) :
    SignalIn.runState c s (a ++ b) = SignalIn.runState c (SignalIn.runState c s a) b := by
  induction a generalizing s with
  | nil => rfl
  | cons i is ih => simp [SignalIn.runState, ih]

/-! ### A cycle sequence simulates an event-level move -/

/-- From any cycle-level state related to `e`, the cycles `is` end in one related to `e'` and put `ob` on the bus. -/
def Sim (c : SignalIn.Config) (e e' : SigState) (is : List SignalIn.In) (ob : BusObs) : Prop :=
  ∀ s, Rel e s → Rel e' (SignalIn.runState c s is) ∧ busObs (SignalIn.trace c s is) = ob

def silent : BusObs := ⟨none, []⟩

theorem Sim.nil {c : SignalIn.Config} {e : SigState} : Sim c e e [] silent :=
  fun _ h => ⟨h, rfl⟩

theorem Sim.none_append {c : SignalIn.Config} {e e1 e2 : SigState} {a b : List SignalIn.In} {ob : BusObs}
    (h1 : Sim c e e1 a silent) (h2 : Sim c e1 e2 b ob) : Sim c e e2 (a ++ b) ob := by
  intro s hr
  obtain ⟨a1, a2⟩ := h1 s hr
  obtain ⟨b1, b2⟩ := h2 _ a1
  refine ⟨by rw [runState_append]; exact b1, ?_⟩
  simp only [busObs, BusObs.mk.injEq, silent] at a2 b2 ⊢
  rw [trace_append, taken_append, firstValid_append, a2.1, a2.2]
  simpa using b2

theorem Sim.append_none {c : SignalIn.Config} {e e1 e2 : SigState} {a b : List SignalIn.In} {ob : BusObs}
    (h1 : Sim c e e1 a ob) (h2 : Sim c e1 e2 b silent) : Sim c e e2 (a ++ b) ob := by
  intro s hr
  obtain ⟨a1, a2⟩ := h1 s hr
  obtain ⟨b1, b2⟩ := h2 _ a1
  refine ⟨by rw [runState_append]; exact b1, ?_⟩
  simp only [busObs, BusObs.mk.injEq, silent] at b2
  subst a2
  simp only [busObs]
  rw [trace_append, taken_append, firstValid_append, b2.1, b2.2]
  cases firstValid (SignalIn.trace c s a) <;> simp

/-! ### One cycle, and idle stretches -/

/-- A cycle that requests no packet: the host's ACK, `new_token` or the halt-clear strobe (at most one of them: the
strobe accompanies a handshake that is not for this endpoint) moves the event-level state, the bus stays silent. -/
theorem sim_calm (c : SignalIn.Config) (e : SigState) (i : SignalIn.In) (hreq : SignalIn.packetRequested c i = false)
    (hn : i.newToken = true → SignalIn.ackTaken c i = false ∧ i.clearHalt = false)
    (hh : i.clearHalt = true → SignalIn.ackTaken c i = false) :
    Sim c e (if SignalIn.ackTaken c i then sigAck e else if i.newToken then sigNewToken e
             else if i.clearHalt then { e with toggle := false } else e) [i] silent := by
  intro s hr
  obtain ⟨h1, h2, h3⟩ := hr
  obtain ⟨fsm, latched, sent, toggle⟩ := s
  simp only at h1 h2 h3
  subst h1 h2 h3
  cases ha : SignalIn.ackTaken c i <;> cases hnt : i.newToken <;> cases hch : i.clearHalt <;>
    simp only [ha, hnt, hch, true_implies, reduceCtorEq, and_false, and_true] at hn hh <;>
    cases hf : e.fsm <;>
    simp [SignalIn.runState, SignalIn.trace, SignalIn.step, SignalIn.stepCore, fsmOf, busObs, taken,
      firstValid, silent, hreq, ha, hnt, hch, hf, sigAck, sigNewToken] <;>
    exact ⟨by simp [hf, fsmOf], rfl, rfl⟩

theorem sim_quiet (c : SignalIn.Config) (e : SigState) (tk : Tk) (n : SignalIn.In) :
    Sim c e e [envIn tk n] silent :=
  sim_calm c e (envIn tk n) (by simp [SignalIn.packetRequested, envIn]) (fun h => nomatch h) (fun h => nomatch h)

def idle (tk : Tk) (ns : List SignalIn.In) : List SignalIn.In := ns.map (envIn tk)

theorem sim_idle (c : SignalIn.Config) (e : SigState) (tk : Tk) (ns : List SignalIn.In) :
    Sim c e e (idle tk ns) silent := by
  induction ns with
  | nil => exact Sim.nil
  | cons n ns ih => exact (sim_quiet c e tk n).none_append ih

/-- the cycle in which the token detector strobes `new_token` (registers already show the new token). -/
theorem sim_newToken (c : SignalIn.Config) (e : SigState) (tk : Tk) (n : SignalIn.In) :
    Sim c e (sigNewToken e) [{ envIn tk n with newToken := true }] silent :=
  sim_calm c e { envIn tk n with newToken := true } (by simp [SignalIn.packetRequested, envIn])
    (fun _ => ⟨rfl, rfl⟩) (fun h => nomatch h)

/-- the cycle of a host handshake: `handshakes_in.ack` for an ACK, together with the halt-clear strobe
derived from it; the strobe never names the endpoint the ACK is for (it follows a control transfer). -/
theorem sim_ack (ec : EpCfg) (e : SigState) (tk : Tk) (n : SignalIn.In) (isAck halt : Bool)
    (hx : halt = true → ¬(tk.ep = ec.num ∧ tk.pid = PID_IN)) :
    Sim (cfgOf ec) e
      (let s := if halt then { e with toggle := false } else e
       if isAck = true ∧ tk.ep = ec.num ∧ tk.pid = PID_IN then sigAck s else s)
      [{ envIn tk n with ack := isAck, clearHalt := halt }] silent := by
  have hat : SignalIn.ackTaken (cfgOf ec) { envIn tk n with ack := isAck, clearHalt := halt }
      = decide (isAck = true ∧ tk.ep = ec.num ∧ tk.pid = PID_IN) := by
    simp only [SignalIn.ackTaken, SignalIn.targeting, envIn, cfgOf]
    by_cases h1 : tk.ep = ec.num <;> by_cases h2 : tk.pid = PID_IN <;> simp [h1, h2]
  have := sim_calm (cfgOf ec) e { envIn tk n with ack := isAck, clearHalt := halt }
    (by simp [SignalIn.packetRequested, envIn]) (fun h => nomatch h)
    (fun h => by rw [hat]; exact decide_eq_false fun g => hx h g.2)
  rw [hat] at this
  cases halt
  · simpa [envIn] using this
  · simpa [envIn, hx rfl] using this

/-! ### The transmission -/

def own (ec : EpCfg) (tk : Tk) : Prop := tk.ep = ec.num ∧ tk.pid = PID_IN

instance (ec : EpCfg) (tk : Tk) : Decidable (own ec tk) := by unfold own; infer_instance

/-- The cycles in which the packet generator takes bytes `k … k+m-1`: before byte `j` the stall cycles `st j`
(`tx.ready` low), then one cycle with `tx.ready` high (free inputs `tn j`). -/
def sendCyc (tk : Tk) (st : Nat → List SignalIn.In) (tn : Nat → SignalIn.In) : Nat → Nat → List SignalIn.In
  | _, 0 => []
  | k, m + 1 =>
    (st k).map (fun n => { envIn tk n with txReady := false }) ++
      ({ envIn tk (tn k) with txReady := true } :: sendCyc tk st tn (k + 1) m)

theorem stall_run (c : SignalIn.Config) (tk : Tk) (ns : List SignalIn.In) (s : SignalIn.State)
    (hf : s.fsm = .transmit) :
    SignalIn.runState c s (ns.map (fun n => { envIn tk n with txReady := false })) = s ∧
    taken (SignalIn.trace c s (ns.map (fun n => { envIn tk n with txReady := false }))) = [] := by
  induction ns with
  | nil => exact ⟨rfl, rfl⟩
  | cons n ns ih =>
    have h1 : (SignalIn.step c s { envIn tk n with txReady := false }).1 = s := by
      simp [SignalIn.step, SignalIn.stepCore, hf, envIn]
    simp only [List.map_cons, SignalIn.runState, SignalIn.trace, taken, h1]
    exact ⟨ih.1, by simp [ih.2]⟩

theorem send_run (c : SignalIn.Config) (hle : c.bigEndian = false) (tk : Tk) (st : Nat → List SignalIn.In)
    (tn : Nat → SignalIn.In) (m : Nat) :
    ∀ (k : Nat) (s : SignalIn.State), s.fsm = .transmit → s.sent = k → k + m = SignalIn.nbytes c → 0 < m →
      (SignalIn.runState c s (sendCyc tk st tn k m)).fsm = .waitAck ∧
      (SignalIn.runState c s (sendCyc tk st tn k m)).latched = s.latched ∧
      (SignalIn.runState c s (sendCyc tk st tn k m)).toggle = s.toggle ∧
      taken (SignalIn.trace c s (sendCyc tk st tn k m)) =
        (List.range' k m).map (fun j => (SignalIn.byteAt s.latched j, j == 0, j + 1 == SignalIn.nbytes c)) := by
  induction m with
  | zero => intro k s _ _ _ h; omega
  | succ m ih =>
    intro k s hf hs hk _
    obtain ⟨h1, h2⟩ := stall_run c tk (st k) s hf
    simp only [sendCyc, runState_append, trace_append, taken_append, h1, h2, List.nil_append,
      SignalIn.runState, SignalIn.trace, taken]
    obtain ⟨fsm, latched, sent, toggle⟩ := s
    simp only at hf hs
    subst hf hs
    by_cases hm : m = 0
    · subst hm
      have hl : (sent + 1 == SignalIn.nbytes c) = true := by simp; omega
      simp [SignalIn.step, SignalIn.stepCore, envIn, hl, sendCyc, SignalIn.runState, SignalIn.trace, taken,
        SignalIn.txIndex, hle, List.range']
    · have hl : (sent + 1 == SignalIn.nbytes c) = false := by simp; omega
      have hstep : (SignalIn.step c ⟨.transmit, latched, sent, toggle⟩ { envIn tk (tn sent) with txReady := true }).1
          = ⟨.transmit, latched, sent + 1, toggle⟩ := by
        simp [SignalIn.step, SignalIn.stepCore, envIn, hl]
      have hout : (SignalIn.step c ⟨.transmit, latched, sent, toggle⟩ { envIn tk (tn sent) with txReady := true }).2
          = ⟨true, sent == 0, false, SignalIn.byteAt latched sent, toggle, false⟩ := by
        simp [SignalIn.step, SignalIn.stepCore, envIn, hl, SignalIn.txIndex, hle]
      obtain ⟨a, b, d, e⟩ := ih (sent + 1) ⟨.transmit, latched, sent + 1, toggle⟩ rfl rfl (by omega) (by omega)
      rw [hstep, hout]
      refine ⟨a, b, d, ?_⟩
      simp only [Bool.and_self, if_true, e, List.range', List.map_cons, List.singleton_append, hl]

theorem firstValid_transmit (c : SignalIn.Config) (s : SignalIn.State) (i : SignalIn.In) (is : List SignalIn.In)
    (hf : s.fsm = .transmit) : firstValid (SignalIn.trace c s (i :: is)) = some s.toggle := by
  have hv : (SignalIn.step c s i).2.valid = true ∧ (SignalIn.step c s i).2.toggle = s.toggle := by
    simp only [SignalIn.step, SignalIn.stepCore, hf]
    split <;> exact ⟨rfl, rfl⟩
  simp only [SignalIn.trace, firstValid, hv.1, hv.2, if_true]

theorem sendCyc_ne_nil (tk : Tk) (st : Nat → List SignalIn.In) (tn : Nat → SignalIn.In) (k m : Nat) (h : 0 < m) :
    ∃ i is, sendCyc tk st tn k m = i :: is := by
  cases m with
  | zero => omega
  | succ m =>
    simp only [sendCyc]
    cases hst : st k with
    | nil => exact ⟨_, _, rfl⟩
    | cons n ns => exact ⟨_, _, rfl⟩

theorem frame_sigBytes (w v : Nat) :
    (List.range' 0 ((w + 7) / 8)).map (fun j => (SignalIn.byteAt v j, j == 0, j + 1 == (w + 7) / 8))
      = frame (sigBytes w v) := by
  simp only [frame, sigBytes, List.length_map, List.zipWith_map_right, List.zipWith_self,
    SignalIn.byteAt, List.range_eq_range', List.length_range']

/-- the `ready_for_response` cycle of an IN token for this endpoint and the transmission it starts: the
latched (IDLE: freshly sampled) value goes out least significant byte first, with the endpoint's data toggle. -/
theorem sim_rfr_send (ec : EpCfg) (hw : 0 < ec.size) (e : SigState) (tk : Tk) (n : SignalIn.In)
    (st : Nat → List SignalIn.In) (tn : Nat → SignalIn.In) (ho : own ec tk) (hf : e.fsm ≠ .waitAck) :
    Sim (cfgOf ec) e (sigToken ec.size e).1
      ({ envIn tk n with rfr := true, signal := e.signal } :: sendCyc tk st tn 0 ((ec.size + 7) / 8))
      (obsOf (sigToken ec.size e).2) := by
  intro s hr
  obtain ⟨h1, h2, h3⟩ := hr
  obtain ⟨fsm, latched, sent, toggle⟩ := s
  simp only at h1 h2 h3
  subst h1 h2 h3
  have hreq : SignalIn.packetRequested (cfgOf ec) { envIn tk n with rfr := true, signal := e.signal } = true := by
    simp [SignalIn.packetRequested, envIn, cfgOf, ho.1, ho.2]
  have hnb : SignalIn.nbytes (cfgOf ec) = (ec.size + 7) / 8 := rfl
  have hpos : 0 < (ec.size + 7) / 8 := by omega
  obtain ⟨i0, is0, hne⟩ := sendCyc_ne_nil tk st tn 0 _ hpos
  -- the value `v` that goes out: freshly sampled in IDLE, the latched one in RETRANSMIT
  obtain ⟨v, hstep, htok⟩ : ∃ v,
      SignalIn.step (cfgOf ec) ⟨fsmOf e.fsm, e.latched, sent, e.toggle⟩
          { envIn tk n with rfr := true, signal := e.signal } =
        (⟨.transmit, v, 0, e.toggle⟩,
         ⟨false, false, false, SignalIn.byteAt e.latched (SignalIn.txIndex (cfgOf ec) sent), e.toggle, false⟩) ∧
      sigToken ec.size e = ({ e with fsm := .waitAck, latched := v },
        .data (if e.toggle then PID_DATA1 else PID_DATA0) (sigBytes ec.size v)) := by
    cases hfe : e.fsm with
    | waitAck => exact absurd hfe hf
    | idle =>
      refine ⟨e.signal % 2 ^ ec.size, ?_, by simp [sigToken, hfe]⟩
      simp [SignalIn.step, SignalIn.stepCore, fsmOf, hreq]
      simp [envIn, cfgOf]
    | retransmit =>
      refine ⟨e.latched, ?_, by simp [sigToken, hfe]⟩
      simp [SignalIn.step, SignalIn.stepCore, fsmOf, hreq]
      simp [envIn]
  obtain ⟨a, b, d, f⟩ := send_run (cfgOf ec) rfl tk st tn _ 0 ⟨.transmit, v, 0, e.toggle⟩
    rfl rfl (by rw [hnb]; omega) hpos
  simp only [SignalIn.runState, SignalIn.trace, hstep, busObs, taken, firstValid, htok, obsOf,
    Bool.false_and, Bool.false_eq_true, if_false, List.nil_append, pid_dec]
  refine ⟨⟨by rw [a]; rfl, by rw [b], by rw [d]⟩, ?_⟩
  rw [f, hnb, frame_sigBytes, hne, firstValid_transmit _ _ _ _ rfl]

theorem sim_rfr_foreign (ec : EpCfg) (e : SigState) (tk : Tk) (n : SignalIn.In) (v : Nat) (ho : ¬ own ec tk) :
    Sim (cfgOf ec) e e [{ envIn tk n with rfr := true, signal := v }] silent := by
  refine sim_calm (cfgOf ec) e { envIn tk n with rfr := true, signal := v } ?_ (fun h => nomatch h) (fun h => nomatch h)
  simp only [SignalIn.packetRequested, envIn, cfgOf, own] at ho ⊢
  by_cases h1 : tk.ep = ec.num <;> by_cases h2 : tk.pid = PID_IN <;> simp_all

/-! ### The expansion of an event -/

/-- The free parameters of an expansion: the free inputs of the idle cycles before / between / after the strobes
(any number of cycles each), of the strobe cycles themselves, and of the stall / take cycles of every byte. -/
structure Gaps where
  pre    : List SignalIn.In
  mid    : List SignalIn.In
  post   : List SignalIn.In
  n1     : SignalIn.In
  n2     : SignalIn.In
  stalls : Nat → List SignalIn.In
  takes  : Nat → SignalIn.In

/-- The clock cycles the status endpoint sees for the event `ev`, received with the token registers `tk` while the
event-level state is `e`; `sh` = the shared front end's view of the event (see the file header). -/
def expand (ec : EpCfg) (tk : Tk) (sh : Shared) (e : SigState) (ev : HostEvent) (g : Gaps) : List SignalIn.In :=
  let tk' := tkOf sh
  match ev with
  | .token _ _ _ =>
    if sh.newTok then
      idle tk g.pre ++ ([{ envIn tk' g.n1 with newToken := true }] ++ (idle tk' g.mid ++
        (({ envIn tk' g.n2 with rfr := true, signal := e.signal } ::
          (if own ec tk' then sendCyc tk' g.stalls g.takes 0 ((ec.size + 7) / 8) else [])) ++ idle tk' g.post)))
    else idle tk g.pre ++ idle tk' g.post
  | .handshake pid =>
    idle tk g.pre ++ ([{ envIn tk' g.n1 with ack := pid == PID_ACK, clearHalt := haltHits ec true sh }] ++
      idle tk' g.post)
  | _ => idle tk g.pre ++ idle tk' g.post

theorem sim_idle_only (c : SignalIn.Config) (e : SigState) (tk tk' : Tk) (a b : List SignalIn.In) :
    Sim c e e (idle tk a ++ idle tk' b) silent :=
  (sim_idle c e tk a).none_append (sim_idle c e tk' b)

/-- **`cycle_refines_event` for the status endpoint.**  For a signal of at least one bit, every host event, every
event-level state `e` of the endpoint, every view `tk` / `sh` of the shared front end satisfying `ShOk`, and every
choice of idle-cycle counts, stall patterns and free input values `g`: running `SignalIn.step` over the expansion from ANY cycle-level
state related to `e` ends in a state related to the event-level successor, and the transmit stream carries
exactly the event-level response — a DATA packet with the endpoint's toggle whose beats are the
`ceil(width/8)` bytes of the latched signal value, `first` on the first and `last` on the last; or nothing. -/
theorem sig_cycle_refines_event (ec : EpCfg) (hw : 0 < ec.size) (tk : Tk) (sh : Shared) (e : SigState)
    (ev : HostEvent) (g : Gaps) (hsh : ShOk ec sh ev) :
    Sim (cfgOf ec) e (sigEv ec sh e ev).1 (expand ec tk sh e ev g) (obsOf (sigEv ec sh e ev).2) := by
  cases ev with
  | token pid addr ep =>
    have hh : haltHits ec true sh = false := haltHits_none ec true sh hsh
    by_cases hnt : sh.newTok = true
    · have hpre : sigPre ec sh e = sigNewToken e := by simp [sigPre, hnt, hh]
      have hnw : (sigNewToken e).fsm ≠ .waitAck := by
        unfold sigNewToken; split <;> simp_all
      have hsig : (sigNewToken e).signal = e.signal := by unfold sigNewToken; split <;> rfl
      simp only [expand, hnt, if_true, sigEv, hpre, true_and]
      by_cases ho : own ec (tkOf sh)
      · have ho' : sh.tokEp = ec.num ∧ sh.tokPid = PID_IN := ho
        simp only [ho, ho', if_true, and_self]
        have hsend := sim_rfr_send ec hw (sigNewToken e) (tkOf sh) g.n2 g.stalls g.takes ho hnw
        rw [hsig] at hsend
        exact (sim_idle _ e tk g.pre).none_append
          ((sim_newToken _ e (tkOf sh) g.n1).none_append
            ((sim_idle _ _ _ g.mid).none_append (hsend.append_none (sim_idle _ _ _ g.post))))
      · have ho' : ¬(sh.tokEp = ec.num ∧ sh.tokPid = PID_IN) := ho
        simp only [ho, ho', if_false, List.cons_append, List.nil_append]
        exact (sim_idle _ e tk g.pre).none_append
          ((sim_newToken _ e (tkOf sh) g.n1).none_append
            ((sim_idle _ _ _ g.mid).none_append
              (Sim.none_append (a := [_]) (sim_rfr_foreign ec _ (tkOf sh) g.n2 e.signal ho) (sim_idle _ _ _ g.post))))
    · have hpre : sigPre ec sh e = e := by simp [sigPre, hnt, hh]
      simp only [expand, hnt, if_false, sigEv, hpre, false_and, Bool.false_eq_true]
      exact sim_idle_only _ e _ _ _ _
  | handshake pid =>
    obtain ⟨hnt, hx⟩ := hsh
    have hpre : sigPre ec sh e = if haltHits ec true sh then { e with toggle := false } else e := by
      simp [sigPre, hnt]
    have hack := sim_ack ec e (tkOf sh) g.n1 (pid == PID_ACK) (haltHits ec true sh) hx
    have hev : (sigEv ec sh e (.handshake pid)) =
        ((let s := if haltHits ec true sh then { e with toggle := false } else e
          if (pid == PID_ACK) = true ∧ (tkOf sh).ep = ec.num ∧ (tkOf sh).pid = PID_IN then sigAck s else s), .none) := by
      simp only [sigEv, hpre, tkOf, beq_iff_eq]
      split <;> rfl
    rw [hev]
    simp only [expand]
    exact (sim_idle _ e tk g.pre).none_append (hack.append_none (sim_idle _ _ _ g.post))
  | setSignal ep v =>
    simp only [expand, sigEv, sigPre_quiet ec sh e hsh.1 hsh.2]
    intro s hr
    have := sim_idle_only (cfgOf ec) e tk (tkOf sh) g.pre g.post s hr
    refine ⟨?_, by split <;> exact this.2⟩
    split
    · exact ⟨this.1.fsm, this.1.latched, this.1.toggle⟩
    · exact this.1
  | _ =>
    -- the events the status endpoint does not see: idle cycles, no change
    simp only [expand, sigEv, sigPre_quiet ec sh e hsh.1 hsh.2]
    exact sim_idle_only _ e _ _ _ _

/-! ### Histories of the slice machine control endpoint × status endpoint -/

/-- The cycles of a whole history (every event with its own idle-cycle counts and free inputs). -/
def expandAll (c : DevConfig) (ec : EpCfg) : DevState → SigState → List (HostEvent × Gaps) → List SignalIn.In
  | _, _, [] => []
  | d, e, (ev, g) :: rest =>
    expand ec ⟨d.tokPid, d.tokEp⟩ (sharedOf c d ev) e ev g ++
      expandAll c ec (core c d ev).1 (sigEv ec (sharedOf c d ev) e ev).1 rest

def cycObs (c : DevConfig) (ec : EpCfg) :
    DevState → SigState → SignalIn.State → List (HostEvent × Gaps) → List BusObs
  | _, _, _, [] => []
  | d, e, s, (ev, g) :: rest =>
    let is := expand ec ⟨d.tokPid, d.tokEp⟩ (sharedOf c d ev) e ev g
    busObs (SignalIn.trace (cfgOf ec) s is) ::
      cycObs c ec (core c d ev).1 (sigEv ec (sharedOf c d ev) e ev).1 (SignalIn.runState (cfgOf ec) s is) rest

/-- **`cycle_refines_event`, histories** (endpoint number ≠ 0, width ≥ 1).  Along EVERY event history of the
device (tokens for any endpoint and address, control transfers including CLEAR_FEATURE(ENDPOINT_HALT), handshakes, signal changes, with arbitrary
idle-cycle counts, stall patterns and free inputs per event): the cycle-level status endpoint, run over the
concatenated expansions from any state related to the event-level start state, ends related to the event-level
final state of the slice machine (`C12.sliceFinal`, which `C12.slice_of_history` identifies with the endpoint's
state inside the whole device), and transmits for every event exactly the event-level response. -/
theorem sig_cycle_refines_run (c : DevConfig) (ec : EpCfg) (hw : 0 < ec.size) (hn : 0 < ec.num)
    (h : List (HostEvent × Gaps)) :
    ∀ (d : DevState) (e : SigState) (s : SignalIn.State), Rel e s →
      ∃ e', (C12.sliceFinal c ec (d, .sig e) (h.map (·.1))).2 = .sig e' ∧
        Rel e' (SignalIn.runState (cfgOf ec) s (expandAll c ec d e h)) ∧
        cycObs c ec d e s h = (C12.sliceRun c ec (d, .sig e) (h.map (·.1))).map (fun o => obsOf o.resp) := by
  induction h with
  | nil => intro d e s hr; exact ⟨e, rfl, hr, rfl⟩
  | cons x rest ih =>
    obtain ⟨ev, g⟩ := x
    intro d e s hr
    obtain ⟨a1, a2⟩ := sig_cycle_refines_event ec hw ⟨d.tokPid, d.tokEp⟩ (sharedOf c d ev) e ev g
      (shOk_sharedOf c ec hn d ev) s hr
    obtain ⟨e', b1, b2, b3⟩ := ih (core c d ev).1 (sigEv ec (sharedOf c d ev) e ev).1 _ a1
    have hstep : C12.sliceStep c ec (d, .sig e) ev =
        (((core c d ev).1, .sig (sigEv ec (sharedOf c d ev) e ev).1), { resp := (sigEv ec (sharedOf c d ev) e ev).2 }) := by
      simp only [C12.sliceStep, epStep_sig]
    refine ⟨e', ?_, ?_, ?_⟩
    · simp only [List.map_cons, C12.sliceFinal, hstep]; exact b1
    · simp only [expandAll, runState_append]; exact b2
    · simp only [List.map_cons, cycObs, C12.sliceRun, hstep, a2, b3]

/-! ### Non-vacuity: a 12-bit status endpoint number 3: signal := 0xABC, IN (DATA0 `[0xBC, 0x0A]`), lost ACK, a
transaction for another endpoint, IN again (the latched value is retransmitted although the signal has changed), ACK,
then CLEAR_FEATURE(ENDPOINT_HALT) for IN 3, IN (DATA0 again, with the new value), ACK, IN (DATA1) -/

def exEc : EpCfg := ⟨.signalIn, 3, 12, 0⟩

def exIn : SignalIn.In := ⟨0, false, false, false, false, false, 0x5555, false⟩

def exGaps : Gaps :=
  { pre := [exIn, { exIn with txReady := true }], mid := [exIn], post := [{ exIn with signal := 7 }],
    n1 := exIn, n2 := exIn, stalls := fun k => List.replicate k exIn, takes := fun _ => exIn }

def exHistory : List (HostEvent × Gaps) :=
  [(.setSignal 3 0xABC, exGaps), (.token PID_IN 0 3, exGaps), (.quiet, exGaps), (.setSignal 3 0x123, exGaps),
   (.token PID_OUT 0 1, exGaps), (.data PID_DATA0 [1, 2] true, exGaps),
   (.token PID_IN 0 3, exGaps), (.handshake PID_ACK, exGaps),
   (.token PID_SETUP 0 0, exGaps), (.data PID_DATA0 [0x02, 1, 0, 0, 0x83, 0, 0, 0] true, exGaps),
   (.token PID_IN 0 0, exGaps), (.handshake PID_ACK, exGaps),
   (.token PID_IN 0 3, exGaps), (.handshake PID_ACK, exGaps), (.token PID_IN 0 3, exGaps)]

example : (expandAll {} exEc Device.init {} exHistory).length = 81 := by decide +kernel
example : (C12.sliceRun {} exEc (Device.init, .sig {}) (exHistory.map (·.1))).map (·.resp) =
    [.none, .data PID_DATA0 [0xBC, 0x0A], .none, .none, .none, .none, .data PID_DATA0 [0xBC, 0x0A], .none,
     .none, .none, .none, .none, .data PID_DATA0 [0x23, 0x01], .none, .data PID_DATA1 [0x23, 0x01]] := by decide +kernel
example : cycObs {} exEc Device.init {} SignalIn.init exHistory =
    (C12.sliceRun {} exEc (Device.init, .sig {}) (exHistory.map (·.1))).map (fun o => obsOf o.resp) := by
  decide +kernel

end LunaVerif.C12Sig
