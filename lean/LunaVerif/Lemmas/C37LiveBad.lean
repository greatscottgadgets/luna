import LunaVerif.Lemmas.C37LiveBase
/-!
# C37 — liveness: every noticed corrupted header gets its LBAD

`rankB T` bounds the number of ready cycles until `T` LBADs have completed on the wire, for every
`T ≤ lbads + [lbad_pending]`.  While the LBAD is pending the receiver ignores packets, so no header is
accepted; ahead of the LBAD are the LGOODs still owed (`acks_to_send`), one LCRD for every credit to issue and
every buffer still to be freed (`credits_to_issue + buffers_filled`, possibly one ISSUE_CREDITS session each)
and one LRTY per retry request (*bad* cycles, cost 4).
-/
namespace LunaVerif.HeaderRx

def aheadB : Fsm → World → Nat
  | .sendLbad, _ => 0
  | .dispatch, x => 4 * b2 x.s.lrty + 4 * x.s.acks + 4 * (x.s.cti + x.s.bf) + 3
  | .sendAcks, x => 4 * (x.s.acks - 1) + 1 + 4 * b2 x.s.lrty + 4 * (x.s.cti + x.s.bf) + 3
  | .issueCredits, x => 4 * (x.s.cti + x.s.bf - 1) + 1 + 4 * b2 x.s.lrty + 4 * x.s.acks + 3
  | .sendLrty, x => 1 + 4 * x.s.acks + 4 * (x.s.cti + x.s.bf) + 3
  | _, x => 1 + 4 * b2 x.s.lrty + 4 * x.s.acks + 4 * (x.s.cti + x.s.bf) + 3

variable {T : Nat} {x x' : World} {i : In} {f f' : Fsm} {k dA dC dB dR dX dK : Nat}

theorem aheadB_step (h : Cyc x x' i dA dC dB dR dX dK) (t : Trans x.s f f' k dA dC dB dR dX dK)
    (hlt : x'.g.lbads < T) (hT : T ≤ x.g.lbads + b2 x.s.lbad) :
    k + aheadB f' x' ≤ aheadB f x + 4 * b2 i.retryRequired := by
  have := h.acks; have := h.cti; have := h.bf; have := h.lb; have := h.lrty; have := h.lrtyD
  have := h.lbI; have := h.dCle
  cases t <;> simp only [aheadB] <;> omega

def rankB (T : Nat) : World → Nat := rank (·.g.lbads) aheadB T

theorem rankB_step (c : Config) (T : Nat) :
    StepOk (World.next c) WOk (fun x => Inv c x.s x.g ∧ T ≤ x.g.lbads + b2 x.s.lbad) (rankB T) rdyW
      (fun _ i => i.retryRequired) 4 :=
  rank_stepOk c (fun _ i => 4 * b2 i.retryRequired) (fun _ i => by cases i.retryRequired <;> decide)
    (fun h => by have := h.lbad; have := h.lb; omega) aheadB_step

theorem rankB_le {c : Config} {T : Nat} {x : World} (hI : Inv c x.s x.g) : rankB T x ≤ 44 := by
  have := hI.hbf; have := hI.hcti; have := hI.hcred; have := hI.hacks4; have := b2_le x.s.lrty
  exact rank_le_of fun f => by cases f <;> simp only [aheadB] <;> omega

/-- **LBAD liveness from any state that satisfies the invariant.**  If `T ≤ LBADs sent + [lbad_pending]` (the `T`-th
LBAD is owed) then it has completed on the wire once the history contains `44 + 4·(retry requests)` ready cycles. -/
theorem lbad_live (c : Config) (T : Nat) (s : State) (g : Ghost) (h : Inv c s g)
    (hT : T ≤ g.lbads + b2 s.lbad) (is : List In) (ho : EnvOk c s g is)
    (hn : 44 + 4 * countIn (·.retryRequired) is ≤ readyCount is) :
    T ≤ (runG c s g is).2.lbads := by
  have := rank_live (rankB_step c T) ⟨s, g, Cnt.init⟩ ⟨h, hT⟩ (rankB_le h) is ho
    (by rw [cntS_in c (·.retryRequired)]; exact hn)
  rwa [← runW_sg c is ⟨s, g, Cnt.init⟩]

set_option hygiene false in
local macro "rank_go" hf:ident h0:ident h1:ident : tactic =>
  `(tactic| (
    have hlr : lr s = if s.lrty then 4 else 0 := rfl
    cases hg : s.gen <;> cases hr : i.srcReady <;> cases hl : s.lrty <;> cases hq : i.retryRequired <;>
      simp [$hf:ident, $h0:ident, $h1:ident, hlb, hacc, hg, hr, hl, hq, fsm_beq, gen_beq, fsmNext, genNext, done,
        lgoodDone, lcrdDone, dispatchNext, generate, ph, nf, nr, na, en, step_fsm, step_gen]
        at fa fc fb flb lgA lcC fA fC g0 lrD lrN hlr hT hz ⊢ <;>
      (repeat' split) <;> (try simp only [ph] at *) <;> omega))

end LunaVerif.HeaderRx
