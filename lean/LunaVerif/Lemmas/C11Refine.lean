import LunaVerif.Lemmas.C11Host
/-!
# C11 — the exactly-once refinement (ghost-state induction)
-/
namespace LunaVerif.InXfer

theorem bufBytes_wNext (c : Config) (s : State) (i : In) (hd : i.discard = false)
    (hl : s.w.mem.length = c.mps) (hf : s.w.fill ≤ c.mps) :
    bufBytes (wNext c s i) = bufBytes s.w ++ (if wen c s i then [i.sPayload % 256] else []) := by
  unfold bufBytes wNext
  simp only [hd]
  by_cases hw : wen c s i = true
  · have hlt : s.w.fill < s.w.mem.length := by
      simp [wen, inReady] at hw
      omega
    simp only [hw, if_true, Bool.false_eq_true, if_false]
    rw [List.take_add_one, List.take_set_of_le (Nat.le_refl _)]
    simp [hlt]
  · simp [hw]

theorem bufBytes_rNext (c : Config) (s : State) (i : In) (hd : i.discard = false) :
    bufBytes (rNext c s i) = bufBytes s.r := by
  simp [bufBytes, rNext, hd]


theorem bufBytes_fill0 (b : Buf) (h : b.fill = 0) : bufBytes b = [] := by simp [bufBytes, h]

theorem data_glue {K kn pend pend' : List Nat} {P N : List (Nat × Bool)}
    (h : K ++ pend = P.map (·.1)) (hp : kn ++ pend' = pend ++ N.map (·.1)) :
    (K ++ kn) ++ pend' = (P ++ N).map (·.1) := by
  rw [List.append_assoc, hp, ← List.append_assoc, h, List.map_append]

theorem flatten_snoc (L : List (List Nat)) (p : List Nat) : (L ++ [p]).flatten = L.flatten ++ p :=
  List.flatten_concat

/-! ## The refinement invariant -/

structure J (c : Config) (s : State) (g : Obs) : Prop where
  inv   : Inv c s
  first : s.first = (decide (s.fsm = .sendPacket) && decide (s.sendPos = 0))
  cur   : g.cur = if s.fsm = .sendPacket then s.r.mem.take s.sendPos else []
  cpid  : s.fsm = .sendPacket → 0 < s.sendPos → g.curPid = s.pid
  sync  : s.fsm = .waitData ∨ s.fsm = .waitAck → g.hostPid = s.pid   -- nothing staged, or the staged packet has gone out whole
  data  : g.pkts.flatten ++ pending s g.hostPid = g.prod.map (·.1)

theorem J_init (c : Config) : J c (init c) obsInit := by
  refine ⟨inv_init c, ?_, ?_, ?_, ?_, ?_⟩ <;> simp [init, obsInit, pending, bufBytes, emptyBuf]

/-! ## What the observer records in a cycle -/

theorem obsProd_eq (c : Config) (s : State) (i : In) (g : Obs) :
    obsProd g i (step c s i).2 =
      { g with prod := g.prod ++ (if wen c s i then [(i.sPayload % 256, i.sLast)] else []) } := by
  have : (step c s i).2.sReady = inReady c s := by
    cases hfs : s.fsm
    · rw [step_waitData i hfs]
    · rw [step_waitSend i hfs]
    · rw [step_sendPacket i hfs]
    · rw [step_waitAck i hfs]
  unfold obsProd
  rw [this]
  unfold wen
  split <;> simp

theorem obsWire_quiet {g : Obs} {i : In} {o : Out} (h : o.valid = false) : obsWire g i o = g := by
  simp only [obsWire, h, Bool.false_eq_true, if_false]

theorem obsWire_waitSend {c : Config} {s : State} {g : Obs} {i : In} (hJ : J c s g) (hfs : s.fsm = .waitSend)
    (hd : i.discard = false) (hr : i.resetSeq = false) :
    obsWire g i (step c s i).2 = if inTok i && s.r.fill == 0 then g.complete [] s.pid else g := by
  have hcur : g.cur = [] := by simpa [hfs] using hJ.cur
  have hfirst : s.first = false := by simpa [hfs] using hJ.first
  rw [step_waitSend i hfs]
  simp only [obsWire, hd, hr, hcur, hfirst, Bool.not_false, Bool.true_and, List.isEmpty_nil, Bool.and_self, if_true]
  split <;> rfl

/-- SEND_PACKET: the observer is `send_position` bytes into the packet (at position 0: outside, and the byte is
marked `first`), and attributes it to the current PID. -/
theorem obsWire_sendPacket {c : Config} {s : State} {g : Obs} {i : In} (hJ : J c s g)
    (hfs : s.fsm = .sendPacket) :
    obsWire g i (step c s i).2 =
      if i.txReady then
        if s.sendPos + 1 = s.r.fill then g.complete (bufBytes s.r) s.pid
        else { g with cur := s.r.mem.take (s.sendPos + 1), curPid := s.pid }
      else g := by
  obtain ⟨hlt, hrd⟩ := hJ.inv.send hfs
  have hrl := hJ.inv.rlen
  have hrf := hJ.inv.rfill
  have hcur : g.cur = s.r.mem.take s.sendPos := by simpa [hfs] using hJ.cur
  have hfirst : s.first = decide (s.sendPos = 0) := by simpa [hfs] using hJ.first
  have hemp : g.cur.isEmpty = decide (s.sendPos = 0) := by
    rw [hcur]
    by_cases h0 : s.sendPos = 0
    · simp [h0]
    · have : s.r.mem ≠ [] := by
        intro h; rw [h] at hrl; simp at hrl; omega
      simp [h0, this]
  have hnz : (g.cur.isEmpty && !s.first) = false := by
    rw [hemp, hfirst]; cases decide (s.sendPos = 0) <;> rfl
  have hpidsel : (if g.cur.isEmpty then s.pid else g.curPid) = s.pid := by
    rw [hemp]
    by_cases h0 : s.sendPos = 0
    · simp [h0]
    · simp only [h0, decide_false, Bool.false_eq_true, if_false]
      exact hJ.cpid hfs (by omega)
  have hsnoc : g.cur ++ [s.r.rdata] = s.r.mem.take (s.sendPos + 1) := by
    rw [hcur, List.take_add_one, hrd]; rfl
  rw [step_sendPacket i hfs]
  simp only [obsWire, if_true, hnz, Bool.false_eq_true, if_false, hpidsel, hsnoc, beq_iff_eq]
  split
  · split
    · rename_i hl; rw [bufBytes, ← hl]
    · rfl
  · rfl

/-! ## Every legal cycle keeps `J` -/

/-- A step without any packet-stream event that ends outside SEND_PACKET. -/
theorem J_quiet (c : Config) (s s' : State) (g : Obs) (i : In) (hJ : J c s g) (hinv' : Inv c s')
    (hf : s'.first = false) (hns : s'.fsm ≠ .sendPacket) (hc : g.cur = [])
    (hs : s'.fsm = .waitData ∨ s'.fsm = .waitAck → g.hostPid = s'.pid)
    (hp : pending s' g.hostPid = pending s g.hostPid ++ (if wen c s i then [i.sPayload % 256] else [])) :
    J c s' { g with prod := g.prod ++ (if wen c s i then [(i.sPayload % 256, i.sLast)] else []) } := by
  refine ⟨hinv', ?_, ?_, ?_, hs, ?_⟩
  · simp [hf, hns]
  · simp [hc, hns]
  · intro h; exact absurd h hns
  · have := data_glue (kn := []) (N := if wen c s i then [(i.sPayload % 256, i.sLast)] else [])
      (pend' := pending s' g.hostPid) hJ.data (by
        rw [hp]; cases wen c s i <;> simp)
    simpa using this

/-- The host's toggle after a completed packet is that packet's PID, whether it kept the packet or not. -/
theorem Obs.complete_eq (g : Obs) (p : List Nat) (pid : Bool) :
    g.complete p pid =
      { g with cur := [], hostPid := pid, pkts := g.pkts ++ (if pid = g.hostPid then [] else [p]) } := by
  unfold Obs.complete
  split
  · rename_i h; subst h; simp
  · rfl

/-- A step that completes the packet staged in the read buffer (its last byte, or the zero-length packet) and
goes to WAIT_FOR_ACK: the host keeps it iff its toggle differs. -/
theorem J_complete (c : Config) (s s' : State) (g : Obs) (i : In) (p : List Nat) (hJ : J c s g)
    (hd : i.discard = false) (hinv' : Inv c s') (hf : s'.first = false) (hfsm : s'.fsm = .waitAck)
    (hpid : s'.pid = s.pid) (hw : s'.w = wNext c s i) (hb : p = bufBytes s.r) :
    J c s' { g.complete p s.pid with
             prod := (g.complete p s.pid).prod ++ (if wen c s i then [(i.sPayload % 256, i.sLast)] else []) } := by
  subst hb
  have hwb := bufBytes_wNext c s i hd hJ.inv.wlen hJ.inv.wfill
  rw [Obs.complete_eq]
  refine ⟨hinv', by simp [hf, hfsm], by simp [hfsm], by simp [hfsm], fun _ => hpid.symm, ?_⟩
  -- kept now: the read buffer, unless the host had kept it already
  have := data_glue (kn := if s.pid = g.hostPid then [] else bufBytes s.r)
    (N := if wen c s i then [(i.sPayload % 256, i.sLast)] else []) (pend' := bufBytes (wNext c s i)) hJ.data (by
      simp only [pending, hwb, eq_comm (a := g.hostPid)]; split <;> cases wen c s i <;> simp)
  simpa [pending, hpid, hw, apply_ite List.flatten] using this

theorem J_step_waitData (c : Config) (s : State) (g : Obs) (i : In) (hl : LegalIn i)
    (hJ : J c s g) (hfs : s.fsm = .waitData) :
    J c (step c s i).1 (obsStep g (i, (step c s i).2)) := by
  obtain ⟨hd, hr⟩ := hl
  have hinv' := inv_step c s i hd hJ.inv
  have hw : obsWire g i (step c s i).2 = g := obsWire_quiet (by rw [step_waitData i hfs])
  have hcur : g.cur = [] := by simpa [hfs] using hJ.cur
  have hfirst : s.first = false := by simpa [hfs] using hJ.first
  have hhp := hJ.sync (.inl hfs)
  have hwb := bufBytes_wNext c s i hd hJ.inv.wlen hJ.inv.wfill
  simp only [obsStep, hw, obsProd_eq]
  rw [step_waitData i hfs] at hinv' ⊢
  cases hp : packetReady c s i <;> simp only [hp, hr, if_true, Bool.false_eq_true, if_false] at hinv' ⊢
  · exact J_quiet c s _ g i hJ hinv' hfirst (fun h => absurd (hfs.symm.trans h) nofun) hcur (fun _ => hhp)
      (by simp [pending, hhp, hwb])
  · have e1 : bufBytes { rNext c s i with ended := false } = [] :=
      bufBytes_fill0 _ ((rNext_fill c s i hd).trans (hJ.inv.idle hfs))
    exact J_quiet c s _ g i hJ hinv' hfirst nofun hcur nofun (by simp [pending, hhp, hwb, e1])

theorem J_step_waitSend (c : Config) (s : State) (g : Obs) (i : In) (hl : LegalIn i)
    (hJ : J c s g) (hfs : s.fsm = .waitSend) :
    J c (step c s i).1 (obsStep g (i, (step c s i).2)) := by
  obtain ⟨hd, hr⟩ := hl
  have hinv' := inv_step c s i hd hJ.inv
  have hcur : g.cur = [] := by simpa [hfs] using hJ.cur
  have hfirst : s.first = false := by simpa [hfs] using hJ.first
  have hwb := bufBytes_wNext c s i hd hJ.inv.wlen hJ.inv.wfill
  have hrb := bufBytes_rNext c s i hd
  simp only [obsStep, obsProd_eq, obsWire_waitSend hJ hfs hd hr]
  rw [step_waitSend i hfs] at hinv' ⊢
  cases ht : inTok i <;>
    simp only [hd, hr, ht, if_true, Bool.false_eq_true, if_false, Bool.false_and, Bool.true_and] at hinv' ⊢
  · exact J_quiet c s _ g i hJ hinv' hfirst (fun h => absurd (hfs.symm.trans h) nofun) hcur (by simp [hfs])
      (by simp [pending, hrb, hwb])
  · by_cases hf : s.r.fill = 0
    · simp only [hf, bne_self_eq_false, beq_self_eq_true, if_true, Bool.false_eq_true, if_false] at hinv' ⊢
      exact J_complete c s _ g i [] hJ hd hinv' hfirst rfl rfl rfl (bufBytes_fill0 _ hf).symm
    · simp only [bne_iff_ne, ne_eq, beq_iff_eq, hf, not_false_eq_true, if_true, if_false] at hinv' ⊢
      refine ⟨hinv', rfl, by simp [hcur], nofun, nofun, ?_⟩
      have := data_glue (kn := []) (N := if wen c s i then [(i.sPayload % 256, i.sLast)] else [])
        (pend' := pending s g.hostPid ++ (if wen c s i then [i.sPayload % 256] else [])) hJ.data (by
          cases wen c s i <;> simp)
      simpa [pending, hrb, hwb] using this

theorem J_step_sendPacket (c : Config) (s : State) (g : Obs) (i : In) (hl : LegalIn i)
    (hJ : J c s g) (hfs : s.fsm = .sendPacket) :
    J c (step c s i).1 (obsStep g (i, (step c s i).2)) := by
  obtain ⟨hd, hr⟩ := hl
  have hinv' := inv_step c s i hd hJ.inv
  obtain ⟨hlt, -⟩ := hJ.inv.send hfs
  have hrf := hJ.inv.rfill
  have hwb := bufBytes_wNext c s i hd hJ.inv.wlen hJ.inv.wfill
  have hrb := bufBytes_rNext c s i hd
  have hdata : (g.pkts.flatten ++ []) ++ (pending s g.hostPid ++ (if wen c s i then [i.sPayload % 256] else []))
      = (g.prod ++ if wen c s i then [(i.sPayload % 256, i.sLast)] else []).map (·.1) :=
    data_glue hJ.data (by cases wen c s i <;> simp)
  simp only [obsStep, obsProd_eq, obsWire_sendPacket hJ hfs]
  rw [step_sendPacket i hfs, succ_mod_bitsFor (Nat.lt_of_lt_of_le hlt hrf)] at hinv' ⊢
  cases hrdy : i.txReady <;> simp only [hr, hrdy, if_true, Bool.false_eq_true, if_false] at hinv' ⊢
  · refine ⟨hinv', by simpa [hfs] using hJ.first, by simpa [hfs, rNext] using hJ.cur, fun _ => hJ.cpid hfs,
      by simp [hfs], ?_⟩
    simpa [pending, hrb, hwb] using hdata
  · by_cases hlast : s.sendPos + 1 = s.r.fill
    · simp only [beq_iff_eq, if_pos hlast] at hinv' ⊢
      exact J_complete c s _ g i _ hJ hd hinv' rfl rfl rfl rfl rfl
    · simp only [beq_iff_eq, if_neg hlast] at hinv' ⊢
      refine ⟨hinv', by simp, by simp [rNext], fun _ _ => rfl, nofun, ?_⟩
      simpa [pending, hrb, hwb] using hdata

theorem J_step_waitAck (c : Config) (s : State) (g : Obs) (i : In) (hl : LegalIn i)
    (hJ : J c s g) (hfs : s.fsm = .waitAck) :
    J c (step c s i).1 (obsStep g (i, (step c s i).2)) := by
  obtain ⟨hd, hr⟩ := hl
  have hcur : g.cur = [] := by simpa [hfs] using hJ.cur
  have hfirst : s.first = false := by simpa [hfs] using hJ.first
  have hhp := hJ.sync (.inr hfs)
  have hwb := bufBytes_wNext c s i hd hJ.inv.wlen hJ.inv.wfill
  have ho : obsWire g i (step c s i).2 = g := obsWire_quiet (by rw [step_waitAck i hfs])
  obtain ⟨hinv1, hns⟩ := inv_ackNext i hd hJ.inv hfs
  have h1 : J c (ackNext c s i)
      { g with prod := g.prod ++ (if wen c s i then [(i.sPayload % 256, i.sLast)] else []) } := by
    have e0 : ∀ b : Buf, bufBytes { b with fill := 0 } = [] := fun b => by simp [bufBytes]
    have e1 : ∀ b : Buf, bufBytes { b with fill := 0, ended := false } = [] := fun b => by simp [bufBytes]
    simp only [ackNext, hd, hr, Bool.false_eq_true, if_false] at hinv1 ⊢
    cases ha : ackTaken i <;> simp only [ha, if_true, Bool.false_eq_true, if_false] at hinv1 ⊢
    · exact J_quiet c s _ g i hJ hinv1 hfirst (fun h => absurd (hfs.symm.trans h) nofun) hcur (fun _ => hhp)
        (by simp [pending, hhp, hwb])
    · cases hfu : (i.genZlps && s.r.fill == c.mps && s.r.ended) <;>
        simp only [hfu, if_true, Bool.false_eq_true, if_false] at hinv1 ⊢
      · cases hsw : (!inReady c s || packetReady c s i) <;>
          simp only [hsw, if_true, Bool.false_eq_true, if_false] at hinv1 ⊢
        · exact J_quiet c s _ g i hJ hinv1 hfirst nofun hcur (fun _ => hhp) (by simp [pending, hhp, hwb])
        · exact J_quiet c s _ g i hJ hinv1 hfirst nofun hcur nofun (by simp [pending, hhp, hwb, e1])
      · exact J_quiet c s _ g i hJ hinv1 hfirst nofun hcur nofun (by simp [pending, hhp, hwb, e0])
  simp only [obsStep, obsProd_eq, ho]
  rw [step_waitAck i hfs]
  dsimp only
  split
  · exact ⟨h1.inv.to_waitSend, h1.first.trans (by simp [hns]), h1.cur.trans (by simp [hns]), nofun, nofun, h1.data⟩
  · exact h1

theorem J_step (c : Config) (s : State) (g : Obs) (i : In) (hl : LegalIn i) (hJ : J c s g) :
    J c (step c s i).1 (obsStep g (i, (step c s i).2)) := by
  cases hfs : s.fsm with
  | waitData => exact J_step_waitData c s g i hl hJ hfs
  | waitSend => exact J_step_waitSend c s g i hl hJ hfs
  | sendPacket => exact J_step_sendPacket c s g i hl hJ hfs
  | waitAck => exact J_step_waitAck c s g i hl hJ hfs

theorem J_run (c : Config) (ins : List In) (henv : LegalInEnv ins) (s : State) (g : Obs)
    (hJ : J c s g) : J c (runState c s ins) (observeFrom g (trace c s ins)) := by
  induction ins generalizing s g with
  | nil => exact hJ
  | cons i is ih =>
    simp only [runState, trace, observeFrom, List.foldl_cons]
    exact ih (fun j hj => henv j (by simp [hj])) _ _ (J_step c s g i (henv i (by simp)) hJ)

theorem J_reachable (c : Config) (ins : List In) (henv : LegalInEnv ins) :
    J c (runState c (init c) ins) (observe (trace c (init c) ins)) :=
  J_run c ins henv _ _ (J_init c)

/-! ## The theorems -/

/-- **Exactly once, in order** (the main refinement theorem of C11).  For every max packet size, every
input history with `discard = reset_sequence = 0` — any producer timing, transfer boundaries and
`flush` requests, any timing of tokens (to this or other endpoints), any pattern of ACKs including lost,
late, duplicated and foreign ones, any `packet_stream.ready` schedule — and at every cycle: the data
the host has accepted so far (each DATA0/DATA1-toggled packet taken once), followed by the data still
inside the device (the read buffer unless the host's toggle shows it already kept that packet, then the
write buffer), is exactly the data the producer has handed over so far.  Hence no byte is lost,
duplicated, reordered or invented. -/
theorem in_exactly_once (c : Config) (ins : List In) (henv : LegalInEnv ins) :
    hostAccepted (trace c (init c) ins)
        ++ pending (runState c (init c) ins) (observe (trace c (init c) ins)).hostPid
      = producerAccepted (trace c (init c) ins) :=
  (J_reachable c ins henv).data

theorem host_data_is_prefix (c : Config) (ins : List In) (henv : LegalInEnv ins) :
    hostAccepted (trace c (init c) ins) <+: producerAccepted (trace c (init c) ins) :=
  ⟨_, in_exactly_once c ins henv⟩

/-- Corollary: the device never holds more than its two buffers: at most `2 * mps` bytes have been
accepted from the producer and not yet been kept by the host. -/
theorem at_most_two_packets_buffered (c : Config) (ins : List In) (henv : LegalInEnv ins) :
    (producerAccepted (trace c (init c) ins)).length
      ≤ (hostAccepted (trace c (init c) ins)).length + 2 * c.mps := by
  have hJ := J_reachable c ins henv
  rw [← in_exactly_once c ins henv, List.length_append]
  have h1 : (pending (runState c (init c) ins) (observe (trace c (init c) ins)).hostPid).length
      ≤ c.mps + c.mps := by
    have hr := hJ.inv.rfill
    have hw := hJ.inv.wfill
    unfold pending bufBytes
    split <;> simp <;> omega
  omega

/-! ## Non-vacuity: the history of `Props/C11.lean` (fill, IN, lost ACK, retry, ACK, NAK) is legal, the
host sees the packet twice and keeps it once. -/

example : LegalInEnv exHist := by decide
example : (observe (trace ⟨2⟩ (init ⟨2⟩) (exHist.take 6))).pkts = [[5, 6]] := by decide
example : hostAccepted (trace ⟨2⟩ (init ⟨2⟩) exHist) = [5, 6]
    ∧ producerAccepted (trace ⟨2⟩ (init ⟨2⟩) exHist) = [5, 6]
    ∧ pending (runState ⟨2⟩ (init ⟨2⟩) exHist) (observe (trace ⟨2⟩ (init ⟨2⟩) exHist)).hostPid = [] := by
  decide

end LunaVerif.InXfer
