import LunaVerif.Lemmas.C07Mps
import LunaVerif.Lemmas.C07Closed2
/-!
# The closed loops (Lemmas/C07Closed.lean, C07Closed2.lean) along histories, for EVERY legal control max packet size

The one-event closed-loop theorems `closed_eventR` (serializer model in the loop) and `closed_eventR2` (serializer
model + block descriptor handler model, `max_packet_size ∈ {8, 16, 32, 64}`) do not depend on the event-level successor
state; only the histories do, through `cycle_refines_step_all_mps`.  The histories run over the event-level model with
the `start_position` advance by `max_packet_size` (`stepM`, Model/Device/ControlM.lean); for `max_packet_size = 64` that model
is `Device.step`, and the theorems about `Device.step` (`closed_loop_refines_event_run`, `closed2_refines_event_run`)
are the instances.
-/
namespace LunaVerif.CtrlCyc
open LunaVerif.Device LunaVerif.StreamGen

/-! ### Serializer model in the loop -/

def sysBusRespsM (c : DevConfig) : DevState → SysState → List (Stim × GapsS) → List Resp
  | _, _, [] => []
  | d, s, (x, g) :: rest =>
      sysBusResp (cfgOf c) s ((expandRM c d x.ev g).map (·.2)) ::
        sysBusRespsM c (stepM c d x).1 (sysFinal (cfgOf c) s ((expandRM c d x.ev g).map (·.2))) rest

def TxLat0FromM (c : DevConfig) : DevState → List (Stim × GapsS) → Prop
  | _, [] => True
  | d, (x, g) :: rest => TxLat0 c d x.ev g ∧ TxLat0FromM c (stepM c d x).1 rest

theorem closed_loop_run_mps (c : DevConfig) (hx : c.extra = []) (h : List (Stim × GapsS))
    (d : DevState) (hinv : Inv d) (hcfg : d.config < 256) (hfit : FitsFromM c d h = true)
    (ht : ∀ xg ∈ h, TSil xg.2) (hl : TxLat0FromM c d h) (s : SysState) (hr : Rel d s.cs) (hq : SerQ s.ser) :
    ∃ ser', SerF (cfgOf c) s.cs s.ser ((expandAllRM c d h).map (·.2)) ser' ∧ SerQ ser' ∧
      sysBusRespsM c d s h = busRespsM c d s.cs h := by
  induction h generalizing d s with
  | nil => exact ⟨s.ser, rfl, hq, rfl⟩
  | cons xg rest ih =>
    obtain ⟨x, g⟩ := xg
    simp only [FitsFromM, Bool.and_eq_true] at hfit
    obtain ⟨l1, l2⟩ := hl
    obtain ⟨s1, c1, q1⟩ := closed_eventR c hx d x.ev g hfit.1 (ht (x, g) (List.mem_cons_self ..)) l1 s hr hq
    rw [← expandRM_eq] at c1
    have r1 := (cycle_refines_step_all_mps c hx d x g hinv hcfg hfit.1 s.cs hr).1
    obtain ⟨s2, c2, q2, b2⟩ := ih (stepM c d x).1 (inv_stepM c d x hinv) (config_lt_stepM c d x hcfg) hfit.2
      (fun xg hxg => ht xg (List.mem_cons_of_mem _ hxg)) l2
      ⟨final (cfgOf c) s.cs ((expandRM c d x.ev g).map (·.2)), s1⟩ r1 q1
    refine ⟨s2, ?_, q2, ?_⟩
    · simp only [expandAllRM, List.map_append]
      exact c1.append c2
    · simp only [sysBusRespsM, busRespsM, (CL.of_follows c1).busResp, (CL.of_follows c1).1, b2]

/-- **`cycle_refines_event`, closed loop with the serializer model, from reset, every `max_packet_size`** (no
hypothesis on `c.maxPacket`).  The closed loop of the cycle-level control-endpoint model with the serializer model of
its transmitter -- no stream contract on the transmitter -- run from reset over the expansion of ANY event history
(every handler state, bus resets; the descriptor handler still an input under its contract; the transmitter's windows
with the serializer's own latency, `TxLat0FromM`; every window long enough, `FitsFromM`): the control endpoint ends
related to the event-level final state, the bus carries for every event exactly the event-level response, device.py's
registers end with the event-level values, and the serializer is idle or in its DONE cycle.  Also assumed: no additional
request handlers (`c.extra = []`), and the free transmitter inputs of every cycle of the expansion silent (`TSil`: the closed
loop overwrites them with the serializer's outputs). -/
theorem closed_loop_refines_event_run_mps (c : DevConfig) (hx : c.extra = [])
    (h : List (Stim × GapsS)) (hfit : FitsFromM c Device.init h = true) (ht : ∀ xg ∈ h, TSil xg.2)
    (hl : TxLat0FromM c Device.init h) :
    Rel (finalM c Device.init (h.map (·.1)))
      (sysFinal (cfgOf c) sysInit ((expandAllRM c Device.init h).map (·.2))).cs ∧
    sysBusRespsM c Device.init sysInit h = coreRespsM c Device.init (h.map (·.1)) ∧
    regsAfterR (0, 0) (sysOutsR (cfgOf c) sysInit (expandAllRM c Device.init h)) =
      ((finalM c Device.init (h.map (·.1))).address, (finalM c Device.init (h.map (·.1))).config) ∧
    SerQ (sysFinal (cfgOf c) sysInit ((expandAllRM c Device.init h).map (·.2))).ser := by
  obtain ⟨ser', cl, q, b⟩ := closed_loop_run_mps c hx h Device.init inv_init (by decide) hfit ht hl sysInit
    rel_init (Or.inl rfl)
  obtain ⟨c1, c2⟩ := CL.of_follows cl
  obtain ⟨o1, o2, o3⟩ := cycle_refines_event_streams_from_reset_mps c hx h hfit
  refine ⟨?_, ?_, ?_, ?_⟩
  · rw [c1]; exact o1
  · rw [b]; exact o2
  · unfold sysOutsR
    rw [c2, ← outsR_zip]; exact o3
  · rw [c1]; exact q

/-! #### `max_packet_size = 64`: the event-level model is `Device.step` -/

theorem sysBusRespsM_64 (c : DevConfig) (hmp : c.maxPacket = 64) (d : DevState) (s : SysState) (h : List (Stim × GapsS)) :
    sysBusRespsM c d s h = sysBusResps c d s h := by
  induction h generalizing d s with
  | nil => rfl
  | cons xg rest ih => simp only [sysBusRespsM, sysBusResps, expandRM_eq, stepM_eq_step c hmp, ih]

theorem TxLat0FromM_64 (c : DevConfig) (hmp : c.maxPacket = 64) (d : DevState) (h : List (Stim × GapsS)) :
    TxLat0FromM c d h = TxLat0From c d h := by
  induction h generalizing d with
  | nil => rfl
  | cons xg rest ih => simp only [TxLat0FromM, TxLat0From, stepM_eq_step c hmp, ih]

/-- `closed_loop_refines_event_run_mps` at 64, over `Device.step`. -/
theorem closed_loop_refines_event_run (c : DevConfig) (hx : c.extra = []) (hmp : c.maxPacket = 64)
    (h : List (Stim × GapsS)) (hfit : FitsFrom c Device.init h = true) (ht : ∀ xg ∈ h, TSil xg.2)
    (hl : TxLat0From c Device.init h) :
    Rel (Device.final c Device.init (h.map (·.1)))
      (sysFinal (cfgOf c) sysInit ((expandAllR c Device.init h).map (·.2))).cs ∧
    sysBusResps c Device.init sysInit h = coreResps c Device.init (h.map (·.1)) ∧
    regsAfterR (0, 0) (sysOutsR (cfgOf c) sysInit (expandAllR c Device.init h)) =
      ((Device.final c Device.init (h.map (·.1))).address, (Device.final c Device.init (h.map (·.1))).config) ∧
    SerQ (sysFinal (cfgOf c) sysInit ((expandAllR c Device.init h).map (·.2))).ser := by
  have := closed_loop_refines_event_run_mps c hx h (by rw [FitsFromM_64 c hmp]; exact hfit) ht
    (by rw [TxLat0FromM_64 c hmp]; exact hl)
  rwa [expandAllRM_64 c hmp, sysBusRespsM_64 c hmp, coreRespsM_64 c hmp, finalM_eq_final c hmp] at this

/-! ### Serializer model + block descriptor handler model in the loop -/

def sys2BusRespsM (c : DevConfig) (bc : Desc.Block.Config) : DevState → Sys2State → List (Stim × GapsS) → List Resp
  | _, _, [] => []
  | d, s, (x, g) :: rest =>
      sys2BusResp (cfgOf c) bc s ((expandRM c d x.ev g).map (·.2)) ::
        sys2BusRespsM c bc (stepM c d x).1 (sys2Final (cfgOf c) bc s ((expandRM c d x.ev g).map (·.2))) rest

def Fits2FromM (c : DevConfig) : DevState → List (Stim × GapsS) → Bool
  | _, [] => true
  | d, (x, g) :: rest => StreamFits2 c d x.ev g && Fits2FromM c (stepM c d x).1 rest

theorem closed2_run_mps (c : DevConfig) (hx : c.extra = [])
    (hm : c.maxPacket = 8 ∨ c.maxPacket = 16 ∨ c.maxPacket = 32 ∨ c.maxPacket = 64)
    (hwf : Desc.wellFormed (collOf c.descriptors) = true)
    (hpw : 2 ≤ (Desc.Rom.layout (collOf c.descriptors)).maxLen)
    (h : List (Stim × GapsS)) (d : DevState) (hinv : Inv d) (hcfg : d.config < 256)
    (hfit : Fits2FromM c d h = true) (ht : ∀ xg ∈ h, TDSil xg.2) (s : Sys2State) (hr : Rel d s.cs) (hq : SerQ s.ser)
    (hb : s.blk.fsm = .idle) :
    ∃ h', SameButLat h h' ∧ FitsFromM c d h' = true ∧ ∃ ser' blk',
      SerF (cfgOf c) s.cs s.ser ((expandAllRM c d h').map (·.2)) ser' ∧
      BlkF (cfgOf c) (Desc.blockOf (collOf c.descriptors) c.maxPacket) s.cs s.blk ((expandAllRM c d h').map (·.2)) blk' ∧
      SerQ ser' ∧ blk'.fsm = .idle ∧
      sys2BusRespsM c (Desc.blockOf (collOf c.descriptors) c.maxPacket) d s h' = busRespsM c d s.cs h' := by
  induction h generalizing d s with
  | nil => exact ⟨[], trivial, rfl, s.ser, s.blk, rfl, rfl, hq, hb, rfl⟩
  | cons xg rest ih =>
    obtain ⟨x, g⟩ := xg
    simp only [Fits2FromM, Bool.and_eq_true] at hfit
    obtain ⟨k, s1, b1, f1, c1, e1, q1, i1⟩ := closed_eventR2 c hx hwf hm hpw d x.ev g hfit.1
      (ht (x, g) (List.mem_cons_self ..)) s hr hq hb
    rw [← expandRM_eq] at c1 e1
    have cl := CL2.of_follows c1 e1
    have r1 := (cycle_refines_step_all_mps c hx d x { g with lat := k } hinv hcfg f1 s.cs hr).1
    obtain ⟨rest', sb, ff, s2, b2, c2, d2, q2, i2, e2⟩ := ih (stepM c d x).1 (inv_stepM c d x hinv)
      (config_lt_stepM c d x hcfg) hfit.2 (fun xg hxg => ht xg (List.mem_cons_of_mem _ hxg))
      ⟨final (cfgOf c) s.cs ((expandRM c d x.ev { g with lat := k }).map (·.2)), s1, b1⟩ r1 q1 i1
    refine ⟨(x, { g with lat := k }) :: rest', ⟨rfl, ⟨k, rfl⟩, sb⟩, ?_, s2, b2, ?_, ?_, q2, i2, ?_⟩
    · simp only [FitsFromM, f1, ff, Bool.and_self]
    · simp only [expandAllRM, List.map_append]
      exact c1.append c2
    · simp only [expandAllRM, List.map_append]
      exact e1.append d2
    · simp only [sys2BusRespsM, busRespsM, cl.busResp, cl.1, e2]

/-- **`cycle_refines_event`, closed loop with both streamers, from reset, `max_packet_size ∈ {8, 16, 32, 64}` -- no
stream contract left.**  The closed loop of the cycle-level control-endpoint model, the serializer model of its
transmitter and the model of its block descriptor handler `GetDescriptorHandlerBlock(descriptors, max_packet_length =
c.maxPacket)` (started at `start_position` = 0, `mps`, 2·`mps`, … by the standard handler model, it produces the packets
itself), run from reset over the expansion of ANY event history whose windows are long enough and whose descriptor
reads are in order (`Fits2FromM`; the latter is derived from `LegalHostM` in Lemmas/C07MpsLegal.lean) -- every
handler state, bus resets; the free parameters of the expansion are the caller's except the descriptor-window
latencies, which are the handler model's (`SameButLat`) --: the control endpoint ends related to the event-level final
state, the bus carries for every event exactly the event-level response, device.py's registers end with the
event-level values, and both streamers are at rest.  Also assumed: no additional request handlers (`c.extra = []`), a
well-formed descriptor table whose ROM's longest descriptor has at least two bytes (`hwf`, `hpw`), and the free streamer
inputs of every cycle of the expansion silent (`TDSil`). -/
theorem closed2_refines_event_run_mps (c : DevConfig) (hx : c.extra = [])
    (hm : c.maxPacket = 8 ∨ c.maxPacket = 16 ∨ c.maxPacket = 32 ∨ c.maxPacket = 64)
    (hwf : Desc.wellFormed (collOf c.descriptors) = true)
    (hpw : 2 ≤ (Desc.Rom.layout (collOf c.descriptors)).maxLen)
    (h : List (Stim × GapsS)) (hfit : Fits2FromM c Device.init h = true) (ht : ∀ xg ∈ h, TDSil xg.2) :
    ∃ h', SameButLat h h' ∧
      Rel (finalM c Device.init (h.map (·.1)))
        (sys2Final (cfgOf c) (Desc.blockOf (collOf c.descriptors) c.maxPacket) sys2Init
          ((expandAllRM c Device.init h').map (·.2))).cs ∧
      sys2BusRespsM c (Desc.blockOf (collOf c.descriptors) c.maxPacket) Device.init sys2Init h' =
        coreRespsM c Device.init (h.map (·.1)) ∧
      regsAfterR (0, 0) (sys2OutsR (cfgOf c) (Desc.blockOf (collOf c.descriptors) c.maxPacket) sys2Init
          (expandAllRM c Device.init h')) =
        ((finalM c Device.init (h.map (·.1))).address, (finalM c Device.init (h.map (·.1))).config) ∧
      SerQ (sys2Final (cfgOf c) (Desc.blockOf (collOf c.descriptors) c.maxPacket) sys2Init
          ((expandAllRM c Device.init h').map (·.2))).ser ∧
      (sys2Final (cfgOf c) (Desc.blockOf (collOf c.descriptors) c.maxPacket) sys2Init
          ((expandAllRM c Device.init h').map (·.2))).blk.fsm = .idle := by
  obtain ⟨h', sb, ff, ser', blk', fs, fb, q, i, b⟩ := closed2_run_mps c hx hm hwf hpw h Device.init inv_init (by decide)
    hfit ht sys2Init rel_init (Or.inl rfl) rfl
  obtain ⟨c1, c2⟩ := CL2.of_follows fs fb
  obtain ⟨o1, o2, o3⟩ := cycle_refines_event_streams_from_reset_mps c hx h' ff
  rw [sb.stims] at o1 o2 o3
  refine ⟨h', sb, ?_, ?_, ?_, ?_, ?_⟩
  · rw [c1]; exact o1
  · rw [b]; exact o2
  · unfold sys2OutsR
    rw [c2, ← outsR_zip]; exact o3
  · rw [c1]; exact q
  · rw [c1]; exact i

theorem sys2BusRespsM_64 (c : DevConfig) (hmp : c.maxPacket = 64) (bc : Desc.Block.Config) (d : DevState) (s : Sys2State)
    (h : List (Stim × GapsS)) : sys2BusRespsM c bc d s h = sys2BusResps c bc d s h := by
  induction h generalizing d s with
  | nil => rfl
  | cons xg rest ih => simp only [sys2BusRespsM, sys2BusResps, expandRM_eq, stepM_eq_step c hmp, ih]

theorem Fits2FromM_64 (c : DevConfig) (hmp : c.maxPacket = 64) (d : DevState) (h : List (Stim × GapsS)) :
    Fits2FromM c d h = Fits2From c d h := by
  induction h generalizing d with
  | nil => rfl
  | cons xg rest ih => simp only [Fits2FromM, Fits2From, stepM_eq_step c hmp, ih]

/-- `closed2_refines_event_run_mps` at 64, over `Device.step`. -/
theorem closed2_refines_event_run (c : DevConfig) (hx : c.extra = []) (hmp : c.maxPacket = 64)
    (hwf : Desc.wellFormed (collOf c.descriptors) = true)
    (hpw : 2 ≤ (Desc.Rom.layout (collOf c.descriptors)).maxLen)
    (h : List (Stim × GapsS)) (hfit : Fits2From c Device.init h = true) (ht : ∀ xg ∈ h, TDSil xg.2) :
    ∃ h', SameButLat h h' ∧
      Rel (Device.final c Device.init (h.map (·.1)))
        (sys2Final (cfgOf c) (Desc.blockOf (collOf c.descriptors) c.maxPacket) sys2Init
          ((expandAllR c Device.init h').map (·.2))).cs ∧
      sys2BusResps c (Desc.blockOf (collOf c.descriptors) c.maxPacket) Device.init sys2Init h' =
        coreResps c Device.init (h.map (·.1)) ∧
      regsAfterR (0, 0) (sys2OutsR (cfgOf c) (Desc.blockOf (collOf c.descriptors) c.maxPacket) sys2Init
          (expandAllR c Device.init h')) =
        ((Device.final c Device.init (h.map (·.1))).address, (Device.final c Device.init (h.map (·.1))).config) ∧
      SerQ (sys2Final (cfgOf c) (Desc.blockOf (collOf c.descriptors) c.maxPacket) sys2Init
          ((expandAllR c Device.init h').map (·.2))).ser ∧
      (sys2Final (cfgOf c) (Desc.blockOf (collOf c.descriptors) c.maxPacket) sys2Init
          ((expandAllR c Device.init h').map (·.2))).blk.fsm = .idle := by
  obtain ⟨h', sb, this⟩ := closed2_refines_event_run_mps c hx (Or.inr (Or.inr (Or.inr hmp))) hwf hpw h
    (by rw [Fits2FromM_64 c hmp]; exact hfit) ht
  rw [expandAllRM_64 c hmp, sys2BusRespsM_64 c hmp, coreRespsM_64 c hmp, finalM_eq_final c hmp] at this
  exact ⟨h', sb, this⟩

/-! ### Non-vacuity: `max_packet_size = 8`, the closed loop of the three models evaluated by the kernel -/

def exCfgC8 : DevConfig :=
  { descriptors := [(1, 0, [18, 1, 0, 2, 0, 0, 0, 8, 9, 18, 1, 0, 0, 1, 1, 2, 3, 1]), (2, 0, List.range 16)],
    maxPacket := 8, posBits := 5 }

/-- GET_DESCRIPTOR(device, wLength 64) in three packets (8 + 8 + 2), GET_DESCRIPTOR(type 2: 16 bytes, wLength 64) in
two packets and a zero-length packet, GET_STATUS, a missing descriptor, bus reset. -/
def exHistoryD8 (latD : Nat) : List (Stim × GapsS) :=
  let setupTok : Stim × GapsS := (⟨.token PID_SETUP 0 0, .none⟩, exGd 0 0)
  let setupData : List Nat → Stim × GapsS := fun p => (⟨.data PID_DATA0 p true, .none⟩, exGd 0 0)
  let inTok : Nat → Nat → Stim × GapsS := fun lat n => (⟨.token PID_IN 0 0, .none⟩, exGd lat n)
  let hostAck : Stim × GapsS := (⟨.handshake PID_ACK, .none⟩, exGd 0 0)
  let statusOut : List (Stim × GapsS) :=
    [(⟨.token PID_OUT 0 0, .none⟩, exGd 0 0), (⟨.data PID_DATA1 [] true, .none⟩, exGd 0 0)]
  [setupTok, setupData [0x80, 6, 0, 1, 0, 0, 64, 0], inTok latD 8, hostAck, inTok latD 8, hostAck, inTok latD 2, hostAck] ++
    statusOut ++
  [setupTok, setupData [0x80, 6, 0, 2, 0, 0, 64, 0], inTok latD 8, hostAck, inTok latD 8, hostAck, inTok latD 0, hostAck] ++
    statusOut ++
  [setupTok, setupData [0x80, 0, 0, 0, 0, 0, 2, 0], inTok 0 2, hostAck] ++ statusOut ++
  [setupTok, setupData [0x80, 6, 0, 9, 0, 0, 18, 0], inTok latD 0] ++
  [(⟨.busReset, .none⟩, exGd 0 0)]

-- the hypotheses of `closed2_refines_event_run_mps` (whatever the caller's guess for the latency)
example : exCfgC8.extra = [] ∧ exCfgC8.maxPacket = 8 := ⟨rfl, rfl⟩
example : Desc.wellFormed (collOf exCfgC8.descriptors) = true ∧ 2 ≤ (Desc.Rom.layout (collOf exCfgC8.descriptors)).maxLen := by
  decide +kernel
example : Fits2FromM exCfgC8 Device.init (exHistoryD8 0) = true := by decide +kernel
example : ∀ xg ∈ exHistoryD8 0, TDSil xg.2 := by
  have h : (exHistoryD8 0).all (fun xg => TDSilB xg.2) = true := by decide +kernel
  intro xg hxg
  exact TDSil_of_B _ (List.all_eq_true.mp h xg hxg)
-- its conclusion evaluated: with the block handler model's own latency (4 cycles: `lat := 3`) the closed loop's bus
-- responses are the event-level model's (start_position 0 / 8 / 16), and both streamers are at rest at the end
example : sys2BusRespsM exCfgC8 (Desc.blockOf (collOf exCfgC8.descriptors) 8) Device.init sys2Init (exHistoryD8 3) =
    [.none, .hs PID_ACK, .data PID_DATA1 [18, 1, 0, 2, 0, 0, 0, 8], .none, .data PID_DATA0 [9, 18, 1, 0, 0, 1, 1, 2], .none,
     .data PID_DATA1 [3, 1], .none, .none, .hs PID_ACK,
     .none, .hs PID_ACK, .data PID_DATA1 [0, 1, 2, 3, 4, 5, 6, 7], .none, .data PID_DATA0 [8, 9, 10, 11, 12, 13, 14, 15], .none,
     .data PID_DATA1 [], .none, .none, .hs PID_ACK,
     .none, .hs PID_ACK, .data PID_DATA1 [0, 0], .none, .none, .hs PID_ACK,
     .none, .hs PID_ACK, .hs PID_STALL, .none] := by decide +kernel
example : sys2BusRespsM exCfgC8 (Desc.blockOf (collOf exCfgC8.descriptors) 8) Device.init sys2Init (exHistoryD8 3) =
    coreRespsM exCfgC8 Device.init ((exHistoryD8 0).map (·.1)) := by decide +kernel
example : (sys2Final (cfgOf exCfgC8) (Desc.blockOf (collOf exCfgC8.descriptors) 8) sys2Init
    ((expandAllRM exCfgC8 Device.init (exHistoryD8 3)).map (·.2))).blk.fsm = .idle := by decide +kernel

end LunaVerif.CtrlCyc
