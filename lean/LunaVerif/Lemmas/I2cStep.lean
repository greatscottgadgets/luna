import LunaVerif.Model.Periph.I2cInitiator
/-!
The I2C initiator's `step` (C52) in the form the proofs use.  Every cycle does two independent things: the bus
driver's registers and the quarter-period timer move (`tick`), and the FSM state of the cycle acts on the
registers the FSM owns.  Every FSM state but IDLE waits for one condition (`exits`: the strobe; for the
SCL-H states a cycle without the strobe in which SCL is released and — with `clk_stretch` — the synchronised line is
seen high) and then hands over (`handover`: next state and register updates);
while it waits nothing but `tick` happens, except that an SCL-H state releases SCL on the strobe.  `step_eq`
says so once; `step_cases` is the same as a proof rule, so that a property of `step c s i` is shown for `tick`
(usually by `rfl`), for the release, and state by state for `handover`, where the condition waited for no longer
appears.  IDLE waits for nothing and decides by the priority of the operation strobes; `idle_cases` is the rule for its
handover, one branch per kind of operation accepted.

Also here, because both byte-level invariants (`Lemmas/I2cWrite.lean`, `Lemmas/I2cRead.lean`) rest on it: the
invariant of the bit counter, `LoopInv` — `bitno` is 0 outside the two 8-bit data loops (so every write/read
transfers exactly 8 data clocks before the acknowledge clock), SDA is released during the acknowledge clock of
a write (so the target can answer) and during the data clocks of a read (so the target can drive data).
-/
namespace LunaVerif.I2c

def tick (c : Config) (s : State) (i : In) : State :=
  { s with
    sclS0 := i.sclPad, sclI := s.sclS0, sdaS0 := i.sdaPad, sdaI := s.sdaS0,
    sclR := s.sclI, sdaR := s.sdaI,
    timer := if s.timer == 0 || !s.busy then (c.period / 4) % 2 ^ timerWidth c.period
             else if !c.clkStretch || (s.sclO == s.sclI) then s.timer - 1 else s.timer }

theorem tick_fields (c : Config) (s : State) (i : In) :
    (tick c s i).fsm = s.fsm ∧ (tick c s i).sclO = s.sclO ∧ (tick c s i).sdaO = s.sdaO ∧
    (tick c s i).busy = s.busy ∧ (tick c s i).bitno = s.bitno ∧ (tick c s i).rShreg = s.rShreg ∧
    (tick c s i).wShreg = s.wShreg ∧ (tick c s i).rAck = s.rAck ∧ (tick c s i).ackO = s.ackO ∧
    (tick c s i).dataO = s.dataO :=
  ⟨rfl, rfl, rfl, rfl, rfl, rfl, rfl, rfl, rfl, rfl⟩

def sclHighState : Fsm → Bool
  | .startSclH | .stopSclH | .wrDataSclH | .wrAckSclH | .rdDataSclH | .rdAckSclH => true
  | _ => false

def exits (c : Config) (s : State) : Bool :=
  if sclHighState s.fsm then !stb s && (s.sclO && (!c.clkStretch || s.sclI)) else stb s

def handover (c : Config) (s : State) (i : In) : State :=
  match s.fsm with
  | .idle =>
    let s1 := { tick c s i with busy := true }
    if i.start then
      if s.sclI && s.sdaI then { s1 with fsm := .startSdaL }
      else if !s.sclI then { s1 with fsm := .startSclH }
      else { s1 with fsm := .startSclL }
    else if i.stop then
      if s.sclI && !s.sdaO then { s1 with fsm := .stopSdaH }
      else if !s.sclI then { s1 with fsm := .stopSclH }
      else { s1 with fsm := .stopSclL }
    else if i.write then { s1 with wShreg := i.dataI % 256, fsm := .wrDataSclL }
    else if i.read then { s1 with rAck := i.ackI, fsm := .rdDataSclL }
    else { s1 with busy := false }
  | .startSclL => { tick c s i with sclO := false, fsm := .startSdaH }
  | .startSdaH => { tick c s i with fsm := .startSclH, sdaO := true }
  | .startSclH => { tick c s i with fsm := .startSdaL }
  | .startSdaL => { tick c s i with fsm := .idle, sdaO := false }
  | .stopSclL => { tick c s i with sclO := false, fsm := .stopSdaL }
  | .stopSdaL => { tick c s i with fsm := .stopSclH, sdaO := false }
  | .stopSclH => { tick c s i with fsm := .stopSdaH }
  | .stopSdaH => { tick c s i with fsm := .idle, sdaO := true }
  | .wrDataSclL => { tick c s i with sclO := false, fsm := .wrDataSdaX }
  | .wrDataSdaX => { tick c s i with fsm := .wrDataSclH, sdaO := s.wShreg / 128 % 2 == 1 }
  | .wrDataSclH => { tick c s i with fsm := .wrDataSdaN, wShreg := s.wShreg * 2 % 256 }
  | .wrDataSdaN =>
    { tick c s i with fsm := if s.bitno == 7 then .wrAckSclL else .wrDataSclL, bitno := (s.bitno + 1) % 8 }
  | .wrAckSclL => { tick c s i with sclO := false, fsm := .wrAckSdaH }
  | .wrAckSdaH => { tick c s i with fsm := .wrAckSclH, sdaO := true }
  | .wrAckSclH => { tick c s i with fsm := .wrAckSdaN, ackO := !s.sdaI }
  | .wrAckSdaN => { tick c s i with fsm := .idle }
  | .rdDataSclL => { tick c s i with sclO := false, fsm := .rdDataSdaH }
  | .rdDataSdaH => { tick c s i with fsm := .rdDataSclH, sdaO := true }
  | .rdDataSclH =>
    { tick c s i with fsm := .rdDataSdaN, rShreg := (if s.sdaI then 1 else 0) + s.rShreg % 128 * 2 }
  | .rdDataSdaN =>
    { tick c s i with fsm := if s.bitno == 7 then .rdAckSclL else .rdDataSclL, bitno := (s.bitno + 1) % 8 }
  | .rdAckSclL => { tick c s i with sclO := false, fsm := .rdAckSdaX }
  | .rdAckSdaX => { tick c s i with fsm := .rdAckSclH, sdaO := !s.rAck }
  | .rdAckSclH => { tick c s i with fsm := .rdAckSdaN, dataO := s.rShreg }
  | .rdAckSdaN => { tick c s i with fsm := .idle }

theorem step_eq (c : Config) (s : State) (i : In) : step c s i =
    if s.fsm == .idle || exits c s then handover c s i
    else if sclHighState s.fsm && stb s then { tick c s i with sclO := true } else tick c s i := by
  -- with the FSM state, the strobe (timer 0 or not) and `scl_o` known, both sides evaluate to the same record
  obtain ⟨_, _, _, _, _, _, sclO, _, _, timer, _, _, _, _, _, _, fsm⟩ := s
  cases fsm <;> cases timer <;> cases sclO <;> rfl

theorem step_idle (c : Config) (s : State) (i : In) (hf : s.fsm = .idle) : step c s i = handover c s i := by
  rw [step_eq, if_pos (by simp [hf])]

theorem step_cases {P : State → Prop} (c : Config) (s : State) (i : In)
    (hold : s.fsm ≠ .idle → exits c s = false → P (tick c s i))
    (rel : s.fsm ≠ .idle → exits c s = false → sclHighState s.fsm = true → P { tick c s i with sclO := true })
    (adv : s.fsm = .idle ∨ exits c s = true → P (handover c s i)) : P (step c s i) := by
  rw [step_eq]
  split
  · rename_i hx
    exact adv (by simpa using hx)
  · rename_i hn
    simp only [Bool.or_eq_true, beq_iff_eq, not_or, Bool.not_eq_true] at hn
    split
    · exact rel hn.1 hn.2 (by simp_all)
    · exact hold hn.1 hn.2

/-- Where a START or STOP accepted in IDLE enters its sequence.  The source picks the state the (synchronised) lines are
already in: with SCL and SDA high a START only has to pull SDA low (`START-SDA-L`), with SCL low it first releases SCL
(`START-SCL-H`), otherwise it starts with `START-SCL-L`; a STOP likewise.  `stop` counts only without `start`.
`Entry i f` keeps of this only that `f` is one of the three states of the sequence, not the line condition that
picks it. -/
def Entry (i : In) (f : Fsm) : Prop :=
  (i.start = true ∧ (f = .startSdaL ∨ f = .startSclH ∨ f = .startSclL)) ∨
  (i.start = false ∧ i.stop = true ∧ (f = .stopSdaH ∨ f = .stopSclH ∨ f = .stopSclL))

/-- IDLE's handover, by the priority of the strobes (the `If / Elif` chain of the source): `start`, then `stop` — either
enters its sequence at one of three states (`Entry`) and touches nothing but `busy` —, then `write`, which loads the shift
register from `data_i`, then `read`, which latches `ack_i`; without a strobe only `busy` falls. -/
theorem idle_cases {P : State → Prop} (c : Config) (s : State) (i : In) (hf : s.fsm = .idle)
    (enter : ∀ f, Entry i f → P { tick c s i with busy := true, fsm := f })
    (write : i.start = false → i.stop = false → i.write = true →
      P { tick c s i with busy := true, wShreg := i.dataI % 256, fsm := .wrDataSclL })
    (read : i.start = false → i.stop = false → i.write = false → i.read = true →
      P { tick c s i with busy := true, rAck := i.ackI, fsm := .rdDataSclL })
    (none : i.start = false → i.stop = false → i.write = false → i.read = false →
      P { tick c s i with busy := false }) : P (handover c s i) := by
  simp only [handover, hf]
  cases h1 : i.start
  · cases h2 : i.stop
    · cases h3 : i.write
      · cases h4 : i.read
        · exact none h1 h2 h3 h4
        · exact read h1 h2 h3 h4
      · exact write h1 h2 h3
    · simp only [Bool.false_eq_true, if_false, if_true]
      (repeat' split) <;> exact enter _ (.inr (by simp [h1, h2]))
  · simp only [if_true]
    (repeat' split) <;> exact enter _ (.inl (by simp [h1]))

theorem handover_idle (c : Config) (s : State) (i : In) (hf : s.fsm = .idle) :
    (handover c s i).sclO = s.sclO ∧ (handover c s i).sdaO = s.sdaO ∧ (handover c s i).rShreg = s.rShreg ∧
    (handover c s i).ackO = s.ackO ∧ (handover c s i).timer = (tick c s i).timer :=
  idle_cases (P := fun s' => s'.sclO = _ ∧ s'.sdaO = _ ∧ s'.rShreg = _ ∧ s'.ackO = _ ∧ s'.timer = _) c s i hf
    (fun _ _ => ⟨rfl, rfl, rfl, rfl, rfl⟩) (fun _ _ _ => ⟨rfl, rfl, rfl, rfl, rfl⟩)
    (fun _ _ _ _ => ⟨rfl, rfl, rfl, rfl, rfl⟩) (fun _ _ _ _ => ⟨rfl, rfl, rfl, rfl, rfl⟩)

theorem step_timer (c : Config) (s : State) (i : In) : (step c s i).timer = (tick c s i).timer := by
  refine step_cases (P := fun s' => s'.timer = (tick c s i).timer) c s i
    (fun _ _ => rfl) (fun _ _ _ => rfl) fun _ => ?_
  cases hf : s.fsm
  case idle => exact (handover_idle c s i hf).2.2.2.2
  all_goals simp only [handover, hf]

theorem stateAfter_inv {P : State → Prop} (c : Config) (hstep : ∀ s i, P s → P (step c s i)) :
    ∀ (h : List In) (s : State), P s → P (stateAfter c s h)
  | [], _, hs => hs
  | i :: is, s, hs => stateAfter_inv c hstep is _ (hstep s i hs)

def inBitLoop : Fsm → Bool
  | .wrDataSclL | .wrDataSdaX | .wrDataSclH | .wrDataSdaN
  | .rdDataSclL | .rdDataSdaH | .rdDataSclH | .rdDataSdaN => true
  | _ => false

structure LoopInv (s : State) : Prop where
  bitLt : s.bitno < 8
  bit0  : inBitLoop s.fsm = false → s.bitno = 0
  w4    : (s.fsm = .wrAckSclH ∨ s.fsm = .wrAckSdaN) → s.sdaO = true
  r1    : (s.fsm = .rdDataSclH ∨ s.fsm = .rdDataSdaN) → s.sdaO = true

theorem loopInv_init : LoopInv init := by
  constructor <;> simp [init, inBitLoop]

/-- `LoopInv` does not mention SCL, so waiting and releasing keep it.  At a handover: `bitno` moves only out of
the two `…-DATA-SDA-N` states, to `(bitno + 1) % 8`, and these leave their loop exactly when that is 0; SDA
moves only out of the `…-SDA-…` set-up states, and the ones before the phases named in `w4`, `r1` release it. -/
theorem loopInv_step (c : Config) (s : State) (i : In) (h : LoopInv s) : LoopInv (step c s i) := by
  obtain ⟨hlt, h0, h4, hr⟩ := h
  refine step_cases c s i (fun _ _ => ⟨hlt, h0, h4, hr⟩) (fun _ _ _ => ⟨hlt, h0, h4, hr⟩) fun _ => ?_
  have hm : (s.bitno + 1) % 8 < 8 := Nat.mod_lt _ (by decide)
  cases hf : s.fsm
  case idle =>
    have hz : s.bitno = 0 := h0 (by rw [hf]; rfl)
    refine idle_cases c s i hf ?_ (fun _ _ _ => ?_) (fun _ _ _ _ => ?_) fun _ _ _ _ => ?_
    · rintro f (⟨_, rfl | rfl | rfl⟩ | ⟨_, _, rfl | rfl | rfl⟩) <;> constructor <;> simp [tick_fields, inBitLoop, hz]
    all_goals constructor <;> simp [tick_fields, inBitLoop, hz, hf]
  all_goals simp only [handover, hf, beq_iff_eq] <;> (repeat' split) <;>
    constructor <;> simp [tick_fields, inBitLoop, *]

/-- After any input history the whole of `LoopInv`: `bitno < 8`, eight data clocks per octet (`bitno` = 0 outside the
loops), SDA released during the write-acknowledge clock and during read data clocks. -/
theorem sda_released_for_target_bits (c : Config) (h : List In) : LoopInv (stateAfter c init h) :=
  stateAfter_inv c (loopInv_step c) h init loopInv_init

end LunaVerif.I2c
