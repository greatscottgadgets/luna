import LunaVerif.Lemmas.C07StreamMain
/-!
# The simulation for every handler state (`cycle_refines_event_streams`) — part 5: bus reset, the vocabulary of histories
(see Lemmas/C07Stream.lean for the set-up; the theorems about histories are in Lemmas/C07Mps.lean).

The bus reset does not reach the control endpoint: `USBDevice` clears its `address` / `configuration` registers
while `reset_sequencer.bus_reset` is high (device.py; that assignment comes last, so it wins over the
`address_changed` / `config_changed` strobes of the same cycle).  Cycles are therefore annotated with the value of
`bus_reset` (`Bool × CycIn`) and device.py's two registers follow `regsStepR`.
-/
namespace LunaVerif.CtrlCyc
open LunaVerif.Device

/-- device.py: `If(address_changed): address.eq(new_address)`, `If(config_changed): configuration.eq(new_config)`,
then `If(bus_reset): address.eq(0), configuration.eq(0)`. -/
def regsStepR (ac : Nat × Nat) (rst : Bool) (o : CycOut) : Nat × Nat :=
  if rst then (0, 0)
  else (if o.addressChanged then o.newAddress else ac.1, if o.configChanged then o.newConfig else ac.2)

def regsAfterR : Nat × Nat → List (Bool × CycOut) → Nat × Nat
  | ac, [] => ac
  | ac, (rst, o) :: os => regsAfterR (regsStepR ac rst o) os

def outsR (cyc : Cfg) : CycState → List (Bool × CycIn) → List (Bool × CycOut)
  | _, [] => []
  | cs, (r, i) :: is => (r, (step cyc cs i).2) :: outsR cyc (step cyc cs i).1 is

def noRst (is : List CycIn) : List (Bool × CycIn) := is.map (fun i => (false, i))

theorem noRst_snd (is : List CycIn) : (noRst is).map (·.2) = is := by
  simp [noRst, Function.comp_def]

theorem regsAfterR_append (ac : Nat × Nat) (x y : List (Bool × CycOut)) :
    regsAfterR ac (x ++ y) = regsAfterR (regsAfterR ac x) y := by
  induction x generalizing ac with
  | nil => rfl
  | cons o os ih => obtain ⟨r, o⟩ := o; exact ih _

theorem outsR_append (cyc : Cfg) (cs : CycState) (a b : List (Bool × CycIn)) :
    outsR cyc cs (a ++ b) = outsR cyc cs a ++ outsR cyc (final cyc cs (a.map (·.2))) b := by
  induction a generalizing cs with
  | nil => rfl
  | cons i is ih =>
    obtain ⟨r, i⟩ := i
    simp only [List.cons_append, outsR, List.map_cons, final, ih]

theorem regsAfterR_noRst (cyc : Cfg) (cs : CycState) (ac : Nat × Nat) (is : List CycIn) :
    regsAfterR ac (outsR cyc cs (noRst is)) = regsAfter ac (outs cyc cs is) := by
  induction is generalizing cs ac with
  | nil => rfl
  | cons i is ih =>
    simp only [noRst, List.map_cons, outsR, regsAfterR, regsStepR, Bool.false_eq_true, if_false, outs, run, regsAfter]
    exact ih _ _

/-- `SimO` over cycles annotated with `bus_reset`. -/
def SimRO (cyc : Cfg) (d d' : DevState) (ris : List (Bool × CycIn)) (ob ob' : Obs) : Prop :=
  ∀ cs, Rel d cs →
    Rel d' (final cyc cs (ris.map (·.2))) ∧ obsRun cyc ob cs (ris.map (·.2)) = ob' ∧
    regsAfterR (d.address, d.config) (outsR cyc cs ris) = (d'.address, d'.config)

theorem SimO.simRO {cyc : Cfg} {d d' : DevState} {is : List CycIn} {ob ob' : Obs} (h : SimO cyc d d' is ob ob') :
    SimRO cyc d d' (noRst is) ob ob' := by
  intro cs hr
  obtain ⟨a1, a2, a3⟩ := h cs hr
  rw [noRst_snd, regsAfterR_noRst]
  exact ⟨a1, a2, a3⟩

theorem SimRO.append {cyc : Cfg} {d d1 d2 : DevState} {a b : List (Bool × CycIn)} {o0 o1 o2 : Obs}
    (h1 : SimRO cyc d d1 a o0 o1) (h2 : SimRO cyc d1 d2 b o1 o2) : SimRO cyc d d2 (a ++ b) o0 o2 := by
  intro cs hr
  obtain ⟨a1, a2, a3⟩ := h1 cs hr
  obtain ⟨b1, b2, b3⟩ := h2 _ a1
  rw [List.map_append]
  refine ⟨by rw [final_append]; exact b1, ?_, ?_⟩
  · rw [obsRun_append, a2, b2]
  · rw [outsR_append, regsAfterR_append, a3, b3]

theorem sim_reset_cycle (c : DevConfig) (d : DevState) (n : CycIn) :
    SimRO (cfgOf c) d { d with address := 0, config := 0 } [(true, envIn d (calm d n))] .idle .idle := by
  intro cs hr
  obtain ⟨a, b, nf, _, _⟩ := sim_quiet_s c d (calm d n) (calmH_calm d n) cs hr
  refine ⟨a.congr rfl rfl rfl rfl rfl, ?_, rfl⟩
  simp only [List.map_cons, List.map_nil, obsRun, obsStep, seen, b, nf]
  simp [Resp.isNone]

/-- The cycles of an event, annotated with `bus_reset`: a bus reset is idle cycles for the control endpoint, with
`bus_reset` high in at least one of them (`g.n1`, then the cycles `g.mid`); every other event is `expandS`. -/
def expandR (c : DevConfig) (d : DevState) (e : HostEvent) (g : GapsS) : List (Bool × CycIn) :=
  match e with
  | .busReset =>
      noRst (idleS d g.pre) ++ ((true, envIn d (calm d g.n1)) ::
        ((idleS { d with address := 0, config := 0 } g.mid).map (fun i => (true, i)) ++
          noRst (idleS { d with address := 0, config := 0 } g.post)))
  | _ => noRst (expandS c d e g)

theorem sim_reset_cycles (c : DevConfig) (d : DevState) (h0 : d.address = 0) (h1 : d.config = 0) (ns : List CycIn) :
    SimRO (cfgOf c) d d ((idleS d ns).map (fun i => (true, i))) .idle .idle := by
  induction ns with
  | nil => intro cs hr; exact ⟨hr, rfl, rfl⟩
  | cons n ns ih =>
    have h := sim_reset_cycle c d n
    have hd : ({ d with address := 0, config := 0 } : DevState) = d := by
      cases d; simp_all
    rw [hd] at h
    exact h.append ih

theorem sim_bus_reset (c : DevConfig) (d : DevState) (g : GapsS) :
    SimRO (cfgOf c) d { d with address := 0, config := 0 } (expandR c d .busReset g) .idle .idle :=
  (sim_idleS c d g.pre).simRO.append (SimRO.append (a := [_]) (sim_reset_cycle c d g.n1)
    ((sim_reset_cycles c { d with address := 0, config := 0 } rfl rfl g.mid).append
      (sim_idleS c { d with address := 0, config := 0 } g.post).simRO))

/-- The cycles of a whole history (every event with its own idle-cycle counts, free inputs, stream window). -/
def expandAllR (c : DevConfig) : DevState → List (Stim × GapsS) → List (Bool × CycIn)
  | _, [] => []
  | d, (x, g) :: rest => expandR c d x.ev g ++ expandAllR c (Device.step c d x).1 rest

def busResps (c : DevConfig) : DevState → CycState → List (Stim × GapsS) → List Resp
  | _, _, [] => []
  | d, cs, (x, g) :: rest =>
      busResp (cfgOf c) cs ((expandR c d x.ev g).map (·.2)) ::
        busResps c (Device.step c d x).1 (final (cfgOf c) cs ((expandR c d x.ev g).map (·.2))) rest

/-- Every stream window of the history is long enough (`StreamFits`, event by event). -/
def FitsFrom (c : DevConfig) : DevState → List (Stim × GapsS) → Bool
  | _, [] => true
  | d, (x, g) :: rest => StreamFits c d x.ev g && FitsFrom c (Device.step c d x).1 rest

end LunaVerif.CtrlCyc
