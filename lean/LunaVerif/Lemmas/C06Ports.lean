import LunaVerif.Lemmas.C06History
/-!
# C06 — the cycle numbers of the timed trace are port cycles; `ack_once_after_gap` at the `ack` port
-/
namespace LunaVerif.SetupDecoder
open LunaVerif.Utmi LunaVerif.DataCrc LunaVerif.Crc

theorem ttrace_idx_ge (c : Config) (s : State) (h : List RxCycle) (t : Nat) :
    ∀ x ∈ ttrace c s h t, t ≤ x.1 := by
  induction h generalizing s t with
  | nil => intro x hx; simp [ttrace] at hx
  | cons i is ih =>
    intro x hx
    simp only [ttrace, List.mem_append, List.mem_map] at hx
    rcases hx with ⟨e, _, rfl⟩ | hx
    · exact Nat.le_refl _
    · have := ih _ _ x hx; omega

/-- an ACK event with cycle number `t0 + k` in the timed trace is the `ack` port being high in
cycle `k` of the run (and vice versa) -/
theorem ttrace_ack_port (c : Config) (s : State) (h : List RxCycle) (t0 k : Nat) :
    (t0 + k, Event.ack) ∈ ttrace c s h t0 ↔ ((run c s h)[k]?).map (·.ack) = some true := by
  induction h generalizing s t0 k with
  | nil => simp [ttrace, run]
  | cons i is ih =>
    cases k with
    | zero =>
      simp only [ttrace, run, List.mem_append, List.mem_map, Nat.add_zero, List.getElem?_cons_zero, Option.map_some,
        Option.some.injEq]
      constructor
      · rintro (⟨e, he, heq⟩ | hx)
        · have : e = .ack := by injection heq
          subst this
          simp only [stepEvents, List.mem_append] at he
          rcases he with he | he
          · by_cases ha : (step c s i).2.ack = true
            · exact ha
            · simp [ha] at he
          · simp only [latched] at he
            split at he <;> simp at he
        · exact absurd (ttrace_idx_ge c _ _ _ _ hx) (Nat.not_succ_le_self t0)
      · intro ha
        left
        exact ⟨.ack, by simp [stepEvents, ha], rfl⟩
    | succ k =>
      simp only [ttrace, run, List.mem_append, List.mem_map, List.getElem?_cons_succ]
      rw [← ih (step c s i).1 (t0 + 1) k]
      have e : t0 + (k + 1) = t0 + 1 + k := by omega
      rw [e]
      constructor
      · rintro (⟨e', _, heq⟩ | hx)
        · injection heq with h1 _; omega
        · exact hx
      · intro hx; right; exact hx

/-- a report event with cycle number `t0 + k` is the decoder latching `received` at the end of
cycle `k`: the `packet.received` port is high in cycle `k + 1` with exactly those fields -/
theorem ttrace_report_port (c : Config) (s : State) (h : List RxCycle) (t0 k : Nat) (a b v x l : Nat) :
    (t0 + k, Event.received a b v x l) ∈ ttrace c s h t0 ↔
      k < h.length ∧ latched (final c s (h.take (k + 1))) = [Event.received a b v x l] := by
  induction h generalizing s t0 k with
  | nil => simp [ttrace]
  | cons i is ih =>
    cases k with
    | zero =>
      simp only [ttrace, List.mem_append, List.mem_map, Nat.add_zero, List.length_cons, Nat.zero_lt_succ, true_and,
        Nat.zero_add, List.take_succ_cons, List.take_zero, final]
      constructor
      · rintro (⟨e, he, heq⟩ | hx)
        · have : e = .received a b v x l := by injection heq
          subst this
          simp only [stepEvents, List.mem_append] at he
          rcases he with he | he
          · split at he <;> simp at he
          · simp only [latched] at he ⊢
            split at he
            · rename_i hr
              rw [if_pos hr]
              simp only [List.mem_singleton] at he
              rw [he]
            · simp at he
        · exact absurd (ttrace_idx_ge c _ _ _ _ hx) (Nat.not_succ_le_self t0)
      · intro hl
        left
        exact ⟨_, by simp [stepEvents, hl], rfl⟩
    | succ k =>
      simp only [ttrace, List.mem_append, List.mem_map, List.length_cons, List.take_succ_cons, final]
      have e : t0 + (k + 1) = t0 + 1 + k := by omega
      rw [e]
      have ih' := ih (step c s i).1 (t0 + 1) k
      constructor
      · rintro (⟨e', _, heq⟩ | hx)
        · injection heq with h1 _; omega
        · obtain ⟨h1, h2⟩ := ih'.1 hx
          exact ⟨by omega, h2⟩
      · rintro ⟨h1, h2⟩
        right
        exact ih'.2 ⟨by omega, h2⟩

/-- **ack_once_after_gap at the `ack` port.**  During packet `p` after any legal history from reset,
the decoder's `ack` output is high in cycle `k` of the packet iff `p` is reported and `k` is the
strobe cycle (high speed, or the timer's `tx_allowed` up in that cycle) resp. the strobe cycle +
`delay` + 1 — in no other cycle, for no other packet. -/
theorem ack_port_exact (c : Config) (hc : c.delay ≤ c.counterMax + 1) (pre : List RxPacket) (p : RxPacket)
    (hl : LegalFrom c absInit (pre ++ [p])) (k : Nat) :
    ((run c (final c init (renderAll pre)) (render p))[k]?).map (·.ack) = some true ↔
      ((armedAfter c.addr (pre.map (·.bytes)) && isSetupData p.bytes) = true ∧
       k = if (strobeState c (final c init (renderAll pre)) p).counter == c.delay || c.hs then strobeIndex p
           else strobeIndex p + c.delay + 1) := by
  rw [← ttrace_ack_port c _ _ 0 k, (ack_once_after_gap c hc pre p hl 0).1]
  cases (armedAfter c.addr (pre.map (·.bytes)) && isSetupData p.bytes) <;>
    cases ((strobeState c (final c init (renderAll pre)) p).counter == c.delay || c.hs) <;>
    simp [report]

end LunaVerif.SetupDecoder
