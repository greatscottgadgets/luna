import LunaVerif.Props.C57
/-!
# C57 — whole-device histories: ghost history variables and the instrumented run

The rx / tx order theorems of `Props/C57.lean` are stated on endpoint OPERATIONS.  Here they are lifted to event
histories of the whole `USBSerialDevice` model (`Full.step` with the endpoint list of `acmCfg`): every event
kind of `HostEvent` (tokens for any address / endpoint, data packets good or corrupted, handshakes, control
transfers — CLEAR_FEATURE(ENDPOINT_HALT) included —, bus reset, produce / consume, …).

What the host and the application can OBSERVE is recorded in ghost history variables (`Ghost`).  `ghostStep` computes
them from the event, the device's answer (`Obs`) and the control side of the device's state `s.ctl`, of which it reads:
the token detector's outputs (`tokPid`, `tokEp`), the address register (is an IN token this device's), and, at a
handshake, the halt-clear strobe as `ctxOf` forms it from the latched SETUP packet (`setup.type`, `setup.index`) and the
standard request handler's state (`hstate`).  It never reads `s.eps`, the endpoints' buffers and toggles:

* `acked`     payloads of the data packets for OUT endpoint 4 that the device ACKed with a fresh toggle (USB 2.0
              §8.6: the receiver's sequence bit `rxBit` starts at DATA0 and flips on every packet accepted),
* `delivered` bytes read from the rx stream (`consume` events),
* `produced`  bytes the tx stream accepted (`produce` events: the first `count` bytes of each chunk),
* `kept`      bytes the host accepted from IN endpoint 4 by the toggle rule (host sequence bit `hostBit`).

The device-side event history cannot say whether the host received an answer of the device: an event is annotated
with `got` ("the host receives the device's answer to this event intact").  `ghostStep` reads it at IN tokens (the DATA
answer); the host's rx bookkeeping of `Props/C57RxHost.lean` reads it at data packets (the handshake).

CLEAR_FEATURE(ENDPOINT_HALT), as coded (the standard handler strobes the halt-clear when the host's ACK of the
status stage arrives; `ctxOf … .clearHalt`):
* OUT 4: the expected toggle becomes DATA0; buffered data stay.  Ghost: `rxBit := false`.
* IN 4 : the next packet is sent as DATA0 — also a packet that is already waiting for its (re)transmission; the
  buffers stay.  The host restarts with DATA0 as well (`hostBit := false`).  If the host had accepted a packet
  whose ACK the device has not seen (`unconfirmed`), the device sends that packet again as DATA0 and the host,
  which now expects DATA0, accepts it a SECOND time: `redo` marks this, the re-delivered packet is logged in
  `redone` (with the packet accepted before) instead of `kept`, `ambiguousClears` counts these halt-clears.
A bus reset changes neither toggles nor buffers (device.py resets address and configuration only), so the ghost
host keeps its sequence bits as well.
-/
namespace LunaVerif.C57
open LunaVerif LunaVerif.Device LunaVerif.Device.Full

/-- A host event plus `got`: the host receives the device's answer to this event intact. -/
structure AEvent where
  ev  : HostEvent
  got : Bool := true
deriving Repr, DecidableEq

structure Ghost where
  -- host -> device (OUT endpoint 4)
  rxBit       : Bool := false        -- receiver's sequence bit as the USB 2.0 toggle rule prescribes it
  acked       : List Nat := []       -- payloads ACKed with a fresh toggle
  delivered   : List Nat := []       -- bytes read from the rx stream
  -- device -> host (IN endpoint 4)
  produced    : List Nat := []       -- bytes the tx stream accepted
  hostBit     : Bool := false        -- the host's sequence bit
  kept        : List Nat := []       -- bytes the host accepted (first delivery)
  lastGot     : Bool := false        -- the previous event was an IN token for endpoint 4 whose DATA answer the host got
  lastPkt     : List Nat := []       -- the packet the host accepted last
  unconfirmed : Bool := false        -- … and the device has not seen an ACK since
  redo        : Bool := false        -- a halt-clear arrived while `unconfirmed`: the next packet accepted is a re-delivery
  redone      : List (List Nat × List Nat) := []   -- (packet accepted again, packet accepted before it)
  ambiguousClears : Nat := 0
deriving Repr, DecidableEq

/-- `s`: the device's state BEFORE the event; `o`: its answer to it. -/
def ghostStep (s : FullState) (g : Ghost) (a : AEvent) (o : Obs) : Ghost :=
  let g0 := { g with lastGot := false }
  match a.ev with
  | .data pid payload _ =>
      if s.ctl.tokPid = PID_OUT ∧ s.ctl.tokEp = 4 ∧ o.resp = .hs PID_ACK ∧ pidToggle pid = g.rxBit then
        { g0 with rxBit := !g.rxBit, acked := g.acked ++ payload }
      else g0
  | .consume ep _ => if ep = 4 then { g0 with delivered := g.delivered ++ bytesOf o.delivery.items } else g0
  | .produce ep bytes _ => if ep = 4 then { g0 with produced := g.produced ++ bytes.take o.delivery.count } else g0
  | .token pid addr ep =>
      if pid = PID_IN ∧ addr = s.ctl.address ∧ ep = 4 then
        match o.resp with
        | .data dp payload =>
            if a.got then
              if pidToggle dp = g.hostBit then
                -- a new packet by the toggle rule
                if g.redo then
                  { g with lastGot := true, hostBit := !g.hostBit, redo := false, unconfirmed := true,
                           redone := g.redone ++ [(payload, g.lastPkt)], lastPkt := payload }
                else
                  { g with lastGot := true, hostBit := !g.hostBit, unconfirmed := true,
                           kept := g.kept ++ payload, lastPkt := payload }
              else { g with lastGot := true }      -- a retransmission: discarded (and ACKed)
            else g0
        | _ => g0
      else g0
  | .handshake pid =>
      let x := ctxOf s.ctl a.ev
      -- the ACK of the packet the host has just received reaches the device
      let g1 := if pid = PID_ACK ∧ s.ctl.tokPid = PID_IN ∧ s.ctl.tokEp = 4 ∧ g.lastGot = true then
                  { g0 with unconfirmed := false } else g0
      -- CLEAR_FEATURE(ENDPOINT_HALT) takes effect with this ACK
      let g2 := if haltFor x false 4 then { g1 with rxBit := false } else g1
      if haltFor x true 4 then
        { g2 with hostBit := false, redo := g2.redo || g2.unconfirmed, unconfirmed := false,
                  ambiguousClears := g2.ambiguousClears + (if g2.unconfirmed then 1 else 0) }
      else g2
  | _ => g0

def runG (c : FullConfig) : FullState → Ghost → List AEvent → FullState × Ghost
  | s, g, [] => (s, g)
  | s, g, a :: as => runG c (Full.step c s a.ev).1 (ghostStep s g a (Full.step c s a.ev).2) as

theorem runG_state (c : FullConfig) (s : FullState) (g : Ghost) (h : List AEvent) :
    (runG c s g h).1 = Full.final c s (h.map (·.ev)) := by
  induction h generalizing s g with
  | nil => rfl
  | cons a as ih => simp [runG, Full.final, ih]

/-- The test of one event under `HostAcksWhatItGot`: a handshake ACK that arrives while the token detector shows
the IN token for endpoint 4 follows directly on that token's DATA answer, and the host got that answer (`got`). -/
def ackOk (s : FullState) (g : Ghost) (a : AEvent) : Bool :=
  match a.ev with
  | .handshake pid => !(pid == PID_ACK && s.ctl.tokPid == PID_IN && s.ctl.tokEp == 4) || g.lastGot
  | _ => true

def acksFrom (c : FullConfig) : FullState → Ghost → List AEvent → Bool
  | _, _, [] => true
  | s, g, a :: as => ackOk s g a && acksFrom c (Full.step c s a.ev).1 (ghostStep s g a (Full.step c s a.ev).2) as

/-- **Environment hypothesis of the tx theorem**: the host ACKs a data packet of IN endpoint 4 only if it has
received it (`ackOk` at every event of the history from reset). -/
def HostAcksWhatItGot (c : FullConfig) (h : List AEvent) : Bool := acksFrom c (Full.init c) {} h

def ep3 : EpCfg := { kind := .streamIn, num := 3, mps := 64 }
def ep4o : EpCfg := { kind := .streamOut, num := 4, mps := 64, depth := 127 }
def ep4i : EpCfg := { kind := .streamIn, num := 4, mps := 64 }

/-- The device has the endpoints of `USBSerialDevice`: IN 3 (status), OUT 4 (rx), IN 4 (tx). -/
def IsSerial (c : FullConfig) : Prop := c.eps = [ep3, ep4o, ep4i]

theorem acmCfg_isSerial : IsSerial acmCfg := rfl

def Shape (s : FullState) (a : InEp) (b : OutEp) (d : InEp) : Prop := s.eps = [.sIn a, .sOut b, .sIn d]

theorem shape_init (c : FullConfig) (hc : IsSerial c) : Shape (Full.init c) {} {} {} := by
  unfold IsSerial at hc
  simp [Shape, Full.init, hc, initEp, ep3, ep4o, ep4i]

theorem step_eps (c : FullConfig) (hc : IsSerial c) (s : FullState) (a : InEp) (b : OutEp) (d : InEp)
    (hs : Shape s a b d) (ev : HostEvent) :
    (Full.step c s ev).1.eps =
      [(epStep ep3 (.sIn a) (ctxOf s.ctl ev) ev).1, (epStep ep4o (.sOut b) (ctxOf s.ctl ev) ev).1,
       (epStep ep4i (.sIn d) (ctxOf s.ctl ev) ev).1] := by
  unfold Shape at hs
  unfold IsSerial at hc
  simp [Full.step, hc, hs, epsStep]

theorem step_ctl (c : FullConfig) (s : FullState) (ev : HostEvent) :
    (Full.step c s ev).1.ctl = (Device.step c.dev s.ctl
      { ev := ev, foreign := firstResp ((epsStep (ctxOf s.ctl ev) ev c.eps s.eps).map (·.2.1)) }).1 := rfl

theorem step_tk (c : FullConfig) (s : FullState) (ev : HostEvent) :
    (Full.step c s ev).1.ctl.tokPid = (core c.dev s.ctl ev).1.tokPid ∧
    (Full.step c s ev).1.ctl.tokEp = (core c.dev s.ctl ev).1.tokEp := ⟨rfl, rfl⟩

theorem step_resp_eps (c : FullConfig) (s : FullState) (ev : HostEvent)
    (h1 : (core c.dev s.ctl ev).2 = .none) (h2 : (core c.dev s.ctl ev).1.tokEp ≠ 0) :
    (Full.step c s ev).2.resp = firstResp ((epsStep (ctxOf s.ctl ev) ev c.eps s.eps).map (·.2.1)) := by
  -- `ACMRequestHandlers` ACKs data packets for endpoint 0 only
  have hacm : acmAcksData s.ctl ev = false := by
    cases ev with
    | data pid p ok =>
      have h2' : s.ctl.tokEp ≠ 0 := by rw [← (onData_tok c.dev s.ctl p ok).2]; exact h2
      simp [acmAcksData, h2']
    | _ => rfl
  have hn : (core c.dev s.ctl ev).2.isNone = true := by rw [h1]; rfl
  simp only [Full.step, hacm, Bool.and_false, Bool.false_and, Bool.false_eq_true, if_false, step_resp, hn, true_and,
    if_pos h2]

theorem step_delivery (c : FullConfig) (hc : IsSerial c) (s : FullState) (a : InEp) (b : OutEp) (d : InEp)
    (hs : Shape s a b d) (ev : HostEvent) :
    (Full.step c s ev).2.delivery = firstDelivery
      [(epStep ep3 (.sIn a) (ctxOf s.ctl ev) ev).2.2, (epStep ep4o (.sOut b) (ctxOf s.ctl ev) ev).2.2,
       (epStep ep4i (.sIn d) (ctxOf s.ctl ev) ev).2.2] := by
  unfold Shape at hs
  unfold IsSerial at hc
  simp [Full.step, hc, hs, epsStep]

theorem epStep_sIn (fc : EpCfg) (e : InEp) (x : Ctx) (ev : HostEvent) : ∃ e', (epStep fc (.sIn e) x ev).1 = .sIn e' := by
  cases ev <;> simp only [epStep] <;> (repeat' split) <;> exact ⟨_, rfl⟩

theorem epStep_sOut (fc : EpCfg) (e : OutEp) (x : Ctx) (ev : HostEvent) : ∃ e', (epStep fc (.sOut e) x ev).1 = .sOut e' := by
  cases ev <;> simp only [epStep] <;> (repeat' split) <;> exact ⟨_, rfl⟩

def stEp (s : FullState) : InEp := match s.eps with | [.sIn a, _, _] => a | _ => {}
def rxEp (s : FullState) : OutEp := match s.eps with | [_, .sOut b, _] => b | _ => {}
def txEp (s : FullState) : InEp := match s.eps with | [_, _, .sIn d] => d | _ => {}

theorem Shape.proj {s : FullState} {a : InEp} {b : OutEp} {d : InEp} (h : Shape s a b d) :
    stEp s = a ∧ rxEp s = b ∧ txEp s = d := by
  unfold Shape at h
  simp only [stEp, rxEp, txEp, h, and_self]

def ShapeOk (s : FullState) : Prop := ∃ a b d, Shape s a b d

theorem ShapeOk.shape {s : FullState} (h : ShapeOk s) : Shape s (stEp s) (rxEp s) (txEp s) := by
  obtain ⟨a, b, d, hs⟩ := h
  obtain ⟨h1, h2, h3⟩ := hs.proj
  rw [h1, h2, h3]; exact hs

theorem shapeOk_init (c : FullConfig) (hc : IsSerial c) : ShapeOk (Full.init c) := ⟨_, _, _, shape_init c hc⟩

theorem eps_step (c : FullConfig) (hc : IsSerial c) (s : FullState) (ev : HostEvent) (h : ShapeOk s) :
    ShapeOk (Full.step c s ev).1 ∧
    (epStep ep3 (.sIn (stEp s)) (ctxOf s.ctl ev) ev).1 = .sIn (stEp (Full.step c s ev).1) ∧
    (epStep ep4o (.sOut (rxEp s)) (ctxOf s.ctl ev) ev).1 = .sOut (rxEp (Full.step c s ev).1) ∧
    (epStep ep4i (.sIn (txEp s)) (ctxOf s.ctl ev) ev).1 = .sIn (txEp (Full.step c s ev).1) := by
  have he := step_eps c hc s _ _ _ h.shape ev
  obtain ⟨a', ha'⟩ := epStep_sIn ep3 (stEp s) (ctxOf s.ctl ev) ev
  obtain ⟨b', hb'⟩ := epStep_sOut ep4o (rxEp s) (ctxOf s.ctl ev) ev
  obtain ⟨d', hd'⟩ := epStep_sIn ep4i (txEp s) (ctxOf s.ctl ev) ev
  rw [ha', hb', hd'] at he ⊢
  obtain ⟨h1, h2, h3⟩ := Shape.proj he
  exact ⟨⟨_, _, _, he⟩, by rw [h1], by rw [h2], by rw [h3]⟩

theorem firstDelivery_mid (d : Delivery) : firstDelivery [{}, d, {}] = d := by
  by_cases h : d = {} <;> simp [firstDelivery, h]

theorem firstDelivery_last (d : Delivery) : firstDelivery [{}, {}, d] = d := by
  by_cases h : d = {} <;> simp [firstDelivery, h]

theorem delivery_consume (c : FullConfig) (hc : IsSerial c) (s : FullState) (a : InEp) (b : OutEp) (d : InEp)
    (hs : Shape s a b d) (n : Nat) :
    (Full.step c s (.consume 4 n)).2.delivery = { count := (b.fifo.take n).length, items := b.fifo.take n } := by
  rw [step_delivery c hc s a b d hs]
  simp [epStep, ep4o, firstDelivery_mid]

theorem delivery_produce (c : FullConfig) (hc : IsSerial c) (s : FullState) (a : InEp) (b : OutEp) (d : InEp)
    (hs : Shape s a b d) (bytes : List Nat) (last : Bool) :
    (Full.step c s (.produce 4 bytes last)).2.delivery = { count := (inProduce 64 d bytes last).2 } := by
  rw [step_delivery c hc s a b d hs]
  simp [epStep, ep3, ep4i, firstDelivery_last]

theorem ghost_rx (s : FullState) (g : Ghost) (a : AEvent) (o : Obs) :
    (ghostStep s g a o).rxBit = (match a.ev with
      | .data pid _ _ =>
        if s.ctl.tokPid = PID_OUT ∧ s.ctl.tokEp = 4 ∧ o.resp = .hs PID_ACK ∧ pidToggle pid = g.rxBit then !g.rxBit
        else g.rxBit
      | .handshake _ => if haltFor (ctxOf s.ctl a.ev) false 4 then false else g.rxBit
      | _ => g.rxBit) ∧
    (ghostStep s g a o).acked = (match a.ev with
      | .data pid p _ =>
        if s.ctl.tokPid = PID_OUT ∧ s.ctl.tokEp = 4 ∧ o.resp = .hs PID_ACK ∧ pidToggle pid = g.rxBit then g.acked ++ p
        else g.acked
      | _ => g.acked) ∧
    (ghostStep s g a o).delivered = (match a.ev with
      | .consume ep _ => if ep = 4 then g.delivered ++ bytesOf o.delivery.items else g.delivered
      | _ => g.delivered) := by
  -- the projections commute with `if … then … else`, and the branches not named above leave these fields alone
  obtain ⟨ev, got⟩ := a
  cases ev with
  | token pid addr ep =>
    obtain ⟨resp, del⟩ := o
    cases resp <;>
      simp only [ghostStep, apply_ite Ghost.rxBit, apply_ite Ghost.acked, apply_ite Ghost.delivered, ite_self, and_self]
  | _ =>
    simp only [ghostStep, apply_ite Ghost.rxBit, apply_ite Ghost.acked, apply_ite Ghost.delivered, ite_self, and_self]

end LunaVerif.C57
