import LunaVerif.Model.Usb3.Ltssm
/-!
Lemmas about the LTSSM model (C41).  The model threads a pending register file through `when`/`goto`
in program order, and the last enabled assignment wins.

* `when_eq`, `when_invertRxPolarity`, `ite_*` (section `whenIte`) and `goto_*` (section `goto`): what the model's `when`,
  an `if` between two register files, and `goto` leave in one register.  Props/C41.lean rewrites with `goto_st`,
  `goto_cycles`, `goto_ts2Seen`, `goto_disableScramblingSeen`, `goto_burstMinimumMet`, `goto_lfpsBurstSeen`,
  `goto_targetLfpsCount`, `goto_requestNoScrambling`; the others say the same of the remaining registers and have no user.
* `when_iff`, `ite_iff` read a property of `next c s i` backwards through the statements: one conjunct
  `guards → P (goto i T m)` per transition statement, last statement first, and `P` of the registers no
  transition touched.  In such a conjunct the new FSM state is the literal `T`; `m` are the statements that
  were overridden.
* `next_pollingLFPS`, `next_hotResetActive`, `next_pollingActive`: the three states whose body mixes register
  assignments with transitions, rewritten as transitions over the updated registers.
* `book`, `pre`, `live`, `Row`: the vocabulary of the transition relation `Cycle` (Props/C41.lean).  An overridden
  transition leaves its entry tasks behind (`goto_over` says when it does not), so `next c s i = goto i T (pre c s i)`
  is claimed only of the transitions into the `live` states — the only ones in which a property of C41 looks at a
  register beside `st`, `cycles` — and what those override has no entry tasks.
-/
namespace LunaVerif.Ltssm

section whenIte
variable (b : Bool) (f : State → State) (n : State) {p : Prop} [Decidable p] (x y : State)
theorem when_eq : when b f n = if b then f n else n := rfl
theorem when_invertRxPolarity : (when b f n).invertRxPolarity = if b then (f n).invertRxPolarity else n.invertRxPolarity := by unfold when; split <;> rfl
theorem ite_pollingSeen : (if p then x else y).pollingSeen = if p then x.pollingSeen else y.pollingSeen := by split <;> rfl
theorem ite_hotResetSeen : (if p then x else y).hotResetSeen = if p then x.hotResetSeen else y.hotResetSeen := by split <;> rfl
theorem ite_loopbackSeen : (if p then x else y).loopbackSeen = if p then x.loopbackSeen else y.loopbackSeen := by split <;> rfl
theorem ite_requestHotReset : (if p then x else y).requestHotReset = if p then x.requestHotReset else y.requestHotReset := by split <;> rfl
theorem ite_invertRxPolarity : (if p then x else y).invertRxPolarity = if p then x.invertRxPolarity else y.invertRxPolarity := by split <;> rfl
end whenIte

section goto
variable (i : In) (T : St) (n : State)
theorem goto_st : (goto i T n).st = T := rfl
theorem goto_cycles : (goto i T n).cycles = 0 := by cases T <;> rfl
theorem goto_pollingSeen : (goto i T n).pollingSeen = n.pollingSeen := by cases T <;> rfl
theorem goto_ts2Seen : (goto i T n).ts2Seen =
    if T = .PollingActive ∨ T = .RecoveryActive ∨ T = .PollingRxEQ ∨ T = .HotResetActive then false
    else n.ts2Seen := by cases T <;> rfl
theorem goto_hotResetSeen : (goto i T n).hotResetSeen =
    if T = .PollingActive ∨ T = .RecoveryActive ∨ T = .PollingRxEQ then false else n.hotResetSeen := by
  cases T <;> rfl
theorem goto_loopbackSeen : (goto i T n).loopbackSeen =
    if T = .PollingActive ∨ T = .RecoveryActive then false else n.loopbackSeen := by cases T <;> rfl
theorem goto_disableScramblingSeen : (goto i T n).disableScramblingSeen =
    if T = .PollingActive ∨ T = .RecoveryActive ∨ T = .PollingRxEQ then false
    else n.disableScramblingSeen := by cases T <;> rfl
theorem goto_burstMinimumMet : (goto i T n).burstMinimumMet =
    if T = .PollingActive ∨ T = .RecoveryActive then false else n.burstMinimumMet := by cases T <;> rfl
theorem goto_lfpsBurstSeen : (goto i T n).lfpsBurstSeen =
    if T = .PollingLFPS then false else n.lfpsBurstSeen := by cases T <;> rfl
theorem goto_targetLfpsCount : (goto i T n).targetLfpsCount =
    if T = .PollingLFPS then 16 else n.targetLfpsCount := by cases T <;> rfl
theorem goto_requestHotReset : (goto i T n).requestHotReset =
    if T = .HotResetActive then true else false := by cases T <;> rfl
theorem goto_requestNoScrambling : (goto i T n).requestNoScrambling =
    if T = .PollingActive ∨ T = .RecoveryActive ∨ T = .PollingRxEQ then i.disableScrambling
    else n.requestNoScrambling := by cases T <;> rfl
theorem goto_invertRxPolarity : (goto i T n).invertRxPolarity = n.invertRxPolarity := by cases T <;> rfl
end goto

theorem when_iff (P : State → Prop) (b : Bool) (f : State → State) (n : State) :
    P (when b f n) ↔ (b = true → P (f n)) ∧ (b = false → P n) := by
  cases b <;> simp [when]

theorem ite_iff (P : State → Prop) (p : Prop) [Decidable p] (x y : State) :
    P (if p then x else y) ↔ (p → P x) ∧ (¬p → P y) := by
  split <;> simp [*]

/-- Polling.LFPS without its transitions: the counter and latches of `preamble` and the burst
bookkeeping (`lfps_burst_seen` and the moving `target_lfps_count`). -/
def lfpsBook (c : Config) (s : State) (i : In) : State :=
  if i.lfpsPollingDetected && !s.lfpsBurstSeen then
    { preamble c s i with
      lfpsBurstSeen := true
      targetLfpsCount :=
        if i.lfpsCyclesSent ≥ s.targetLfpsCount ∨ i.lfpsCyclesSent > 12 then (i.lfpsCyclesSent + 4) % 65536
        else s.targetLfpsCount }
  else preamble c s i

/-- The registers a cycle leaves when no transition fires. -/
def book (c : Config) (s : State) (i : In) : State :=
  match s.st with
  | .PollingLFPS => lfpsBook c s i
  | .HotResetActive => { preamble c s i with requestHotReset := !i.tsBurstComplete && s.requestHotReset }
  | _ => preamble c s i

/-- The registers a transition starts from: `book`, and in Polling.Active the polarity found. -/
def pre (c : Config) (s : State) (i : In) : State :=
  match s.st with
  | .PollingActive => { preamble c s i with invertRxPolarity := i.invertedTs1Detected }
  | _ => book c s i

theorem timeout_by_target (i : In) (p cyc : Bool) (T₁ T₂ : St) (n : State) :
    (if (!p) = true then when cyc (goto i T₁) n else when cyc (goto i T₂) n) =
      when (cyc && p) (goto i T₂) (when (cyc && !p) (goto i T₁) n) := by
  cases p <;> cases cyc <;> rfl

/-- The bookkeeping writes two registers that no transition out of Polling.LFPS reads or writes, so it
can be done first; the two exits to Polling.RxEQ become one, and the 360 ms time-out one per target. -/
theorem next_pollingLFPS (c : Config) (s : State) (i : In) (h : s.st = .PollingLFPS) :
    next c s i =
      warm i (when (s.cycles == c.c360 && s.pollingSeen) (goto i .SSDisabledDefault)
        (when (s.cycles == c.c360 && !s.pollingSeen) (goto i .Compliance)
          (when (decide (i.lfpsCyclesSent ≥ s.targetLfpsCount) && (s.lfpsBurstSeen || c.loosen && i.ts1Detected))
            (goto i .PollingRxEQ) (lfpsBook c s i)))) := by
  simp only [next, fsmBody, h, onTimeout, lfpsBook, timeout_by_target]
  congr 3
  by_cases hge : i.lfpsCyclesSent ≥ s.targetLfpsCount <;> by_cases h12 : i.lfpsCyclesSent > 12 <;>
    simp only [hge, h12, decide_true, decide_false, if_true, if_false, or_true, or_false] <;>
    cases s.lfpsBurstSeen <;> cases i.lfpsPollingDetected <;> cases c.loosen && i.ts1Detected <;> rfl

/-- `request_hot_reset` is cleared by every transition out of Hot Reset.Active, so its clearing on a completed
burst can be done before the time-out and the exit are looked at. -/
theorem next_hotResetActive (c : Config) (s : State) (i : In) (h : s.st = .HotResetActive) :
    next c s i =
      warm i (when (i.tsBurstComplete && s.ts2Seen && !i.hotResetRequested) (goto i .HotResetExit)
        (onTimeout s i c.c12 .SSInactiveQuiet
          { preamble c s i with requestHotReset := !i.tsBurstComplete && s.requestHotReset })) := by
  simp only [next, fsmBody, h, onTimeout]
  cases i.tsBurstComplete <;> cases s.cycles == c.c12 <;> rfl

/-- Polling.Active as one transition: both polarity branches lead to Polling.Configuration over `pre`, and the
time-out they override has no entry tasks. -/
theorem next_pollingActive (c : Config) (s : State) (i : In) (h : s.st = .PollingActive) :
    next c s i =
      warm i (when (s.burstMinimumMet && (i.ts1Detected || i.ts2Detected || i.invertedTs1Detected))
        (fun _ => goto i .PollingConfiguration (pre c s i)) (onTimeout s i c.c12 .RxDetectActive (preamble c s i))) := by
  simp only [next, fsmBody, h, onTimeout, pre]
  cases s.burstMinimumMet <;> cases i.ts1Detected <;> cases i.ts2Detected <;> cases i.invertedTs1Detected <;>
    cases s.cycles == c.c12 <;> rfl

def hasTasks : St → Bool
  | .PollingLFPS | .PollingRxEQ | .PollingActive | .RecoveryActive | .HotResetActive => true
  | _ => false

theorem tasksOnEntry_none (i : In) (n : State) {T : St} (h : ¬hasTasks T) : tasksOnEntry i n T = n := by
  cases T <;> first | rfl | exact absurd rfl h

theorem goto_over (i : In) (T T' : St) (b : Bool) (m : State) (h : ¬hasTasks T') :
    goto i T (when b (goto i T') m) = goto i T m := by
  cases b
  · rfl
  · simp only [when, goto, if_true, tasksOnEntry_none i _ h]; cases T <;> rfl

theorem goto_idem (i : In) (T : St) (b : Bool) (m : State) : goto i T (when b (goto i T) m) = goto i T m := by
  cases b
  · rfl
  · cases T <;> rfl

section fields
variable (c : Config) (s : State) (i : In)
theorem book_st : (book c s i).st = s.st := by unfold book lfpsBook; split <;> (try split) <;> rfl
theorem book_cycles : (book c s i).cycles = (s.cycles + 1) % c.ctrMod := by
  unfold book lfpsBook; split <;> (try split) <;> rfl
theorem book_ts2Seen : (book c s i).ts2Seen = (s.ts2Seen || i.ts2Detected) := by
  unfold book lfpsBook; split <;> (try split) <;> rfl
theorem book_burstMinimumMet : (book c s i).burstMinimumMet = (s.burstMinimumMet || i.tsBurstComplete) := by
  unfold book lfpsBook; split <;> (try split) <;> rfl
theorem book_requestNoScrambling : (book c s i).requestNoScrambling = s.requestNoScrambling := by
  unfold book lfpsBook; split <;> (try split) <;> rfl
theorem book_disableScramblingSeen :
    (book c s i).disableScramblingSeen = (s.disableScramblingSeen || i.noScramblingRequested) := by
  unfold book lfpsBook; split <;> (try split) <;> rfl
theorem pre_ts2Seen : (pre c s i).ts2Seen = (s.ts2Seen || i.ts2Detected) := by
  unfold pre; split <;> first | rfl | exact book_ts2Seen c s i
theorem pre_requestNoScrambling : (pre c s i).requestNoScrambling = s.requestNoScrambling := by
  unfold pre; split <;> first | rfl | exact book_requestNoScrambling c s i
theorem pre_disableScramblingSeen :
    (pre c s i).disableScramblingSeen = (s.disableScramblingSeen || i.noScramblingRequested) := by
  unfold pre; split <;> first | rfl | exact book_disableScramblingSeen c s i
theorem book_lfpsBurstSeen {s : State} (h : s.st = .PollingLFPS) :
    (book c s i).lfpsBurstSeen = (s.lfpsBurstSeen || i.lfpsPollingDetected) := by
  simp only [book, h, lfpsBook]
  split <;> simp_all [preamble]

/-- The moving target does not fall below 16 before 16 bursts have been sent. -/
theorem book_targetLfpsCount {s : State} {i : In} (h : s.st = .PollingLFPS) (h16 : 16 ≤ s.targetLfpsCount)
    (hlt : (book c s i).targetLfpsCount < 16) : 16 ≤ i.lfpsCyclesSent := by
  simp only [book, h, lfpsBook] at hlt
  split at hlt
  · simp only at hlt
    split at hlt <;> omega
  · exact absurd h16 (Nat.not_le_of_lt hlt)
end fields

/-- The states in which a property of C41 looks at some register beside `st` and `cycles`: training, link up,
recovery. -/
def live : St → Bool
  | .PollingLFPS | .PollingRxEQ | .PollingActive | .PollingConfiguration | .PollingConfigurationExit | .PollingIdle
  | .U0 | .HotResetActive | .HotResetExit
  | .RecoveryActive | .RecoveryConfiguration | .RecoveryConfigurationExit | .RecoveryIdle => true
  | _ => false

/-- The transitions into live states: what must hold of registers and inputs, the state left (last), the
state entered.  (Necessary conditions: a later statement of the state's body may still override the transition.) -/
inductive Row (c : Config) (s : State) (i : In) : St → Prop
  | partner : i.linkPartnerDetected → s.st = .RxDetectActive → Row c s i .PollingLFPS
  | lfps : i.lfpsCyclesSent ≥ s.targetLfpsCount → (s.lfpsBurstSeen ∨ c.loosen ∧ i.ts1Detected) →
      s.st = .PollingLFPS → Row c s i .PollingRxEQ
  | tseq : i.tsBurstComplete → s.st = .PollingRxEQ → Row c s i .PollingActive
  | ts1 : s.burstMinimumMet → (i.ts1Detected || i.ts2Detected || i.invertedTs1Detected) →
      s.st = .PollingActive → Row c s i .PollingConfiguration
  | ts2 : i.tsBurstComplete → s.ts2Seen → s.st = .PollingConfiguration → Row c s i .PollingConfigurationExit
  | ts2more : i.tsBurstComplete → s.st = .PollingConfigurationExit → Row c s i .PollingIdle
  | idle : i.idleHandshakeComplete → s.st = .PollingIdle → Row c s i .U0
  | hot : s.hotResetSeen → s.st = .PollingIdle → Row c s i .HotResetActive
  | recover : (i.triggerLinkRecovery || i.ts1Detected) → s.st = .U0 → Row c s i .RecoveryActive
  | hotDone : i.tsBurstComplete → s.ts2Seen → i.hotResetRequested = false → s.st = .HotResetActive →
      Row c s i .HotResetExit
  | hotIdle : i.idleHandshakeComplete → s.st = .HotResetExit → Row c s i .U0
  | rts1 : s.burstMinimumMet → (i.ts1Detected || i.ts2Detected) → s.st = .RecoveryActive →
      Row c s i .RecoveryConfiguration
  | rts2 : i.tsBurstComplete → s.ts2Seen → s.st = .RecoveryConfiguration → Row c s i .RecoveryConfigurationExit
  | rts2more : i.tsBurstComplete → s.st = .RecoveryConfigurationExit → Row c s i .RecoveryIdle
  | ridle : i.idleHandshakeComplete → s.st = .RecoveryIdle → Row c s i .U0
  | rhot : s.hotResetSeen → s.st = .RecoveryIdle → Row c s i .HotResetActive

end LunaVerif.Ltssm
