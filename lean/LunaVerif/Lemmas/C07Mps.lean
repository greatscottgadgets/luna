import LunaVerif.Lemmas.C07StreamRun
/-!
# The simulation for every handler state (`cycle_refines_event_streams`) — part 6: histories, for EVERY `max_packet_size`
(see Lemmas/C07Stream.lean for the set-up).

The event-level model `Device.core` (Model/Device/Control.lean) advances `start_position` by the literal 64 on the host
ACK of a GET_DESCRIPTOR data packet (`Device.stdAck`) and marks the data stage as over after a packet shorter than 64
bytes (`Device.onHandshake`, ghost `gDataDone`).  The
gateware (`StandardRequestHandler`: `next_start_position = start_position + self._max_packet_size`) and the cycle-level
model (`CtrlCyc.stdStateBody`, co-simulated against the real `USBControlEndpoint(max_packet_size ∈ {8, 16, 32, 64})`)
advance by the configured size.

Model/Device/ControlM.lean has the event-level model with the advance by `c.maxPacket` -- it is the model the shared
driver `drv_dev` steps in the event-level co-simulation of the whole `USBDevice` (control max packet sizes 8 / 16 / 32 /
64) -- (`coreM` / `stepM`: `Device.core` / `Device.step` with `stdAckM` / `onHandshakeM` for the event "host handshake";
every other event is `Device.core` itself; for `max_packet_size = 64` it IS `Device.core` / `Device.step`:
`coreM_eq_core`, `stepM_eq_step`, `finalM_eq_final`, Lemmas/DeviceStepsM.lean).  The one-event simulation
`cycle_refines_event_streams_mps` (Lemmas/C07StreamMain.lean) is about it; here it is extended to the bus reset and to
histories with NO hypothesis on the max packet size (`cycle_refines_event_all_mps`,
`cycle_refines_event_streams_run_mps`, `cycle_refines_event_streams_from_reset_mps`).  The statements about
`Device.core` / `Device.step` (`cycle_refines_event_all`, `cycle_refines_event_streams_run`, `…_from_reset`) are the
instance `max_packet_size = 64`.
-/
namespace LunaVerif.CtrlCyc
open LunaVerif.Device

/-- `expandR` over `expandSM`. -/
def expandRM (c : DevConfig) (d : DevState) (e : HostEvent) (g : GapsS) : List (Bool × CycIn) :=
  match e with
  | .busReset =>
      noRst (idleS d g.pre) ++ ((true, envIn d (calm d g.n1)) ::
        ((idleS { d with address := 0, config := 0 } g.mid).map (fun i => (true, i)) ++
          noRst (idleS { d with address := 0, config := 0 } g.post)))
  | _ => noRst (expandSM c d e g)

theorem expandRM_eq (c : DevConfig) (d : DevState) (e : HostEvent) (g : GapsS) : expandRM c d e g = expandR c d e g := by
  cases e <;> simp only [expandRM, expandR, expandSM_eq]

/-- **`cycle_refines_event`, every handler state, every event** (bus reset included), every `max_packet_size`: running
the cycle-level composition over the expansion of `e` from ANY cycle-level state related to `d` ends related to the
event-level successor, the bus carries exactly the event-level response, and device.py's address / configuration
registers (strobes and bus reset) take the event-level values.  Hypotheses as for `cycle_refines_event_streams`
(Lemmas/C07StreamMain.lean): no additional request handlers, `Inv d`, configuration number < 256, the streamer's window
long enough (`StreamFits`). -/
theorem cycle_refines_event_all_mps (c : DevConfig) (hx : c.extra = []) (d : DevState)
    (e : HostEvent) (g : GapsS) (hinv : Inv d) (hcfg : d.config < 256) (hfit : StreamFits c d e g = true) :
    SimRO (cfgOf c) d (coreM c d e).1 (expandRM c d e g) .idle (obsOf (coreM c d e).2) := by
  by_cases hrst : e = .busReset
  · subst hrst
    exact sim_bus_reset c d g
  · have h := (cycle_refines_event_streams_mps c hx d e g hinv hcfg hfit hrst).simRO
    cases e <;> first | exact absurd rfl hrst | exact h

/-! ### Histories -/

/-- The configuration number stays below 256 across an event: a handshake that changes it stores a value mod 256, a
bus reset 0. -/
theorem config_lt_core (c : DevConfig) (d : DevState) (e : HostEvent) (h : d.config < 256) :
    (core c d e).1.config < 256 := by
  cases e with
  | token pid addr ep =>
    simp only [core]
    split
    · rw [(onToken_regs c d pid ep).2]; exact h
    · exact h
  | data dp p ok => simp only [core]; rw [(onData_regs c d p ok).2]; exact h
  | handshake pid =>
    simp only [core]
    by_cases hc : (onHandshake d pid).config = d.config
    · rw [hc]; exact h
    · rw [(onHandshake_config d pid hc).2.2]; exact Nat.mod_lt _ (by decide)
  | busReset => simp [core]
  | _ => exact h

theorem config_lt_coreM (c : DevConfig) (d : DevState) (e : HostEvent) (h : d.config < 256) :
    (coreM c d e).1.config < 256 := by
  rw [(coreM_regs c d e).config]
  exact config_lt_core c d e h

theorem config_lt_stepM (c : DevConfig) (d : DevState) (x : Stim) (h : d.config < 256) :
    (stepM c d x).1.config < 256 := config_lt_coreM c d x.ev h

/-- The address register stays below 128 across an event: a handshake that changes it stores a value mod 128, a bus
reset 0. -/
theorem address_lt_stepM (c : DevConfig) (d : DevState) (x : Stim) (h : d.address < 128) :
    (stepM c d x).1.address < 128 := by
  show (coreM c d x.ev).1.address < 128
  rw [(coreM_regs c d x.ev).address]
  cases x.ev with
  | token pid addr ep =>
    simp only [core]
    split
    · rw [(onToken_regs c d pid ep).1]; exact h
    · exact h
  | data dp p ok => simp only [core]; rw [(onData_regs c d p ok).1]; exact h
  | handshake pid =>
    simp only [core]
    by_cases hc : (onHandshake d pid).address = d.address
    · rw [hc]; exact h
    · rw [(onHandshake_address d pid hc).2.2]; exact Nat.mod_lt _ (by decide)
  | busReset => simp [core]
  | _ => exact h

theorem address_lt_finalM (c : DevConfig) (h : List Stim) : ∀ d, d.address < 128 → (finalM c d h).address < 128 := by
  induction h with
  | nil => intro d hd; exact hd
  | cons x xs ih => intro d hd; exact ih _ (address_lt_stepM c d x hd)

def expandAllRM (c : DevConfig) : DevState → List (Stim × GapsS) → List (Bool × CycIn)
  | _, [] => []
  | d, (x, g) :: rest => expandRM c d x.ev g ++ expandAllRM c (stepM c d x).1 rest

def busRespsM (c : DevConfig) : DevState → CycState → List (Stim × GapsS) → List Resp
  | _, _, [] => []
  | d, cs, (x, g) :: rest =>
      busResp (cfgOf c) cs ((expandRM c d x.ev g).map (·.2)) ::
        busRespsM c (stepM c d x).1 (final (cfgOf c) cs ((expandRM c d x.ev g).map (·.2))) rest

/-- The control endpoint's own responses along an event history (`coreResps` over `coreM` / `stepM`). -/
def coreRespsM (c : DevConfig) : DevState → List Stim → List Resp
  | _, [] => []
  | d, x :: xs => (coreM c d x.ev).2 :: coreRespsM c (stepM c d x).1 xs

theorem coreRespsM_append (c : DevConfig) (h₁ h₂ : List Stim) : ∀ d,
    coreRespsM c d (h₁ ++ h₂) = coreRespsM c d h₁ ++ coreRespsM c (finalM c d h₁) h₂ := by
  induction h₁ with
  | nil => intro d; rfl
  | cons x xs ih => intro d; simp only [List.cons_append, coreRespsM, finalM, ih]

theorem coreRespsM_length (c : DevConfig) (h : List Stim) : ∀ d, (coreRespsM c d h).length = h.length := by
  induction h with
  | nil => intro d; rfl
  | cons x xs ih => intro d; simp only [coreRespsM, List.length_cons, ih]

def FitsFromM (c : DevConfig) : DevState → List (Stim × GapsS) → Bool
  | _, [] => true
  | d, (x, g) :: rest => StreamFits c d x.ev g && FitsFromM c (stepM c d x).1 rest

theorem cycle_refines_step_all_mps (c : DevConfig) (hx : c.extra = []) (d : DevState)
    (x : Stim) (g : GapsS) (hinv : Inv d) (hcfg : d.config < 256) (hfit : StreamFits c d x.ev g = true) :
    SimRO (cfgOf c) d (stepM c d x).1 (expandRM c d x.ev g) .idle (obsOf (coreM c d x.ev).2) := by
  have h1 := cycle_refines_event_all_mps c hx d x.ev g hinv hcfg hfit
  have h2 : SimRO (cfgOf c) (coreM c d x.ev).1 (stepM c d x).1 [] (obsOf (coreM c d x.ev).2)
      (obsOf (coreM c d x.ev).2) := by
    intro cs hr
    exact ⟨hr.congr rfl rfl rfl rfl rfl, rfl, rfl⟩
  simpa using h1.append h2

/-- **`cycle_refines_event`, histories, EVERY `max_packet_size`.**  For every device configuration `c` without
additional request handlers -- in particular for each legal control max packet size 8, 16, 32, 64 -- and along EVERY
event history (standard requests of all kinds incl. GET_DESCRIPTOR data stages of any number of packets, each host ACK
of a data packet advancing `start_position` by `c.maxPacket` and toggling the data PID, the descriptor handler's
answer at that position -- `descriptorPacket`: at most `c.maxPacket` bytes, the zero-length packet when the position
has reached the descriptor's end before `wLength` --, bus resets, arbitrary foreign traffic), with arbitrary idle-cycle
counts, free inputs, streamer latencies and `tx.ready` patterns per event such that every started streamer finishes
within its event's window: the cycle-level composition configured with `max_packet_size = c.maxPacket`, run over the
concatenated expansions from any state related to the event-level start state (an `Inv` state, `config < 256`), ends
related to the event-level final state (`start_position`, `tx_data_pid`, `expecting_ack` included), the bus carries
for every event exactly the event-level response, and device.py's address / configuration registers end with the
event-level values. -/
theorem cycle_refines_event_streams_run_mps (c : DevConfig) (hx : c.extra = [])
    (h : List (Stim × GapsS)) (d : DevState) (hinv : Inv d) (hcfg : d.config < 256) (hfit : FitsFromM c d h = true)
    (cs : CycState) (hr : Rel d cs) :
    Rel (finalM c d (h.map (·.1))) (final (cfgOf c) cs ((expandAllRM c d h).map (·.2))) ∧
    busRespsM c d cs h = coreRespsM c d (h.map (·.1)) ∧
    regsAfterR (d.address, d.config) (outsR (cfgOf c) cs (expandAllRM c d h)) =
      ((finalM c d (h.map (·.1))).address, (finalM c d (h.map (·.1))).config) := by
  induction h generalizing d cs with
  | nil => exact ⟨hr, rfl, rfl⟩
  | cons xg rest ih =>
    obtain ⟨x, g⟩ := xg
    simp only [FitsFromM, Bool.and_eq_true] at hfit
    obtain ⟨a1, a2, a3⟩ := cycle_refines_step_all_mps c hx d x g hinv hcfg hfit.1 cs hr
    obtain ⟨b1, b2, b3⟩ := ih (stepM c d x).1 (inv_stepM c d x hinv) (config_lt_stepM c d x hcfg) hfit.2 _ a1
    refine ⟨?_, ?_, ?_⟩
    · simp only [List.map_cons, finalM, expandAllRM, List.map_append]
      rw [final_append]; exact b1
    · simp only [List.map_cons, busRespsM, coreRespsM, b2]
      congr 1
      unfold busResp
      rw [a2, obsOf_resp]
    · simp only [List.map_cons, finalM, expandAllRM]
      rw [outsR_append, regsAfterR_append, a3, b3]

theorem cycle_refines_event_streams_from_reset_mps (c : DevConfig) (hx : c.extra = [])
    (h : List (Stim × GapsS)) (hfit : FitsFromM c Device.init h = true) :
    Rel (finalM c Device.init (h.map (·.1)))
      (final (cfgOf c) CtrlCyc.init ((expandAllRM c Device.init h).map (·.2))) ∧
    busRespsM c Device.init CtrlCyc.init h = coreRespsM c Device.init (h.map (·.1)) ∧
    regsAfterR (0, 0) (outsR (cfgOf c) CtrlCyc.init (expandAllRM c Device.init h)) =
      ((finalM c Device.init (h.map (·.1))).address, (finalM c Device.init (h.map (·.1))).config) :=
  cycle_refines_event_streams_run_mps c hx h Device.init inv_init (by decide) hfit CtrlCyc.init rel_init

/-! ### The instance `max_packet_size = 64`: the model of Model/Device/Control.lean -/

theorem expandAllRM_64 (c : DevConfig) (hmp : c.maxPacket = 64) (d : DevState) (h : List (Stim × GapsS)) :
    expandAllRM c d h = expandAllR c d h := by
  induction h generalizing d with
  | nil => rfl
  | cons xg rest ih =>
    obtain ⟨x, g⟩ := xg
    simp only [expandAllRM, expandAllR, expandRM_eq, stepM_eq_step c hmp, ih]

theorem busRespsM_64 (c : DevConfig) (hmp : c.maxPacket = 64) (d : DevState) (cs : CycState) (h : List (Stim × GapsS)) :
    busRespsM c d cs h = busResps c d cs h := by
  induction h generalizing d cs with
  | nil => rfl
  | cons xg rest ih =>
    obtain ⟨x, g⟩ := xg
    simp only [busRespsM, busResps, expandRM_eq, stepM_eq_step c hmp, ih]

theorem coreRespsM_64 (c : DevConfig) (hmp : c.maxPacket = 64) (d : DevState) (h : List Stim) :
    coreRespsM c d h = coreResps c d h := by
  induction h generalizing d with
  | nil => rfl
  | cons x xs ih => simp only [coreRespsM, coreResps, coreM_eq_core c hmp, stepM_eq_step c hmp, ih]

theorem FitsFromM_64 (c : DevConfig) (hmp : c.maxPacket = 64) (d : DevState) (h : List (Stim × GapsS)) :
    FitsFromM c d h = FitsFrom c d h := by
  induction h generalizing d with
  | nil => rfl
  | cons xg rest ih =>
    obtain ⟨x, g⟩ := xg
    simp only [FitsFromM, FitsFrom, stepM_eq_step c hmp, ih]

/-- `cycle_refines_event_all_mps` at 64, over `Device.core`. -/
theorem cycle_refines_event_all (c : DevConfig) (hx : c.extra = []) (hmp : c.maxPacket = 64) (d : DevState)
    (e : HostEvent) (g : GapsS) (hinv : Inv d) (hcfg : d.config < 256) (hfit : StreamFits c d e g = true) :
    SimRO (cfgOf c) d (core c d e).1 (expandR c d e g) .idle (obsOf (core c d e).2) := by
  rw [← coreM_eq_core c hmp, ← expandRM_eq]
  exact cycle_refines_event_all_mps c hx d e g hinv hcfg hfit

/-- **`cycle_refines_event`, histories, no exclusions on the handler state or the event kind**, for
`max_packet_size = 64`, without additional request handlers, from an event-level state satisfying `Inv` with a
configuration number < 256.  Along every such event history (standard requests of all kinds incl. GET_STATUS / GET_CONFIGURATION / GET_DESCRIPTOR data stages of any
number of packets, bus resets, arbitrary foreign traffic), with arbitrary idle-cycle counts, free inputs, streamer
latencies and `tx.ready` patterns per event such that every started streamer finishes within its event's window:
the cycle-level composition, run over the concatenated expansions from any state related to the event-level start
state, ends related to the event-level final state, the bus carries for every event exactly the event-level
response (payload bytes, data PID, handshake), and device.py's address / configuration registers end with the
event-level values. -/
theorem cycle_refines_event_streams_run (c : DevConfig) (hx : c.extra = []) (hmp : c.maxPacket = 64)
    (h : List (Stim × GapsS)) (d : DevState) (hinv : Inv d) (hcfg : d.config < 256) (hfit : FitsFrom c d h = true)
    (cs : CycState) (hr : Rel d cs) :
    Rel (Device.final c d (h.map (·.1))) (final (cfgOf c) cs ((expandAllR c d h).map (·.2))) ∧
    busResps c d cs h = coreResps c d (h.map (·.1)) ∧
    regsAfterR (d.address, d.config) (outsR (cfgOf c) cs (expandAllR c d h)) =
      ((Device.final c d (h.map (·.1))).address, (Device.final c d (h.map (·.1))).config) := by
  have := cycle_refines_event_streams_run_mps c hx h d hinv hcfg (by rw [FitsFromM_64 c hmp]; exact hfit) cs hr
  rwa [expandAllRM_64 c hmp, busRespsM_64 c hmp, coreRespsM_64 c hmp, finalM_eq_final c hmp] at this

theorem cycle_refines_event_streams_from_reset (c : DevConfig) (hx : c.extra = []) (hmp : c.maxPacket = 64)
    (h : List (Stim × GapsS)) (hfit : FitsFrom c Device.init h = true) :
    Rel (Device.final c Device.init (h.map (·.1)))
      (final (cfgOf c) CtrlCyc.init ((expandAllR c Device.init h).map (·.2))) ∧
    busResps c Device.init CtrlCyc.init h = coreResps c Device.init (h.map (·.1)) ∧
    regsAfterR (0, 0) (outsR (cfgOf c) CtrlCyc.init (expandAllR c Device.init h)) =
      ((Device.final c Device.init (h.map (·.1))).address, (Device.final c Device.init (h.map (·.1))).config) :=
  cycle_refines_event_streams_run c hx hmp h Device.init inv_init (by decide) hfit CtrlCyc.init rel_init

/-- `cycle_refines_event_streams_run` under a second name: the same statement, proved by it. -/
theorem cycle_refines_event_streams_run_of_mps (c : DevConfig) (hx : c.extra = []) (hmp : c.maxPacket = 64)
    (h : List (Stim × GapsS)) (d : DevState) (hinv : Inv d) (hcfg : d.config < 256) (hfit : FitsFrom c d h = true)
    (cs : CycState) (hr : Rel d cs) :
    Rel (Device.final c d (h.map (·.1))) (final (cfgOf c) cs ((expandAllR c d h).map (·.2))) ∧
    busResps c d cs h = coreResps c d (h.map (·.1)) ∧
    regsAfterR (d.address, d.config) (outsR (cfgOf c) cs (expandAllR c d h)) =
      ((Device.final c d (h.map (·.1))).address, (Device.final c d (h.map (·.1))).config) :=
  cycle_refines_event_streams_run c hx hmp h d hinv hcfg hfit cs hr

end LunaVerif.CtrlCyc
