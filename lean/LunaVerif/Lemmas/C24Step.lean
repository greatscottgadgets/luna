import LunaVerif.Lemmas.C24World
/-!
# C24 — what one cycle does, component by component

Equations of `Window.step`, `Tx.step`, `PhyRegs.step` per state, and `World.step` projected on the
components the invariants of C24 speak of.  The invariant proofs rewrite with these and never unfold
`World.step`.
-/
namespace LunaVerif.Ulpi

theorem Window.step_idle {w : Window} (i : WindowIn) (h : w.st = .idle) (hr : i.readReq = false) :
    w.step i = { w with outReq := false, stop := false, done := false, dataOut := 0, curAddr := i.address,
                        curWrite := i.writeData, st := if i.writeReq then .startWrite else .idle } := by
  obtain ⟨st, ca, cw, d, oq, sp, dn, rd⟩ := w
  cases h
  simp only [Window.step, hr]
  cases i.writeReq <;> rfl

theorem Window.step_startWrite {w : Window} (i : WindowIn) (h : w.st = .startWrite) :
    w.step i = { w with outReq := !i.dir, stop := false, done := false,
                        st := if i.dir then .startWrite else .sendWriteAddress,
                        dataOut := if i.dir then w.dataOut else COMMAND_REG_WRITE ||| w.curAddr } := by
  obtain ⟨st, ca, cw, d, oq, sp, dn, rd⟩ := w
  cases h
  simp only [Window.step]
  cases i.dir <;> rfl

theorem Window.step_sendWriteAddress {w : Window} (i : WindowIn) (h : w.st = .sendWriteAddress) :
    w.step i = { w with outReq := !i.dir, stop := false, done := false,
                        st := if i.dir then .startWrite else if i.nxt then .holdWrite else .sendWriteAddress,
                        dataOut := if !i.dir && i.nxt then w.curWrite else w.dataOut } := by
  obtain ⟨st, ca, cw, d, oq, sp, dn, rd⟩ := w
  cases h
  simp only [Window.step]
  cases i.dir <;> cases i.nxt <;> rfl

theorem Window.step_holdWrite {w : Window} (i : WindowIn) (h : w.st = .holdWrite) :
    w.step i = { w with outReq := !i.dir, stop := !i.dir && i.nxt, done := false,
                        st := if i.dir then .startWrite else if i.nxt then .stopping else .holdWrite,
                        dataOut := if !i.dir && i.nxt then 0 else w.dataOut } := by
  obtain ⟨st, ca, cw, d, oq, sp, dn, rd⟩ := w
  cases h
  simp only [Window.step]
  cases i.dir <;> cases i.nxt <;> rfl

theorem Window.step_stopping {w : Window} (i : WindowIn) (h : w.st = .stopping) :
    w.step i = { w with outReq := false, stop := false, done := !i.dir,
                        st := if i.dir then .startWrite else .idle } := by
  obtain ⟨st, ca, cw, d, oq, sp, dn, rd⟩ := w
  cases h
  simp only [Window.step]
  cases i.dir <;> rfl

theorem latch_stable (w : Window) (i : WindowIn) (hs : w.st ≠ .idle) :
    (w.step i).curAddr = w.curAddr ∧ (w.step i).curWrite = w.curWrite := by
  obtain ⟨st, ca, cw, d, oq, sp, dn, rd⟩ := w
  cases st <;> simp at hs <;> simp [Window.step] <;> (repeat' split) <;> simp

theorem request_iff_mismatch (k : Ctl) (v04 v0A : Nat) (bi dn : Bool) :
    (k.comb v04 v0A bi dn).writeReq = ((k.cur04 != v04 || k.cur0A != v0A) && !dn && bi) := by
  unfold Ctl.comb
  cases h4 : k.cur04 != v04 <;> cases hA : k.cur0A != v0A <;>
    simp only [Bool.false_eq_true, if_false, if_true, Bool.or_false, Bool.or_true, Bool.true_and, Bool.false_and]

theorem request_pair (k : Ctl) (v04 v0A : Nat) (bi dn : Bool) (h : (k.comb v04 v0A bi dn).writeReq = true) :
    ((k.comb v04 v0A bi dn).address = ADDR_FUNCTION_CONTROL ∧ (k.comb v04 v0A bi dn).writeData = v04 ∧ k.cur04 ≠ v04) ∨
    ((k.comb v04 v0A bi dn).address = ADDR_OTG_CONTROL ∧ (k.comb v04 v0A bi dn).writeData = v0A ∧ k.cur0A ≠ v0A
      ∧ k.cur04 = v04) := by
  by_cases h4 : k.cur04 = v04 <;> by_cases hA : k.cur0A = v0A <;> simp_all [Ctl.comb]

theorem Tx.step_idle {t : Tx} (i : TxIn) (h : t.st = .idle) :
    t.step i = if i.txValid && i.busIdle then
        (⟨if i.nxt then .transmit else .idle, true⟩,
         if i.opMode == OP_MODE_NO_BIT_STUFFING then ⟨TRANSMIT_COMMAND, false, false⟩
         else ⟨TRANSMIT_COMMAND ||| (i.txData % 16), i.nxt, false⟩)
      else (t, ⟨0, false, false⟩) := by
  simp only [Tx.step, h]

/-- The transmit command byte `01xxxxxx`, with or without PID. -/
theorem txCmd_div (n : Nat) : (TRANSMIT_COMMAND ||| n % 16) / 64 = 1 := by
  have : ∀ m, m < 16 → (64 ||| m) / 64 = 1 := by decide
  exact this _ (Nat.mod_lt _ (by decide))

theorem Tx.step_claim {t : Tx} {i : TxIn} (h : t.st = .idle) (hc : (i.txValid && i.busIdle) = true) :
    (t.step i).1 = ⟨if i.nxt then .transmit else .idle, true⟩ ∧ (t.step i).2.dataOut / 64 = 1 ∧
    (t.step i).2.stp = false := by
  rw [Tx.step_idle _ h, if_pos hc]
  refine ⟨rfl, ?_, ?_⟩ <;> dsimp only <;> split
  · rfl
  · exact txCmd_div _
  · rfl
  · rfl

theorem Tx.step_blocked {t : Tx} {i : TxIn} (h : t.st = .idle) (hc : (i.txValid && i.busIdle) = false) :
    t.step i = (t, ⟨0, false, false⟩) := by
  rw [Tx.step_idle _ h, hc]; rfl

theorem Tx.step_transmit {t : Tx} (i : TxIn) (h : t.st = .transmit) :
    t.step i = if !i.txValid then
        (⟨.idle, false⟩, ⟨if i.opMode == OP_MODE_NO_BIT_STUFFING then 0xFF else 0, i.nxt, true⟩)
      else (t, ⟨i.txData, i.nxt, false⟩) := by
  simp only [Tx.step, h]

/-- Read from the successor: a cycle that ends with the bus claimed and the command not yet accepted (`⟨.idle, true⟩`)
shows no `tx_ready`, and either `tx_valid` is high in it (`Tx.step_claim` with NXT low) or the state was that already. -/
theorem Tx.step_into_claimed {t : Tx} {i : TxIn} (h : (t.step i).1 = ⟨.idle, true⟩) :
    (t.step i).2.txReady = false ∧ (i.txValid = true ∨ t = ⟨.idle, true⟩) := by
  obtain ⟨st, oq⟩ := t
  cases st <;> cases hv : i.txValid <;> cases hb : i.busIdle <;> cases hn : i.nxt <;>
    simp [Tx.step, hv, hb, hn] at h ⊢
  any_goals exact h
  split <;> rfl

theorem PhyRegs.step_dir (p : PhyRegs) (nxt : Bool) (d : Nat) (s : Bool) :
    p.step true nxt d s = { p with bus := .idle } := rfl

theorem PhyRegs.step_idle {p : PhyRegs} (nxt : Bool) (d : Nat) (s : Bool) (h : p.bus = .idle) :
    p.step false nxt d s = if nxt && d / 64 == 2 then { p with bus := .wantData (d % 64) }
      else if nxt && d / 64 == 1 then { p with bus := .transmitting } else p := by
  simp only [PhyRegs.step, h, Bool.false_eq_true, if_false]

theorem PhyRegs.step_transmitting {p : PhyRegs} (nxt : Bool) (d : Nat) (s : Bool) (h : p.bus = .transmitting) :
    p.step false nxt d s = if s then { p with bus := .idle } else p := by
  simp only [PhyRegs.step, h, Bool.false_eq_true, if_false]

theorem PhyRegs.step_wantData {p : PhyRegs} {a : Nat} (nxt : Bool) (d : Nat) (s : Bool) (h : p.bus = .wantData a) :
    p.step false nxt d s = if nxt then { p with bus := .wantStp a d } else p := by
  simp only [PhyRegs.step, h, Bool.false_eq_true, if_false]

theorem PhyRegs.step_wantStp {p : PhyRegs} {a v : Nat} (nxt : Bool) (d : Nat) (s : Bool) (h : p.bus = .wantStp a v) :
    p.step false nxt d s = if s then p.commit a v else { p with bus := .idle } := by
  simp only [PhyRegs.step, h, Bool.false_eq_true, if_false]

/-- The register-write command byte `10aaaaaa` of the two control registers, as the PHY parses it. -/
theorem regWrite_cmd {a : Nat} (h : a = 4 ∨ a = 10) : (128 ||| a) / 64 = 2 ∧ (128 ||| a) % 64 = a := by
  rcases h with rfl | rfl <;> decide

def Utmi.winIn (s : Utmi) (i : UtmiIn) : WindowIn :=
  ⟨i.phy.data, i.phy.dir, i.phy.nxt, (s.ctlOut i.ctrl).address, (s.ctlOut i.ctrl).writeData, false,
    (s.ctlOut i.ctrl).writeReq⟩

def Utmi.txIn (s : Utmi) (i : UtmiIn) : TxIn :=
  ⟨i.txData, i.txValid, i.ctrl.opMode % 4, s.txBusIdle i.ctrl i.phy.dir, i.phy.nxt⟩

theorem Utmi.txIn_nxt (s : Utmi) (i : UtmiIn) : (s.txIn i).nxt = i.phy.nxt := rfl

theorem Utmi.txIn_txValid (s : Utmi) (i : UtmiIn) : (s.txIn i).txValid = i.txValid := rfl

variable (cfg : Config) (x : World) (i : UtmiIn)

theorem step_u : (x.step cfg i).u = (x.u.step cfg i).1 := rfl

theorem step_win : (x.step cfg i).u.win = x.u.win.step (x.u.winIn i) := rfl

theorem step_ctl : (x.step cfg i).u.ctl =
    { cur04 := if x.u.win.done && x.u.win.curAddr == ADDR_FUNCTION_CONTROL then x.u.win.curWrite else x.u.ctl.cur04
      cur0A := if x.u.win.done && x.u.win.curAddr == ADDR_OTG_CONTROL then x.u.win.curWrite else x.u.ctl.cur0A
      busy := (x.u.ctlOut i.ctrl).writeReq || x.u.win.busy } := rfl

theorem step_tx : (x.step cfg i).u.tx = (x.u.tx.step (x.u.txIn i)).1 := rfl

theorem step_p : (x.step cfg i).p = x.p.step i.phy.dir i.phy.nxt (x.u.step cfg i).2.dataO (x.u.step cfg i).2.stp := rfl

theorem step_e : (x.step cfg i).e =
    x.e.step x.p.bus x.u.win.done (x.u.win.st == .idle && (x.u.ctlOut i.ctrl).writeReq) i (x.u.step cfg i).2 := rfl

theorem step_prevDir : (x.step cfg i).e.prevDir = i.phy.dir := rfl

theorem step_waited : (x.step cfg i).e.waited =
    if presented x.p.bus x.e.prevDir i.phy.dir (x.u.step cfg i).2.dataO && !i.phy.nxt then x.e.waited + 1 else 0 := rfl

theorem step_tlen : (x.step cfg i).e.tlen = if x.p.bus.isTx then x.e.tlen + 1 else 0 := rfl

theorem step_dataO : (x.u.step cfg i).2.dataO =
    if x.u.tx.outReq then (x.u.tx.step (x.u.txIn i)).2.dataOut else x.u.win.dataOut := rfl

theorem step_stp : (x.u.step cfg i).2.stp =
    if x.u.tx.outReq then (x.u.tx.step (x.u.txIn i)).2.stp else x.u.win.stop := rfl

theorem step_txReady : (x.u.step cfg i).2.txReady = (x.u.tx.step (x.u.txIn i)).2.txReady := rfl

theorem writeReq_free {s : Utmi} {c : Controls} (h : (s.ctlOut c).writeReq = true) :
    s.tx.st = .idle ∧ s.tx.outReq = false ∧ s.phyReady = true := by
  simp only [Utmi.ctlOut, request_iff_mismatch, Utmi.ctlBusIdle, Tx.busy, Bool.and_eq_true, Bool.not_eq_true',
    bne_eq_false_iff_eq] at h
  exact ⟨h.2.1.1, h.2.1.2, h.2.2⟩

theorem done_no_request {s : Utmi} (c : Controls) (h : s.win.done = true) : (s.ctlOut c).writeReq = false := by
  rw [Utmi.ctlOut, request_iff_mismatch, h]; simp

end LunaVerif.Ulpi
