import LunaVerif.Lemmas.C37LiveBase
/-!
# C37 — liveness: a requested LXU is sent

LXU has the second lowest priority in DISPATCH_COMMAND: everything else that is pending except a keepalive goes first,
and under continuing traffic new higher-priority work keeps arriving, so the bound necessarily counts it.  `rankX T`
bounds the number of ready cycles until `T` LXUs have completed, for `T ≤ sent + [lxu_pending]`: four per LGOOD owed
(`acks_to_send`), per credit to issue, for a pending LBAD and a pending LRTY, plus the command in progress.  *Bad*
cycles (cost ≤ 16) are the cycles in which a header is accepted, a buffer is freed, a corrupted header is noticed or
`retry_required` is pulsed.
-/
namespace LunaVerif.HeaderRx

/-- cycles that bring new higher-priority work -/
def badX (x : World) (i : In) : Bool := i.retryRequired || accept x.s || pop x.s i || badEv x.s

def aheadX : Fsm → World → Nat
  | .sendLxu, _ => 0
  | .dispatch, x => 3 + 4 * x.s.acks + 4 * x.s.cti + 4 * b2 x.s.lbad + 4 * b2 x.s.lrty
  | .sendLrty, x => 4 + 4 * x.s.acks + 4 * x.s.cti + 4 * b2 x.s.lbad
  | .sendKeepalive, x => 4 + 4 * x.s.acks + 4 * x.s.cti + 4 * b2 x.s.lbad + 4 * b2 x.s.lrty
  | _, x => 4 * x.s.acks + 4 * x.s.cti + 4 * b2 x.s.lbad + 4 * b2 x.s.lrty

variable {T : Nat} {x x' : World} {i : In} {f f' : Fsm} {k dA dC dB dR dX dK : Nat}

theorem aheadX_step (h : Cyc x x' i dA dC dB dR dX dK) (t : Trans x.s f f' k dA dC dB dR dX dK)
    (hlt : x'.n.lxus < T) (hT : T ≤ x.n.lxus + b2 x.s.lxu) :
    k + aheadX f' x' ≤ aheadX f x +
      (4 * b2 i.retryRequired + 4 * b2 (accept x.s) + 4 * b2 (pop x.s i) + 4 * b2 (badEv x.s)) := by
  have := h.acks; have := h.cti; have := h.nX; have := h.lbad; have := h.lrty; have := h.lrtyD
  have := b2_le x.s.lxu
  cases t <;> simp only [aheadX] <;> omega

def rankX (T : Nat) : World → Nat := rank (·.n.lxus) aheadX T

theorem badX_cost (r a p b : Bool) : 4 * b2 r + 4 * b2 a + 4 * b2 p + 4 * b2 b ≤
    if (r || a || p || b) = true then 16 else 0 := by
  cases a <;> cases p <;> cases b <;> cases r <;> decide

theorem rankX_step (c : Config) (T : Nat) :
    StepOk (World.next c) WOk (fun x => Inv c x.s x.g ∧ T ≤ x.n.lxus + b2 x.s.lxu) (rankX T) rdyW badX 16 :=
  rank_stepOk c _ (fun x i => badX_cost i.retryRequired (accept x.s) (pop x.s i) (badEv x.s))
    (fun h => by have := h.lxuK; have := h.nX; omega) aheadX_step

theorem rankX_le {c : Config} {T : Nat} {x : World} (hI : Inv c x.s x.g) : rankX T x ≤ 48 := by
  have := hI.hbf; have := hI.hcti; have := hI.hcred; have := hI.hacks4
  have := b2_le x.s.lrty; have := b2_le x.s.lbad
  exact rank_le_of fun f => by cases f <;> simp only [aheadX] <;> omega

/-- the number of completed LXU commands along a history -/
def lxusRun (c : Config) : State → Nat → List In → Nat
  | _, k, [] => k
  | s, k, i :: is => lxusRun c (step c s i).1 (k + b2 (s.fsm == .sendLxu && done s i)) is

theorem runW_lxus (c : Config) (is : List In) : ∀ x : World,
    (runW c x is).n.lxus = lxusRun c x.s x.n.lxus is := by
  induction is with
  | nil => intro x; rfl
  | cons i is ih =>
    intro x
    simp only [runW, runS, lxusRun]
    rw [← cnt_lxus x.s i x.n]
    exact ih (World.next c x i)

def badXCount (c : Config) (s : State) (g : Ghost) (is : List In) : Nat :=
  cntS (World.next c) badX ⟨s, g, Cnt.init⟩ is

/-- **LXU liveness from any state that satisfies the invariant.**  If the request is pending, the command completes on
the wire once the history contains `48 + 16·(bad cycles)` ready cycles. -/
theorem lxu_live (c : Config) (s : State) (g : Ghost) (h : Inv c s g) (hp : s.lxu = true) (is : List In)
    (ho : EnvOk c s g is) (hn : 48 + 16 * badXCount c s g is ≤ readyCount is) :
    1 ≤ lxusRun c s 0 is := by
  have := rank_live (rankX_step c 1) ⟨s, g, Cnt.init⟩ ⟨h, by simp [Cnt.init, hp]⟩ (rankX_le h) is ho hn
  rwa [runW_lxus] at this

set_option hygiene false in
local macro "rank_go" hf:ident h0:ident h1:ident h2:ident h3:ident : tactic =>
  `(tactic| (
    have hlr : lr s = if s.lrty then 4 else 0 := rfl
    cases hg : s.gen <;> cases hr : i.srcReady <;> cases hl : s.lrty <;>
      simp [$hf:ident, $h0:ident, $h1:ident, $h2:ident, $h3:ident, hfl, hg, hr, hl, fsm_beq, gen_beq, fsmNext, genNext, done,
        lgoodDone, lcrdDone, dispatchNext, generate, ph, nf, nr, na, en, step_fsm, step_gen]
        at fa fc fb flr lgA lcC fA fC g0 lrD lbD lbS lxD hlr hlbc hlxc hT hz ⊢ <;>
      (repeat' split) <;> (try simp only [ph] at *) <;> omega))

end LunaVerif.HeaderRx
