import LunaVerif.Props.C25RxDrift
import LunaVerif.Lemmas.C25RxFifo
/-!
# C25: the receive chain behind its clock-domain crossing: decomposition, event streams, write streams

`cdc_split`: `FsRxCdc.step` is feed-forward -- the receive chain (`FsRx`) drives the two FIFOs, the flags FIFO drives
`o_pkt_in_progress`; what the 12 MHz side sees (`evsU`) is a function (`usbEvO`; one edge: `evU_out`) of the three
sample streams (payload FIFO, flags FIFO, `o_receive_error`) at the `usb` edges.

What the receive chain writes into its two FIFOs, cycle by cycle: `outBlock_pay`, `outBlock_flg` (a strobe followed by
`n - 1 ≥ 2` hold cycles, `outBlock`: the flags write is in cycle 0, the payload write in cycle 2, nothing afterwards),
`outs_vstreams` (a run of such blocks: `flatV` of the per-bit writes `bitPay` / `bitFlg`), `outs_verrs`; `quiet_writes`: outputs
without events write nothing.

`idleCdc`: the idle state of the path with its crossing, from which the end-to-end theorems (Lemmas/C25RxCdcCross,
Props/C25RxUsb*) start and to which they return.
-/
namespace LunaVerif.FsRxCdc
open LunaVerif.FsRx LunaVerif.FsCodec

/-- what the 12 MHz side can see at a `usb` edge -/
inductive EvU | start | byte (b : Nat) | fin | err
deriving DecidableEq, Repr

/-- `rx_valid = o_data_strobe & o_pkt_in_progress` delivers a byte; `err` = `o_receive_error` while in progress -/
def evU (o : Out) : List EvU :=
  (if o.pktStart then [.start] else []) ++ (if o.strobe && o.inProgress then [.byte o.payload] else []) ++
  (if o.pktEnd then [.fin] else []) ++ (if o.inProgress && o.rxErr then [.err] else [])

def evsU : List Out → List EvU
  | [] => []
  | o :: os => evU o ++ evsU os

/-- the model over an input list; outputs sampled at the `usb` edges -/
def runCdc (φ : Nat) : St → List FsRx.In → St × List Out
  | s, [] => (s, [])
  | s, i :: is => let r := runCdc φ (s.next φ i) is; (r.1, (if s.cyc == φ then [s.out] else []) ++ r.2)

/-! ### events from the sample streams -/

def oStart : Option Nat → Bool | some v => v.testBit 1 | none => false
def oEnd : Option Nat → Bool | some v => v.testBit 0 | none => false
def ipNextO (ip : Bool) (f : Option Nat) : Bool := if oStart f then true else if oEnd f then false else ip

def usbEvO : Bool → List (Option Nat) → List (Option Nat) → List Bool → List EvU
  | ip, p :: ps, f :: fs, e :: es =>
    (if oStart f then [.start] else []) ++ (match p with | some v => if ip then [EvU.byte v] else [] | none => []) ++
    (if oEnd f then [.fin] else []) ++ (if ip && e then [.err] else []) ++ usbEvO (ipNextO ip f) ps fs es
  | _, _, _, _ => []

/-- without the error samples -/
def usbEvN : Bool → List (Option Nat) → List (Option Nat) → List EvU
  | ip, p :: ps, f :: fs =>
    (if oStart f then [.start] else []) ++ (match p with | some v => if ip then [EvU.byte v] else [] | none => []) ++
    (if oEnd f then [.fin] else []) ++ usbEvN (ipNextO ip f) ps fs
  | _, _, _ => []

def ipFinalO : Bool → List (Option Nat) → Bool
  | ip, [] => ip
  | ip, f :: fs => ipFinalO (ipNextO ip f) fs

theorem evsU_append (a b : List Out) : evsU (a ++ b) = evsU a ++ evsU b := by
  induction a with
  | nil => rfl
  | cons o os ih => simp only [List.cons_append, evsU, ih, List.append_assoc]

theorem usbEvO_noerr (ps : List (Option Nat)) : ∀ (ip : Bool) (fs : List (Option Nat)) (es : List Bool),
    (∀ e ∈ es, e = false) → es.length = ps.length → usbEvO ip ps fs es = usbEvN ip ps fs := by
  induction ps with
  | nil => intro ip fs es _ _; simp [usbEvO, usbEvN]
  | cons p ps ih =>
    intro ip fs es he hl
    cases fs with
    | nil => simp [usbEvO, usbEvN]
    | cons f fs =>
      match es, hl with
      | e :: es, hl =>
        have h0 : e = false := he e (by simp)
        subst h0
        simp only [usbEvO, usbEvN, Bool.and_false]
        rw [ih _ fs es (fun x hx => he x (by simp [hx])) (by simpa using hl)]
        simp

theorem ipFinalO_nones_left (n : Nat) (ip : Bool) (r : List (Option Nat)) :
    ipFinalO ip (List.replicate n none ++ r) = ipFinalO ip r := by
  induction n with
  | zero => rfl
  | succ n ih => rw [List.replicate_succ]; simp only [List.cons_append, ipFinalO, ipNextO, oStart, oEnd]; simpa using ih

/-! ### feed-forward decomposition -/

def payW (o : FsRx.Out) : Option Nat := if o.put then some o.payData else none
def flgW (o : FsRx.Out) : Option Nat :=
  if o.pktStart || o.pktEnd then some ((if o.pktStart then 2 else 0) + (if o.pktEnd then 1 else 0)) else none

/-- `o_receive_error` at the `usb` edges -/
def errSamples (φ : Nat) : Nat → List FsRx.Out → List Bool
  | _, [] => []
  | c, o :: os => (if c == φ then [o.rxErr] else []) ++ errSamples φ ((c + 1) % 4) os

/-- outputs without events write nothing -/
theorem quiet_writes (os : List FsRx.Out) (h : events os = []) :
    os.map payW = List.replicate os.length none ∧ os.map flgW = List.replicate os.length none := by
  induction os with
  | nil => exact ⟨rfl, rfl⟩
  | cons o os ih =>
    simp only [events, List.append_eq_nil_iff] at h
    obtain ⟨i1, i2⟩ := ih h.2
    have h1 := h.1
    simp only [evOf, List.append_eq_nil_iff] at h1
    have a1 : o.pktStart = false := by cases hh : o.pktStart <;> simp_all
    have a2 : o.pktEnd = false := by cases hh : o.pktEnd <;> simp_all
    have a3 : o.put = false := by cases hh : o.put <;> simp_all
    simp [payW, flgW, a1, a2, a3, i1, i2, List.replicate_succ]

theorem next_nowrite (s : Fifo) (d : Nat) (e : Bool) : s.next false d e = s.next false 0 e := by
  cases e <;> simp [Fifo.next, Fifo.wNxt, Fifo.doWrite]

theorem fifo_next_payW (s : Fifo) (o : FsRx.Out) (e : Bool) :
    s.next o.put o.payData e = s.next (payW o).isSome ((payW o).getD 0) e := by
  unfold payW; cases h : o.put
  · simp [next_nowrite s o.payData e]
  · simp

theorem fifo_next_flgW (s : Fifo) (o : FsRx.Out) (e : Bool) :
    s.next (o.pktStart || o.pktEnd) ((if o.pktStart then 2 else 0) + (if o.pktEnd then 1 else 0)) e =
      s.next (flgW o).isSome ((flgW o).getD 0) e := by
  unfold flgW; cases h : (o.pktStart || o.pktEnd)
  · simp [next_nowrite s _ e]
  · simp

/-- a `usb` edge: the outputs are one step of `usbEvO` on the two FIFO outputs and `o_receive_error` -/
theorem evU_out (s : St) (ps fs : List (Option Nat)) (es : List Bool) :
    evU s.out ++ usbEvO (ipNextO s.inProgress (rdyData (s.flg.oRdy, s.flg.oData))) ps fs es =
      usbEvO s.inProgress (rdyData (s.pay.oRdy, s.pay.oData) :: ps) (rdyData (s.flg.oRdy, s.flg.oData) :: fs)
        (s.rx.out.rxErr :: es) := by
  have hr : s.rx.out.rxErr = s.rx.b.rxErr := rfl
  rw [hr]; simp only [usbEvO]
  congr 1
  rcases Bool.eq_false_or_eq_true s.pay.oRdy with hp | hp <;> rcases Bool.eq_false_or_eq_true s.flg.oRdy with hf | hf <;>
    simp [evU, St.out, rdyData, oStart, oEnd, hp, hf]

/-- **feed-forward**: the receive chain drives the two FIFOs, the flags FIFO drives `o_pkt_in_progress` -/
theorem cdc_split (φ : Nat) (ins : List FsRx.In) : ∀ s : St, s.cyc < 4 →
    (runCdc φ s ins).1 =
      ⟨(FsRx.run s.rx ins).1,
       (runFifo φ s.cyc s.pay ((FsRx.run s.rx ins).2.map payW)).1,
       (runFifo φ s.cyc s.flg ((FsRx.run s.rx ins).2.map flgW)).1,
       ipFinalO s.inProgress ((runFifo φ s.cyc s.flg ((FsRx.run s.rx ins).2.map flgW)).2.map rdyData),
       (s.cyc + ins.length) % 4⟩ ∧
    evsU (runCdc φ s ins).2 =
      usbEvO s.inProgress ((runFifo φ s.cyc s.pay ((FsRx.run s.rx ins).2.map payW)).2.map rdyData)
        ((runFifo φ s.cyc s.flg ((FsRx.run s.rx ins).2.map flgW)).2.map rdyData)
        (errSamples φ s.cyc (FsRx.run s.rx ins).2) := by
  induction ins with
  | nil =>
    intro s hs
    refine ⟨?_, by simp [runCdc, FsRx.run, runFifo, evsU, usbEvO, errSamples]⟩
    have : s.cyc % 4 = s.cyc := Nat.mod_eq_of_lt hs
    simp [runCdc, FsRx.run, runFifo, ipFinalO, this]
  | cons i is ih =>
    intro s hs
    obtain ⟨h1, h2⟩ := ih (s.next φ i) (Nat.mod_lt _ (by omega))
    have hrx : (s.next φ i).rx = (FsRx.step s.rx i).1 := rfl
    have hcy : (s.next φ i).cyc = (s.cyc + 1) % 4 := rfl
    have hpay : (s.next φ i).pay = s.pay.next (payW s.rx.out).isSome ((payW s.rx.out).getD 0) (s.cyc == φ) := by
      simp only [St.next]; exact fifo_next_payW _ _ _
    have hflg : (s.next φ i).flg = s.flg.next (flgW s.rx.out).isSome ((flgW s.rx.out).getD 0) (s.cyc == φ) := by
      simp only [St.next]; exact fifo_next_flgW _ _ _
    have hip : (s.next φ i).inProgress =
        if s.cyc == φ then ipNextO s.inProgress (rdyData (s.flg.oRdy, s.flg.oData)) else s.inProgress := by
      simp only [St.next, St.out, ipNextO, rdyData]
      rcases Bool.eq_false_or_eq_true s.flg.oRdy with hf | hf <;> simp [hf, oStart, oEnd]
    have hout : (FsRx.step s.rx i).2 = s.rx.out := rfl
    rw [hrx, hcy, hpay, hflg, hip] at h1 h2
    constructor
    · simp only [runCdc]
      rw [h1]
      simp only [FsRx.run, List.map, runFifo, hout, List.length_cons]
      congr 1
      · cases hc : (s.cyc == φ) <;> simp [ipFinalO]
      · omega
    · simp only [runCdc, evsU_append]
      rw [h2]
      simp only [FsRx.run, List.map, runFifo, hout, errSamples]
      cases hc : (s.cyc == φ)
      · simp [evsU]
      · simp only [if_true, List.map_cons, List.cons_append, List.nil_append, evsU, List.append_nil]
        exact evU_out s _ _ _

/-! ### the idle state of the path with its crossing -/

/-- the receive path with its clock-domain crossing, idle: receive chain idle, both FIFOs empty and settled (pointers and
memory contents arbitrary), `o_pkt_in_progress` low, `cyc` = position of the `usb` clock -/
def idleCdc (c : Nat) (e : Bool) (pp : Nat) (memp : List Nat) (pf : Nat) (memf : List Nat) (cyc : Nat) : St :=
  ⟨idleSt c e, settled pp memp, settled pf memf, false, cyc⟩

/-! ### what one bit writes, cycle by cycle -/

/-- the payload write of a bit (two cycles after the strobe) -/
def bitPay (a : BB) (b : Bool × Bool) : Option Nat :=
  if !(a.bs == 6) && (a.det == 6 && !b.2) && a.sr.getD 7 false && !a.sr.getD 8 false
  then some (bitsVal ((shiftIn a.sr b.1).take 8).reverse) else none

/-- the flags write of a bit (cycle of the strobe): 2 = packet start, 1 = packet end -/
def bitFlg (a : BB) (b : Bool × Bool) : Option Nat :=
  if a.det == 5 && !b.2 && b.1 then some 2 else if a.det == 6 && b.2 then some 1 else none

theorem outBlock_pay (n : Nat) (a : BB) (b : Bool × Bool) : (outBlock n a b).map payW = vblk 2 n (bitPay a b) := by
  obtain ⟨d, z⟩ := b
  simp [outBlock, vblk, payW, bitPay, bitPut, Back.out, Back.payData, conc, strobed]
  split
  · next h => rw [bitStep_sr a (d, z) (by simpa [bitPut] using h)]
  · rfl

theorem outBlock_flg (n : Nat) (hn : 3 ≤ n) (a : BB) (b : Bool × Bool) : (outBlock n a b).map flgW = vblk 0 n (bitFlg a b) := by
  obtain ⟨m, rfl⟩ : ∃ m, n = m + 3 := ⟨n - 3, by omega⟩
  obtain ⟨d, z⟩ := b
  by_cases h5 : a.det = 5 <;>
    simp [outBlock, vblk, flgW, bitFlg, Back.out, Back.pktStart, Back.pktEnd, conc, strobed, h5, List.replicate_succ] <;>
    split <;> simp_all

/-! ### the per-bit write streams -/

def bitPays : BB → List (Bool × Bool) → List (Option Nat)
  | _, [] => []
  | a, b :: bs => bitPay a b :: bitPays (bitStep a b) bs

def bitFlgs : BB → List (Bool × Bool) → List (Option Nat)
  | _, [] => []
  | a, b :: bs => bitFlg a b :: bitFlgs (bitStep a b) bs

theorem bitPays_append (x y : List (Bool × Bool)) : ∀ a, bitPays a (x ++ y) = bitPays a x ++ bitPays (bitRun a x) y := by
  induction x with
  | nil => intro a; rfl
  | cons b bs ih => intro a; simp only [List.cons_append, bitPays, bitRun, ih]

theorem bitFlgs_append (x y : List (Bool × Bool)) : ∀ a, bitFlgs a (x ++ y) = bitFlgs a x ++ bitFlgs (bitRun a x) y := by
  induction x with
  | nil => intro a; rfl
  | cons b bs ih => intro a; simp only [List.cons_append, bitFlgs, bitRun, ih]

theorem bitPays_length (x : List (Bool × Bool)) : ∀ a, (bitPays a x).length = x.length := by
  induction x with
  | nil => intro a; rfl
  | cons b bs ih => intro a; simp only [bitPays, List.length_cons, ih]

/-! ### the write streams of a block stream -/

/-- per block: (cycles, payload write) / (cycles, flags write) -/
def blkP : BB → List (Nat × (Bool × Bool)) → List (Nat × Option Nat)
  | _, [] => []
  | a, (n, b) :: l => (n, bitPay a b) :: blkP (bitStep a b) l

def blkF : BB → List (Nat × (Bool × Bool)) → List (Nat × Option Nat)
  | _, [] => []
  | a, (n, b) :: l => (n, bitFlg a b) :: blkF (bitStep a b) l

theorem blkP_snd (l : List (Nat × (Bool × Bool))) : ∀ a, (blkP a l).map (·.2) = bitPays a (l.map (·.2)) := by
  induction l with
  | nil => intro a; rfl
  | cons x l ih => intro a; obtain ⟨n, b⟩ := x; simp only [blkP, List.map, bitPays, ih]

theorem blkF_snd (l : List (Nat × (Bool × Bool))) : ∀ a, (blkF a l).map (·.2) = bitFlgs a (l.map (·.2)) := by
  induction l with
  | nil => intro a; rfl
  | cons x l ih => intro a; obtain ⟨n, b⟩ := x; simp only [blkF, List.map, bitFlgs, ih]

theorem blkP_fst (l : List (Nat × (Bool × Bool))) : ∀ a, (blkP a l).map (·.1) = l.map (·.1) := by
  induction l with
  | nil => intro a; rfl
  | cons x l ih => intro a; obtain ⟨n, b⟩ := x; simp only [blkP, List.map, ih]

theorem blkF_fst (l : List (Nat × (Bool × Bool))) : ∀ a, (blkF a l).map (·.1) = l.map (·.1) := by
  induction l with
  | nil => intro a; rfl
  | cons x l ih => intro a; obtain ⟨n, b⟩ := x; simp only [blkF, List.map, ih]

theorem blkF_append (x y : List (Nat × (Bool × Bool))) : ∀ a,
    blkF a (x ++ y) = blkF a x ++ blkF (bitRun a (x.map (·.2))) y := by
  induction x with
  | nil => intro a; rfl
  | cons p x ih => intro a; obtain ⟨n, b⟩ := p; simp only [List.cons_append, blkF, List.map, bitRun, ih]

/-- a run of blocks writes, cycle by cycle, the per-bit writes of its bits: payload in cycle 2 of a block, flags in cycle 0 -/
theorem outs_vstreams (l : List (Nat × (Bool × Bool))) (hl : ∀ p ∈ l, 3 ≤ p.1) : ∀ (a : BB) (bd : Bool),
    (outsB (conc a bd) (vblocks l)).map payW = flatV 2 (blkP a l) ∧
    (outsB (conc a bd) (vblocks l)).map flgW = flatV 0 (blkF a l) := by
  induction l with
  | nil => intro a bd; exact ⟨rfl, rfl⟩
  | cons p l ih =>
    intro a bd
    obtain ⟨n, b⟩ := p
    have hn : 3 ≤ n := hl (n, b) (by simp)
    obtain ⟨h1, h2⟩ := block_outs a bd b n hn
    obtain ⟨i1, i2⟩ := ih (fun p hp => hl p (by simp [hp])) (bitStep a b) b.1
    simp only [vblocks, outsB_append, List.map_append, h1, h2, outBlock_pay, outBlock_flg n hn, i1, i2, blkP, blkF, flatV]
    exact ⟨trivial, trivial⟩

theorem outs_verrs (l : List (Nat × (Bool × Bool))) (hl : ∀ p ∈ l, 3 ≤ p.1) (a : BB) (bd : Bool) :
    (outsB (conc a bd) (vblocks l)).map (·.rxErr) = (bitSEsD a l).map (·.2) := by
  obtain ⟨_, _, h3⟩ := back_vblocks l hl a bd
  rw [← h3, List.map_map]
  rfl

end LunaVerif.FsRxCdc
