import LunaVerif.Lemmas.C07MpsLegal
import LunaVerif.Props.C07
/-!
# The C07 stage theorems at cycle level, every legal control max packet size
(over `stepM` / `LegalHostM` / `closed2_refines_legal_run_mps`; Lemmas/C07Transfer.lean has the instances for `Device.step`)

The stage theorems of Props/C07.lean hold in every state that satisfies the model's invariant `Inv`
(`…_of_inv`); `Inv` is preserved by `stepM` (`inv_finalM`), and `coreM` answers a host handshake with nothing, so
they hold of the event-level model with the `start_position` advance by `max_packet_size`
(`data_in_only_after_in_setup_mps`, `in_token_answered_only_in_data_or_status_in_mps`, `stage_follows_setup_mps`,
`out_data_answered_only_in_status_out_mps`; in `setup_always_restarts_mps` and the stutter theorems no host handshake
reaches the handler, so `stepM` is `Device.step` there), and the first two, through the closed-loop refinement
(`closed2_last_resp_mps`: the closed loop's last bus response is the event-level one), of what the cycle-level closed
loop puts on the bus, for `max_packet_size ∈ {8, 16, 32, 64}`.
-/
namespace LunaVerif.CtrlCyc
open LunaVerif.Device

theorem data_in_only_after_in_setup_mps (c : DevConfig) (h : List Stim) (e : HostEvent) (pid : Nat) (p : List Nat)
    (hr : (coreM c (finalM c Device.init h) e).2 = .data pid p) (hp : p ≠ []) :
    e = .token PID_IN (finalM c Device.init h).address 0 ∧
    (finalM c Device.init h).setup.isIn = true ∧ (finalM c Device.init h).setup.length ≠ 0 ∧
    (coreM c (finalM c Device.init h) e).1.stage = .dataIn := by
  have i := inv_finalM c Device.init h inv_init
  cases e with
  | handshake q => cases hr
  | _ => exact data_in_only_after_in_setup_of_inv c _ i _ pid p hr hp

theorem in_token_answered_only_in_data_or_status_in_mps (c : DevConfig) (h : List Stim) (addr ep : Nat)
    (hr : (coreM c (finalM c Device.init h) (.token PID_IN addr ep)).2 ≠ .none) :
    addr = (finalM c Device.init h).address ∧ ep = 0 ∧
    (((coreM c (finalM c Device.init h) (.token PID_IN addr ep)).1.stage = .dataIn ∧
        (finalM c Device.init h).setup.isIn = true ∧ (finalM c Device.init h).setup.length ≠ 0) ∨
     ((coreM c (finalM c Device.init h) (.token PID_IN addr ep)).1.stage = .statusIn ∧
        ¬ ((finalM c Device.init h).setup.isIn = true ∧ (finalM c Device.init h).setup.length ≠ 0))) :=
  in_token_answered_only_in_data_or_status_in_of_inv c _ (inv_finalM c Device.init h inv_init) addr ep hr

theorem stage_follows_setup_mps (c : DevConfig) (h : List Stim) :
    let s := finalM c Device.init h
    (s.stage = .dataIn → s.setup.isIn = true ∧ s.setup.length ≠ 0) ∧
    (s.stage = .dataOut → s.setup.isIn = false ∧ s.setup.length ≠ 0) ∧
    (s.stage = .statusOut → s.setup.isIn = true ∧ s.setup.length ≠ 0) ∧
    (s.stage = .statusIn → ¬ (s.setup.isIn = true ∧ s.setup.length ≠ 0)) :=
  have i := inv_finalM c Device.init h inv_init
  ⟨i.data_in, i.data_out, i.status_out, i.status_in⟩

theorem out_data_answered_only_in_status_out_mps (c : DevConfig) (h : List Stim) (pid : Nat) (p : List Nat) (ok : Bool)
    (hw : (finalM c Device.init h).sdWait = false)
    (hr : (coreM c (finalM c Device.init h) (.data pid p ok)).2 ≠ .none) :
    (finalM c Device.init h).stage = .statusOut ∧ (finalM c Device.init h).tokEp = 0 ∧
    (finalM c Device.init h).tokPid = PID_OUT ∧
    (finalM c Device.init h).setup.isIn = true ∧ (finalM c Device.init h).setup.length ≠ 0 ∧ ok = true :=
  out_data_answered_only_in_status_out_of_inv c _ (inv_finalM c Device.init h inv_init) pid p ok hw hr

/-- A SETUP transaction contains no host handshake, so `stepM` runs it exactly as `Device.step` does. -/
theorem setup_always_restarts_mps (c : DevConfig) (s : DevState) (bytes : List Nat) (f₁ f₂ : Resp)
    (hlen : bytes.length = 8) :
    let tx : List Stim := [⟨.token PID_SETUP s.address 0, f₁⟩, ⟨.data PID_DATA0 bytes true, f₂⟩]
    let s₂ := finalM c s tx
    let r₂ := finalM c { Device.init with address := s.address } tx
    s₂.stage = r₂.stage ∧ s₂.setup = r₂.setup ∧ s₂.setup = parseSetup bytes ∧ s₂.sdWait = r₂.sdWait ∧
    s₂.tokPid = r₂.tokPid ∧ s₂.tokEp = r₂.tokEp ∧
    ((parseSetup bytes).type = TYPE_STANDARD →
        s₂.hstate = r₂.hstate ∧ s₂.startPos = r₂.startPos ∧ s₂.txPid = r₂.txPid) ∧
    respsM c s tx = [.none, .hs PID_ACK] := by
  have hn : ∀ x ∈ [(⟨.token PID_SETUP s.address 0, f₁⟩ : Stim), ⟨.data PID_DATA0 bytes true, f₂⟩], ∀ pid,
      x.ev ≠ .handshake pid := by
    intro x hx pid h
    simp only [List.mem_cons, List.not_mem_nil, or_false] at hx
    rcases hx with rfl | rfl <;> cases h
  simp only [finalM_eq_final_of c _ hn, respsM_eq_run_of c _ hn]
  exact setup_always_restarts c s bytes f₁ f₂ hlen

theorem other_endpoint_tokens_are_stutter_mps (c : DevConfig) (s : DevState) (pid ep : Nat)
    (hep : ep ≠ 0) (hpid : pid ≠ PID_SETUP) :
    coreM c s (.token pid s.address ep) = ({ s with tokPid := pid, tokEp := ep, sdWait := false }, .none) :=
  other_endpoint_tokens_are_stutter c s pid ep hep hpid

theorem other_endpoint_transactions_are_stutter_mps (c : DevConfig) (s : DevState) (x : Stim)
    (hep : s.tokEp ≠ 0) (hw : s.sdWait = false)
    (hx : (∃ pid p ok, x.ev = .data pid p ok) ∨ (∃ pid, x.ev = .handshake pid)) :
    coreM c s x.ev = (s, .none) ∧ (stepM c s x).2 = x.foreign := by
  have key : coreM c s x.ev = (s, .none) := by
    rcases hx with ⟨pid, p, ok, hx⟩ | ⟨pid, hx⟩
    · have := (other_endpoint_transactions_are_stutter c s x hep hw (Or.inl ⟨pid, p, ok, hx⟩)).1
      rw [hx] at this ⊢; exact this
    · rw [hx]
      simp only [coreM, onHandshakeM]
      rw [if_neg (fun g => hep g.2.1)]
  refine ⟨key, ?_⟩
  simp only [stepM, key]
  simp [Resp.isNone, hep]

theorem coreRespsM_snoc (c : DevConfig) (hs : List Stim) (x : Stim) : ∀ d,
    coreRespsM c d (hs ++ [x]) = coreRespsM c d hs ++ [(coreM c (finalM c d hs) x.ev).2] :=
  coreRespsM_append c hs [x]

theorem closed2_last_resp_mps (c : DevConfig) (hx : c.extra = [])
    (hm : c.maxPacket = 8 ∨ c.maxPacket = 16 ∨ c.maxPacket = 32 ∨ c.maxPacket = 64)
    (hwf : Desc.wellFormed (collOf c.descriptors) = true)
    (hpw : 2 ≤ (Desc.Rom.layout (collOf c.descriptors)).maxLen) (hfit : DescsFit c)
    (h : List (Stim × GapsS)) (x : Stim) (g : GapsS)
    (hl : LegalHostM c ((h ++ [(x, g)]).map (·.1)) = true) (hw : WinFromM c Device.init (h ++ [(x, g)]) = true)
    (ht : ∀ xg ∈ h ++ [(x, g)], TDSil xg.2) :
    ∃ h', SameButLat (h ++ [(x, g)]) h' ∧
      (sys2BusRespsM c (Desc.blockOf (collOf c.descriptors) c.maxPacket) Device.init sys2Init h').getLast? =
        some (coreM c (finalM c Device.init (h.map (·.1))) x.ev).2 := by
  obtain ⟨h', sb, _, hb, _⟩ := closed2_refines_legal_run_mps c hx hm hwf hpw hfit (h ++ [(x, g)]) hl hw ht
  refine ⟨h', sb, ?_⟩
  rw [hb, List.map_append, List.map_cons, List.map_nil, coreRespsM_snoc, List.getLast?_append]
  rfl

/-- **C07 (data stage) at cycle level, `max_packet_size ∈ {8, 16, 32, 64}`.**  Without additional request handlers, for
well-formed descriptors that fit (`hwf`, `hpw`, `DescsFit`), for every legal history that ends with the event `x`, whose
windows are long enough (`WinFromM`) and whose free streamer inputs are silent (`TDSil`), there is a history `h'` that
differs from it in the streamers' latencies only (`SameButLat`: the block handler's own) such that: if the closed loop of the cycle-level models (control endpoint FSM + request multiplexer + standard
request handler + serializer + block descriptor handler, all configured with `c.maxPacket`), run over `h'`, answers `x`
on the bus with a DATA packet that carries payload bytes, then `x` is an IN token for endpoint 0 at the device's current address and the
latched SETUP packet is a device-to-host request with `wLength ≠ 0` -- data is sent only in the data stage of a control
read. -/
theorem closed2_data_only_after_in_setup_mps (c : DevConfig) (hx : c.extra = [])
    (hm : c.maxPacket = 8 ∨ c.maxPacket = 16 ∨ c.maxPacket = 32 ∨ c.maxPacket = 64)
    (hwf : Desc.wellFormed (collOf c.descriptors) = true)
    (hpw : 2 ≤ (Desc.Rom.layout (collOf c.descriptors)).maxLen) (hfit : DescsFit c)
    (h : List (Stim × GapsS)) (x : Stim) (g : GapsS)
    (hl : LegalHostM c ((h ++ [(x, g)]).map (·.1)) = true) (hw : WinFromM c Device.init (h ++ [(x, g)]) = true)
    (ht : ∀ xg ∈ h ++ [(x, g)], TDSil xg.2) :
    ∃ h', SameButLat (h ++ [(x, g)]) h' ∧ ∀ pid p,
      (sys2BusRespsM c (Desc.blockOf (collOf c.descriptors) c.maxPacket) Device.init sys2Init h').getLast? =
          some (.data pid p) → p ≠ [] →
        x.ev = .token PID_IN (finalM c Device.init (h.map (·.1))).address 0 ∧
        (finalM c Device.init (h.map (·.1))).setup.isIn = true ∧
        (finalM c Device.init (h.map (·.1))).setup.length ≠ 0 := by
  obtain ⟨h', sb, hlast⟩ := closed2_last_resp_mps c hx hm hwf hpw hfit h x g hl hw ht
  refine ⟨h', sb, fun pid p hd hp => ?_⟩
  rw [hlast, Option.some.injEq] at hd
  obtain ⟨a, b, e, _⟩ := data_in_only_after_in_setup_mps c (h.map (·.1)) x.ev pid p hd hp
  exact ⟨a, b, e⟩

/-- **C07 (IN tokens) at cycle level, `max_packet_size ∈ {8, 16, 32, 64}`**: the closed loop answers an IN token only
if it is for endpoint 0 at the device's address.  (The last conjunct has the form `P ∨ ¬ P`: it is the disjunction of
`in_token_answered_only_in_data_or_status_in_mps` -- DATA_IN of a control read, or STATUS_IN of a transfer without IN
data stage -- without its `stage` conjuncts, so the stage rule is not carried over.) -/
theorem closed2_in_answered_only_in_data_or_status_in_mps (c : DevConfig) (hx : c.extra = [])
    (hm : c.maxPacket = 8 ∨ c.maxPacket = 16 ∨ c.maxPacket = 32 ∨ c.maxPacket = 64)
    (hwf : Desc.wellFormed (collOf c.descriptors) = true)
    (hpw : 2 ≤ (Desc.Rom.layout (collOf c.descriptors)).maxLen) (hfit : DescsFit c)
    (h : List (Stim × GapsS)) (addr ep : Nat) (f : Resp) (g : GapsS)
    (hl : LegalHostM c ((h ++ [(Stim.mk (.token PID_IN addr ep) f, g)]).map (·.1)) = true)
    (hw : WinFromM c Device.init (h ++ [(Stim.mk (.token PID_IN addr ep) f, g)]) = true)
    (ht : ∀ xg ∈ h ++ [(Stim.mk (.token PID_IN addr ep) f, g)], TDSil xg.2) :
    ∃ h', SameButLat (h ++ [(Stim.mk (.token PID_IN addr ep) f, g)]) h' ∧ ∀ r,
      (sys2BusRespsM c (Desc.blockOf (collOf c.descriptors) c.maxPacket) Device.init sys2Init h').getLast? = some r →
      r ≠ .none →
        addr = (finalM c Device.init (h.map (·.1))).address ∧ ep = 0 ∧
        (((finalM c Device.init (h.map (·.1))).setup.isIn = true ∧
            (finalM c Device.init (h.map (·.1))).setup.length ≠ 0) ∨
         ¬ ((finalM c Device.init (h.map (·.1))).setup.isIn = true ∧
            (finalM c Device.init (h.map (·.1))).setup.length ≠ 0)) := by
  obtain ⟨h', sb, hlast⟩ := closed2_last_resp_mps c hx hm hwf hpw hfit h ⟨.token PID_IN addr ep, f⟩ g hl hw ht
  refine ⟨h', sb, fun r hr hne => ?_⟩
  rw [hlast, Option.some.injEq] at hr
  obtain ⟨a, b, e⟩ := in_token_answered_only_in_data_or_status_in_mps c (h.map (·.1)) addr ep (by rw [hr]; exact hne)
  exact ⟨a, b, e.imp (·.2) (·.2)⟩

end LunaVerif.CtrlCyc
