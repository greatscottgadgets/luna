import LunaVerif.Lemmas.DeviceSteps
import LunaVerif.Model.Device.ControlM
/-!
Step-level facts about `coreM` / `stepM` / `finalM` / `LegalHostM` (Model/Device/ControlM.lean: the event-level device
model with `start_position += max_packet_size`), the counterparts of Lemmas/DeviceSteps.lean used by the cycle-level
refinement for every max packet size (Lemmas/C07Stream*.lean, C07Mps.lean), by the `…_mps` forms of the C07 legal-host
and stage theorems (Lemmas/C07MpsLegal.lean, C07MpsTransfer.lean) and of the C08 and C10 theorems (Lemmas/C08Mps.lean,
Lemmas/C10Mps.lean).

`coreM` and `Device.core` differ only in the reaction to a host handshake, there only in GET_DESCRIPTOR
(`coreM_eq_core_of`; for `c.maxPacket = 64` not at all: `coreM_eq_core`, `stepM_eq_step`, `finalM_eq_final`), and there
only in `start_position` and the ghost `gDataDone` (`onHandshakeM_regs`): from the SAME state every control register after
the event and the response are equal (`coreM_regs`, `coreM_resp`, `stepM_regs`, `stepM_resp`), for every `c.maxPacket`.
`onHandshakeM_ctl`, `coreM_ctl`, `stepM_ctl` spell the same facts out field by field, as one conjunction each; no proof
uses them.  (The histories differ:
`finalM` and `final` reach different `start_position`s, hence different descriptor packets and a different `LegalHost`
-- the history-level theorems are proved over `finalM`, not transferred.)
-/
namespace LunaVerif.Device

/-! ### Outside GET_DESCRIPTOR, and for `max_packet_size = 64`, it is the model of Model/Device/Control.lean -/

/-- The size is read by the `start_position` advance of GET_DESCRIPTOR only. -/
theorem stdAckM_eq_of {mps : Nat} {s : DevState} (h : s.hstate = .getDescriptor → mps = 64) :
    stdAckM mps s = stdAck s := by
  unfold stdAckM stdAck
  cases hs : s.hstate <;> first | rfl | rw [h hs]

theorem onHandshakeM_eq_of {mps : Nat} {s : DevState} (h : s.hstate = .getDescriptor → mps = 64) (pid : Nat) :
    onHandshakeM mps s pid = onHandshake s pid := by
  unfold onHandshakeM onHandshake
  rw [stdAckM_eq_of h]
  by_cases hs : s.hstate = .getDescriptor
  · rw [h hs]
  · simp only [hs, false_and, if_false]

theorem coreM_eq_core_of (c : DevConfig) {s : DevState} (h : s.hstate = .getDescriptor → c.maxPacket = 64)
    (e : HostEvent) : coreM c s e = core c s e := by
  cases e <;> simp only [coreM, core, onHandshakeM_eq_of h]

theorem coreM_eq_core (c : DevConfig) (hmp : c.maxPacket = 64) (s : DevState) (e : HostEvent) :
    coreM c s e = core c s e := coreM_eq_core_of c (fun _ => hmp) e

theorem stepM_eq_step (c : DevConfig) (hmp : c.maxPacket = 64) (s : DevState) (x : Stim) :
    stepM c s x = step c s x := by
  unfold stepM step
  rw [coreM_eq_core c hmp]

theorem finalM_eq_final (c : DevConfig) (hmp : c.maxPacket = 64) (s : DevState) (h : List Stim) :
    finalM c s h = final c s h := by
  induction h generalizing s with
  | nil => rfl
  | cons x xs ih => simp only [finalM, final, stepM_eq_step c hmp, ih]

/-! ### What the two handshake reactions have in common: everything but `start_position` and the ghost -/

theorem stdAckM_regs (mps : Nat) (s : DevState) : SameRegs (stdAck s) (stdAckM mps s) := by
  unfold stdAckM stdAck
  cases s.hstate <;> first | exact SameRegs.refl _ | skip
  dsimp only
  split
  · exact ⟨⟨rfl, rfl, rfl, rfl, rfl, rfl, rfl, Or.inl rfl⟩, rfl, rfl, rfl⟩
  · exact SameRegs.refl _

theorem onHandshakeM_regs (mps : Nat) (s : DevState) (pid : Nat) :
    SameRegs (onHandshake s pid) (onHandshakeM mps s pid) := by
  have h := stdAckM_regs mps s
  unfold onHandshakeM onHandshake
  split
  · dsimp only  -- the ghost `gDataDone` is written on top in either, both or neither
    split <;> split <;>
      exact ⟨⟨h.address, h.config, h.tokPid, h.tokEp, h.sdWait, h.setup, h.stage, h.hstate⟩, h.hstate_eq, h.txPid, h.expectingAck⟩
  · exact SameRegs.refl _

theorem onHandshakeM_ctl (mps : Nat) (s : DevState) (pid : Nat) :
    (onHandshakeM mps s pid).address = (onHandshake s pid).address ∧
    (onHandshakeM mps s pid).config = (onHandshake s pid).config ∧
    (onHandshakeM mps s pid).tokPid = (onHandshake s pid).tokPid ∧
    (onHandshakeM mps s pid).tokEp = (onHandshake s pid).tokEp ∧
    (onHandshakeM mps s pid).sdWait = (onHandshake s pid).sdWait ∧
    (onHandshakeM mps s pid).setup = (onHandshake s pid).setup ∧
    (onHandshakeM mps s pid).stage = (onHandshake s pid).stage ∧
    (onHandshakeM mps s pid).hstate = (onHandshake s pid).hstate ∧
    (onHandshakeM mps s pid).txPid = (onHandshake s pid).txPid ∧
    (onHandshakeM mps s pid).expectingAck = (onHandshake s pid).expectingAck :=
  have h := onHandshakeM_regs mps s pid
  ⟨h.address, h.config, h.tokPid, h.tokEp, h.sdWait, h.setup, h.stage, h.hstate_eq, h.txPid, h.expectingAck⟩

theorem onHandshakeM_noreach (mps : Nat) (s : DevState) (pid : Nat) (g : ¬ AckReachesHandler s pid) :
    onHandshakeM mps s pid = s := by
  unfold AckReachesHandler at g
  unfold onHandshakeM
  rw [if_neg g]

theorem onHandshakeM_address (mps : Nat) (s : DevState) (pid : Nat) (h : (onHandshakeM mps s pid).address ≠ s.address) :
    AckReachesHandler s pid ∧ s.hstate = .setAddress ∧ (onHandshakeM mps s pid).address = s.setup.value % 128 := by
  rw [(onHandshakeM_regs mps s pid).address] at h ⊢
  exact onHandshake_address s pid h

theorem onHandshakeM_config (mps : Nat) (s : DevState) (pid : Nat) (h : (onHandshakeM mps s pid).config ≠ s.config) :
    AckReachesHandler s pid ∧ s.hstate = .setConfiguration ∧ (onHandshakeM mps s pid).config = s.setup.value % 256 := by
  rw [(onHandshakeM_regs mps s pid).config] at h ⊢
  exact onHandshake_config s pid h

theorem coreM_regs (c : DevConfig) (s : DevState) (e : HostEvent) : SameRegs (core c s e).1 (coreM c s e).1 := by
  cases e with
  | handshake pid => exact onHandshakeM_regs c.maxPacket s pid
  | _ => exact SameRegs.refl _

theorem coreM_resp (c : DevConfig) (s : DevState) (e : HostEvent) : (coreM c s e).2 = (core c s e).2 := by
  cases e <;> rfl

theorem coreM_ctl (c : DevConfig) (s : DevState) (e : HostEvent) :
    (coreM c s e).1.address = (core c s e).1.address ∧ (coreM c s e).1.config = (core c s e).1.config ∧
    (coreM c s e).1.tokPid = (core c s e).1.tokPid ∧ (coreM c s e).1.tokEp = (core c s e).1.tokEp ∧
    (coreM c s e).1.sdWait = (core c s e).1.sdWait ∧ (coreM c s e).1.setup = (core c s e).1.setup ∧
    (coreM c s e).1.stage = (core c s e).1.stage ∧ (coreM c s e).1.hstate = (core c s e).1.hstate ∧
    (coreM c s e).1.txPid = (core c s e).1.txPid ∧ (coreM c s e).1.expectingAck = (core c s e).1.expectingAck ∧
    (coreM c s e).2 = (core c s e).2 :=
  have h := coreM_regs c s e
  ⟨h.address, h.config, h.tokPid, h.tokEp, h.sdWait, h.setup, h.stage, h.hstate_eq, h.txPid, h.expectingAck,
    coreM_resp c s e⟩

/-! ### `Inv` (Lemmas/DeviceInv.lean) along `coreM`, `stepM`, `finalM` -/

theorem inv_coreM (c : DevConfig) (s : DevState) (e : HostEvent) (i : Inv s) : Inv (coreM c s e).1 :=
  inv_of_sameCtl (coreM_regs c s e).toSameCtl (inv_core c s e i)

theorem inv_stepM (c : DevConfig) (s : DevState) (x : Stim) (i : Inv s) : Inv (stepM c s x).1 :=
  inv_of_ctl (inv_coreM c s x.ev i) rfl rfl rfl rfl (Or.inl rfl)

theorem inv_finalM (c : DevConfig) (s : DevState) (h : List Stim) (i : Inv s) : Inv (finalM c s h) := by
  induction h generalizing s with
  | nil => exact i
  | cons x xs ih => exact ih _ (inv_stepM c s x i)

/-! ### `stepM` = `coreM` + ghost bookkeeping -/
section
variable (c : DevConfig) (s : DevState) (x : Stim)
theorem stepM_address : (stepM c s x).1.address = (coreM c s x.ev).1.address := rfl
theorem stepM_config : (stepM c s x).1.config = (coreM c s x.ev).1.config := rfl
theorem stepM_tokPid : (stepM c s x).1.tokPid = (coreM c s x.ev).1.tokPid := rfl
theorem stepM_tokEp : (stepM c s x).1.tokEp = (coreM c s x.ev).1.tokEp := rfl
theorem stepM_sdWait : (stepM c s x).1.sdWait = (coreM c s x.ev).1.sdWait := rfl
theorem stepM_setup : (stepM c s x).1.setup = (coreM c s x.ev).1.setup := rfl
theorem stepM_stage : (stepM c s x).1.stage = (coreM c s x.ev).1.stage := rfl
theorem stepM_hstate : (stepM c s x).1.hstate = (coreM c s x.ev).1.hstate := rfl
theorem stepM_gRespData : (stepM c s x).1.gRespData = (stepM c s x).2.isData := rfl
end

/-! ### From the same state `stepM` and `step` agree on every control register and on the response -/

theorem stepM_regs (c : DevConfig) (s : DevState) (x : Stim) : SameRegs (step c s x).1 (stepM c s x).1 := by
  have h := coreM_regs c s x.ev
  unfold stepM step  -- once, not once per field
  exact ⟨⟨h.address, h.config, h.tokPid, h.tokEp, h.sdWait, h.setup, h.stage, h.hstate⟩, h.hstate_eq, h.txPid, h.expectingAck⟩

theorem stepM_resp (c : DevConfig) (s : DevState) (x : Stim) : (stepM c s x).2 = (step c s x).2 := by
  show (if (coreM c s x.ev).2.isNone ∧ (coreM c s x.ev).1.tokEp ≠ 0 then x.foreign else (coreM c s x.ev).2) =
    (if (core c s x.ev).2.isNone ∧ (core c s x.ev).1.tokEp ≠ 0 then x.foreign else (core c s x.ev).2)
  rw [(coreM_regs c s x.ev).tokEp, coreM_resp]

theorem stepM_ctl (c : DevConfig) (s : DevState) (x : Stim) :
    (stepM c s x).1.address = (step c s x).1.address ∧ (stepM c s x).1.config = (step c s x).1.config ∧
    (stepM c s x).1.tokPid = (step c s x).1.tokPid ∧ (stepM c s x).1.tokEp = (step c s x).1.tokEp ∧
    (stepM c s x).1.sdWait = (step c s x).1.sdWait ∧ (stepM c s x).1.setup = (step c s x).1.setup ∧
    (stepM c s x).1.stage = (step c s x).1.stage ∧ (stepM c s x).1.hstate = (step c s x).1.hstate ∧
    (stepM c s x).1.txPid = (step c s x).1.txPid ∧ (stepM c s x).1.expectingAck = (step c s x).1.expectingAck ∧
    (stepM c s x).2 = (step c s x).2 :=
  have h := stepM_regs c s x
  ⟨h.address, h.config, h.tokPid, h.tokEp, h.sdWait, h.setup, h.stage, h.hstate_eq, h.txPid, h.expectingAck,
    stepM_resp c s x⟩

/-! ### Without a host handshake `stepM` is `step` -/

theorem stepM_eq_step_of (c : DevConfig) (s : DevState) (t : Stim) (h : ∀ pid, t.ev ≠ .handshake pid) :
    stepM c s t = step c s t := by
  have hc : coreM c s t.ev = core c s t.ev := by
    cases hev : t.ev <;> first | rfl | exact absurd hev (h _)
  unfold stepM step
  rw [hc]

theorem finalM_eq_final_of (c : DevConfig) (l : List Stim) (h : ∀ x ∈ l, ∀ pid, x.ev ≠ .handshake pid) :
    ∀ s, finalM c s l = final c s l := by
  induction l with
  | nil => intro s; rfl
  | cons x xs ih =>
    intro s
    simp only [finalM, final, stepM_eq_step_of c s x (h x (List.mem_cons_self ..))]
    exact ih (fun y hy => h y (List.mem_cons_of_mem _ hy)) _

theorem respsM_eq_run_of (c : DevConfig) (l : List Stim) (h : ∀ x ∈ l, ∀ pid, x.ev ≠ .handshake pid) :
    ∀ s, respsM c s l = (run c s l).map (·.2) := by
  induction l with
  | nil => intro s; rfl
  | cons x xs ih =>
    intro s
    simp only [respsM, run, List.map_cons, stepM_eq_step_of c s x (h x (List.mem_cons_self ..))]
    rw [ih (fun y hy => h y (List.mem_cons_of_mem _ hy))]

/-! ### A DATA answer that leaves the token detector on an IN token for endpoint 0 answers that token (as `data_answer_is_to_in_token`) -/

theorem data_answer_is_to_in_token_M (c : DevConfig) (s : DevState) (t : Stim)
    (hd : (stepM c s t).1.gRespData = true) (hep : (stepM c s t).1.tokEp = 0)
    (hpid : (stepM c s t).1.tokPid = PID_IN) :
    t.ev = .token PID_IN s.address 0 ∧ (stepM c s t).2 = (onToken c s PID_IN 0).2 ∧
    (coreM c s t.ev).1 = (onToken c s PID_IN 0).1 := by
  rw [stepM_gRespData, stepM_resp, ← step_gRespData] at hd
  rw [(stepM_regs c s t).tokEp] at hep
  rw [(stepM_regs c s t).tokPid] at hpid
  obtain ⟨a, b, d⟩ := data_answer_is_to_in_token c s t hd hep hpid
  refine ⟨a, (stepM_resp c s t).trans b, ?_⟩
  rw [a] at d ⊢
  exact d

/-! ### Histories -/

theorem finalM_append (c : DevConfig) (s : DevState) (h₁ h₂ : List Stim) :
    finalM c s (h₁ ++ h₂) = finalM c (finalM c s h₁) h₂ := by
  induction h₁ generalizing s with
  | nil => rfl
  | cons x xs ih => simp [finalM, ih]

theorem respsM_append (c : DevConfig) (h₁ h₂ : List Stim) : ∀ d,
    respsM c d (h₁ ++ h₂) = respsM c d h₁ ++ respsM c (finalM c d h₁) h₂ := by
  induction h₁ with
  | nil => intro d; rfl
  | cons x xs ih => intro d; simp only [List.cons_append, respsM, finalM, ih]

theorem finalM_snoc (c : DevConfig) (s : DevState) (h : List Stim) (x : Stim) :
    finalM c s (h ++ [x]) = (stepM c (finalM c s h) x).1 := by
  rw [finalM_append]; rfl

theorem legalFromM_append (c : DevConfig) (s : DevState) (h₁ h₂ : List Stim) :
    legalFromM c s (h₁ ++ h₂) = (legalFromM c s h₁ && legalFromM c (finalM c s h₁) h₂) := by
  induction h₁ generalizing s with
  | nil => simp [legalFromM, finalM]
  | cons x xs ih => simp [legalFromM, finalM, ih, Bool.and_assoc]

theorem legalM_snoc {c : DevConfig} {h : List Stim} {x : Stim} (l : LegalHostM c (h ++ [x]) = true) :
    LegalHostM c h = true ∧ legalEventM c (finalM c init h) x = true := by
  unfold LegalHostM at l ⊢
  rw [legalFromM_append] at l
  simp [legalFromM] at l
  exact l

theorem inv_reachableM (c : DevConfig) (h : List Stim) : Inv (finalM c init h) := inv_finalM c init h inv_init

end LunaVerif.Device
