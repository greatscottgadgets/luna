import LunaVerif.Props.C09Spec
/-!
Helper lemmas for C09 without a gateware model: where packet `j` of `dataStage` starts and what has to be answered
there (`dataStage_get`), and the host's loop over any list of packets that are served in order (`hostRead_list`).
-/
namespace LunaVerif.Desc

/-! ### the number of data packets `(T + mps - 1) / mps` of a stage of `T` bytes

With these two facts the side conditions below are linear in `k * mps`, `T` and the quotient. -/

theorem lt_packets_iff (T mps k : Nat) (hm : 0 < mps) : k < (T + mps - 1) / mps ↔ k * mps < T := by
  rw [Nat.lt_iff_add_one_le, Nat.le_div_iff_mul_le hm, Nat.succ_mul]
  omega

theorem packets_mul_of_mod (T mps : Nat) (hm : 0 < mps) (h : T % mps = 0) : (T + mps - 1) / mps * mps = T := by
  obtain ⟨q, rfl⟩ := Nat.dvd_of_mod_eq_zero h
  rw [show mps * q + mps - 1 = mps - 1 + mps * q by omega, Nat.add_mul_div_left _ _ hm,
    Nat.div_eq_of_lt (by omega), Nat.zero_add, Nat.mul_comm]

/-! ### packet `j` of `dataStage`: where it starts, what `specResponse` answers there, full unless last -/

theorem packetAt_length (d : List Nat) (wLength mps k : Nat) :
    (packetAt d wLength mps k).length = min mps (min wLength d.length - k * mps) := by
  simp [packetAt, List.length_take, List.length_drop]

theorem ofPacket_packetAt (d : List Nat) (wLength mps k : Nat) (h : k * mps < min wLength d.length) (hm : 0 < mps) :
    Response.ofPacket (packetAt d wLength mps k) = .data (packetAt d wLength mps k) := by
  have hl := packetAt_length d wLength mps k
  unfold Response.ofPacket
  cases hp : packetAt d wLength mps k with
  | nil => rw [hp] at hl; simp at hl; omega
  | cons a l => rfl

theorem specResponse_lt (d : List Nat) (wLength mps k : Nat) (h : k * mps < min wLength d.length) :
    specResponse (some d) wLength mps (k * mps) = .data (packetAt d wLength mps k) := by
  simp [specResponse, packetAt, h]

theorem specResponse_ge (d : List Nat) (wLength mps s : Nat) (h : ¬ s < min wLength d.length) :
    specResponse (some d) wLength mps s = .zlp := by
  simp [specResponse, h]

theorem dataStage_length (d : List Nat) (l mps : Nat) :
    (dataStage d l mps).length = (min l d.length + mps - 1) / mps
      + (if min l d.length ≠ 0 ∧ min l d.length % mps = 0 ∧ min l d.length < l then 1 else 0) := by
  unfold dataStage
  simp only [List.length_append, List.length_map, List.length_range]
  split <;> rfl

/-- The one place where the arithmetic of the in-order offsets `j * mps` is done; the last two conjuncts are what
`hostRead_list` asks of a list of packets. -/
theorem dataStage_get (d : List Nat) (l mps : Nat) (hm : 0 < mps) (j : Nat) (p : List Nat)
    (h : (dataStage d l mps)[j]? = some p) :
    j * mps ≤ min l d.length ∧ j * mps < l ∧ specResponse (some d) l mps (j * mps) = .ofPacket p
    ∧ (j + 1 < (dataStage d l mps).length → p.length = mps ∧ (j + 1) * mps < l)
    ∧ (j + 1 = (dataStage d l mps).length → p.length < mps ∨ l ≤ j * mps + p.length) := by
  have hN := lt_packets_iff (min l d.length) mps j hm
  have hN1 := lt_packets_iff (min l d.length) mps (j + 1) hm
  have hlen := dataStage_length d l mps
  rw [Nat.succ_mul] at hN1 ⊢
  unfold dataStage at h
  by_cases hj : j < (min l d.length + mps - 1) / mps
  · rw [List.getElem?_append_left (by simpa using hj), List.getElem?_map, List.getElem?_range hj] at h
    obtain rfl := Option.some.inj h
    have hlt := hN.mp hj
    rw [packetAt_length, specResponse_lt _ _ _ _ hlt, ofPacket_packetAt _ _ _ _ hlt hm]
    refine ⟨by omega, by omega, rfl, ?_⟩
    by_cases hz : min l d.length ≠ 0 ∧ min l d.length % mps = 0 ∧ min l d.length < l
    · have hT := packets_mul_of_mod _ mps hm hz.2.1
      rw [if_pos hz] at hlen
      have : (j + 1) * mps ≤ min l d.length := hT ▸ Nat.mul_le_mul_right mps hj
      rw [Nat.succ_mul] at this
      omega
    · rw [if_neg hz] at hlen
      refine ⟨by omega, fun h1 => ?_⟩
      by_cases hs : min l d.length - j * mps < mps
      · omega
      · have : min l d.length % mps = 0 := by
          rw [show min l d.length = (j + 1) * mps by rw [Nat.succ_mul]; omega]; exact Nat.mul_mod_left _ _
        omega
  · rw [List.getElem?_append_right (by simpa using hj), List.length_map, List.length_range] at h
    by_cases hz : min l d.length ≠ 0 ∧ min l d.length % mps = 0 ∧ min l d.length < l
    · rw [if_pos hz] at h hlen
      obtain ⟨h0, rfl⟩ : j - (min l d.length + mps - 1) / mps = 0 ∧ p = [] := by
        cases hk : j - (min l d.length + mps - 1) / mps with
        | zero => rw [hk] at h; exact ⟨rfl, (Option.some.inj h).symm⟩
        | succ n => rw [hk] at h; cases h
      have hjT : j * mps = min l d.length := by
        rw [show j = (min l d.length + mps - 1) / mps by omega]; exact packets_mul_of_mod _ mps hm hz.2.1
      exact ⟨by omega, by omega, by rw [specResponse_ge _ _ _ _ (by omega)]; rfl, by omega, fun _ => Or.inl hm⟩
    · rw [if_neg hz] at h; cases h

/-! ### the host's loop over packets served in order -/

theorem hostRead_list (resp : Nat → Response) (mps l : Nat) (hm : 0 < mps) (ps : List (List Nat)) :
    ∀ (fuel k : Nat), ps.length ≤ fuel → ps ≠ [] →
      (∀ j p, ps[j]? = some p → resp (((k + j) * mps) % 2048) = .ofPacket p
        ∧ (j + 1 < ps.length → p.length = mps ∧ (k + j + 1) * mps < l)
        ∧ (j + 1 = ps.length → p.length < mps ∨ l ≤ (k + j) * mps + p.length)) →
      hostRead resp mps l fuel k (k * mps) = ps.map .ofPacket := by
  induction ps with
  | nil => intro _ _ _ h; exact absurd rfl h
  | cons p ps ih =>
    intro fuel k hf _ hp
    obtain ⟨f, rfl⟩ : ∃ f, fuel = f + 1 := ⟨fuel - 1, by simp at hf; omega⟩
    obtain ⟨h0, hfull, hlast⟩ := hp 0 p rfl
    simp only [Nat.add_zero, List.length_cons] at h0 hfull hlast
    simp only [hostRead, h0, List.map_cons]
    cases p with
    | nil =>
      cases ps with
      | nil => rfl
      | cons _ _ => obtain ⟨e1, _⟩ := hfull (by simp); simp at e1; omega
    | cons b bs =>
      simp only [Response.ofPacket, List.isEmpty_cons, Bool.false_eq_true, if_false]
      cases ps with
      | nil => rw [if_pos (by simpa using hlast rfl)]; rfl
      | cons p' ps' =>
        obtain ⟨e1, e3⟩ := hfull (by simp)
        rw [if_neg (by rw [Nat.succ_mul] at e3; omega), e1, ← Nat.succ_mul]
        rw [ih f (k + 1) (by simpa using hf) (List.cons_ne_nil _ _) fun j q hj => by
          have := hp (j + 1) q hj
          simp only [List.length_cons] at this ⊢
          rw [show k + (j + 1) = k + 1 + j by omega] at this
          exact ⟨this.1, fun h => this.2.1 (by omega), fun h => this.2.2 (by omega)⟩]

theorem stage_specs (d : List Nat) (l mps : Nat) (hm : 0 < mps) :
    (∀ j, j < (dataStage d l mps).length → j * mps ≤ min l d.length ∧ j * mps < l)
    ∧ (List.range' 0 (dataStage d l mps).length).map (fun j => specResponse (some d) l mps (j * mps))
        = (dataStage d l mps).map Response.ofPacket := by
  refine ⟨fun j hj => ?_, List.ext_getElem? fun j => ?_⟩
  · obtain ⟨h1, h2, _⟩ := dataStage_get d l mps hm j _ (List.getElem?_eq_getElem hj)
    exact ⟨h1, h2⟩
  · rw [List.getElem?_map, List.getElem?_map]
    cases hj : (dataStage d l mps)[j]? with
    | none => rw [List.getElem?_eq_none (by simpa using (List.getElem?_eq_none_iff.mp hj))]; rfl
    | some p =>
      rw [List.getElem?_range' (List.getElem?_eq_some_iff.mp hj).1]
      simp only [Nat.zero_add, Nat.one_mul, Option.map_some, (dataStage_get d l mps hm j p hj).2.2.1]

end LunaVerif.Desc
