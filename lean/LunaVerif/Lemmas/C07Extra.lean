import LunaVerif.Lemmas.C07Mps
import LunaVerif.Lemmas.C07Closed
import LunaVerif.Model.Usb2.ControlCycX
/-!
# Additional request handlers behind the request multiplexer

The refinement theorems of Lemmas/C07Stream*.lean / C07Mps.lean are about the control endpoint with the
`StandardRequestHandler` as its only request handler (`c.extra = []`; `CtrlCyc.step`: one handler + the
`StallOnlyRequestHandler` fallback).  `CtrlCyc.stepX` (Model/Usb2/ControlCycX.lean, co-simulated against the real
`USBControlEndpoint` with 0-2 additional handlers) is the same cycle with ANY number of additional, ABSTRACT request
handlers: their interface outputs are inputs of the cycle.

* `muxN_spec` -- the multiplexer's rule: the shared outputs are the outputs of the ONLY claiming handler; if nobody
  claims, or more than one handler claims, they are the fallback's (`fallbackOut`: STALL while `data_requested` /
  `status_requested`, nothing else).  `nobody_claims_stalls`, `only_claimant_drives`, `conflict_stalls`.
* `stepX_state` -- the registers of the control endpoint and of the standard handler never depend on the additional
  handlers; `stepX_unclaimed` -- in a cycle in which no additional handler claims, the whole cycle is `step`.
* an abstract additional handler `k` claims a set of requests: `claim = P k (setup packet)` (`ClaimsBy`).  Along every
  event history whose latched SETUP packets are claimed by none of them (`UnclaimedFrom`), whatever else these handlers
  drive, the cycle-level run with them IS the run without them (`extra_handlers_invisible`), so
  `cycle_refines_event_streams_run_mps` holds of it (`cycle_refines_event_streams_run_extra`).
-/
namespace LunaVerif.CtrlCyc
open LunaVerif.Device

/-! ### The multiplexer -/

theorem all_not_claim_iff (hs : List HOut) : hs.all (fun x => !x.claim) = true ↔ hs.filter (·.claim) = [] := by
  simp [List.filter_eq_nil_iff]

/-- **The multiplexer's rule**: the outputs of the only claiming handler; the fallback's if nobody or more than one
handler claims. -/
theorem muxN_spec (hs : List HOut) (i : HIn) :
    muxN hs i = match hs.filter (·.claim) with
      | [h] => h
      | _ => fallbackOut i := by
  induction hs with
  | nil => rfl
  | cons h hs ih =>
    cases hc : h.claim
    · simp only [muxN, hc, Bool.false_eq_true, if_false, List.filter, ih]
    · simp only [muxN, hc, if_true, List.filter]
      cases hf : hs.filter (·.claim) with
      | nil => rw [(all_not_claim_iff hs).mpr hf]; rfl
      | cons y ys =>
        have : hs.all (fun x => !x.claim) = false := by
          cases ha : hs.all (fun x => !x.claim)
          · rfl
          · rw [(all_not_claim_iff hs).mp ha] at hf; cases hf
        rw [this]; rfl

theorem filter_claim_nil {xs : List HOut} (h : ∀ x ∈ xs, x.claim = false) : xs.filter (·.claim) = [] := by
  rw [List.filter_eq_nil_iff]; intro x hx; simp [h x hx]

theorem muxN_unclaimed_tail (o : HOut) (xs : List HOut) (i : HIn) (h : ∀ x ∈ xs, x.claim = false) :
    muxN (o :: xs) i = muxOut o i := by
  rw [muxN_spec, List.filter_cons, filter_claim_nil h, muxOut]
  cases o.claim <;> rfl

/-- Nobody claims: the fallback stalls exactly while the control endpoint polls, and drives nothing else. -/
theorem nobody_claims_stalls (hs : List HOut) (i : HIn) (h : ∀ x ∈ hs, x.claim = false) :
    muxN hs i = fallbackOut i ∧ (muxN hs i).stall = (i.dataRequested || i.statusRequested) ∧
    (muxN hs i).txValid = false ∧ (muxN hs i).ack = false ∧ (muxN hs i).addressChanged = false ∧
    (muxN hs i).configChanged = false := by
  have : muxN hs i = fallbackOut i := by rw [muxN_spec, filter_claim_nil h]
  rw [this]
  exact ⟨rfl, rfl, rfl, rfl, rfl, rfl⟩

theorem only_claimant_drives (a b : List HOut) (h : HOut) (i : HIn) (hc : h.claim = true)
    (ha : ∀ x ∈ a, x.claim = false) (hb : ∀ x ∈ b, x.claim = false) : muxN (a ++ h :: b) i = h := by
  rw [muxN_spec, List.filter_append, List.filter_cons, if_pos hc, filter_claim_nil ha, filter_claim_nil hb]
  rfl

/-- Two handlers claim the same request: the fallback answers (STALL while polled), none of them is heard. -/
theorem conflict_stalls (a b d : List HOut) (h1 h2 : HOut) (i : HIn) (c1 : h1.claim = true) (c2 : h2.claim = true) :
    muxN (a ++ h1 :: (b ++ h2 :: d)) i = fallbackOut i := by
  rw [muxN_spec, List.filter_append, List.filter_cons, if_pos c1, List.filter_append, List.filter_cons, if_pos c2]
  -- at least two claimants, wherever the others stand
  cases a.filter (·.claim) with
  | nil => cases b.filter (·.claim) <;> rfl
  | cons y ys => cases ys <;> rfl

/-! ### One cycle -/

theorem stepX_state (c : Cfg) (s : CycState) (i : CycIn) (xs : List HOut) : (stepX c s i xs).1 = (step c s i).1 := rfl

/-- `ctl`: what the control endpoint asks the handlers; `h`: the standard handler's own outputs. -/
theorem stepX_ctl (c : Cfg) (s : CycState) (i : CycIn) (xs : List HOut) :
    (stepX c s i xs).2.ctl = (step c s i).2.ctl ∧ (stepX c s i xs).2.h = (step c s i).2.h := ⟨rfl, rfl⟩

theorem stepX_unclaimed (c : Cfg) (s : CycState) (i : CycIn) (xs : List HOut) (h : ∀ x ∈ xs, x.claim = false) :
    stepX c s i xs = step c s i := by
  simp only [stepX, step, muxN_unclaimed_tail _ xs _ h]

theorem stepX_nil (c : Cfg) (s : CycState) (i : CycIn) : stepX c s i [] = step c s i :=
  stepX_unclaimed c s i [] (fun _ h => nomatch h)

/-- A non-standard request that exactly one additional handler claims: the interface outputs are that handler's
(with the setup decoder's / PING acknowledgements of the control endpoint on `ack`). -/
theorem stepX_extra_owner (c : Cfg) (s : CycState) (i : CycIn) (a b : List HOut) (x : HOut)
    (hty : i.su.type ≠ TYPE_STANDARD) (hc : x.claim = true)
    (ha : ∀ y ∈ a, y.claim = false) (hb : ∀ y ∈ b, y.claim = false) :
    let o := (stepX c s i (a ++ x :: b)).2
    o.stall = x.stall ∧ o.txValid = x.txValid ∧ o.txFirst = x.txFirst ∧ o.txLast = x.txLast ∧
    o.txPayload = x.txPayload ∧ o.txPidToggle = (if x.txDataPid then 1 else 0) ∧
    o.ack = (i.sdAck || x.ack || (ctrlComb c s.stage i).pingAck) ∧
    o.addressChanged = x.addressChanged ∧ o.newAddress = x.newAddress ∧
    o.configChanged = x.configChanged ∧ o.newConfig = x.newConfig := by
  have hstd : (stdStep c s.h (handlerIn i (ctrlComb c s.stage i))).2.claim = false :=
    (handler_frozen_when_not_standard c s i hty).2
  have hm : muxN ((stdStep c s.h (handlerIn i (ctrlComb c s.stage i))).2 :: (a ++ x :: b))
      (handlerIn i (ctrlComb c s.stage i)) = x := by
    have := only_claimant_drives ((stdStep c s.h (handlerIn i (ctrlComb c s.stage i))).2 :: a) b x
      (handlerIn i (ctrlComb c s.stage i)) hc
      (fun y hy => by
        rcases List.mem_cons.mp hy with rfl | hy
        · exact hstd
        · exact ha y hy) hb
    simpa using this
  simp [stepX, hm]

/-- A standard request that an additional handler claims too: the fallback stalls it when polled; nothing is
transmitted, no register strobe (the standard handler's registers still run: `stepX_state`). -/
theorem stepX_conflict (c : Cfg) (s : CycState) (i : CycIn) (a b : List HOut) (x : HOut)
    (hty : i.su.type = TYPE_STANDARD) (hc : x.claim = true) :
    let o := (stepX c s i (a ++ x :: b)).2
    o.stall = ((ctrlComb c s.stage i).dataRequested || (ctrlComb c s.stage i).statusRequested) ∧
    o.txValid = false ∧ o.addressChanged = false ∧ o.configChanged = false ∧ o.cehEnable = false := by
  have hstd : (stdStep c s.h (handlerIn i (ctrlComb c s.stage i))).2.claim = true := by
    have : (handlerIn i (ctrlComb c s.stage i)).su = i.su := rfl
    simp only [stdStep, this, hty, if_true, stdComb]
    cases s.h.hstate <;> simp [simpleDataOut, regWriteZlp]
  have hm := conflict_stalls [] a b (stdStep c s.h (handlerIn i (ctrlComb c s.stage i))).2 x
    (handlerIn i (ctrlComb c s.stage i)) hstd hc
  simp only [List.nil_append] at hm
  simp only [stepX, hm]
  exact ⟨rfl, rfl, rfl, rfl, rfl⟩

/-! ### Runs -/

def runX (c : Cfg) : CycState → List (CycIn × List HOut) → List (CycState × CycOut)
  | _, [] => []
  | s, (i, xs) :: rest => stepX c s i xs :: runX c (stepX c s i xs).1 rest

theorem runX_unclaimed (c : Cfg) (s : CycState) (ixs : List (CycIn × List HOut))
    (h : ∀ ix ∈ ixs, ∀ x ∈ ix.2, x.claim = false) : runX c s ixs = run c s (ixs.map (·.1)) := by
  induction ixs generalizing s with
  | nil => rfl
  | cons ix rest ih =>
    obtain ⟨i, xs⟩ := ix
    have h1 := stepX_unclaimed c s i xs (h (i, xs) (List.mem_cons_self ..))
    simp only [runX, List.map_cons, run, h1]
    rw [ih _ (fun ix hix => h ix (List.mem_cons_of_mem _ hix))]

/-- The additional handlers obey their claim contract in a cycle: handler `k` claims iff `P k` holds of the setup
packet the setup decoder shows in that cycle (a combinational function of the packet, as `claim` is in every LUNA
request handler). -/
def ClaimsBy (P : List (Setup → Bool)) (i : CycIn) (xs : List HOut) : Prop :=
  xs.map (·.claim) = P.map (fun p => p i.su)

def NoClaim (P : List (Setup → Bool)) (su : Setup) : Prop := ∀ p ∈ P, p su = false

theorem claims_false {P : List (Setup → Bool)} {i : CycIn} {xs : List HOut} (hc : ClaimsBy P i xs)
    (hn : NoClaim P i.su) : ∀ x ∈ xs, x.claim = false := by
  intro x hx
  have h1 : x.claim ∈ xs.map (·.claim) := List.mem_map_of_mem hx
  rw [hc] at h1
  obtain ⟨p, hp, he⟩ := List.mem_map.mp h1
  rw [← he]; exact hn p hp

/-! ### The cycles of an event show only the latched SETUP packets -/

theorem idleS_su (d : DevState) (ns : List CycIn) : ∀ i ∈ idleS d ns, i.su = d.setup := by
  intro i hi
  simp only [idleS, List.mem_map] at hi
  obtain ⟨n, _, rfl⟩ := hi
  rfl

theorem readySeg_su (c : DevConfig) (d1 : DevState) (g : GapsS) : ∀ i ∈ readySeg c d1 g, i.su = d1.setup := by
  intro i hi
  unfold readySeg at hi
  split at hi
  · simp only [List.mem_singleton] at hi; subst hi; rfl
  · simp only [List.mem_append, List.mem_singleton] at hi
    rcases hi with rfl | hi
    · rfl
    · unfold streamWindow at hi
      split at hi
      · obtain ⟨b, _, n, _, rfl⟩ := mem_streamSeg _ _ _ _ i hi
        cases ‹Bool› <;> rfl
      · simp at hi

theorem expandS_su (c : DevConfig) (d : DevState) (e : HostEvent) (g : GapsS) :
    ∀ i ∈ expandS c d e g, i.su = d.setup ∨ i.su = (core c d e).1.setup := by
  have hl : ∀ (dd : DevState) (ns : List CycIn), dd.setup = d.setup →
      ∀ i ∈ idleS dd ns, i.su = d.setup ∨ i.su = (core c d e).1.setup :=
    fun dd ns h i hi => Or.inl ((idleS_su dd ns i hi).trans h)
  have hr : ∀ ns : List CycIn, ∀ i ∈ idleS (core c d e).1 ns, i.su = d.setup ∨ i.su = (core c d e).1.setup :=
    fun ns i hi => Or.inr (idleS_su _ ns i hi)
  cases e with
  | token pid addr ep =>
    simp only [expandS]
    split
    · simp only [List.forall_mem_append, List.forall_mem_singleton]
      exact ⟨hl d _ rfl, Or.inl rfl, hl _ _ rfl, fun i hi => Or.inl (readySeg_su c (afterToken d pid ep) g i hi), hr _⟩
    · simp only [List.forall_mem_append]
      exact ⟨hl d _ rfl, hr _⟩
  | data dp p ok =>
    simp only [expandS]
    split
    · split
      · rename_i hok hacc
        subst hok
        have hd' : parseSetup p = (core c d (.data dp p true)).1.setup := by
          have : core c d (.data dp p true) = onSetupData d p := by
            simp [core, onData, hacc.1, hacc.2.1, hacc.2.2]
          rw [this]; unfold onSetupData; simp only []; split <;> rfl
        simp only [List.forall_mem_append, List.forall_mem_singleton]
        exact ⟨hl d _ rfl, Or.inr hd', hr _, Or.inr rfl, hr _, Or.inr rfl, hr _⟩
      · simp only [List.forall_mem_append, List.forall_mem_singleton]
        exact ⟨hl d _ rfl, Or.inl rfl, hr _⟩
    · simp only [List.forall_mem_append]
      exact ⟨hl d _ rfl, hr _⟩
  | handshake pid =>
    simp only [expandS]
    split
    · simp only [List.forall_mem_append, List.forall_mem_singleton]
      exact ⟨hl d _ rfl, Or.inl rfl, hr _⟩
    · simp only [List.forall_mem_append]
      exact ⟨hl d _ rfl, hr _⟩
  | _ =>
    simp only [expandS, List.forall_mem_append]
    exact ⟨hl d _ rfl, hr _⟩

theorem expandRM_su (c : DevConfig) (d : DevState) (x : Stim) (g : GapsS) :
    ∀ ri ∈ expandRM c d x.ev g, ri.2.su = d.setup ∨ ri.2.su = (stepM c d x).1.setup := by
  intro ri hri
  obtain ⟨r, i⟩ := ri
  have hi : i ∈ (expandR c d x.ev g).map (·.2) := by
    rw [← expandRM_eq]; exact List.mem_map_of_mem (f := (·.2)) hri
  rw [show (stepM c d x).1.setup = (core c d x.ev).1.setup from (coreM_regs c d x.ev).setup]
  rw [expandR_snd] at hi
  split at hi
  · -- a bus reset: idle cycles, all showing the latched packet
    simp only [List.mem_append, List.mem_cons] at hi
    rcases hi with h | rfl | h | h
    · exact Or.inl (idleS_su _ _ _ h)
    · exact Or.inl rfl
    · exact Or.inl (idleS_su _ _ _ h :)
    · exact Or.inl (idleS_su _ _ _ h :)
  · exact expandS_su c d x.ev g _ hi

/-! ### Histories -/

/-- No SETUP packet latched along the history (start state included) is claimed by an additional handler. -/
def UnclaimedFrom (P : List (Setup → Bool)) (c : DevConfig) : DevState → List Stim → Prop
  | d, [] => NoClaim P d.setup
  | d, x :: xs => NoClaim P d.setup ∧ UnclaimedFrom P c (stepM c d x).1 xs

theorem UnclaimedFrom.head {P : List (Setup → Bool)} {c : DevConfig} {d : DevState} {h : List Stim}
    (hu : UnclaimedFrom P c d h) : NoClaim P d.setup := by
  cases h with
  | nil => exact hu
  | cons x xs => exact hu.1

theorem expandAllRM_su (P : List (Setup → Bool)) (c : DevConfig) (h : List (Stim × GapsS)) :
    ∀ d, UnclaimedFrom P c d (h.map (·.1)) → ∀ ri ∈ expandAllRM c d h, NoClaim P ri.2.su := by
  induction h with
  | nil => intro d _ ri hri; simp [expandAllRM] at hri
  | cons xg rest ih =>
    intro d hu ri hri
    obtain ⟨x, g⟩ := xg
    simp only [List.map_cons, UnclaimedFrom] at hu
    simp only [expandAllRM, List.mem_append] at hri
    rcases hri with hri | hri
    · rcases expandRM_su c d x g ri hri with e | e
      · rw [e]; exact hu.1
      · rw [e]; exact hu.2.head
    · exact ih _ hu.2 ri hri

/-- **Additional request handlers are invisible on the requests they do not claim.**  `P k` = the set of SETUP
packets the `k`-th additional handler claims (its `claim` output is `P k` of the packet the setup decoder shows);
everything else these handlers drive is arbitrary.  Along EVERY event history none of whose latched SETUP packets is
claimed by them, and for every expansion into clock cycles, the cycle-level run of the control endpoint WITH the
additional handlers behind its multiplexer is, state by state and output by output, the run without them. -/
theorem extra_handlers_invisible (P : List (Setup → Bool)) (c : DevConfig) (h : List (Stim × GapsS)) (d : DevState)
    (hu : UnclaimedFrom P c d (h.map (·.1))) (ext : List (List HOut))
    (hlen : ext.length = (expandAllRM c d h).length)
    (hcl : ∀ ix ∈ ((expandAllRM c d h).map (·.2)).zip ext, ClaimsBy P ix.1 ix.2) (cs : CycState) :
    runX (cfgOf c) cs (((expandAllRM c d h).map (·.2)).zip ext) = run (cfgOf c) cs ((expandAllRM c d h).map (·.2)) := by
  have hmap : (((expandAllRM c d h).map (·.2)).zip ext).map (·.1) = (expandAllRM c d h).map (·.2) := by
    apply List.map_fst_zip
    rw [List.length_map, hlen]; exact Nat.le_refl _
  rw [runX_unclaimed, hmap]
  intro ix hix
  have h1 : ix.1 ∈ (expandAllRM c d h).map (·.2) := by
    have := List.mem_map_of_mem (f := (·.1)) hix
    rw [hmap] at this; exact this
  obtain ⟨ri, hri, he⟩ := List.mem_map.mp h1
  have hn : NoClaim P ix.1.su := by rw [← he]; exact expandAllRM_su P c h d hu ri hri
  exact claims_false (hcl ix hix) hn

/-- **`cycle_refines_event_streams_run_mps` with additional request handlers.**  The device has any number of
additional, abstract request handlers behind its request multiplexer (`stepX`); handler `k` claims the SETUP packets
in `P k` and drives whatever it likes.  For every `max_packet_size` and along every event history of requests that none
of them claims (`UnclaimedFrom`; the standard handler claims the standard ones, the fallback stalls the others), the
run with the additional handlers is the run without them, and that run refines the event-level model `stepM` of the
device whose only request handler is the standard one (`c.extra = []`): final states related, the bus responses the
event-level ones, device.py's registers the event-level values. -/
theorem cycle_refines_event_streams_run_extra (P : List (Setup → Bool)) (c : DevConfig) (hx : c.extra = [])
    (h : List (Stim × GapsS)) (d : DevState) (hinv : Inv d) (hcfg : d.config < 256) (hfit : FitsFromM c d h = true)
    (hu : UnclaimedFrom P c d (h.map (·.1))) (ext : List (List HOut))
    (hlen : ext.length = (expandAllRM c d h).length)
    (hcl : ∀ ix ∈ ((expandAllRM c d h).map (·.2)).zip ext, ClaimsBy P ix.1 ix.2)
    (cs : CycState) (hr : Rel d cs) :
    runX (cfgOf c) cs (((expandAllRM c d h).map (·.2)).zip ext) = run (cfgOf c) cs ((expandAllRM c d h).map (·.2)) ∧
    Rel (finalM c d (h.map (·.1))) (final (cfgOf c) cs ((expandAllRM c d h).map (·.2))) ∧
    busRespsM c d cs h = coreRespsM c d (h.map (·.1)) ∧
    regsAfterR (d.address, d.config) (outsR (cfgOf c) cs (expandAllRM c d h)) =
      ((finalM c d (h.map (·.1))).address, (finalM c d (h.map (·.1))).config) :=
  ⟨extra_handlers_invisible P c h d hu ext hlen hcl cs, cycle_refines_event_streams_run_mps c hx h d hinv hcfg hfit cs hr⟩

/-! ### Non-vacuity -/

instance (P : List (Setup → Bool)) (su : Setup) : Decidable (NoClaim P su) := by unfold NoClaim; infer_instance

def UnclaimedFrom.dec (P : List (Setup → Bool)) (c : DevConfig) :
    (d : DevState) → (h : List Stim) → Decidable (UnclaimedFrom P c d h)
  | d, [] => inferInstanceAs (Decidable (NoClaim P d.setup))
  | d, x :: xs =>
    have := UnclaimedFrom.dec P c (stepM c d x).1 xs
    inferInstanceAs (Decidable (NoClaim P d.setup ∧ UnclaimedFrom P c (stepM c d x).1 xs))

instance (P : List (Setup → Bool)) (c : DevConfig) (d : DevState) (h : List Stim) : Decidable (UnclaimedFrom P c d h) :=
  UnclaimedFrom.dec P c d h

/-- a vendor-request handler (type 2, request 0x20) and a class-request handler (type 1, request 0x22) -/
def exP : List (Setup → Bool) :=
  [fun su => su.type == 2 && su.request == 0x20, fun su => su.type == 1 && su.request == 0x22]

/-- GET_STATUS, then a standard request with an unsupported code, from reset. -/
def exHistoryX : List Stim :=
  [⟨.token PID_SETUP 0 0, .none⟩, ⟨.data PID_DATA0 [0x80, 0, 0, 0, 0, 0, 2, 0] true, .none⟩, ⟨.token PID_IN 0 0, .none⟩,
   ⟨.handshake PID_ACK, .none⟩, ⟨.token PID_SETUP 0 0, .none⟩, ⟨.data PID_DATA0 [0x00, 0x20, 0, 0, 0, 0, 0, 0] true, .none⟩,
   ⟨.token PID_IN 0 0, .none⟩]

example : UnclaimedFrom exP {} Device.init exHistoryX := by decide
-- the vendor request itself IS claimed (by the first handler only)
example : ¬ NoClaim exP (parseSetup [0x40, 0x20, 0, 0, 0, 0, 0, 0]) := by decide

/-- additional handlers that obey the claim contract `P` and otherwise drive as much as they can (STALL, a data byte,
both register strobes) in every cycle. -/
def noisyExt (P : List (Setup → Bool)) (is : List CycIn) : List (List HOut) :=
  is.map (fun i => P.map (fun p => { claim := p i.su, stall := true, txValid := true, txFirst := true, txPayload := 0xEE,
                                     addressChanged := true, newAddress := 0x55, configChanged := true, newConfig := 0x77 }))

/-- `noisyExt P` obeys the claim contract on every cycle list: `hcl` of `cycle_refines_event_streams_run_extra`. -/
theorem noisyExt_claims (P : List (Setup → Bool)) (is : List CycIn) : ∀ ix ∈ is.zip (noisyExt P is), ClaimsBy P ix.1 ix.2 := by
  induction is with
  | nil => intro ix hix; simp [noisyExt] at hix
  | cons i is ih =>
    intro ix hix
    simp only [noisyExt, List.map_cons, List.zip_cons_cons, List.mem_cons] at hix
    rcases hix with rfl | hix
    · simp [ClaimsBy, Function.comp_def]
    · exact ih ix hix

def exGapsX : GapsS := { pre := [{}], mid := [{}], post := [{}], stream := [{}, { txReady := true }, { txReady := true }, {}] }
def exHistoryXG : List (Stim × GapsS) := exHistoryX.map (fun x => (x, exGapsX))

-- `hu`, `hfit` and `hlen` of `cycle_refines_event_streams_run_extra` for these handlers (`hcl` is `noisyExt_claims`), and its
-- first conclusion evaluated
example : UnclaimedFrom exP {} Device.init (exHistoryXG.map (·.1)) := by decide +kernel
example : FitsFromM {} Device.init exHistoryXG = true := by decide +kernel
example : (noisyExt exP ((expandAllRM {} Device.init exHistoryXG).map (·.2))).length =
    (expandAllRM {} Device.init exHistoryXG).length := by simp [noisyExt]
example : runX (cfgOf {}) CtrlCyc.init (((expandAllRM {} Device.init exHistoryXG).map (·.2)).zip
      (noisyExt exP ((expandAllRM {} Device.init exHistoryXG).map (·.2)))) =
    run (cfgOf {}) CtrlCyc.init ((expandAllRM {} Device.init exHistoryXG).map (·.2)) := by decide +kernel
-- (GET_STATUS is answered [0, 0]; the unsupported standard request is STALLed by the standard handler itself)
example : busRespsM {} Device.init CtrlCyc.init exHistoryXG =
    [.none, .hs PID_ACK, .data PID_DATA1 [0, 0], .none, .none, .hs PID_ACK, .hs PID_STALL] := by decide +kernel

-- the multiplexer on concrete outputs: one claimant drives, two claimants / nobody -> the fallback's STALL while polled
def exZlp : HOut := { claim := true, txValid := true, txLast := true }
example : muxN [{}, exZlp, {}] { statusRequested := true } = exZlp := by decide
example : (muxN [{}, exZlp, exZlp] { statusRequested := true }).stall = true ∧
    (muxN [{}, exZlp, exZlp] { statusRequested := true }).txValid = false := by decide
example : (muxN [{}, {}, {}] { dataRequested := true }).stall = true := by decide
-- the status stage of the vendor request on the control endpoint: the additional handler's ZLP reaches the interface
example : ((stepX {} { stage := .statusIn } { isIn := true, readyForResponse := true, su := { type := 2, request := 0x20 } }
    [exZlp, {}]).2.txValid, (stepX {} { stage := .statusIn }
      { isIn := true, readyForResponse := true, su := { type := 2, request := 0x20 } } [exZlp, {}]).2.txLast,
    (stepX {} { stage := .statusIn } { isIn := true, readyForResponse := true, su := { type := 2, request := 0x20 } }
      [exZlp, {}]).2.stall) = (true, true, false) := by decide
-- a standard request (GET_STATUS, handler in GET_STATUS) that an additional handler claims too: STALL
example : (stepX {} { stage := .dataIn, h := { hstate := .getStatus } }
    { isIn := true, readyForResponse := true, su := { type := 0, request := 0 } } [exZlp]).2.stall = true := by decide

end LunaVerif.CtrlCyc
