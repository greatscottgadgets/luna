import LunaVerif.Lemmas.C06Exact
/-!
# C06 — all legal histories: `setup_reported_iff`, `ack_once_after_gap`, `earlier_garbage_is_harmless`

`packet_trace` is `packet_exact` without the cycle numbers; `history_exact` lifts it to lists of packets by
induction.  `after_history` is the situation "any legal history from reset, then one more packet `p`": the state
reached stands for `specFinal` of the history (`history_exact`), and `specStep` reports `p` iff
`armedAfter ∧ isSetupData` (`spec_report_iff`); `setup_reported_iff` reads it off through `packet_trace`,
`ack_once_after_gap` through `packet_exact`.  One valid SETUP transaction (`setup_transaction_exact`, and from it
`earlier_garbage_is_harmless`, `setup_fields_exact`) is `packet_trace` twice: the token packet arms the packet-level
automaton, the data packet is reported.
-/
namespace LunaVerif.SetupDecoder
open LunaVerif.Utmi LunaVerif.DataCrc LunaVerif.Crc

/-- the simple form of the environment assumptions on a history of packets: every packet is well formed, followed by
the gap `gapOk` asks for, and ALL its bytes are 8-bit values (`LegalFrom` is what the theorems need; `legal_legalFrom`) -/
def Legal (c : Config) (ps : List RxPacket) : Prop :=
  ∀ p ∈ ps, p.wf ∧ gapOk c p ∧ ∀ b ∈ p.bytes, b < 256

def specFinal (addr : Nat) : Abs → List (List Nat) → Abs
  | a, [] => a
  | a, b :: bs => specFinal addr (specStep addr a b).1 bs

def specReports (addr : Nat) : Abs → List (List Nat) → List Event
  | _, [] => []
  | a, b :: bs => (specStep addr a b).2.toList ++ specReports addr (specStep addr a b).1 bs

/-- The environment assumptions in their precise form, along the packet-level run from the abstract
state `a`: every packet is well formed with 8-bit bytes; a packet that starts with a data PID is
followed by at least 2 idle cycles; a data packet that IS REPORTED (and will be ACKed) is followed by
the handshake gap of at least `delay + 3` idle cycles. -/
def LegalFrom (c : Config) : Abs → List RxPacket → Prop
  | _, [] => True
  | a, p :: ps =>
    p.wf ∧ (∀ b ∈ p.bytes, b < 256) ∧
    ((∃ pid rest, p.bytes = pid :: rest ∧ isDataPid pid = true) → 2 ≤ p.gap.length) ∧
    ((specStep c.addr a p.bytes).2 ≠ none → c.delay + 3 ≤ p.gap.length) ∧
    LegalFrom c (specStep c.addr a p.bytes).1 ps

theorem legalFrom_append (c : Config) (a : Abs) (h1 h2 : List RxPacket) :
    LegalFrom c a (h1 ++ h2) ↔
      LegalFrom c a h1 ∧ LegalFrom c (specFinal c.addr a (h1.map (·.bytes))) h2 := by
  induction h1 generalizing a with
  | nil => simp [LegalFrom, specFinal]
  | cons p ps ih => simp [LegalFrom, specFinal, ih, and_assoc]

/-- the simple sufficient condition: the handshake gap after EVERY packet that starts with a data PID -/
theorem legal_legalFrom (c : Config) (ps : List RxPacket) (a : Abs) (h : Legal c ps) : LegalFrom c a ps := by
  induction ps generalizing a with
  | nil => trivial
  | cons p ps ih =>
    obtain ⟨hw, hg, hb⟩ := h p (by simp)
    refine ⟨hw, hb, fun hd => by have := hg hd; omega, fun hr => hg ?_, ih _ (fun q hq => h q (by simp [hq]))⟩
    -- only a deserializer strobe is reported, and that needs a data PID
    rw [specStep_eq] at hr
    split at hr
    · rename_i hn
      obtain ⟨pid, rest, e, hp, _⟩ := dsNew_data hn
      exact ⟨pid, rest, e, hp⟩
    · exact absurd rfl hr

theorem specFinal_append (addr : Nat) (a : Abs) (h1 h2 : List (List Nat)) :
    specFinal addr a (h1 ++ h2) = specFinal addr (specFinal addr a h1) h2 := by
  induction h1 generalizing a with
  | nil => rfl
  | cons b bs ih => simp [specFinal, ih]

theorem receivedOnly_append (a b : List Event) : receivedOnly (a ++ b) = receivedOnly a ++ receivedOnly b := by
  induction a with
  | nil => rfl
  | cons e es ih => cases e <;> simp [receivedOnly, ih]

theorem ackCount_append (a b : List Event) : ackCount (a ++ b) = ackCount a + ackCount b := by
  induction a with
  | nil => simp [ackCount]
  | cons e es ih => cases e <;> simp [ackCount, ih] <;> omega

theorem spec_out_cases (addr : Nat) (a : Abs) (b : List Nat) :
    (specStep addr a b).2 = none ∨ ∃ q, (specStep addr a b).2 = some (report q) := by
  rw [specStep_eq]
  split
  · split
    · exact .inr ⟨_, rfl⟩
    · exact .inl rfl
  · exact .inl rfl

theorem bytes_after_pid {bytes : List Nat} (hb : ∀ b ∈ bytes, b < 256) (pid : Nat) (rest : List Nat)
    (e : bytes = pid :: rest) (_ : isDataPid pid = true) : ∀ b ∈ rest, b < 256 :=
  fun b h => hb b (e ▸ List.mem_cons_of_mem pid h)

/-- `packet_exact` without the cycle numbers -/
theorem packet_trace (c : Config) (hc : c.delay ≤ c.counterMax + 1) (p : RxPacket) (s : State) (a : Abs)
    (hs : At s a) (hw : p.wf)
    (hb : ∀ pid rest, p.bytes = pid :: rest → isDataPid pid = true → ∀ b ∈ rest, b < 256)
    (hg2 : (∃ pid rest, p.bytes = pid :: rest ∧ isDataPid pid = true) → 2 ≤ p.gap.length)
    (hg3 : (specStep c.addr a p.bytes).2 ≠ none → c.delay + 3 ≤ p.gap.length) :
    At (final c s (render p)) (specStep c.addr a p.bytes).1 ∧
    ((specStep c.addr a p.bytes).2 = none → trace c s (render p) = []) ∧
    (∀ e, (specStep c.addr a p.bytes).2 = some e →
      (trace c s (render p) = [e, .ack] ∨ trace c s (render p) = [.ack, e]) ∧
      (c.hs = true → trace c s (render p) = [.ack, e])) := by
  obtain ⟨h1, h3, _⟩ := packet_exact c hc p s a hs hw hb hg2 hg3 0
  -- the trace is the cycle-indexed expectation with the cycle numbers dropped
  have h4 := ttrace_snd c s (render p) 0
  rw [h3] at h4
  refine ⟨h1, fun hn => by rw [← h4, hn]; rfl, fun e he => ?_⟩
  rw [← h4, he]
  cases hi : ((strobeState c s p).counter == c.delay || c.hs) with
  | true => exact ⟨.inr rfl, fun _ => rfl⟩
  | false => exact ⟨.inl rfl, fun h => by rw [(Bool.or_eq_false_iff.mp hi).2] at h; cases h⟩

/-- **Every legal history, exactly** (from any packet boundary; `LegalFrom`: 2 idle cycles after a
data-PID packet, the handshake gap after a reported one): the composition ends at a packet
boundary in the abstract state the packet-level automaton computes, the reports it made are
exactly that automaton's, in order, and there are exactly as many ACKs as reports. -/
theorem history_exact (c : Config) (hc : c.delay ≤ c.counterMax + 1) (ps : List RxPacket) (s : State) (a : Abs)
    (hs : At s a) (hl : LegalFrom c a ps) :
    At (final c s (renderAll ps)) (specFinal c.addr a (ps.map (·.bytes))) ∧
    receivedOnly (trace c s (renderAll ps)) = specReports c.addr a (ps.map (·.bytes)) ∧
    ackCount (trace c s (renderAll ps)) = (specReports c.addr a (ps.map (·.bytes))).length := by
  induction ps generalizing s a with
  | nil => exact ⟨hs, rfl, rfl⟩
  | cons p ps ih =>
    obtain ⟨hw, hb, hg2, hg3, hrest⟩ := hl
    obtain ⟨b1, t1, t2⟩ := packet_trace c hc p s a hs hw (bytes_after_pid hb) hg2 hg3
    obtain ⟨i1, i3, i4⟩ := ih _ _ b1 hrest
    have hp : receivedOnly (trace c s (render p)) = (specStep c.addr a p.bytes).2.toList ∧
        ackCount (trace c s (render p)) = (specStep c.addr a p.bytes).2.toList.length := by
      rcases spec_out_cases c.addr a p.bytes with hn | ⟨q, hq⟩
      · rw [t1 hn, hn]; exact ⟨rfl, rfl⟩
      · rcases (t2 _ hq).1 with h | h <;> rw [h, hq] <;> simp [receivedOnly, ackCount, report]
    have er : renderAll (p :: ps) = render p ++ renderAll ps := by simp [renderAll]
    rw [er, final_append, trace_append, receivedOnly_append, ackCount_append, i3, i4, hp.1, hp.2]
    exact ⟨i1, rfl, by simp [specReports]⟩

/-- a data packet (any data PID) with exactly 8 payload bytes and their CRC16 -/
def isSetupData (bytes : List Nat) : Bool :=
  match bytes with
  | [] => false
  | dpid :: bs => isDataPid dpid && (bs.length == 10 && (usb2Crc16 (bs.take 8) == pk bs 8 + 256 * pk bs 9))

/-- with 10 bytes after the PID nothing stale is involved: the deserializer strobes iff the CRC16
of the first 8 is the last two -/
theorem strobes_len10 (st : Stale) (bs : List Nat) (h10 : bs.length = 10) (hb : ∀ b ∈ bs, b < 256) :
    dsStrobes st bs = (usb2Crc16 (bs.take 8) == pk bs 8 + 256 * pk bs 9) := by
  match bs, h10 with
  | [x0, x1, x2, x3, x4, x5, x6, x7, x8, x9], _ =>
    have := captureRegs_fresh st [x0, x1, x2, x3, x4, x5, x6, x7] x8 x9 (hb x8 (by simp))
    simp only [List.cons_append, List.nil_append] at this
    simp [dsStrobes, this, pk]

theorem spec_report_iff (addr : Nat) (a : Abs) (bytes : List Nat) (hb : ∀ b ∈ bytes.tail, b < 256) :
    (specStep addr a bytes).2 = if a.armed && isSetupData bytes then some (report bytes.tail) else none := by
  match bytes with
  | [] => simp [specStep, isSetupData]
  | b0 :: bs =>
    by_cases hp : isDataPid b0 = true
    · by_cases h10 : bs.length = 10
      · have hs := strobes_len10 a.st bs h10 hb
        simp only [specStep, hp, if_true, hs, isSetupData, h10, beq_self_eq_true, Bool.true_and, List.tail_cons,
          report_take, Bool.and_true]
        cases (usb2Crc16 (bs.take 8) == pk bs 8 + 256 * pk bs 9) <;> cases a.armed <;> simp
      · have : (bs.length == 10) = false := by simpa using h10
        simp only [specStep, hp, if_true, isSetupData, this, Bool.and_false, Bool.false_and]
        split <;> simp
    · have hp' : isDataPid b0 = false := by simpa using hp
      simp [specStep, isSetupData, hp']

def absInit : Abs := ⟨false, ⟨0, 0, 0⟩⟩

theorem absOf_init : absOf init = absInit := by decide

/-- **armed**, at the packet level, after a history of packets from reset: a SETUP token for this
device is the last (non-SOF) token seen, and no data packet since made the deserializer strobe. -/
def armedAfter (addr : Nat) (hist : List (List Nat)) : Bool := (specFinal addr absInit hist).armed

theorem after_history (c : Config) (hc : c.delay ≤ c.counterMax + 1) (pre : List RxPacket) (p : RxPacket)
    (hl : LegalFrom c absInit (pre ++ [p])) :
    At (final c init (renderAll pre)) (specFinal c.addr absInit (pre.map (·.bytes))) ∧ p.wf ∧
    (∀ b ∈ p.bytes, b < 256) ∧ ((∃ pid rest, p.bytes = pid :: rest ∧ isDataPid pid = true) → 2 ≤ p.gap.length) ∧
    ((specStep c.addr (specFinal c.addr absInit (pre.map (·.bytes))) p.bytes).2 ≠ none → c.delay + 3 ≤ p.gap.length) ∧
    (specStep c.addr (specFinal c.addr absInit (pre.map (·.bytes))) p.bytes).2 =
      if armedAfter c.addr (pre.map (·.bytes)) && isSetupData p.bytes then some (report p.bytes.tail) else none := by
  obtain ⟨hl1, hw, hb, hg2, hg3, _⟩ := (legalFrom_append c absInit pre [p]).1 hl
  exact ⟨(history_exact c hc pre init absInit ⟨boundary_init, absOf_init⟩ hl1).1, hw, hb, hg2, hg3,
    spec_report_iff c.addr _ p.bytes (fun b h => hb b (List.mem_of_mem_tail h))⟩

/-- **C06 — setup_reported_iff, over ALL legal histories.**  After any legal history `pre` from
reset, the next packet `p` (any packet) makes the decoder report a SETUP request **iff** the decoder
is armed — packet-level `armedAfter` — and `p` is a data packet with exactly 8 payload bytes and a
correct CRC16.  In that case exactly one report with the little-endian decoded fields and exactly
one ACK happen (in either order, ACK first at high speed; `ack_once_after_gap` has the cycles);
otherwise nothing at all happens during `p`. -/
theorem setup_reported_iff (c : Config) (hc : c.delay ≤ c.counterMax + 1) (pre : List RxPacket) (p : RxPacket)
    (hl : LegalFrom c absInit (pre ++ [p])) :
    (armedAfter c.addr (pre.map (·.bytes)) = true ∧ isSetupData p.bytes = true →
      (trace c (final c init (renderAll pre)) (render p) = [report p.bytes.tail, .ack] ∨
       trace c (final c init (renderAll pre)) (render p) = [.ack, report p.bytes.tail]) ∧
      (c.hs = true → trace c (final c init (renderAll pre)) (render p) = [.ack, report p.bytes.tail])) ∧
    (¬ (armedAfter c.addr (pre.map (·.bytes)) = true ∧ isSetupData p.bytes = true) →
      trace c (final c init (renderAll pre)) (render p) = []) := by
  obtain ⟨b1, hw, hb, hg2, hg3, hsp⟩ := after_history c hc pre p hl
  obtain ⟨_, t1, t2⟩ := packet_trace c hc p _ _ b1 hw (bytes_after_pid hb) hg2 hg3
  constructor
  · intro ⟨ha, hd⟩
    rw [ha, hd] at hsp
    exact t2 _ hsp
  · intro hn
    rw [Bool.eq_false_iff.2 fun h => hn ((Bool.and_eq_true _ _).mp h)] at hsp
    exact t1 hsp

theorem renderSlots_length_ge (sl : List (Nat × List Nat)) : sl.length ≤ (renderSlots sl).length := by
  induction sl with
  | nil => simp [renderSlots]
  | cons x rest ih => obtain ⟨b, w⟩ := x; simp [renderSlots]; omega

/-- **C06 — ack_once_after_gap.**  After any legal history from reset, with cycle numbers: a
packet `p` that is reported (see `setup_reported_iff`) causes the report in cycle `n` — the cycle
in which the deserializer's strobe is seen, the second idle cycle after the packet — and exactly
one ACK request: in cycle `n` itself at high speed (or if the timer's `tx_allowed` happens to be
up in cycle `n`), otherwise exactly `delay + 1` cycles later, when the timer restarted by the
strobe reaches the inter-packet delay.  Any other packet causes no ACK.  And the timer cannot be
at `delay` in cycle `n` if `delay < 13` and `delay ≤ counter_max` (a SETUP data packet keeps the line
busy for 13 cycles). -/
theorem ack_once_after_gap (c : Config) (hc : c.delay ≤ c.counterMax + 1) (pre : List RxPacket) (p : RxPacket)
    (hl : LegalFrom c absInit (pre ++ [p])) (t : Nat) :
    ttrace c (final c init (renderAll pre)) (render p) t =
      (if armedAfter c.addr (pre.map (·.bytes)) && isSetupData p.bytes then
        (if (strobeState c (final c init (renderAll pre)) p).counter == c.delay || c.hs then
          [(t + strobeIndex p, .ack), (t + strobeIndex p, report p.bytes.tail)]
         else [(t + strobeIndex p, report p.bytes.tail), (t + strobeIndex p + c.delay + 1, .ack)])
       else []) ∧
    (isSetupData p.bytes = true → c.delay < 13 → c.delay ≤ c.counterMax →
      ((strobeState c (final c init (renderAll pre)) p).counter == c.delay) = false) := by
  obtain ⟨b1, hw, hb, hg2, hg3, hsp⟩ := after_history c hc pre p hl
  obtain ⟨_, h3, h4⟩ := packet_exact c hc p _ _ b1 hw (bytes_after_pid hb) hg2 hg3 t
  constructor
  · rw [h3, hsp]
    split <;> simp [expectT]
  · intro hd h13 hmax
    have hlen : 13 ≤ strobeIndex p := by
      obtain ⟨lead, slots, gap⟩ := p
      have hl1 : 1 ≤ lead.length := by
        have := hw.1
        cases lead with
        | nil => exact absurd rfl this
        | cons _ _ => simp
      have hsl : slots.length = 11 := by
        simp only [RxPacket.bytes] at hd
        match slots, hd with
        | x :: rest, hd =>
          simp only [List.map_cons, isSetupData, Bool.and_eq_true, beq_iff_eq, List.length_map] at hd
          simp [hd.2.1]
      have := renderSlots_length_ge slots
      simp only [strobeIndex]; omega
    simp only [beq_eq_false_iff_ne, ne_eq]
    omega

/-! ## What `armedAfter` means: two readings -/

theorem armedAfter_snoc (addr : Nat) (hist : List (List Nat)) (b : List Nat) :
    armedAfter addr (hist ++ [b]) = (specStep addr (specFinal addr absInit hist) b).1.armed := by
  simp [armedAfter, specFinal_append, specFinal]

theorem specStep_setup_token (addr : Nat) (a : Abs) (tp b1 b2 : Nat) (h : IsSetupTokenFor addr tp b1 b2) :
    specStep addr a [tp, b1, b2] = (⟨true, a.st⟩, none) := by
  obtain ⟨t1, t2, t3, t4⟩ := h
  simp [specStep, token_pid_not_data tp t1, tokArmed, tokenOf, t1, t2, t3, t4, SETUP_PID, SOF_PID]

/-- directly after a SETUP token for this device the decoder is armed, whatever came before
(this is `earlier_garbage_is_harmless` again, at the packet level) -/
theorem armed_after_setup_token (addr : Nat) (hist : List (List Nat)) (tp b1 b2 : Nat)
    (h : IsSetupTokenFor addr tp b1 b2) : armedAfter addr (hist ++ [[tp, b1, b2]]) = true := by
  rw [armedAfter_snoc, specStep_setup_token addr _ tp b1 b2 h]

theorem tokArmed_false (addr : Nat) (b : List Nat)
    (hb : ∀ d11, tokenOf b = some (SETUP_PID, d11) → d11 % 128 ≠ addr) : tokArmed addr false b = false := by
  unfold tokArmed
  split
  · rename_i p4 d11 heq
    split
    · rfl
    · split
      · rename_i hadr
        by_cases hp : p4 = SETUP_PID
        · subst hp; exact absurd hadr (hb d11 heq)
        · simpa using hp
      · rfl
  · rfl

theorem not_armed_without_setup_token (addr : Nat) (hist : List (List Nat))
    (h : ∀ b ∈ hist, ∀ d11, tokenOf b = some (SETUP_PID, d11) → d11 % 128 ≠ addr) :
    armedAfter addr hist = false := by
  suffices hgen : ∀ a : Abs, a.armed = false → (specFinal addr a hist).armed = false from hgen absInit rfl
  induction hist with
  | nil => intro a ha; exact ha
  | cons b bs ih =>
    intro a ha
    refine ih (fun x hx => h x (by simp [hx])) _ ?_
    -- a deserializer strobe disarms; otherwise only a SETUP token of ours arms
    rw [specStep_eq, ha]
    split
    · rfl
    · exact tokArmed_false addr b (h b (by simp))

/-- **One valid SETUP transaction from any packet boundary.**  A SETUP token for this device
followed (after ≥ 1 idle cycle) by a data packet with exactly 8 payload bytes and a matching
CRC16 — any wait cycles anywhere, 8-bit bytes in the data packet (`h8`), the handshake gap of delay + 3 idle
cycles after it (`hgap`) — makes the decoder strobe `received` exactly once with the little-endian decoded fields
and raise `ack` exactly once, in either order (`ack` first at high speed; the cycle numbers are
`ack_once_after_gap`'s), and leaves a packet boundary behind. -/
theorem setup_transaction_exact (c : Config) (hc : c.delay ≤ c.counterMax + 1) (s : State) (hs : Boundary s)
    (tl tgap dl dgap w0 w1 w2 v0 : List Nat) (tp b1 b2 dpid p0 p1 p2 p3 p4 p5 p6 p7 lo hi : Nat)
    (body : List (Nat × List Nat))
    (hbody : body.map (·.1) = [p0, p1, p2, p3, p4, p5, p6, p7, lo, hi])
    (hTw : (setupTokenPacket tl tp w0 b1 w1 b2 w2 tgap).wf) (hDw : (dataPacket dl dpid v0 body dgap).wf)
    (htok : IsSetupTokenFor c.addr tp b1 b2) (hdp : isDataPid dpid = true)
    (h8 : ∀ b ∈ [p0, p1, p2, p3, p4, p5, p6, p7, lo, hi], b < 256)
    (hcrc : usb2Crc16 [p0, p1, p2, p3, p4, p5, p6, p7] = lo + 256 * hi)
    (hgap : c.delay + 3 ≤ dgap.length) :
    (trace c s (render (setupTokenPacket tl tp w0 b1 w1 b2 w2 tgap) ++ render (dataPacket dl dpid v0 body dgap))
        = [.received p0 p1 (p2 + 256 * p3) (p4 + 256 * p5) (p6 + 256 * p7), .ack] ∨
     trace c s (render (setupTokenPacket tl tp w0 b1 w1 b2 w2 tgap) ++ render (dataPacket dl dpid v0 body dgap))
        = [.ack, .received p0 p1 (p2 + 256 * p3) (p4 + 256 * p5) (p6 + 256 * p7)]) ∧
    (c.hs = true →
     trace c s (render (setupTokenPacket tl tp w0 b1 w1 b2 w2 tgap) ++ render (dataPacket dl dpid v0 body dgap))
        = [.ack, .received p0 p1 (p2 + 256 * p3) (p4 + 256 * p5) (p6 + 256 * p7)]) ∧
    Boundary (final c s
      (render (setupTokenPacket tl tp w0 b1 w1 b2 w2 tgap) ++ render (dataPacket dl dpid v0 body dgap))) := by
  have eT : (setupTokenPacket tl tp w0 b1 w1 b2 w2 tgap).bytes = [tp, b1, b2] := rfl
  have eD : (dataPacket dl dpid v0 body dgap).bytes = dpid :: [p0, p1, p2, p3, p4, p5, p6, p7, lo, hi] :=
    congrArg (dpid :: ·) hbody
  have hnd : ∀ pid rest, [tp, b1, b2] = pid :: rest → isDataPid pid = true → False := by
    intro pid rest e h
    rw [← (List.cons.inj e).1, token_pid_not_data tp htok.1] at h
    exact absurd h (by simp)
  have spT := specStep_setup_token c.addr (absOf s) tp b1 b2 htok
  obtain ⟨bT, tT, _⟩ := packet_trace c hc _ s _ ⟨hs, rfl⟩ hTw (fun pid rest e h => absurd h (hnd pid rest (eT ▸ e)))
    (fun ⟨pid, rest, e, h⟩ => absurd h (hnd pid rest (eT ▸ e))) (fun h => absurd (by rw [eT, spT]) h)
  rw [eT, spT] at bT tT
  have spD : (specStep c.addr ⟨true, staleOf s⟩ (dpid :: [p0, p1, p2, p3, p4, p5, p6, p7, lo, hi])).2
      = some (.received p0 p1 (p2 + 256 * p3) (p4 + 256 * p5) (p6 + 256 * p7)) := by
    rw [spec_report_iff _ _ (dpid :: [p0, p1, p2, p3, p4, p5, p6, p7, lo, hi]) h8]
    simp [isSetupData, hdp, pk, hcrc, report]
  obtain ⟨bD, _, tD⟩ := packet_trace c hc _ _ _ bT hDw (fun pid rest e _ => (List.cons.inj (eD ▸ e)).2 ▸ h8)
    (fun _ => Nat.le_trans (by omega) hgap) (fun _ => hgap)
  rw [eD] at tD
  obtain ⟨t1, t2⟩ := tD _ spD
  rw [trace_append, final_append, tT rfl]
  exact ⟨t1, t2, bD.1⟩

/-- **C06, main theorem — earlier garbage is harmless.**  After ANY prefix of legal packets from
reset (corrupted or short or over-long or aborted data packets, PID-only packets, handshakes, own
and foreign tokens, arbitrary bytes; any timing; packets that start with a data PID followed by
the handshake gap), a valid SETUP transaction to this device is reported exactly once, with
exactly the little-endian decoded fields, and ACKed exactly once; nothing else happens during it,
and the decoder is at a packet boundary again afterwards. -/
theorem earlier_garbage_is_harmless (c : Config) (hc : c.delay ≤ c.counterMax + 1) (garbage : List RxPacket)
    (hw : ∀ p ∈ garbage, p.wf) (hg : ∀ p ∈ garbage, gapOk c p)
    (tl tgap dl dgap w0 w1 w2 v0 : List Nat) (tp b1 b2 dpid p0 p1 p2 p3 p4 p5 p6 p7 lo hi : Nat)
    (body : List (Nat × List Nat))
    (hbody : body.map (·.1) = [p0, p1, p2, p3, p4, p5, p6, p7, lo, hi])
    (hTw : (setupTokenPacket tl tp w0 b1 w1 b2 w2 tgap).wf) (hDw : (dataPacket dl dpid v0 body dgap).wf)
    (htok : IsSetupTokenFor c.addr tp b1 b2) (hdp : isDataPid dpid = true)
    (h8 : ∀ b ∈ [p0, p1, p2, p3, p4, p5, p6, p7, lo, hi], b < 256)
    (hcrc : usb2Crc16 [p0, p1, p2, p3, p4, p5, p6, p7] = lo + 256 * hi)
    (hgap : c.delay + 3 ≤ dgap.length) :
    let txn := render (setupTokenPacket tl tp w0 b1 w1 b2 w2 tgap) ++ render (dataPacket dl dpid v0 body dgap)
    let rep := Event.received p0 p1 (p2 + 256 * p3) (p4 + 256 * p5) (p6 + 256 * p7)
    (trace c init (renderAll garbage ++ txn) = trace c init (renderAll garbage) ++ [rep, .ack] ∨
     trace c init (renderAll garbage ++ txn) = trace c init (renderAll garbage) ++ [.ack, rep]) ∧
    Boundary (final c init (renderAll garbage ++ txn)) := by
  intro txn rep
  have hb := garbage_list_keeps_boundary c hc garbage init boundary_init hw hg
  obtain ⟨h1, _, h3⟩ := setup_transaction_exact c hc _ hb tl tgap dl dgap w0 w1 w2 v0 tp b1 b2 dpid
    p0 p1 p2 p3 p4 p5 p6 p7 lo hi body hbody hTw hDw htok hdp h8 hcrc hgap
  rw [trace_append, final_append]
  refine ⟨?_, h3⟩
  rcases h1 with h | h
  · left; rw [h]
  · right; rw [h]

/-- The one `received` strobe of a valid SETUP transaction carries
bmRequestType = byte 0, bRequest = byte 1, wValue = bytes 2,3 (LE), wIndex = bytes 4,5, wLength =
bytes 6,7; and there is exactly one ACK. -/
theorem setup_fields_exact (c : Config) (hc : c.delay ≤ c.counterMax + 1) (s : State) (hs : Boundary s)
    (tl tgap dl dgap w0 w1 w2 v0 : List Nat) (tp b1 b2 dpid p0 p1 p2 p3 p4 p5 p6 p7 lo hi : Nat)
    (body : List (Nat × List Nat))
    (hbody : body.map (·.1) = [p0, p1, p2, p3, p4, p5, p6, p7, lo, hi])
    (hTw : (setupTokenPacket tl tp w0 b1 w1 b2 w2 tgap).wf) (hDw : (dataPacket dl dpid v0 body dgap).wf)
    (htok : IsSetupTokenFor c.addr tp b1 b2) (hdp : isDataPid dpid = true)
    (h8 : ∀ b ∈ [p0, p1, p2, p3, p4, p5, p6, p7, lo, hi], b < 256)
    (hcrc : usb2Crc16 [p0, p1, p2, p3, p4, p5, p6, p7] = lo + 256 * hi)
    (hgap : c.delay + 3 ≤ dgap.length) :
    receivedOnly (trace c s
        (render (setupTokenPacket tl tp w0 b1 w1 b2 w2 tgap) ++ render (dataPacket dl dpid v0 body dgap)))
      = [.received p0 p1 (p2 + 256 * p3) (p4 + 256 * p5) (p6 + 256 * p7)] ∧
    ackCount (trace c s
        (render (setupTokenPacket tl tp w0 b1 w1 b2 w2 tgap) ++ render (dataPacket dl dpid v0 body dgap))) = 1 := by
  obtain ⟨h1, _, _⟩ := setup_transaction_exact c hc s hs tl tgap dl dgap w0 w1 w2 v0 tp b1 b2 dpid
    p0 p1 p2 p3 p4 p5 p6 p7 lo hi body hbody hTw hDw htok hdp h8 hcrc hgap
  rcases h1 with h | h <;> rw [h] <;> simp [receivedOnly, ackCount]

/-! ## Non-vacuity: the hypotheses are satisfiable, the definitions evaluate as intended -/

/-- a PID-only DATA0 packet -/
def demoRunt : RxPacket := dataPacket [0] 0xC3 [] [] (List.replicate 13 0)

theorem gapOk_intro (c : Config) (p : RxPacket)
    (h : (match p.bytes with | pid :: _ => isDataPid pid | [] => false) = true → c.delay + 3 ≤ p.gap.length) :
    gapOk c p := by
  intro ⟨pid, rest, h1, h2⟩
  apply h; rw [h1]; exact h2

example : Legal demoCfg [demoBadData, demoToken, demoData, demoForeignOut, demoToken, demoRunt, demoData] := by
  intro p hp
  simp only [List.mem_cons, List.not_mem_nil, or_false] at hp
  rcases hp with rfl | rfl | rfl | rfl | rfl | rfl | rfl <;>
    exact ⟨by decide, gapOk_intro _ _ (by decide), by decide +kernel⟩

/-- an unrelated data packet followed by only 2 idle cycles (no handshake gap) is a legal history too -/
def demoIsoData : RxPacket := dataPacket [0] 0xC3 [] ((demoBody ++ [usb2Crc16 demoBody % 256, usb2Crc16 demoBody / 256]).map (fun b => (b, []))) [0, 0]
theorem gap2_intro (p : RxPacket) (n : Nat)
    (h : (match p.bytes with | pid :: _ => isDataPid pid | [] => false) = true → n ≤ p.gap.length) :
    (∃ pid rest, p.bytes = pid :: rest ∧ isDataPid pid = true) → n ≤ p.gap.length := by
  intro ⟨pid, rest, h1, h2⟩
  apply h; rw [h1]; exact h2
example : LegalFrom demoCfg absInit [demoIsoData, demoToken, demoData] := by
  refine ⟨by decide, by decide +kernel, gap2_intro _ _ (by decide), fun h => absurd ?_ h,
    by decide, by decide, gap2_intro _ _ (by decide), fun h => absurd ?_ h,
    by decide, by decide +kernel, gap2_intro _ _ (by decide), fun _ => by decide, trivial⟩ <;>
    decide +kernel

example : isSetupData demoData.bytes = true ∧ isSetupData demoBadData.bytes = false ∧
    isSetupData demoRunt.bytes = false := by decide +kernel
example : armedAfter 0 [demoBadData.bytes, demoToken.bytes] = true := by decide +kernel
example : armedAfter 0 [demoToken.bytes, demoBadData.bytes] = true := by decide +kernel        -- a corrupted packet keeps it
example : armedAfter 0 [demoToken.bytes, demoForeignOut.bytes] = false := by decide +kernel    -- a foreign token clears it
example : armedAfter 0 [demoToken.bytes, demoData.bytes] = false := by decide +kernel          -- the report consumes it
/-- the stale-register case is real: after a CRC-valid data packet the comparison registers agree,
so a following PID-only data packet makes the deserializer strobe (with length 14) and disarms the
decoder; the same runt after a corrupted packet does not.  (From reset the registers are all 0 and
agree as well.) -/
example : armedAfter 0 [demoToken.bytes, demoData.bytes, demoToken.bytes, demoRunt.bytes] = false ∧
    armedAfter 0 [demoBadData.bytes, demoToken.bytes, demoRunt.bytes] = true ∧
    armedAfter 0 [demoToken.bytes, demoRunt.bytes] = false := by decide +kernel
/-- ... and the model agrees: the DATA0 after the runt is not reported, only the first transaction is -/
example : trace demoCfg init (renderAll [demoToken, demoData, demoToken, demoRunt, demoData])
    = [.received 0x80 6 0x100 0 0x40, .ack] := by decide +kernel
/-- cycle numbers: token 6 cycles, data packet lead 2 + 11 bytes, strobe seen in cycle 6 + 14 = 20,
ACK 11 cycles later -/
example : ttrace demoCfg init (renderAll [demoToken, demoData]) 0
    = [(20, .received 0x80 6 0x100 0 0x40), (31, .ack)] := by decide +kernel

end LunaVerif.SetupDecoder
