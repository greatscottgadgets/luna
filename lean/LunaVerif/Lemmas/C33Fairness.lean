import LunaVerif.Props.C33
/-!
# C33 — bounded fairness of the transmit CTC ("often enough ... whenever idle time permits")

`Props/C33.lean` proves the exact accounting of `CTCSkipInserter` under the hypothesis `NoWrap` (the
3-bit debt counter `skips_to_send` is never incremented at 7).  Here `NoWrap` becomes a CONSEQUENCE of
a hypothesis on the link layer's stream alone.

Potential: `P = 354·skips_to_send + data_bytes_elapsed` = bytes accepted and not yet paid for by SKP
ordered sets.  A word taken from the sink adds 4, an inserted SKP word (two ordered sets) removes 708,
and only ONE SKP word can be inserted per idle opportunity.  So one opportunity pays for 177 words —
itself included, because the idle filler word it replaces is counted in `data_bytes_elapsed` too.

Hypothesis, leaky-bucket form (`Bucket K`): a counter on the INPUTS only — `+1` for every valid word
offered without permission to insert, `−176` (floored at 0) for every cycle with `can_send_skip = 1` —
never exceeds `K`, with `K ≤ 530`.
Hypothesis, window form (`IdleEvery W`): fewer than `W` valid words are offered between two
consecutive cycles with `can_send_skip = 1`, with `1 ≤ W ≤ 177`.  It is the special case `K = W − 1`
of the bucket form (for `W ≤ 177` the bucket is emptied by every opportunity).

Conclusions, for EVERY stream (induction over the input list): `NoWrap`; debt
`≤ (711 + 4K)/354 ≤ 7` resp. `≤ (707 + 4W)/354 ≤ 3` after every cycle; from reset
`⌊n/354⌋ − B ≤ 2·(SKP words sent) ≤ ⌊n/354⌋` with `n = 4·transfers` symbols accepted; and (with `Env`)
the transmitted stream is the link layer's with idle words replaced, nothing else.

The ranges are as wide as the code allows: `W = 178` lets the debt grow by 4 bytes per window until the
counter wraps (`idle_every_178_not_enough`), and with no opportunity at all the counter wraps after 708
words (`no_idle_debt_counter_wraps`).
-/
namespace LunaVerif.CtcInserter
open LunaVerif.Ss

/-! ## Hypotheses on the input stream -/

/-- The leaky bucket: a valid word offered without permission to insert a SKP word fills it by one; a
cycle with `can_send_skip = 1` drains 176 (the 177 words one SKP word pays for, less the idle word of
that very cycle). -/
def bucketNext (c : Nat) (i : In) : Nat :=
  if i.canSend then c - 176 else c + (if i.sink.valid then 1 else 0)

/-- The bucket, started at level `c`, never exceeds `K` along `ins`. -/
def Bucket (K : Nat) : Nat → List In → Prop
  | _, [] => True
  | c, i :: is => bucketNext c i ≤ K ∧ Bucket K (bucketNext c i) is

instance decBucket (K : Nat) : (c : Nat) → (ins : List In) → Decidable (Bucket K c ins)
  | _, [] => isTrue trivial
  | c, i :: is => @instDecidableAnd _ _ _ (decBucket K (bucketNext c i) is)

/-- Window form: `c` valid words have been offered since the last cycle with `can_send_skip = 1`; that
count stays below `W`, i.e. an idle opportunity comes at least once in every `W` words offered. -/
def IdleEvery (W : Nat) : Nat → List In → Prop
  | _, [] => True
  | c, i :: is =>
    if i.canSend then IdleEvery W 0 is
    else c + (if i.sink.valid then 1 else 0) < W ∧ IdleEvery W (c + (if i.sink.valid then 1 else 0)) is

instance decIdleEvery (W : Nat) : (c : Nat) → (ins : List In) → Decidable (IdleEvery W c ins)
  | _, [] => isTrue trivial
  | c, i :: is => by
    unfold IdleEvery
    cases i.canSend
    · exact @instDecidableAnd _ _ _ (decIdleEvery W (c + (if i.sink.valid then 1 else 0)) is)
    · exact decIdleEvery W 0 is

/-- The two kinds of cycle the link layer's arbiter produces, with which streams are written down (the examples
below; `period178`, `stream178` in Lemmas/C33NoIdle).  Its idle branch: IDL word, `can_send_skip = 1`. -/
def idleCycle : In := ⟨⟨true, IDLE4, false, false⟩, true, true⟩
/-- A packet/command word: valid, no permission to insert. -/
def busyCycle (d : Nat) : In := ⟨⟨true, unpack 4 d 0, false, false⟩, true, false⟩

/-- The invariant: registers in range and the unpaid bytes bounded by the bucket level.  711 = 707 + 4: an
opportunity is left unused only below two owed sets (at most 707 unpaid bytes), and its own word is counted;
`K ≤ 530` keeps `711 + 4K` below the `8·354` at which the counter wraps. -/
def Legal (s : State) (c : Nat) : Prop :=
  s.elapsed < 354 ∧ s.skips < 8 ∧ 354 * s.skips + s.elapsed ≤ 711 + 4 * c

theorem legal_init : Legal init 0 := by simp [Legal, init]

/-! ## One step -/

theorem step_fair (K : Nat) (hK : K ≤ 530) (s : State) (c : Nat) (i : In) (hl : Legal s c)
    (hb : bucketNext c i ≤ K) :
    (skipNeeded s i = true → sending s i = false → s.skips < 7) ∧ Legal (next s i) (bucketNext c i) := by
  obtain ⟨he, hk, hp⟩ := hl
  have hx : (if xfer s i then 1 else 0) ≤ (if i.sink.valid then 1 else 0) := by
    unfold xfer; cases i.sink.valid <;> cases s.sinkReady <;> decide
  have hx1 : (if xfer s i then 1 else 0) ≤ 1 := by split <;> omega
  have he1 := (next_elapsed s i he).1
  unfold bucketNext at hb ⊢
  -- without permission the bucket bounds the unpaid bytes below 2832; with it, not sending means `skips < 2`
  have hnw : skipNeeded s i = true → sending s i = false → s.skips < 7 := by
    intro hn
    rw [hn, if_pos rfl] at he1
    rw [skp_sent_as_soon_as_allowed]
    cases hc : i.canSend <;>
      simp only [hc, if_true, if_false, Bool.false_eq_true, Bool.false_and, Bool.true_and,
        decide_eq_false_iff_not, forall_const] at hb ⊢ <;> omega
  -- the unpaid bytes move by `4·[xfer] − 708·[sending]`; an opportunity is used as soon as `2 ≤ skips`
  obtain ⟨h1, h2, h3⟩ := step_accounting s i he hk hnw
  refine ⟨hnw, h2, h3, ?_⟩
  rw [skp_sent_as_soon_as_allowed] at h1
  cases hc : i.canSend <;> by_cases h2 : 2 ≤ s.skips <;>
    simp only [hc, h2, if_true, if_false, Bool.false_eq_true, Bool.false_and, Bool.true_and, decide_true,
      decide_false] at h1 ⊢ <;> omega

/-! ## Every stream: induction over the input list -/

theorem bucket_run (K : Nat) (hK : K ≤ 530) (s : State) (c : Nat) (ins : List In) (hl : Legal s c)
    (hb : Bucket K c ins) :
    NoWrap s ins ∧
    (∀ st ∈ states s ins, st.elapsed < 354 ∧ 354 * st.skips + st.elapsed ≤ 711 + 4 * K) := by
  induction ins generalizing s c with
  | nil => exact ⟨trivial, by simp [states]⟩
  | cons i is ih =>
    obtain ⟨hb1, hb2⟩ := hb
    obtain ⟨h1, h2⟩ := step_fair K hK s c i hl hb1
    obtain ⟨g1, g2⟩ := ih (next s i) (bucketNext c i) h2 hb2
    refine ⟨⟨h1, g1⟩, ?_⟩
    intro st hst
    simp only [states, List.mem_cons] at hst
    rcases hst with rfl | hst
    · obtain ⟨a, _, b⟩ := h2
      exact ⟨a, by omega⟩
    · exact g2 st hst

theorem bucket_prefix (K c : Nat) (a b : List In) (h : Bucket K c (a ++ b)) : Bucket K c a := by
  induction a generalizing c with
  | nil => trivial
  | cons i is ih => exact ⟨h.1, ih _ h.2⟩

theorem final_mem_states (s : State) (i : In) (is : List In) : final s (i :: is) ∈ states s (i :: is) := by
  induction is generalizing s i with
  | nil => simp [final, states]
  | cons j js ih =>
    simp only [final, states, List.mem_cons]
    right
    simpa only [final, states, List.mem_cons] using ih (next s i) j

/-- For `W ≤ 177` every opportunity empties the bucket. -/
theorem idleEvery_bucket (W : Nat) (hW : W ≤ 177) (c : Nat) (hc : c < W) (ins : List In)
    (h : IdleEvery W c ins) : Bucket (W - 1) c ins := by
  induction ins generalizing c with
  | nil => trivial
  | cons i is ih =>
    unfold IdleEvery at h
    unfold Bucket bucketNext
    cases hcs : i.canSend
    · simp only [hcs, Bool.false_eq_true, if_false] at h ⊢
      exact ⟨by omega, ih _ h.1 h.2⟩
    · simp only [hcs, if_true] at h ⊢
      have h0 : c - 176 = 0 := by omega
      rw [h0]
      exact ⟨by omega, ih 0 (by omega) h⟩

/-! ## The bounded-fairness theorems -/

/-- **C33 (c), unconditional in the counter: leaky-bucket form.**  For EVERY stream from reset whose
bucket level never exceeds `K ≤ 530`:
1. the debt counter never wraps (`NoWrap` is a consequence);
2. after every cycle the debt is at most `(711 + 4K)/354` ordered sets (≤ 7);
3. after every prefix, with `n = 4·transfers` symbols accepted from the link layer, the number of SKP
   ordered sets sent (two per SKP word) lies between `⌊n/354⌋ − (711 + 4K)/354` and `⌊n/354⌋`, and the
   remainder `n mod 354` is kept;
4. (with `Env`) the transmitted stream is the link layer's with idle words replaced by SKP words in
   the flagged cycles, same length and order, and every non-idle beat passes unchanged. -/
theorem ctc_bounded_fairness_bucket (K : Nat) (hK : K ≤ 530) (idle : Beat → Prop) (ins : List In)
    (hb : Bucket K 0 ins) (he : Env idle ins) :
    NoWrap init ins ∧
    (∀ st ∈ states init ins, st.skips ≤ (711 + 4 * K) / 354) ∧
    (∀ pre suf, ins = pre ++ suf →
      2 * sentWords init pre ≤ 4 * transfers init pre / 354 ∧
      4 * transfers init pre / 354 ≤ 2 * sentWords init pre + (711 + 4 * K) / 354 ∧
      (final init pre).skips + 2 * sentWords init pre = 4 * transfers init pre / 354 ∧
      (final init pre).elapsed = 4 * transfers init pre % 354) ∧
    ((txBeats init ins).map (fun b => (b.valid, b.syms)) =
      List.zipWith (fun (i : In) (f : Bool) => if f then (true, SKP4) else (i.sink.valid, i.sink.syms))
        ins (sendFlags init ins) ∧
     (sendFlags init ins).length = ins.length ∧
     (∀ p ∈ List.zip ins (sendFlags init ins), p.2 = true → p.1.canSend = true ∧ idle p.1.sink)) ∧
    (∀ p ∈ List.zip ins (txBeats init ins), ¬ idle p.1.sink → p.2 = p.1.sink) := by
  obtain ⟨hnw, hst⟩ := bucket_run K hK init 0 ins legal_init hb
  refine ⟨hnw, ?_, ?_, tx_stream_is_input_with_idle_replaced idle init ins he,
    non_idle_words_pass_unchanged idle init ins he⟩
  · intro st h
    have := (hst st h).2
    omega
  · intro pre suf hps
    subst hps
    have hbp := bucket_prefix K 0 pre suf hb
    obtain ⟨hnwp, hstp⟩ := bucket_run K hK init 0 pre legal_init hbp
    obtain ⟨d1, d2⟩ := debt_from_reset pre hnwp
    have hfin : (final init pre).skips ≤ (711 + 4 * K) / 354 := by
      cases pre with
      | nil => simp [final, init]
      | cons i is =>
        have := (hstp _ (final_mem_states init i is)).2
        omega
    exact ⟨by omega, by omega, d1, d2⟩

/-- **C33 (c), window form.**  If the link layer offers an idle opportunity (`can_send_skip = 1`) at
least once in every `W` valid words, `1 ≤ W ≤ 177`, then for EVERY stream from reset: `NoWrap`; the
debt never exceeds `B(W) = (707 + 4W)/354 ≤ 3` ordered sets; after every prefix with `n = 4·transfers`
symbols accepted, `⌊n/354⌋ − B(W) ≤ 2·(SKP words sent) ≤ ⌊n/354⌋`; and (with `Env`, `he`) the transmitted
stream is the link layer's with idle words replaced, nothing else replaced, dropped or reordered. -/
theorem ctc_bounded_fairness (W : Nat) (hW1 : 1 ≤ W) (hW : W ≤ 177) (idle : Beat → Prop) (ins : List In)
    (hi : IdleEvery W 0 ins) (he : Env idle ins) :
    NoWrap init ins ∧
    (∀ st ∈ states init ins, st.skips ≤ (707 + 4 * W) / 354 ∧ st.skips ≤ 3) ∧
    (∀ pre suf, ins = pre ++ suf →
      2 * sentWords init pre ≤ 4 * transfers init pre / 354 ∧
      4 * transfers init pre / 354 ≤ 2 * sentWords init pre + (707 + 4 * W) / 354) ∧
    ((txBeats init ins).map (fun b => (b.valid, b.syms)) =
      List.zipWith (fun (i : In) (f : Bool) => if f then (true, SKP4) else (i.sink.valid, i.sink.syms))
        ins (sendFlags init ins) ∧
     (sendFlags init ins).length = ins.length ∧
     (∀ p ∈ List.zip ins (sendFlags init ins), p.2 = true → p.1.canSend = true ∧ idle p.1.sink)) ∧
    (∀ p ∈ List.zip ins (txBeats init ins), ¬ idle p.1.sink → p.2 = p.1.sink) := by
  have hb := idleEvery_bucket W hW 0 (by omega) ins hi
  obtain ⟨a, b, c, d, e⟩ := ctc_bounded_fairness_bucket (W - 1) (by omega) idle ins hb he
  have hk : (711 + 4 * (W - 1)) / 354 = (707 + 4 * W) / 354 := by
    have : 711 + 4 * (W - 1) = 707 + 4 * W := by omega
    rw [this]
  rw [hk] at b c
  refine ⟨a, ?_, ?_, d, e⟩
  · intro st h
    have := b st h
    exact ⟨this, by omega⟩
  · intro pre suf hps
    obtain ⟨c1, c2, _, _⟩ := c pre suf hps
    exact ⟨c1, c2⟩

/-! ## Non-vacuity and tightness -/

/-- idle word, 176 packet words, idle word, 176 packet words -/
def tightStream : List In :=
  idleCycle :: (List.replicate 176 (busyCycle 0xA5A5A5A5) ++ idleCycle :: List.replicate 176 (busyCycle 0x5A5A5A5A))

example : IdleEvery 177 0 tightStream := by decide +kernel
example : Bucket 176 0 tightStream := by decide +kernel
example : Env isIdle tightStream := by
  intro i hi hc
  simp only [tightStream, List.mem_cons, List.mem_append, List.mem_replicate] at hi
  rcases hi with rfl | ⟨_, rfl⟩ | rfl | ⟨_, rfl⟩ <;> simp_all [idleCycle, busyCycle, isIdle]

/-- **Tightness of `B(W)`**: with `W = 177` the bound `(707 + 4·177)/354 = 3` is attained (the single
idle word between the two bursts is itself counted and raises the debt to 2 without being replaced;
the second burst brings it to 3). -/
example : (final init tightStream).skips = 3 ∧ (707 + 4 * 177) / 354 = 3 := by decide +kernel

/-- A maximum-size data packet (270 words > 177) followed by two idle words is inside the bucket form
(`K = 270`) though outside every admissible window. -/
example : Bucket 270 0 (idleCycle :: (List.replicate 270 (busyCycle 1) ++ [idleCycle, idleCycle])) := by
  decide +kernel

/-! ## The window hypothesis in plain form -/

/-- The plain reading of "an idle opportunity at least once in every window of `W` transfers": every
`W` consecutive cycles of the stream contain one with `can_send_skip = 1`. -/
def WindowsHaveIdle (W : Nat) (ins : List In) : Prop :=
  ∀ k, k + W ≤ ins.length → ∃ i ∈ (ins.drop k).take W, i.canSend = true

/-- `c` words offered since the last opportunity and an opportunity among the next `m` cycles, `c + m ≤ W`. -/
theorem idleEvery_of_windows_aux (W c m : Nat) (ins : List In) (hm : 0 < m) (hc : c + m ≤ W)
    (hw : WindowsHaveIdle W ins) (hf : m ≤ ins.length → ∃ i ∈ ins.take m, i.canSend = true) :
    IdleEvery W c ins := by
  induction ins generalizing c m with
  | nil => trivial
  | cons i is ih =>
    have hw' : WindowsHaveIdle W is := by
      intro k hk
      have := hw (k + 1) (by simp only [List.length_cons]; omega)
      simpa only [List.drop_succ_cons] using this
    unfold IdleEvery
    cases hcs : i.canSend
    · simp only [Bool.false_eq_true, if_false]
      obtain ⟨m, rfl⟩ : ∃ m', m = m' + 1 := ⟨m - 1, by omega⟩
      -- the opportunity is not this cycle's, so it is among the next `m`
      have hf' : m ≤ is.length → ∃ j ∈ is.take m, j.canSend = true := by
        intro hl
        obtain ⟨j, hj, hjc⟩ := hf (by simp only [List.length_cons]; omega)
        rw [List.take_succ_cons, List.mem_cons] at hj
        rcases hj with rfl | hj
        · rw [hcs] at hjc; cases hjc
        · exact ⟨j, hj, hjc⟩
      have hm0 : 0 < m := by
        rcases Nat.eq_zero_or_pos m with rfl | h
        · obtain ⟨j, hj, _⟩ := hf' (Nat.zero_le _); simp at hj
        · exact h
      have hv : (if i.sink.valid = true then 1 else 0) ≤ 1 := by split <;> omega
      exact ⟨by omega, ih _ m hm0 (by omega) hw' hf'⟩
    · simp only [if_true]
      exact ih 0 W (by omega) (by omega) hw' fun hl => by simpa using hw 1 (by simp only [List.length_cons]; omega)

/-- `IdleEvery W` counts only the cycles in which a valid word is offered, so it is the weaker
hypothesis. -/
theorem idleEvery_of_windows (W : Nat) (hW : 1 ≤ W) (ins : List In) (hw : WindowsHaveIdle W ins) :
    IdleEvery W 0 ins :=
  idleEvery_of_windows_aux W 0 W ins hW (by omega) hw fun hl => by simpa using hw 0 (by omega)

/-- **C33 (c), plain window form**: an idle opportunity in every `W` consecutive cycles, `1 ≤ W ≤ 177`; the
conclusions of `ctc_bounded_fairness`, the one about the transmitted stream again with `Env` (`he`). -/
theorem ctc_bounded_fairness_windows (W : Nat) (hW1 : 1 ≤ W) (hW : W ≤ 177) (idle : Beat → Prop)
    (ins : List In) (hw : WindowsHaveIdle W ins) (he : Env idle ins) :
    NoWrap init ins ∧
    (∀ st ∈ states init ins, st.skips ≤ (707 + 4 * W) / 354 ∧ st.skips ≤ 3) ∧
    (∀ pre suf, ins = pre ++ suf →
      2 * sentWords init pre ≤ 4 * transfers init pre / 354 ∧
      4 * transfers init pre / 354 ≤ 2 * sentWords init pre + (707 + 4 * W) / 354) ∧
    ((txBeats init ins).map (fun b => (b.valid, b.syms)) =
      List.zipWith (fun (i : In) (f : Bool) => if f then (true, SKP4) else (i.sink.valid, i.sink.syms))
        ins (sendFlags init ins) ∧
     (sendFlags init ins).length = ins.length ∧
     (∀ p ∈ List.zip ins (sendFlags init ins), p.2 = true → p.1.canSend = true ∧ idle p.1.sink)) ∧
    (∀ p ∈ List.zip ins (txBeats init ins), ¬ idle p.1.sink → p.2 = p.1.sink) :=
  ctc_bounded_fairness W hW1 hW idle ins (idleEvery_of_windows W hW1 ins hw) he

example : WindowsHaveIdle 3 [idleCycle, busyCycle 1, busyCycle 2, idleCycle, busyCycle 3, idleCycle, idleCycle] := by
  have H : ∀ k, k ≤ 4 → ∃ i ∈ (List.drop k [idleCycle, busyCycle 1, busyCycle 2, idleCycle, busyCycle 3,
      idleCycle, idleCycle]).take 3, i.canSend = true := by decide
  intro k hk
  exact H k (by simp only [List.length_cons, List.length_nil] at hk; omega)

end LunaVerif.CtcInserter
