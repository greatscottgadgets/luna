import LunaVerif.Lemmas.C39Wire
/-!
# C39 — the retry round completes (bounded liveness under a fair source / `lrty_pending`)

A *progress cycle* is one with `source.ready = 1` and `lrty_pending = 0`.  Potential of a state with `n`
headers of the round still to be latched: `20·n + 2·rank(raw transmitter) + offset(FSM state)` (0 when
`n = 0`).  It never increases and drops by at least one in every progress cycle (`pot_step`, from the
control-level `Ctl.phase_step`: the offset of the FSM never grows, `Ctl.off_step`, and the rank only grows
at a latch).  Hence a history after an LBAD without further LBAD that contains `20·m + 20` progress cycles —
in any arrangement, with arbitrary stalls in between — has latched all `m` unacknowledged headers
(`lbad_round_completes`).
-/
namespace LunaVerif.PacketTx
open LunaVerif.HeaderRx (Hdr Bufs bufQ)

namespace Ctl

def off : Fsm → Nat
  | .dispatch => 1 | .waitSend => 3 | .waitRetry => 0 | .flush => 3
def phase (k : Ctl) (r : Nat) : Nat := 2 * r + off k.fsm

/-- how the rank of the raw transmitter (words still to go, 0 = idle) moves in a cycle -/
structure RankOk (k : Ctl) (v : Ev) (sr : Bool) (r r' : Nat) : Prop where
  idle : k.idle = true → r = 0 ∧ r' = if latch k v then 8 else 0
  busy : k.idle = false → r' + (if sr then 1 else 0) ≤ r

/-- With a retry pending and a header still to be latched the FSM only moves towards WAIT_FOR_RETRY, and an
idle raw transmitter makes it move (or, in WAIT_FOR_RETRY, latch as soon as `lrty_pending` is gone). -/
theorem off_step {k : Ctl} {v : Ev} (h : Inv k) (o : EvOk k v) (hL : v.L = false) (hp : k.rpend = true)
    (hn : 1 ≤ toLatch k) (hb : v.bring = true) :
    off (k.step v).fsm + (if k.idle && !latch k v && !v.lrty then 1 else 0) ≤ off k.fsm := by
  have h2 := h.st; have o1 := o.dnBusy
  obtain ⟨fsm, idle, rpend, pts, paa, rp, ap⟩ := k
  obtain ⟨L, e, r, dn, lrty, bring⟩ := v
  simp only at hL hp hb
  subst hL hp hb
  clear h o
  simp only [step, latch, toLatch, nCur, cur, active] at hn ⊢
  cases fsm <;> simp [gen, St, Bool.beq_eq_decide_eq] at h2 o1 hn ⊢
  · rw [if_neg (by omega)]
    simp only [off]; split <;> omega
  · split <;> simp [off]
  · -- the header in flight is not the last one: `done` does not end the round
    cases idle <;> simp at o1 hn ⊢
    · rw [if_neg (fun hc => by omega)]; simp [off]
    · simp [o1, off]
  · cases idle <;> cases dn <;> simp [off] at o1 ⊢
    split <;> omega

theorem phase_step {k : Ctl} {v : Ev} {sr : Bool} {r r' : Nat} (h : Inv k) (o : EvOk k v) (q : RankOk k v sr r r')
    (hL : v.L = false) (hp : k.rpend = true) (hn : 1 ≤ toLatch k) (hb : v.bring = true) :
    (latch k v = true → phase (k.step v) r' ≤ 16) ∧
    (latch k v = false → phase (k.step v) r' + (if sr && !v.lrty then 1 else 0) ≤ phase k r) := by
  have ho := off_step h o hL hp hn hb
  unfold phase
  refine ⟨fun hl => ?_, fun hl => ?_⟩
  · -- a latch happens in WAIT_FOR_RETRY, the state with offset 0
    rw [latch_retry h hl hp, show off .waitRetry = 0 from rfl] at ho
    rw [(q.idle (latch_active h hl).1).2, hl, if_pos rfl]
    omega
  · have q1 := q.idle; have q2 := q.busy
    rw [hl] at ho q1
    generalize k.idle = idle, v.lrty = lrty at *
    cases idle <;> cases sr <;> cases lrty <;> simp at ho q1 q2 ⊢ <;> omega

end Ctl

def rawRank : Raw → Nat
  | .idle => 0 | .abortDpp => 1 | .finishDpp => 1 | .sendCrc => 2 | .startDpp => 3 | .dw3 => 4
  | .dw2 => 5 | .dw1 => 6 | .dw0 => 7 | .hpstart => 8

theorem rankOk (c : Config) (s : State) (i : In) :
    Ctl.RankOk (ctlOf s) (evOf s i) i.srcReady (rawRank s.raw) (rawRank (step c s i).1.raw) := by
  rw [step_raw]
  refine ⟨?_, ?_⟩
  · intro h
    have hi : s.raw = .idle := beq_iff_eq.1 h
    simp only [← latch_eq, latch, rawNext, hi, beq_self_eq_true, Bool.true_and]
    cases generate s i <;> exact ⟨rfl, rfl⟩
  · intro hb
    have hne : s.raw ≠ .idle := by simpa [ctlOf] using hb
    cases hr : s.raw
    · exact absurd hr hne
    all_goals cases hs : i.srcReady <;> simp only [rawNext, hr, hs, if_true, Bool.false_eq_true, if_false]
    all_goals (try split) <;> decide

/-- 20 per header of the round: more than the phase a latch leaves (≤ 16, `Ctl.phase_step`), so a latch lowers the
potential as well; 0 when the round is empty. -/
def pot (s : State) (n : Nat) : Nat := if n = 0 then 0 else 20 * n + (ctlOf s).phase (rawRank s.raw)
def prog (i : In) : Nat := if i.srcReady && !i.lrtyPending then 1 else 0
/-- number of progress cycles (`source.ready` and no `lrty_pending`) of a history -/
def progress : List In → Nat
  | [] => 0
  | i :: is => prog i + progress is

theorem pot_le (s : State) (n : Nat) : pot s n ≤ 20 * n + 19 := by
  unfold pot Ctl.phase
  have : rawRank s.raw ≤ 8 := by cases s.raw <;> simp [rawRank]
  have : Ctl.off (ctlOf s).fsm ≤ 3 := by cases (ctlOf s).fsm <;> simp [Ctl.off]
  split <;> omega

theorem pot_step {c : Config} {s : State} {g : Ghost} {i : In} {pend : List Hdr} (hi : InvR s g)
    (e : EnvStepR s g i) (r : Round s g pend) (hL : retryRequired s = false) (hne : pend ≠ []) :
    pot (step c s i).1 (if latch s i then pend.tail else pend).length + prog i ≤ pot s pend.length := by
  have o := evOk_of hi.inv e
  have hpos := List.length_pos_iff.2 hne
  have hn := r.toLatch_pos hne
  have hb : s.bringup = true := by
    rcases Bool.eq_false_or_eq_true s.bringup with hb | hb
    · exact hb
    · have := (hi.inv.hnob hb).1
      have h2 := toLatch_le hi
      rw [this] at h2; simp at h2; omega
  obtain ⟨p1, p2⟩ := Ctl.phase_step hi.ctl o (rankOk c s i) hL (r.rpend hne) hn hb
  rw [← ctlOf_step c s i e.env.en, ← latch_eq] at p1 p2
  have hlr : (evOf s i).lrty = i.lrtyPending := rfl
  rw [hlr] at p2
  rcases Bool.eq_false_or_eq_true (latch s i) with hl | hl
  · have p := p1 hl
    simp only [hl, if_true, List.length_tail]
    unfold pot prog
    split <;> split <;> split <;> omega
  · have p := p2 hl
    simp only [hl, Bool.false_eq_true, if_false]
    unfold pot prog
    split <;> split <;> simp_all <;> omega

def NoLbad (c : Config) : State → List In → Prop
  | _, [] => True
  | s, i :: is => retryRequired s = false ∧ NoLbad c (step c s i).1 is

/-- **the round completes**: enough progress cycles latch the whole round -/
theorem live_run (c : Config) (ins : List In) : ∀ (s : State) (g : Ghost) (pend : List Hdr),
    InvR s g → Round s g pend → RoundEnv c s g ins → NoLbad c s ins →
    pot s pend.length ≤ progress ins → pend.length ≤ (latches c s ins).length := by
  induction ins with
  | nil =>
    intro s g pend _ _ _ _ hp
    simp only [progress] at hp
    unfold pot at hp
    simp only [latches, List.length_nil]
    split at hp <;> omega
  | cons i is ih =>
    intro s g pend hi r ⟨e, _, henv⟩ ⟨hL, hnl⟩ hp
    by_cases hne : pend = []
    · simp [hne]
    · have hstep := pot_step (c := c) hi e r hL hne
      have hr' := round_step (c := c) hi e r hL
      have := ih _ _ _ (invR_step hi e) hr' henv hnl (by simp only [progress] at hp; omega)
      simp only [latches, List.length_append]
      rcases Bool.eq_false_or_eq_true (latch s i) with hl | hl
      · simp only [hl, if_true, List.length_tail, List.length_singleton] at this ⊢; omega
      · simp only [hl, Bool.false_eq_true, if_false, List.length_nil] at this ⊢; omega

def decNoLbad (c : Config) : (s : State) → (ins : List In) → Decidable (NoLbad c s ins)
  | _, [] => isTrue trivial
  | s, i :: is =>
    have := decNoLbad c (step c s i).1 is
    inferInstanceAs (Decidable (_ ∧ _))
instance (c : Config) (s : State) (ins : List In) : Decidable (NoLbad c s ins) := decNoLbad c s ins

/-- **C39 (4), completion**: if, after the LBAD, no further LBAD arrives and the history contains at least
`20·m + 20` progress cycles (cycles with `source.ready` and without `lrty_pending`, spread arbitrarily), then
the first m headers handed to the raw transmitter after the LBAD cycle are exactly the m unacknowledged
headers, in order, each with the delayed bit. -/
theorem lbad_round_completes (c : Config) (pre : List In) (i0 : In) (post : List In)
    (henv : EnvOkR c init Ghost.init (pre ++ [i0]))
    (hL : retryRequired (runG c init Ghost.init pre).1 = true) :
    let r0 := runG c init Ghost.init pre
    let s1 := (step c r0.1 i0).1
    let g1 := ghostStep r0.1 i0 r0.2
    let unacked := g1.taken.drop g1.retired
    RoundEnv c s1 g1 post → NoLbad c s1 post → 20 * unacked.length + 20 ≤ progress post →
    (latches c s1 post).take unacked.length = unacked.map dl := by
  intro r0 s1 g1 unacked hpost hnl hprog
  obtain ⟨e1, e2⟩ := EnvOkR.append henv
  have hi : InvR r0.1 r0.2 := invR_run c pre _ _ invR_init e1
  have hi1 : InvR s1 g1 := invR_step hi e2.1
  have hr : Round s1 g1 unacked := round_start hi e2.1 hL
  have hlen := live_run c post s1 g1 unacked hi1 hr hpost hnl (by have := pot_le s1 unacked.length; omega)
  have hpre := round_run c post s1 g1 unacked hi1 hr hpost
  exact hpre.eq_of_length (by simp [List.length_take]; omega)

example : let r0 := runG ⟨201, 256⟩ init Ghost.init retryPre
    NoLbad ⟨201, 256⟩ (step ⟨201, 256⟩ r0.1 idleIn).1 (retryPost ++ List.replicate 30 idleIn) ∧
    20 * 2 + 20 ≤ progress (retryPost ++ List.replicate 30 idleIn) := by
  decide +kernel

namespace Ctl

local macro "ctl_go" k:ident v:ident h:ident o:ident : tactic =>
  `(tactic| (
    obtain ⟨fsm, idle, rpend, pts, paa, rp, ap⟩ := $k:ident
    obtain ⟨L, e, r, dn, lrty, bring⟩ := $v:ident
    obtain ⟨h1, h2, h3, h4, h5, h6, h7⟩ := $h:ident
    obtain ⟨o1, o2, o3, o4, o5⟩ := $o:ident
    simp only [active, cur, nCur] at *
    cases fsm <;> cases idle <;> cases rpend <;> cases L <;> cases e <;> cases r <;> cases dn <;> cases lrty <;>
      simp at h1 h2 h3 h4 h5 o1 o2 o4 o5 ⊢))

local macro "phase_go" k:ident v:ident h:ident o:ident q:ident hL:ident hp:ident hn:ident hb:ident hf:ident
    sr:ident : tactic =>
  `(tactic| (
    obtain ⟨fsm, idle, rpend, pts, paa, rp, ap⟩ := $k:ident
    obtain ⟨L, e, rt, dn, lrty, bring⟩ := $v:ident
    obtain ⟨h1, h2, h3, h4, h5, h6, h7⟩ := $h:ident
    obtain ⟨o1, o2, o3, o4, o5⟩ := $o:ident
    obtain ⟨q1, q2, q3, q4, q5, q6, q7, q8, q9⟩ := $q:ident
    simp only at $hf:ident $hL:ident $hp:ident $hb:ident
    subst $hf:ident $hL:ident $hp:ident $hb:ident
    simp only [PhaseStep, active, cur, nCur, latch, gen, toLatch] at *
    cases idle <;> cases e <;> cases rt <;> cases dn <;> cases lrty <;> cases $sr:ident <;>
      simp at h1 h2 h3 h4 h5 o1 o2 o4 o5 q1 q2 q4 q5 q6 q7 q8 q9 $hn:ident ⊢ <;>
      (simp [step, gen, deq, active, cur, nCur, toLatch, latch, phase] <;> (repeat' split) <;>
        (try simp only [off] at *) <;> (first | omega | (simp_all <;> omega)))))

end Ctl

end LunaVerif.PacketTx
