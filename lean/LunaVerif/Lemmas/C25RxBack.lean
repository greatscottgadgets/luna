import LunaVerif.Lemmas.C25RxFront
import LunaVerif.Props.C25
/-!
# C25 receive chain, back end (packet detector, bit-stuff remover, shifter, latched error)

The NRZI decoder presents one bit every 3, 4 or 5 cycles (`vblock`; four at nominal rate).  The back end has done
everything it does for a bit two cycles after the strobe (the cycle of `o_put`, `bitPut`); after that cycle it is *quiet*:
`conc a bd` (stall flag set, no error strobe, no put, `past_o_pkt_active` = detector in PKT_ACTIVE), with `a : BB` the four registers that matter (detector
state, bit-stuff counter, shift register, latched error), and stays so until the next strobe (`quiet_outs`); the cycles in
between are `conc_strobe`, `strobed_next`, `conc_hold`.  So a strobe followed by `n - 1 ≥ 2` hold cycles is one bit-level
step `bitStep` (`block_outs`: the outputs are `outBlock`, whose events are `bitEv`), and a stream of such blocks is a bit-level run
(`back_vblocks`); the per-cycle (`o_pkt_start`, `o_receive_error`) trace `bitSEsD` only differs from that of four-cycle blocks (`bitSEs`) in
how often the last value of each block is repeated, which `errAfter` does not see.  The first part of the file is the
bit-level analysis: SYNC (`sync_run`); in PKT_ACTIVE the bit-stuff remover is `FsCodec.unstuff`, one bit per step, for every
bit stream (`unstuff_run` where `unstuff` accepts, `active_err`: the error latch is set exactly where it rejects), the shifter
(`shifter_bytes`); end of packet and idle (`eop_run`, `idle_bits`).
-/
namespace LunaVerif.FsRx
open LunaVerif.FsCodec

/-- the registers of the back end that carry information from one bit time to the next -/
structure BB where
  det : Nat           -- RxPacketDetect FSM
  bs  : Nat           -- RxBitstuffRemover FSM
  sr  : List Bool     -- RxShifter.shift_reg
  err : Bool          -- receive_error
deriving DecidableEq, Repr

/-- the quiet back-end state between two bits; `bd` = `RxBitstuffRemover.o_data` (follows the held `o_data`) -/
def conc (a : BB) (bd : Bool) : Back :=
  { det := a.det, bs := a.bs, bsData := bd, bsStall := true, bsError := false, sr := a.sr, oPut := false,
    pastActive := a.det == 6, rxErr := a.err }

/-- what is written into the clock-domain crossing -/
inductive Ev | start | byte (b : Nat) | fin
deriving DecidableEq, Repr

def evOf (o : Out) : List Ev :=
  (if o.pktStart then [.start] else []) ++ (if o.pktEnd then [.fin] else []) ++ (if o.put then [.byte o.payData] else [])

def events : List Out → List Ev
  | [] => []
  | o :: os => evOf o ++ events os

theorem events_append (a b : List Out) : events (a ++ b) = events a ++ events b := by
  induction a with
  | nil => rfl
  | cons o os ih => simp only [List.cons_append, events, ih, List.append_assoc]

/-- RxShifter: shifting a bit in -/
def shiftIn (sr : List Bool) (d : Bool) : List Bool :=
  if sr.getD 8 false then [d, true, false, false, false, false, false, false, false] else d :: sr.take 8

def detStep (det : Nat) (d z : Bool) : Nat :=
  if det == 6 then (if z then 0 else 6)
  else if det == 5 then (if z then 0 else if d then 6 else 5)
  else if d || z then 0 else det + 1

def bsStep (bs : Nat) (d : Bool) : Nat := if bs == 6 then 0 else if d then bs + 1 else 0

/-- one bit time of the back end: bit `b.1`, SE0 flag `b.2` -/
def bitStep (a : BB) (b : Bool × Bool) : BB :=
  let act := a.det == 6 && !b.2
  let shv := !(a.bs == 6) && act
  { det := detStep a.det b.1 b.2,
    bs := bsStep a.bs b.1,
    sr := if shv then shiftIn a.sr b.1 else if a.det == 6 && b.2 then srInit else a.sr,
    err := if a.bs == 6 && b.1 && act then true else if a.det == 5 && !b.2 && b.1 then false else a.err }

/-- `o_put` two cycles after the strobe of the bit `b` -/
def bitPut (a : BB) (b : Bool × Bool) : Bool :=
  !(a.bs == 6) && (a.det == 6 && !b.2) && a.sr.getD 7 false && !a.sr.getD 8 false

def bitEv (a : BB) (b : Bool × Bool) : List Ev :=
  (if a.det == 5 && !b.2 && b.1 then [.start] else []) ++ (if a.det == 6 && b.2 then [.fin] else []) ++
  (if bitPut a b then [.byte (bitsVal ((shiftIn a.sr b.1).take 8).reverse)] else [])

/-! ### bit level -/

def bitRun : BB → List (Bool × Bool) → BB
  | a, [] => a
  | a, b :: bs => bitRun (bitStep a b) bs

def bitEvs : BB → List (Bool × Bool) → List Ev
  | _, [] => []
  | a, b :: bs => bitEv a b ++ bitEvs (bitStep a b) bs

/-- (`o_pkt_start`, `o_receive_error`) per cycle -/
def bitSE (a : BB) (b : Bool × Bool) : List (Bool × Bool) :=
  [(a.det == 5 && !b.2 && b.1, a.err), (false, if a.det == 5 && !b.2 && b.1 then false else a.err),
   (false, (bitStep a b).err), (false, (bitStep a b).err)]

def bitSEs : BB → List (Bool × Bool) → List (Bool × Bool)
  | _, [] => []
  | a, b :: bs => bitSE a b ++ bitSEs (bitStep a b) bs

def lastD : Bool → List (Bool × Bool) → Bool
  | bd, [] => bd
  | _, b :: bs => lastD b.1 bs

def seOf (o : Out) : Bool × Bool := (o.pktStart, o.rxErr)

theorem bitRun_append (x y : List (Bool × Bool)) : ∀ a, bitRun a (x ++ y) = bitRun (bitRun a x) y := by
  induction x with
  | nil => intro a; rfl
  | cons b bs ih => intro a; simp only [List.cons_append, bitRun, ih]

theorem bitEvs_append (x y : List (Bool × Bool)) : ∀ a, bitEvs a (x ++ y) = bitEvs a x ++ bitEvs (bitRun a x) y := by
  induction x with
  | nil => intro a; rfl
  | cons b bs ih => intro a; simp only [List.cons_append, bitRun, bitEvs, ih, List.append_assoc]

theorem bitSEs_append (x y : List (Bool × Bool)) : ∀ a, bitSEs a (x ++ y) = bitSEs a x ++ bitSEs (bitRun a x) y := by
  induction x with
  | nil => intro a; rfl
  | cons b bs ih => intro a; simp only [List.cons_append, bitRun, bitSEs, ih, List.append_assoc]

/-- does `o_receive_error` show in a cycle after one with `o_pkt_start`?  (`st` = a start has been seen) -/
def errAfter : Bool → List (Bool × Bool) → Bool
  | _, [] => false
  | st, (s, e) :: xs => (st && e) || errAfter (st || s) xs

theorem errAfter_append (x y : List (Bool × Bool)) : ∀ st,
    errAfter st (x ++ y) = (errAfter st x || errAfter (st || x.any (·.1)) y) := by
  induction x with
  | nil => intro st; simp [errAfter]
  | cons b bs ih => intro st; obtain ⟨s, e⟩ := b; simp [errAfter, ih, Bool.or_assoc]

theorem errAfter_clean (x : List (Bool × Bool)) (h : ∀ p ∈ x, p.2 = false) : ∀ st, errAfter st x = false := by
  induction x with
  | nil => intro st; rfl
  | cons b bs ih =>
    intro st; obtain ⟨s, e⟩ := b
    have he : e = false := h (s, e) (by simp)
    simp [errAfter, he, ih (fun p hp => h p (by simp [hp]))]

theorem errAfter_nostart (x : List (Bool × Bool)) (h : ∀ p ∈ x, p.1 = false) : errAfter false x = false := by
  induction x with
  | nil => rfl
  | cons b bs ih =>
    obtain ⟨s, e⟩ := b
    have hs : s = false := h (s, e) (by simp)
    simp [errAfter, hs, ih (fun p hp => h p (by simp [hp]))]

/-! #### SYNC -/

def fbits (bits : List Bool) : List (Bool × Bool) := bits.map (·, false)

theorem sync_run (c : Nat) (hc : c ≤ 6) (e : Bool) :
    bitRun ⟨0, c, srInit, e⟩ (fbits syncBits) = ⟨6, 1, srInit, false⟩ ∧
    bitEvs ⟨0, c, srInit, e⟩ (fbits syncBits) = [.start] ∧
    errAfter false (bitSEs ⟨0, c, srInit, e⟩ (fbits syncBits)) = false ∧
    (bitSEs ⟨0, c, srInit, e⟩ (fbits syncBits)).any (·.1) = true := by
  have key : ∀ (c : Fin 7) (e : Bool),
      bitRun ⟨0, c.val, srInit, e⟩ (fbits syncBits) = ⟨6, 1, srInit, false⟩ ∧
      bitEvs ⟨0, c.val, srInit, e⟩ (fbits syncBits) = [.start] ∧
      errAfter false (bitSEs ⟨0, c.val, srInit, e⟩ (fbits syncBits)) = false ∧
      (bitSEs ⟨0, c.val, srInit, e⟩ (fbits syncBits)).any (·.1) = true := by decide
  exact key ⟨c, by omega⟩ e

/-! #### data: un-stuffing, then the shifter -/

/-- the shifter alone -/
def shRun : List Bool → List Bool → List Bool
  | sr, [] => sr
  | sr, d :: ds => shRun (shiftIn sr d) ds

def shEvs : List Bool → List Bool → List Ev
  | _, [] => []
  | sr, d :: ds =>
    (if sr.getD 7 false && !sr.getD 8 false then [Ev.byte (bitsVal ((shiftIn sr d).take 8).reverse)] else []) ++
      shEvs (shiftIn sr d) ds

/-- a data bit in PKT_ACTIVE outside the stall state -/
theorem data_step (n : Nat) (sr : List Bool) (b : Bool) (hn : n ≤ 5) :
    bitStep ⟨6, n, sr, false⟩ (b, false) = ⟨6, if b then n + 1 else 0, shiftIn sr b, false⟩ ∧
    bitEv ⟨6, n, sr, false⟩ (b, false) = shEvs sr [b] ∧
    ∀ p ∈ bitSE ⟨6, n, sr, false⟩ (b, false), p = (false, false) := by
  have h6 : (n == 6) = false := by simp; omega
  have hs : bitStep ⟨6, n, sr, false⟩ (b, false) = ⟨6, if b then n + 1 else 0, shiftIn sr b, false⟩ := by
    simp [bitStep, detStep, bsStep, h6]
  refine ⟨hs, by simp [bitEv, bitPut, shEvs, h6], ?_⟩
  rw [bitSE, hs]
  simp

/-- the stuffed 0 after six 1s -/
theorem stall_step (sr : List Bool) :
    bitStep ⟨6, 6, sr, false⟩ (false, false) = ⟨6, 0, sr, false⟩ ∧ bitEv ⟨6, 6, sr, false⟩ (false, false) = [] ∧
    ∀ p ∈ bitSE ⟨6, 6, sr, false⟩ (false, false), p = (false, false) := by
  have hs : bitStep ⟨6, 6, sr, false⟩ (false, false) = ⟨6, 0, sr, false⟩ := by simp [bitStep, detStep, bsStep]
  refine ⟨hs, by simp [bitEv, bitPut], ?_⟩
  rw [bitSE, hs]
  simp

/-- any data bit in PKT_ACTIVE: the detector stays, the counter steps -/
theorem active_step (n : Nat) (sr : List Bool) (e b : Bool) :
    bitStep ⟨6, n, sr, e⟩ (b, false) =
      ⟨6, bsStep n b, (bitStep ⟨6, n, sr, e⟩ (b, false)).sr, (bitStep ⟨6, n, sr, e⟩ (b, false)).err⟩ := by
  simp [bitStep, detStep]

theorem shEvs_cons (sr : List Bool) (b : Bool) (bits : List Bool) :
    shEvs sr (b :: bits) = shEvs sr [b] ++ shEvs (shiftIn sr b) bits := by
  simp only [shEvs, List.append_nil]

/-- **the back end in PKT_ACTIVE is `FsCodec.unstuff`, bit by bit** (`n` = the bit-stuff counter = `unstuff`'s): whatever
bit stream `unstuff` accepts is shifted in as what `unstuff` returns, with no error. -/
theorem unstuff_run (xs : List Bool) : ∀ (n : Nat) (sr : List Bool) (bits : List Bool), n ≤ 6 →
    unstuff n xs = some bits →
    (∃ n', n' ≤ 6 ∧ bitRun ⟨6, n, sr, false⟩ (fbits xs) = ⟨6, n', shRun sr bits, false⟩) ∧
    bitEvs ⟨6, n, sr, false⟩ (fbits xs) = shEvs sr bits ∧
    (∀ p ∈ bitSEs ⟨6, n, sr, false⟩ (fbits xs), p = (false, false)) := by
  induction xs with
  | nil =>
    intro n sr bits hn h
    cases Option.some.inj h
    exact ⟨⟨n, hn, rfl⟩, rfl, by simp [fbits, bitSEs]⟩
  | cons b xs ih =>
    intro n sr bits hn h
    rw [unstuff] at h
    by_cases h6 : n = 6
    · -- the counter at six: a 1 is the violation, a 0 is the stuffed bit and is dropped
      subst h6
      cases b with
      | true => simp at h
      | false =>
        obtain ⟨t1, t2, t3⟩ := stall_step sr
        obtain ⟨i1, i2, i3⟩ := ih 0 sr bits (by omega) (by simpa using h)
        simp only [fbits, List.map, bitRun, bitEvs, bitSEs, t1, t2, List.nil_append]
        exact ⟨i1, i2, fun p hp => (List.mem_append.mp hp).elim (t3 p) (i3 p)⟩
    · obtain ⟨s1, s2, s3⟩ := data_step n sr b (by omega)
      have h' : (unstuff (if b then n + 1 else 0) xs).map (b :: ·) = some bits := by
        cases b <;> simpa [h6] using h
      obtain ⟨bits', hb', rfl⟩ := Option.map_eq_some_iff.mp h'
      obtain ⟨i1, i2, i3⟩ := ih _ (shiftIn sr b) bits' (by split <;> omega) hb'
      simp only [fbits, List.map, bitRun, bitEvs, bitSEs, s1, s2, shRun, shEvs_cons sr b bits']
      exact ⟨i1, by rw [← i2]; rfl, fun p hp => (List.mem_append.mp hp).elim (s3 p) (i3 p)⟩

/-- the shift register at a byte boundary: just reset, or full (sentinel in bit 8) -/
def Aligned (sr : List Bool) : Prop := sr.getD 8 false = true ∨ sr = srInit

theorem shiftIn_aligned (sr : List Bool) (h : Aligned sr) (d : Bool) :
    shiftIn sr d = [d, true, false, false, false, false, false, false, false] ∧
    (sr.getD 7 false && !sr.getD 8 false) = false := by
  rcases h with h | h
  · have h' : sr[8]?.getD false = true := by simpa [List.getD] using h
    simp [shiftIn, h']
  · subst h; cases d <;> decide

theorem shifter_bytes (bytes : List Nat) (hb : ∀ b ∈ bytes, b < 256) : ∀ sr, Aligned sr →
    Aligned (shRun sr (bitsOf bytes)) ∧ shEvs sr (bitsOf bytes) = bytes.map Ev.byte := by
  induction bytes with
  | nil => intro sr h; exact ⟨h, rfl⟩
  | cons b bs ih =>
    intro sr h
    have hlt : b < 256 := hb b (by simp)
    have hv := bitsVal_byteBits b hlt
    rw [byteBits_eq] at hv
    obtain ⟨h1, h2⟩ := shiftIn_aligned sr h (b.testBit 0)
    have hal : Aligned [b.testBit 7, b.testBit 6, b.testBit 5, b.testBit 4, b.testBit 3, b.testBit 2, b.testBit 1,
        b.testBit 0, true] := Or.inl rfl
    obtain ⟨i1, i2⟩ := ih (fun x hx => hb x (by simp [hx])) _ hal
    simp only [bitsOf, byteBits_eq, List.cons_append, List.nil_append, shRun, shEvs, h1, h2]
    simp only [shiftIn, List.getD_cons_succ, List.getD_cons_zero, List.take, Bool.false_eq_true,
      if_false, Bool.and_self, Bool.not_false, Bool.false_and, List.nil_append, List.reverse_cons,
      List.reverse_nil, List.cons_append, if_true, List.map]
    refine ⟨i1, ?_⟩
    rw [i2]
    simp only [List.getD] at *
    simp only [hv]

/-! #### outside of a packet; end of packet -/

theorem bsStep_le (c : Nat) (d : Bool) (h : c ≤ 6) : bsStep c d ≤ 6 := by
  unfold bsStep; split <;> (try split) <;> simp_all <;> omega

/-- a bit while the detector is in D0..D4 -/
theorem inactive_step (det c : Nat) (sr : List Bool) (e : Bool) (b : Bool × Bool) (hd : det ≤ 4) :
    bitStep ⟨det, c, sr, e⟩ b = ⟨detStep det b.1 b.2, bsStep c b.1, sr, e⟩ ∧
    bitEv ⟨det, c, sr, e⟩ b = [] ∧
    bitSE ⟨det, c, sr, e⟩ b = [(false, e), (false, e), (false, e), (false, e)] := by
  have h6 : (det == 6) = false := by simp; omega
  have h5 : (det == 5) = false := by simp; omega
  have hs : bitStep ⟨det, c, sr, e⟩ b = ⟨detStep det b.1 b.2, bsStep c b.1, sr, e⟩ := by
    simp [bitStep, h6, h5]
  refine ⟨hs, by simp [bitEv, bitPut, h6, h5], ?_⟩
  simp [bitSE, hs, h5]

/-- an idle 1 (J after J) while the detector is in D0 or D1 -/
theorem idle_step (det c : Nat) (sr : List Bool) (e : Bool) (hd : det ≤ 1) :
    bitStep ⟨det, c, sr, e⟩ (true, false) = ⟨0, bsStep c true, sr, e⟩ ∧
    bitEv ⟨det, c, sr, e⟩ (true, false) = [] ∧
    bitSE ⟨det, c, sr, e⟩ (true, false) = [(false, e), (false, e), (false, e), (false, e)] := by
  obtain ⟨h1, h2, h3⟩ := inactive_step det c sr e (true, false) (by omega)
  have hdet : detStep det true false = 0 := by
    have : det = 0 ∨ det = 1 := by omega
    rcases this with h | h <;> subst h <;> rfl
  exact ⟨by simp only [h1, hdet], h2, h3⟩

theorem idle_bits (k : Nat) : ∀ (det c : Nat) (e : Bool), det ≤ 1 → c ≤ 6 →
    (∃ c', c' ≤ 6 ∧ bitRun ⟨det, c, srInit, e⟩ (List.replicate (k + 1) (true, false)) = ⟨0, c', srInit, e⟩) ∧
    bitEvs ⟨det, c, srInit, e⟩ (List.replicate (k + 1) (true, false)) = [] ∧
    (∀ p ∈ bitSEs ⟨det, c, srInit, e⟩ (List.replicate (k + 1) (true, false)), p = (false, e)) := by
  induction k with
  | zero =>
    intro det c e hd hc
    obtain ⟨h1, h2, h3⟩ := idle_step det c srInit e hd
    refine ⟨⟨bsStep c true, bsStep_le c true hc, ?_⟩, ?_, ?_⟩
    · simp only [List.replicate, bitRun, h1]
    · simp only [List.replicate, bitEvs, h2, List.append_nil]
    · simp only [List.replicate, bitSEs, h3, List.append_nil]
      intro p hp; simp at hp; exact hp
  | succ k ih =>
    intro det c e hd hc
    obtain ⟨h1, h2, h3⟩ := idle_step det c srInit e hd
    obtain ⟨⟨c', hc', i1⟩, i2, i3⟩ := ih 0 (bsStep c true) e (by omega) (bsStep_le c true hc)
    refine ⟨⟨c', hc', ?_⟩, ?_, ?_⟩
    · rw [List.replicate_succ]; simp only [bitRun, h1]; exact i1
    · rw [List.replicate_succ]; simp only [bitEvs, h1, h2, List.nil_append]; exact i2
    · rw [List.replicate_succ]; simp only [bitSEs, h1, h3]
      intro p hp
      rcases List.mem_append.mp hp with hp | hp
      · simp at hp; exact hp
      · exact i3 p hp

/-- the first SE0 in PKT_ACTIVE -/
theorem eop_step (n : Nat) (sr : List Bool) (x e : Bool) :
    bitStep ⟨6, n, sr, e⟩ (x, true) = ⟨0, bsStep n x, srInit, e⟩ := by
  simp [bitStep, detStep]

/-- **end of packet**: SE0 SE0 J after the last data bit (`x` = whatever the NRZI decoder makes of the first SE0) -/
theorem eop_run (n : Nat) (sr : List Bool) (x e : Bool) (hn : n ≤ 6) :
    (∃ c', c' ≤ 6 ∧ bitRun ⟨6, n, sr, e⟩ [(x, true), (true, true), (false, false)] = ⟨1, c', srInit, e⟩) ∧
    bitEvs ⟨6, n, sr, e⟩ [(x, true), (true, true), (false, false)] = [.fin] ∧
    (∀ p ∈ bitSEs ⟨6, n, sr, e⟩ [(x, true), (true, true), (false, false)], p = (false, e)) := by
  have hs := eop_step n sr x e
  have hc1 := bsStep_le n x hn
  obtain ⟨a1, a2, a3⟩ := inactive_step 0 (bsStep n x) srInit e (true, true) (by omega)
  have hc2 := bsStep_le _ true hc1
  obtain ⟨b1, b2, b3⟩ := inactive_step 0 (bsStep (bsStep n x) true) srInit e (false, false) (by omega)
  have hd1 : detStep 0 true true = 0 := rfl
  have hd2 : detStep 0 false false = 1 := rfl
  refine ⟨⟨_, bsStep_le _ false hc2, ?_⟩, ?_, ?_⟩
  · simp only [bitRun, hs, a1, b1, hd1, hd2]
  · simp only [bitEvs, hs, a1, a2, b2, hd1, List.append_nil]
    simp [bitEv, bitPut]
  · simp only [bitSEs, hs, a1, a3, b3, hd1, List.append_nil]
    intro p hp
    rcases List.mem_append.mp hp with hp | hp
    · simp [bitSE, hs] at hp; exact hp
    · simp at hp; exact hp

/-! #### a violation -/

/-- in PKT_ACTIVE the error latch is set by exactly the streams `unstuff` rejects (and stays set) -/
theorem active_err (xs : List Bool) : ∀ (n : Nat) (sr : List Bool) (e : Bool), n ≤ 6 →
    ∃ n' sr', n' ≤ 6 ∧ bitRun ⟨6, n, sr, e⟩ (fbits xs) = ⟨6, n', sr', e || (unstuff n xs).isNone⟩ := by
  induction xs with
  | nil => intro n sr e hn; exact ⟨n, sr, hn, by simp [fbits, bitRun, unstuff]⟩
  | cons b xs ih =>
    intro n sr e hn
    have hs : bitStep ⟨6, n, sr, e⟩ (b, false) =
        ⟨6, bsStep n b, (bitStep ⟨6, n, sr, e⟩ (b, false)).sr, e || (n == 6 && b)⟩ := by
      rw [active_step]; by_cases h6 : n = 6 <;> cases e <;> cases b <;> simp [bitStep, h6]
    obtain ⟨n', sr', hn', h⟩ := ih (bsStep n b) (bitStep ⟨6, n, sr, e⟩ (b, false)).sr (e || (n == 6 && b)) (bsStep_le n b hn)
    refine ⟨n', sr', hn', ?_⟩
    simp only [fbits, List.map, bitRun] at h ⊢
    rw [hs, h, unstuff]
    by_cases h6 : n = 6
    · subst h6; cases b <;> simp [bsStep]
    · have : (n == 6) = false := by simpa using h6
      cases b <;> simp [bsStep, h6, this]

theorem bad_run (pre post : List Bool) : ∃ n sr, n ≤ 6 ∧
    bitRun ⟨6, 1, srInit, false⟩ (fbits (pre ++ List.replicate 7 true ++ post)) = ⟨6, n, sr, true⟩ := by
  obtain ⟨n, sr, hn, h⟩ := active_err (pre ++ List.replicate 7 true ++ post) 1 srInit false (by omega)
  rw [unstuff_seven_ones pre post 1 (by omega)] at h
  exact ⟨n, sr, hn, h⟩

/-! ### one bit, cycle by cycle -/

/-- the back end one cycle after the strobe of the bit `(d, z)`, from the quiet state of `a`: detector and counter have
taken their bit-level step and the shifter has been reset by an end of packet; the bit is shifted in, and a seventh 1
latched as an error, in the next cycle -/
def strobed (a : BB) (d z : Bool) : Back :=
  { det := detStep a.det d z, bs := bsStep a.bs d, bsData := d, bsStall := a.bs == 6, bsError := a.bs == 6 && d,
    sr := if a.det == 6 && z then srInit else a.sr, oPut := false, pastActive := a.det == 6 && !z,
    rxErr := if a.det == 5 && !z && d then false else a.err }

theorem conc_strobe (a : BB) (bd d z : Bool) : (conc a bd).next true d z = strobed a d z := by
  simp [conc, strobed, Back.next, Back.nextDet, Back.nextBs, Back.dropBit, Back.nextSr, Back.shValid, Back.pktEnd,
    Back.pktActive, Back.pktStart, detStep, bsStep]

/-- one cycle after `strobed` the back end is quiet again, but for `o_put` -/
theorem strobed_next (a : BB) (d z : Bool) :
    (strobed a d z).next false d z =
      { conc (bitStep a (d, z)) d with oPut := bitPut a (d, z) } := by
  cases z <;> simp [conc, strobed, Back.next, Back.nextDet, Back.nextBs, Back.dropBit, Back.nextSr, Back.shValid,
    Back.pktEnd, Back.pktActive, Back.pktStart, Back.srFull, bitStep, shiftIn, bitPut]
  simp only [Bool.and_comm, Bool.and_assoc]

theorem conc_hold (a : BB) (d z p : Bool) : ({ conc a d with oPut := p } : Back).next false d z = conc a d := by
  simp [conc, Back.next, Back.nextDet, Back.nextBs, Back.dropBit, Back.nextSr, Back.shValid, Back.pktEnd,
    Back.pktActive, Back.pktStart]

/-- a put shows the shift register with the bit shifted in -/
theorem bitStep_sr (a : BB) (b : Bool × Bool) (h : bitPut a b = true) : (bitStep a b).sr = shiftIn a.sr b.1 := by
  simp only [bitPut, Bool.and_eq_true] at h
  simp [bitStep, h.1.1]

/-- what the back end puts out from one strobe to the next: the cycle of the strobe, the cycle after it, the cycle of the put,
quiet cycles -/
def outBlock (n : Nat) (a : BB) (b : Bool × Bool) : List Out :=
  [(conc a b.1).out true b.1 b.2, (strobed a b.1 b.2).out false b.1 b.2,
    ({ conc (bitStep a b) b.1 with oPut := bitPut a b } : Back).out false b.1 b.2] ++
  List.replicate (n - 3) ((conc (bitStep a b) b.1).out false b.1 b.2)

theorem quiet_outs (a : BB) (d z : Bool) (m : Nat) :
    runB (conc a d) (List.replicate m (false, d, z)) = conc a d ∧
    outsB (conc a d) (List.replicate m (false, d, z)) = List.replicate m ((conc a d).out false d z) := by
  have hstep : (conc a d).next false d z = conc a d := conc_hold a d z false
  induction m with
  | zero => exact ⟨rfl, rfl⟩
  | succ m ih => simp only [List.replicate_succ, runB, outsB, hstep, ih, and_self]

/-- the spacing of the strobes does not matter: three cycles after a strobe the back end is quiet (`conc`) again -/
theorem block_outs (a : BB) (bd : Bool) (b : Bool × Bool) (n : Nat) (hn : 3 ≤ n) :
    runB (conc a bd) (vblock n b) = conc (bitStep a b) b.1 ∧ outsB (conc a bd) (vblock n b) = outBlock n a b := by
  obtain ⟨q1, q2⟩ := quiet_outs (bitStep a b) b.1 b.2 (n - 3)
  obtain ⟨d, z⟩ := b
  rw [vblock_split n hn, runB_append, outsB_append]
  simp only [runB, outsB, conc_strobe, strobed_next, conc_hold, q1, q2, outBlock]
  exact ⟨trivial, rfl⟩

theorem events_replicate (m : Nat) (o : Out) (h : evOf o = []) : events (List.replicate m o) = [] := by
  induction m with
  | zero => rfl
  | succ m ih => simp only [List.replicate_succ, events, h, ih, List.append_nil]

theorem outBlock_events (n : Nat) (a : BB) (b : Bool × Bool) : events (outBlock n a b) = bitEv a b := by
  obtain ⟨d, z⟩ := b
  rw [outBlock, events_append, events_replicate _ _ (by simp [evOf, Back.out, Back.pktStart, Back.pktEnd, conc])]
  simp [events, evOf, bitEv, Back.out, Back.pktStart, Back.pktEnd, Back.payData, conc, strobed]
  split
  · next h => rw [bitStep_sr a (d, z) h]
  · rfl

/-- (`o_pkt_start`, `o_receive_error`) in the `n` cycles from one strobe to the next -/
def bitSEn (n : Nat) (a : BB) (b : Bool × Bool) : List (Bool × Bool) :=
  [(a.det == 5 && !b.2 && b.1, a.err), (false, if a.det == 5 && !b.2 && b.1 then false else a.err)] ++
    List.replicate (n - 2) (false, (bitStep a b).err)

theorem bitSEn_four (a : BB) (b : Bool × Bool) : bitSEn 4 a b = bitSE a b := rfl

theorem outBlock_se (n : Nat) (hn : 3 ≤ n) (a : BB) (b : Bool × Bool) : (outBlock n a b).map seOf = bitSEn n a b := by
  obtain ⟨m, rfl⟩ : ∃ m, n = m + 3 := ⟨n - 3, by omega⟩
  obtain ⟨d, z⟩ := b
  simp [outBlock, bitSEn, seOf, Back.out, Back.pktStart, Back.pktEnd, conc, strobed, List.replicate_succ]

def bitSEsD : BB → List (Nat × (Bool × Bool)) → List (Bool × Bool)
  | _, [] => []
  | a, (n, b) :: l => bitSEn n a b ++ bitSEsD (bitStep a b) l

/-- **the back end under drift is the bit-level machine** -/
theorem back_vblocks (l : List (Nat × (Bool × Bool))) (hl : ∀ p ∈ l, 3 ≤ p.1) : ∀ (a : BB) (bd : Bool),
    runB (conc a bd) (vblocks l) = conc (bitRun a (l.map (·.2))) (lastD bd (l.map (·.2))) ∧
    events (outsB (conc a bd) (vblocks l)) = bitEvs a (l.map (·.2)) ∧
    (outsB (conc a bd) (vblocks l)).map seOf = bitSEsD a l := by
  induction l with
  | nil => intro a bd; exact ⟨rfl, rfl, rfl⟩
  | cons p l ih =>
    intro a bd
    obtain ⟨n, b⟩ := p
    have hn : 3 ≤ n := hl (n, b) (by simp)
    obtain ⟨h1, h2⟩ := block_outs a bd b n hn
    obtain ⟨i1, i2, i3⟩ := ih (fun p hp => hl p (by simp [hp])) (bitStep a b) b.1
    simp only [vblocks, runB_append, outsB_append, events_append, List.map_append, h1, h2, outBlock_events,
      outBlock_se n hn, i1, i2, i3, List.map, bitRun, bitEvs, bitSEsD, lastD]
    exact ⟨trivial, trivial, trivial⟩

/-! ### `errAfter` does not see the repetition -/

theorem errAfter_hold (m : Nat) (e st : Bool) : errAfter st (List.replicate (m + 1) (false, e)) = (st && e) := by
  induction m with
  | zero => simp [errAfter]
  | succ m ih => rw [List.replicate_succ]; simp only [errAfter, ih, Bool.or_false, Bool.or_self]

theorem bitSEn_errAfter (n : Nat) (hn : 3 ≤ n) (a : BB) (b : Bool × Bool) (st : Bool) :
    errAfter st (bitSEn n a b) = errAfter st (bitSE a b) ∧ (bitSEn n a b).any (·.1) = (bitSE a b).any (·.1) := by
  obtain ⟨m, rfl⟩ : ∃ m, n = m + 3 := ⟨n - 3, by omega⟩
  rw [← bitSEn_four a b]
  simp only [bitSEn, show m + 3 - 2 = m + 1 by omega, show 4 - 2 = 1 + 1 by omega]
  refine ⟨?_, ?_⟩
  · simp only [List.cons_append, List.nil_append, errAfter, errAfter_hold]
  · simp only [List.any_append, List.any_cons, List.any_nil, List.any_replicate]
    simp

theorem bitSEsD_errAfter (l : List (Nat × (Bool × Bool))) (hl : ∀ p ∈ l, 3 ≤ p.1) : ∀ (a : BB) (st : Bool),
    errAfter st (bitSEsD a l) = errAfter st (bitSEs a (l.map (·.2))) := by
  induction l with
  | nil => intro a st; rfl
  | cons p l ih =>
    intro a st
    obtain ⟨n, b⟩ := p
    obtain ⟨h1, h2⟩ := bitSEn_errAfter n (hl (n, b) (by simp)) a b st
    simp only [bitSEsD, List.map, bitSEs, errAfter_append, h1, h2, ih (fun p hp => hl p (by simp [hp]))]

/-! ### the per-cycle trace of a block stream -/

theorem bitSEsD_append (x y : List (Nat × (Bool × Bool))) : ∀ a,
    bitSEsD a (x ++ y) = bitSEsD a x ++ bitSEsD (bitRun a (x.map (·.2))) y := by
  induction x with
  | nil => intro a; rfl
  | cons p x ih => intro a; obtain ⟨n, b⟩ := p; simp only [List.cons_append, bitSEsD, List.map, bitRun, ih, List.append_assoc]

theorem bitSEsD_length (l : List (Nat × (Bool × Bool))) (hl : ∀ p ∈ l, 3 ≤ p.1) : ∀ a, (bitSEsD a l).length = lsum l := by
  induction l with
  | nil => intro a; rfl
  | cons p l ih =>
    intro a
    obtain ⟨n, b⟩ := p
    have hn : 3 ≤ n := hl (n, b) (by simp)
    simp only [bitSEsD, List.length_append, ih (fun p hp => hl p (by simp [hp])), lsum, bitSEn, List.length_cons,
      List.length_nil, List.length_replicate]
    omega

theorem bitSEsD_sub (l : List (Nat × (Bool × Bool))) : ∀ a, ∀ p ∈ bitSEsD a l, p ∈ bitSEs a (l.map (·.2)) := by
  induction l with
  | nil => intro a p hp; simp [bitSEsD] at hp
  | cons q l ih =>
    intro a p hp
    obtain ⟨n, b⟩ := q
    simp only [bitSEsD, List.mem_append] at hp
    simp only [List.map, bitSEs, List.mem_append]
    rcases hp with hp | hp
    · left
      simp only [bitSEn, List.mem_append, List.mem_cons, List.mem_replicate, List.not_mem_nil, or_false] at hp
      simp only [bitSE, List.mem_cons, List.not_mem_nil, or_false]
      rcases hp with (hp | hp) | hp
      · exact Or.inl hp
      · exact Or.inr (Or.inl hp)
      · exact Or.inr (Or.inr (Or.inl hp.2))
    · right; exact ih _ p hp

theorem bitSEsD_const (v : Bool) (l : List (Nat × (Bool × Bool))) (hl : ∀ p ∈ l, 3 ≤ p.1) (a : BB)
    (h : ∀ p ∈ bitSEs a (l.map (·.2)), p = (false, v)) : (bitSEsD a l).map (·.2) = List.replicate (lsum l) v := by
  apply List.eq_replicate_iff.mpr
  refine ⟨by simp [bitSEsD_length l hl a], ?_⟩
  intro x hx
  obtain ⟨p, hp, rfl⟩ := List.mem_map.mp hx
  rw [h p (bitSEsD_sub l a p hp)]

end LunaVerif.FsRx
