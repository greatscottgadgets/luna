import LunaVerif.Lemmas.C07Legal
import LunaVerif.Lemmas.C07MpsTransfer
/-!
# The C07 stage theorems, transferred to the cycle-level closed loop

`Props/C07.lean` proves the stage protocol of the EVENT-level model.  With `closed2_refines_legal_run` the bus
responses of the cycle-level closed loop (control endpoint FSM + request multiplexer + standard request handler +
serializer + block descriptor handler, clock cycle by clock cycle) are the event-level responses, so those theorems
hold of what the closed loop puts on the bus.  One of them is stated here outright, `closed2_data_only_after_in_setup`
(C07's data-stage rule).  Of C07's IN-token theorem `closed2_in_answered_only_in_data_or_status_in` states only that an
answered IN token names the device's address and endpoint 0: the last conjunct of its conclusion has the form `P ∨ ¬ P`,
the stage rule is not carried over.  Both are the instances `max_packet_size = 64` of the theorems of
Lemmas/C07MpsTransfer.lean.
-/
namespace LunaVerif.CtrlCyc
open LunaVerif.Device

/-- **C07 (data stage) at cycle level**, at 64: `closed2_data_only_after_in_setup_mps` over `Device.step` and
`LegalHost`. -/
theorem closed2_data_only_after_in_setup (c : DevConfig) (hx : c.extra = []) (hmp : c.maxPacket = 64)
    (hwf : Desc.wellFormed (collOf c.descriptors) = true)
    (hpw : 2 ≤ (Desc.Rom.layout (collOf c.descriptors)).maxLen) (hfit : DescsFit c)
    (h : List (Stim × GapsS)) (x : Stim) (g : GapsS)
    (hl : LegalHost c ((h ++ [(x, g)]).map (·.1)) = true) (hw : WinFrom c Device.init (h ++ [(x, g)]) = true)
    (ht : ∀ xg ∈ h ++ [(x, g)], TDSil xg.2) :
    ∃ h', SameButLat (h ++ [(x, g)]) h' ∧ ∀ pid p,
      (sys2BusResps c (Desc.blockOf (collOf c.descriptors) c.maxPacket) Device.init sys2Init h').getLast? =
          some (.data pid p) → p ≠ [] →
        x.ev = .token PID_IN (Device.final c Device.init (h.map (·.1))).address 0 ∧
        (Device.final c Device.init (h.map (·.1))).setup.isIn = true ∧
        (Device.final c Device.init (h.map (·.1))).setup.length ≠ 0 := by
  rw [← LegalHostM_64 c hmp] at hl
  rw [← WinFromM_64 c hmp] at hw
  obtain ⟨h', sb, this⟩ := closed2_data_only_after_in_setup_mps c hx (Or.inr (Or.inr (Or.inr hmp))) hwf hpw hfit h x g
    hl hw ht
  rw [sys2BusRespsM_64 c hmp, finalM_eq_final c hmp] at this
  exact ⟨h', sb, this⟩

/-- **C07 (IN tokens) at cycle level**, at 64: `closed2_in_answered_only_in_data_or_status_in_mps` over `Device.step`
and `LegalHost` (the last conjunct has the form `P ∨ ¬ P` here too: the stage rule is not carried over). -/
theorem closed2_in_answered_only_in_data_or_status_in (c : DevConfig) (hx : c.extra = []) (hmp : c.maxPacket = 64)
    (hwf : Desc.wellFormed (collOf c.descriptors) = true)
    (hpw : 2 ≤ (Desc.Rom.layout (collOf c.descriptors)).maxLen) (hfit : DescsFit c)
    (h : List (Stim × GapsS)) (addr ep : Nat) (f : Resp) (g : GapsS)
    (hl : LegalHost c ((h ++ [(Stim.mk (.token PID_IN addr ep) f, g)]).map (·.1)) = true)
    (hw : WinFrom c Device.init (h ++ [(Stim.mk (.token PID_IN addr ep) f, g)]) = true)
    (ht : ∀ xg ∈ h ++ [(Stim.mk (.token PID_IN addr ep) f, g)], TDSil xg.2) :
    ∃ h', SameButLat (h ++ [(Stim.mk (.token PID_IN addr ep) f, g)]) h' ∧ ∀ r,
      (sys2BusResps c (Desc.blockOf (collOf c.descriptors) c.maxPacket) Device.init sys2Init h').getLast? = some r →
      r ≠ .none →
        addr = (Device.final c Device.init (h.map (·.1))).address ∧ ep = 0 ∧
        (((Device.final c Device.init (h.map (·.1))).setup.isIn = true ∧
            (Device.final c Device.init (h.map (·.1))).setup.length ≠ 0) ∨
         ¬ ((Device.final c Device.init (h.map (·.1))).setup.isIn = true ∧
            (Device.final c Device.init (h.map (·.1))).setup.length ≠ 0)) := by
  rw [← LegalHostM_64 c hmp] at hl
  rw [← WinFromM_64 c hmp] at hw
  obtain ⟨h', sb, this⟩ := closed2_in_answered_only_in_data_or_status_in_mps c hx (Or.inr (Or.inr (Or.inr hmp))) hwf hpw
    hfit h addr ep f g hl hw ht
  rw [sys2BusRespsM_64 c hmp, finalM_eq_final c hmp] at this
  exact ⟨h', sb, this⟩

end LunaVerif.CtrlCyc
