import LunaVerif.Model.Usb2.StreamOutEndpoint
import LunaVerif.Props.C18
/-!
# C13 — Bulk OUT endpoints ACK exactly the data they deliver   (one-step lemmas; history level: `Props/C13Stream.lean`)

"For any host sequence of OUT and PING transactions, including CRC-corrupted packets, retransmissions
with a repeated data toggle and any consumer back-pressure, the endpoint ACKs a packet only if its
payload has been (or, for a repeated toggle, already was) delivered, NAKs when it cannot take a whole
packet, and the output stream carries the payload of every newly accepted packet exactly once, in
order, while corrupted or NAKed packets contribute nothing. A byte is marked last iff it ends a short
packet and marked first iff it starts a transfer."

Three defects of the original code were confirmed by the monitor and repaired (two `fix:` commits):
ACK of an overflowed, already discarded packet when the response request came after the discard
(overflow was cleared by the discard); `first` missing after max-size packet + ZLP; `transfer_active`
following discarded packets.  The model is the repaired endpoint, co-simulated against the gateware.

What is proved here, for every state and every input of the cycle-level model:

* the handshake equations: ACK and NAK are exclusive (for a token not flagged OUT and PING at once: `ack_nak_exclusive`),
  are given only on a response request addressed to the endpoint, and say exactly what the registers say (`ack_implies_delivered_or_repeat_partial`,
  `nak_iff_cannot_take_partial`, `ping_ack_iff_space`);
* a packet is committed only without overflow and discarded otherwise; commit and discard are never
  requested together, reads are never discarded — so the FIFO is always driven inside the precondition
  of C18's `fifo_refines_queue` (`fifo_inputs_legal`), whatever the host does, as long as the boundary
  detector never reports a packet both complete and invalid;
* the overflow flag, once set by a lost byte, stays set until the next token (`overflow_sticky`), so the
  packet is discarded at its completion strobe (`overflowed_packet_discarded`) and NAKed at the
  response request (`overflowed_packet_naked`), however late that comes;
* `transfer_active` changes only when a packet with data is committed or a zero-length packet is
  accepted (`transfer_active_only_on_accept`).

The history-level theorems (`out_stream_exact`, `nak_iff_cannot_take`, `ack_implies_delivered_or_repeat`,
`last_iff_short_packet_end`, `first_iff_transfer_start`, for every `LegalHost` history) are in
`Props/C13Stream.lean` and `Props/C13Handshake.lean` (layers: `Lemmas/C13Host.lean` detector by phase,
`Lemmas/C13Write.lean` / `Lemmas/C13Fin.lean` write-side invariant, C18's `Rel` / `rel_step` for the FIFO).
The three counterexamples found on the original code are kernel-evaluated on the model below.
-/
namespace LunaVerif.StreamOutEndpoint
open LunaVerif

theorem ack_nak_exclusive (c : Config) (s : State) (i : In)
    (htok : ¬(i.tokIsOut = true ∧ i.tokIsPing = true)) :
    ¬((outOf c s i).ack = true ∧ (outOf c s i).nak = true) := by
  simp only [outOf, comb]
  grind

/-- Handshakes are only given in a response-request cycle of a transaction addressed to the endpoint. -/
theorem handshake_only_when_requested (c : Config) (s : State) (i : In)
    (h : (outOf c s i).ack = true ∨ (outOf c s i).nak = true) :
    (i.tokEp == c.epNum) = true ∧ ((i.tokIsOut = true ∧ i.rxReady = true) ∨ (i.tokIsPing = true ∧ i.tokReady = true)) := by
  simp only [outOf, comb] at h
  grind

/-- `ack_implies_delivered_or_repeat` as far as the code supports it: an ACK to a data packet is given
either for a repeated toggle (nothing is written: `okay_to_receive` is false) or when, *at the time of
the response request*, the toggle matches, the overflow flag is clear and no byte is being lost.
(That the payload is then delivered is the history-level `ack_implies_delivered_or_repeat`,
Props/C13Handshake.lean.) -/
theorem ack_implies_delivered_or_repeat_partial (c : Config) (s : State) (i : In)
    (hd : (comb c s i).dataRequested = true) (hp : (comb c s i).pingRequested = false)
    (ha : (outOf c s i).ack = true) :
    ((comb c s i).shouldSkip = true ∧ (comb c s i).writeEn = false) ∨
    ((comb c s i).pidMatch = true ∧ s.overflow = false ∧ (comb c s i).dataIsLost = false) := by
  simp only [outOf, comb] at hd hp ha ⊢
  grind

/-- `nak_iff_cannot_take` as the code has it: a data packet is NAKed iff its toggle is the expected one
and a byte of it was lost (overflow flag) or is being lost right now.  (PING: `ping_ack_iff_space`.) -/
theorem nak_iff_cannot_take_partial (c : Config) (s : State) (i : In)
    (hd : (comb c s i).dataRequested = true) (hp : (comb c s i).pingRequested = false) :
    (outOf c s i).nak = true ↔
      ((comb c s i).pidMatch = true ∧ (s.overflow = true ∨ (comb c s i).dataIsLost = true)) := by
  simp only [outOf, comb] at hd hp ⊢
  grind

theorem ack_eq_not_nak (c : Config) (s : State) (i : In)
    (hd : (comb c s i).dataRequested = true) (hp : (comb c s i).pingRequested = false) :
    (outOf c s i).ack = !(outOf c s i).nak := by
  simp only [outOf, comb] at hd hp ⊢
  grind

theorem ping_ack_iff_space (c : Config) (s : State) (i : In)
    (hp : (comb c s i).pingRequested = true) (hd : (comb c s i).dataRequested = false) :
    ((outOf c s i).ack = true ↔ c.mps ≤ TxnFifo.space c.depth s.fifo) ∧
    ((outOf c s i).nak = true ↔ ¬ c.mps ≤ TxnFifo.space c.depth s.fifo) := by
  simp only [outOf, comb] at hd hp ⊢
  grind

/-- Whatever the host and the consumer do, the FIFO is driven inside C18's precondition, provided the
boundary detector does not raise `complete_out` and `invalid_out` together (the receiver reports a
packet either valid or invalid). -/
theorem fifo_inputs_legal (c : Config) (s : State) (i : In)
    (hdet : ¬(s.det.out.completeOut = true ∧ s.det.out.invalidOut = true)) :
    TxnFifo.Legal (fifoIn c s i) := by
  simp only [TxnFifo.Legal, fifoIn, comb]
  grind

theorem rr_eq_cr_step (c : Config) (s : State) (i : In) (h : i.ready = false) :
    (step c s i).1.fifo.rr = (step c s i).1.fifo.cr := by
  simp [step, TxnFifo.step, fifoIn, h]

theorem commit_only_without_overflow (c : Config) (s : State) (i : In)
    (h : (comb c s i).writeCommit = true) : s.overflow = false := by
  simp only [comb] at h
  cases ho : s.overflow <;> simp_all

theorem overflow_sticky (c : Config) (s : State) (i : In) (h : s.overflow = true)
    (hn : i.tokNew = false) : (step c s i).1.overflow = true := by
  simp only [step, h, hn]
  cases (comb c s i).dataIsLost <;> simp

theorem overflowed_packet_discarded (c : Config) (s : State) (i : In) (h : s.overflow = true)
    (ht : (comb c s i).targeting = true) (hc : s.det.out.completeOut = true) :
    (comb c s i).writeDiscard = true ∧ (comb c s i).writeCommit = false := by
  simp only [comb] at ht ⊢
  grind

theorem overflowed_packet_naked (c : Config) (s : State) (i : In) (h : s.overflow = true)
    (hd : (comb c s i).dataRequested = true) (hp : (comb c s i).pingRequested = false)
    (hm : (comb c s i).pidMatch = true) : (outOf c s i).nak = true ∧ (outOf c s i).ack = false := by
  simp only [outOf, comb] at hd hp hm ⊢
  grind

theorem transfer_active_only_on_accept (c : Config) (s : State) (i : In)
    (h1 : ((comb c s i).writeCommit && s.packetHasData) = false)
    (h2 : ((comb c s i).dataRequested && (comb c s i).dataAccepted && !s.packetHasData) = false) :
    (step c s i).1.transferActive = s.transferActive := by
  simp only [step, h1]
  grind

/-- A lost byte sets the flag in the same cycle (it has priority over the clearing by a token strobe:
`If(data_is_lost)` … `Elif(tokenizer.new_token)`). -/
theorem lost_byte_sets_overflow (c : Config) (s : State) (i : In) (h : (comb c s i).dataIsLost = true) :
    (step c s i).1.overflow = true := by
  simp only [step, h]; simp

theorem lost_byte_never_committed_step (c : Config) (s : State) (i j : In)
    (h : (comb c s i).dataIsLost = true) : (comb c (step c s i).1 j).writeCommit = false := by
  have := lost_byte_sets_overflow c s i h
  cases hcc : (comb c (step c s i).1 j).writeCommit
  · rfl
  · have := commit_only_without_overflow c _ j hcc; simp_all

/-! ## Runs, the consumer's transfers, and the stimulus the C13 files build their examples from -/

def runOuts (c : Config) : State → List In → List Out
  | _, [] => []
  | s, i :: is => (step c s i).2 :: runOuts c (step c s i).1 is

theorem runOuts_length (c : Config) (s : State) (xs : List In) : (runOuts c s xs).length = xs.length := by
  induction xs generalizing s with
  | nil => rfl
  | cons x xs ih => simp [runOuts, ih]

/-- consumer-side transfers `(payload, first, last)` of a run with the given `ready` inputs -/
def transfers (ins : List In) (outs : List Out) : List (Nat × Bool × Bool) :=
  (ins.zip outs).filterMap (fun (i, o) => if i.ready && o.valid then some (o.data, o.first, o.last) else none)

def idleIn (ep pid : Nat) (ready : Bool) : In :=
  ⟨⟨false, false, 0, false, false⟩, false, pid, ep, true, false, false, false, false, ready⟩

/-- one OUT transaction with a CRC-valid data packet as the receiver presents it (dense): the token
strobe, the bytes, `rx_complete`, the response request `d ≥ 1` cycles later, four idle cycles -/
def outPacket (ep pid : Nat) (ready : Bool) (payload : List Nat) (d : Nat) : List In :=
  [{ idleIn ep pid ready with tokNew := true }, idleIn ep pid ready] ++
  payload.map (fun b => { idleIn ep pid ready with rx := ⟨true, true, b, false, false⟩ }) ++
  [{ idleIn ep pid ready with rx := ⟨true, false, 0, false, false⟩ },
   { idleIn ep pid ready with rx := ⟨false, false, 0, true, false⟩ }] ++
  List.replicate (d - 1) (idleIn ep pid ready) ++
  [{ idleIn ep pid ready with rxReady := true }] ++ List.replicate 4 (idleIn ep pid ready)

/-- a CRC-corrupted packet: `rx_invalid`, no response request -/
def badPacket (ep pid : Nat) (ready : Bool) (payload : List Nat) : List In :=
  [{ idleIn ep pid ready with tokNew := true }, idleIn ep pid ready] ++
  payload.map (fun b => { idleIn ep pid ready with rx := ⟨true, true, b, false, false⟩ }) ++
  [{ idleIn ep pid ready with rx := ⟨true, false, 0, false, false⟩ },
   { idleIn ep pid ready with rx := ⟨false, false, 0, false, true⟩ }] ++ List.replicate 6 (idleIn ep pid ready)

/-! ## The three counterexamples to the original code, on the repaired model (kernel-evaluated runs) -/

/-- mps 4, buffer 7: transfer 1 = max-size packet + ZLP, transfer 2 = a 2-byte packet: byte 21 starts
transfer 2 and is marked first (the original code delivered it with `first = false`). -/
theorem first_after_zlp_marked :
    let ins := outPacket 2 0 true [11, 12, 13, 14] 2 ++ outPacket 2 1 true [] 2 ++ outPacket 2 0 true [21, 22] 2
                 ++ List.replicate 6 (idleIn 2 1 true)
    transfers ins (runOuts ⟨2, 4, 7⟩ init ins)
      = [(11, true, false), (12, false, false), (13, false, false), (14, false, false),
         (21, true, false), (22, false, true)] := by decide +kernel

/-- A discarded packet does not move `transfer_active` (in the original code it did): after a complete 1-byte
transfer, a corrupted max-size packet is discarded and the next transfer's first byte keeps its mark. -/
theorem first_after_discarded_packet_marked :
    let ins := outPacket 2 0 true [11] 2 ++ badPacket 2 1 true [66, 79] ++ outPacket 2 1 true [21] 2
                 ++ List.replicate 6 (idleIn 2 0 true)
    transfers ins (runOuts ⟨2, 2, 3⟩ init ins) = [(11, true, true), (21, true, true)] := by decide +kernel

/-- mps 4, buffer 7, consumer stalled, response request 10 cycles after `rx_complete` (full speed at
60 MHz): the second packet overflows the FIFO, is discarded and is NAKed (the original code ACKed
it); the host's retry after the consumer has drained is ACKed and delivered. -/
theorem overflowed_packet_naked_then_retried :
    let ins := outPacket 2 0 false [11, 12, 13, 14] 10 ++ outPacket 2 1 false [21, 22, 23, 24] 10
                 ++ List.replicate 8 (idleIn 2 1 true) ++ outPacket 2 1 true [21, 22, 23, 24] 10
                 ++ List.replicate 8 (idleIn 2 0 true)
    let outs := runOuts ⟨2, 4, 7⟩ init ins
    ((ins.zip outs).filterMap (fun (i, o) => if i.rxReady then some (o.ack, o.nak) else none),
     (transfers ins outs).map (·.1))
      = ([(true, false), (false, true), (true, false)], [11, 12, 13, 14, 21, 22, 23, 24]) := by decide +kernel

end LunaVerif.StreamOutEndpoint
