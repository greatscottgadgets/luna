import LunaVerif.Props.C48Desc
/-!
# C48, part 3 — the GET_DESCRIPTOR response finishes, and its first/last framing

Setting as in `Props/C48Desc.lean`: `start` strobed from a quiescent handler with `value = v` selecting descriptor
`d = c[k]`, `length = L`, both held, arbitrary `tx.ready` pattern `r0 :: rs`.  `words d L = ⌈min L len / 4⌉` is
the number of 32-bit words of the response.

* `ss_descriptor_finishes`: if `rs` (the cycles after the start cycle) contains at least `words + 1` ready cycles,
  the response has drained (selected generator not streaming, tx register empty; weaker than `Quiescent`, which asks
  for `.idle`) — and stays so under every longer pattern; hence
  (`ss_descriptor_delivers_all`) the host has received exactly the first `min L len` bytes.  The measure behind it
  (`mu`: tx-register loads still needed) decreases with every ready cycle (`step_inv`, Props/C48Desc.lean).
* `ss_descriptor_framing`: the (first, last) flags of the words handed to the consumer so far, followed by the flags
  of the words still pending, are `(q = 0, q + 1 = words)` for `q = 0 .. words − 1`: `first` exactly on the first
  word, `last` exactly on the last one (`ss_descriptor_framing_complete`: the full list once finished).
-/
namespace LunaVerif.SSDesc
open LunaVerif.SSSetup (cnt wordBytes)

/-- **C48 (descriptor data, liveness)**: if the cycles after the start cycle contain at least `words + 1` ready
cycles (`words = ⌈min L len / 4⌉`), the response has drained at the end: the selected generator is not
streaming and the tx register is empty (`.done` is allowed: this is not yet the `Quiescent` of the next request). -/
theorem ss_descriptor_finishes (c : List Desc) (v k : Nat) (d : Desc) (L : Nat) (s : State)
    (r0 : Bool) (rs : List Bool)
    (hsel : select c v = some k) (hd : c[k]? = some d) (hb : BytesOK d.bytes)
    (hpos : 0 < d.len) (hlen : d.len < 65536) (hL : L < 65536) (hq : Quiescent k s)
    (hr : words d L + 1 ≤ readyCount rs) :
    (∀ g', (runState c s (⟨v, L, true, r0⟩ :: heldIns v L rs)).gens[k]? = some g' → g'.fsm ≠ .streaming) ∧
    (runState c s (⟨v, L, true, r0⟩ :: heldIns v L rs)).txValid = 0 := by
  obtain ⟨g1, hi1, -, -, -, -, hm1⟩ := start_step c v k d L s r0 hsel hd hpos hq
  obtain ⟨g2, hi2, -, -, -, hm2⟩ := run_inv c v k d L hsel hd hb hL rs _ g1 hi1
  obtain ⟨hns, htx⟩ :=
    (mu_eq_zero d L (runState c (next c s ⟨v, L, true, r0⟩) (heldIns v L rs)) g2).1 (by omega)
  refine ⟨fun g' hg' => ?_, htx⟩
  rw [runState, hi2.gen] at hg'
  cases hg'
  exact hns

/-- **C48 (descriptor data, total)**: with `words + 1` ready cycles after the start cycle the host has received
exactly the first `min L len` bytes of the requested descriptor. -/
theorem ss_descriptor_delivers_all (c : List Desc) (v k : Nat) (d : Desc) (L : Nat) (s : State)
    (r0 : Bool) (rs : List Bool)
    (hsel : select c v = some k) (hd : c[k]? = some d) (hb : BytesOK d.bytes)
    (hpos : 0 < d.len) (hlen : d.len < 65536) (hL : L < 65536) (hq : Quiescent k s)
    (hr : words d L + 1 ≤ readyCount rs) :
    delivered c s (⟨v, L, true, r0⟩ :: heldIns v L rs) = d.bytes.take (min L d.len) := by
  obtain ⟨h1, h2⟩ := ss_descriptor_finishes c v k d L s r0 rs hsel hd hb hpos hlen hL hq hr
  exact ss_descriptor_complete c v k d L s r0 rs hsel hd hb hpos hlen hL hq h1 h2

/-- **C48 (framing)**: at every moment, the (first, last) flags of the words handed to the consumer followed by those
of the words still pending are `(q = 0, q + 1 = words)` for `q = 0 … words − 1`, under every `tx.ready` pattern. -/
theorem ss_descriptor_framing (c : List Desc) (v k : Nat) (d : Desc) (L : Nat) (s : State)
    (r0 : Bool) (rs : List Bool)
    (hsel : select c v = some k) (hd : c[k]? = some d) (hb : BytesOK d.bytes)
    (hpos : 0 < d.len) (hlen : d.len < 65536) (hL : L < 65536) (hq : Quiescent k s) :
    ∃ g', (runState c s (⟨v, L, true, r0⟩ :: heldIns v L rs)).gens[k]? = some g' ∧
      fdelivered c s (⟨v, L, true, r0⟩ :: heldIns v L rs)
          ++ fpending d L (runState c s (⟨v, L, true, r0⟩ :: heldIns v L rs)) g'
        = (List.range' 0 (words d L)).map (flagsOf (words d L)) := by
  obtain ⟨g1, hi1, -, -, hf1, hx1, -⟩ := start_step c v k d L s r0 hsel hd hpos hq
  obtain ⟨g2, hi2, -, -, hf2, -⟩ := run_inv c v k d L hsel hd hb hL rs _ g1 hi1
  refine ⟨g2, by simpa only [runState] using hi2.gen, ?_⟩
  simp only [fdelivered, runState, hx1, List.nil_append]
  rw [hf2, hf1]

/-- **C48 (framing, total)**: with `words + 1` ready cycles after the start cycle, the words handed to the consumer
carry exactly the flags `(q = 0, q + 1 = words)`, `q = 0 … words − 1`: `first` on the first word only, `last` on the
last word only, `words` words in all. -/
theorem ss_descriptor_framing_complete (c : List Desc) (v k : Nat) (d : Desc) (L : Nat) (s : State)
    (r0 : Bool) (rs : List Bool)
    (hsel : select c v = some k) (hd : c[k]? = some d) (hb : BytesOK d.bytes)
    (hpos : 0 < d.len) (hlen : d.len < 65536) (hL : L < 65536) (hq : Quiescent k s)
    (hr : words d L + 1 ≤ readyCount rs) :
    fdelivered c s (⟨v, L, true, r0⟩ :: heldIns v L rs) = (List.range' 0 (words d L)).map (flagsOf (words d L)) := by
  obtain ⟨g', hg, he⟩ := ss_descriptor_framing c v k d L s r0 rs hsel hd hb hpos hlen hL hq
  obtain ⟨h1, h2⟩ := ss_descriptor_finishes c v k d L s r0 rs hsel hd hb hpos hlen hL hq hr
  have hns := h1 g' hg
  rw [← he]
  simp [fpending, h2, hns]

/- Non-vacuity: the 18-byte descriptor of `demoC`, wLength 8 (2 words): the bound `words + 1` is 3, the pattern has
4 ready cycles after the start cycle. -/
example : words ⟨0x0100, [18, 1, 0, 3, 0, 0, 0, 9, 0xd0, 0x16, 0x3b, 0x0f, 0, 0, 1, 2, 3, 1]⟩ 8 + 1
    ≤ readyCount [false, true, false, true, true, true] := by decide +kernel
example : fdelivered demoC (init demoC) (⟨0x0100, 8, true, true⟩ :: heldIns 0x0100 8 [false, true, false, true, true, true])
    = [(true, false), (false, true)] := by decide +kernel
example : fdelivered demoC (init demoC) (⟨0x0300, 64, true, false⟩ :: heldIns 0x0300 64 [true, true, true])
    = [(true, false), (false, true)] := by decide +kernel
example : fdelivered demoC (init demoC) (⟨0x0300, 3, true, false⟩ :: heldIns 0x0300 3 [true, true])
    = [(true, true)] := by decide +kernel

end LunaVerif.SSDesc
