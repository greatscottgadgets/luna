import LunaVerif.Props.C13Stream
/-!
# C13 — the handshakes along `LegalHost` histories

`overflow` after the cycles of a packet is "some byte of it was lost" (`anyLost`, `overflow_run`); with `Sim` at the
response request (`sim_after`, `answered_inv`: the request is the endpoint's, the token fields and data PID are the
packet's) this gives `nak_iff_cannot_take`.  Then the data toggle against the host-side observer's
(`out_toggle_tracks_observer`) and `ack_implies_delivered_or_repeat`.
-/
namespace LunaVerif.StreamOutEndpoint
open LunaVerif

/-- some cycle of the run from `s` loses a byte (`data_is_lost`: a byte of a packet with the expected toggle
addressed to the endpoint is presented while the FIFO is full) -/
def anyLost (c : Config) : State → List In → Bool
  | _, [] => false
  | s, i :: is => (comb c s i).dataIsLost || anyLost c (step c s i).1 is

theorem anyLost_append (c : Config) (s : State) (xs ys : List In) :
    anyLost c s (xs ++ ys) = (anyLost c s xs || anyLost c (runState c s xs) ys) := by
  induction xs generalizing s with
  | nil => simp [anyLost, runState]
  | cons x xs ih => simp [anyLost, runState, ih, Bool.or_assoc]

theorem overflow_run (c : Config) (s : State) (ins : List In) (hn : ∀ i ∈ ins, i.tokNew = false) :
    (runState c s ins).overflow = (s.overflow || anyLost c s ins) := by
  induction ins generalizing s with
  | nil => simp [runState, anyLost]
  | cons i is ih =>
    have h1 := hn i (by simp)
    rw [runState, ih _ (fun j hj => hn j (by simp [hj]))]
    simp only [step, h1, anyLost]
    cases (comb c s i).dataIsLost <;> cases s.overflow <;> simp

theorem sim_after {c : Config} (hmps : 1 ≤ c.mps) {ins : List In} {p : Phase}
    (h : Phase.run c .idle ins = some p) :
    ∃ w del, Sim c p (runState c init ins) w del ∧
      w.a = acctRun c Acct.init .idle ins (runOuts c init ins) := by
  obtain ⟨w', hsim, _, ha⟩ := sim_run hmps ins (sim_init c) h
  exact ⟨w', _, hsim, ha⟩

theorem answered_inv {c : Config} {pk p' : Phase} {i : In} {pid : Nat} {bytes : List Nat} {s : State} {w : WState}
    {del : List Entry} (hsim : Sim c pk s w del) (hs : pk.step c i = some p')
    (ha : pk.answered c i = some (pid, bytes)) :
    (comb c s i).dataRequested = true ∧ (comb c s i).pingRequested = false ∧ i.pidToggle = pid := by
  obtain ⟨hR, t, hT, h⟩ := answered_cases ha
  -- the acceptor keeps the token fields stable; the invariant knows the token is well-formed
  have key : stable c t pid i = true ∧ t.wf = true := by
    rcases h with ⟨_, _, _, rfl, -⟩ | ⟨_, _, rfl⟩ | rfl
    · exact ⟨(step_finByte_inv hs).1, hsim.wf rfl⟩
    · exact ⟨(step_finStrobe_inv hs).1, hsim.wf rfl⟩
    · exact ⟨(step_finWait_inv hs).1, hsim.wf rfl⟩
  obtain ⟨htok, hpid, -, -⟩ := stable_inv key.1
  obtain ⟨hping, -⟩ := targets_not_ping key.2 hT
  rw [comb_eq, combG_tok htok hpid]
  simp [hR, hT, hping, hpid]

/-- **nak_iff_cannot_take** (history level).  Let `pre` be any accepted history after which the host has sent
a token (phase `tok`), `mid` the following cycles up to the response request — the data packet, with no
further token — and `i` the cycle in which the response to a packet addressed to the endpoint is requested.
The endpoint answers NAK iff the packet carries the expected data toggle and some byte of it was presented
while the FIFO was full (the packet did not fit); otherwise it answers ACK. -/
theorem nak_iff_cannot_take (c : Config) (hmps : 1 ≤ c.mps) (pre mid : List In) (i : In) (t : Tok) (pk p' : Phase)
    (pid : Nat) (bytes : List Nat)
    (h1 : Phase.run c .idle pre = some (.tok t)) (h2 : Phase.run c (.tok t) mid = some pk)
    (hnt : ∀ j ∈ mid, j.tokNew = false) (h3 : pk.step c i = some p')
    (h4 : pk.answered c i = some (pid, bytes)) :
    let s0 := runState c init pre
    let s := runState c s0 mid
    ((outOf c s i).nak = true ↔ (pid = tn s.expectedToggle ∧ anyLost c s0 (mid ++ [i]) = true)) ∧
    ((outOf c s i).ack = true ↔ ¬(pid = tn s.expectedToggle ∧ anyLost c s0 (mid ++ [i]) = true)) := by
  intro s0 s
  obtain ⟨w0, _, hsim0, _⟩ := sim_after hmps h1
  have hovf0 : s0.overflow = false := hsim0.tok_overflow
  have hrun : Phase.run c .idle (pre ++ mid) = some pk := by rw [run_append h1]; exact h2
  obtain ⟨w, _, hsim, _⟩ := sim_after hmps hrun
  rw [runState_append] at hsim
  obtain ⟨hd, hp, hpid⟩ := answered_inv hsim h3 h4
  have hovf : s.overflow = anyLost c s0 mid := by
    have := overflow_run c s0 mid hnt
    rw [hovf0] at this; simpa using this
  have hlost : anyLost c s0 (mid ++ [i]) = (s.overflow || (comb c s i).dataIsLost) := by
    rw [anyLost_append, hovf]; simp [anyLost]; rfl
  have hm : (comb c s i).pidMatch = true ↔ pid = tn s.expectedToggle := by
    simp only [comb, ← hpid, tn, beq_iff_eq]
  have hnak := nak_iff_cannot_take_partial c s i hd hp
  have hex := ack_eq_not_nak c s i hd hp
  refine ⟨?_, ?_⟩
  · rw [hnak, hm, hlost]; simp
  · rw [hex, Bool.not_eq_true', ← Bool.not_eq_true, hnak, hm, hlost]; simp

example :
    let c : Config := ⟨2, 4, 7⟩
    let idl := idleIn 2 1 false
    let pre := outPacket 2 0 false [11, 12, 13, 14] 10 ++ [{ idl with tokNew := true }]
    let mid := [idl] ++ [21, 22, 23, 24].map (fun b => { idl with rx := ⟨true, true, b, false, false⟩ }) ++
      [{ idl with rx := ⟨true, false, 0, false, false⟩ }, { idl with rx := ⟨false, false, 0, true, false⟩ }] ++
      List.replicate 9 idl
    let i := { idl with rxReady := true }
    Phase.run c .idle pre = some (.tok ⟨2, true, false⟩) ∧
    Phase.run c (.tok ⟨2, true, false⟩) mid = some (.finWait ⟨2, true, false⟩ 1 [21, 22, 23, 24]) ∧
    mid.all (fun j => !j.tokNew) = true ∧
    (Phase.finWait ⟨2, true, false⟩ 1 [21, 22, 23, 24]).step c i = some .idle ∧
    (Phase.finWait ⟨2, true, false⟩ 1 [21, 22, 23, 24]).answered c i = some (1, [21, 22, 23, 24]) ∧
    anyLost c (runState c init pre) (mid ++ [i]) = true ∧
    (outOf c (runState c (runState c init pre) mid) i).nak = true := by decide +kernel

theorem expected_append (c : Config) (a : Acct) (p p' : Phase) (xs ys : List In) (ox oy : List Out)
    (hlen : ox.length = xs.length) (h : Phase.run c p xs = some p') :
    expected c a p (xs ++ ys) (ox ++ oy) = expected c a p xs ox ++ expected c (acctRun c a p xs ox) p' ys oy := by
  induction xs generalizing a p ox with
  | nil =>
    simp only [Phase.run, Option.some.injEq] at h; subst h
    cases ox with
    | nil => simp [expected, acctRun]
    | cons o os => simp at hlen
  | cons x xs ih =>
    cases ox with
    | nil => simp at hlen
    | cons o os =>
      obtain ⟨p1, hs, h⟩ := Phase.run_cons h
      simp only [List.cons_append, expected, acctRun, hs, List.append_assoc]
      rw [ih _ _ _ (by simpa using hlen) h]

/-- **out_toggle_tracks_observer**: after every accepted history the endpoint's expected data toggle is the
one the host-side observer computes from the ACKs (it advances exactly on ACKed packets carrying the
expected toggle and is reset by ClearFeature(HALT)). -/
theorem out_toggle_tracks_observer (c : Config) (hmps : 1 ≤ c.mps) (ins : List In) (p : Phase)
    (h : Phase.run c .idle ins = some p) :
    (runState c init ins).expectedToggle = (acctRun c Acct.init .idle ins (runOuts c init ins)).toggle := by
  obtain ⟨w, _, hsim, ha⟩ := sim_after hmps h
  rw [← ha]; exact hsim.toggle

/-- **ack_implies_delivered_or_repeat** (history level).  If, in a `LegalHost` history, the response to a
data packet addressed to the endpoint is ACK, then either the packet does not carry the toggle the endpoint
expects (a retransmission whose ACK the host missed: nothing is written, `okay_to_receive` is low) or its
payload, with marks, is a contiguous part of what the consumer receives (transfers so far followed by the
committed entries waiting in the FIFO). -/
theorem ack_implies_delivered_or_repeat (c : Config) (hmps : 1 ≤ c.mps) (pre : List In) (i : In) (post : List In)
    (pk : Phase) (pid : Nat) (bytes : List Nat)
    (hl : LegalHost c (pre ++ i :: post) = true) (hpre : Phase.run c .idle pre = some pk)
    (h4 : pk.answered c i = some (pid, bytes))
    (hack : (outOf c (runState c init pre) i).ack = true) :
    let ins := pre ++ i :: post
    let a := acctRun c Acct.init .idle pre (runOuts c init pre)
    pid ≠ tn (runState c init pre).expectedToggle ∨
    ∃ q : TxnFifo.Queue Nat, TxnFifo.Rel c.depth (runState c init ins).fifo q ∧
      ∃ A B, transfers ins (runOuts c init ins) ++ q.C.map dec = A ++ pktEntries c a.open_ bytes ++ B := by
  intro ins a
  by_cases hm : pid = tn (runState c init pre).expectedToggle
  · right
    obtain ⟨q, hrel, hq⟩ := out_stream_exact c hmps ins hl
    refine ⟨q, hrel, ?_⟩
    rw [hq]
    have htog := out_toggle_tracks_observer c hmps pre pk hpre
    have hstep : ∃ p1, pk.step c i = some p1 := by
      simp only [LegalHost, run_append hpre, Phase.run] at hl
      cases hs : pk.step c i with
      | none => simp [hs] at hl
      | some p1 => exact ⟨p1, rfl⟩
    obtain ⟨p1, hs⟩ := hstep
    have hth : ((step c (runState c init pre) i).2.ack &&
        pid == tn (acctRun c Acct.init .idle pre (runOuts c init pre)).toggle) = true := by
      have h' : (step c (runState c init pre) i).2.ack = true := hack
      rw [h', ← htog, hm]; simp
    have key : ∃ R, expected c Acct.init .idle ins (runOuts c init ins)
        = expected c Acct.init .idle pre (runOuts c init pre) ++ (pktEntries c a.open_ bytes ++ R) := by
      refine ⟨?_, ?_⟩
      rotate_left
      · simp only [ins, runOuts_append]
        rw [expected_append c _ _ _ _ _ _ _ (runOuts_length c init pre) hpre]
        simp only [runOuts, expected, hs, Acct.step, h4, hth, if_true]
        rfl
    obtain ⟨R, key⟩ := key
    exact ⟨_, R, by rw [key, List.append_assoc]⟩
  · left; exact hm

end LunaVerif.StreamOutEndpoint
