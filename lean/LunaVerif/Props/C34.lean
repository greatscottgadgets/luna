import LunaVerif.Model.Usb3.RxAligner
/-!
# C34 — Word alignment places COM sequences on word boundaries without corrupting data

"After a four-COM sequence is received at any byte offset, the aligned output presents that sequence
as a whole word and shifts all following data by the same offset, so that the output is the input
delayed and re-grouped with no symbol lost or duplicated while the offset is unchanged."

Quantifier: all input streams with COM sequences at any of the four offsets, offset changes and
invalid words.

The theorems are stated for both aligners (`Kind.word` = RxWordAligner, criterion COM COM COM COM;
`Kind.packet` = RxPacketAligner, criterion SHP SHP SHP EPF / SLC SLC SLC EPF);
`com_sequence_becomes_whole_word` spells the COM case out.

Timing convention: `next kd s i` is the register state loaded by the clock edge of the cycle in which
`i` is on the sink; the (registered) outputs `outOf (next kd s i)` are what the source shows in the
FOLLOWING cycle.  `after kd s ins` lists these outputs for a whole history; `run_shift` ties it to
the cycle-by-cycle output list `run` that is compared with the gateware.

A byte offset `k ∈ {0,1,2,3}` of a sequence means: the sequence occupies symbols `k … k+3` of the
8-symbol pair (previous valid word ++ current word), i.e. its first `4-k` symbols are the last
symbols of the previous valid word.
-/
namespace LunaVerif.RxAligner
open LunaVerif.Ss

/-! ## Specification vocabulary -/

def COM4 : List Sym := [COM, COM, COM, COM]

def WF (ins : List In) : Prop := ∀ i ∈ ins, i.word.length = 4

def validSyms : List In → List Sym
  | [] => []
  | i :: is => (if i.valid then i.word else []) ++ validSyms is

def validCount : List In → Nat
  | [] => 0
  | i :: is => (if i.valid then 1 else 0) + validCount is

def outSyms : List Out → List Sym
  | [] => []
  | o :: os => (if o.srcValid then o.srcWord else []) ++ outSyms os

/-- "The offset is unchanged" as a predicate on the INPUTS: starting with history word `prev`, what the
aligner detects on a valid word (`detect`: the LAST matching window) is nothing or `e`.  The criterion may
fire again at `e` itself (TS1/TS2 sets repeat at the same offset), and it may also match below `e` in the
same word (a run of COM does): the last window wins, as in the code. -/
def NoRealign (kd : Kind) (e : Nat) : List Sym → List In → Prop
  | _, [] => True
  | prev, i :: is =>
    if i.valid then
      (detect kd (prev ++ i.word) = none ∨ detect kd (prev ++ i.word) = some e) ∧ NoRealign kd e i.word is
    else NoRealign kd e prev is

def NoRealign.dec (kd : Kind) (e : Nat) : (prev : List Sym) → (ins : List In) →
    Decidable (NoRealign kd e prev ins)
  | _, [] => isTrue trivial
  | prev, i :: is =>
    have := NoRealign.dec kd e i.word is
    have := NoRealign.dec kd e prev is
    by unfold NoRealign; exact inferInstance

instance (kd : Kind) (e : Nat) (prev : List Sym) (ins : List In) : Decidable (NoRealign kd e prev ins) :=
  NoRealign.dec kd e prev ins

/-! ## The four criterion blocks: last match wins -/

theorem lastMatch_succ (p : Nat → Bool) (n : Nat) :
    (List.range (n + 1)).foldl (fun acc i => if p i then some i else acc) none =
      if p n then some n else (List.range n).foldl (fun acc i => if p i then some i else acc) none := by
  rw [List.range_succ, List.foldl_append]; rfl

theorem lastMatch_none (p : Nat → Bool) (n : Nat) :
    (List.range n).foldl (fun acc i => if p i then some i else acc) none = none ↔
      ∀ j, j < n → p j = false := by
  induction n with
  | zero => exact ⟨fun _ j hj => absurd hj (Nat.not_lt_zero j), fun _ => rfl⟩
  | succ n ih =>
    rw [lastMatch_succ]
    cases hp : p n
    · rw [if_neg Bool.false_ne_true, ih]
      exact ⟨fun h j hj => (Nat.lt_succ_iff_lt_or_eq.1 hj).elim (h j) (fun e => e ▸ hp),
        fun h j hj => h j (Nat.lt_succ_of_lt hj)⟩
    · rw [if_pos rfl]
      exact ⟨nofun, fun h => absurd (h n (Nat.lt_succ_self n)) (by rw [hp]; decide)⟩

theorem lastMatch_some (p : Nat → Bool) (n k : Nat)
    (h : (List.range n).foldl (fun acc i => if p i then some i else acc) none = some k) :
    k < n ∧ p k = true ∧ ∀ j, k < j → j < n → p j = false := by
  induction n with
  | zero => cases h
  | succ n ih =>
    rw [lastMatch_succ] at h
    cases hp : p n
    · rw [hp, if_neg Bool.false_ne_true] at h
      obtain ⟨a, b, c⟩ := ih h
      exact ⟨Nat.lt_succ_of_lt a, b, fun j hj hjn =>
        (Nat.lt_succ_iff_lt_or_eq.1 hjn).elim (c j hj) (fun e => e ▸ hp)⟩
    · rw [hp, if_pos rfl] at h
      cases h
      exact ⟨Nat.lt_succ_self _, hp, fun j hj hjn => absurd hjn (by omega)⟩

theorem detect_none (kd : Kind) (pair : List Sym) :
    detect kd pair = none ↔ ∀ j, j < 4 → crit kd (window j pair) = false :=
  lastMatch_none (fun j => crit kd (window j pair)) 4

theorem detect_some (kd : Kind) (pair : List Sym) (k : Nat) (h : detect kd pair = some k) :
    k < 4 ∧ crit kd (window k pair) = true ∧ ∀ j, k < j → j < 4 → crit kd (window j pair) = false :=
  lastMatch_some (fun j => crit kd (window j pair)) 4 k h
theorem detect_of_match (kd : Kind) (pair : List Sym) (k : Nat) (hk : k < 4)
    (hc : crit kd (window k pair) = true) :
    ∃ j, detect kd pair = some j ∧ k ≤ j := by
  cases hd : detect kd pair with
  | none => rw [(detect_none kd pair).1 hd k hk] at hc; cases hc
  | some j =>
    refine ⟨j, rfl, ?_⟩
    have := (detect_some kd pair j hd).2.2
    rcases Nat.lt_or_ge j k with hlt | hge
    · rw [this k hlt hk] at hc; cases hc
    · exact hge

/-! ## One clock cycle -/

theorem next_on_detect (kd : Kind) (s : State) (i : In) (k : Nat) (hv : i.valid = true)
    (h : detect kd (s.prev ++ i.word) = some k) :
    next kd s i = ⟨i.word, k, window k (s.prev ++ i.word), true, k⟩ := by
  unfold next
  by_cases hk : k = s.shift <;> simp [hv, h, hk]

theorem next_at_offset (kd : Kind) (e : Nat) (s : State) (i : In) (hshift : s.shift = e)
    (hno : i.valid = true → detect kd (s.prev ++ i.word) = none ∨ detect kd (s.prev ++ i.word) = some e) :
    next kd s i = ⟨if i.valid then i.word else s.prev, e, window e (s.prev ++ i.word), i.valid, e⟩ := by
  unfold next
  cases hv : i.valid
  · simp [hshift]
  · rcases hno hv with h | h <;> simp [h, hshift]

theorem noRealign_cons (kd : Kind) (e : Nat) (prev : List Sym) (i : In) (is : List In)
    (h : NoRealign kd e prev (i :: is)) :
    (i.valid = true → detect kd (prev ++ i.word) = none ∨ detect kd (prev ++ i.word) = some e) ∧
    NoRealign kd e (if i.valid then i.word else prev) is := by
  unfold NoRealign at h
  cases hv : i.valid <;> simp only [hv, if_true, if_false, Bool.false_eq_true] at h ⊢
  · exact ⟨nofun, h⟩
  · exact ⟨fun _ => h.1, h.2⟩

/-- **C34 (a)** for either aligner: when a valid word completes an alignment sequence at byte
offset `k` of the pair, the word presented in the next cycle is valid and is an alignment sequence
as a whole word; the offset applied, reported (`alignment_offset`) and stored (`shift_to_apply`) is
the offset `j ≥ k` of the last matching window — `k` itself when no later window matches. -/
theorem aligned_sequence_becomes_whole_word (kd : Kind) (s : State) (i : In) (k : Nat)
    (hv : i.valid = true) (hk : k < 4) (hseq : crit kd (window k (s.prev ++ i.word)) = true) :
    (next kd s i).srcValid = true ∧ crit kd (next kd s i).src = true ∧
    (next kd s i).offset = (next kd s i).shift ∧ k ≤ (next kd s i).shift ∧ (next kd s i).shift < 4 ∧
    (next kd s i).src = window (next kd s i).shift (s.prev ++ i.word) ∧
    ((∀ j, k < j → j < 4 → crit kd (window j (s.prev ++ i.word)) = false) →
      (next kd s i).shift = k) := by
  obtain ⟨j, hj, hkj⟩ := detect_of_match kd _ k hk hseq
  obtain ⟨hj4, hcj, -⟩ := detect_some kd _ j hj
  rw [next_on_detect kd s i j hv hj]
  refine ⟨rfl, hcj, rfl, hkj, hj4, rfl, fun hnone => ?_⟩
  rcases Nat.lt_or_ge k j with hlt | hge
  · rw [hnone j hlt hj4] at hcj; cases hcj
  · exact Nat.le_antisymm hge hkj

theorem crit_word (w : List Sym) : crit .word w = true ↔ w = COM4 := by
  simp [crit, COM4]

/-- **C34 (a), RxWordAligner**: a four-COM sequence at byte offset `k` comes out, one cycle later,
as the whole word COM COM COM COM, and `alignment_offset`/`shift_to_apply` become the offset of the
sequence (`k` when the COM run does not continue beyond it). -/
theorem com_sequence_becomes_whole_word (s : State) (i : In) (k : Nat)
    (hv : i.valid = true) (hk : k < 4) (hseq : window k (s.prev ++ i.word) = COM4) :
    (next .word s i).srcValid = true ∧ (next .word s i).src = COM4 ∧
    (next .word s i).offset = (next .word s i).shift ∧ k ≤ (next .word s i).shift ∧
    (next .word s i).shift < 4 ∧
    ((∀ j, k < j → j < 4 → window j (s.prev ++ i.word) ≠ COM4) → (next .word s i).shift = k) := by
  have h := aligned_sequence_becomes_whole_word .word s i k hv hk ((crit_word _).2 hseq)
  refine ⟨h.1, (crit_word _).1 h.2.1, h.2.2.1, h.2.2.2.1, h.2.2.2.2.1, fun hn => h.2.2.2.2.2.2 ?_⟩
  intro j hkj hj
  cases hc : crit .word (window j (s.prev ++ i.word))
  · rfl
  · exact absurd ((crit_word _).1 hc) (hn j hkj hj)

/-! ## Constant offset = pure delay -/

theorem window_eq (e : Nat) (pair : List Sym) : window e pair = (pair.drop e).take 4 := rfl

theorem shifted_stream_cons (p w rest : List Sym) (e n : Nat) (hp : p.length = 4) (hw : w.length = 4)
    (he : e < 4) :
    ((p ++ (w ++ rest)).drop e).take (4 * (1 + n)) =
      window e (p ++ w) ++ ((w ++ rest).drop e).take (4 * n) := by
  have h4 : 4 * (1 + n) = 4 + 4 * n := by omega
  rw [h4, List.take_add, List.drop_drop, window_eq]
  congr 1
  · rw [← List.append_assoc, List.drop_append_of_le_length (by simp; omega),
      List.take_append_of_le_length (by simp; omega)]
  · have : e + 4 = p.length + e := by omega
    rw [this, ← List.drop_drop, List.drop_left]

/-- **C34 (b)** for either aligner, any history with invalid words interleaved: while no sequence
is found at another offset, the output symbol stream is the input symbol stream (history register
first) with its first `e` symbols dropped — every later symbol exactly once, in order, regrouped
into words, the last `4 − e` still waiting in the history register; output validity follows input
validity one cycle later; the reported offset stays `e`. -/
theorem constant_offset_is_pure_delay (kd : Kind) (e : Nat) (s : State) (ins : List In)
    (hshift : s.shift = e) (he : e < 4) (hprev : s.prev.length = 4) (hwf : WF ins)
    (hno : NoRealign kd e s.prev ins) :
    outSyms (after kd s ins) = ((s.prev ++ validSyms ins).drop e).take (4 * validCount ins) ∧
    (after kd s ins).map (·.srcValid) = ins.map (·.valid) ∧
    (∀ o ∈ after kd s ins, o.offset = e) ∧
    (final kd s ins).shift = e := by
  induction ins generalizing s with
  | nil => simp [after, outSyms, validSyms, validCount, final, hshift]
  | cons i is ih =>
    have hiw : i.word.length = 4 := hwf i (List.mem_cons_self ..)
    obtain ⟨hd, hno'⟩ := noRealign_cons kd e s.prev i is hno
    have hn := next_at_offset kd e s i hshift hd
    have := ih (next kd s i) (by rw [hn])
      (by rw [hn]; show (if i.valid then i.word else s.prev).length = 4; split <;> assumption)
      (fun j hj => hwf j (List.mem_cons_of_mem _ hj)) (by rw [hn]; exact hno')
    simp only [after, outSyms, validSyms, validCount, final, outOf, List.map_cons, List.mem_cons,
      forall_eq_or_imp]
    rw [hn] at this ⊢
    refine ⟨?_, by rw [this.2.1], ⟨rfl, this.2.2.1⟩, this.2.2.2⟩
    rw [this.1]
    cases hv : i.valid
    · simp
    · simp only [if_true]
      exact (shifted_stream_cons s.prev i.word (validSyms is) e (validCount is) hprev hiw he).symm

/-! ## Invalid words -/

/-- The register update reads only `previous` and `shift_to_apply` of the old state. -/
theorem next_congr (kd : Kind) (s t : State) (i : In) (hp : s.prev = t.prev) (hs : s.shift = t.shift) :
    next kd s i = next kd t i := by
  unfold next; rw [hp, hs]

/-- **C34 (c)**, one cycle: an invalid word — whatever it carries, alignment sequences included —
leaves the history word and the offset untouched and is presented as an invalid output. -/
theorem invalid_word_keeps_history (kd : Kind) (s : State) (i : In) (hv : i.valid = false) :
    (next kd s i).prev = s.prev ∧ (next kd s i).shift = s.shift ∧ (next kd s i).srcValid = false := by
  unfold next; simp [hv]

/-- **C34 (c)**, histories: deleting the invalid cycles from an input history changes neither the
sequence of valid output words (with their reported offsets) nor the history word / offset reached. -/
theorem invalid_words_do_not_shift_history (kd : Kind) (s t : State) (ins : List In)
    (hp : s.prev = t.prev) (hs : s.shift = t.shift) :
    (after kd s ins).filter (·.srcValid) = (after kd t (ins.filter (·.valid))).filter (·.srcValid) ∧
    (final kd s ins).prev = (final kd t (ins.filter (·.valid))).prev ∧
    (final kd s ins).shift = (final kd t (ins.filter (·.valid))).shift := by
  induction ins generalizing s t with
  | nil => simp [after, final, hp, hs]
  | cons i is ih =>
    cases hv : i.valid
    · obtain ⟨h1, h2, h3⟩ := invalid_word_keeps_history kd s i hv
      have := ih (next kd s i) t (by rw [h1, hp]) (by rw [h2, hs])
      simp only [after, final, List.filter_cons, hv, outOf, h3, Bool.false_eq_true, if_false]
      exact this
    · have hn : next kd s i = next kd t i := next_congr kd s t i hp hs
      have := ih (next kd s i) (next kd t i) (by rw [hn]) (by rw [hn])
      simp only [after, final, List.filter_cons, hv, if_true]
      rw [this.1, this.2.1, this.2.2, hn]
      simp

/-! ## Tie to the cycle-by-cycle outputs, and the two statements chained -/

/-- The outputs compared with the gateware cycle by cycle are the reset/old outputs followed by the
`after` outputs: one cycle of latency. -/
theorem run_shift (kd : Kind) (s : State) (ins : List In) :
    run kd s ins ++ [outOf (final kd s ins)] = outOf s :: after kd s ins := by
  induction ins generalizing s with
  | nil => simp [run, after, final]
  | cons i is ih => simp only [run, after, final, List.cons_append, ih]

/-- A sequence found at offset `k` (last matching window), then no realignment: from the aligned
sequence on, the output is the input symbol stream shifted by `k`, nothing lost or duplicated. -/
theorem realign_then_pure_delay (kd : Kind) (s : State) (i : In) (is : List In) (k : Nat)
    (hv : i.valid = true) (hdet : detect kd (s.prev ++ i.word) = some k)
    (hprev : s.prev.length = 4) (hwf : WF (i :: is)) (hno : NoRealign kd k i.word is) :
    outSyms (after kd s (i :: is)) =
      ((s.prev ++ validSyms (i :: is)).drop k).take (4 * validCount (i :: is)) ∧
    crit kd (outOf (next kd s i)).srcWord = true := by
  have hiw : i.word.length = 4 := hwf i (List.mem_cons_self ..)
  obtain ⟨hk4, hck, _⟩ := detect_some kd _ k hdet
  have hn := next_on_detect kd s i k hv hdet
  have := constant_offset_is_pure_delay kd k (next kd s i) is (by rw [hn]) hk4 (by rw [hn]; exact hiw)
    (fun j hj => hwf j (List.mem_cons_of_mem _ hj)) (by rw [hn]; exact hno)
  simp only [after, outSyms, validSyms, validCount, hv, if_true]
  rw [this.1, hn]
  exact ⟨(shifted_stream_cons s.prev i.word (validSyms is) k (validCount is) hprev hiw hk4).symm, hck⟩

/-! ## Non-vacuity -/

private def wd (d c : Nat) : In := ⟨true, unpack 4 d c⟩
private def inv (d c : Nat) : In := ⟨false, unpack 4 d c⟩

/-- COM×4 at byte offset 3 (one COM ends the first word, three start the second), data after it;
the invalid word (itself COM×4) is passed over. -/
example : (after .word init [wd 0xBC112233 8, wd 0x44BCBCBC 7, wd 0x88776655 0, inv 0xBCBCBCBC 15,
      wd 0xCCBBAA99 0]).map (fun o => (o.srcValid, packData o.srcWord, packCtrl o.srcWord, o.offset))
    = [(true, 0, 0, 0), (true, 0xBCBCBCBC, 15, 3), (true, 0x77665544, 0, 3),
       (false, 0xBCBCBC88, 14, 3), (true, 0xBBAA9988, 0, 3)] := by decide

example : NoRealign .word 3 (unpack 4 0x44BCBCBC 7) [wd 0x88776655 0, inv 0xBCBCBCBC 15, wd 0xCCBBAA99 0] := by
  decide

example : detect .word (unpack 4 0xBC112233 8 ++ unpack 4 0x44BCBCBC 7) = some 3 := by decide

/-- A COM run of six symbols: windows 1, 2, 3 all match, the last one wins. -/
example : detect .word (unpack 4 0xBCBCBC33 14 ++ unpack 4 0x44BCBCBC 7) = some 3 := by decide

example : detect .packet (unpack 4 0xFBFB2233 12 ++ unpack 4 0x4455F7FB 3) = some 2 := by decide

end LunaVerif.RxAligner
