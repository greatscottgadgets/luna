import LunaVerif.Model.Usb3.TransactionPacketGenerator
/-!
# C45 — Transaction packet requests produce the requested transaction packet

"Each request to send an ACK, STALL, NRDY or ERDY made while the generator is ready produces exactly
one transaction packet of that subtype, carrying the device address, endpoint number, retry flag and
sequence number present when the request was made."
Quantifier: all request strobes, field values and header-queue ready timings.

Spec (`packet`): USB 3.2 §8.5 transaction packets, DWORD0 = type 00100b | device address in bits
31:25; DWORD1 = subtype in bits 3:0, Rty bit 6 (ACK), direction bit 7 (0 for ACK/STALL sent for an
OUT endpoint, 1 for NRDY/ERDY of an IN endpoint as the gateware uses them), endpoint number bits
11:8, NumP bits 20:16 (= 1, no bursting; NRDY has no such field), sequence number bits 25:21 (ACK).

The model is the *repaired* gateware (F20); `erdy_yields_nrdy_unrepaired` keeps the defect visible.
When several strobes coincide the gateware's program order decides: ERDY > NRDY > STALL > ACK.
-/
namespace LunaVerif.TransactionPacketGenerator

inductive Kind | ack | stall | nrdy | erdy
deriving DecidableEq, Repr

def requested (i : In) : Option Kind :=
  if i.sendErdy then some .erdy else if i.sendNrdy then some .nrdy
  else if i.sendStall then some .stall else if i.sendAck then some .ack else none

def packet (k : Kind) (addr ep : Nat) (retry : Bool) (seq : Nat) : Header :=
  let dw0 := 0b00100 + 2 ^ 25 * (addr % 128)
  let epf := 2 ^ 8 * (ep % 16)
  match k with
  | .ack   => ⟨dw0, 1 + 2 ^ 6 * b2n retry + epf + 2 ^ 16 + 2 ^ 21 * (seq % 32), 0, 0⟩
  | .nrdy  => ⟨dw0, 2 + 2 ^ 7 + epf, 0, 0⟩
  | .erdy  => ⟨dw0, 3 + 2 ^ 7 + epf + 2 ^ 16, 0, 0⟩
  | .stall => ⟨dw0, 5 + epf + 2 ^ 16, 0, 0⟩

/-- Packets requested in a trace: cycles with `interface.ready` and a request strobe, with the
field values of *that* cycle. -/
def acceptedPkts (tr : List (In × Out)) : List Header :=
  tr.filterMap fun (i, o) =>
    if o.ifReady then (requested i).map fun k => packet k i.address i.ep i.retry i.seq else none

/-- Packets handed to the header queue: cycles with `header_source.valid ∧ ready`. -/
def emittedPkts (tr : List (In × Out)) : List Header :=
  tr.filterMap fun (i, o) => if o.valid && i.hsReady then some o.header else none

def pendingPkts (s : State) : List Header :=
  match s.fsm with
  | .dispatch  => []
  | .sendAck   => [packet .ack s.addr s.ep s.err s.seq]
  | .sendNrdy  => [packet .nrdy s.addr s.ep s.err s.seq]
  | .sendErdy  => [packet .erdy s.addr s.ep s.err s.seq]
  | .sendStall => [packet .stall s.addr s.ep s.err s.seq]

theorem step_dispatch (c : Config) (s : State) (i : In) (h : s.fsm = .dispatch) :
    step c s i = (⟨dispatchNext c i, i.ep % 128, i.retry, i.seq % 32, i.address % 128⟩,
      ⟨true, false, false, ⟨0, 0, 0, 0⟩⟩) := by
  simp only [step, h]

theorem step_send (c : Config) (s : State) (i : In) (h : s.fsm ≠ .dispatch) :
    step c s i = ({ s with fsm := if i.hsReady then .dispatch else s.fsm },
      ⟨false, i.hsReady, true, headerOf s.fsm s⟩) := by
  obtain ⟨f, ep, err, seq, addr⟩ := s
  cases f
  · exact absurd rfl h
  all_goals rfl

theorem pendingPkts_dispatch (s : State) (h : s.fsm = .dispatch) : pendingPkts s = [] := by
  simp only [pendingPkts, h]

theorem pendingPkts_send (s : State) (h : s.fsm ≠ .dispatch) : pendingPkts s = [headerOf s.fsm s] := by
  obtain ⟨f, ep, err, seq, addr⟩ := s
  cases f
  · exact absurd rfl h
  all_goals rfl

theorem packet_mod (k : Kind) (a e : Nat) (r : Bool) (q : Nat) :
    packet k (a % 128) (e % 128) r (q % 32) = packet k a e r q := by
  have h16 : e % 128 % 16 = e % 16 := Nat.mod_mod_of_dvd e (by decide)
  cases k <;> simp only [packet, Nat.mod_mod, h16]

theorem pendingPkts_latched (i : In) (e : Nat) (r : Bool) (q a : Nat) :
    pendingPkts ⟨dispatchNext repaired i, e, r, q, a⟩ =
      ((requested i).map fun k => packet k a e r q).toList := by
  unfold dispatchNext requested
  cases i.sendErdy <;> cases i.sendNrdy <;> cases i.sendStall <;> cases i.sendAck <;> rfl

theorem acceptedPkts_one (i : In) (o : Out) :
    acceptedPkts [(i, o)] = if o.ifReady then
      ((requested i).map fun k => packet k i.address i.ep i.retry i.seq).toList else [] := by
  cases h : o.ifReady <;> simp only [acceptedPkts, List.filterMap_cons, List.filterMap_nil, h]
  · rfl
  · cases requested i <;> rfl

theorem emittedPkts_one (i : In) (o : Out) :
    emittedPkts [(i, o)] = if o.valid && i.hsReady then [o.header] else [] := by
  cases h : (o.valid && i.hsReady) <;>
    simp only [emittedPkts, List.filterMap_cons, List.filterMap_nil, h] <;> rfl

theorem step_conserves (s : State) (i : In) :
    pendingPkts s ++ acceptedPkts [(i, (step repaired s i).2)]
      = emittedPkts [(i, (step repaired s i).2)] ++ pendingPkts (step repaired s i).1 := by
  rw [acceptedPkts_one, emittedPkts_one]
  by_cases h : s.fsm = .dispatch
  · rw [step_dispatch _ _ _ h, pendingPkts_dispatch s h, pendingPkts_latched]
    simp only [packet_mod]
    rfl
  · rw [step_send _ _ _ h, pendingPkts_send s h]
    cases i.hsReady
    · exact (pendingPkts_send _ h).symm
    · rfl

theorem acceptedPkts_cons (x : In × Out) (tr : List (In × Out)) :
    acceptedPkts (x :: tr) = acceptedPkts [x] ++ acceptedPkts tr :=
  List.filterMap_append (l := [x])

theorem emittedPkts_cons (x : In × Out) (tr : List (In × Out)) :
    emittedPkts (x :: tr) = emittedPkts [x] ++ emittedPkts tr :=
  List.filterMap_append (l := [x])

/-- **C45.**  For every start state, every request/field/ready history: the packets handed to the
header queue are exactly the packets of the accepted requests, in order, each once, each built from
the address / endpoint / retry / sequence values of its request cycle — up to the packet the start
state already owes and the one that may still be waiting for `header_source.ready` at the end of the
history. -/
theorem request_yields_matching_packet (s : State) (h : List In) :
    pendingPkts s ++ acceptedPkts (run repaired s h)
      = emittedPkts (run repaired s h) ++ pendingPkts (final repaired s h) := by
  induction h generalizing s with
  | nil => simp [run, final, acceptedPkts, emittedPkts]
  | cons i is ih =>
    simp only [run, final]
    rw [acceptedPkts_cons, emittedPkts_cons, ← List.append_assoc, step_conserves, List.append_assoc,
      ih, List.append_assoc]

theorem request_yields_matching_packet_from_reset (h : List In) :
    acceptedPkts (run repaired init h)
      = emittedPkts (run repaired init h) ++ pendingPkts (final repaired init h) := by
  have := request_yields_matching_packet init h
  simpa [pendingPkts, init] using this

/-- Back-pressure: while a packet is owed, `valid` is high and the header on the queue *is* that
packet (so it is held unchanged under stalls); while nothing is owed `valid` is low, the generator
is ready, and `done` marks exactly the transfer cycle. -/
theorem outputs_while_pending (s : State) (i : In) :
    let o := (step repaired s i).2
    (o.valid = !(pendingPkts s).isEmpty) ∧ (o.ifReady = (pendingPkts s).isEmpty) ∧
    (o.done = (o.valid && i.hsReady)) ∧ (∀ p ∈ pendingPkts s, o.header = p) := by
  by_cases h : s.fsm = .dispatch
  · simp only [step_dispatch _ _ _ h, pendingPkts_dispatch s h]
    exact ⟨rfl, rfl, rfl, fun _ hp => nomatch hp⟩
  · simp only [step_send _ _ _ h, pendingPkts_send s h]
    exact ⟨rfl, rfl, rfl, fun _ hp => (List.mem_singleton.1 hp).symm⟩

/-- Queue back-pressure of any length: a packet that is owed stays owed, unchanged, through the
stalled cycles `stalls` (any number) and is handed over in the first ready cycle, after which the
generator is ready again. -/
theorem stalls_then_transfer (s : State) (p : Header) (hp : pendingPkts s = [p]) (stalls : List In)
    (hst : ∀ i ∈ stalls, i.hsReady = false) (i : In) (hr : i.hsReady = true) :
    emittedPkts (run repaired s (stalls ++ [i])) = [p] ∧
      pendingPkts (final repaired s (stalls ++ [i])) = [] := by
  have hne : s.fsm ≠ .dispatch := fun h => by rw [pendingPkts_dispatch s h] at hp; cases hp
  rw [pendingPkts_send s hne] at hp
  induction stalls with
  | nil =>
    simp only [List.nil_append, run, final, step_send _ _ _ hne, emittedPkts_one, hr, hp]
    exact ⟨rfl, rfl⟩
  | cons j js ih =>
    have hj : j.hsReady = false := hst j List.mem_cons_self
    have hs : step repaired s j = (s, ⟨false, false, true, headerOf s.fsm s⟩) := by
      rw [step_send _ _ _ hne, hj]; rfl
    simp only [List.cons_append, run, final, hs]
    rw [emittedPkts_cons, emittedPkts_one, hj, Bool.and_false]
    exact ih fun k hk => hst k (List.mem_cons_of_mem _ hk)

/-- F20 witness: with the unrepaired dispatch an ERDY request (endpoint 3, address 5) puts an NRDY
packet (subtype 2) on the queue. -/
theorem erdy_yields_nrdy_unrepaired :
    let erdyReq : In := ⟨3, false, 0, false, false, false, true, 5, true⟩
    emittedPkts (run unrepaired init [erdyReq, erdyReq]) = [packet .nrdy 5 3 false 0] := by
  decide +kernel

/-- Non-vacuity: ACK (retry, seq 9) stalled twice, then an ERDY, from reset. -/
example :
    let ack : In := ⟨0x12, true, 9, true, false, false, false, 0x55, false⟩
    let idle (r : Bool) : In := ⟨0, false, 0, false, false, false, false, 0, r⟩
    let erdy : In := ⟨1, false, 0, false, false, false, true, 0x55, false⟩
    emittedPkts (run repaired init [ack, idle false, idle false, idle true, erdy, idle true])
      = [packet .ack 0x55 0x12 true 9, packet .erdy 0x55 1 false 0] := by decide +kernel

end LunaVerif.TransactionPacketGenerator
