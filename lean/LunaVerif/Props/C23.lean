import LunaVerif.Model.Ulpi.Translator
/-!
# C23 — ULPI transmit translation delivers the UTMI packet unchanged

"For any PHY NXT schedule, each UTMI transmission reaches the PHY as one transmit command (carrying
the PID nibble in normal mode, NOPID otherwise), followed by the remaining bytes in order, followed
by STP in the cycle after the last accepted byte (driving 0xFF to force a bit-stuff error in
non-encoding mode); a UTMI byte is reported accepted exactly when the PHY accepted it, and the link
never drives the data bus while DIR is high."

As coded, "NOPID otherwise" means `op_mode == 0b10` (bit stuffing disabled); op modes 1 and 3 send
the PID form.  The NXT schedule is a list of waits: the PHY lets every presented byte sit on the
bus for `w` cycles and takes it in cycle `w+1`.  The transmit command cannot be taken in the very
cycle the transmission is requested (`ulpi_out_req` is a register, the PHY sees the command one
cycle later), hence `1 ≤ w₀`.
-/
namespace LunaVerif.Ulpi

/-- What the bus-side of the transmit translator shows in one cycle: the registered
`ulpi_out_req` (the mux of `UTMITranslator` puts `o` on the pins iff it is set) and `o`. -/
abbrev TxCycle := Bool × TxOut

def Tx.outs : Tx → List TxIn → List TxCycle
  | _, [] => []
  | t, i :: is => (t.outReq, (t.step i).2) :: Tx.outs (t.step i).1 is

def Tx.final : Tx → List TxIn → Tx
  | t, [] => t
  | t, i :: is => Tx.final (t.step i).1 is

/-- The UTMI transmitter presents byte `b` with `tx_valid`, the PHY keeps NXT low for `w` cycles and
takes the byte in the next one.  `bi` is `bus_idle` during these cycles. -/
def holdInputs (op : Nat) (bi : Bool) (b w : Nat) : List TxIn :=
  List.replicate w ⟨b, true, op, bi, false⟩ ++ [⟨b, true, op, bi, true⟩]

def packetInputs (op : Nat) (bi : Bool) : List (Nat × Nat) → List TxIn
  | [] => []
  | (b, w) :: rest => holdInputs op bi b w ++ packetInputs op bi rest

/-- What the PHY must see for a held byte: the byte, no STP, `tx_ready` exactly in the last cycle. -/
def holdCycles (b w : Nat) : List TxCycle :=
  List.replicate w (true, ⟨b, false, false⟩) ++ [(true, ⟨b, true, false⟩)]

def packetCycles : List (Nat × Nat) → List TxCycle
  | [] => []
  | (b, w) :: rest => holdCycles b w ++ packetCycles rest

theorem outs_append (t : Tx) (a b : List TxIn) :
    Tx.outs t (a ++ b) = Tx.outs t a ++ Tx.outs (Tx.final t a) b := by
  induction a generalizing t with
  | nil => rfl
  | cons i is ih => simp [Tx.outs, Tx.final, ih]

theorem final_append (t : Tx) (a b : List TxIn) :
    Tx.final t (a ++ b) = Tx.final (Tx.final t a) b := by
  induction a generalizing t with
  | nil => rfl
  | cons i is ih => simp [Tx.final, ih]

theorem transmit_hold (op : Nat) (bi : Bool) (b w : Nat) :
    Tx.outs ⟨.transmit, true⟩ (holdInputs op bi b w) = holdCycles b w ∧
    Tx.final ⟨.transmit, true⟩ (holdInputs op bi b w) = ⟨.transmit, true⟩ := by
  induction w with
  | zero => simp [holdInputs, holdCycles, Tx.outs, Tx.final, Tx.step]
  | succ w ih =>
    obtain ⟨ih1, ih2⟩ := ih
    simp only [holdInputs, holdCycles, List.replicate_succ, List.cons_append, Tx.outs, Tx.final] at *
    simp [Tx.step, ih1, ih2]

theorem transmit_packet (op : Nat) (bi : Bool) (items : List (Nat × Nat)) :
    Tx.outs ⟨.transmit, true⟩ (packetInputs op bi items) = packetCycles items ∧
    Tx.final ⟨.transmit, true⟩ (packetInputs op bi items) = ⟨.transmit, true⟩ := by
  induction items with
  | nil => simp [packetInputs, packetCycles, Tx.outs, Tx.final]
  | cons it rest ih =>
    obtain ⟨b, w⟩ := it
    obtain ⟨h1, h2⟩ := transmit_hold op bi b w
    simp [packetInputs, packetCycles, outs_append, final_append, h1, h2, ih.1, ih.2]

/-- The transmit command as coded: PID form unless bit stuffing is disabled. -/
def txCommand (op b0 : Nat) : Nat :=
  if op == OP_MODE_NO_BIT_STUFFING then TRANSMIT_COMMAND else TRANSMIT_COMMAND ||| (b0 % 16)

theorem idle_step (q : Bool) (op b0 : Nat) (nxt : Bool) :
    Tx.step ⟨.idle, q⟩ ⟨b0, true, op, true, nxt⟩ =
      (⟨if nxt then .transmit else .idle, true⟩,
        ⟨txCommand op b0, nxt && !(op == OP_MODE_NO_BIT_STUFFING), false⟩) := by
  unfold Tx.step txCommand; by_cases h : op = OP_MODE_NO_BIT_STUFFING <;> simp [h]

theorem idle_wait (op b0 w : Nat) :
    Tx.outs ⟨.idle, true⟩ (List.replicate w ⟨b0, true, op, true, false⟩)
      = List.replicate w (true, ⟨txCommand op b0, false, false⟩) ∧
    Tx.final ⟨.idle, true⟩ (List.replicate w ⟨b0, true, op, true, false⟩) = ⟨.idle, true⟩ := by
  induction w with
  | zero => simp [Tx.outs, Tx.final]
  | succ w ih =>
    simp only [List.replicate_succ, Tx.outs, Tx.final]
    simp [idle_step, ih.1, ih.2]

/-- The cycles of the transmit command: requested in the first cycle (not yet on the pins:
`ulpi_out_req` still low), held `w0 - 1` further cycles, taken by the PHY in the last; `tx_ready`
accompanies the PHY's NXT in PID form and stays low in NOPID form. -/
def commandCycles (op b0 w0 : Nat) : List TxCycle :=
  (false, ⟨txCommand op b0, false, false⟩) ::
    (List.replicate (w0 - 1) (true, ⟨txCommand op b0, false, false⟩)
      ++ [(true, ⟨txCommand op b0, !(op == OP_MODE_NO_BIT_STUFFING), false⟩)])

theorem command_phase (op b0 w0 : Nat) (hw : 1 ≤ w0) :
    Tx.outs {} (holdInputs op true b0 w0) = commandCycles op b0 w0 ∧
    Tx.final {} (holdInputs op true b0 w0) = ⟨.transmit, true⟩ := by
  obtain ⟨w, rfl⟩ : ∃ w, w0 = w + 1 := ⟨w0 - 1, by omega⟩
  obtain ⟨i1, i2⟩ := idle_wait op b0 w
  simp [holdInputs, commandCycles, List.replicate_succ, Tx.outs, Tx.final, idle_step, outs_append, final_append, i1, i2]

/-- The bytes that follow the command: all but the first in PID form (the PID went out inside the
command), all of them in NOPID form. -/
def afterCommand (op b0 : Nat) (w1 : Nat) (rest : List (Nat × Nat)) : List (Nat × Nat) :=
  if op == OP_MODE_NO_BIT_STUFFING then (b0, w1) :: rest else rest

/-- The whole stimulus of one packet: first byte `b0` (command wait `w0`; in NOPID form it is then
presented again and waits `w1`), the remaining bytes with their waits, and the cycle in which the
UTMI transmitter has dropped `tx_valid` (other inputs arbitrary). -/
def packetStimulus (op : Nat) (bi : Bool) (b0 w0 w1 : Nat) (rest : List (Nat × Nat)) (last : TxIn) :
    List TxIn :=
  holdInputs op true b0 w0 ++ packetInputs op bi (afterCommand op b0 w1 rest) ++ [last]

/-- **tx_cmd_then_bytes_then_stp.**  For every packet (`b0 :: rest`), op mode (constant over the
packet), NXT schedule and either value of `bus_idle` after the command: from reset/idle the
translator shows the transmit command until the PHY takes it, then every remaining byte until the
PHY takes it, then STP for one cycle — the cycle after the last accepted byte — with 0x00 on the
data lines, 0xFF when bit stuffing is disabled; `ulpi_out_req` covers exactly the cycles after the
first up to and including STP; and the translator is back in its reset state, ready for the next
packet. -/
theorem tx_cmd_then_bytes_then_stp (op : Nat) (bi : Bool) (b0 w0 w1 : Nat) (rest : List (Nat × Nat))
    (last : TxIn) (hw : 1 ≤ w0) (hlast : last.txValid = false) (hop : last.opMode = op) :
    Tx.outs {} (packetStimulus op bi b0 w0 w1 rest last)
      = commandCycles op b0 w0 ++ packetCycles (afterCommand op b0 w1 rest)
        ++ [(true, ⟨if op == OP_MODE_NO_BIT_STUFFING then 0xFF else 0, last.nxt, true⟩)]
    ∧ Tx.final {} (packetStimulus op bi b0 w0 w1 rest last) = {} := by
  obtain ⟨c1, c2⟩ := command_phase op b0 w0 hw
  obtain ⟨p1, p2⟩ := transmit_packet op bi (afterCommand op b0 w1 rest)
  obtain ⟨d, v, o, b, n⟩ := last
  simp only at hlast hop
  subst hlast hop
  simp [packetStimulus, outs_append, final_append, c1, c2, p1, p2, Tx.outs, Tx.final, Tx.step]

/-- Non-vacuity: a three byte packet C3 11 22, PID form, waits 2/0/1; and the NOPID form. -/
example : (Tx.outs {} (packetStimulus 0 true 0xC3 2 0 [(0x11, 0), (0x22, 1)] ⟨0, false, 0, true, false⟩)).map
    (fun c => (c.1, c.2.dataOut, c.2.txReady, c.2.stp))
    = [(false, 0x43, false, false), (true, 0x43, false, false), (true, 0x43, true, false),
       (true, 0x11, true, false), (true, 0x22, false, false), (true, 0x22, true, false),
       (true, 0, false, true)] := by decide
example : (Tx.outs {} (packetStimulus 2 true 0xC3 1 1 [(0x11, 0)] ⟨0, false, 2, true, false⟩)).map
    (fun c => (c.1, c.2.dataOut, c.2.txReady, c.2.stp))
    = [(false, 0x40, false, false), (true, 0x40, false, false), (true, 0xC3, false, false),
       (true, 0xC3, true, false), (true, 0x11, true, false), (true, 0xFF, false, true)] := by decide

/-- **tx_ready_iff_phy_accepted.**  In every state and for every input: the translator reports a
UTMI byte accepted exactly when the PHY asserts NXT in a cycle in which the translator presents
that byte to it — in TRANSMIT (the byte itself is on `ulpi_data_out`), or in IDLE with the bus
granted and the PID-form command (which carries the byte's PID nibble) on `ulpi_data_out`. -/
theorem tx_ready_iff_phy_accepted (t : Tx) (i : TxIn) :
    (t.step i).2.txReady =
      (i.nxt && (t.st == .transmit ||
                 (t.st == .idle && i.txValid && i.busIdle && !(i.opMode == OP_MODE_NO_BIT_STUFFING)))) := by
  obtain ⟨st, r⟩ := t
  cases st
  · -- IDLE: `tx_ready` is NXT under the PID-form command, low under the NOPID form and without a command
    cases hv : i.txValid <;> cases hb : i.busIdle <;> by_cases ho : i.opMode = OP_MODE_NO_BIT_STUFFING <;>
      simp [Tx.step, hv, hb, ho]
  · -- TRANSMIT: `tx_ready` is NXT
    cases hv : i.txValid <;> simp [Tx.step, hv]

/-- …and in those cycles (with `tx_valid` high: UTMI ignores `tx_ready` otherwise) the data lines of
the translator carry the byte (TRANSMIT) or the command with its PID nibble (IDLE), without STP. -/
theorem tx_ready_data (t : Tx) (i : TxIn) (h : (t.step i).2.txReady = true) (hv : i.txValid = true) :
    (t.step i).2.dataOut = (if t.st == .transmit then i.txData else TRANSMIT_COMMAND ||| (i.txData % 16))
    ∧ (t.step i).2.stp = false := by
  obtain ⟨st, r⟩ := t
  cases st
  · by_cases hb : i.busIdle = true <;> by_cases ho : i.opMode = OP_MODE_NO_BIT_STUFFING <;>
      simp_all [Tx.step]
  · simp_all [Tx.step]

/-- **never_drive_when_dir.**  The link's output enable is the complement of DIR in every cycle,
whatever the state and the other inputs. -/
theorem never_drive_when_dir (cfg : Config) (s : Utmi) (i : UtmiIn) :
    (s.step cfg i).2.oe = !i.phy.dir := by
  simp [Utmi.step]

theorem mux_shows_transmitter (cfg : Config) (s : Utmi) (i : UtmiIn) (h : s.tx.outReq = true) :
    (s.step cfg i).2.dataO =
      (s.tx.step ⟨i.txData, i.txValid, i.ctrl.opMode % 4, s.txBusIdle i.ctrl i.phy.dir, i.phy.nxt⟩).2.dataOut ∧
    (s.step cfg i).2.stp =
      (s.tx.step ⟨i.txData, i.txValid, i.ctrl.opMode % 4, s.txBusIdle i.ctrl i.phy.dir, i.phy.nxt⟩).2.stp ∧
    (s.step cfg i).2.txReady =
      (s.tx.step ⟨i.txData, i.txValid, i.ctrl.opMode % 4, s.txBusIdle i.ctrl i.phy.dir, i.phy.nxt⟩).2.txReady := by
  simp [Utmi.step, h]

/-- The transmitter never starts while DIR is high. -/
theorem tx_bus_idle_needs_dir_low (s : Utmi) (c : Controls) (dir : Bool) (h : s.txBusIdle c dir = true) :
    dir = false ∧ s.ctl.busy = false ∧ (s.ctlOut c).writeReq = false ∧ s.phyReady = true := by
  simp [Utmi.txBusIdle] at h; simp [h]

end LunaVerif.Ulpi
