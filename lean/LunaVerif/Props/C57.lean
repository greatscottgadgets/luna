import LunaVerif.Model.Device.Full
import LunaVerif.Generated.AcmDescriptors
import LunaVerif.Lemmas.DeviceSteps
import LunaVerif.Lemmas.DeviceAddr
/-!
# C57 — The USB serial device carries bytes both ways and answers CDC requests

"The ready-made USB serial (CDC-ACM) device enumerates under a standard host sequence, accepts
SET_LINE_CODING, STALLs the other class and vendor requests, delivers bytes written by the host to its
receive stream in order, and delivers bytes from its transmit stream to the host in order."

The model is an INSTANCE of the full-device event model (`Model/Device/Full.lean`, tied to the real
`USBSerialDevice` event by event on every run): control endpoint with the standard request handler and
`ACMRequestHandlers`, the never-fed stream IN endpoint 3, bulk OUT endpoint 4 (`rx`), bulk IN endpoint 4
(`tx`), and the descriptor set that `USBSerialDevice.create_descriptors` produces (regenerated from /repo
into `Generated/AcmDescriptors.lean` on every run).

* `acm_enumerates`               the standard enumeration, for EVERY address the host may assign
* `set_line_coding_accepted`     from EVERY state: SETUP ACKed, data stage ACKed, status stage DATA1 ZLP
* `other_class_vendor_stalled`   from EVERY state, for EVERY class / vendor / reserved request other than
                                 SET_LINE_CODING: data-stage and status-stage IN tokens are STALLed, OUT data
                                 packets get no answer or STALL, never ACK
* `vendor_reserved_stalled`      the same for EVERY vendor / reserved request, bRequest unconstrained (0x20 included)
* `unsupported_request_stalled`  whole transfer from EVERY state, EVERY such SETUP packet (any recipient, direction,
                                 bRequest, wLength): SETUP ACKed, first IN -> STALL, address / configuration unchanged
* `rx_in_order_partial`          OUT endpoint: delivered ++ buffered = the packets the host got ACKed, each
                                 once, in order, plus — while host and endpoint toggles differ — the packet whose
                                 ACK the host missed; for every interleaving of host packets (including
                                 retransmissions after a lost ACK, corrupted packets and packets that do not
                                 fit into the FIFO, which are NAKed) and consumer reads in which the host
                                 repeats a packet until it has seen it ACKed (`rxLegal`).
                                 PARTIAL: no CLEAR_FEATURE(ENDPOINT_HALT) in between (it resets the toggle).
* `tx_in_order_partial`          IN endpoint: what the host has accepted ++ what is still buffered = the bytes the
                                 producer handed over, in order, each once — for every interleaving of producer
                                 chunks, IN tokens, received / lost packets and received / lost ACKs.
                                 PARTIAL: no CLEAR_FEATURE(ENDPOINT_HALT) in between (it resets the toggle).

The last two are stated on the operations of one endpoint; `Props/C57Streams.lean` (`rx_in_order`, `tx_in_order`) has
them for every event history of the whole device, halt-clear included.
-/
namespace LunaVerif.C57
open LunaVerif LunaVerif.Device LunaVerif.Device.Full

def maxLen : List (Nat × Nat × List Nat) → Nat
  | [] => 0
  | (_, _, b) :: r => max b.length (maxLen r)

/-- Width of the descriptor handler's position register: enough bits for the longest descriptor. -/
def posBits (n : Nat) : Nat := if n = 0 then 1 else Nat.log2 n + 1

def acmDev : DevConfig :=
  { descriptors := Generated.acmDescriptors, maxPacket := 64,
    posBits := posBits (maxLen Generated.acmDescriptors), extra := [⟨1, 0x20⟩] }

/-- `USBSerialDevice.elaborate`: status endpoint 3 (a stream IN endpoint nobody feeds), rx = OUT 4, tx = IN 4. -/
def acmCfg : FullConfig :=
  { dev := acmDev
    eps := [{ kind := .streamIn, num := 3, mps := 64 }, { kind := .streamOut, num := 4, mps := 64, depth := 127 },
            { kind := .streamIn, num := 4, mps := 64 }]
    acm := true }

/-! ## 1. Enumeration -/

def setupBytes (rt req value index length : Nat) : List Nat :=
  [rt, req, value % 256, value / 256, index % 256, index / 256, length % 256, length / 256]

def ctrlRead (a : Nat) (su : List Nat) (n : Nat) : List HostEvent :=
  [.token PID_SETUP a 0, .data PID_DATA0 su true] ++
  (List.replicate n [HostEvent.token PID_IN a 0, .handshake PID_ACK]).flatten ++
  [.token PID_OUT a 0, .data PID_DATA1 [] true]

def ctrlWrite (a : Nat) (su : List Nat) : List HostEvent :=
  [.token PID_SETUP a 0, .data PID_DATA0 su true, .token PID_IN a 0, .handshake PID_ACK]

/-- The host side of a standard enumeration that assigns address `a`. -/
def enumeration (a : Nat) : List HostEvent :=
  ctrlRead 0 (setupBytes 0x80 6 0x0100 0 64) 1 ++          -- GET_DESCRIPTOR(device), 64 bytes asked
  ctrlWrite 0 (setupBytes 0x00 5 a 0 0) ++                  -- SET_ADDRESS a
  ctrlRead a (setupBytes 0x80 6 0x0100 0 18) 1 ++           -- GET_DESCRIPTOR(device)
  ctrlRead a (setupBytes 0x80 6 0x0200 0 9) 1 ++            -- GET_DESCRIPTOR(configuration), header only
  ctrlRead a (setupBytes 0x80 6 0x0200 0 255) 2 ++          -- … in full (two packets)
  ctrlRead a (setupBytes 0x80 6 0x0300 0 255) 1 ++          -- string 0 (languages)
  ctrlRead a (setupBytes 0x80 6 0x0302 0x0409 255) 1 ++     -- product string
  ctrlWrite a (setupBytes 0x00 9 1 0 0)                     -- SET_CONFIGURATION 1

def descOf (ty ix : Nat) : List Nat := (lookupDescriptor Generated.acmDescriptors ty ix).getD []

def readResp (bytes : List Nat) (n : Nat) : List Resp :=
  [.none, .hs PID_ACK] ++
  ((List.range n).map (fun k =>
      [Resp.data (if k % 2 = 0 then PID_DATA1 else PID_DATA0) ((bytes.drop (64 * k)).take 64), Resp.none])).flatten ++
  [.none, .hs PID_ACK]

def writeResp : List Resp := [.none, .hs PID_ACK, .data PID_DATA1 [], .none]

/-- What the device must answer: every descriptor as produced by `create_descriptors`, cut to the requested
length and to 64-byte packets with alternating DATA1/DATA0, ZLP status stages for the two writes. -/
def enumerationResp : List Resp :=
  readResp (descOf 1 0) 1 ++ writeResp ++ readResp (descOf 1 0) 1 ++ readResp ((descOf 2 0).take 9) 1 ++
  readResp (descOf 2 0) 2 ++ readResp (descOf 3 0) 1 ++ readResp (descOf 3 2) 1 ++ writeResp

/-- Responses and the final state in one pass. -/
def runAll (c : FullConfig) : FullState → List HostEvent → List Resp × FullState
  | s, [] => ([], s)
  | s, e :: es =>
    let r := runAll c (step c s e).1 es
    ((step c s e).2.resp :: r.1, r.2)

theorem runAll_spec (c : FullConfig) (s : FullState) (h : List HostEvent) :
    runAll c s h = ((Full.run c s h).map (·.resp), Full.final c s h) := by
  induction h generalizing s with
  | nil => rfl
  | cons e es ih => simp [runAll, Full.run, Full.final, ih]

theorem runAll_append (c : FullConfig) (s : FullState) (x y : List HostEvent) :
    runAll c s (x ++ y) = ((runAll c s x).1 ++ (runAll c (runAll c s x).2 y).1, (runAll c (runAll c s x).2 y).2) := by
  induction x generalizing s with
  | nil => rfl
  | cons e es ih => simp only [List.cons_append, runAll, ih]

/-- The enumeration up to the SETUP packet of its third transfer: the part in which the address is assigned (after that
packet nothing in the device remembers `a` but the address register). -/
def enumHead (a : Nat) : List HostEvent :=
  ctrlRead 0 (setupBytes 0x80 6 0x0100 0 64) 1 ++ ctrlWrite 0 (setupBytes 0x00 5 a 0 0) ++
  [.token PID_SETUP a 0, .data PID_DATA0 (setupBytes 0x80 6 0x0100 0 18) true]

def enumTail : List HostEvent := (enumeration 0).drop 12

theorem enumeration_split (a : Nat) : enumeration a = enumHead a ++ enumTail.map (evAt a) := by
  simp [enumeration, enumHead, enumTail, ctrlRead, ctrlWrite, evAt]

def enumMid : FullState := (runAll acmCfg (init acmCfg) (enumHead 0)).2

def enumPre : List HostEvent := ctrlRead 0 (setupBytes 0x80 6 0x0100 0 64) 1 ++ [.token PID_SETUP 0 0]

/-- The five events whose effect depends on `a`. -/
def setBlock (a : Nat) (p : List Nat) : List HostEvent :=
  [.data PID_DATA0 (setupBytes 0x00 5 a 0 0) true, .token PID_IN 0 0, .handshake PID_ACK,
   .token PID_SETUP a 0, .data PID_DATA0 p true]

theorem enumHead_split (a : Nat) : enumHead a = enumPre ++ setBlock a (setupBytes 0x80 6 0x0100 0 18) := by
  simp [enumHead, enumPre, setBlock, ctrlRead, ctrlWrite]

theorem parse_setAddress (a : Nat) (ha : a < 256) : parseSetup (setupBytes 0x00 5 a 0 0) =
    { isIn := false, type := 0, recipient := 0, request := 5, value := a, index := 0, length := 0 } := by
  simp [parseSetup, setupBytes, byteAt]; omega

/-- `h0` … `h4`: the setup decoder waits for the packet of a SETUP token received at address 0.  `wValue` lives in
`setup.value` from the first packet of the block to the second; in between only the status-stage ACK reads it (`stdAck`:
`address := value % 128`), and the endpoints see neither the address field of a token (`epsStep_evAt`) nor the payload of a
SETUP packet (`epsStep_payload`). -/
theorem setBlock_addr (c : FullConfig) (hx : c.dev.extra = [⟨1, 0x20⟩]) (s : FullState) (a : Nat) (ha : a < 128)
    (p : List Nat) (hp : p.length = 8) (h0 : s.ctl.address = 0) (h1 : s.ctl.sdWait = true)
    (h2 : s.ctl.tokPid = PID_SETUP) (h3 : s.ctl.tokEp = 0) (h4 : s.ctl.stage = .setup) :
    runAll c s (setBlock a p) = ((runAll c s (setBlock 0 p)).1, Full.withAddr a (runAll c s (setBlock 0 p)).2) := by
  have hl : ∀ v, (setupBytes 0x00 5 v 0 0).length = 8 := fun _ => rfl
  have ha' : a % 128 = a := Nat.mod_eq_of_lt ha
  simp [runAll, setBlock, Full.step, Device.step, core, onToken, afterToken, tokenStage, onData, onSetupData,
    parse_setAddress a (by omega), parse_setAddress 0 (by omega), hl, hp, h0, h1, h2, h3, h4, Resp.isData, Resp.dataLen,
    tokenPidOf, request, stdRequest, owner, extraClaims, hx, acmAcksData, stageAfterSetup, Resp.isNone, dispatch,
    onHandshake, stdAck, toIdle, dataPid, ha', Full.withAddr, Device.withAddr, ctxOf, ackReachesStd,
    PID_SETUP, PID_OUT, PID_IN, PID_ACK, PID_DATA0, PID_DATA1, TYPE_STANDARD, REQ_GET_STATUS, REQ_CLEAR_FEATURE,
    REQ_SET_ADDRESS, REQ_SET_CONFIGURATION, REQ_GET_DESCRIPTOR, REQ_GET_CONFIGURATION]
  -- what is left is the other endpoints, which get the same events up to the address field and the SET_ADDRESS payload
  split <;> simp <;>
    rw [show HostEvent.token 13 a 0 = evAt a (.token 13 0 0) from rfl, epsStep_evAt,
      epsStep_payload _ (by decide) 3 (setupBytes 0 5 a 0 0) (setupBytes 0 5 0 0 0)]

theorem enum_head0 : (runAll acmCfg (init acmCfg) (enumHead 0)).1 = enumerationResp.take 12 ∧
    let s := (runAll acmCfg (init acmCfg) enumPre).2.ctl
    s.address = 0 ∧ s.sdWait = true ∧ s.tokPid = PID_SETUP ∧ s.tokEp = 0 ∧ s.stage = .setup := by decide +kernel

theorem enum_tail : addrFreeFrom acmCfg enumMid enumTail = true ∧
    (Full.run acmCfg enumMid enumTail).map (·.resp) = enumerationResp.drop 12 ∧
    (Full.final acmCfg enumMid enumTail).ctl.config = 1 := by decide +kernel

/-- **C57 (enumeration).** For every address `a` a host can assign, the standard enumeration sequence is
answered with the device, configuration and string descriptors of `create_descriptors` (device descriptor
first at address 0, then everything at address `a`); afterwards the device has address `a` and
configuration 1. -/
theorem acm_enumerates (a : Nat) (ha : a < 128) :
    (Full.run acmCfg (init acmCfg) (enumeration a)).map (·.resp) = enumerationResp ∧
    (Full.final acmCfg (init acmCfg) (enumeration a)).ctl.address = a ∧
    (Full.final acmCfg (init acmCfg) (enumeration a)).ctl.config = 1 := by
  obtain ⟨hr0, g0, g1, g2, g3, g4⟩ := enum_head0
  -- the five events that assign the address do at `a` what they do at 0, up to the address register (`setBlock_addr`) …
  have hb := setBlock_addr acmCfg rfl (runAll acmCfg (init acmCfg) enumPre).2 a ha
    (setupBytes 0x80 6 0x0100 0 18) rfl g0 g1 g2 g3 g4
  have hhead : runAll acmCfg (init acmCfg) (enumHead a) = (enumerationResp.take 12, Full.withAddr a enumMid) := by
    rw [enumHead_split, runAll_append, hb, ← hr0, enumMid, enumHead_split 0, runAll_append]
  -- … and the rest, evaluated at address 0, is the same at address `a` (`Full.run_addr`)
  obtain ⟨hf, hr, hc⟩ := enum_tail
  obtain ⟨t1, t2⟩ := run_addr acmCfg a enumTail enumMid hf
  have key := runAll_spec acmCfg (init acmCfg) (enumeration a)
  rw [enumeration_split a, runAll_append, hhead] at key
  simp only [runAll_spec, t1, t2, hr] at key
  obtain ⟨k1, k2⟩ := Prod.mk.inj key
  have hw : ∀ s : FullState, (Full.withAddr a s).ctl.address = a ∧ (Full.withAddr a s).ctl.config = s.ctl.config :=
    fun _ => ⟨rfl, rfl⟩
  rw [enumeration_split a, ← k1, ← k2, (hw _).1, (hw _).2]
  exact ⟨List.take_append_drop 12 _, rfl, hc⟩

/-- … and the sequence is a legal host history (non-vacuity of `LegalHost` on a real enumeration). -/
example : Full.LegalHost acmCfg (enumeration 5) = true := by decide +kernel

/-- the descriptors really are non-trivial -/
example : (descOf 1 0).length = 18 ∧ (descOf 2 0).length > 64 ∧ (descOf 3 2).length > 2 := by decide

/-! ## 2. Class and vendor requests -/

/-- The device's request handlers: the standard one plus `ACMRequestHandlers` (which claims CLASS requests
with bRequest = SET_LINE_CODING = 0x20). -/
def IsAcm (c : FullConfig) : Prop := c.acm = true ∧ c.dev.extra = [⟨1, 0x20⟩]

/-- A class / vendor / reserved request other than CLASS / SET_LINE_CODING. -/
def OtherClassVendor (su : Setup) : Prop := su.type ≠ TYPE_STANDARD ∧ ¬ (su.type = 1 ∧ su.request = 0x20)

theorem owner_other (c : DevConfig) (hx : c.extra = [⟨1, 0x20⟩]) (su : Setup) (h : OtherClassVendor su) :
    owner c su = .fallback := by
  obtain ⟨h0, h1⟩ := h
  have hn : extraClaims c su = 0 := by
    simp only [extraClaims, hx, List.filter_cons, List.filter_nil]
    split
    · rename_i hc
      simp only [Bool.and_eq_true, beq_iff_eq] at hc
      exact absurd hc h1
    · rfl
  unfold owner
  simp only [hn]
  have : (su.type == TYPE_STANDARD) = false := by simpa using h0
  simp [this]

theorem request_other (c : DevConfig) (hx : c.extra = [⟨1, 0x20⟩]) (s : DevState) (h : OtherClassVendor s.setup)
    (r : Req) : (request c s r).2 = .hs PID_STALL := by
  unfold request
  rw [owner_other c hx s.setup h]

theorem request_other_state (c : DevConfig) (hx : c.extra = [⟨1, 0x20⟩]) (s : DevState) (h : OtherClassVendor s.setup)
    (r : Req) : (request c s r).1 = s := by
  unfold request
  rw [owner_other c hx s.setup h]
  simp only []
  rw [if_neg h.1]

theorem acm_no_ack (s : DevState) (ev : HostEvent) (h : OtherClassVendor s.setup) : acmAcksData s ev = false := by
  unfold acmAcksData
  split
  · cases hv : (_ && _ && _ && _ && _ && s.setup.type == 1 && s.setup.request == 0x20) with
    | false => rfl
    | true =>
      simp only [Bool.and_eq_true, beq_iff_eq] at hv
      exact absurd ⟨hv.1.2, hv.2⟩ h.2
  · rfl

/-- **C57 (other class / vendor requests).** While the latched SETUP packet is a class, vendor or reserved
request other than SET_LINE_CODING, in EVERY state of the device an IN token on endpoint 0 in the data stage
or in / entering the status stage is answered STALL, and a data packet on endpoint 0 (OUT data stage, or a
status-stage OUT) is answered with nothing or STALL — never ACKed, never answered with DATA. -/
theorem other_class_vendor_stalled (c : FullConfig) (hc : IsAcm c) (s : FullState)
    (h : OtherClassVendor s.ctl.setup) :
    (s.ctl.stage ≠ .setup → s.ctl.stage ≠ .statusOut →
        (Full.step c s (.token PID_IN s.ctl.address 0)).2.resp = .hs PID_STALL) ∧
    (∀ pid p ok, s.ctl.sdWait = false → s.ctl.tokEp = 0 →
        (Full.step c s (.data pid p ok)).2.resp = .none ∨ (Full.step c s (.data pid p ok)).2.resp = .hs PID_STALL) := by
  refine ⟨?_, ?_⟩
  · intro h1 h2
    have hr : (onToken c.dev s.ctl PID_IN 0).2 = .hs PID_STALL := by
      unfold onToken
      simp only [↓reduceIte, afterToken, tokenStage]
      have hp : PID_IN ≠ PID_SETUP := by decide
      simp only [hp, ↓reduceIte]
      cases hs : s.ctl.stage <;> simp [hs, PID_OUT, PID_IN, PID_PING] at h1 h2 ⊢ <;>
        (refine request_other c.dev hc.2 _ ?_ _; exact h)
    simp only [Full.step, acm_no_ack s.ctl _ h, Bool.and_false, Bool.false_and, Bool.false_eq_true, ↓reduceIte,
      Device.step, core, hr, Resp.isNone]
    simp
  · intro pid p ok hw h0
    have ht : (onData c.dev s.ctl p ok).1.tokEp = 0 := by rw [(onData_tok c.dev s.ctl p ok).2]; exact h0
    have hr : (onData c.dev s.ctl p ok).2 = .none ∨ (onData c.dev s.ctl p ok).2 = .hs PID_STALL := by
      unfold onData
      split
      · exact Or.inl rfl
      · rw [if_neg (by simp [hw])]
        split
        · exact Or.inr (request_other c.dev hc.2 s.ctl h .status)
        · exact Or.inl rfl
    simp only [Full.step, acm_no_ack s.ctl _ h, Bool.and_false, Bool.false_and, Bool.false_eq_true, ↓reduceIte,
      Device.step, core, ht]
    simpa using hr


/-- Vendor (type 2) and reserved (type 3) requests are "other" WHATEVER their bRequest — SET_LINE_CODING's number
0x20 included: `ACMRequestHandlers` looks at the request code only under `setup.type == CLASS`, and the
`StallOnlyRequestHandler` of `USBSerialDevice` never claims, so the multiplexer's stall-only fallback answers. -/
theorem vendor_reserved_is_other (su : Setup) (h : su.type = 2 ∨ su.type = 3) : OtherClassVendor su := by
  rcases h with h | h <;> simp [OtherClassVendor, h, TYPE_STANDARD]

/-- **C57 (every vendor / reserved request).** `other_class_vendor_stalled` with the request code unconstrained:
while a vendor- or reserved-type SETUP packet is latched — bRequest 0x20 or any other — IN tokens of its data /
status stage are STALLed and its OUT packets are never ACKed. -/
theorem vendor_reserved_stalled (c : FullConfig) (hc : IsAcm c) (s : FullState)
    (h : s.ctl.setup.type = 2 ∨ s.ctl.setup.type = 3) :
    (s.ctl.stage ≠ .setup → s.ctl.stage ≠ .statusOut →
        (Full.step c s (.token PID_IN s.ctl.address 0)).2.resp = .hs PID_STALL) ∧
    (∀ pid p ok, s.ctl.sdWait = false → s.ctl.tokEp = 0 →
        (Full.step c s (.data pid p ok)).2.resp = .none ∨ (Full.step c s (.data pid p ok)).2.resp = .hs PID_STALL) :=
  other_class_vendor_stalled c hc s (vendor_reserved_is_other _ h)

/-- the hypothesis is satisfiable exactly where it matters: vendor / reserved requests numbered 0x20 (any recipient,
direction, wLength) are "other", CLASS 0x20 is not -/
example : OtherClassVendor (parseSetup [0x40, 0x20, 0, 0, 0, 0, 0, 0]) := by unfold OtherClassVendor; decide
example : OtherClassVendor (parseSetup [0xE3, 0x20, 1, 2, 0, 0, 7, 0]) := by unfold OtherClassVendor; decide
example : OtherClassVendor (parseSetup [0x21, 0x22, 3, 0, 0, 0, 0, 0]) := by unfold OtherClassVendor; decide
example : ¬ OtherClassVendor (parseSetup [0x21, 0x20, 0, 0, 0, 0, 7, 0]) := by unfold OtherClassVendor; decide

/-- The host side of a control transfer up to its first IN token (the data stage of a control read, the status stage
of a control write without data, or the early status IN by which a host ends an OUT data stage). -/
def unsupportedTransfer (a : Nat) (su : List Nat) : List HostEvent :=
  [.token PID_SETUP a 0, .data PID_DATA0 su true, .token PID_IN a 0]

/-- **C57 (other class / vendor / reserved requests, whole transfer).** From EVERY state of the device, for EVERY
8-byte SETUP packet that is a class, vendor or reserved request other than CLASS / SET_LINE_CODING — every
recipient, direction, bRequest, wValue, wIndex, wLength: the SETUP transaction is ACKed, the first IN token is
answered STALL, and address and configuration are what they were. -/
theorem unsupported_request_stalled (c : FullConfig) (hc : IsAcm c) (s : FullState) (su : List Nat) (hl : su.length = 8)
    (h : OtherClassVendor (parseSetup su)) :
    (Full.run c s (unsupportedTransfer s.ctl.address su)).map (·.resp) = [.none, .hs PID_ACK, .hs PID_STALL] ∧
    (Full.final c s (unsupportedTransfer s.ctl.address su)).ctl.address = s.ctl.address ∧
    (Full.final c s (unsupportedTransfer s.ctl.address su)).ctl.config = s.ctl.config := by
  obtain ⟨hacm, hx⟩ := hc
  have ho := owner_other c.dev hx (parseSetup su) h
  have hty : (parseSetup su).type ≠ TYPE_STANDARD := h.1
  by_cases h0 : (parseSetup su).length = 0 <;> cases hin : (parseSetup su).isIn <;>
  simp [Full.run, Full.final, unsupportedTransfer, Full.step, Device.step, core, onToken, afterToken, tokenStage, onData, onSetupData,
    hl, Resp.isData, Resp.dataLen, tokenPidOf, request, ho, hty, h0, hin, acmAcksData, stageAfterSetup, Resp.isNone, PID_SETUP, PID_OUT,
    PID_IN, PID_PING, PID_ACK, PID_DATA0, PID_STALL, ctxOf]

/-- … on the serial device itself, freshly reset: a VENDOR request numbered 0x20 is STALLed, CLASS 0x20 is not -/
example : (Full.run acmCfg (init acmCfg) (unsupportedTransfer 0 [0x40, 0x20, 0, 0, 0, 0, 0, 0])).map (·.resp) =
    [.none, .hs PID_ACK, .hs PID_STALL] := by decide +kernel
example : (Full.run acmCfg (init acmCfg) (unsupportedTransfer 0 [0x21, 0x20, 0, 0, 0, 0, 0, 0])).map (·.resp) =
    [.none, .hs PID_ACK, .data PID_DATA1 []] := by decide +kernel

/-- SET_LINE_CODING for interface `i`: bmRequestType 0x21 (class, interface, host-to-device), bRequest 0x20,
wLength 7. -/
def slcSetup (i : Nat) : List Nat := [0x21, 0x20, 0, 0, i, 0, 7, 0]

def slcTransfer (a i pid : Nat) (lc : List Nat) : List HostEvent :=
  [.token PID_SETUP a 0, .data PID_DATA0 (slcSetup i) true, .token PID_OUT a 0, .data pid lc true, .token PID_IN a 0]

theorem parse_slc (i : Nat) (hi : i < 256) : parseSetup (slcSetup i) =
    { isIn := false, type := 1, recipient := 1, request := 0x20, value := 0, index := i, length := 7 } := by
  simp [parseSetup, slcSetup, byteAt, Nat.mod_eq_of_lt hi]

/-- **C57 (SET_LINE_CODING).** From EVERY state of the device, a SET_LINE_CODING control transfer is
accepted: the SETUP packet is ACKed, the line-coding data packet (whatever its contents and data PID) is
ACKed, and the status-stage IN is answered with a zero-length DATA1 packet. -/
theorem set_line_coding_accepted (c : FullConfig) (hc : IsAcm c) (s : FullState) (i pid : Nat) (hi : i < 256)
    (lc : List Nat) :
    (Full.run c s (slcTransfer s.ctl.address i pid lc)).map (·.resp) =
      [.none, .hs PID_ACK, .none, .hs PID_ACK, .data PID_DATA1 []] := by
  obtain ⟨hacm, hx⟩ := hc
  have hl : (slcSetup i).length = 8 := rfl
  simp [Full.run, slcTransfer, Full.step, Device.step, core, onToken, afterToken, tokenStage, onData, onSetupData,
    parse_slc i hi, hl, Resp.isData, Resp.dataLen, tokenPidOf, request, owner, extraClaims, hx, hacm, acmAcksData, stageAfterSetup, Resp.isNone, PID_SETUP, PID_OUT,
    PID_IN, PID_PING, PID_ACK, PID_DATA0, PID_DATA1, TYPE_STANDARD, ctxOf]

/-! ## 3. Host to device: the receive stream -/

/-- What happens at the OUT endpoint: the host sends a data packet (after an OUT token naming the endpoint)
— `seen` says whether the host notices the device's ACK (a handshake can be lost on the way) — or the
application reads up to `n` bytes from the stream. -/
inductive RxOp
  | send (payload : List Nat) (crcOk seen : Bool)
  | read (n : Nat)
deriving Repr

/-- The host's side of the data-toggle protocol (USB 2.0 §8.6): its toggle, the packet it is still trying to
get across (if any), and the bytes of the packets it knows were ACKed. -/
structure RxHost where
  th      : Bool := false
  pending : Option (List Nat) := none
  done    : List Nat := []

structure RxSys where
  ep        : OutEp := {}
  host      : RxHost := {}
  delivered : List Nat := []      -- bytes the application has read from the rx stream

def bytesOf (f : List Entry) : List Nat := f.map (·.1)

/-- The host uses its current toggle; the endpoint is the one the OUT token named. -/
def rxStep (c : EpCfg) (s : RxSys) : RxOp → RxSys
  | .send p ok seen =>
    let r := outData c s.ep PID_OUT c.num (dataPidOf s.host.th) p ok
    let h := if r.2 = .hs PID_ACK ∧ seen = true then
               { th := !s.host.th, pending := none, done := s.host.done ++ p }
             else { s.host with pending := some p }
    { s with ep := r.1, host := h }
  | .read n => { s with ep := { s.ep with fifo := s.ep.fifo.drop n }, delivered := s.delivered ++ bytesOf (s.ep.fifo.take n) }

/-- The host retransmits the same packet until it has seen it ACKed.  (Nothing is assumed about the free
space: a packet that does not fit is NAKed and simply stays pending.) -/
def rxOpOk (_c : EpCfg) (s : RxSys) : RxOp → Bool
  | .send p _ _ => (match s.host.pending with | none => true | some q => p == q)
  | .read _ => true

def rxRun (c : EpCfg) : RxSys → List RxOp → RxSys
  | s, [] => s
  | s, o :: os => rxRun c (rxStep c s o) os

def rxLegal (c : EpCfg) : RxSys → List RxOp → Bool
  | _, [] => true
  | s, o :: os => rxOpOk c s o && rxLegal c (rxStep c s o) os

/-- In step: everything the host counts as done is delivered or buffered; out of step (the host missed an
ACK): additionally the packet it is about to retransmit. -/
def RxInv (s : RxSys) : Prop :=
  (s.ep.expToggle = s.host.th ∧ s.delivered ++ bytesOf s.ep.fifo = s.host.done) ∨
  (s.ep.expToggle ≠ s.host.th ∧ ∃ q, s.host.pending = some q ∧ s.delivered ++ bytesOf s.ep.fifo = s.host.done ++ q)

theorem bytes_entriesFrom (mps : Nat) (act : Bool) (len : Nat) (p : List Nat) (i : Nat) :
    bytesOf (entriesFrom mps act len p i) = p := by
  induction p generalizing i with
  | nil => rfl
  | cons b bs ih => simp only [entriesFrom, bytesOf, List.map_cons] at ih ⊢; rw [ih]

theorem pidToggle_dataPidOf (t : Bool) : pidToggle (dataPidOf t) = t := by cases t <;> decide

theorem bytesOf_append (a b : List Entry) : bytesOf (a ++ b) = bytesOf a ++ bytesOf b := by
  simp [bytesOf]

/-- `outData` for the endpoint's own OUT token: the packet is taken, or the endpoint stays as it is (a packet with the
other toggle, a retransmission, is ACKed all the same if its CRC is good, and gets no answer otherwise). -/
theorem outData_mine (c : EpCfg) (e : OutEp) (pid : Nat) (p : List Nat) (ok : Bool) :
    let r := outData c e PID_OUT c.num pid p ok
    (r.2 = .hs PID_ACK ∧ pidToggle pid = e.expToggle ∧ r.1.expToggle = !e.expToggle ∧
        bytesOf r.1.fifo = bytesOf e.fifo ++ p) ∨
    (r.1 = e ∧ if pidToggle pid = e.expToggle then r.2 ≠ .hs PID_ACK else r.2 = if ok then .hs PID_ACK else .none) := by
  have hnak : Resp.hs PID_NAK ≠ .hs PID_ACK := by decide
  simp only [outData, and_self, if_true]
  by_cases hm : pidToggle pid = e.expToggle
  · rw [if_neg (by simpa using hm), if_pos hm]
    cases ok
    · exact Or.inr ⟨rfl, Resp.noConfusion⟩
    · rw [if_neg (by decide)]
      split
      · rename_i he
        rw [List.isEmpty_iff.1 he]
        exact Or.inl ⟨rfl, hm, rfl, (List.append_nil _).symm⟩
      · split
        · exact Or.inl ⟨rfl, hm, rfl, by rw [bytesOf_append, entries, bytes_entriesFrom]⟩
        · exact Or.inr ⟨rfl, hnak⟩
  · rw [if_pos (by simpa using hm), if_neg hm]
    exact Or.inr ⟨rfl, rfl⟩

theorem rxInv_step (c : EpCfg) (s : RxSys) (o : RxOp) (hi : RxInv s) (ho : rxOpOk c s o = true) :
    RxInv (rxStep c s o) := by
  cases o with
  | read n =>
    have : bytesOf (s.ep.fifo.take n) ++ bytesOf (s.ep.fifo.drop n) = bytesOf s.ep.fifo := by
      rw [← bytesOf_append, List.take_append_drop]
    simp only [RxInv, rxStep, List.append_assoc, this]
    exact hi
  | send p ok seen =>
    have hd := outData_mine c s.ep (dataPidOf s.host.th) p ok
    simp only [pidToggle_dataPidOf] at hd
    simp only [RxInv, rxStep]
    generalize outData c s.ep PID_OUT c.num (dataPidOf s.host.th) p ok = r at hd ⊢
    rcases hi with ⟨hsync, hb⟩ | ⟨hns, q, hq, hb⟩
    · -- in step: the packet is new to the endpoint
      rcases hd with ⟨_, _, ht, hf⟩ | ⟨he, hr⟩
      · have hb' : s.delivered ++ bytesOf r.1.fifo = s.host.done ++ p := by rw [hf, ← List.append_assoc, hb]
        split
        · exact Or.inl ⟨by rw [ht, hsync], hb'⟩
        · exact Or.inr ⟨by rw [ht, hsync]; exact Bool.eq_not.mp rfl, p, rfl, hb'⟩
      · rw [if_pos hsync.symm] at hr
        rw [if_neg (fun h => hr h.1), he]
        exact Or.inl ⟨hsync, hb⟩
    · -- out of step: a retransmission, skipped by the endpoint
      simp only [rxOpOk, hq, beq_iff_eq] at ho
      subst ho
      rcases hd with ⟨_, hm, _⟩ | ⟨he, _⟩
      · exact absurd hm.symm hns
      · rw [he]
        -- whether or not the host sees this packet ACKed, the endpoint has it already
        split
        · exact Or.inl ⟨Bool.eq_not.mpr hns, hb⟩
        · exact Or.inr ⟨hns, p, rfl, hb⟩

theorem rxInv_run (c : EpCfg) (s : RxSys) (ops : List RxOp) (hi : RxInv s) (hl : rxLegal c s ops = true) :
    RxInv (rxRun c s ops) := by
  induction ops generalizing s with
  | nil => exact hi
  | cons o os ih =>
    simp only [rxLegal, Bool.and_eq_true] at hl
    exact ih _ (rxInv_step c s o hi hl.1) hl.2

/-- **C57 (rx in order).** PARTIAL only in that it is stated on the endpoint's operations (no halt-clear in
between).  For every interleaving of host packets (good, corrupted, not fitting into the FIFO, retransmitted
after a lost ACK or a NAK) and application reads in which the host repeats a packet until it has seen it ACKed
(`rxLegal`), the bytes read from the rx stream followed by the bytes still buffered are exactly the payloads of the
packets the host has seen ACKed, in order, each once —
plus, while the host is about to retransmit a packet whose ACK it missed, that packet (already accepted once;
the retransmission is ACKed again and NOT delivered again). -/
theorem rx_in_order_partial (c : EpCfg) (ops : List RxOp) (hl : rxLegal c {} ops = true) :
    let s := rxRun c {} ops
    s.delivered ++ bytesOf s.ep.fifo = s.host.done ++ (if s.ep.expToggle = s.host.th then [] else s.host.pending.getD []) := by
  have h := rxInv_run c {} ops (Or.inl ⟨rfl, rfl⟩) hl
  rcases h with ⟨h1, h2⟩ | ⟨h1, q, hq, h2⟩
  · simp [h1, h2]
  · simp [h1, hq, h2]

example : rxLegal { kind := .streamOut, num := 4 } {}
    [.send [1, 2] true false, .send [1, 2] true true, .read 1, .send [3] false true, .send [3] true true] = true := by decide
example : (rxRun { kind := .streamOut, num := 4 } {}
    [.send [1, 2] true false, .send [1, 2] true true, .read 1, .send [3] false true, .send [3] true true]).delivered = [1] := by
  decide


/-! ## 4. Device to host: the transmit stream -/

/-- What happens at the IN endpoint: the application offers a chunk of bytes (`last` marks the end of a
transfer; the endpoint takes as many as it has room for), or the host polls with an IN token naming the
endpoint — `got`: the host receives the device's data packet intact and answers ACK; `acked`: that ACK reaches
the device (both can be lost on the way). -/
inductive TxOp
  | produce (bytes : List Nat) (last : Bool)
  | poll (got acked : Bool)
deriving Repr

structure TxSys where
  ep    : InEp := {}
  th    : Bool := false          -- the host's toggle: it expects DATA0 first
  recv  : List Nat := []         -- bytes the host has accepted (retransmissions discarded by toggle)
  given : List Nat := []         -- bytes the endpoint has accepted from the application

def txStep (c : EpCfg) (s : TxSys) : TxOp → TxSys
  | .produce bytes last =>
    let r := inProduce c.mps s.ep bytes last
    { s with ep := r.1, given := s.given ++ bytes.take r.2 }
  | .poll got acked =>
    let r := inToken c.num s.ep PID_IN c.num
    match r.2 with
    | .data pid payload =>
      if got then
        let fresh := pidToggle pid == s.th
        let s1 := { s with ep := r.1, th := if fresh then !s.th else s.th,
                            recv := if fresh then s.recv ++ payload else s.recv }
        if acked then { s1 with ep := inAck c.mps r.1 true false } else s1
      else { s with ep := r.1 }
    | _ => { s with ep := r.1 }

def txRun (c : EpCfg) : TxSys → List TxOp → TxSys
  | s, [] => s
  | s, o :: os => txRun c (txStep c s o) os

/-- The four situations of a stream IN endpoint relative to the host (`hb` the host's sequence bit, `kept` the bytes it
has accepted, `prod` the bytes the endpoint has accepted from the producer):
* WAIT_FOR_DATA: nothing to send, the host has everything that was sent;
* otherwise a packet (`rbuf`) is being (re)sent and
  - the host does not have it yet (`hb = pid`), or
  - the host has accepted it, the device has not seen the ACK (`unc`), or
  - (`redo`) a halt-clear in that situation made both sides restart with DATA0: the packet the host already has
    (`lp`) will be accepted once more. -/
def TxCoreV (fsm : InFsm) (pid : Bool) (rbuf wbuf : List Nat) (hb : Bool) (kept prod : List Nat) (redo unc : Bool)
    (lp : List Nat) : Prop :=
  match fsm with
  | .waitData => rbuf = [] ∧ hb = !pid ∧ kept ++ wbuf = prod ∧ redo = false ∧ unc = false
  | _ => (hb = pid ∧ redo = false ∧ unc = false ∧ kept ++ rbuf ++ wbuf = prod) ∨
         (hb = !pid ∧ redo = false ∧ unc = true ∧ rbuf = lp ∧ kept ++ wbuf = prod) ∨
         (hb = pid ∧ redo = true ∧ unc = false ∧ rbuf = lp ∧ kept ++ wbuf = prod)

def TxCore (d : InEp) (hb : Bool) (kept prod : List Nat) (redo unc : Bool) (lp : List Nat) : Prop :=
  TxCoreV d.fsm d.pid d.rbuf d.wbuf hb kept prod redo unc lp

theorem txcV_busy {fsm : InFsm} {pid : Bool} {rbuf wbuf : List Nat} {hb : Bool} {kept prod : List Nat}
    {redo unc : Bool} {lp : List Nat} (h : fsm ≠ .waitData) :
    TxCoreV fsm pid rbuf wbuf hb kept prod redo unc lp ↔
      ((hb = pid ∧ redo = false ∧ unc = false ∧ kept ++ rbuf ++ wbuf = prod) ∨
       (hb = !pid ∧ redo = false ∧ unc = true ∧ rbuf = lp ∧ kept ++ wbuf = prod) ∨
       (hb = pid ∧ redo = true ∧ unc = false ∧ rbuf = lp ∧ kept ++ wbuf = prod)) := by
  cases fsm
  · exact absurd rfl h
  · exact Iff.rfl
  · exact Iff.rfl

theorem inByte_view (mps : Nat) (d : InEp) (b : Nat) (last : Bool) (e' : InEp) (h : inByte mps d b last = some e') :
    (d.fsm = .waitData ∧ e'.fsm = .waitSend ∧ e'.pid = (!d.pid) ∧ e'.rbuf = d.wbuf ++ [b] ∧ e'.wbuf = d.rbuf) ∨
    (e'.fsm = d.fsm ∧ e'.pid = d.pid ∧ e'.rbuf = d.rbuf ∧ e'.wbuf = d.wbuf ++ [b]) := by
  rcases d with ⟨fsm, tg, pid, b0, b1, e0, e1⟩
  unfold inByte at h
  split at h
  · split at h
    · rename_i hw
      injection h with h; subst h
      cases tg <;> exact Or.inl ⟨hw.1, rfl, rfl, rfl, rfl⟩
    · injection h with h; subst h
      cases tg <;> exact Or.inr ⟨rfl, rfl, rfl, rfl⟩
  · cases h

theorem txc_byte (mps : Nat) (d : InEp) (hb : Bool) (kept prod : List Nat) (redo unc : Bool) (lp : List Nat)
    (b : Nat) (last : Bool) (e' : InEp) (hi : TxCore d hb kept prod redo unc lp)
    (h : inByte mps d b last = some e') : TxCore e' hb kept (prod ++ [b]) redo unc lp := by
  unfold TxCore at hi ⊢
  rcases inByte_view mps d b last e' h with ⟨hf, v1, v2, v3, v4⟩ | ⟨v1, v2, v3, v4⟩
  · rw [hf] at hi
    obtain ⟨c1, c2, c3, c4, c5⟩ := hi
    rw [v1, v2, v3, v4, c1]
    exact Or.inl ⟨c2, c4, c5, by rw [List.append_nil, ← List.append_assoc, c3]⟩
  · rw [v1, v2, v3, v4]
    by_cases hf : d.fsm = .waitData
    · rw [hf] at hi ⊢
      obtain ⟨c1, c2, c3, c4, c5⟩ := hi
      exact ⟨c1, c2, by rw [← List.append_assoc, c3], c4, c5⟩
    · rw [txcV_busy hf] at hi ⊢
      rcases hi with ⟨c1, c2, c3, c4⟩ | ⟨c1, c2, c3, c4, c5⟩ | ⟨c1, c2, c3, c4, c5⟩
      · exact Or.inl ⟨c1, c2, c3, by rw [← List.append_assoc, c4]⟩
      · exact Or.inr (Or.inl ⟨c1, c2, c3, c4, by rw [← List.append_assoc, c5]⟩)
      · exact Or.inr (Or.inr ⟨c1, c2, c3, c4, by rw [← List.append_assoc, c5]⟩)

theorem txc_produce (mps : Nat) (bytes : List Nat) (last : Bool) (d : InEp) (hb : Bool) (kept prod : List Nat)
    (redo unc : Bool) (lp : List Nat) (hi : TxCore d hb kept prod redo unc lp) :
    TxCore (inProduce mps d bytes last).1 hb kept (prod ++ bytes.take (inProduce mps d bytes last).2) redo unc lp := by
  induction bytes generalizing d prod with
  | nil => simpa [inProduce] using hi
  | cons b bs ih =>
    unfold inProduce
    cases hbb : inByte mps d b (last && bs.isEmpty) with
    | none => simpa using hi
    | some e' => simpa [List.append_assoc] using ih e' (prod ++ [b]) (txc_byte mps d hb kept prod redo unc lp b _ e' hi hbb)

theorem inToken_waitData (n : Nat) (e : InEp) (h : e.fsm = .waitData) : inToken n e PID_IN n = (e, .hs PID_NAK) := by
  simp [inToken, h]

theorem inToken_send (n : Nat) (e : InEp) (h : e.fsm ≠ .waitData) :
    ∃ e', inToken n e PID_IN n = (e', .data (dataPidOf e.pid) e.rbuf) ∧ e'.fsm = .waitAck ∧ e'.pid = e.pid ∧
      e'.rbuf = e.rbuf ∧ e'.wbuf = e.wbuf := by
  rcases e with ⟨fsm, tg, pid, b0, b1, e0, e1⟩
  cases fsm
  · exact absurd rfl h
  all_goals
    cases tg <;> simp [inToken, InEp.rbuf, InEp.wbuf, InEp.setR] <;> split <;> simp

/-- The three outcomes of an ACK for an endpoint in WAIT_FOR_ACK: a ZLP follows / the other buffer is complete
and becomes the packet to send / nothing to send yet. -/
theorem inAck_cases (mps : Nat) (e : InEp) (h : e.fsm = .waitAck) :
    let e' := inAck mps e true false
    (e'.fsm = .waitSend ∧ e'.pid = !e.pid ∧ e'.rbuf = [] ∧ e'.wbuf = e.wbuf) ∨
    (e'.fsm = .waitSend ∧ e'.pid = !e.pid ∧ e'.rbuf = e.wbuf ∧ e'.wbuf = []) ∨
    (e'.fsm = .waitData ∧ e'.pid = e.pid ∧ e'.rbuf = [] ∧ e'.wbuf = e.wbuf) := by
  rcases e with ⟨fsm, tg, pid, b0, b1, e0, e1⟩
  simp only at h
  subst h
  cases tg
  · by_cases h1 : b1.length = mps ∧ e1 = true <;> by_cases h2 : b0.length = mps ∨ e0 = true <;>
      simp [inAck, InEp.rbuf, InEp.wbuf, InEp.setR, InEp.rended, InEp.ready, InEp.wended, h1, h2] <;> simp_all
  · by_cases h1 : b0.length = mps ∧ e0 = true <;> by_cases h2 : b1.length = mps ∨ e1 = true <;>
      simp [inAck, InEp.rbuf, InEp.wbuf, InEp.setR, InEp.rended, InEp.ready, InEp.wended, h1, h2] <;> simp_all

theorem txc_busy {d d' : InEp} {hb : Bool} {kept prod : List Nat} {redo unc : Bool} {lp : List Nat}
    (h : TxCore d hb kept prod redo unc lp) (hf : d.fsm ≠ .waitData) (hf' : d'.fsm ≠ .waitData) (hp : d'.pid = d.pid)
    (hr : d'.rbuf = d.rbuf) (hw : d'.wbuf = d.wbuf) : TxCore d' hb kept prod redo unc lp := by
  unfold TxCore at h ⊢
  rw [hp, hr, hw, txcV_busy hf']
  exact (txcV_busy hf).1 h

/-- The host receives the packet a busy endpoint (re)sends.  It is new to the host — a first delivery, or after an
ambiguous halt-clear the packet `lp` again —: the host's bit flips, the device has not seen the ACK yet.  Or the host
has it already (its bit is the other one): nothing changes. -/
theorem txc_got {d d' : InEp} {hb : Bool} {kept prod : List Nat} {redo unc : Bool} {lp : List Nat}
    (h : TxCore d hb kept prod redo unc lp) (hf : d.fsm ≠ .waitData) (hf' : d'.fsm ≠ .waitData) (hp : d'.pid = d.pid)
    (hr : d'.rbuf = d.rbuf) (hw : d'.wbuf = d.wbuf) :
    (hb = d.pid ∧ redo = false ∧ TxCore d' (!hb) (kept ++ d.rbuf) prod false true d.rbuf) ∨
    (hb = d.pid ∧ redo = true ∧ d.rbuf = lp ∧ TxCore d' (!hb) kept prod false true d.rbuf) ∨
    (hb = !d.pid ∧ TxCore d' hb kept prod redo unc lp) := by
  have hacc : ∀ k, hb = d.pid → k ++ d.wbuf = prod → TxCore d' (!hb) k prod false true d.rbuf := fun k c1 c5 =>
    (txcV_busy hf').2 (Or.inr (Or.inl ⟨by rw [hp, c1], rfl, rfl, hr, by rw [hw]; exact c5⟩))
  rcases (txcV_busy hf).1 h with ⟨c1, c2, _, c4⟩ | ⟨c1, _⟩ | ⟨c1, c2, _, c4, c5⟩
  · exact Or.inl ⟨c1, c2, hacc _ c1 c4⟩
  · exact Or.inr (Or.inr ⟨c1, txc_busy h hf hf' hp hr hw⟩)
  · exact Or.inr (Or.inl ⟨c1, c2, c4, hacc _ c1 c5⟩)

theorem txc_ack (mps : Nat) {d : InEp} {hb : Bool} {kept prod : List Nat} {redo unc : Bool} {lp : List Nat}
    (h : TxCore d hb kept prod redo unc lp) (hf : d.fsm = .waitAck) (hhb : hb = !d.pid) :
    TxCore (inAck mps d true false) hb kept prod redo false lp := by
  have hne : hb ≠ d.pid := Bool.eq_not.mp hhb
  obtain ⟨c2, c5⟩ : redo = false ∧ kept ++ d.wbuf = prod := by
    rcases (txcV_busy (by rw [hf]; decide)).1 h with ⟨c1, _⟩ | ⟨_, c2, _, _, c5⟩ | ⟨c1, _⟩
    · exact absurd c1 hne
    · exact ⟨c2, c5⟩
    · exact absurd c1 hne
  unfold TxCore
  rcases inAck_cases mps d hf with ⟨a1, a2, a3, a4⟩ | ⟨a1, a2, a3, a4⟩ | ⟨a1, a2, a3, a4⟩ <;> rw [a1, a2, a3, a4]
  · exact Or.inl ⟨hhb, c2, rfl, by rw [List.append_nil]; exact c5⟩
  · exact Or.inl ⟨hhb, c2, rfl, by rw [List.append_nil]; exact c5⟩
  · exact ⟨rfl, hhb, c5, c2, rfl⟩

/-- What the host still has to receive: the packet being sent (unless the host already has it and only its ACK
got lost, or it is the re-delivery), then the bytes collected for the next packet. -/
theorem txc_bytes {d : InEp} {hb : Bool} {kept prod : List Nat} {redo unc : Bool} {lp : List Nat}
    (h : TxCore d hb kept prod redo unc lp) :
    kept ++ (if d.fsm ≠ .waitData ∧ hb = d.pid ∧ redo = false then d.rbuf else []) ++ d.wbuf = prod := by
  unfold TxCore at h
  by_cases hf : d.fsm = .waitData
  · rw [hf] at h
    rw [if_neg (fun x => x.1 hf), List.append_nil]
    exact h.2.2.1
  · rcases (txcV_busy hf).1 h with ⟨c1, c2, _, c4⟩ | ⟨c1, _, _, _, c5⟩ | ⟨_, c2, _, _, c5⟩
    · rw [if_pos ⟨hf, c1, c2⟩]; exact c4
    · rw [if_neg (fun x => Bool.eq_not.mp c1 x.2.1), List.append_nil]; exact c5
    · rw [if_neg (fun x => by rw [c2] at x; exact Bool.noConfusion x.2.2), List.append_nil]; exact c5

/-- The operations never clear a halt: `TxCore` with `redo = false` throughout. -/
theorem txc_step (c : EpCfg) (s : TxSys) (o : TxOp) (hi : ∃ unc lp, TxCore s.ep s.th s.recv s.given false unc lp) :
    ∃ unc lp, TxCore (txStep c s o).ep (txStep c s o).th (txStep c s o).recv (txStep c s o).given false unc lp := by
  obtain ⟨unc, lp, hi⟩ := hi
  cases o with
  | produce bytes last => exact ⟨unc, lp, txc_produce c.mps bytes last s.ep _ _ _ _ _ _ hi⟩
  | poll got acked =>
    by_cases hf : s.ep.fsm = .waitData
    · simp only [txStep, inToken_waitData c.num s.ep hf]
      exact ⟨unc, lp, hi⟩
    · obtain ⟨e', he, hfsm, hpid, hr, hw⟩ := inToken_send c.num s.ep hf
      have hf' : e'.fsm ≠ .waitData := by rw [hfsm]; decide
      simp only [txStep, he, pidToggle_dataPidOf]
      cases got
      · -- the host missed the packet: the endpoint waits, a later token makes it resend
        exact ⟨unc, lp, txc_busy hi hf hf' hpid hr hw⟩
      · -- the host takes (or discards) the packet: it now expects the other toggle
        obtain ⟨unc', lp', hc, hb⟩ : ∃ unc' lp',
            TxCore e' (if (s.ep.pid == s.th) = true then !s.th else s.th)
              (if (s.ep.pid == s.th) = true then s.recv ++ s.ep.rbuf else s.recv) s.given false unc' lp' ∧
            (if (s.ep.pid == s.th) = true then !s.th else s.th) = !e'.pid := by
          rcases txc_got hi hf hf' hpid hr hw with ⟨h1, _, h3⟩ | ⟨_, h2, _⟩ | ⟨h1, h3⟩
          · rw [h1, beq_self_eq_true, if_pos rfl, if_pos rfl, hpid]
            exact ⟨_, _, by rw [← h1]; exact h3, rfl⟩
          · cases h2
          · rw [if_neg (by rw [h1]; cases s.ep.pid <;> decide), if_neg (by rw [h1]; cases s.ep.pid <;> decide), hpid]
            exact ⟨_, _, h3, h1⟩
        cases acked
        · exact ⟨unc', lp', hc⟩
        · exact ⟨false, lp', txc_ack c.mps hc hfsm hb⟩

theorem txc_run (c : EpCfg) (s : TxSys) (ops : List TxOp) (hi : ∃ unc lp, TxCore s.ep s.th s.recv s.given false unc lp) :
    ∃ unc lp, TxCore (txRun c s ops).ep (txRun c s ops).th (txRun c s ops).recv (txRun c s ops).given false unc lp := by
  induction ops generalizing s with
  | nil => exact hi
  | cons o os ih => exact ih _ (txc_step c s o hi)

/-- **C57 (tx in order), PARTIAL: no halt-clear in between.** For every interleaving of producer chunks (any
sizes, with or without `last`, with back-pressure) and host polls (packet received or lost, ACK received or
lost), the bytes the host has accepted, followed by the packet still waiting to get across (unless the host
already has it and only its ACK was lost) and the bytes collected for the next packet, are exactly the bytes
the endpoint accepted from the producer, in order: nothing is lost, duplicated or reordered. -/
theorem tx_in_order_partial (c : EpCfg) (ops : List TxOp) :
    let s := txRun c {} ops
    s.recv ++ (if s.ep.fsm ≠ .waitData ∧ s.th = s.ep.pid then s.ep.rbuf else []) ++ s.ep.wbuf = s.given := by
  obtain ⟨unc, lp, h⟩ := txc_run c {} ops ⟨false, [], ⟨rfl, rfl, rfl, rfl, rfl⟩⟩
  simpa only [and_true] using txc_bytes h

theorem tx_host_has_prefix (c : EpCfg) (ops : List TxOp) : (txRun c {} ops).recv <+: (txRun c {} ops).given := by
  have h := tx_in_order_partial c ops
  simp only [List.append_assoc] at h
  exact ⟨_, h⟩

example : (txRun { kind := .streamIn, num := 4, mps := 4 } {}
    [.produce [1, 2, 3, 4, 5] true, .poll true false, .poll true true, .poll false false, .poll true true, .poll true true]).recv
      = [1, 2, 3, 4, 5] := by decide


end LunaVerif.C57
