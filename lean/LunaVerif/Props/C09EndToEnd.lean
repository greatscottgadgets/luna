import LunaVerif.Lemmas.C09EndToEndEv
import LunaVerif.Lemmas.C07MpsLegal
/-!
# C09 end to end: GET_DESCRIPTOR returns exactly the requested descriptor bytes -- on the bus of the cycle-level
# control endpoint

Property C09: *GET_DESCRIPTOR returns exactly the requested descriptor bytes.*

The theorems of Props/C09*.lean are about the descriptor handlers seen at their ports (a `start` pulse, held
`value` / `length` / `start_position`, an arbitrary `tx.ready` pattern).  Here they are composed with C07's cycle-level
closed loop (Model/Usb2/ControlCyc*.lean, ControlCycSys.lean `sys2Step`, co-simulated cycle by cycle against the real
`USBControlEndpoint` by harness/props/c07_cyc.py):

    USBControlEndpoint FSM + USBRequestHandlerMultiplexer + StandardRequestHandler   (CtrlCyc.step)
      + its StreamSerializer "transmitter"                                            (StreamGen.serStep)
      + GetDescriptorHandlerBlock over the ROM `Rom.layout coll`                      (Desc.Block.step)

wired as in `StandardRequestHandler.elaborate`; inputs per clock cycle: the strobes and registers of the token
detector / setup decoder / data receiver / handshake detector / interpacket timer and `tx.ready`; outputs: the `tx`
stream towards `USBDataPacketGenerator`, `tx_pid_toggle`, the handshake requests.

`get_descriptor_end_to_end`: for EVERY well-formed descriptor collection `coll` (ROM generated by `Rom.layout coll`;
longest descriptor ≥ 2 bytes, every descriptor < 2048 bytes), every control max packet size in {8, 16, 32, 64}, every
`(type, index)` of a descriptor `dd` of the collection, every `wLength ≠ 0`, after EVERY legal host history `pre`
(enumeration, other transfers, traffic to other endpoints, bus resets …): the host's control read -- SETUP transaction
of GET_DESCRIPTOR(type, index, wLength), then one IN token + ACK per packet -- with any idle-cycle counts / free inputs
/ `tx.ready` patterns whose windows are long enough, makes the closed loop put on the bus exactly

    nothing, ACK, DATA1 p₀, nothing, DATA0 p₁, nothing, DATA1 p₂, …      with  [p₀, p₁, …] = dataStage dd wLength mps,

the payloads concatenate to `dd.take wLength`, every packet is at most `mps` bytes long, the ROM image answers all
65536 wValues correctly (`rom_lookup_correct`), and the block handler is idle again at the end.
`get_descriptor_stall_iff_absent`: the first data-stage IN token is answered with STALL iff the collection has no
descriptor `(type, index)`, otherwise with a DATA1 packet (that it is the first packet of `dataStage` is
`get_descriptor_end_to_end`).

What is used: C09 `block_packet_exact` (through C07 `block_handler_contract`; it contains `rom_lookup_correct`),
`block_returns_idle`, `dataStage_concat`, `dataStage_packet_le`; C07 `closed2_refines_legal_run_mps` (closed loop =
event-level model `stepM` for every legal host), `get_descriptor_data_stage_mps` (event-level data stage = `dataStage`).
The bridge between the two vocabularies is `collOf (descsOf coll) = coll` (C07 states its theorems for the event-level
descriptor table `c.descriptors`, a list of `(type, index, bytes)`; the block handler in its loop is
`blockOf (collOf c.descriptors) mps` = `⟨Rom.layout …, mps⟩`): no hypothesis links the two, `collOf_descsOf` proves it.
-/
namespace LunaVerif.Desc.EndToEnd
open LunaVerif.Device LunaVerif.CtrlCyc LunaVerif.Desc

/-- A C09 collection as the descriptor table of the event-level device model. -/
def descsOf (coll : Collection) : List (Nat × Nat × List Nat) := coll.map (fun d => (d.ty, d.idx, d.bytes))

theorem collOf_descsOf (coll : Collection) : collOf (descsOf coll) = coll := by
  simp only [collOf, descsOf, List.map_map]
  conv => rhs; rw [← List.map_id coll]
  apply List.map_congr_left
  intro d _
  rfl

/-- The device: control endpoint with max packet size `mps`, the standard request handler only, descriptors `coll`
served by `GetDescriptorHandlerBlock` (11-bit `start_position`). -/
def devCfg (coll : Collection) (mps : Nat) : DevConfig :=
  { descriptors := descsOf coll, maxPacket := mps, posBits := 11, extra := [] }

theorem lookup_devCfg (coll : Collection) (mps ty idx : Nat) :
    lookupDescriptor (devCfg coll mps).descriptors ty idx = descrBytes coll ty idx := by
  show lookupDescriptor (descsOf coll) ty idx = _
  rw [lookup_collOf, collOf_descsOf]

theorem descrBytes_mem (coll : Collection) (ty idx : Nat) (dd : List Nat) (h : descrBytes coll ty idx = some dd) :
    ∃ d ∈ coll, d.bytes = dd := by
  unfold descrBytes at h
  cases hf : find? coll ty idx with
  | none => rw [hf] at h; cases h
  | some d =>
    rw [hf] at h
    simp only [Option.map_some, Option.some.injEq] at h
    exact ⟨d, List.mem_of_find?_eq_some hf, h⟩

/-- Every descriptor fits the 11-bit position register. -/
theorem descsFit_devCfg (coll : Collection) (mps : Nat) (h2k : ∀ d ∈ coll, d.bytes.length < 2048) :
    DescsFit (devCfg coll mps) := by
  refine ⟨Nat.le_refl _, ?_⟩
  intro ty idx dd h
  rw [lookup_devCfg] at h
  obtain ⟨d, hd, rfl⟩ := descrBytes_mem coll ty idx dd h
  exact h2k d hd

/-- The history: whatever the host did before (`pre`), then the events of `script` with the cycle-level parameters
`gs`, addressed to the device's current address. -/
def history (c : DevConfig) (pre : List (Stim × GapsS)) (script : Nat → List Stim) (gs : List GapsS) :
    List (Stim × GapsS) :=
  pre ++ (script (finalM c Device.init (pre.map (·.1))).address).zip gs

theorem history_stims (c : DevConfig) (pre : List (Stim × GapsS)) (script : Nat → List Stim) (gs : List GapsS)
    (hgs : (script (finalM c Device.init (pre.map (·.1))).address).length ≤ gs.length) :
    (history c pre script gs).map (·.1) =
      pre.map (·.1) ++ script (finalM c Device.init (pre.map (·.1))).address := by
  simp only [history, List.map_append]
  rw [List.map_fst_zip hgs]

theorem drop_pre (c : DevConfig) (pre : List (Stim × GapsS)) (script : Nat → List Stim) (gs : List GapsS)
    (hgs : (script (finalM c Device.init (pre.map (·.1))).address).length ≤ gs.length) :
    (coreRespsM c Device.init ((history c pre script gs).map (·.1))).drop pre.length =
      coreRespsM c (finalM c Device.init (pre.map (·.1))) (script (finalM c Device.init (pre.map (·.1))).address) := by
  rw [history_stims c pre script gs hgs, coreRespsM_append]
  have : pre.length = (coreRespsM c Device.init (pre.map (·.1))).length := by
    rw [coreRespsM_length, List.length_map]
  rw [this, List.drop_left]

theorem history_legal (c : DevConfig) (pre : List (Stim × GapsS)) (script : Nat → List Stim) (gs : List GapsS)
    (hgs : (script (finalM c Device.init (pre.map (·.1))).address).length ≤ gs.length)
    (hleg : LegalHostM c (pre.map (·.1)) = true)
    (hs : ∀ d : DevState, d.address < 128 → legalFromM c d (script d.address) = true) :
    LegalHostM c ((history c pre script gs).map (·.1)) = true := by
  rw [history_stims c pre script gs hgs]
  unfold LegalHostM at hleg ⊢
  rw [legalFromM_append, hleg, Bool.true_and]
  exact hs _ (address_lt_finalM c _ Device.init (by decide))

/-- `wValue = type · 256 + index` is taken apart again by the standard handler. -/
theorem lookup_wValue (ds : List (Nat × Nat × List Nat)) (ty idx : Nat) (hty : ty < 256) (hidx : idx < 256) :
    lookupDescriptor ds ((ty * 256 + idx) / 256 % 256) ((ty * 256 + idx) % 256) = lookupDescriptor ds ty idx := by
  rw [show (ty * 256 + idx) / 256 % 256 = ty by omega, show (ty * 256 + idx) % 256 = idx by omega]

/-- The closed loop of the device `devCfg coll mps` on a history `pre` followed by a `script` that is legal from
every state: with the block handler model's own descriptor latencies, its bus responses to the script are the
event-level model's, and the block handler model is idle at the end (C07 `closed2_refines_legal_run_mps`). -/
theorem closed_loop_script (coll : Collection) (mps : Nat)
    (hm : mps = 8 ∨ mps = 16 ∨ mps = 32 ∨ mps = 64)
    (hwf : wellFormed coll = true) (hpw : 2 ≤ (Rom.layout coll).maxLen) (h2k : ∀ d ∈ coll, d.bytes.length < 2048)
    (script : Nat → List Stim) (pre : List (Stim × GapsS)) (gs : List GapsS)
    (hgs : (script (finalM (devCfg coll mps) Device.init (pre.map (·.1))).address).length ≤ gs.length)
    (hleg : LegalHostM (devCfg coll mps) (pre.map (·.1)) = true)
    (hs : ∀ d : DevState, d.address < 128 → legalFromM (devCfg coll mps) d (script d.address) = true)
    (hw : WinFromM (devCfg coll mps) Device.init (history (devCfg coll mps) pre script gs) = true)
    (ht : ∀ xg ∈ history (devCfg coll mps) pre script gs, TDSil xg.2) :
    ∃ h', SameButLat (history (devCfg coll mps) pre script gs) h' ∧
      (sys2BusRespsM (devCfg coll mps) (blockOf coll mps) Device.init sys2Init h').drop pre.length =
        coreRespsM (devCfg coll mps) (finalM (devCfg coll mps) Device.init (pre.map (·.1)))
          (script (finalM (devCfg coll mps) Device.init (pre.map (·.1))).address) ∧
      (sys2Final (cfgOf (devCfg coll mps)) (blockOf coll mps) sys2Init
        ((expandAllRM (devCfg coll mps) Device.init h').map (·.2))).blk.fsm = .idle := by
  have hco : collOf (devCfg coll mps).descriptors = coll := collOf_descsOf coll
  obtain ⟨h', sb, _, hb, _, _, hidle⟩ := closed2_refines_legal_run_mps (devCfg coll mps) rfl hm (by rw [hco]; exact hwf)
    (by rw [hco]; exact hpw) (descsFit_devCfg coll mps h2k) _
    (history_legal (devCfg coll mps) pre script gs hgs hleg hs) hw ht
  rw [hco] at hb hidle
  refine ⟨h', sb, ?_, hidle⟩
  rw [show (devCfg coll mps).maxPacket = mps from rfl] at hb
  rw [hb, drop_pre _ pre _ gs hgs]

/-- **C09 end to end (block handler): GET_DESCRIPTOR returns exactly the requested descriptor bytes on the bus of the
cycle-level control endpoint.**  See the header.  Hypotheses: `wellFormed coll` and the two further constructor
preconditions of `GetDescriptorHandlerBlock` / the 11-bit `start_position` (longest descriptor ≥ 2 bytes, every
descriptor < 2048 bytes); `mps ∈ {8, 16, 32, 64}`; the descriptor `(ty, idx)` exists (`descrBytes`); `0 < wLength <
65536`; what the host did before the read is legal (`LegalHostM`, decidable) -- the read itself is a legal host
behaviour after every history (`script_legal`), so the whole history is; its streamer windows are long enough
(`WinFromM`, decidable) and the (ignored) streamer inputs of the expansion are silent (`TDSil`).  The conclusion is
about a history `h'` that differs from the given one in the latency parameters of its events only (`SameButLat`, which
does not bound them): not the caller's latencies but, in the proof, the block handler model's own. -/
theorem get_descriptor_end_to_end (coll : Collection) (mps : Nat)
    (hm : mps = 8 ∨ mps = 16 ∨ mps = 32 ∨ mps = 64)
    (hwf : wellFormed coll = true) (hpw : 2 ≤ (Rom.layout coll).maxLen) (h2k : ∀ d ∈ coll, d.bytes.length < 2048)
    (ty idx l : Nat) (hty : ty < 256) (hidx : idx < 256) (hl : l < 65536) (hl0 : l ≠ 0)
    (dd : List Nat) (hdd : descrBytes coll ty idx = some dd)
    (pre : List (Stim × GapsS)) (gs : List GapsS) (hgs : gs.length = 2 + 2 * (dataStage dd l mps).length)
    (hleg : LegalHostM (devCfg coll mps) (pre.map (·.1)) = true)
    (hw : WinFromM (devCfg coll mps) Device.init (history (devCfg coll mps) pre
      (fun a => getDescriptorScript a (ty * 256 + idx) l (dataStage dd l mps).length) gs) = true)
    (ht : ∀ xg ∈ history (devCfg coll mps) pre
      (fun a => getDescriptorScript a (ty * 256 + idx) l (dataStage dd l mps).length) gs, TDSil xg.2) :
    ∃ h', SameButLat (history (devCfg coll mps) pre
        (fun a => getDescriptorScript a (ty * 256 + idx) l (dataStage dd l mps).length) gs) h' ∧
      (sys2BusRespsM (devCfg coll mps) (blockOf coll mps) Device.init sys2Init h').drop pre.length =
        [.none, .hs PID_ACK] ++ readResps 0 (dataStage dd l mps) ∧
      payloads ((sys2BusRespsM (devCfg coll mps) (blockOf coll mps) Device.init sys2Init h').drop pre.length) =
        dd.take l ∧
      (∀ p ∈ dataStage dd l mps, p.length ≤ mps) ∧
      romOk (Rom.layout coll) coll = true ∧
      (sys2Final (cfgOf (devCfg coll mps)) (blockOf coll mps) sys2Init
        ((expandAllRM (devCfg coll mps) Device.init h').map (·.2))).blk.fsm = .idle := by
  have hv : ty * 256 + idx < 65536 := by omega
  have hlk := ((lookup_wValue _ ty idx hty hidx).trans (lookup_devCfg coll mps ty idx)).trans hdd
  have hlen : dd.length < 2048 := (descsFit_devCfg coll mps h2k).2 _ _ dd hlk
  obtain ⟨h', sb, hdrop, hidle⟩ := closed_loop_script coll mps hm hwf hpw h2k _ pre gs
    (by simp only [getDescriptorScript_length]; omega) hleg
    (fun d ha => script_legal (devCfg coll mps) rfl hm (ty * 256 + idx) l dd hv hl hl0 hlk hlen (by omega) d ha) hw ht
  replace hdrop := hdrop.trans
    (transfer_resps (devCfg coll mps) rfl hm (ty * 256 + idx) l dd hv hl hl0 hlk hlen (by omega) _)
  refine ⟨h', sb, hdrop, ?_, dataStage_packet_le dd l mps, rom_lookup_correct coll hwf, hidle⟩
  rw [hdrop]
  exact payloads_dataStage dd l mps (by omega)

/-- **C09 end to end: STALL iff the descriptor does not exist.**  Same setting; the read is the SETUP transaction and the
first data-stage IN token.  The closed loop answers (nothing, ACK, `r`) where `r` is STALL iff the collection has no
descriptor `(ty, idx)`; otherwise `r` is a DATA1 packet (by `get_descriptor_end_to_end` the first packet of
`dataStage`). -/
theorem get_descriptor_stall_iff_absent (coll : Collection) (mps : Nat)
    (hm : mps = 8 ∨ mps = 16 ∨ mps = 32 ∨ mps = 64)
    (hwf : wellFormed coll = true) (hpw : 2 ≤ (Rom.layout coll).maxLen) (h2k : ∀ d ∈ coll, d.bytes.length < 2048)
    (ty idx l : Nat) (hty : ty < 256) (hidx : idx < 256) (hl : l < 65536) (hl0 : l ≠ 0)
    (pre : List (Stim × GapsS)) (gs : List GapsS) (hgs : gs.length = 3)
    (hleg : LegalHostM (devCfg coll mps) (pre.map (·.1)) = true)
    (hw : WinFromM (devCfg coll mps) Device.init (history (devCfg coll mps) pre
      (fun a => firstInScript a (ty * 256 + idx) l) gs) = true)
    (ht : ∀ xg ∈ history (devCfg coll mps) pre (fun a => firstInScript a (ty * 256 + idx) l) gs, TDSil xg.2) :
    ∃ h' r, SameButLat (history (devCfg coll mps) pre (fun a => firstInScript a (ty * 256 + idx) l) gs) h' ∧
      (sys2BusRespsM (devCfg coll mps) (blockOf coll mps) Device.init sys2Init h').drop pre.length =
        [.none, .hs PID_ACK, r] ∧
      (r = .hs PID_STALL ↔ descrBytes coll ty idx = none) ∧
      (descrBytes coll ty idx ≠ none → ∃ p, r = .data PID_DATA1 p) := by
  have hv : ty * 256 + idx < 65536 := by omega
  have hlkv := (lookup_wValue _ ty idx hty hidx).trans (lookup_devCfg coll mps ty idx)
  obtain ⟨h', sb, hdrop, _⟩ := closed_loop_script coll mps hm hwf hpw h2k _ pre gs
    (by simp [firstInScript, setupScript, hgs]) hleg
    (fun d ha => firstInScript_legal (devCfg coll mps) (ty * 256 + idx) l hv hl hl0 d ha) hw ht
  replace hdrop := hdrop.trans (first_in_resps (devCfg coll mps) rfl (ty * 256 + idx) l hv hl hl0 _)
  have hiff := firstAnswer_stall_iff (devCfg coll mps) (ty * 256 + idx) l
  rw [hlkv] at hiff
  refine ⟨h', firstAnswer (devCfg coll mps) (ty * 256 + idx) l, sb, hdrop, hiff, fun hne => ?_⟩
  obtain ⟨dd, hd⟩ := Option.ne_none_iff_exists'.mp hne
  obtain ⟨b, hb⟩ := descriptorPacket_some (devCfg coll mps) (ty * 256 + idx) l 0 dd (hlkv.trans hd)
  exact ⟨b, by simp only [firstAnswer, hb]⟩

/-! ### Any descriptor handler that meets the stream contract (distributed handler, handler mux)

C07 has the descriptor handler MODEL in the cycle-level loop for `GetDescriptorHandlerBlock` only.  For the other
handlers the composition is available at contract level: in C07's closed loop with the serializer model
(`sysStep`, Lemmas/C07Closed.lean) the descriptor handler's outputs are inputs, and the expansion of a data-stage IN
token feeds the control endpoint `delayed lat (bodyTrace R)` in the cycles after the start cycle -- i.e. the handler
presents `respTrace (lat + 1) R` for the answer `R` = the specified response at `start_position` (or the one-cycle
STALL in the start cycle itself, `stallNow`), under the caller's `tx.ready` pattern, with ANY latency `lat`.  That is
what C09 proves of the models of `GetDescriptorHandlerDistributed` (`dist_packet_exact`, `dist_requests_exact`,
`dist_datastage_exact`; at most 2 quiet cycles, STALL in the start cycle) and of `GetDescriptorHandlerMux`
(`mux_packet_exact` …, 1..4 quiet cycles) at their ports, for every in-order request.  NOT formal: that those models,
wired to the standard handler's `value` / `length` / `start_position` / `start` / `tx.ready` wires, produce these
inputs cycle by cycle (the analogue of C07 `cl2_desc` / `blkF_ready`, which exist for the block handler only). -/

/-- **C09 end to end, any descriptor handler under its stream contract.**  For every descriptor table, every descriptor
`dd` of it that fits the position register (`hpb`) with fewer than 2048 bytes to send (`h11`), every
`mps ∈ {8, 16, 32, 64}`, after ANY history `pre` (legal or not) whose windows fit (`FitsFromM`), whose (ignored)
streamer inputs are silent (`TSil`) and whose latency parameter is 0 wherever the control endpoint's own transmitter,
the serializer model in the loop, answers (`TxLat0FromM`): the closed loop of the cycle-level
control endpoint and the serializer model, with a descriptor handler that answers every data-stage IN token with
`respTrace (lat + 1)` of the response specified for `start_position`, puts exactly `dataStage dd wLength mps` on the
bus under DATA1 / DATA0 alternating, and the payloads concatenate to `dd.take wLength`. -/
theorem get_descriptor_end_to_end_contract (c : DevConfig) (hx : c.extra = [])
    (hm : c.maxPacket = 8 ∨ c.maxPacket = 16 ∨ c.maxPacket = 32 ∨ c.maxPacket = 64)
    (ty idx l : Nat) (hty : ty < 256) (hidx : idx < 256) (hl : l < 65536) (hl0 : l ≠ 0)
    (dd : List Nat) (hdd : lookupDescriptor c.descriptors ty idx = some dd) (hpb : dd.length < 2 ^ c.posBits)
    (h11 : min l dd.length < 2048)
    (pre : List (Stim × GapsS)) (gs : List GapsS) (hgs : gs.length = 2 + 2 * (dataStage dd l c.maxPacket).length)
    (hfit : FitsFromM c Device.init (history c pre
      (fun a => getDescriptorScript a (ty * 256 + idx) l (dataStage dd l c.maxPacket).length) gs) = true)
    (ht : ∀ xg ∈ history c pre
      (fun a => getDescriptorScript a (ty * 256 + idx) l (dataStage dd l c.maxPacket).length) gs, TSil xg.2)
    (hlat : TxLat0FromM c Device.init (history c pre
      (fun a => getDescriptorScript a (ty * 256 + idx) l (dataStage dd l c.maxPacket).length) gs)) :
    (sysBusRespsM c Device.init sysInit (history c pre
        (fun a => getDescriptorScript a (ty * 256 + idx) l (dataStage dd l c.maxPacket).length) gs)).drop pre.length =
      [.none, .hs PID_ACK] ++ readResps 0 (dataStage dd l c.maxPacket) ∧
    payloads ((sysBusRespsM c Device.init sysInit (history c pre
        (fun a => getDescriptorScript a (ty * 256 + idx) l (dataStage dd l c.maxPacket).length) gs)).drop pre.length) =
      dd.take l := by
  have hv : ty * 256 + idx < 65536 := by omega
  have hlk := (lookup_wValue c.descriptors ty idx hty hidx).trans hdd
  obtain ⟨_, hb, _⟩ := closed_loop_refines_event_run_mps c hx _ hfit ht hlat
  rw [hb, drop_pre _ pre _ gs (by simp only [getDescriptorScript_length]; omega),
    transfer_resps c hx hm (ty * 256 + idx) l dd hv hl hl0 hlk hpb h11 _]
  exact ⟨rfl, payloads_dataStage dd l c.maxPacket (by omega)⟩

/-! ### Non-vacuity: every hypothesis set is met by a concrete history; the conclusion evaluated by the kernel -/

def exColl : Collection :=
  [⟨1, 0, [18, 1, 0, 2, 0, 0, 0, 8, 9, 18, 1, 0, 0, 1, 1, 2, 3, 1]⟩, ⟨2, 0, List.range 16⟩, ⟨3, 2, [4, 3, 9, 4]⟩]

/-- Before the read: a complete GET_STATUS transfer (SETUP, IN + ACK, status OUT). -/
def exPre : List (Stim × GapsS) :=
  [(⟨.token PID_SETUP 0 0, .none⟩, exGd 0 0), (⟨.data PID_DATA0 [0x80, 0, 0, 0, 0, 0, 2, 0] true, .none⟩, exGd 0 0),
   (⟨.token PID_IN 0 0, .none⟩, exGd 0 2), (⟨.handshake PID_ACK, .none⟩, exGd 0 0),
   (⟨.token PID_OUT 0 0, .none⟩, exGd 0 0), (⟨.data PID_DATA1 [] true, .none⟩, exGd 0 0)]

/-- 16 bytes, wLength 64, mps 8: two full packets and the zero-length packet. -/
def exHist (lat : Nat) : List (Stim × GapsS) :=
  history (devCfg exColl 8) exPre (fun a => getDescriptorScript a (2 * 256 + 0) 64 3) (List.replicate 8 (exGd lat 8))

example : wellFormed exColl = true ∧ 2 ≤ (Rom.layout exColl).maxLen := by decide +kernel
example : ∀ d ∈ exColl, d.bytes.length < 2048 := by decide
example : descrBytes exColl 2 0 = some (List.range 16) := by decide
example : (dataStage (List.range 16) 64 8).length = 3 := by decide
example : LegalHostM (devCfg exColl 8) (exPre.map (·.1)) = true := by decide +kernel
example : LegalHostM (devCfg exColl 8) ((exHist 0).map (·.1)) = true := by decide +kernel
example : WinFromM (devCfg exColl 8) Device.init (exHist 0) = true := by decide +kernel
example : ∀ xg ∈ exHist 0, TDSil xg.2 := by
  have h : (exHist 0).all (fun xg => TDSilB xg.2) = true := by decide +kernel
  intro xg hxg
  exact TDSil_of_B _ (List.all_eq_true.mp h xg hxg)
-- the conclusion with the block handler model's own latency (`lat := 3`)
example : (sys2BusRespsM (devCfg exColl 8) (blockOf exColl 8) Device.init sys2Init (exHist 3)).drop exPre.length =
    [.none, .hs PID_ACK, .data PID_DATA1 [0, 1, 2, 3, 4, 5, 6, 7], .none, .data PID_DATA0 [8, 9, 10, 11, 12, 13, 14, 15],
     .none, .data PID_DATA1 [], .none] := by decide +kernel
/-- `TxLat0FromM` (Lemmas/C07MpsClosed.lean) is a recursion over the history: decidable, for the `example` below. -/
def TxLat0FromM.dec (c : DevConfig) : (d : DevState) → (h : List (Stim × GapsS)) → Decidable (TxLat0FromM c d h)
  | _, [] => isTrue trivial
  | d, (x, g) :: rest =>
    have := TxLat0FromM.dec c (stepM c d x).1 rest
    inferInstanceAs (Decidable (TxLat0 c d x.ev g ∧ TxLat0FromM c (stepM c d x).1 rest))
instance (c : DevConfig) (d : DevState) (h : List (Stim × GapsS)) : Decidable (TxLat0FromM c d h) :=
  TxLat0FromM.dec c d h
-- `get_descriptor_end_to_end_contract`: a handler with 2 quiet cycles (`lat := 1`, the distributed handler's latency)
def exHistC : List (Stim × GapsS) :=
  history (devCfg exColl 8) exPre (fun a => getDescriptorScript a (2 * 256 + 0) 64 3)
    [exGd 0 0, exGd 0 0, exGd 1 8, exGd 0 0, exGd 1 8, exGd 0 0, exGd 1 8, exGd 0 0]
example : FitsFromM (devCfg exColl 8) Device.init exHistC = true := by decide +kernel
example : TxLat0FromM (devCfg exColl 8) Device.init exHistC := by decide +kernel
example : ∀ xg ∈ exHistC, TSil xg.2 := by
  have h : exHistC.all (fun xg => TSilB xg.2) = true := by decide +kernel
  intro xg hxg
  exact TSil_of_B _ (List.all_eq_true.mp h xg hxg)
example : (sysBusRespsM (devCfg exColl 8) Device.init sysInit exHistC).drop exPre.length =
    [.none, .hs PID_ACK, .data PID_DATA1 [0, 1, 2, 3, 4, 5, 6, 7], .none, .data PID_DATA0 [8, 9, 10, 11, 12, 13, 14, 15],
     .none, .data PID_DATA1 [], .none] := by decide +kernel
-- a missing descriptor (type 3 index 1: the collection has index 2 only) and a present one
def exHistF (idx lat : Nat) : List (Stim × GapsS) :=
  history (devCfg exColl 8) exPre (fun a => firstInScript a (3 * 256 + idx) 255) (List.replicate 3 (exGd lat 8))
example : descrBytes exColl 3 1 = none ∧ descrBytes exColl 3 2 = some [4, 3, 9, 4] := by decide
example : LegalHostM (devCfg exColl 8) ((exHistF 1 0).map (·.1)) = true ∧
    WinFromM (devCfg exColl 8) Device.init (exHistF 1 0) = true := by decide +kernel
example : (sys2BusRespsM (devCfg exColl 8) (blockOf exColl 8) Device.init sys2Init (exHistF 1 3)).drop exPre.length =
    [.none, .hs PID_ACK, .hs PID_STALL] := by decide +kernel
example : (sys2BusRespsM (devCfg exColl 8) (blockOf exColl 8) Device.init sys2Init (exHistF 2 3)).drop exPre.length =
    [.none, .hs PID_ACK, .data PID_DATA1 [4, 3, 9, 4]] := by decide +kernel

end LunaVerif.Desc.EndToEnd
