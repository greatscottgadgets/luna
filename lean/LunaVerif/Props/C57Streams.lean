import LunaVerif.Lemmas.C57Steps
/-!
# C57 — rx / tx order over whole-device event histories

"… delivers bytes written by the host to its receive stream in order, and delivers bytes from its transmit stream
to the host in order."

`rx_in_order` and `tx_in_order` are statements about EVERY event history of the whole serial-device model
(`Full.step`, any `FullConfig` with the endpoint list of `USBSerialDevice`: control endpoint with every standard /
class / vendor request, IN 3, OUT 4, IN 4) from the freshly reset device — legal or not: tokens for any address
and endpoint, good and corrupted data packets, retransmissions, handshakes of this and of other devices'
transactions, control transfers between and in the middle of bulk transactions (SET_LINE_CODING,
CLEAR_FEATURE(ENDPOINT_HALT) naming any endpoint, …), bus resets, produce / consume events of any size.
`LegalHost` histories are a special case (examples at the end).  The histories are observed through the ghost
variables of `Lemmas/C57Ghost.lean` (computed from events, answers and the control side's registers - token detector,
address register, and the latched request and handler state that form the halt-clear strobe -, never from the
endpoints' buffers or toggles).

The only environment hypothesis is that of `tx_in_order`: the host ACKs a tx packet only if it received it
(`HostAcksWhatItGot`).

What CLEAR_FEATURE(ENDPOINT_HALT) and a bus reset do, as coded, is part of the statements:
* halt-clear of OUT 4: the receiver's sequence bit restarts at DATA0 (`rxBit := false`), buffered bytes stay and
  are still delivered (`rx_in_order` holds across it unchanged);
* halt-clear of IN 4: device and host restart with DATA0, buffered bytes stay.  A packet the host had already
  accepted while the device has not seen its ACK (`unconfirmed`) is sent AGAIN as DATA0 and accepted a second
  time: these re-deliveries are exactly the entries of `redone` (each equal to the packet accepted before it), at
  most one per such halt-clear (`ambiguousClears`); everything else the host accepts (`kept`) is the produced
  stream, in order, each byte once;
* bus reset: neither toggles nor buffers change (address and configuration only), the host keeps its bits.
-/
namespace LunaVerif.C57
open LunaVerif LunaVerif.Device LunaVerif.Device.Full

def RxInv57 (s : FullState) (g : Ghost) : Prop := ShapeOk s ∧ RxG (rxEp s) g

def Inv57 (s : FullState) (g : Ghost) : Prop := RxInv57 s g ∧ TxG s.ctl (txEp s) g

theorem rxInv57_step (c : FullConfig) (hc : IsSerial c) (s : FullState) (g : Ghost) (ae : AEvent)
    (hi : RxInv57 s g) : RxInv57 (Full.step c s ae.ev).1 (ghostStep s g ae (Full.step c s ae.ev).2) := by
  obtain ⟨hs, hrx⟩ := hi
  obtain ⟨hs', _, hb, _⟩ := eps_step c hc s ae.ev hs
  obtain ⟨b', hb', hrx'⟩ := rx_step c hc s _ _ _ hs.shape g ae hrx
  exact ⟨hs', EpState.sOut.inj (hb.symm.trans hb') ▸ hrx'⟩

theorem inv57_step (c : FullConfig) (hc : IsSerial c) (s : FullState) (g : Ghost) (ae : AEvent)
    (hi : Inv57 s g) (hok : ackOk s g ae = true) :
    Inv57 (Full.step c s ae.ev).1 (ghostStep s g ae (Full.step c s ae.ev).2) := by
  obtain ⟨d', hd', htx'⟩ := tx_step c hc s _ _ _ hi.1.1.shape g ae hi.2 hok
  exact ⟨rxInv57_step c hc s g ae hi.1, EpState.sIn.inj ((eps_step c hc s ae.ev hi.1.1).2.2.2.symm.trans hd') ▸ htx'⟩

theorem rxInv57_run (c : FullConfig) (hc : IsSerial c) (s : FullState) (g : Ghost) (h : List AEvent)
    (hi : RxInv57 s g) : RxInv57 (runG c s g h).1 (runG c s g h).2 := by
  induction h generalizing s g with
  | nil => exact hi
  | cons ae as ih => exact ih _ _ (rxInv57_step c hc s g ae hi)

theorem inv57_run (c : FullConfig) (hc : IsSerial c) (s : FullState) (g : Ghost) (h : List AEvent)
    (hi : Inv57 s g) (hl : acksFrom c s g h = true) : Inv57 (runG c s g h).1 (runG c s g h).2 := by
  induction h generalizing s g with
  | nil => exact hi
  | cons ae as ih =>
    simp only [acksFrom, Bool.and_eq_true] at hl
    exact ih _ _ (inv57_step c hc s g ae hi hl.1) hl.2

theorem inv57_init (c : FullConfig) (hc : IsSerial c) : Inv57 (Full.init c) {} := by
  obtain ⟨_, h2, h3⟩ := (shape_init c hc).proj
  rw [Inv57, RxInv57, h2, h3]
  exact ⟨⟨shapeOk_init c hc, rfl, rfl⟩, ⟨rfl, rfl, rfl, rfl, rfl⟩, fun h => (by cases h), fun h => (by cases h),
    fun x hx => (by cases hx), Nat.le_refl _⟩

/-- **C57 (rx in order, whole-device histories).**  For EVERY event history of the serial device from reset (no
hypothesis: any interleaving of tokens, good / corrupted / retransmitted / overflowing data packets, control
transfers incl. CLEAR_FEATURE(ENDPOINT_HALT) for any endpoint, other endpoints' and other devices' traffic, bus
resets, produce and consume events): the bytes read from the rx stream followed by the bytes still in its FIFO are
exactly the payloads of the data packets for OUT endpoint 4 that the device ACKed with a fresh toggle — in order,
each once (a retransmission is ACKed again but is not fresh); and the endpoint's expected toggle is the sequence bit
the toggle rule prescribes, a halt-clear of OUT 4 restarting it at DATA0 and leaving the buffered bytes alone. -/
theorem rx_in_order (c : FullConfig) (hc : IsSerial c) (h : List AEvent) :
    let r := runG c (Full.init c) {} h
    r.2.delivered ++ bytesOf (rxEp r.1).fifo = r.2.acked ∧ (rxEp r.1).expToggle = r.2.rxBit := by
  obtain ⟨_, hrx⟩ := rxInv57_run c hc _ _ h (inv57_init c hc).1
  exact ⟨hrx.2, hrx.1⟩

theorem rx_delivered_prefix (c : FullConfig) (hc : IsSerial c) (h : List AEvent) :
    (runG c (Full.init c) {} h).2.delivered <+: (runG c (Full.init c) {} h).2.acked :=
  ⟨_, (rx_in_order c hc h).1⟩

/-- **C57 (tx in order, whole-device histories).**  For EVERY event history of the serial device from reset in
which the host ACKs tx packets only when it has received them: the bytes the host has accepted by the toggle rule
(`kept`: first deliveries), followed by the packet that is still to get across (unless the host already has it) and
the bytes collected for the next packet, are exactly the bytes the tx stream accepted from the producer — nothing
lost, duplicated or reordered, across lost packets, lost ACKs, other devices' ACKs, control transfers and bus
resets.  The only other packets the host accepts are the re-deliveries after a halt-clear of IN 4 that arrived
while the device had not seen the ACK of the last accepted packet: each is that very packet again (`redone`), and
there is at most one per such halt-clear. -/
theorem tx_in_order (c : FullConfig) (hc : IsSerial c) (h : List AEvent) (hl : HostAcksWhatItGot c h = true) :
    let r := runG c (Full.init c) {} h
    r.2.kept ++ (if (txEp r.1).fsm ≠ .waitData ∧ r.2.hostBit = (txEp r.1).pid ∧ r.2.redo = false
                 then (txEp r.1).rbuf else []) ++ (txEp r.1).wbuf = r.2.produced ∧
    (∀ x ∈ r.2.redone, x.1 = x.2) ∧
    r.2.redone.length + (if r.2.redo then 1 else 0) ≤ r.2.ambiguousClears := by
  obtain ⟨_, h1, _, _, h4, h5⟩ := inv57_run c hc _ _ h (inv57_init c hc) hl
  exact ⟨txc_bytes h1, h4, h5⟩

theorem tx_kept_prefix (c : FullConfig) (hc : IsSerial c) (h : List AEvent) (hl : HostAcksWhatItGot c h = true) :
    (runG c (Full.init c) {} h).2.kept <+: (runG c (Full.init c) {} h).2.produced := by
  have h1 := (tx_in_order c hc h hl).1
  simp only [List.append_assoc] at h1
  exact ⟨_, h1⟩

theorem no_redo {α : Type} {l : List α} {b : Bool} {n : Nat} (h : l.length + (if b then 1 else 0) ≤ n) (hn : n = 0) :
    l = [] ∧ b = false := by
  subst hn
  cases b
  · exact ⟨List.eq_nil_of_length_eq_zero (Nat.le_zero.1 h), rfl⟩
  · exact absurd h (Nat.not_succ_le_zero _)

/-- Without a halt-clear of IN 4 in the ambiguous situation nothing is ever delivered twice: EVERY packet the
host accepts by the toggle rule is in `kept`. -/
theorem tx_exactly_once (c : FullConfig) (hc : IsSerial c) (h : List AEvent) (hl : HostAcksWhatItGot c h = true)
    (hn : (runG c (Full.init c) {} h).2.ambiguousClears = 0) :
    (runG c (Full.init c) {} h).2.redone = [] ∧ (runG c (Full.init c) {} h).2.redo = false :=
  no_redo (tx_in_order c hc h hl).2.2 hn

/-! ## What "halt-clear" means in the ghost history -/

theorem dispatch_clearFeature (r : Nat) (h : dispatch r = .clearFeature) : r = REQ_CLEAR_FEATURE := by
  unfold dispatch at h
  repeat' split at h
  all_goals first | assumption | cases h

theorem ctl_inv_reachable (c : FullConfig) (s : FullState) (h : List HostEvent) (hi : Device.Inv s.ctl) :
    Device.Inv (Full.final c s h).ctl := by
  induction h generalizing s with
  | nil => exact hi
  | cons e es ih =>
    apply ih
    rw [step_ctl]
    exact inv_step c.dev s.ctl _ hi

/-- In every state reachable from reset, the halt-clear of endpoint `n`, direction `dir`, that `ghostStep` (and the
endpoints) react to happens exactly with a host ACK that arrives while the last token is an IN token for endpoint 0, the
latched SETUP packet is a STANDARD CLEAR_FEATURE request (bRequest 1) whose wIndex names that endpoint (bit 7: direction,
bits 3..0: number) and the standard handler is still handling it — i.e. the ACK of that request's status stage. -/
theorem halt_clear_is_clear_feature (c : FullConfig) (h : List HostEvent) (pid : Nat) (dir : Bool) (n : Nat) :
    let s := (Full.final c (Full.init c) h).ctl
    haltFor (ctxOf s (.handshake pid)) dir n = true ↔
      (pid = PID_ACK ∧ s.tokPid = PID_IN ∧ s.tokEp = 0 ∧ s.setup.type = TYPE_STANDARD ∧
       s.setup.request = REQ_CLEAR_FEATURE ∧ s.hstate = .clearFeature ∧
       (s.setup.index / 128 % 2 == 1) = dir ∧ s.setup.index % 16 = n) := by
  have hinv := ctl_inv_reachable c (Full.init c) h inv_init
  simp only
  generalize (Full.final c (Full.init c) h).ctl = s at hinv
  rw [haltFor_iff]
  simp only [ackReachesStd, Bool.and_eq_true, beq_iff_eq]
  constructor
  · rintro ⟨⟨⟨⟨⟨a1, a2⟩, a3⟩, a4⟩, a5⟩, e1, e2⟩
    refine ⟨a1, a3, a2, a4, ?_, a5, e1, e2⟩
    -- the standard handler is in CLEAR_FEATURE only while that request is latched
    rcases hinv.handler a4 with hidle | hd
    · rw [a5] at hidle; cases hidle
    · rw [a5] at hd; exact dispatch_clearFeature _ hd.symm
  · rintro ⟨a1, a3, a2, a4, _, a5, e1, e2⟩
    exact ⟨⟨⟨⟨⟨a1, a2⟩, a3⟩, a4⟩, a5⟩, e1, e2⟩

/-! ## Non-vacuity: legal host histories with everything in them -/

def ann (l : List HostEvent) : List AEvent := l.map (⟨·, true⟩)

/-- CLEAR_FEATURE(ENDPOINT_HALT) for the endpoint named by `ix` (wIndex), sent to address `a`. -/
def clearHalt (a ix : Nat) : List HostEvent := ctrlWrite a (setupBytes 0x02 1 0 ix 0)

/-- Enumeration, an OUT packet whose ACK the host misses and its retransmission, a corrupted packet, another
device's transaction, halt-clear of OUT 4 (DATA0 is fresh again afterwards), a tx packet the host has at the
first attempt and whose ACK gets across at the third (ACK lost, then the retransmission lost), a bus reset and a new SET_ADDRESS in the middle of the tx stream, halt-clear
of IN 4 with nothing in flight. -/
def demo : List AEvent :=
  ann (enumeration 5) ++
  ann [.token PID_OUT 5 4, .data PID_DATA0 [1, 2, 3] true,
       .token PID_OUT 5 4, .data PID_DATA0 [1, 2, 3] true,
       .consume 4 2,
       .token PID_OUT 5 4, .data PID_DATA1 [4] false,
       .token PID_OUT 7 4, .data PID_DATA1 [9] true,
       .token PID_OUT 5 4, .data PID_DATA1 [4] true] ++
  ann (clearHalt 5 0x04) ++
  ann [.token PID_OUT 5 4, .data PID_DATA0 [5] true,
       .produce 4 [10, 11] true,
       .token PID_IN 5 4] ++
  [⟨.token PID_IN 5 4, false⟩] ++
  ann [.token PID_IN 5 4, .handshake PID_ACK,
       .busReset,
       .produce 4 [12] true] ++
  ann (ctrlWrite 0 (setupBytes 0x00 5 5 0 0)) ++
  ann [.token PID_IN 5 4, .handshake PID_ACK] ++
  ann (clearHalt 5 0x84) ++
  ann [.produce 4 [13] true, .token PID_IN 5 4, .handshake PID_ACK, .consume 4 10]

example : Full.LegalHost acmCfg (demo.map (·.ev)) = true ∧ HostAcksWhatItGot acmCfg demo = true := by decide +kernel

example : (runG acmCfg (Full.init acmCfg) {} demo).2 =
    { rxBit := true, acked := [1, 2, 3, 4, 5], delivered := [1, 2, 3, 4, 5], produced := [10, 11, 12, 13],
      hostBit := true, kept := [10, 11, 12, 13], lastPkt := [13] } := by decide +kernel

/-- The ambiguous halt-clear: the host has accepted [10, 11], the device has not seen the ACK, CLEAR_FEATURE
(ENDPOINT_HALT) for IN 4 — the packet comes again as DATA0 and is accepted again (replayed on the real
`USBSerialDevice`: the gateware does exactly this). -/
def demoRedo : List AEvent :=
  ann (enumeration 5) ++
  ann [.produce 4 [10, 11] true, .token PID_IN 5 4] ++
  ann (clearHalt 5 0x84) ++
  ann [.produce 4 [12] true, .token PID_IN 5 4, .handshake PID_ACK, .token PID_IN 5 4, .handshake PID_ACK]

example : Full.LegalHost acmCfg (demoRedo.map (·.ev)) = true ∧ HostAcksWhatItGot acmCfg demoRedo = true := by
  decide +kernel

example : (runG acmCfg (Full.init acmCfg) {} demoRedo).2 =
    { produced := [10, 11, 12], kept := [10, 11, 12], lastPkt := [12], redone := [([10, 11], [10, 11])],
      ambiguousClears := 1 } := by decide +kernel


/-- The hypothesis of `tx_in_order` is needed and is not trivially true: a host that ACKs a packet it did not
receive makes the endpoint drop it ([1] is gone, [2] comes with the toggle of a retransmission and is discarded):
the endpoint has sent everything it was given and the host has nothing. -/
def demoBadAck : List AEvent :=
  ann (enumeration 5) ++ ann [.produce 4 [1] true] ++ [⟨.token PID_IN 5 4, false⟩] ++
  ann [.handshake PID_ACK, .produce 4 [2] true, .token PID_IN 5 4, .handshake PID_ACK]

example : Full.LegalHost acmCfg (demoBadAck.map (·.ev)) = true ∧ HostAcksWhatItGot acmCfg demoBadAck = false := by
  decide +kernel

example : (runG acmCfg (Full.init acmCfg) {} demoBadAck).2.kept = [] ∧
    (runG acmCfg (Full.init acmCfg) {} demoBadAck).2.produced = [1, 2] ∧
    (txEp (runG acmCfg (Full.init acmCfg) {} demoBadAck).1).fsm = .waitData ∧
    (txEp (runG acmCfg (Full.init acmCfg) {} demoBadAck).1).wbuf = [] := by decide +kernel

end LunaVerif.C57
