import LunaVerif.Props.C56Stream
/-!
# C56 — StreamILA: any number of captures in one history, and every history is one

`stream_readout_any` speaks about one capture.  Here it is chained over a whole history: the history is cut at the
*accepted* triggers (`ChainOK`: each piece starts with a trigger seen while the wrapper FSM is IDLE, its continuation starts no new
capture, and at its end the wrapper is IDLE again — which is exactly when the gateware accepts the next trigger: the StreamILA
blocks its trigger input while SAMPLING / SENDING, so a read-out in progress can NOT be disturbed by a new trigger, and a new
capture cannot start before the previous buffer has been sent completely).  `stream_capture_chain`: the words transferred on the
stream over the whole history are the framed samples of capture 1, then those of capture 2, ... — each capture's `depth` samples
in order, each once, nothing else; in particular no sample of capture `k-1` appears after capture `k` was started.
`stream_capture_chain_open`: the last capture may still be in its read-out at the end of the history (a prefix of its frame).
`stream_capture_nth`: localised in time — the words transferred during piece `k` are exactly capture `k`'s frame.
`stream_capture_chain_total`: "wrapper idle at the end of each piece" replaced by "the consumer offered `2·depth` ready cycles in
each piece".

The cut is no restriction.  `stream_history_decomposes`: every input history of the StreamILA, from any idle state, is
`pre ++ chain ++ tail` with `ChainOK` for the chain; the tail is empty, a trigger followed by at most `depth` cycles (capture not
yet handed over), or a last capture after which no further trigger is accepted (its read-out in progress at the end, or complete
with the wrapper idle again).  `stream_history_frames`: hence the words transferred over ANY history are the complete frames of
the captures of the chain followed by a prefix of the frame of that last capture (all of it if the wrapper is idle at the end).
-/
namespace LunaVerif.IlaStream
open LunaVerif.Ila

/-- one capture with its read-out: trigger cycle, `depth` capture cycles, hand-over cycle, continuation -/
structure Capture where
  x0 : In
  xs : List In
  xl : In
  ys : List In

def Capture.hist (b : Capture) : List In := b.x0 :: b.xs ++ b.xl :: b.ys

/-- the samples capture `b` records when it starts in state `σ`: `S[1..depth]` of `captures_depth_consecutive_samples` -/
def capSamples (c : Config) (σ : State) (b : Capture) : List Nat :=
  ((σ.core.dl ++ inputsOfW (b.x0 :: b.xs)).drop 1).take c.depth

def ChainOK (c : Config) : State → List Capture → Prop
  | _, [] => True
  | σ, b :: bs => b.x0.trigger = true ∧ b.xs.length = c.depth ∧
      noRetrigger c (runState c σ (b.x0 :: b.xs ++ [b.xl])) b.ys ∧
      (runState c σ b.hist).fsm = .idle ∧ ChainOK c (runState c σ b.hist) bs

instance (c : Config) : ∀ σ bs, Decidable (ChainOK c σ bs)
  | _, [] => isTrue trivial
  | σ, b :: bs =>
    have := instDecidableChainOK c (runState c σ b.hist) bs
    inferInstanceAs (Decidable (_ ∧ _ ∧ _ ∧ _ ∧ _))

def capturedFrames (c : Config) : State → List Capture → List Xfer
  | _, [] => []
  | σ, b :: bs => frame (capSamples c σ b) ++ capturedFrames c (runState c σ b.hist) bs

theorem chain_link (c : Config) (hd : 1 ≤ c.depth) (σ : State) (hσ : WIdle c σ) (b : Capture)
    (ht : b.x0.trigger = true) (hl : b.xs.length = c.depth)
    (hq : noRetrigger c (runState c σ (b.x0 :: b.xs ++ [b.xl])) b.ys) (hi : (runState c σ b.hist).fsm = .idle) :
    transfers c σ b.hist = frame (capSamples c σ b) ∧ WIdle c (runState c σ b.hist) := by
  obtain ⟨h1, h2, h3, _⟩ := capture_readout c hd σ hσ b.x0 ht b.xs hl b.xl b.ys hq
  exact ⟨by rw [Capture.hist, h1, frame_take c σ b.x0 b.xs hl _ (h2.mp hi)]; rfl, (h3 hi).1⟩

/-- **stream_capture_chain**: any number of captures in one history, cut at the accepted triggers: the words transferred on the
stream (`valid ∧ ready`) over the whole history are the framed buffer of capture 1, then that of capture 2, ... — each capture's
`depth` samples in order, each once, `first` on its sample 0 and `last` on its sample `depth-1`, nothing else; and the wrapper
is in an idle state again. -/
theorem stream_capture_chain (c : Config) (hd : 1 ≤ c.depth) (bs : List Capture) :
    ∀ (σ : State), WIdle c σ → ChainOK c σ bs →
    transfers c σ (bs.flatMap Capture.hist) = capturedFrames c σ bs ∧ WIdle c (runState c σ (bs.flatMap Capture.hist)) := by
  induction bs with
  | nil => intro σ hσ _; exact ⟨rfl, hσ⟩
  | cons b bs ih =>
    intro σ hσ ⟨ht, hl, hq, hi, hrest⟩
    obtain ⟨a1, a2⟩ := chain_link c hd σ hσ b ht hl hq hi
    obtain ⟨b1, b2⟩ := ih _ a2 hrest
    simp only [List.flatMap_cons, transfers_append, runState_append, capturedFrames]
    exact ⟨by rw [a1, b1], b2⟩

/-- **stream_capture_chain_open**: as `stream_capture_chain`, the last capture `b` possibly still in its read-out when the history
ends: the words transferred are the complete frames of the earlier captures followed by the first `k` words of `b`'s frame;
`k ≥ depth` (all of it) if the wrapper is idle at the end. -/
theorem stream_capture_chain_open (c : Config) (hd : 1 ≤ c.depth) (bs : List Capture) (b : Capture) (σ : State)
    (hσ : WIdle c σ) (hok : ChainOK c σ bs) (ht : b.x0.trigger = true) (hl : b.xs.length = c.depth)
    (hq : noRetrigger c (runState c (runState c σ (bs.flatMap Capture.hist)) (b.x0 :: b.xs ++ [b.xl])) b.ys) :
    ∃ k, transfers c σ ((bs ++ [b]).flatMap Capture.hist) =
        capturedFrames c σ bs ++ (frame (capSamples c (runState c σ (bs.flatMap Capture.hist)) b)).take k ∧
      ((runState c σ ((bs ++ [b]).flatMap Capture.hist)).fsm = .idle → c.depth ≤ k) := by
  obtain ⟨a1, a2⟩ := stream_capture_chain c hd bs σ hσ hok
  obtain ⟨k, h1, h2⟩ := stream_readout_any c hd _ a2 b.x0 ht b.xs hl b.xl b.ys hq
  refine ⟨k, ?_, ?_⟩
  · simp only [List.flatMap_append, List.flatMap_cons, List.flatMap_nil, List.append_nil, transfers_append, a1]
    exact congrArg _ h1
  · simp only [List.flatMap_append, List.flatMap_cons, List.flatMap_nil, List.append_nil, runState_append]
    exact h2

theorem chainOK_append (c : Config) (as bs : List Capture) : ∀ σ,
    ChainOK c σ (as ++ bs) ↔ ChainOK c σ as ∧ ChainOK c (runState c σ (as.flatMap Capture.hist)) bs := by
  induction as with
  | nil => intro σ; simp [ChainOK, runState]
  | cons a as ih =>
    intro σ
    simp only [List.cons_append, ChainOK, List.flatMap_cons, runState_append, ih]
    constructor
    · rintro ⟨h1, h2, h3, h4, h5, h6⟩; exact ⟨⟨h1, h2, h3, h4, h5⟩, h6⟩
    · rintro ⟨⟨h1, h2, h3, h4, h5⟩, h6⟩; exact ⟨h1, h2, h3, h4, h5, h6⟩

/-- **stream_capture_nth**: localised in time: in a chain `as ++ b :: cs`, the words transferred during the piece of capture `b`
(from its trigger cycle to the cycle before the next accepted trigger) are exactly the frame of the samples `b` recorded —
whatever the earlier captures recorded: no sample of an earlier capture is transferred once `b` has been triggered. -/
theorem stream_capture_nth (c : Config) (hd : 1 ≤ c.depth) (as : List Capture) (b : Capture) (cs : List Capture) (σ : State)
    (hσ : WIdle c σ) (hok : ChainOK c σ (as ++ b :: cs)) :
    transfers c (runState c σ (as.flatMap Capture.hist)) b.hist =
      frame (capSamples c (runState c σ (as.flatMap Capture.hist)) b) := by
  obtain ⟨ok1, ht, hl, hq, hi, _⟩ := (chainOK_append c as (b :: cs) σ).mp hok
  obtain ⟨_, a2⟩ := stream_capture_chain c hd as σ hσ ok1
  exact (chain_link c hd _ a2 b ht hl hq hi).1

/-- `ChainOK` with "wrapper idle at the end of the piece" replaced by `2·depth` ready cycles in the piece's continuation (what a
read-out needs; the first one after reset needs one less) -/
def ChainReady (c : Config) : State → List Capture → Prop
  | _, [] => True
  | σ, b :: bs => b.x0.trigger = true ∧ b.xs.length = c.depth ∧
      noRetrigger c (runState c σ (b.x0 :: b.xs ++ [b.xl])) b.ys ∧
      2 * c.depth ≤ readyCount b.ys ∧ ChainReady c (runState c σ b.hist) bs

instance (c : Config) : ∀ σ bs, Decidable (ChainReady c σ bs)
  | _, [] => isTrue trivial
  | σ, b :: bs =>
    have := instDecidableChainReady c (runState c σ b.hist) bs
    inferInstanceAs (Decidable (_ ∧ _ ∧ _ ∧ _ ∧ _))

theorem chainReady_ok (c : Config) (hd : 1 ≤ c.depth) (bs : List Capture) :
    ∀ (σ : State), WIdle c σ → ChainReady c σ bs → ChainOK c σ bs := by
  induction bs with
  | nil => intro σ _ _; trivial
  | cons b bs ih =>
    intro σ hσ ⟨ht, hl, hq, hn, hrest⟩
    obtain ⟨_, hi⟩ := stream_readout_total c hd σ hσ b.x0 ht b.xs hl b.xl b.ys hq (by omega)
    have hi' : (runState c σ b.hist).fsm = .idle := hi
    exact ⟨ht, hl, hq, hi', ih _ (chain_link c hd σ hσ b ht hl hq hi').2 hrest⟩

/-- **stream_capture_chain_total**: any number of captures, each followed by a continuation that starts no new capture and in
which the consumer offers at least `2·depth` ready cycles (at any times): the stream carries the complete framed buffer of every
capture, capture after capture.  No assumption on the state at the end of the pieces. -/
theorem stream_capture_chain_total (c : Config) (hd : 1 ≤ c.depth) (bs : List Capture) (σ : State) (hσ : WIdle c σ)
    (hok : ChainReady c σ bs) :
    transfers c σ (bs.flatMap Capture.hist) = capturedFrames c σ bs ∧ WIdle c (runState c σ (bs.flatMap Capture.hist)) :=
  stream_capture_chain c hd bs σ hσ (chainReady_ok c hd bs σ hσ hok)

/-- The samples of the captures of a chain, capture after capture. -/
def capturedSamples (c : Config) : State → List Capture → List Nat
  | _, [] => []
  | σ, b :: bs => capSamples c σ b ++ capturedSamples c (runState c σ b.hist) bs

/-- The payloads of `capturedFrames` are `capturedSamples`. -/
theorem capturedFrames_payloads (c : Config) (bs : List Capture) : ∀ σ,
    (capturedFrames c σ bs).map (·.1) = capturedSamples c σ bs := by
  induction bs with
  | nil => intro σ; rfl
  | cons b bs ih => intro σ; simp [capturedFrames, capturedSamples, frame, frameFrom_payloads, ih]

theorem stream_idle_prefix (c : Config) (pre : List In) : ∀ (σ : State), (∀ x ∈ pre, x.trigger = false) → WIdle c σ →
    transfers c σ pre = [] ∧ WIdle c (runState c σ pre) := by
  induction pre with
  | nil => intro σ _ hσ; exact ⟨rfl, hσ⟩
  | cons x pre ih =>
    intro σ hp hσ
    obtain ⟨w1, _, _, w3⟩ := idle_step c σ hσ x (hp x (by simp))
    obtain ⟨i1, i2⟩ := ih _ (fun y hy => hp y (by simp [hy])) w1
    exact ⟨by simp only [transfers, w3, i1, List.append_nil], i2⟩

def TailOK (c : Config) (s : State) (tail : List In) : Prop :=
  tail = [] ∨ (∃ x0 rest, tail = x0 :: rest ∧ x0.trigger = true ∧ rest.length ≤ c.depth) ∨
  (∃ b : Capture, tail = b.hist ∧ b.x0.trigger = true ∧ b.xs.length = c.depth ∧
    noRetrigger c (runState c s (b.x0 :: b.xs ++ [b.xl])) b.ys)

theorem chain_of (c : Config) (hd : 1 ≤ c.depth) : ∀ (n : Nat) (h : List In) (σ : State), h.length ≤ n → WIdle c σ →
    (h = [] ∨ ∃ x rest, h = x :: rest ∧ x.trigger = true) →
    ∃ bs tail, h = bs.flatMap Capture.hist ++ tail ∧ ChainOK c σ bs ∧
      TailOK c (runState c σ (bs.flatMap Capture.hist)) tail := by
  intro n
  induction n with
  | zero =>
    intro h σ hn _ _
    have : h = [] := List.eq_nil_of_length_eq_zero (by omega)
    exact ⟨[], [], by simp [this], trivial, Or.inl rfl⟩
  | succ n ih =>
    intro h σ hn hσ hh
    rcases hh with hh | ⟨x0, rest, e, ht⟩
    · exact ⟨[], [], by simp [hh], trivial, Or.inl rfl⟩
    · by_cases hlen : rest.length ≤ c.depth
      · exact ⟨[], h, by simp, trivial, Or.inr (Or.inl ⟨x0, rest, e, ht, hlen⟩)⟩
      · cases hdrop : rest.drop c.depth with
        | nil =>
          have := congrArg List.length hdrop
          simp only [List.length_drop, List.length_nil] at this
          omega
        | cons xl r2 =>
          have hrest : rest = rest.take c.depth ++ xl :: r2 := by rw [← hdrop, List.take_append_drop]
          have hxs : (rest.take c.depth).length = c.depth := by simp only [List.length_take]; omega
          obtain ⟨ys, b', e2, hq, hb⟩ := split_retrigger c r2 (runState c σ (x0 :: rest.take c.depth ++ [xl]))
          have hhist : h = Capture.hist ⟨x0, rest.take c.depth, xl, ys⟩ ++ b' := by
            rw [e]
            simp only [Capture.hist, List.cons_append, List.append_assoc]
            rw [← e2, ← hrest]
          rcases hb with hb | ⟨y, rest', eb, hidle, hy⟩
          · refine ⟨[], h, by simp, trivial, Or.inr (Or.inr ⟨⟨x0, rest.take c.depth, xl, ys⟩, ?_, ht, hxs, hq⟩)⟩
            rw [hhist, hb, List.append_nil]
          · have hi : (runState c σ (Capture.hist ⟨x0, rest.take c.depth, xl, ys⟩)).fsm = .idle := by
              have hsplit : Capture.hist ⟨x0, rest.take c.depth, xl, ys⟩ = (x0 :: rest.take c.depth ++ [xl]) ++ ys := by
                simp [Capture.hist]
              rw [hsplit, runState_append]; exact hidle
            obtain ⟨_, hW⟩ := chain_link c hd σ hσ ⟨x0, rest.take c.depth, xl, ys⟩ ht hxs hq hi
            have hbl : b'.length ≤ n := by
              have h1 := congrArg List.length hhist
              simp only [List.length_append, Capture.hist, List.length_cons] at h1
              omega
            obtain ⟨bs, tail, e3, hok, htail⟩ := ih b' _ hbl hW (Or.inr ⟨y, rest', eb, hy⟩)
            refine ⟨⟨x0, rest.take c.depth, xl, ys⟩ :: bs, tail, ?_, ⟨ht, hxs, hq, hi, hok⟩, ?_⟩
            · rw [hhist, e3]; simp only [List.flatMap_cons, List.append_assoc]
            · simp only [List.flatMap_cons, runState_append]; exact htail

/-- **stream_history_decomposes**: EVERY input history of the StreamILA, from any idle state (`init_WIdle`), is of the form the
chain theorems speak about: trigger-free cycles, a chain of captures cut at the accepted triggers (`ChainOK`), and a tail
(`TailOK`). -/
theorem stream_history_decomposes (c : Config) (hd : 1 ≤ c.depth) (h : List In) (σ : State) (hσ : WIdle c σ) :
    ∃ pre bs tail, h = pre ++ bs.flatMap Capture.hist ++ tail ∧ (∀ x ∈ pre, x.trigger = false) ∧
      ChainOK c (runState c σ pre) bs ∧ TailOK c (runState c σ (pre ++ bs.flatMap Capture.hist)) tail := by
  obtain ⟨pre, b, e, hp, hb⟩ := split_first (·.trigger) h
  obtain ⟨_, hW⟩ := stream_idle_prefix c pre σ hp hσ
  obtain ⟨bs, tail, e2, hok, htail⟩ := chain_of c hd b.length b _ (Nat.le_refl _) hW hb
  refine ⟨pre, bs, tail, by rw [e, e2, List.append_assoc], hp, hok, ?_⟩
  rw [runState_append]; exact htail

/-- A capture cut off at or before its hand-over cycle (a trigger and at most `depth` cycles) transfers nothing. -/
theorem truncated_quiet (c : Config) (hd : 1 ≤ c.depth) (σ : State) (hσ : WIdle c σ) (x0 : In) (ht : x0.trigger = true)
    (rest : List In) (hl : rest.length ≤ c.depth) : transfers c σ (x0 :: rest) = [] := by
  -- padded to `depth + 1` cycles the history is one `handover` speaks about: no transfers, hence none in its prefix
  let full := rest ++ List.replicate (c.depth + 1 - rest.length) x0
  have hfl : full.length = c.depth + 1 := by simp only [full, List.length_append, List.length_replicate]; omega
  have hne : full ≠ [] := by intro h; rw [h] at hfl; simp at hfl
  have hsplit : full = full.dropLast ++ [full.getLast hne] := (List.dropLast_concat_getLast hne).symm
  have hdl : full.dropLast.length = c.depth := by rw [List.length_dropLast, hfl]; rfl
  obtain ⟨t0, _⟩ := handover c hd σ hσ x0 ht full.dropLast hdl (full.getLast hne)
  have e : x0 :: full.dropLast ++ [full.getLast hne] = (x0 :: rest) ++ List.replicate (c.depth + 1 - rest.length) x0 := by
    rw [List.cons_append, ← hsplit]; rfl
  rw [e, transfers_append] at t0
  exact (List.append_eq_nil_iff.mp t0).1

/-- **stream_history_frames**: the words transferred over ANY history `h` of the StreamILA from an idle state: with the
decomposition of `stream_history_decomposes`, they are the complete framed buffers of the captures of the chain, in order,
followed by the first `k` words of the frame of the last capture, after which no further trigger is accepted (none if no capture
has been handed over yet; all `depth` if the wrapper is idle at the end) — each captured sample at most once, in order, never a sample of
an earlier capture after one of a later capture. -/
theorem stream_history_frames (c : Config) (hd : 1 ≤ c.depth) (h : List In) (σ : State) (hσ : WIdle c σ) :
    ∃ pre bs tail, h = pre ++ bs.flatMap Capture.hist ++ tail ∧ (∀ x ∈ pre, x.trigger = false) ∧
      ChainOK c (runState c σ pre) bs ∧
      ((tail = [] ∨ (∃ x0 rest, tail = x0 :: rest ∧ x0.trigger = true ∧ rest.length ≤ c.depth)) ∧
          transfers c σ h = capturedFrames c (runState c σ pre) bs ∨
       ∃ (b : Capture) (k : Nat), tail = b.hist ∧ b.x0.trigger = true ∧ b.xs.length = c.depth ∧
          transfers c σ h = capturedFrames c (runState c σ pre) bs ++
            (frame (capSamples c (runState c σ (pre ++ bs.flatMap Capture.hist)) b)).take k ∧
          ((runState c σ h).fsm = .idle → c.depth ≤ k)) := by
  obtain ⟨pre, bs, tail, e, hp, hok, htail⟩ := stream_history_decomposes c hd h σ hσ
  obtain ⟨p1, hW⟩ := stream_idle_prefix c pre σ hp hσ
  obtain ⟨c1, hW2⟩ := stream_capture_chain c hd bs _ hW hok
  have hT : transfers c σ h = capturedFrames c (runState c σ pre) bs ++
      transfers c (runState c σ (pre ++ bs.flatMap Capture.hist)) tail := by
    rw [e, transfers_append, transfers_append, p1, c1, List.nil_append, runState_append]
  have hR : runState c σ h = runState c (runState c σ (pre ++ bs.flatMap Capture.hist)) tail := by
    rw [e, runState_append]
  rw [← runState_append] at hW2
  refine ⟨pre, bs, tail, e, hp, hok, ?_⟩
  rcases htail with ht | ⟨x0, rest, et, ht, hl⟩ | ⟨b, eb, ht, hl, hq⟩
  · exact Or.inl ⟨Or.inl ht, by rw [hT, ht]; simp [transfers]⟩
  · refine Or.inl ⟨Or.inr ⟨x0, rest, et, ht, hl⟩, ?_⟩
    rw [hT, et, truncated_quiet c hd _ hW2 x0 ht rest hl, List.append_nil]
  · obtain ⟨k, h1, h2⟩ := stream_readout_any c hd _ hW2 b.x0 ht b.xs hl b.xl b.ys hq
    refine Or.inr ⟨b, k, eb, ht, hl, ?_, ?_⟩
    · rw [hT, eb]; exact congrArg _ h1
    · rw [hR, eb]; exact h2

/-! ## Non-vacuity: depth 2, pre-trigger 1: two captures, the second trigger held from the middle of the first read-out on
(blocked), one idle cycle, then the second trigger -/
def exC1 : Capture := ⟨⟨true, 10, true⟩, [⟨true, 11, true⟩, ⟨false, 12, false⟩], ⟨false, 13, true⟩,
  [⟨false, 14, true⟩, ⟨true, 15, false⟩, ⟨true, 16, true⟩, ⟨true, 17, true⟩, ⟨false, 18, true⟩]⟩
def exC2 : Capture := ⟨⟨true, 20, true⟩, [⟨false, 21, true⟩, ⟨false, 22, true⟩], ⟨false, 23, true⟩,
  [⟨false, 24, true⟩, ⟨false, 25, true⟩, ⟨false, 26, false⟩, ⟨false, 27, true⟩, ⟨false, 28, true⟩, ⟨false, 29, true⟩]⟩

example : ChainOK ⟨2, 1⟩ (init ⟨2, 1⟩) [exC1, exC2] := by decide
example : ChainReady ⟨2, 1⟩ (init ⟨2, 1⟩) [exC1, exC2] := by decide
example : capturedFrames ⟨2, 1⟩ (init ⟨2, 1⟩) [exC1, exC2] =
    [(10, true, false), (11, false, true), (20, true, false), (21, false, true)] := by decide
example : transfers ⟨2, 1⟩ (init ⟨2, 1⟩) ([exC1, exC2].flatMap Capture.hist) =
    [(10, true, false), (11, false, true), (20, true, false), (21, false, true)] := by decide

end LunaVerif.IlaStream
