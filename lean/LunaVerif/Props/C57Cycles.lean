import LunaVerif.Lemmas.C57CycBridge
/-!
# C57 — rx / tx order on the cycle-level endpoints

`rx_in_order` / `tx_in_order` (Props/C57Streams.lean) are statements about event histories of the whole-device model
`Full.step`.  Here they are transferred to the CYCLE-LEVEL models of the serial device's data endpoints:

* rx = `USBStreamOutEndpoint(endpoint_number = 4, max_packet_size = 64)` (buffer_size = 2·64 − 1 = 127): C13's
  `StreamOutEndpoint.step` (boundary detector + transactional FIFO + ACK / NAK / toggle glue),
* tx = `USBStreamInEndpoint(endpoint_number = 4, max_packet_size = 64)`: C11's `InXfer.step` (`USBInTransferManager`
  with both packet memories) under `USBStreamInEndpoint`'s wiring,
* (the status endpoint, `USBStreamInEndpoint(endpoint_number = 3, max_packet_size = 64)`, likewise: `acm_status_cycles`),

each run over the clock-cycle expansion (C12's `expand`: any idle-cycle counts, stall patterns, free input values, any
acceptor-legal cycle sequence per data packet) of a history of the whole device, the token registers / `new_token` /
halt-clear strobe being those of the whole-device model's control endpoint.

1. `acm_rx_cycles`, `acm_tx_cycles`, `acm_status_cycles`: the decoded cycle-level outputs are, event by event, the outputs
   of the whole-device model's endpoints, and the final cycle-level states are related to the whole-device model's final
   endpoint states (instances of `C57Cyc.out_cycles_refine` / `in_cycles_refine`; the configuration hypotheses of C12's
   lemmas — endpoint number ≠ 0, max packet size ≥ 1 — are discharged by `decide`; C13's acceptor bounds a packet by
   the max packet size only in transactions addressed to the endpoint, so SETUP packets and other endpoints' packets
   pass whatever their length).  Beside them `acm_rx_slice`, `acm_tx_slice`, `acm_status_slice`: C12's history lemmas
   for the slice machines at the three configurations; nothing below rests on these.
2. `cycle_ghost_eq`: the ghost history (`acked`, `delivered`, `produced`, `kept`, …) computed from the CYCLE-LEVEL wires
   (ACK requests, consumer transfers, producer bytes accepted, NAK / beats / zero-length packets) is the ghost history of
   the event-level run.
3. `rx_in_order_cycles`, `tx_in_order_cycles`: the transfer theorems; `delivered_is_stream`: `delivered` is the payload
   sequence of ALL consumer transfers of the cycle-level run.
-/

namespace LunaVerif.C57
open LunaVerif LunaVerif.Device LunaVerif.Device.Full LunaVerif.C57Cyc

/-! ## The three endpoints of `USBSerialDevice` as C12 configurations -/

def st3 : EpDev.EpCfg := inCfg ep3
def rx4 : EpDev.EpCfg := outCfg ep4o
def tx4 : EpDev.EpCfg := inCfg ep4i

example : st3 = ⟨.streamIn, 3, 64, 0⟩ ∧ rx4 = ⟨.streamOut, 4, 64, 127⟩ ∧ tx4 = ⟨.streamIn, 4, 64, 0⟩ := by decide

theorem isAcm_stdOwned (c : FullConfig) (ha : IsAcm c) : StdOwned c.dev := by
  intro h hh
  rw [ha.2] at hh
  simp only [List.mem_singleton] at hh
  subst hh
  decide

example : IsAcm acmCfg ∧ IsSerial acmCfg := ⟨⟨rfl, rfl⟩, rfl⟩

/-! ## 1. Cycles refine events, from reset -/

/-- **The rx endpoint (OUT 4), cycle level = whole-device event level.**  For every history of the whole serial device
from reset satisfying `outLegal` (data packets follow tokens, are acceptor-legal cycle sequences of bytes, and fit into
the FIFO while the registers name OUT 4): C13's cycle-level endpoint, run from reset over the expansion, requests
exactly the handshakes (ACK / NAK) and hands the consumer exactly the entries (payload, first, last) that the
whole-device model's rx endpoint does, event by event; its final state is related (`C12Out.Rel`: toggle,
`transfer_active`, FIFO contents, …) to an event-level state `e'` that is the whole-device model's final rx state
(`ROut`). -/
theorem acm_rx_cycles (c : FullConfig) (hc : IsSerial c) (ha : IsAcm c) (h : List (HostEvent × C12Out.Gaps))
    (hl : outLegal c ep4o rxEp (Full.init c) false h = true) :
    ∃ e' a', ROut (rxEp (Full.final c (Full.init c) (h.map (·.1)))) e' ∧
      C12Out.Rel (C12Out.cfgOf rx4) e'
        (StreamOutEndpoint.runState (C12Out.cfgOf rx4) StreamOutEndpoint.init (outCycles c rx4 (Full.init c) h))
        (C12Out.phOf a' (C12Out.tkD (Full.final c (Full.init c) (h.map (·.1))).ctl)) ∧
      outWires c rx4 (Full.init c) StreamOutEndpoint.init h
        = (epOuts c ep4o (fun s => .sOut (rxEp s)) (Full.init c) (h.map (·.1))).map outWiresOf := by
  exact out_cycles_refine c (isAcm_stdOwned c ha) ep4o (by decide) (by decide) rxEp ShapeOk
    (fun s ev hs => (eps_step c hc s ev hs).1) (fun s ev hs => (eps_step c hc s ev hs).2.2.1) h (Full.init c) {}
    false false StreamOutEndpoint.init (shapeOk_init c hc) hl (by simp)
    (by rw [(shape_init c hc).proj.2.1]; exact rout_init) (C12Out.rel_init _)

/-- **The tx endpoint (IN 4), cycle level = whole-device event level.**  For every history of the whole serial device
from reset whose `produce` events carry bytes: C11's cycle-level transfer manager, run from reset over the expansion,
accepts exactly as many producer bytes, requests exactly the NAKs and transmits exactly the DATA packets (PID
`data_pid[0]`, the beats with `first` / `last`, zero-length packets) that the whole-device model's tx endpoint does,
event by event; its final state is related (`C12In.Rel`: FSM state, data PID, both packet memories, …) to an
event-level state `e'` that is the whole-device model's final tx state (`RIn`). -/
theorem acm_tx_cycles (c : FullConfig) (hc : IsSerial c) (ha : IsAcm c) (h : List (HostEvent × C12In.Gaps))
    (hev : ∀ x ∈ h, C12In.EvOk x.1) :
    ∃ e', RIn 64 (txEp (Full.final c (Full.init c) (h.map (·.1)))) e' ∧
      C12In.Rel (C12In.cfgOf tx4) e'
        (InXfer.runState (C12In.cfgOf tx4) (InXfer.init (C12In.cfgOf tx4)) (inCycles c tx4 (Full.init c) {} h)) ∧
      inWires c tx4 (Full.init c) {} (InXfer.init (C12In.cfgOf tx4)) h
        = (epOuts c ep4i (fun s => .sIn (txEp s)) (Full.init c) (h.map (·.1))).map inWiresOf := by
  exact in_cycles_refine c (isAcm_stdOwned c ha) ep4i (by decide) (by decide) txEp ShapeOk
    (fun s ev hs => (eps_step c hc s ev hs).1) (fun s ev hs => (eps_step c hc s ev hs).2.2.2) h hev (Full.init c) {}
    (InXfer.init _) (shapeOk_init c hc) (by rw [(shape_init c hc).proj.2.2]; exact rin_init 64) (C12In.rel_init _)

/-- … and the status endpoint (IN 3; `USBSerialDevice` never feeds its stream). -/
theorem acm_status_cycles (c : FullConfig) (hc : IsSerial c) (ha : IsAcm c) (h : List (HostEvent × C12In.Gaps))
    (hev : ∀ x ∈ h, C12In.EvOk x.1) :
    ∃ e', RIn 64 (stEp (Full.final c (Full.init c) (h.map (·.1)))) e' ∧
      C12In.Rel (C12In.cfgOf st3) e'
        (InXfer.runState (C12In.cfgOf st3) (InXfer.init (C12In.cfgOf st3)) (inCycles c st3 (Full.init c) {} h)) ∧
      inWires c st3 (Full.init c) {} (InXfer.init (C12In.cfgOf st3)) h
        = (epOuts c ep3 (fun s => .sIn (stEp s)) (Full.init c) (h.map (·.1))).map inWiresOf := by
  exact in_cycles_refine c (isAcm_stdOwned c ha) ep3 (by decide) (by decide) stEp ShapeOk
    (fun s ev hs => (eps_step c hc s ev hs).1) (fun s ev hs => (eps_step c hc s ev hs).2.1) h hev (Full.init c) {}
    (InXfer.init _) (shapeOk_init c hc) (by rw [(shape_init c hc).proj.1]; exact rin_init 64) (C12In.rel_init _)

/-! C12's history lemmas for the slice machines `control endpoint × endpoint` (`C12.sliceRun`), instantiated with the
three configurations (the configuration hypotheses by `decide`). -/

theorem acm_rx_slice (c : DevConfig) (h : List (HostEvent × C12Out.Gaps))
    (hl : C12Out.legalOk c rx4 Device.init {} false h = true) :
    ∃ e' a', (C12.sliceFinal c rx4 (Device.init, .sout {}) (h.map (·.1))).2 = .sout e' ∧
      C12Out.Rel (C12Out.cfgOf rx4) e'
        (StreamOutEndpoint.runState (C12Out.cfgOf rx4) StreamOutEndpoint.init (C12Out.expandAll c rx4 Device.init h))
        (C12Out.phOf a' (C12Out.tkD (C12.sliceFinal c rx4 (Device.init, .sout {}) (h.map (·.1))).1)) ∧
      C12Out.cycObs c rx4 Device.init StreamOutEndpoint.init h
        = (C12.sliceRun c rx4 (Device.init, .sout {}) (h.map (·.1))).map C12Out.wiresOf :=
  C12Out.out_cycle_refines_legal c rx4 (by decide) (by decide) h hl

theorem acm_tx_slice (c : DevConfig) (h : List (HostEvent × C12In.Gaps)) (hev : ∀ x ∈ h, C12In.EvOk x.1) :
    ∃ e', (C12.sliceFinal c tx4 (Device.init, .sin {}) (h.map (·.1))).2 = .sin e' ∧
      C12In.Rel (C12In.cfgOf tx4) e'
        (InXfer.runState (C12In.cfgOf tx4) (InXfer.init (C12In.cfgOf tx4)) (C12In.expandAll c tx4 Device.init {} h)) ∧
      C12In.cycWires c tx4 Device.init {} (InXfer.init (C12In.cfgOf tx4)) h
        = (C12.sliceRun c tx4 (Device.init, .sin {}) (h.map (·.1))).map C12In.wiresOf :=
  C12In.in_cycle_refines_run c tx4 (by decide) (by decide) h hev Device.init {} _ (C12In.rel_init _)

theorem acm_status_slice (c : DevConfig) (h : List (HostEvent × C12In.Gaps)) (hev : ∀ x ∈ h, C12In.EvOk x.1) :
    ∃ e', (C12.sliceFinal c st3 (Device.init, .sin {}) (h.map (·.1))).2 = .sin e' ∧
      C12In.Rel (C12In.cfgOf st3) e'
        (InXfer.runState (C12In.cfgOf st3) (InXfer.init (C12In.cfgOf st3)) (C12In.expandAll c st3 Device.init {} h)) ∧
      C12In.cycWires c st3 Device.init {} (InXfer.init (C12In.cfgOf st3)) h
        = (C12.sliceRun c st3 (Device.init, .sin {}) (h.map (·.1))).map C12In.wiresOf :=
  C12In.in_cycle_refines_run c st3 (by decide) (by decide) h hev Device.init {} _ (C12In.rel_init _)

/-! ## 2. The ghost history read off the cycle-level wires -/

/-- the entries the cycle-level consumer took (`stream.valid ∧ stream.ready`), in the whole-device model's layout -/
def xfers : List C12Out.Wire → List Entry
  | [] => []
  | .xfer x :: ws => (x.1, x.2.2, x.2.1) :: xfers ws
  | _ :: ws => xfers ws

def rxObs (w : List C12Out.Wire) : Obs :=
  { resp := if C12Out.Wire.ack ∈ w then .hs PID_ACK else if C12Out.Wire.nak ∈ w then .hs PID_NAK else .none
    delivery := { count := (xfers w).length, items := xfers w } }

def accs : List C12In.Wire → Nat
  | [] => 0
  | .acc :: ws => accs ws + 1
  | _ :: ws => accs ws

def beatBytes : List C12In.Wire → List Nat
  | [] => []
  | .beat b _ _ _ :: ws => b :: beatBytes ws
  | _ :: ws => beatBytes ws

/-- the transmission of the tx endpoint during one event: NAK, or a DATA packet (PID from `data_pid[0]`, the payloads of
its beats), or nothing -/
def txResp : List C12In.Wire → Resp
  | [] => .none
  | .acc :: ws => txResp ws
  | .nak :: _ => .hs PID_NAK
  | .zlp pid :: _ => .data (dataPidOf pid) []
  | .beat b _ _ pid :: ws => .data (dataPidOf pid) (b :: beatBytes ws)

def txObs (w : List C12In.Wire) : Obs := { resp := txResp w, delivery := { count := accs w } }

/-- The observation `ghostStep` needs for an event, taken from the cycle-level wires of the two data endpoints: data
packets and consumer reads concern rx, everything else (IN tokens, producer writes) tx. -/
def cycObsOf (ev : HostEvent) (wr : List C12Out.Wire) (wt : List C12In.Wire) : Obs :=
  match ev with
  | .data _ _ _ => rxObs wr
  | .consume _ _ => rxObs wr
  | _ => txObs wt

/-- The ghost history computed from the cycle-level wires (per event: `wr` of the rx endpoint, `wt` of the tx endpoint)
instead of the event-level model's answers; token registers, address and halt-clear strobe from the control endpoint
of the whole-device model. -/
def runGw (c : FullConfig) : FullState → Ghost → List AEvent → List (List C12Out.Wire) → List (List C12In.Wire) → Ghost
  | s, g, a :: as, wr :: wrs, wt :: wts =>
    runGw c (Full.step c s a.ev).1 (ghostStep s g a (cycObsOf a.ev wr wt)) as wrs wts
  | _, g, _, _, _ => g

theorem xfers_hs (l : List C12Out.Wire) (hl : ∀ w ∈ l, w = .ack ∨ w = .nak) (r : List Entry) :
    xfers (l ++ r.map (fun x => C12Out.Wire.xfer (x.1, x.2.2, x.2.1))) = r := by
  induction l with
  | nil =>
    induction r with
    | nil => rfl
    | cons x xs ih => simp only [List.nil_append, List.map_cons, xfers] at ih ⊢; rw [ih]
  | cons w ws ih =>
    rcases hl w (by simp) with h | h <;> subst h <;>
      simpa only [List.cons_append, xfers] using ih (fun w hw => hl w (by simp [hw]))

theorem xfers_outWiresOf (r : Resp × Delivery) : xfers (outWiresOf r) = r.2.items := by
  simp only [outWiresOf]
  apply xfers_hs
  intro w hw
  split at hw
  · split at hw
    · simp at hw; exact Or.inl hw
    · split at hw
      · simp at hw; exact Or.inr hw
      · simp at hw
  · simp at hw

theorem rxObs_ack (r : Resp × Delivery) : (rxObs (outWiresOf r)).resp = .hs PID_ACK ↔ r.1 = .hs PID_ACK := by
  obtain ⟨r1, r2⟩ := r
  have hx : ∀ (l : List Entry), C12Out.Wire.ack ∉ l.map (fun x => C12Out.Wire.xfer (x.1, x.2.2, x.2.1)) := by
    intro l; simp
  have hn : ¬ (PID_NAK = PID_ACK) := by decide
  cases r1 with
  | none => simp [rxObs, outWiresOf]
  | data p b => simp [rxObs, outWiresOf]
  | hs pid =>
    by_cases h1 : pid = PID_ACK
    · subst h1; simp [rxObs, outWiresOf]
    · by_cases h2 : pid = PID_NAK
      · subst h2; simp [rxObs, outWiresOf, hn]
      · simp [rxObs, outWiresOf, h1, h2]

theorem accs_replicate (k : Nat) (l : List C12In.Wire) : accs (List.replicate k C12In.Wire.acc ++ l) = k + accs l := by
  induction k with
  | zero => simp
  | succ n ih => simp only [List.replicate_succ, List.cons_append, accs, ih]; omega

theorem beatBytes_beats (pid : Bool) (n : Nat) (bs : List Nat) : ∀ k, beatBytes (C12In.beatsFrom pid n k bs) = bs := by
  induction bs with
  | nil => intro k; rfl
  | cons b t ih => intro k; simp only [C12In.beatsFrom, beatBytes, ih]

theorem accs_beats (pid : Bool) (n : Nat) (bs : List Nat) : ∀ k, accs (C12In.beatsFrom pid n k bs) = 0 := by
  induction bs with
  | nil => intro k; rfl
  | cons b t ih => intro k; simp only [C12In.beatsFrom, accs, ih]

theorem txObs_count (r : Resp × Delivery) : (txObs (inWiresOf r)).delivery.count = r.2.count := by
  obtain ⟨r1, r2⟩ := r
  simp only [txObs, inWiresOf, C12In.wiresOf, accs_replicate]
  cases r1 with
  | none => simp [accs]
  | hs pid => by_cases h : pid = PID_NAK <;> simp [h, accs]
  | data p bs =>
    cases bs with
    | nil => simp [accs]
    | cons b t => simp [accs_beats]

theorem dataPid_round (p : Bool) : (dataPidOf p == PID_DATA1) = p := C12Sig.pid_dec p

theorem txResp_inToken (num : Nat) (d : InEp) (pid ep : Nat) :
    txResp (inWiresOf ((inToken num d pid ep).2, {})) = (inToken num d pid ep).2 := by
  have key : ∀ (p : Bool) (bs : List Nat), txResp (inWiresOf (.data (dataPidOf p) bs, {})) = .data (dataPidOf p) bs := by
    intro p bs
    cases bs with
    | nil => simp [inWiresOf, C12In.wiresOf, txResp, dataPid_round]
    | cons b t => simp [inWiresOf, C12In.wiresOf, C12In.beatsFrom, txResp, dataPid_round, beatBytes_beats]
  simp only [inToken]
  split
  · split
    · simp [inWiresOf, C12In.wiresOf, txResp]
    · exact key _ _
    · simp [inWiresOf, C12In.wiresOf, txResp]
  · simp [inWiresOf, C12In.wiresOf, txResp]

theorem ghost_obs_eq (c : FullConfig) (hc : IsSerial c) (s : FullState) (a : InEp) (b : OutEp) (d : InEp)
    (hs : Shape s a b d) (g : Ghost) (ae : AEvent) :
    ghostStep s g ae (cycObsOf ae.ev (outWiresOf (epStep ep4o (.sOut b) (ctxOf s.ctl ae.ev) ae.ev).2)
      (inWiresOf (epStep ep4i (.sIn d) (ctxOf s.ctl ae.ev) ae.ev).2)) = ghostStep s g ae (Full.step c s ae.ev).2 := by
  obtain ⟨ev, got⟩ := ae
  cases ev with
  | data pid p ok =>
    by_cases h12 : s.ctl.tokPid = PID_OUT ∧ s.ctl.tokEp = 4
    · obtain ⟨h1, h2⟩ := h12
      have hr := resp_out_data c hc s a b d hs pid p ok h1 h2
      have hep : (epStep ep4o (.sOut b) (ctxOf s.ctl (.data pid p ok)) (.data pid p ok)).2.1
          = (outData ep4o b PID_OUT 4 pid p ok).2 := by
        simp only [epStep, ctxOf, h1, h2]
      have hiff := rxObs_ack (epStep ep4o (.sOut b) (ctxOf s.ctl (.data pid p ok)) (.data pid p ok)).2
      rw [hep, ← hr] at hiff
      simp only [ghostStep, cycObsOf, hiff]
    · have n1 : ∀ o : Obs, ¬(s.ctl.tokPid = PID_OUT ∧ s.ctl.tokEp = 4 ∧ o.resp = .hs PID_ACK ∧ pidToggle pid = g.rxBit) :=
        fun o h => h12 ⟨h.1, h.2.1⟩
      simp only [ghostStep, if_neg (n1 _)]
  | consume ep n =>
    by_cases he : ep = 4
    · subst he
      have hdel := delivery_consume c hc s a b d hs n
      have hit : xfers (outWiresOf (epStep ep4o (.sOut b) (ctxOf s.ctl (.consume 4 n)) (.consume 4 n)).2) = b.fifo.take n :=
        xfers_outWiresOf _
      simp only [ghostStep, cycObsOf, rxObs, if_true, hit, hdel]
    · simp only [ghostStep, if_neg he]
  | produce ep bytes last =>
    by_cases he : ep = 4
    · subst he
      have hdel := delivery_produce c hc s a b d hs bytes last
      have hct : (txObs (inWiresOf (epStep ep4i (.sIn d) (ctxOf s.ctl (.produce 4 bytes last)) (.produce 4 bytes last)).2)).delivery.count
          = (inProduce 64 d bytes last).2 := txObs_count _
      simp only [ghostStep, cycObsOf, if_true, hct, hdel]
    · simp only [ghostStep, if_neg he]
  | token pid addr ep =>
    by_cases h : pid = PID_IN ∧ addr = s.ctl.address ∧ ep = 4
    · obtain ⟨h1, h2, h3⟩ := h
      subst h1 h2 h3
      have hr := resp_in_token c hc s a b d hs
      have hep : (epStep ep4i (.sIn d) (ctxOf s.ctl (.token PID_IN s.ctl.address 4)) (.token PID_IN s.ctl.address 4)).2
          = ((inToken 4 d PID_IN 4).2, {}) := by
        simp [epStep, ctxOf, ep4i]
      have ht := txResp_inToken 4 d PID_IN 4
      simp only [ghostStep, cycObsOf, txObs, hep, ht, hr]
    · simp only [ghostStep, if_neg h]
  | _ => rfl

theorem runGw_eq (c : FullConfig) (hc : IsSerial c) (h : List AEvent) : ∀ (s : FullState) (g : Ghost), ShapeOk s →
    runGw c s g h ((epOuts c ep4o (fun s => .sOut (rxEp s)) s (h.map (·.ev))).map outWiresOf)
      ((epOuts c ep4i (fun s => .sIn (txEp s)) s (h.map (·.ev))).map inWiresOf) = (runG c s g h).2 := by
  induction h with
  | nil => intro s g _; rfl
  | cons ae rest ih =>
    intro s g hok
    simp only [List.map_cons, epOuts, runGw, runG, ghost_obs_eq c hc s _ _ _ hok.shape g ae]
    exact ih _ _ (eps_step c hc s ae.ev hok).1

/-! ## 3. The transfer theorems -/

/-- A host event with its annotation (`got`, see `AEvent`) and the free parameters of its clock-cycle expansion for
the rx endpoint (`go`) and for the tx endpoint (`gi`). -/
structure CEvent where
  ev  : HostEvent
  got : Bool := true
  go  : C12Out.Gaps
  gi  : C12In.Gaps

def aevs (h : List CEvent) : List AEvent := h.map (fun x => ⟨x.ev, x.got⟩)
def rxHist (h : List CEvent) : List (HostEvent × C12Out.Gaps) := h.map (fun x => (x.ev, x.go))
def txHist (h : List CEvent) : List (HostEvent × C12In.Gaps) := h.map (fun x => (x.ev, x.gi))

def rxWires (c : FullConfig) (h : List CEvent) : List (List C12Out.Wire) :=
  outWires c rx4 (Full.init c) StreamOutEndpoint.init (rxHist h)
def txWires (c : FullConfig) (h : List CEvent) : List (List C12In.Wire) :=
  inWires c tx4 (Full.init c) {} (InXfer.init (C12In.cfgOf tx4)) (txHist h)
def rxFinal (c : FullConfig) (h : List CEvent) : StreamOutEndpoint.State :=
  StreamOutEndpoint.runState (C12Out.cfgOf rx4) StreamOutEndpoint.init (outCycles c rx4 (Full.init c) (rxHist h))
def txFinal (c : FullConfig) (h : List CEvent) : InXfer.State :=
  InXfer.runState (C12In.cfgOf tx4) (InXfer.init (C12In.cfgOf tx4)) (inCycles c tx4 (Full.init c) {} (txHist h))
def cycGhost (c : FullConfig) (h : List CEvent) : Ghost := runGw c (Full.init c) {} (aevs h) (rxWires c h) (txWires c h)

/-- **Environment hypotheses of the transfer theorems** (decidable): producer bytes are bytes; data packets directly
follow a token, are acceptor-legal cycle sequences (C13's `LegalHost`) of bytes, and — while the token registers name
OUT 4 — fit into the rx FIFO (a host that respects NAK / PING flow control; the overflow path, which `rx_in_order`
covers at event level, is C13's `nak_iff_cannot_take_partial` at cycle level and is not part of this transfer). -/
def CycLegal (c : FullConfig) (h : List CEvent) : Prop :=
  (∀ x ∈ h, C12In.EvOk x.ev) ∧ outLegal c ep4o rxEp (Full.init c) false (rxHist h) = true

instance (c : FullConfig) (h : List CEvent) : Decidable (CycLegal c h) := by unfold CycLegal; infer_instance

theorem CycLegal.tx {c : FullConfig} {h : List CEvent} (hl : CycLegal c h) : ∀ x ∈ txHist h, C12In.EvOk x.1 := by
  intro x hx
  simp only [txHist, List.mem_map] at hx
  obtain ⟨y, hy, rfl⟩ := hx
  exact hl.1 y hy

theorem hist_evs (h : List CEvent) : (rxHist h).map (·.1) = (aevs h).map (·.ev) ∧ (txHist h).map (·.1) = (aevs h).map (·.ev) := by
  simp [rxHist, txHist, aevs, Function.comp_def]

/-- **The ghost history of the cycle-level run is the ghost history of the event-level run**: `acked` / `delivered` /
`rxBit` read off the rx endpoint's ACK requests and consumer transfers, `produced` / `kept` / `hostBit` / … off the tx
endpoint's accepted producer bytes and transmitted beats, are exactly the ghost variables `rx_in_order` /
`tx_in_order` speak about. -/
theorem cycle_ghost_eq (c : FullConfig) (hc : IsSerial c) (ha : IsAcm c) (h : List CEvent) (hl : CycLegal c h) :
    cycGhost c h = (runG c (Full.init c) {} (aevs h)).2 := by
  obtain ⟨_, _, _, _, hwr⟩ := acm_rx_cycles c hc ha (rxHist h) hl.2
  obtain ⟨_, _, _, hwt⟩ := acm_tx_cycles c hc ha (txHist h) hl.tx
  simp only [cycGhost, rxWires, txWires, hwr, hwt, (hist_evs h).1, (hist_evs h).2]
  exact runGw_eq c hc (aevs h) (Full.init c) {} (shapeOk_init c hc)

theorem cyc_final (c : FullConfig) (h : List CEvent) :
    Full.final c (Full.init c) ((rxHist h).map (·.1)) = (runG c (Full.init c) {} (aevs h)).1 ∧
    Full.final c (Full.init c) ((txHist h).map (·.1)) = (runG c (Full.init c) {} (aevs h)).1 := by
  rw [runG_state, (hist_evs h).1, (hist_evs h).2]
  exact ⟨rfl, rfl⟩

/-- **C57, rx in order, on the cycle-level endpoint.**  Run C13's cycle-level model of the rx endpoint from reset over
the clock-cycle expansion of ANY history of the whole serial device satisfying `CycLegal` (tokens for any address and
endpoint, good / corrupted / retransmitted data packets, control transfers incl. CLEAR_FEATURE(ENDPOINT_HALT), other
endpoints' and devices' traffic, bus resets, producer and consumer activity; arbitrary idle-cycle counts, byte spacing
and response delays).  Then the bytes its consumer has taken from the stream (`delivered`: payloads of the transfers
`valid ∧ ready`, in order) followed by the committed, unread entries of its FIFO memory (`q.C`, nothing uncommitted) are
exactly the payloads of the data packets for OUT 4 for which it requested an ACK while the packet's PID had the
sequence bit the USB toggle rule prescribes (`acked`, each packet once, in order); and its `expected_data_toggle`
register is that sequence bit (a halt-clear of OUT 4 restarting it at DATA0). -/
theorem rx_in_order_cycles (c : FullConfig) (hc : IsSerial c) (ha : IsAcm c) (h : List CEvent) (hl : CycLegal c h) :
    (∃ q, TxnFifo.Rel 127 (rxFinal c h).fifo q ∧ q.W = [] ∧
      (cycGhost c h).delivered ++ q.C.map (· % 256) = (cycGhost c h).acked) ∧
    (rxFinal c h).expectedToggle = (cycGhost c h).rxBit := by
  obtain ⟨e', a', hro, hrel, _⟩ := acm_rx_cycles c hc ha (rxHist h) hl.2
  obtain ⟨q, hq, hW, hC⟩ := C12Out.rel0_fifo hrel.1 (C12Out.phOf_quiet a' _)
  have hreg := C12Out.rel0_regs hrel.1
  have hrx := rx_in_order c hc (aevs h)
  simp only at hrx
  rw [cycle_ghost_eq c hc ha h hl]
  rw [(cyc_final c h).1] at hro
  refine ⟨⟨q, hq, hW, ?_⟩, ?_⟩
  · rw [← hrx.1, ← hro.fifo]
    congr 1
    have h1 : q.C.map (· % 256) = (q.C.map StreamOutEndpoint.dec).map (·.1) := by
      simp [StreamOutEndpoint.dec, Function.comp_def]
    rw [h1, hC]
    simp [bytesOf, decF, flipE, Function.comp_def]
  · rw [← hrx.2, ← hro.toggle]
    exact hreg

/-- **C57, tx in order, on the cycle-level endpoint.**  Run C11's cycle-level model of the tx endpoint
(`USBInTransferManager` with both packet memories, `USBStreamInEndpoint`'s wiring) from reset over the clock-cycle
expansion of ANY history of the whole serial device satisfying `CycLegal` in which the host ACKs tx packets only when it
has received them.  Then the bytes the host has accepted from its transmitted beats by the toggle rule (`kept`),
followed by the packet in its read memory that is still to get across (unless the host already has it) and the bytes
collected in its write memory, are exactly the bytes it accepted from the producer (`produced`: `stream.valid ∧ ready`)
— nothing lost, duplicated or reordered; the only other packets the host accepts are the re-deliveries after an
ambiguous halt-clear of IN 4 (`redone`, each equal to the packet accepted before it, at most one per such halt-clear). -/
theorem tx_in_order_cycles (c : FullConfig) (hc : IsSerial c) (ha : IsAcm c) (h : List CEvent) (hl : CycLegal c h)
    (hacks : HostAcksWhatItGot c (aevs h) = true) :
    (cycGhost c h).kept ++
      (if (txFinal c h).fsm ≠ .waitData ∧ (cycGhost c h).hostBit = (txFinal c h).pid ∧ (cycGhost c h).redo = false
       then InXfer.bufBytes (txFinal c h).r else []) ++ InXfer.bufBytes (txFinal c h).w = (cycGhost c h).produced ∧
    (∀ y ∈ (cycGhost c h).redone, y.1 = y.2) ∧
    (cycGhost c h).redone.length + (if (cycGhost c h).redo then 1 else 0) ≤ (cycGhost c h).ambiguousClears := by
  obtain ⟨e', hri, hrel, _⟩ := acm_tx_cycles c hc ha (txHist h) hl.tx
  have htx := tx_in_order c hc (aevs h) hacks
  simp only at htx
  rw [cycle_ghost_eq c hc ha h hl]
  rw [(cyc_final c h).2] at hri
  refine ⟨?_, htx.2⟩
  have hf : (txFinal c h).fsm ≠ .waitData ↔ (txEp (runG c (Full.init c) {} (aevs h)).1).fsm ≠ .waitData := by
    have h1 : (txFinal c h).fsm = C12In.fsmOf e'.fsm := hrel.fsm
    rw [h1, hri.fsm]
    cases (txEp (runG c (Full.init c) {} (aevs h)).1).fsm <;> simp [C12In.fsmOf, fsmIn]
  have hp : (txFinal c h).pid = (txEp (runG c (Full.init c) {} (aevs h)).1).pid := Eq.trans hrel.pid hri.pid
  have hr : InXfer.bufBytes (txFinal c h).r = (txEp (runG c (Full.init c) {} (aevs h)).1).rbuf :=
    Eq.trans hrel.rbuf hri.rbuf
  have hw : InXfer.bufBytes (txFinal c h).w = (txEp (runG c (Full.init c) {} (aevs h)).1).wbuf :=
    Eq.trans hrel.wbuf hri.wbuf
  rw [hr, hw, hp]
  simp only [hf]
  exact htx.1

/-- Without an ambiguous halt-clear of IN 4 nothing is delivered twice (cycle-level version of `tx_exactly_once`). -/
theorem tx_exactly_once_cycles (c : FullConfig) (hc : IsSerial c) (ha : IsAcm c) (h : List CEvent) (hl : CycLegal c h)
    (hacks : HostAcksWhatItGot c (aevs h) = true) (hn : (cycGhost c h).ambiguousClears = 0) :
    (cycGhost c h).redone = [] ∧ (cycGhost c h).redo = false := by
  rw [cycle_ghost_eq c hc ha h hl] at hn ⊢
  exact tx_exactly_once c hc (aevs h) hacks hn

theorem xfers_append (a b : List C12Out.Wire) : xfers (a ++ b) = xfers a ++ xfers b := by
  induction a with
  | nil => rfl
  | cons w ws ih => cases w <;> simp [xfers, ih]

theorem runG_delivered (c : FullConfig) (hc : IsSerial c) (h : List AEvent) : ∀ (s : FullState) (g : Ghost), ShapeOk s →
    (runG c s g h).2.delivered = g.delivered ++
      bytesOf (xfers ((epOuts c ep4o (fun s => .sOut (rxEp s)) s (h.map (·.ev))).map outWiresOf).flatten) := by
  induction h with
  | nil => intro s g _; simp [runG, epOuts, xfers, bytesOf]
  | cons ae rest ih =>
    intro s g hok
    simp only [runG, List.map_cons, epOuts, List.flatten_cons, xfers_append, bytesOf_append, xfers_outWiresOf]
    rw [ih _ _ (eps_step c hc s ae.ev hok).1, (ghost_rx s g ae _).2.2, ← List.append_assoc]
    congr 1
    -- the rx endpoint hands entries to the consumer in `consume 4` events only
    obtain ⟨ev, got⟩ := ae
    cases ev with
    | consume ep n =>
      by_cases he : ep = 4
      · subst he
        simp [delivery_consume c hc s _ _ _ hok.shape, epStep, ep4o]
      · simp [epStep, ep4o, he, bytesOf]
    | _ => simp only [epStep] <;> (repeat' split) <;> simp [bytesOf]

/-- **`delivered` is the byte stream of the cycle-level rx endpoint**: the payloads of ALL the transfers
`stream.valid ∧ stream.ready` of the whole cycle-level run, in order. -/
theorem delivered_is_stream (c : FullConfig) (hc : IsSerial c) (ha : IsAcm c) (h : List CEvent) (hl : CycLegal c h) :
    (cycGhost c h).delivered = bytesOf (xfers (rxWires c h).flatten) := by
  obtain ⟨_, _, _, _, hwr⟩ := acm_rx_cycles c hc ha (rxHist h) hl.2
  rw [cycle_ghost_eq c hc ha h hl, rxWires, hwr, (hist_evs h).1,
    runG_delivered c hc (aevs h) (Full.init c) {} (shapeOk_init c hc)]
  rfl

/-! ## Non-vacuity: one history, cycle by cycle

Device at address 0 (not yet enumerated).  OUT 4: DATA0 `[1,2,3]` (ACK), the same packet again (ACK, dropped), the
consumer reads 2 entries, DATA1 `[4]` corrupted (nothing), then good (ACK); IN 4: `[10,11]` produced, sent but lost on
the way (`got = false`), an OUT transaction of another device in between, sent again, ACKed; CLEAR_FEATURE(ENDPOINT_HALT)
for OUT 4 (SETUP, status IN, ACK) — after two accepted packets the endpoint expects DATA0 anyway, so the toggle restart
itself is not exercised —; DATA0 `[5]` (ACK); the consumer reads the rest.  Every event with
"wrong" free inputs, idle cycles, byte pauses and stalls (`C12Out.exGaps`, `C12In.exGaps`, `C12Out.exData`). -/

def cev (ev : HostEvent) (got : Bool := true) : CEvent := { ev := ev, got := got, go := C12Out.exGaps, gi := C12In.exGaps }

def cdata (tk : C12Sig.Tk) (pid : Nat) (payload : List Nat) (ok : Bool) : CEvent :=
  { ev := .data pid payload ok, go := (C12Out.exData tk pid payload ok).2, gi := C12In.exGaps }

def out4 : C12Sig.Tk := ⟨PID_OUT, 4⟩

def demoCyc : List CEvent :=
  [cev (.token PID_OUT 0 4), cdata out4 PID_DATA0 [1, 2, 3] true,
   cev (.token PID_OUT 0 4), cdata out4 PID_DATA0 [1, 2, 3] true,
   cev (.consume 4 2),
   cev (.token PID_OUT 0 4), cdata out4 PID_DATA1 [4] false,
   cev (.token PID_OUT 0 4), cdata out4 PID_DATA1 [4] true,
   cev (.produce 4 [10, 11] true),
   cev (.token PID_IN 0 4) false,
   cev (.token PID_OUT 7 4), cdata ⟨0, 4⟩ PID_DATA1 [9] true,
   cev (.token PID_IN 0 4), cev (.handshake PID_ACK),
   cev (.token PID_SETUP 0 0), cdata ⟨PID_SETUP, 0⟩ PID_DATA0 (setupBytes 0x02 1 0 0x04 0) true,
   cev (.token PID_IN 0 0), cev (.handshake PID_ACK),
   cev (.token PID_OUT 0 4), cdata out4 PID_DATA0 [5] true,
   cev (.consume 4 10)]

example : CycLegal acmCfg demoCyc ∧ HostAcksWhatItGot acmCfg (aevs demoCyc) = true := by decide +kernel

example : cycGhost acmCfg demoCyc =
    { rxBit := true, acked := [1, 2, 3, 4, 5], delivered := [1, 2, 3, 4, 5], produced := [10, 11],
      hostBit := true, kept := [10, 11], lastPkt := [10, 11] } := by decide +kernel

example : (rxWires acmCfg demoCyc).take 5 =
    [[], [.ack], [], [.ack], [.xfer (1, true, false), .xfer (2, false, false)]] ∧
    ((txWires acmCfg demoCyc).drop 9).take 2 =
    [[.acc, .acc], [.beat 10 true false false, .beat 11 false true false]] := by decide +kernel

example : bytesOf (xfers (rxWires acmCfg demoCyc).flatten) = [1, 2, 3, 4, 5] := by decide +kernel

example : (outCycles acmCfg rx4 (Full.init acmCfg) (rxHist demoCyc)).length = 228 ∧
    (inCycles acmCfg tx4 (Full.init acmCfg) {} (txHist demoCyc)).length = 108 := by decide +kernel

/-- a packet that does not fit (the FIFO holds 127 entries: two full packets do not fit) violates `CycLegal` -/
example : CycLegal acmCfg
    [cev (.token PID_OUT 0 4), cdata out4 PID_DATA0 (List.replicate 64 7) true,
     cev (.token PID_OUT 0 4), cdata out4 PID_DATA1 (List.replicate 64 7) true] = False := by
  simp only [eq_iff_iff, iff_false]; decide +kernel

end LunaVerif.C57
