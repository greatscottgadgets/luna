import LunaVerif.Model.Usb3.SSStreamIn
/-!
# C46 — SuperSpeed IN endpoints deliver data and signal readiness correctly

"For any input stream and host behaviour, a SuperSpeed IN endpoint answers an IN request with a data
packet when it holds data (NRDY otherwise), notifies the host with ERDY once data becomes available
after an NRDY, numbers packets with consecutive sequence numbers that advance only on the host's
ACK, resends the same packet when the host asks for a retry, and delivers the stream exactly once in
order with short-packet/ZLP transfer ends."

This file has the one-step and invariant theorems.  The history-level host-view theorems are
`ss_in_exactly_once` (data: delivered ++ pending = accepted from the producer, keyed on sequence numbers;
`Props/C46Once.lean`) and
`ss_in_framing` (short-packet / ZLP transfer ends: accepted packets ++ held packets = reference packetization;
`Props/C46Framing.lean`), with one invariant and one induction behind both (lemmas in
`Lemmas/C46View|C46Ghost|C46Frame|C46Step.lean`), both for
max_packet_size ≥ 8 (for max_packet_size = 4 the statement is false, see `hStale` in Props/C46Once.lean).
The model is the endpoint **as repaired** by six `fix:` commits (branch wt-ssep) and two more (branch wt-c46b:
`erdy_in_flight`, `handshakes_out.endpoint_number`), listed at the head of `Model/Usb3/SSStreamIn.lean`; the
histories on which the unrepaired code failed (end of this file; `unrepaired_loses_erdy`, Props/C46Erdy.lean) were each
replayed on the real gateware (KNOWN_FINDINGS.jsonl, C46).

* `seq_advances_only_on_ack`      the sequence number changes only by `ep_reset`, or by +1 on an ACK TP
  for this endpoint in WAIT_FOR_ACK that is not a retry and carries the next sequence number;
  `seq_advances_on_accepting_ack` is the converse (every accepting ACK advances it).
* `retry_resends_same`            a retry request re-enters SEND_PACKET at word 0 with the same buffer,
  contents, fill count and sequence number (data packet), resp. strobes the ZLP again with the same
  sequence number (ZLP).
* `nrdy_then_erdy` (history level, all input histories): from an NRDY until an ERDY request has
  completed (`send_erdy ∧ done`) the endpoint stays in WAIT_FOR_DATA / REQUEST_IN_TOKEN, so it starts no
  data packet and no ZLP in between; `nrdy_leads_to_erdy_request`: once a packet is complete in that
  situation the very next state requests the ERDY.  Here `In.done` is the completion of the ERDY requested in
  REQUEST_IN_TOKEN (`handshakes_out.done ∧ erdy_in_flight` in the gateware).  `Props/C46Erdy.lean` closes the loop with
  the transaction packet generator, whose raw `done` also reports the endpoint's own NRDY: `loop_nrdy_then_erdy`
  (until the ERDY transaction packet is handed to the header queue), `loop_erdy_within_bound` (within 2 L + 4 cycles
  when the queue stalls at most L cycles), `unrepaired_loses_erdy` (the defect repaired by `erdy_in_flight`).
* `in_request_answered`           an IN request (ACK TP with NumP ≠ 0 for this endpoint) in any state but
  REQUEST_IN_TOKEN / SEND_PACKET is answered in the same cycle by NRDY, by a ZLP, or by entering SEND_PACKET.
* `header_fields_always`          `tx_endpoint_number`, `tx_length`, `tx_sequence_number` carry the
  endpoint, the read buffer's fill count and the sequence number in force in every cycle.
* `last_word_held`                a tx word that is not taken (`tx.ready` low) is still offered unchanged
  in the next cycle.
* `ss_in_buffers_partial`         one cycle: fill counts within the packet size stay so, and in a cycle that does
  not swap the buffers the producer does not touch the buffer being transmitted (along histories the bounds are
  `Shape.fillW_le` / `fillR_le`, Lemmas/C46Ghost.lean).
* the `example`s at the end: the input histories on which the unrepaired code failed (replayed on the gateware
  as directed cases by the harness).

-/
namespace LunaVerif.SSStreamIn

theorem nrdy_next (c : Config) (s : State) (i : In) (h : (control c s i).nrdy = true) :
    ((control c s i).fsm = .waitData ∨ (control c s i).fsm = .reqIn) ∧
      (control c s i).setErdy = true ∧ (control c s i).clrErdy = false := by
  unfold control at h ⊢
  cases hf : s.fsm <;> simp only [hf] at h ⊢ <;> grind

theorem erdy_iff (c : Config) (s : State) (i : In) : (control c s i).erdy = true ↔ s.fsm = .reqIn := by
  unfold control
  cases hf : s.fsm <;> simp only [] <;> grind

/-- REQUEST_IN_TOKEN is left only by `done` (for WAIT_TO_SEND), which also clears `erdy_required`. -/
theorem reqIn_next (c : Config) (s : State) (i : In) (h : s.fsm = .reqIn) :
    (next c s i).fsm = (if i.done then .waitSend else .reqIn) ∧
      (next c s i).erdyReq = (if i.done then false else s.erdyReq) := by
  simp [next, control, h]

theorem advance_iff (c : Config) (s : State) (i : In) :
    (control c s i).advance = true ↔
      (s.fsm = .waitAck ∧ i.ack = true ∧ i.hsEp = c.ep ∧ i.retry = false ∧
        i.nextSeq = (s.seq + 1) % 32) := by
  unfold control
  cases hf : s.fsm <;> simp only [] <;> grind

/-- The sequence number changes only on `ep_reset` or on an accepting ACK TP for this endpoint
while waiting for an ACK, then by exactly one. -/
theorem seq_advances_only_on_ack (c : Config) (s : State) (i : In)
    (h : (next c s i).seq ≠ s.seq) :
    i.epReset = true ∨
      (s.fsm = .waitAck ∧ i.ack = true ∧ i.hsEp = c.ep ∧ i.retry = false ∧
        i.nextSeq = (s.seq + 1) % 32 ∧ (next c s i).seq = (s.seq + 1) % 32) := by
  cases hr : i.epReset
  · right
    have hadv : (control c s i).advance = true := by
      cases ha : (control c s i).advance
      · simp [next, hr, ha] at h
      · rfl
    have hseq : (next c s i).seq = (s.seq + 1) % 32 := by simp [next, hr, hadv]
    obtain ⟨h1, h2, h3, h4, h5⟩ := (advance_iff c s i).1 hadv
    exact ⟨h1, h2, h3, h4, h5, hseq⟩
  · left; rfl

/-- … and every accepting ACK does advance it, whatever the endpoint does next (`ep_reset` low: a reset sets the
number to 0). -/
theorem seq_advances_on_accepting_ack (c : Config) (s : State) (i : In)
    (hf : s.fsm = .waitAck) (hack : i.ack = true) (hep : i.hsEp = c.ep) (hr : i.retry = false)
    (hn : i.nextSeq = (s.seq + 1) % 32) (hreset : i.epReset = false) :
    (next c s i).seq = (s.seq + 1) % 32 := by
  have := (advance_iff c s i).2 ⟨hf, hack, hep, hr, hn⟩
  simp [next, hreset, this]

/-- The comparison is modulo 32, as the 5-bit `next_sequence_number` makes it in the gateware: with sequence number 31
in force the accepting ACK names 0, it is taken as an acknowledgement (not as a retry request) and the number wraps
to 0.  (An inlined `sequence_number + 1` is 6 bits wide in Amaranth and never equals the 5-bit field of the ACK: seeded
change C46c; the harness's wrap cases drive every kind of event across 30, 31, 0, 1.) -/
example (c : Config) (s : State) (i : In) (hs : s.seq = 31) (hf : s.fsm = .waitAck) (hack : i.ack = true)
    (hep : i.hsEp = c.ep) (hr : i.retry = false) (hn : i.nextSeq = 0) (hreset : i.epReset = false) :
    (control c s i).advance = true ∧ (next c s i).seq = 0 ∧ (out c s i).txSeq = 0 := by
  have hn' : i.nextSeq = (s.seq + 1) % 32 := by simp [hs, hn]
  have ha := (advance_iff c s i).2 ⟨hf, hack, hep, hr, hn'⟩
  have := seq_advances_on_accepting_ack c s i hf hack hep hr hn' hreset
  exact ⟨ha, by simpa [hs] using this, by simp [out, ha, hs]⟩

/-- A retry request (Retry bit, or a non-advancing sequence number) restarts the same packet:
same buffer, contents, fill count, sequence number; a data packet from word 0, a ZLP by a new strobe
announced with the same sequence number. -/
theorem retry_resends_same (c : Config) (s : State) (i : In)
    (hf : s.fsm = .waitAck) (hack : i.ack = true) (hep : i.hsEp = c.ep)
    (hretry : i.retry = true ∨ i.nextSeq ≠ (s.seq + 1) % 32) (hr : i.epReset = false) :
    (next c s i).seq = s.seq ∧ (next c s i).toggle = s.toggle ∧
      fillR (next c s i) = fillR s ∧ memR (next c s i) = memR s ∧ (out c s i).txSeq = s.seq ∧
      (if s.lpz then (out c s i).txZlp = true ∧ (next c s i).fsm = .waitAck
       else (out c s i).txZlp = false ∧ (next c s i).fsm = .send ∧ (next c s i).sendPos = 0) := by
  have hre : (i.retry || !(i.nextSeq == (s.seq + 1) % 32)) = true := by
    rcases hretry with h | h <;> simp [h]
  have hk : control c s i = if s.lpz then { fsm := .waitAck, txZlp := true, clrTx := true, raddr := 0 }
      else { fsm := .send, clrTx := true, raddr := 0 } := by
    simp [control, hf, hack, hep, hre]
  have hadv : (control c s i).advance = false := by rw [hk]; split <;> rfl
  have hflip : (control c s i).flip = false := by rw [hk]; split <;> rfl
  have hclr : (control c s i).clrFillR = false := by rw [hk]; split <;> rfl
  refine ⟨by simp [next, hadv, hr], by simp [next, hflip], ?_, ?_, by simp [out, hadv], ?_⟩
  · cases ht : s.toggle <;> simp [next, fillR, hflip, hclr, ht]
  · cases ht : s.toggle <;> simp [next, memR, hflip, ht]
  · cases hl : s.lpz <;> rw [hl] at hk <;> simp [out, next, hk]

/-! NRDY, then ERDY before any data.  `owed` is a ghost flag: set by an NRDY, cleared when an
ERDY request completes. -/

def owedNext (c : Config) (s : State) (i : In) (owed : Bool) : Bool :=
  if (out c s i).sendNrdy then true
  else if (out c s i).sendErdy && i.done then false
  else owed

/-- the endpoint starts or continues a transmission in this cycle (ZLP strobe or a word loaded) -/
def transmits (c : Config) (s : State) (i : In) : Bool :=
  (out c s i).txZlp || (control c s i).loadTx

theorem no_transmit (c : Config) (s : State) (i : In) (h : s.fsm = .waitData ∨ s.fsm = .reqIn) :
    transmits c s i = false := by
  unfold transmits out control
  rcases h with h | h <;> simp only [h] <;> grind

def OwedInv (s : State) (owed : Bool) : Prop :=
  owed = true → (s.fsm = .waitData ∨ s.fsm = .reqIn) ∧ s.erdyReq = true

theorem owed_step (c : Config) (s : State) (i : In) (owed : Bool) (h : OwedInv s owed) :
    OwedInv (next c s i) (owedNext c s i owed) := by
  intro ho
  by_cases hn : (control c s i).nrdy = true
  · -- an NRDY is sent in this cycle: the endpoint is (or goes) waiting for data and remembers it
    obtain ⟨hfsm, hset, hclr⟩ := nrdy_next c s i hn
    exact ⟨by simpa [next] using hfsm, by simp [next, hset, hclr]⟩
  · have hn' : (out c s i).sendNrdy = false := by simpa [out] using hn
    cases hf : s.fsm
    · -- WAIT_FOR_DATA
      have he' : (out c s i).sendErdy = false := by simp [out, control, hf]
      simp only [owedNext, hn', he', Bool.false_eq_true, if_false, Bool.false_and] at ho
      have hreq := (h ho).2
      refine ⟨?_, by simp [next, control, hf, hreq]⟩
      by_cases hends : ((i.sValid % 2 == 1 && (decide (fillW s + 4 ≥ c.mps) || i.sLast)) || endedW s) = true
      · right; simp [next, control, hf, hends, hreq]
      · left; simp [next, control, hf, hends]
    · -- REQUEST_IN_TOKEN
      have he' : (out c s i).sendErdy = true := by simp [out, control, hf]
      cases hd : i.done
      · simp only [owedNext, hn', he', hd, Bool.false_eq_true, if_false, Bool.and_false] at ho
        exact ⟨Or.inr (by simp [next, control, hf, hd]), by simp [next, control, hf, hd, (h ho).2]⟩
      · simp [owedNext, hn', he', hd] at ho
    all_goals
      (have he' : (out c s i).sendErdy = false := by
        cases hq : (out c s i).sendErdy
        · rfl
        · have := (erdy_iff c s i).1 (by simpa [out] using hq)
          rw [hf] at this; cases this
       simp only [owedNext, hn', he', Bool.false_eq_true, if_false, Bool.false_and] at ho
       have := (h ho).1
       rw [hf] at this
       rcases this with h1 | h1 <;> cases h1)

def runOwed (c : Config) : State → Bool → List In → State × Bool
  | s, o, [] => (s, o)
  | s, o, i :: is => runOwed c (next c s i) (owedNext c s i o) is

theorem owed_run (c : Config) (s : State) (o : Bool) (is : List In) (h : OwedInv s o) :
    OwedInv (runOwed c s o is).1 (runOwed c s o is).2 := by
  induction is generalizing s o with
  | nil => exact h
  | cons i is ih => exact ih _ _ (owed_step c s i o h)

/-- **nrdy_then_erdy** (all input histories from reset): in any cycle in which an ERDY is still owed
(an NRDY has been sent and no ERDY request has completed since), the endpoint neither strobes a ZLP
nor loads a data word — no data packet can start between an NRDY and the completed ERDY. -/
theorem nrdy_then_erdy (c : Config) (hist : List In) (i : In)
    (ho : (runOwed c (init c) false hist).2 = true) :
    transmits c (runOwed c (init c) false hist).1 i = false := by
  have hinv := owed_run c (init c) false hist (by intro h; cases h)
  exact no_transmit c _ i (hinv ho).1

/-- Once a packet is complete while an ERDY is owed, the next state requests the ERDY. -/
theorem nrdy_leads_to_erdy_request (c : Config) (s : State) (i : In)
    (hf : s.fsm = .waitData) (hreq : s.erdyReq = true)
    (hc : (i.sValid % 2 == 1 && (decide (fillW s + 4 ≥ c.mps) || i.sLast)) = true ∨ endedW s = true) :
    (next c s i).fsm = .reqIn ∧ ∀ j, (out c (next c s i) j).sendErdy = true := by
  have hends : ((i.sValid % 2 == 1 && (decide (fillW s + 4 ≥ c.mps) || i.sLast)) || endedW s) = true := by
    rcases hc with h | h <;> simp [h]
  have h1 : (next c s i).fsm = .reqIn := by simp [next, control, hf, hends, hreq]
  exact ⟨h1, fun j => by simp [out, control, h1]⟩

/-- An IN request (ACK TP with NumP ≠ 0 for this endpoint) is answered in the same cycle by NRDY, by a
ZLP, or by entering SEND_PACKET — in every state but REQUEST_IN_TOKEN and SEND_PACKET (where the host,
flow-controlled resp. being served, sends none). -/
theorem in_request_answered (c : Config) (s : State) (i : In)
    (hack : i.ack = true) (hep : i.hsEp = c.ep) (hin : i.nump ≠ 0)
    (hf : s.fsm ≠ .reqIn) (hf' : s.fsm ≠ .send) :
    (out c s i).sendNrdy = true ∨ (out c s i).txZlp = true ∨ (next c s i).fsm = .send := by
  have hnump : (i.nump != 0) = true := by simpa using hin
  cases hs : s.fsm
  · left; simp [out, control, hs, hack, hep, hnump]
  · exact absurd hs hf
  · by_cases h0 : fillR s = 0
    · right; left; simp [out, control, hs, hack, hep, hnump, h0]
    · right; right; simp [next, control, hs, hack, hep, hnump, h0]
  · exact absurd hs hf'
  · simp only [out, next, control, hs, hack, hep, hnump, beq_self_eq_true, Bool.and_self, if_true]
    grind

theorem header_fields_always (c : Config) (s : State) (i : In) :
    (out c s i).txEp = c.ep ∧ (out c s i).txLength = fillR s ∧
      (out c s i).txSeq = (if (control c s i).advance then (s.seq + 1) % 32 else s.seq) := by
  simp [out]

theorem last_word_held (c : Config) (s : State) (i : In) (hv : s.txValid ≠ 0) (hr : i.txReady = false) :
    (next c s i).txValid = s.txValid ∧ (next c s i).txData = s.txData ∧
      (next c s i).txFirst = s.txFirst ∧ (next c s i).txLast = s.txLast := by
  have hload : (control c s i).loadTx = false := by
    unfold control
    cases hf : s.fsm <;> simp only [] <;> grind
  simp [next, hload, hr]

theorem validBytes_le (v : Nat) : validBytes v ≤ 4 := by
  unfold validBytes; split <;> (try omega); split <;> (try omega); split <;> (try omega); split <;> omega

/-- One cycle keeps both fill counts within the packet size (`h0`, `h1`), and in a cycle that does not swap
the buffers the producer does not touch the buffer being transmitted: its memory is unchanged and its
fill count is unchanged or cleared (by an accepting ACK). -/
theorem ss_in_buffers_partial (c : Config) (s : State) (i : In)
    (h0 : s.fill0 ≤ c.mps) (h1 : s.fill1 ≤ c.mps) :
    (next c s i).fill0 ≤ c.mps ∧ (next c s i).fill1 ≤ c.mps ∧
      ((control c s i).flip = false →
        memR (next c s i) = memR s ∧ (fillR (next c s i) = fillR s ∨ fillR (next c s i) = 0)) := by
  have hv := validBytes_le i.sValid
  have hW : (if (i.sValid != 0 && inReady c s) = true then fillW s + validBytes i.sValid else fillW s) ≤ c.mps := by
    split
    · rename_i hw
      simp only [inReady, Bool.and_eq_true, decide_eq_true_eq] at hw
      omega
    · unfold fillW; split <;> assumption
  have hR : (if (control c s i).clrFillR = true then 0 else fillR s) ≤ c.mps := by
    split
    · omega
    · unfold fillR; split <;> assumption
  refine ⟨?_, ?_, ?_⟩
  · simp only [next]; split <;> assumption
  · simp only [next]; split <;> assumption
  · intro hflip
    cases ht : s.toggle
    · simp only [next, memR, fillR, hflip, ht, Bool.false_eq_true, if_false, Bool.and_false]
      refine ⟨trivial, ?_⟩
      split <;> simp
    · simp only [next, memR, fillR, hflip, ht, if_true, Bool.not_true, Bool.and_false,
        Bool.false_eq_true, if_false]
      refine ⟨trivial, ?_⟩
      split <;> simp

/-! ## Example vocabulary: a run function, an 8-byte configuration, input builders (the examples of
Props/C46Once, C46Framing and C46Erdy are built from them too) -/

def run (c : Config) : State → List In → State
  | s, [] => s
  | s, i :: is => run c (next c s i) is

def cfg8 : Config := ⟨8, 1, 1⟩
def idle : In := ⟨0, false, 0, true, false, 0, false, 0, 0, false, false⟩
def word (d : Nat) (last : Bool) : In := { idle with sValid := 15, sData := d, sLast := last }
def tp (retry : Bool) (nextSeq nump : Nat) : In :=
  { idle with ack := true, hsEp := 1, retry := retry, nextSeq := nextSeq, nump := nump }

/-! ## The histories on which the unrepaired endpoint failed (KNOWN_FINDINGS.jsonl, C46), on the repaired
model; the harness replays the same inputs on the real gateware as directed cases. -/

/-- two words fill an 8-byte packet, IN request, both words go out, then WAIT_FOR_ACK -/
def sentOne : List In := [word 0x11111111 false, word 0x22222222 false, tp false 0 1, idle, idle, idle]
def sentFullLast : List In := [word 0x11111111 false, word 0x22222222 true, tp false 0 1, idle, idle, idle]

example : (run cfg8 (init cfg8) sentOne).fsm = .waitAck ∧ (run cfg8 (init cfg8) sentOne).seq = 0 := by
  decide +kernel

/-- accepting ACK with nothing buffered: the sequence number advances (was: stayed 0) -/
example : (run cfg8 (init cfg8) (sentOne ++ [tp false 1 0])).fsm = .waitData ∧
    (run cfg8 (init cfg8) (sentOne ++ [tp false 1 0])).seq = 1 := by decide +kernel

/-- last word with `tx.ready` low: still offered in the next cycle (was: withdrawn) -/
example : let s5 := run cfg8 (init cfg8) (sentOne.take 5)
    s5.txValid = 15 ∧ s5.txLast = true ∧
      (next cfg8 s5 { idle with txReady := false }).txValid = 15 ∧
      (next cfg8 s5 { idle with txReady := false }).txData = 0x22222222 := by decide +kernel

/-- ZLP after a full packet that ended its transfer: announced with sequence number 1, endpoint 1 -/
example : let s := run cfg8 (init cfg8) (sentFullLast ++ [tp false 1 0])
    s.fsm = .waitSend ∧ (out cfg8 s (tp false 1 1)).txZlp = true ∧ (out cfg8 s (tp false 1 1)).txSeq = 1 ∧
      (out cfg8 s (tp false 1 1)).txEp = 1 := by decide +kernel

/-- immediate follow-up ZLP (ACK + IN): carries the advanced number; a retry keeps it -/
example : let s0 := run cfg8 (init cfg8) sentFullLast
    let s := next cfg8 s0 (tp false 1 1)
    (out cfg8 s0 (tp false 1 1)).txZlp = true ∧ (out cfg8 s0 (tp false 1 1)).txSeq = 1 ∧
      s.fsm = .waitAck ∧ s.lpz = true ∧ s.seq = 1 ∧
      (out cfg8 s (tp true 1 1)).txZlp = true ∧ (out cfg8 s (tp true 1 1)).txSeq = 1 ∧
      (next cfg8 s (tp true 1 1)).seq = 1 := by decide +kernel

/-- ACK + IN request with nothing buffered: NRDY (was: no answer) -/
example : let s := run cfg8 (init cfg8) sentOne
    (out cfg8 s (tp false 1 1)).sendNrdy = true ∧ (next cfg8 s (tp false 1 1)).erdyReq = true := by decide +kernel

/-- a one-word transfer accepted in the ACK cycle is released and announced by ERDY after the NRDY
(was: stuck for ever) -/
def releasedHist : List In :=
  sentOne ++ [{ tp false 1 0 with sValid := 15, sLast := true, sData := 0x55555555 }, idle]

example : (run cfg8 (init cfg8) releasedHist).fsm = .waitSend ∧
    fillR (run cfg8 (init cfg8) releasedHist) = 4 := by decide +kernel

end LunaVerif.SSStreamIn
