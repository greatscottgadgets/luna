import LunaVerif.Model.Phy.FsCodec
/-!
# C25 — The gateware full-speed PHY encodes and decodes USB line signalling

"Each byte sequence handed to the gateware PHY for transmission appears on D+/D- as SYNC, the
NRZI-encoded and bit-stuffed bytes (LSB first, a stuffed 0 after six 1s) and an SE0-SE0-J end of
packet, and is accepted byte-by-byte exactly once; conversely any correctly encoded full-speed packet
on D+/D- (within USB clock tolerance) is delivered as exactly its bytes with receive-active framing,
and a bit-stuffing violation is reported as an error. The PHY never drives D+/D- in the UTMI
non-driving operating mode, and its pull-up and pull-down outputs follow the termination and
pull-down requests."

Proved here (for all byte lists / all inputs): the line code is lossless (`decode_encode`), the
stuffed stream never carries seven 1s (`no_seven_ones_on_wire`), seven 1s are always reported as a
stuffing violation (`stuff_error_detected`), and the op-mode / pull-up / pull-down glue
(`never_drives_in_nondriving`, `pulls_follow_requests`).  That the cycle-level transmit chain emits
exactly `encode bytes`, accepting every byte once, is `Props/C25Tx.lean`; the glue around it in every
operating mode is `Props/C25Phy.lean`; the cycle-level receive chain is in `Props/C25Rx*.lean`.
-/
namespace LunaVerif.FsCodec

theorem unnrzi_nrzi (l : Bool) (bits : List Bool) : unnrzi l (nrzi l bits) = bits := by
  induction bits generalizing l with
  | nil => rfl
  | cons b bs ih => cases b <;> cases l <;> simp [nrzi, unnrzi, ih]

theorem unstuff_stuff (n : Nat) (hn : n ≤ 5) (bits : List Bool) : unstuff n (stuff n bits) = some bits := by
  induction bits generalizing n with
  | nil => simp [stuff, unstuff]
  | cons b bs ih =>
    cases b with
    | false =>
      have h6 : n ≠ 6 := by omega
      simp [stuff, unstuff, h6, ih 0 (by omega)]
    | true =>
      have h6 : n ≠ 6 := by omega
      by_cases h : n + 1 = 6
      · simp [stuff, unstuff, h, h6, ih 0 (by omega)]
      · simp [stuff, unstuff, h, h6, ih (n + 1) (by omega)]

theorem bitsVal_testBits (b n : Nat) : ∀ k, bitsVal ((List.range' k n).map b.testBit) = b >>> k % 2 ^ n := by
  induction n with
  | zero => intro k; simp [bitsVal, Nat.mod_one]
  | succ n ih =>
    intro k
    have h1 : (if b.testBit k then 1 else 0) = b >>> k % 2 := by
      rw [Nat.shiftRight_eq_div_pow, ← Nat.toNat_testBit]; cases b.testBit k <;> rfl
    rw [List.range'_succ, List.map_cons, bitsVal, ih, h1, Nat.shiftRight_succ, Nat.pow_succ, Nat.mul_comm (2 ^ n) 2,
      Nat.mod_mul]

theorem bitsVal_byteBits (b : Nat) (hb : b < 256) : bitsVal (byteBits b) = b := by
  rw [byteBits, List.range_eq_range', bitsVal_testBits]
  exact Nat.mod_eq_of_lt hb

theorem byteBits_eq (b : Nat) : byteBits b =
    [b.testBit 0, b.testBit 1, b.testBit 2, b.testBit 3, b.testBit 4, b.testBit 5, b.testBit 6, b.testBit 7] := by
  simp [byteBits, List.range, List.range.loop]

theorem bytesOf_bitsOf (bytes : List Nat) (h : ∀ b ∈ bytes, b < 256) : bytesOf (bitsOf bytes) = some bytes := by
  induction bytes with
  | nil => rfl
  | cons b bs ih =>
    have hb : b < 256 := h b (by simp)
    have hv := bitsVal_byteBits b hb
    rw [byteBits_eq] at hv
    simp only [bitsOf, byteBits_eq, List.cons_append, List.nil_append, bytesOf]
    rw [ih (fun x hx => h x (by simp [hx]))]
    simp only [Option.map_some]
    rw [hv]

theorem splitEop_levels (lv : List Bool) :
    splitEop (lv.map lvl ++ [.SE0, .SE0, .J]) = (lv, [.SE0, .SE0, .J]) := by
  induction lv with
  | nil => rfl
  | cons l ls ih => cases l <;> simp [lvl, splitEop, ih]

/-- **round trip** for every byte list: decoding the waveform of a packet gives back exactly its bytes. -/
theorem decode_encode (bytes : List Nat) (h : ∀ b ∈ bytes, b < 256) : decode (encode bytes) = .ok bytes := by
  simp only [decode, encode, splitEop_levels, unnrzi_nrzi]
  simp [syncBits, unstuff_stuff 1 (by omega), bytesOf_bitsOf bytes h]

theorem runOK_stuff (n : Nat) (hn : n ≤ 5) (bits : List Bool) : runOK n (stuff n bits) = true := by
  induction bits generalizing n with
  | nil => simp [stuff, runOK]
  | cons b bs ih =>
    cases b with
    | false => simp [stuff, runOK, ih 0 (by omega)]
    | true =>
      by_cases h : n + 1 = 6
      · simp [stuff, runOK, h, ih 0 (by omega)]
      · have : n + 1 ≤ 6 := by omega
        simp [stuff, runOK, h, this, ih (n + 1) (by omega)]

/-- **no seven 1s on the wire**: the bit stream of any packet — SYNC followed by the stuffed bytes —
never contains more than six consecutive 1s (= bit times without a transition after NRZI). -/
theorem no_seven_ones_on_wire (bytes : List Nat) : runOK 0 (syncBits ++ stuff 1 (bitsOf bytes)) = true := by
  simp [syncBits, runOK, runOK_stuff 1 (by omega)]

/-- **a stuffing violation is an error**: seven consecutive 1s (of which `n ≤ 6` have already been
seen) are reported as a violation, whatever follows. -/
theorem stuff_error_detected (n : Nat) (hn : n ≤ 6) (rest : List Bool) :
    unstuff n (List.replicate (7 - n) true ++ rest) = none := by
  have : n = 0 ∨ n = 1 ∨ n = 2 ∨ n = 3 ∨ n = 4 ∨ n = 5 ∨ n = 6 := by omega
  rcases this with h | h | h | h | h | h | h <;> subst h <;> simp [List.replicate, unstuff]

/-- … wherever in the stream they stand. -/
theorem unstuff_seven_ones (pre post : List Bool) : ∀ n, n ≤ 6 →
    unstuff n (pre ++ List.replicate 7 true ++ post) = none := by
  induction pre with
  | nil =>
    intro n hn
    have := stuff_error_detected n hn (List.replicate n true ++ post)
    rwa [← List.append_assoc, List.replicate_append_replicate, show 7 - n + n = 7 by omega] at this
  | cons b pre ih =>
    intro n hn
    simp only [List.cons_append, unstuff]
    by_cases h6 : n = 6
    · subst h6
      cases b
      · simpa using ih 0 (by omega)
      · simp
    · cases b
      · simpa [h6] using ih 0 (by omega)
      · simpa [h6] using ih (n + 1) (by omega)

/-- … and so is the waveform of a packet into which a seventh 1 has been put. -/
example : decode ((nrzi true (syncBits ++ List.replicate 6 true ++ [false])).map lvl ++ [.SE0, .SE0, .J])
    = .stuffError := by decide

/-- **never drives in non-driving mode** (UTMI op_mode 1, and the reserved mode 3): the output enables
are off and the transmitter is not started, whatever `tx_valid`/`tx_data` are. -/
theorem never_drives_in_nondriving (i : GlueIn) (h : i.opMode = OP_NONDRIVING ∨ i.opMode = 3) :
    (glue i).oe = false ∧ (glue i).txIOe = false := by
  rcases h with h | h <;> simp [glue, h, OP_NONDRIVING, OP_NORMAL, OP_NO_ENCODING]

/-- **pull-up / pull-down follow the requests** in every operating mode. -/
theorem pulls_follow_requests (i : GlueIn) :
    (glue i).pullup = i.termSelect ∧ (glue i).pulldown = (i.dmPulldown || i.dpPulldown) := by
  unfold glue; split <;> (try split) <;> simp

/-! Non-vacuity / sanity -/
example : encode [0xA5] = [.K, .J, .K, .J, .K, .J, .K, .K,  .K, .J, .J, .K, .J, .J, .K, .K,  .SE0, .SE0, .J] := by decide
example : (encode [0xFF, 0xFF]).length = 8 + 16 + 2 + 3 := by decide
example : decode (encode [0xFF, 0x00, 0x7E, 0xFF]) = .ok [0xFF, 0x00, 0x7E, 0xFF] := by decide

end LunaVerif.FsCodec
