import LunaVerif.Model.Usb3.DataPacketReceiver
/-!
# C40 — Each received data packet is reported good or bad exactly once

"For every data packet received, exactly one of 'packet good' or 'packet bad' is reported, once,
after its payload; 'good' is reported iff the header CRCs and the payload CRC32 are valid,
independently of idle (not-valid) words the receive path inserts, and the payload stream carries
exactly data-length bytes."

The model is the gateware after the repairs of F15, F16, F17, F15b (notes/C40.md).  A "data packet
received" is a data packet payload the receiver has started on: a DATA-type header whose CRC-5 and
CRC-16 are valid followed by DPPSTART (`startsDpp`); headers with a bad CRC are dropped silently
(they are the header receiver's business: LBAD), as the gateware's comments say.
-/
namespace LunaVerif.DataPacketReceiver

/-- The receiver is inside a data packet payload. -/
def inDpp (s : State) : Bool := s.fsm == .payload || s.fsm == .checkCrc

def verdict (o : Out) : Bool := o.good || o.bad

/-- Payload bytes delivered on `source` in one cycle (`source.valid` is a low mask of lanes). -/
def laneBytes (o : Out) : List Nat :=
  (wordBytes o.srcData).take (if o.srcValid == 15 then 4 else if o.srcValid == 7 then 3
    else if o.srcValid == 3 then 2 else if o.srcValid == 1 then 1 else 0)

/-- This cycle starts a data packet payload (CHECK_HEADER accepts the header and sees DPPSTART). -/
def startsDpp (s : State) (i : In) : Bool := !inDpp s && inDpp (step s i).1

def b2n (b : Bool) : Nat := if b then 1 else 0

/-- Outside a payload nothing is put out, and only CHECK_HEADER can start one. -/
theorem outside_dpp (s : State) (i : In) (h : inDpp s = false) :
    (step s i).2 = quiet s ∧ (s.fsm ≠ .checkHeader → inDpp (step s i).1 = false) := by
  obtain ⟨f, hd, e, r, pw, pv, c16, c32, oh, nh, fi⟩ := s
  cases f <;> simp [inDpp] at h <;> simp only [step, inDpp] <;> (repeat' split) <;> simp

/-- Inside a payload the published header is what is put out, good and bad never come together, and a verdict is the
one way out. -/
theorem inside_dpp (s : State) (i : In) (h : inDpp s = true) :
    (step s i).2.hdr = s.outHdr ∧ ((step s i).2.good && (step s i).2.bad) = false ∧
    (verdict (step s i).2 = true ↔ inDpp (step s i).1 = false) := by
  obtain ⟨f, hd, e, r, pw, pv, c16, c32, oh, nh, fi⟩ := s
  obtain ⟨v, d, c⟩ := i
  cases f <;> simp [inDpp] at h <;> cases v <;> simp [step, quiet, inDpp, verdict]
  all_goals (repeat' split) <;> simp_all

/-- Verdicts are raised only inside a payload, never both at once, and a verdict ends
the payload; the only way out of a payload is a verdict. -/
theorem step_verdict (s : State) (i : In) :
    let o := (step s i).2
    (o.good && o.bad) = false ∧
    b2n (verdict o) + b2n (inDpp (step s i).1) = b2n (inDpp s) + b2n (startsDpp s i) := by
  cases hin : inDpp s
  · simp [(outside_dpp s i hin).1, quiet, verdict, startsDpp, hin, b2n]
  · obtain ⟨-, h2, h3⟩ := inside_dpp s i hin
    refine ⟨h2, ?_⟩
    cases hv : verdict (step s i).2 <;> cases hi : inDpp (step s i).1 <;> simp_all [startsDpp, b2n]

def countVerdicts : List Out → Nat
  | [] => 0
  | o :: os => b2n (verdict o) + countVerdicts os

def countStarts : State → List In → Nat
  | _, [] => 0
  | s, i :: is => b2n (startsDpp s i) + countStarts (step s i).1 is

/-- **C40 (a).**  For every start state and every word history: the number of verdicts raised equals
the number of data packet payloads started (plus one if the history began inside a payload, minus
one if it ends inside one).  With `step_verdict` (never good and bad together; a verdict leaves the
payload): every payload started gets exactly one verdict, and nothing else does. -/
theorem exactly_one_verdict_per_packet (s : State) (h : List In) :
    countVerdicts (run s h) + b2n (inDpp (final s h)) = b2n (inDpp s) + countStarts s h := by
  induction h generalizing s with
  | nil => simp [run, final, countVerdicts, countStarts]
  | cons i is ih =>
    have h1 := (step_verdict s i).2
    have h2 := ih (step s i).1
    simp only [run, final, countVerdicts, countStarts] at *
    omega

theorem exactly_one_verdict_per_packet_from_reset (h : List In) :
    countVerdicts (run init h) + b2n (inDpp (final init h)) = countStarts init h := by
  have := exactly_one_verdict_per_packet init h
  simpa [inDpp, init, b2n] using this

/-- A payload is only started from CHECK_HEADER with `expected_crc5` equal to DWORD 3's CRC-5 field and the
CRC-16 unit's output equal to its CRC-16 field, on a valid DPPSTART word (that the header is of type DATA and
the two values are the CRCs of its own words is `check_header_units` in `Lemmas/C40Header.lean`); the header is
published and the byte counter loaded with the length field.  It leads to RECEIVE_PAYLOAD for a non-zero length
field, and for zero straight to CHECK_CRC32, armed for a whole CRC word (F17 repaired). -/
theorem dpp_start_requires_header_crcs (s : State) (i : In) (h : startsDpp s i = true) :
    s.fsm = .checkHeader ∧ s.expCrc5 = s.hdr.dw3 / 2 ^ 27 ∧ crc16Of s.crc16In = s.hdr.dw3 % 2 ^ 16 ∧
    i.valid = true ∧ i.data % 2 ^ 32 = DPPSTART ∧ i.ctrl % 16 = 0xF ∧
    (step s i).1.outHdr = s.hdr ∧ (step s i).1.remaining = s.hdr.dw1 / 2 ^ 16 % 2 ^ 11 ∧
    (step s i).1.crc32In = s.crc32In ∧
    (step s i).1.fsm = (if s.hdr.dw1 / 2 ^ 16 % 2 ^ 11 = 0 then .checkCrc else .payload) ∧
    (s.hdr.dw1 / 2 ^ 16 % 2 ^ 11 = 0 → (step s i).1.prevValid = 15) := by
  simp only [startsDpp, Bool.and_eq_true, Bool.not_eq_true'] at h
  have hf : s.fsm = .checkHeader := Decidable.by_contra fun hf => by
    rw [(outside_dpp s i h.1).2 hf] at h; exact Bool.false_ne_true h.2
  obtain ⟨f, hd, e, r, pw, pv, c16, c32, oh, nh, fi⟩ := s
  obtain ⟨v, d, c⟩ := i
  subst hf
  replace h := h.2
  simp only [step, inDpp] at h ⊢
  (repeat' split at h) <;> simp_all

/-- In CHECK_CRC32 a valid word yields the verdict: good iff the assembled CRC field equals the
CRC-32 of the bytes the CRC unit absorbed; an invalid word yields nothing and changes nothing
(F16 repaired). -/
theorem check_crc_verdict (s : State) (hs : s.fsm = .checkCrc) (i : In) :
    let o := (step s i).2
    (i.valid = true → o.good = (dataToCheck s.prevValid s.prevWord (i.data % 2 ^ 32) == crc32Of s.crc32In) ∧
        o.bad = !o.good ∧ (step s i).1.fsm = .waitHp) ∧
    (i.valid = false → o.good = false ∧ o.bad = false ∧ (step s i).1 = s) ∧ laneBytes o = [] := by
  obtain ⟨v, d, c⟩ := i
  cases v <;> simp [step, hs, quiet, laneBytes, wordBytes]

/-- little-endian value of a byte list -/
def leNat : List Nat → Nat
  | [] => 0
  | b :: bs => b + 256 * leNat bs

/-- The value compared with the CRC-32 is made of the 4 bytes that immediately follow the `k`
payload bytes of the last payload word: the rest of that word, then the beginning of the next. -/
theorem crc_field_assembly (prev cur : Nat) (hp : prev < 2 ^ 32) (hc : cur < 2 ^ 32) :
    dataToCheck 0b1111 prev cur = leNat ((wordBytes cur).take 4) ∧
    dataToCheck 0b0111 prev cur = leNat (((wordBytes prev).drop 3 ++ wordBytes cur).take 4) ∧
    dataToCheck 0b0011 prev cur = leNat (((wordBytes prev).drop 2 ++ wordBytes cur).take 4) ∧
    dataToCheck 0b0001 prev cur = leNat (((wordBytes prev).drop 1 ++ wordBytes cur).take 4) := by
  simp [dataToCheck, wordBytes, leNat]
  omega

theorem payload_word_full (s : State) (hs : s.fsm = .payload) (d : Nat) (hd : d < 2 ^ 32) (hr : 4 < s.remaining) :
    laneBytes (step s ⟨true, d, 0⟩).2 = wordBytes d ∧ verdict (step s ⟨true, d, 0⟩).2 = false ∧
    (step s ⟨true, d, 0⟩).1.crc32In = s.crc32In ++ wordBytes d ∧ (step s ⟨true, d, 0⟩).1.fsm = .payload ∧
    (step s ⟨true, d, 0⟩).1.remaining = s.remaining - 4 := by
  have hk : min s.remaining 4 = 4 := by omega
  have hnb : ¬ s.remaining ≤ 4 := by omega
  simp [step, hs, laneBytes, verdict, Nat.mod_eq_of_lt hd, hk, hr, hnb, wordBytes]

/-- The last payload word: the receiver moves on to the CRC check remembering the word and how many of its lanes were
payload (`previous_word`, `previous_valid`, the inputs of `data_to_check`). -/
theorem payload_word_last (s : State) (hs : s.fsm = .payload) (d : Nat) (hd : d < 2 ^ 32) (h1 : 1 ≤ s.remaining)
    (hr : s.remaining ≤ 4) :
    laneBytes (step s ⟨true, d, 0⟩).2 = (wordBytes d).take s.remaining ∧ verdict (step s ⟨true, d, 0⟩).2 = false ∧
    (step s ⟨true, d, 0⟩).1.crc32In = s.crc32In ++ (wordBytes d).take s.remaining ∧
    (step s ⟨true, d, 0⟩).1.fsm = .checkCrc ∧ (step s ⟨true, d, 0⟩).1.prevWord = d ∧
    (step s ⟨true, d, 0⟩).1.prevValid = 2 ^ s.remaining - 1 := by
  obtain ⟨f, hh, e, r, pw, pv, c16, c32, oh, nh, fi⟩ := s
  subst hs
  have : r = 1 ∨ r = 2 ∨ r = 3 ∨ r = 4 := by simp only at h1 hr; omega
  rcases this with h | h | h | h <;> subst h <;> simp [step, laneBytes, verdict, Nat.mod_eq_of_lt hd]

/-- Payload words as receiver inputs: all valid, no control symbols. -/
def payloadIns (ws : List Nat) : List In := ws.map fun d => ⟨true, d, 0⟩

def allLaneBytes : List Out → List Nat
  | [] => []
  | o :: os => laneBytes o ++ allLaneBytes os

/-- **C40 (c).**  From a payload state with `r ≥ 1` bytes remaining, the ⌈r/4⌉ payload words deliver
exactly the first `r` bytes of those words on `source` — no more, no fewer —, the CRC unit absorbs
exactly the same bytes, no verdict is raised meanwhile, and the receiver is then in CHECK_CRC32. -/
theorem payload_len_exact (ws : List Nat) (s : State) (hs : s.fsm = .payload)
    (hw : ∀ w ∈ ws, w < 2 ^ 32) (hr : 1 ≤ s.remaining) (hn : ws.length = (s.remaining + 3) / 4) :
    allLaneBytes (run s (payloadIns ws)) = (ws.flatMap wordBytes).take s.remaining ∧
    (final s (payloadIns ws)).crc32In = s.crc32In ++ (ws.flatMap wordBytes).take s.remaining ∧
    (final s (payloadIns ws)).fsm = .checkCrc ∧ countVerdicts (run s (payloadIns ws)) = 0 := by
  induction ws generalizing s with
  | nil => simp at hn; omega
  | cons w ws ih =>
    have hw0 : w < 2 ^ 32 := hw w List.mem_cons_self
    have hlen : (wordBytes w).length = 4 := rfl
    simp only [payloadIns, List.map_cons, run, final, allLaneBytes, countVerdicts, List.flatMap_cons, List.take_append,
      hlen]
    by_cases hbig : 4 < s.remaining
    · obtain ⟨p1, p2, p3, q1, q2⟩ := payload_word_full s hs w hw0 hbig
      obtain ⟨i1, i2, i3, i4⟩ := ih (step s ⟨true, w, 0⟩).1 q1 (fun x hx => hw x (List.mem_cons_of_mem _ hx))
        (by rw [q2]; omega) (by rw [q2]; simp at hn; omega)
      rw [q2] at i1 i2
      rw [p1, p2, List.take_of_length_le (by rw [hlen]; omega)]
      exact ⟨by rw [← i1]; rfl, by rw [← List.append_assoc, ← p3, ← i2]; rfl, i3, by simpa [b2n, payloadIns] using i4⟩
    · obtain rfl : ws = [] := List.length_eq_zero_iff.mp (by simp at hn; omega)
      obtain ⟨p1, p2, p3, q1, _, _⟩ := payload_word_last s hs w hw0 hr (by omega)
      simp [run, final, allLaneBytes, countVerdicts, p1, p2, p3, q1, b2n]

/-- First verdict of a payload and the bytes delivered up to it. -/
def firstVerdict : State → List In → List Nat → Option (Bool × List Nat)
  | _, [], _ => none
  | s, i :: is, acc =>
    let o := (step s i).2
    if o.good then some (true, acc ++ laneBytes o)
    else if o.bad then some (false, acc ++ laneBytes o)
    else firstVerdict (step s i).1 is (acc ++ laneBytes o)

def validOnly (h : List In) : List In := h.filter (·.valid)

theorem step_invalid (s : State) (d c : Nat) :
    (step s ⟨false, d, c⟩).1 = s ∨ (step s ⟨false, d, c⟩).1.fsm = .waitHp := by
  obtain ⟨f, hd, e, r, pw, pv, c16, c32, oh, nh, fi⟩ := s
  cases f <;> simp [step]
  split <;> simp

theorem invalid_word_stutters (s : State) (hs : inDpp s = true) (d c : Nat) :
    (step s ⟨false, d, c⟩).1 = s ∧ laneBytes (step s ⟨false, d, c⟩).2 = [] ∧
      (step s ⟨false, d, c⟩).2.good = false ∧ (step s ⟨false, d, c⟩).2.bad = false := by
  obtain ⟨f, hh, e, r, pw, pv, c16, c32, oh, nh, fi⟩ := s
  cases f <;> simp [inDpp] at hs <;> simp [step, quiet, laneBytes]

theorem stays_in_dpp (s : State) (hs : inDpp s = true) (i : In)
    (hg : (step s i).2.good = false) (hb : (step s i).2.bad = false) : inDpp (step s i).1 = true := by
  cases hI : inDpp (step s i).1
  · have := (inside_dpp s i hs).2.2.mpr hI
    simp [verdict, hg, hb] at this
  · rfl

/-- **C40 (d).**  From any state inside a payload and for any history: the verdict of that payload
and the payload bytes delivered before it are the same as for the history with all its invalid
words removed — invalid words, wherever they are inserted, change neither. -/
theorem independent_of_invalid_words (s : State) (hs : inDpp s = true) (h : List In) (acc : List Nat) :
    firstVerdict s h acc = firstVerdict s (validOnly h) acc := by
  induction h generalizing s acc with
  | nil => rfl
  | cons i is ih =>
    obtain ⟨v, d, c⟩ := i
    cases v
    · have ⟨e1, e2, e3, e4⟩ := invalid_word_stutters s hs d c
      have hv : validOnly (⟨false, d, c⟩ :: is) = validOnly is := by simp [validOnly]
      rw [hv, firstVerdict]
      simp only [e1, e2, e3, e4, List.append_nil]
      exact ih s hs acc
    · have hv : validOnly (⟨true, d, c⟩ :: is) = ⟨true, d, c⟩ :: validOnly is := by simp [validOnly]
      rw [hv, firstVerdict, firstVerdict]
      cases hg : (step s ⟨true, d, c⟩).2.good
      · cases hb : (step s ⟨true, d, c⟩).2.bad
        · simp only [Bool.false_eq_true, if_false]
          exact ih _ (stays_in_dpp s hs _ hg hb) _
        · simp
      · simp

/-- **C40 (b).**  A whole data packet payload with arbitrary invalid words interleaved.  From a payload state with
`r ≥ 1` bytes remaining and a freshly cleared CRC unit, take any history whose valid words are the ⌈r/4⌉ payload
words, each without a control symbol in any of its four lanes (`payloadIns`: `ctrl = 0`, also in the lanes of the last
word past the payload), followed by one valid word `crcw`.  Its first verdict (`firstVerdict`; that a payload gets no
second one is `exactly_one_verdict_per_packet`) comes after exactly the `r` payload bytes have been delivered, and it is
good iff the value `data_to_check` assembles from `crcw` and the registers `previous_valid` / `previous_word` as the
payload words left them equals the CRC-32 of those `r` bytes.  Only the CRC-32 is concerned; the header CRCs were the
precondition for starting (`dpp_start_requires_header_crcs`).  `crc_field_assembly` says which bytes `data_to_check`
takes for each value of `previous_valid`; what the two registers hold after the payload words is not evaluated here. -/
theorem good_iff_crcs_valid (ws : List Nat) (crcw cc : Nat) (s : State) (hs : s.fsm = .payload)
    (hfresh : s.crc32In = []) (hw : ∀ w ∈ ws, w < 2 ^ 32) (hr : 1 ≤ s.remaining)
    (hn : ws.length = (s.remaining + 3) / 4) (h : List In)
    (hh : validOnly h = payloadIns ws ++ [⟨true, crcw, cc⟩]) :
    let payload := (ws.flatMap wordBytes).take s.remaining
    let st := final s (payloadIns ws)
    firstVerdict s h [] =
      some (dataToCheck st.prevValid st.prevWord (crcw % 2 ^ 32) == crc32Of payload, payload) := by
  have hin : inDpp s = true := by simp [inDpp, hs]
  rw [independent_of_invalid_words s hin h [], hh]
  have ⟨l1, l2, l3, l4⟩ := payload_len_exact ws s hs hw hr hn
  have key : ∀ (xs : List In) (t : State) (acc : List Nat) (rest : List In),
      countVerdicts (run t xs) = 0 →
      firstVerdict t (xs ++ rest) acc = firstVerdict (final t xs) rest (acc ++ allLaneBytes (run t xs)) := by
    intro xs
    induction xs with
    | nil => intro t acc rest _; simp [run, final, allLaneBytes]
    | cons x xs ihx =>
      intro t acc rest hc
      simp only [run, countVerdicts, verdict, b2n] at hc
      have hg : (step t x).2.good = false := by
        cases hgg : (step t x).2.good <;> simp_all
      have hb : (step t x).2.bad = false := by
        cases hbb : (step t x).2.bad <;> simp_all
      have hrest : countVerdicts (run (step t x).1 xs) = 0 := by
        simp [hg, hb] at hc; exact hc
      simp only [List.cons_append, firstVerdict, hg, hb, Bool.false_eq_true, if_false, run, final,
        allLaneBytes]
      rw [ihx _ _ _ hrest, List.append_assoc]
  rw [key _ _ _ _ l4, l1]
  have hc := (check_crc_verdict (final s (payloadIns ws)) l3 ⟨true, crcw, cc⟩).1 rfl
  have hlane := (check_crc_verdict (final s (payloadIns ws)) l3 ⟨true, crcw, cc⟩).2.2
  simp only [firstVerdict, List.nil_append]
  rw [hlane, l2, hfresh] at *
  simp only [List.nil_append, List.append_nil] at *
  cases hgood : (step (final s (payloadIns ws)) ⟨true, crcw, cc⟩).2.good
  · have hbad : (step (final s (payloadIns ws)) ⟨true, crcw, cc⟩).2.bad = true := by
      rw [hc.2.1, hgood]; rfl
    simp [hbad, ← hc.1, hgood]
  · simp [← hc.1, hgood]

end LunaVerif.DataPacketReceiver
