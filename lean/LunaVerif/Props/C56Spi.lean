import LunaVerif.Props.C56
import LunaVerif.Props.C50
import LunaVerif.Model.Periph.IlaSpi
/-!
# C56 — read-out of the captured samples through `SyncSerialILA` (SPI)

The wrapper = core analyzer + C50's `SPIDeviceInterface` + a sample counter that is registered into the core's read
address, whose read port is registered again.  The theorem here is about that address pipeline: the word the SPI
interface loads into its transmit register for word `k` of a chip-select window is recorded sample `k`
(`spi_readout_words`), because between two word boundaries the bit counter has to count `bits_per_word ≥ 4` sample
edges, one per cycle at most, which leaves the three cycles the pipeline needs (`WinInv`, `win_step`).
Environment (the monitor's "judged window" conditions): no trigger from the end of the capture to the end of the
window, chip select low for at least four cycles before the window.  The serialisation of the transmit register onto
`sdo` is C50's theorem about the same `SpiDevice.step` function.

`window_run` follows a stretch of a window by one induction: the words latched are the samples in order, and, with the position
`track` computes along the run (words completed, output edges since the last word boundary), the transmit register and `sdo` are
the current sample shifted that often (`BitInv`); the bit-level statements read off it are in `Props/C56SpiBits.lean`.  All of
it is proved from any state in which the analyzer holds a completed buffer (`Holds`), which every capture establishes.
-/
namespace LunaVerif.IlaSpi
open LunaVerif.Ila

/-- the completing sample edge: the SPI interface latches `word_out` for the next word in this cycle -/
def completing (c : SpiDevice.Config) (s : SpiDevice.State) (i : SpiDevice.In) : Bool :=
  SpiDevice.selected c i && SpiDevice.sampleEdge c s.pastClk i && (s.bitCount + 1 == c.w)

/-- width modulus of `current_sample_number` -/
def wd (c : Config) : Nat := 2 ^ rangeWidth c.ila.depth

/-- The word index shown, `j` cycles after word boundary `K`, by a register `d` stages behind the sample counter: each register
shows what the one before it showed a cycle ago (`lag_succ`), and once `d < j` it has settled on `K + 1` (`lag_settled`). -/
def lag (K j d : Nat) : Nat := if j ≤ d then K else K + 1

theorem lag_succ (K j d : Nat) : lag K (j + 1) (d + 1) = lag K j d := by simp [lag]

theorem lag_settled (K : Nat) {j d : Nat} (h : d < j) : lag K j d = K + 1 := by simp [lag]; omega

/-- The wrapper inside a chip-select window with the analyzer at rest (memory `M`): `K` words have been completed,
`j` cycles ago (for `K = 0`: the window started `j` cycles ago).  The sample counter, the registered read address and
the read-port register follow one another by one cycle each; the SPI bit counter cannot have advanced more than
`j` bits. -/
structure WinInv (c : Config) (M : List Nat) (K j : Nat) (s : State) : Prop where
  core : Rests M s.core
  bc   : s.spi.bitCount ≤ j
  csn  : s.csn = lag K j 0 % wd c
  addr : s.rdaddr = lag K j 1 % wd c
  rd   : s.core.rdata = memRead M (lag K j 2 % wd c)
  pcs  : s.pastCs = !(decide (K = 0 ∧ j = 0))
  wa   : s.spi.wordAccepted = decide (1 ≤ K ∧ j = 0)

theorem step_proj (c : Config) (s : State) (i : In) :
    (step c s i).1.core = (Ila.step c.ila s.core ⟨i.trigger, i.inputs, s.rdaddr⟩).1 ∧
    (step c s i).1.spi = (SpiDevice.step c.spi s.spi (spiIn c s i)).1 ∧
    (step c s i).1.pastCs = i.cs ∧
    (step c s i).1.rdaddr = s.csn ∧
    (step c s i).1.csn = (if i.cs then
      (if !s.pastCs then 1 % wd c else if s.spi.wordAccepted then (s.csn + 1) % wd c else s.csn) else 0) := by
  simp [step, wd, show (SpiDevice.step c.spi s.spi (spiIn c s i)).2.wordAccepted = s.spi.wordAccepted from rfl]

/-- "Quiet" in the names below: a cycle without a trigger (`NoTrig` for a run).  The core at rest with buffer `M` stays so,
reads the memory at the registered address and keeps `complete`. -/
theorem core_quiet (c : Config) (M : List Nat) (s : State) (i : In) (h : Rests M s.core) (htr : i.trigger = false) :
    Rests M (step c s i).1.core ∧ (step c s i).1.core.rdata = memRead M s.rdaddr ∧
    (step c s i).1.core.complete = s.core.complete := by
  rw [(step_proj c s i).1, htr]
  exact h.cycle c.ila i.inputs s.rdaddr

theorem win_spi (c : Config) (hcs : c.spi.csIdlesHigh = false) (s : State) (x : In) (hx : x.cs = true) :
    completing c.spi s.spi (spiIn c s x) =
      (SpiDevice.sampleEdge c.spi s.spi.pastClk (spiIn c s x) && (s.spi.bitCount + 1 == c.spi.w)) ∧
    (step c s x).1.spi.pastClk = (x.sck != c.spi.pol) ∧
    (step c s x).1.spi.bitCount =
      (if completing c.spi s.spi (spiIn c s x) then 0
       else if SpiDevice.sampleEdge c.spi s.spi.pastClk (spiIn c s x) then (s.spi.bitCount + 1) % 2 ^ SpiDevice.bcWidth c.spi.w
       else s.spi.bitCount) ∧
    (step c s x).1.spi.wordAccepted = completing c.spi s.spi (spiIn c s x) ∧
    (step c s x).1.spi.tx =
      (if completing c.spi s.spi (spiIn c s x) then wordOut c s
       else if SpiDevice.outputEdge c.spi s.spi.pastClk (spiIn c s x) then SpiDevice.shiftTx c.spi s.spi.tx else s.spi.tx) ∧
    (step c s x).1.spi.sdo =
      (if SpiDevice.outputEdge c.spi s.spi.pastClk (spiIn c s x) then SpiDevice.shiftOutBit c.spi s.spi.tx else s.spi.sdo) := by
  have hsel : SpiDevice.selected c.spi (spiIn c s x) = true := by simp [SpiDevice.selected, spiIn, hcs, hx]
  have hex := SpiDevice.edges_exclusive c.spi s.spi.pastClk (spiIn c s x)
  rw [(step_proj c s x).2.1, SpiDevice.step_selected c.spi s.spi (spiIn c s x) hsel]
  cases hs : SpiDevice.sampleEdge c.spi s.spi.pastClk (spiIn c s x) <;>
    cases hc : (s.spi.bitCount + 1 == c.spi.w) <;>
    simp [completing, hsel, hs, hc, hex, SpiDevice.serialClock, show (spiIn c s x).sck = x.sck from rfl,
      show (spiIn c s x).wordOut = wordOut c s from rfl]

theorem win_step (c : Config) (hw : 4 ≤ c.spi.w) (hcs : c.spi.csIdlesHigh = false) (M : List Nat) (K j : Nat)
    (s : State) (h : WinInv c M K j s) (i : In) (hsel : i.cs = true) (htr : i.trigger = false) :
    (completing c.spi s.spi (spiIn c s i) = true →
      wordOut c s = SpiDevice.natToBits c.spi.w (memRead M ((K + 1) % wd c)) ∧
      (step c s i).1.spi.tx = SpiDevice.natToBits c.spi.w (memRead M ((K + 1) % wd c)) ∧
      WinInv c M (K + 1) 0 (step c s i).1) ∧
    (completing c.spi s.spi (spiIn c s i) = false → WinInv c M K (j + 1) (step c s i).1) := by
  obtain ⟨_, _, p3, p4, p5⟩ := step_proj c s i
  obtain ⟨_, _, q1, q2, q3, _⟩ := win_spi c hcs s i hsel
  obtain ⟨r1, r4, _⟩ := core_quiet c M s i h.core htr
  rw [hsel] at p3 p5
  simp only [if_true] at p5
  have hmodle : (s.spi.bitCount + 1) % 2 ^ SpiDevice.bcWidth c.spi.w ≤ s.spi.bitCount + 1 := Nat.mod_le _ _
  have hb := h.bc
  constructor
  · intro hc
    have hcw : s.spi.bitCount + 1 = c.spi.w := by
      have hc' := hc
      simp only [completing, Bool.and_eq_true, beq_iff_eq] at hc'
      exact hc'.2
    -- the previous boundary lies `bits_per_word - 1 ≥ 3` cycles back: the address pipeline has settled on sample `K + 1`
    have hj3 : 3 ≤ j := by omega
    have hrd : s.core.rdata = memRead M ((K + 1) % wd c) := by
      rw [h.rd, lag_settled K (by omega)]
    have hwo : wordOut c s = SpiDevice.natToBits c.spi.w (memRead M ((K + 1) % wd c)) := by
      simp [wordOut, hrd]
    refine ⟨hwo, ?_, ?_⟩
    · rw [q3, hc, if_pos rfl]; exact hwo
    · have hpcs : s.pastCs = true := by rw [h.pcs]; simp; omega
      have hwa : s.spi.wordAccepted = false := by rw [h.wa]; simp; omega
      have hcsn : s.csn = (K + 1) % wd c := by rw [h.csn, lag_settled K (by omega)]
      have haddr : s.rdaddr = (K + 1) % wd c := by rw [h.addr, lag_settled K (by omega)]
      constructor
      · exact r1
      · rw [q1, hc]; simp
      · rw [p5, hpcs, hwa]; simp [hcsn, lag]
      · rw [p4, hcsn]; simp [lag]
      · rw [r4, haddr]; simp [lag]
      · rw [p3]; simp
      · rw [q2, hc]; simp
  · intro hc
    constructor
    · exact r1
    · rw [q1, hc]
      simp only [Bool.false_eq_true, if_false]
      split <;> omega
    · rw [p5, h.pcs, h.wa, h.csn]
      rcases Nat.eq_zero_or_pos j with hj | hj
      · subst hj
        rcases Nat.eq_zero_or_pos K with hK | hK
        · subst hK; simp [lag]
        · have : ¬ K = 0 := by omega
          simp [this, Nat.mod_add_mod, lag]
      · have : ¬ j = 0 := by omega
        simp [this, lag]
    · rw [p4, h.csn, lag_succ]
    · rw [r4, h.addr, lag_succ]
    · rw [p3]; simp
    · rw [q2, hc]; simp

/-- the words loaded into the SPI transmit register by completing sample edges during a history -/
def latchedWords (c : Config) : State → List In → List (List Bool)
  | _, [] => []
  | s, x :: xs =>
    (if completing c.spi s.spi (spiIn c s x) then [wordOut c s] else []) ++ latchedWords c (step c s x).1 xs

def InWindow (xs : List In) : Prop := ∀ x ∈ xs, x.cs = true ∧ x.trigger = false

def AtRest (xs : List In) : Prop := ∀ x ∈ xs, x.cs = false ∧ x.trigger = false

def sampleWord (c : Config) (M : List Nat) (q : Nat) : List Bool :=
  SpiDevice.natToBits c.spi.w (memRead M (q % wd c))

theorem sampleWord_lt (c : Config) (M : List Nat) (hm : M.length = c.ila.depth) (q : Nat) (hq : q < c.ila.depth) :
    sampleWord c M q = SpiDevice.natToBits c.spi.w (M[q]'(by omega)) := by
  have hP := le_two_pow_rangeWidth c.ila.depth
  have : q % wd c = q := Nat.mod_eq_of_lt (by unfold wd; omega)
  simp [sampleWord, this, memRead, List.getElem?_eq_getElem (show q < M.length by omega)]

/-- position in the read-out: (words completed in the window, output edges since the last word boundary) -/
def track (c : Config) : Nat × Nat → State → List In → Nat × Nat
  | p, _, [] => p
  | p, s, x :: xs =>
    track c (if completing c.spi s.spi (spiIn c s x) then (p.1 + 1, 0)
             else if SpiDevice.outputEdge c.spi s.spi.pastClk (spiIn c s x) then (p.1, p.2 + 1) else p)
      (step c s x).1 xs

structure BitInv (c : Config) (M : List Nat) (K n : Nat) (s : State) : Prop where
  tx  : s.spi.tx = SpiDevice.iter (SpiDevice.shiftTx c.spi) n (sampleWord c M K)
  sdo : 1 ≤ n → s.spi.sdo =
    SpiDevice.shiftOutBit c.spi (SpiDevice.iter (SpiDevice.shiftTx c.spi) (n - 1) (sampleWord c M K))

theorem window_run (c : Config) (hw : 4 ≤ c.spi.w) (hcs : c.spi.csIdlesHigh = false) (M : List Nat) (xs : List In) :
    ∀ (K j n : Nat) (s : State), WinInv c M K j s → BitInv c M K n s → InWindow xs →
      ∃ m j', (track c (K, n) s xs).1 = K + m ∧ latchedWords c s xs = (List.range' (K + 1) m).map (sampleWord c M) ∧
        WinInv c M (K + m) j' (runState c s xs) ∧ BitInv c M (K + m) (track c (K, n) s xs).2 (runState c s xs) := by
  induction xs with
  | nil => intro K j n s h hb _; exact ⟨0, j, rfl, rfl, h, hb⟩
  | cons x xs ih =>
    intro K j n s h hb hin
    have hx := hin x (by simp)
    have hrest : InWindow xs := fun y hy => hin y (by simp [hy])
    obtain ⟨hT, hF⟩ := win_step c hw hcs M K j s h x hx.1 hx.2
    obtain ⟨_, _, _, _, t1, t2⟩ := win_spi c hcs s x hx.1
    simp only [track, runState, latchedWords]
    cases hc : completing c.spi s.spi (spiIn c s x)
    · have hinv := hF hc
      simp only [Bool.false_eq_true, if_false, List.nil_append]
      cases ho : SpiDevice.outputEdge c.spi s.spi.pastClk (spiIn c s x)
      · simp only [hc, ho, Bool.false_eq_true, if_false] at t1 t2 ⊢
        exact ih K (j + 1) n _ hinv ⟨by rw [t1]; exact hb.tx, fun h1 => by rw [t2]; exact hb.sdo h1⟩ hrest
      · simp only [hc, ho, if_true, Bool.false_eq_true, if_false] at t1 t2 ⊢
        refine ih K (j + 1) (n + 1) _ hinv ⟨?_, fun _ => ?_⟩ hrest
        · rw [t1, hb.tx]; rfl
        · rw [t2, hb.tx]; rfl
    · obtain ⟨hwo, htx, hinv⟩ := hT hc
      simp only [if_true]
      obtain ⟨m, j', e1, e2, e3, e4⟩ := ih (K + 1) 0 0 _ hinv ⟨by rw [htx]; rfl, fun h1 => absurd h1 (by omega)⟩ hrest
      refine ⟨m + 1, j', by rw [e1]; omega, ?_, by rw [← Nat.add_assoc, Nat.add_right_comm]; exact e3,
        by rw [← Nat.add_assoc, Nat.add_right_comm]; exact e4⟩
      rw [e2, hwo, List.range'_succ]; rfl

theorem rest_step (c : Config) (hcs : c.spi.csIdlesHigh = false) (M : List Nat) (s : State)
    (h : Rests M s.core) (i : In) (hsel : i.cs = false) (htr : i.trigger = false) :
    Rests M (step c s i).1.core ∧ (step c s i).1.core.complete = s.core.complete ∧
    (step c s i).1.core.rdata = memRead M s.rdaddr ∧ (step c s i).1.rdaddr = s.csn ∧ (step c s i).1.csn = 0 ∧
    (step c s i).1.pastCs = false ∧ (step c s i).1.spi.bitCount = 0 ∧ (step c s i).1.spi.wordAccepted = false ∧
    (step c s i).1.spi.tx = SpiDevice.natToBits c.spi.w s.core.rdata := by
  obtain ⟨_, p2, p3, p4, p5⟩ := step_proj c s i
  have hselS : SpiDevice.selected c.spi (spiIn c s i) = false := by simp [SpiDevice.selected, spiIn, hcs, hsel]
  obtain ⟨r1, r4, r5⟩ := core_quiet c M s i h htr
  rw [SpiDevice.step_unselected c.spi s.spi (spiIn c s i) hselS] at p2
  exact ⟨r1, r5, r4, p4, by rw [p5, hsel]; simp, by rw [p3, hsel], by rw [p2], by rw [p2], by rw [p2]; rfl⟩

/-- four cycles, one per stage: chip select low clears `current_sample_number`; the registered read address, the read-port
register and the transmit register (reloaded from `word_out` in every unselected cycle) follow, so sample 0 is in the last -/
theorem window_start (c : Config) (hcs : c.spi.csIdlesHigh = false) (M : List Nat) (s : State)
    (h : Rests M s.core) (g1 g2 g3 g4 : In) (hr : AtRest [g1, g2, g3, g4]) :
    WinInv c M 0 0 (runState c s [g1, g2, g3, g4]) ∧ BitInv c M 0 0 (runState c s [g1, g2, g3, g4]) ∧
    (runState c s [g1, g2, g3, g4]).core.complete = s.core.complete := by
  have h1 := hr g1 (by simp); have h2 := hr g2 (by simp); have h3 := hr g3 (by simp); have h4 := hr g4 (by simp)
  obtain ⟨a1, a4, _, _, a7, _⟩ := rest_step c hcs M s h g1 h1.1 h1.2
  obtain ⟨b1, b4, _, b6, b7, _⟩ := rest_step c hcs M _ a1 g2 h2.1 h2.2
  obtain ⟨c1, c4, c5, c6, c7, _⟩ := rest_step c hcs M _ b1 g3 h3.1 h3.2
  obtain ⟨d1, d4, d5, d6, d7, d8, d9, d10, d11⟩ := rest_step c hcs M _ c1 g4 h4.1 h4.2
  simp only [runState]
  rw [a7] at b6
  rw [b6] at c5
  rw [b7] at c6
  rw [c6] at d5
  rw [c7] at d6
  rw [c5] at d11
  have hz : 0 % wd c = 0 := Nat.zero_mod _
  refine ⟨⟨d1, by rw [d9]; exact Nat.le_refl 0, by simp [d7, lag], by simp [d6, lag], by simp [d5, lag], by simp [d8], by simp [d10]⟩, ⟨?_, nofun⟩, ?_⟩
  · rw [d11]; simp [sampleWord, SpiDevice.iter]
  · rw [d4, c4, b4, a4]

/-! ## the core inside the wrapper, through its input history `coreHist` -/

def coreHist (c : Config) : State → List In → List Ila.In
  | _, [] => []
  | s, x :: xs => ⟨x.trigger, x.inputs, s.rdaddr⟩ :: coreHist c (step c s x).1 xs

theorem core_run (c : Config) (xs : List In) : ∀ s : State,
    (runState c s xs).core = Ila.runState c.ila s.core (coreHist c s xs) := by
  induction xs with
  | nil => intro s; rfl
  | cons x xs ih => intro s; simp only [runState, coreHist, Ila.runState, ih, (step_proj c s x).1]

theorem coreHist_inputs (c : Config) (xs : List In) : ∀ s : State,
    inputsOf (coreHist c s xs) = xs.map (·.inputs) ∧ (coreHist c s xs).length = xs.length := by
  induction xs with
  | nil => intro s; exact ⟨rfl, rfl⟩
  | cons x xs ih =>
    intro s
    obtain ⟨a, b⟩ := ih (step c s x).1
    simp only [inputsOf] at a
    simp [coreHist, inputsOf, a, b]

theorem runState_append (c : Config) (a b : List In) : ∀ s,
    runState c s (a ++ b) = runState c (runState c s a) b := by
  induction a with
  | nil => intro s; rfl
  | cons x a ih => intro s; simp [runState, ih]

/-! ## a state that holds a completed buffer

Everything about a chip-select window is proved from any state in which the analyzer *holds* a completed buffer `M` (`Holds`:
core idle, write enable low, memory `M`, `complete` high).  `Holds` is kept by every cycle without a trigger, whatever the SPI
pins do (`quiet_run`: complete, partial, aborted and repeated read-outs do not change what the analyzer holds), and established
by every capture (`capture_holds`). -/

def NoTrig (xs : List In) : Prop := ∀ x ∈ xs, x.trigger = false

instance (xs : List In) : Decidable (NoTrig xs) := by unfold NoTrig; infer_instance

structure Holds (c : Config) (M : List Nat) (s : State) : Prop where
  core : Rests M s.core
  cpl : s.core.complete = true

theorem quiet_step (c : Config) (M : List Nat) (s : State) (h : Holds c M s) (i : In) (htr : i.trigger = false) :
    Holds c M (step c s i).1 := by
  obtain ⟨r1, _, r5⟩ := core_quiet c M s i h.core htr
  exact ⟨r1, by rw [r5, h.cpl]⟩

theorem quiet_run (c : Config) (M : List Nat) (xs : List In) : ∀ s : State, Holds c M s → NoTrig xs →
    Holds c M (runState c s xs) := by
  induction xs with
  | nil => intro s h _; exact h
  | cons x xs ih =>
    intro s h hq
    exact ih _ (quiet_step c M s h x (hq x (by simp))) (fun y hy => hq y (by simp [hy]))

theorem idle_quiet_run (c : Config) (xs : List In) : ∀ s : State, IdleState c.ila s.core → NoTrig xs →
    IdleState c.ila (runState c s xs).core := by
  induction xs with
  | nil => intro s h _; exact h
  | cons x xs ih =>
    intro s h hq
    refine ih _ ?_ (fun y hy => hq y (by simp [hy]))
    exact (core_quiet c _ s x ⟨h.1, h.2.1, rfl⟩ (hq x (by simp))).1.idle h.2.2

/-- the samples recorded by a capture that starts in state `σ` with trigger cycle `x0` and capture cycles `xs`: `S[1..depth]`
of `captures_depth_consecutive_samples` -/
def roundSamples (c : Config) (σ : State) (x0 : In) (xs : List In) : List Nat :=
  ((σ.core.dl ++ (x0 :: xs).map (·.inputs)).drop 1).take c.ila.depth

theorem roundSamples_length (c : Config) (σ : State) (x0 : In) (xs : List In) (hl : xs.length = c.ila.depth) :
    (roundSamples c σ x0 xs).length = c.ila.depth := by
  simp only [roundSamples, List.length_take, List.length_drop, List.length_append, List.length_map, List.length_cons, hl]
  omega

theorem capture_holds (c : Config) (hd : 1 ≤ c.ila.depth) (σ : State) (hσ : IdleState c.ila σ.core) (x0 : In)
    (ht : x0.trigger = true) (xs : List In) (hl : xs.length = c.ila.depth) :
    Holds c (roundSamples c σ x0 xs) (runState c σ (x0 :: xs)) := by
  have hc := core_run c (x0 :: xs) σ
  obtain ⟨hi, hlen⟩ := coreHist_inputs c (x0 :: xs) σ
  have hcap := captures_depth_consecutive_samples c.ila hd σ.core hσ ⟨x0.trigger, x0.inputs, σ.rdaddr⟩ ht
    (coreHist c (step c σ x0).1 xs) (by simpa [coreHist, hl] using hlen)
  obtain ⟨k1, k2, k3, k4, _⟩ := hcap
  have hh : coreHist c σ (x0 :: xs) = ⟨x0.trigger, x0.inputs, σ.rdaddr⟩ :: coreHist c (step c σ x0).1 xs := rfl
  rw [← hh, ← hc] at k1 k2 k3 k4
  rw [hi] at k4
  exact ⟨⟨k1, k2, k4⟩, k3⟩

theorem readout_holds (c : Config) (hd : 1 ≤ c.ila.depth) (σ : State) (hσ : IdleState c.ila σ.core) (x0 : In)
    (ht : x0.trigger = true) (xs : List In) (hl : xs.length = c.ila.depth) (a : List In) (ha : NoTrig a) :
    Holds c (roundSamples c σ x0 xs) (runState c σ (x0 :: xs ++ a)) := by
  rw [runState_append]
  exact quiet_run c _ a _ (capture_holds c hd σ hσ x0 ht xs hl) ha

theorem AtRest.noTrig {xs : List In} (h : AtRest xs) : NoTrig xs := fun x hx => (h x hx).2

/-- `spi_readout_words` from any state that holds `M` -/
theorem window_words (c : Config) (hw : 4 ≤ c.spi.w) (hcs : c.spi.csIdlesHigh = false) (M : List Nat) (s : State)
    (h : Holds c M s) (g1 g2 g3 g4 : In) (hg : AtRest [g1, g2, g3, g4]) (ws : List In) (hws : InWindow ws) :
    (runState c s [g1, g2, g3, g4]).spi.tx = sampleWord c M 0 ∧
    (runState c s [g1, g2, g3, g4]).core.complete = true ∧
    ∃ n, latchedWords c (runState c s [g1, g2, g3, g4]) ws = (List.range' 1 n).map (sampleWord c M) := by
  obtain ⟨w1, w2, w3⟩ := window_start c hcs M s h.core g1 g2 g3 g4 hg
  obtain ⟨m, _, _, e, _⟩ := window_run c hw hcs M ws 0 0 0 _ w1 w2 hws
  exact ⟨w2.tx, by rw [w3, h.cpl], m, e⟩

/-- **spi_readout_words**: a trigger seen by the idle analyzer (`x0`), the `depth` capture cycles `xs` (any SPI
activity, any further triggers), then chip select low and no trigger for at least four cycles (`gs ++ [g1..g4]`), then
a chip-select window `ws` without a trigger, any SPI clock activity: when the window opens the SPI transmit register
holds recorded sample 0, and the words loaded into it at the completing sample edges of the window are the recorded
samples 1, 2, 3, … in order (`sampleWord c S q` = sample `q mod 2^width(range depth)`, which is `S[q]` for
`q < depth`: `sampleWord_lt`), `S` = the captured buffer of `captures_depth_consecutive_samples`.  For words of at least
4 bits (`hw`: the address pipeline needs four sample edges between two word boundaries) and chip select active high
(`hcs`: `SyncSerialILA` does not pass `cs_idles_high` on).  How the transmit register goes out on `sdo`, MSB first, is
C50 (`sdo_msb_first`, the same `SpiDevice.step`). -/
theorem spi_readout_words (c : Config) (hw : 4 ≤ c.spi.w) (hcs : c.spi.csIdlesHigh = false) (hd : 1 ≤ c.ila.depth)
    (σ : State) (hσ : IdleState c.ila σ.core) (x0 : In) (ht : x0.trigger = true) (xs : List In)
    (hl : xs.length = c.ila.depth) (gs : List In) (hgs : AtRest gs) (g1 g2 g3 g4 : In)
    (hg : AtRest [g1, g2, g3, g4]) (ws : List In) (hws : InWindow ws) :
    (runState c σ (x0 :: xs ++ gs ++ [g1, g2, g3, g4])).spi.tx
      = sampleWord c (((σ.core.dl ++ (x0 :: xs).map (·.inputs)).drop 1).take c.ila.depth) 0 ∧
    (runState c σ (x0 :: xs ++ gs ++ [g1, g2, g3, g4])).core.complete = true ∧
    ∃ n, latchedWords c (runState c σ (x0 :: xs ++ gs ++ [g1, g2, g3, g4])) ws
      = (List.range' 1 n).map (sampleWord c (((σ.core.dl ++ (x0 :: xs).map (·.inputs)).drop 1).take c.ila.depth)) := by
  have := window_words c hw hcs _ _ (readout_holds c hd σ hσ x0 ht xs hl gs hgs.noTrig) g1 g2 g3 g4 hg ws hws
  rwa [← runState_append] at this

/-! ## Non-vacuity: depth 2, pre-trigger 1, 4-bit words, SPI mode (0,1): trigger, capture, 4 rest cycles, then a window
clocking two words: sample 1 and (the counter wraps at depth 2) sample 0 again are loaded. -/
def cfgX : Config := ⟨⟨2, 1⟩, ⟨4, false, true, true, false⟩⟩
def restX : In := ⟨false, 0, false, false, false⟩
def bitX : List In := [⟨false, 0, true, false, true⟩, ⟨false, 0, false, false, true⟩]
def winX : List In := bitX ++ bitX ++ bitX ++ bitX ++ bitX ++ bitX ++ bitX ++ bitX
def capX : List In := [⟨true, 5, false, false, false⟩, ⟨false, 6, false, false, false⟩, ⟨true, 7, false, false, false⟩]

example : AtRest [restX, restX, restX, restX] := by unfold AtRest; decide
example : InWindow winX := by unfold InWindow; decide
example : (runState cfgX (init cfgX) (capX ++ [restX, restX, restX, restX])).spi.tx = SpiDevice.natToBits 4 5 := by
  decide
example : latchedWords cfgX (runState cfgX (init cfgX) (capX ++ [restX, restX, restX, restX])) winX
    = [SpiDevice.natToBits 4 6, SpiDevice.natToBits 4 5] := by decide

end LunaVerif.IlaSpi
