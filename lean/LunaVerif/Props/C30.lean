import LunaVerif.Model.Crc.Gateware
import LunaVerif.Lemmas.CrcReference
import LunaVerif.Lemmas.C36CrcBounds
/-!
# C30 — Every CRC implementation equals its standard definition

"For every CRC state and every input, the USB2 token CRC5, USB2 data CRC16, USB3 link-command
CRC5, USB3 header CRC16 and USB3 payload CRC32 (including its 1-, 2- and 3-byte trailing-word
variants) produce exactly the value of the bit-serial CRC defined by the USB specifications
(polynomial, reflection, initial value and output inversion), so a packet is accepted exactly when
its check field is correct."

Structure of the proof (no enumeration of the 2^24 … 2^64 inputs anywhere):

1. `*_table`: the XOR table the translator regenerated from /repo (`Generated.Affine.*`), run on the
   symbolic unit vectors, equals the bit-serial standard CRC run on the same symbolic inputs.
   A finite comparison of coefficient vectors, closed by kernel evaluation.
2. `XorAlg.transfer_*` (proved once in `Core/XorAlg.lean` from `evalHom`): because both sides are
   written without branching on data, the symbolic equality holds under every assignment, i.e.
   for all register states and all data words (`*_generated_eq_serial`).
3. Induction over the byte / word / cycle history lifts the one-step facts to "the CRC the
   gateware holds after any history = the reference CRC (`Core/Crc.lean`) of the bytes accepted
   since the last clear" (`*_history`), and to the acceptance corollaries.
-/
namespace LunaVerif.CrcGw
open LunaVerif.Crc LunaVerif.XorAlg LunaVerif.Generated

/-! ## Polynomials (USB 2.0 §8.3.5, USB 3.2 §7.2) -/
def poly5   : List Bool := lsbBits 0x05 5            -- x^5 + x^2 + 1
def poly16  : List Bool := lsbBits 0x8005 16         -- x^16 + x^15 + x^2 + 1
def poly16h : List Bool := lsbBits 0x100B 16         -- x^16 + x^12 + x^3 + x + 1
def poly32  : List Bool := lsbBits 0x04C11DB7 32

/-! ## 1. The finite tables -/

/-- Every index in every table exists, so the default of `row`'s `getD` is never taken: the tables are what they
look like.  The transfer lemmas below do not ask for it. -/
theorem tables_wellFormed :
    wellFormed 11 Affine.usb2Crc5 ∧ wellFormed 24 Affine.usb2Crc16Step ∧ wellFormed 11 Affine.usb3Crc5 ∧
    wellFormed 48 Affine.usb3Crc16Word ∧ wellFormed 64 Affine.usb3Crc32Word ∧
    wellFormed 56 Affine.usb3Crc32Tail3 ∧ wellFormed 48 Affine.usb3Crc32Tail2 ∧
    wellFormed 40 Affine.usb3Crc32Tail1 := by decide +kernel

theorem usb2_crc5_table : net symOne (symIn 11) Affine.usb2Crc5
    = fieldBits symOne (serial poly5 (List.replicate 5 symOne) (symIn 11)) := by decide +kernel

theorem usb2_crc16_step_table : net symOne (symIn 24) Affine.usb2Crc16Step
    = serial poly16 ((symIn 24).take 16) ((symIn 24).drop 16) := by decide +kernel

theorem usb3_crc5_table : net symOne (symIn 11) Affine.usb3Crc5
    = fieldBits symOne (serial poly5 (List.replicate 5 symOne) (symIn 11)) := by decide +kernel

theorem usb3_crc16_word_table : net symOne (symIn 48) Affine.usb3Crc16Word
    = serial poly16h ((symIn 48).take 16) ((symIn 48).drop 16) := by decide +kernel

theorem usb3_crc32_word_table : net symOne (symIn 64) Affine.usb3Crc32Word
    = serial poly32 ((symIn 64).take 32) ((symIn 64).drop 32) := by decide +kernel

theorem usb3_crc32_3B_table : net symOne (symIn 56) Affine.usb3Crc32Tail3
    = serial poly32 ((symIn 56).take 32) ((symIn 56).drop 32) := by decide +kernel

theorem usb3_crc32_2B_table : net symOne (symIn 48) Affine.usb3Crc32Tail2
    = serial poly32 ((symIn 48).take 32) ((symIn 48).drop 32) := by decide +kernel

theorem usb3_crc32_1B_table : net symOne (symIn 40) Affine.usb3Crc32Tail1
    = serial poly32 ((symIn 40).take 32) ((symIn 40).drop 32) := by decide +kernel

/-! ## 2. All register states, all data words -/

theorem step_eq (t : List (List Nat × Bool)) (poly : List Bool) (k n : Nat)
    (table : net symOne (symIn n) t = serial poly ((symIn n).take k) ((symIn n).drop k))
    (reg data : List Bool) (hr : reg.length = k) (hd : k + data.length = n) :
    evalNet t (reg ++ data) = Crc.serial poly reg data := by
  have := transfer_step t poly k table (reg ++ data) (by simp [hr, hd])
  rw [List.take_left' hr, List.drop_left' hr] at this
  exact this

/-- **USB2 data CRC16, one byte**: for every 16-bit register state and every data byte the
gateware's next-state network is eight steps of the serial CRC16, data LSB first. -/
theorem usb2_crc16_step_generated_eq_serial (reg : Reg) (byte : Nat) (hr : reg.length = 16) :
    DataCrc.next reg byte = Crc.serial poly16 reg (lsbBits byte 8) :=
  step_eq _ _ 16 24 usb2_crc16_step_table reg _ hr (by simp [length_lsbBits])

/-- **USB3 header CRC16, one 32-bit word** = 32 serial steps. -/
theorem usb3_crc16_word_generated_eq_serial (reg : Reg) (word : Nat) (hr : reg.length = 16) :
    HeaderCrc.next reg word = Crc.serial poly16h reg (lsbBits word 32) :=
  step_eq _ _ 16 48 usb3_crc16_word_table reg _ hr (by simp [length_lsbBits])

/-- **USB3 payload CRC32, full word** = 32 serial steps. -/
theorem usb3_crc32_word_generated_eq_serial (reg : Reg) (word : Nat) (hr : reg.length = 32) :
    PayloadCrc.nextW reg word = Crc.serial poly32 reg (lsbBits word 32) :=
  step_eq _ _ 32 64 usb3_crc32_word_table reg _ hr (by simp [length_lsbBits])

/-- **3-byte tail** = 24 serial steps over `data_input[0:24]`. -/
theorem usb3_crc32_3B_generated_eq_serial (reg : Reg) (word : Nat) (hr : reg.length = 32) :
    PayloadCrc.next3 reg word = Crc.serial poly32 reg (lsbBits word 24) :=
  step_eq _ _ 32 56 usb3_crc32_3B_table reg _ hr (by simp [length_lsbBits])

/-- **2-byte tail** = 16 serial steps. -/
theorem usb3_crc32_2B_generated_eq_serial (reg : Reg) (word : Nat) (hr : reg.length = 32) :
    PayloadCrc.next2 reg word = Crc.serial poly32 reg (lsbBits word 16) :=
  step_eq _ _ 32 48 usb3_crc32_2B_table reg _ hr (by simp [length_lsbBits])

/-- **1-byte tail** = 8 serial steps. -/
theorem usb3_crc32_1B_generated_eq_serial (reg : Reg) (word : Nat) (hr : reg.length = 32) :
    PayloadCrc.next1 reg word = Crc.serial poly32 reg (lsbBits word 8) :=
  step_eq _ _ 32 40 usb3_crc32_1B_table reg _ hr (by simp [length_lsbBits])

theorem crcOut_eq_field (reg : Reg) : crcOut reg = Crc.field reg := rfl

theorem field_eq (t : List (List Nat × Bool)) (poly : List Bool) (w n : Nat)
    (table : net symOne (symIn n) t = fieldBits symOne (serial poly (List.replicate w symOne) (symIn n)))
    (v : Nat) : ofLsbBits (evalNet t (lsbBits v n)) = Crc.field (Crc.serial poly (ones w) (lsbBits v n)) := by
  have := transfer_field t poly w table (lsbBits v n) (length_lsbBits v n)
  rw [fieldBits_bool] at this
  simp only [evalNet, this, Crc.field, ones]
  rfl

/-- **USB2 token CRC5**: for all 2^11 token values (indeed all naturals; only bits 0…10 are read)
the gateware's network is the USB 2.0 CRC5 check field. -/
theorem usb2_crc5_generated_eq_serial (token11 : Nat) : tokenCrc5 token11 = usb2Crc5 token11 :=
  field_eq _ _ 5 11 usb2_crc5_table token11

/-- **USB3 link-command / link-control-word CRC5**. -/
theorem usb3_crc5_generated_eq_serial (bits11 : Nat) : linkCrc5 bits11 = usb3Crc5 bits11 :=
  field_eq _ _ 5 11 usb3_crc5_table bits11

/-! ## 3. Histories: the running CRC modules hold the reference CRC of what they were fed -/

theorem bytesBits_append (a b : List Nat) : bytesBits (a ++ b) = bytesBits a ++ bytesBits b := by
  simp [bytesBits]

theorem serial_append_bool (poly reg a b : List Bool) :
    Crc.serial poly reg (a ++ b) = Crc.serial poly (Crc.serial poly reg a) b :=
  serial_append poly reg a b

/-- little-endian bytes of a word: the order in which a SuperSpeed word's bytes are transmitted -/
def leBytes (w : Nat) : Nat → List Nat
  | 0 => []
  | k + 1 => w % 256 :: leBytes (w / 256) k

theorem lsbBits_eq_bytesBits (w k : Nat) : lsbBits w (8 * k) = bytesBits (leBytes w k) := by
  induction k generalizing w with
  | zero => rfl
  | succ k ih =>
    have : 8 * (k + 1) = 8 + 8 * k := by omega
    rw [this, lsbBits_add, ih]
    simp only [leBytes, bytesBits, List.flatMap_cons]
    congr 1
    exact (lsbBits_mod w 8 8 (Nat.le_refl _)).symm

def refReg (poly : List Bool) (past : List Nat) : Reg :=
  Crc.serial poly (ones poly.length) (bytesBits past)

theorem usb3Crc16_eq (bytes : List Nat) : usb3Crc16 bytes = Crc.field (refReg poly16h bytes) := rfl
theorem usb3Crc32_eq (bytes : List Nat) : usb3Crc32 bytes = Crc.field (refReg poly32 bytes) := rfl

theorem length_refReg (poly : List Bool) (hp : 0 < poly.length) (past : List Nat) :
    (refReg poly past).length = poly.length :=
  length_serial poly _ _ (by simp [ones]) hp

theorem refReg_advance (poly : List Bool) (w : Nat) (hw : poly.length = w) (hp : 0 < w)
    (past : List Nat) (data k : Nat) (nextf : Reg → Reg)
    (hn : ∀ reg : Reg, reg.length = w → nextf reg = Crc.serial poly reg (lsbBits data (8 * k))) :
    nextf (refReg poly past) = refReg poly (past ++ leBytes data k) := by
  rw [hn _ (by rw [length_refReg poly (by omega) past, hw]), lsbBits_eq_bytesBits]
  simp only [refReg, bytesBits_append, serial_append_bool]

theorem bytesBits_mod (bs : List Nat) : bytesBits (bs.map (· % 256)) = bytesBits bs := by
  simp only [bytesBits, List.flatMap_map]
  congr 1; funext b
  exact lsbBits_mod b 8 8 (Nat.le_refl _)

theorem refReg_mod (poly : List Bool) (past bs : List Nat) :
    refReg poly (past ++ bs.map (· % 256)) = refReg poly (past ++ bs) := by
  simp only [refReg, bytesBits_append, bytesBits_mod]

theorem fold_ref {ι : Type} (ref : List Nat → Reg) (f : Reg → ι → Reg) (acc : List Nat → ι → List Nat)
    (hstep : ∀ past i, f (ref past) i = ref (acc past i)) (h : List ι) (past : List Nat) :
    (h.foldl (fun (s : Reg × List Nat) i => (f s.1 i, acc s.2 i)) (ref past, past)).1 =
      ref (h.foldl (fun (s : Reg × List Nat) i => (f s.1 i, acc s.2 i)) (ref past, past)).2 := by
  induction h generalizing past with
  | nil => rfl
  | cons i is ih => rw [List.foldl_cons, hstep]; exact ih _

/-! ### USBDataPacketCRC -/
namespace DataCrc

/-- `past` = the bytes that entered the CRC since the last `start`; the same after the cycle `i` -/
def accepted (past : List Nat) (i : In) : List Nat :=
  if i.start then [] else if i.rxValid then past ++ [i.rxData]
  else if i.txValid then past ++ [i.txData] else past

theorem next_ref (past : List Nat) (b : Nat) : next (refReg poly16 past) b = refReg poly16 (past ++ [b]) :=
  (refReg_advance poly16 16 (length_lsbBits _ _) (by decide) past b 1 (fun r => next r b)
    (fun r hl => usb2_crc16_step_generated_eq_serial r b hl)).trans (refReg_mod poly16 past [b])

theorem step_ref (past : List Nat) (i : In) :
    (step 0xFFFF (refReg poly16 past) i).1 = refReg poly16 (accepted past i) := by
  unfold step accepted
  simp only [apply_ite (refReg poly16), next_ref]
  rfl

/-- **USB2 data CRC16 over all histories**: whatever the sequence of `start` / `rx_valid` /
`tx_valid` cycles, the `crc` output the module presents (default `initial_value`) is the USB 2.0
CRC16 — polynomial x^16+x^15+x^2+1, LSB first, seed all ones, complemented, MSB first — of
exactly the bytes accepted since the last `start`. -/
theorem usb2_crc16_history (h : List In) :
    let fin := h.foldl (fun (s : Reg × List Nat) i => ((step 0xFFFF s.1 i).1, accepted s.2 i)) (init 0xFFFF, [])
    (step 0xFFFF fin.1 ⟨false, false, 0, false, 0⟩).2 = usb2Crc16 fin.2 := by
  exact congrArg Crc.field (fold_ref (refReg poly16) (fun r i => (step 0xFFFF r i).1) accepted step_ref h [])

theorem usb2_crc16_after_payload (payload : List Nat) :
    crcOut (payload.foldl next (init 0xFFFF)) = usb2Crc16 payload := by
  have key : ∀ past, payload.foldl next (refReg poly16 past) = refReg poly16 (past ++ payload) := by
    induction payload with
    | nil => intro past; rw [List.append_nil]; rfl
    | cons b bs ih => intro past; rw [List.foldl_cons, next_ref, ih, List.append_assoc]; rfl
  exact congrArg Crc.field (key [])

/-- **A data packet is accepted exactly when its check field is correct**: the receivers compare
the two received CRC bytes (as a 16-bit little-endian integer `field16`) with the module's `crc`
output after the payload. -/
theorem data_accept_iff_check_field_correct (payload : List Nat) (field16 : Nat) :
    (crcOut (payload.foldl next (init 0xFFFF)) == field16) = true ↔ field16 = usb2Crc16 payload := by
  rw [usb2_crc16_after_payload]
  exact beq_iff_eq.trans eq_comm

end DataCrc

/-! ### HeaderPacketCRC and DataPacketPayloadCRC -/

namespace HeaderCrc

/-- header bytes (in wire order) that entered the CRC since the last `clear` -/
def accepted (past : List Nat) (i : In) : List Nat :=
  if i.clear then [] else if i.advance then past ++ leBytes i.data 4 else past

theorem next_ref (past : List Nat) (d : Nat) : next (refReg poly16h past) d = refReg poly16h (past ++ leBytes d 4) :=
  refReg_advance poly16h 16 (length_lsbBits _ _) (by decide) past d 4 (fun r => next r d)
    (fun r hl => usb3_crc16_word_generated_eq_serial r d hl)

theorem step_ref (past : List Nat) (i : In) :
    (step 0xFFFF (refReg poly16h past) i).1 = refReg poly16h (accepted past i) := by
  unfold step accepted
  simp only [apply_ite (refReg poly16h), next_ref]
  rfl

/-- **USB3 header CRC16 over all histories**: the `crc` output (default `initial_value`) is the
USB 3.2 §7.2.1.1.2 CRC-16 (polynomial 100Bh, seed FFFFh, LSB first, complemented, bit-reversed) of
the bytes of the words advanced since the last `clear`. -/
theorem usb3_crc16_history (h : List In) :
    let fin := h.foldl (fun (s : Reg × List Nat) i => ((step 0xFFFF s.1 i).1, accepted s.2 i)) (init 0xFFFF, [])
    (step 0xFFFF fin.1 ⟨false, false, 0⟩).2 = usb3Crc16 fin.2 := by
  exact congrArg Crc.field (fold_ref (refReg poly16h) (fun r i => (step 0xFFFF r i).1) accepted step_ref h [])

/-- **A header packet's CRC-16 is accepted exactly when it is correct**: after the three header
words, the comparison `crc16.crc != packet.crc16` of the receivers tests the reference CRC. -/
theorem header_accept_iff_check_field_correct (w0 w1 w2 field16 : Nat) :
    (crcOut (next (next (next (init 0xFFFF) w0) w1) w2) == field16) = true
      ↔ field16 = usb3Crc16 (leBytes w0 4 ++ leBytes w1 4 ++ leBytes w2 4) := by
  have e : init 0xFFFF = refReg poly16h [] := rfl
  rw [e, next_ref, next_ref, next_ref, crcOut_eq_field, ← usb3Crc16_eq, List.nil_append]
  exact beq_iff_eq.trans eq_comm

end HeaderCrc

namespace PayloadCrc

/-- payload bytes (in wire order) that entered the CRC since the last `clear`; the priority of
the advance strobes is the gateware's (`word` > `3B` > `2B` > `1B`) -/
def accepted (past : List Nat) (i : In) : List Nat :=
  if i.clear then [] else if i.advW then past ++ leBytes i.data 4
  else if i.adv3 then past ++ leBytes i.data 3
  else if i.adv2 then past ++ leBytes i.data 2
  else if i.adv1 then past ++ leBytes i.data 1 else past

theorem nextW_ref (past : List Nat) (d : Nat) : nextW (refReg poly32 past) d = refReg poly32 (past ++ leBytes d 4) :=
  refReg_advance poly32 32 (length_lsbBits _ _) (by decide) past d 4 (fun r => nextW r d) (fun r hl => usb3_crc32_word_generated_eq_serial r d hl)
theorem next3_ref (past : List Nat) (d : Nat) : next3 (refReg poly32 past) d = refReg poly32 (past ++ leBytes d 3) :=
  refReg_advance poly32 32 (length_lsbBits _ _) (by decide) past d 3 (fun r => next3 r d) (fun r hl => usb3_crc32_3B_generated_eq_serial r d hl)
theorem next2_ref (past : List Nat) (d : Nat) : next2 (refReg poly32 past) d = refReg poly32 (past ++ leBytes d 2) :=
  refReg_advance poly32 32 (length_lsbBits _ _) (by decide) past d 2 (fun r => next2 r d) (fun r hl => usb3_crc32_2B_generated_eq_serial r d hl)
theorem next1_ref (past : List Nat) (d : Nat) : next1 (refReg poly32 past) d = refReg poly32 (past ++ leBytes d 1) :=
  refReg_advance poly32 32 (length_lsbBits _ _) (by decide) past d 1 (fun r => next1 r d) (fun r hl => usb3_crc32_1B_generated_eq_serial r d hl)

theorem step_ref (past : List Nat) (i : In) :
    (step 0xFFFFFFFF (refReg poly32 past) i).1 = refReg poly32 (accepted past i) := by
  unfold step accepted
  simp only [apply_ite (refReg poly32), nextW_ref, next3_ref, next2_ref, next1_ref]
  rfl

/-- What `step` puts on its four outputs.  `usb3_crc32_history` rewrites with this equation; matching `o.next3` against
`crcOut (next3 …)` by unification instead unfolds the generated networks. -/
theorem step_out (v : Nat) (r : Reg) (i : In) :
    (step v r i).2 = { crc := crcOut r, next3 := crcOut (next3 r i.data), next2 := crcOut (next2 r i.data),
                       next1 := crcOut (next1 r i.data) } := by
  rfl

/-- **USB3 payload CRC32 over all histories, including the 1-, 2- and 3-byte tails**: in every
cycle, after any sequence of clear / word / tail advances, `crc` is the USB 3.2 CRC-32 (polynomial
04C11DB7h, seed all ones, LSB first, complemented, bit-reversed) of the bytes accepted since the
last clear, and `next_crc_kB` is the CRC-32 of those bytes followed by the `k` low bytes of the
current `data_input`. -/
theorem usb3_crc32_history (h : List In) (cur : In) :
    let fin := h.foldl (fun (s : Reg × List Nat) i => ((step 0xFFFFFFFF s.1 i).1, accepted s.2 i)) (init 0xFFFFFFFF, [])
    let o := (step 0xFFFFFFFF fin.1 cur).2
    o.crc = usb3Crc32 fin.2 ∧ o.next3 = usb3Crc32 (fin.2 ++ leBytes cur.data 3) ∧
    o.next2 = usb3Crc32 (fin.2 ++ leBytes cur.data 2) ∧ o.next1 = usb3Crc32 (fin.2 ++ leBytes cur.data 1) := by
  intro fin o
  have hfin : fin.1 = refReg poly32 fin.2 :=
    fold_ref (refReg poly32) (fun r i => (step 0xFFFFFFFF r i).1) accepted step_ref h []
  have ho : o = _ := step_out 0xFFFFFFFF fin.1 cur
  rw [ho, hfin, next3_ref, next2_ref, next1_ref]
  simp only [crcOut_eq_field, usb3Crc32_eq, and_self]

/-- The way the link layer uses the module: `payload` is fed four bytes at a time, a final
partial word through the matching tail strobe. -/
def feed : Reg → List Nat → Reg
  | reg, b0 :: b1 :: b2 :: b3 :: rest =>
      feed (nextW reg (b0 % 256 + 256 * (b1 % 256) + 65536 * (b2 % 256) + 16777216 * (b3 % 256))) rest
  | reg, [b0, b1, b2] => next3 reg (b0 % 256 + 256 * (b1 % 256) + 65536 * (b2 % 256))
  | reg, [b0, b1] => next2 reg (b0 % 256 + 256 * (b1 % 256))
  | reg, [b0] => next1 reg (b0 % 256)
  | reg, [] => reg

theorem leBytes_cons (b w k : Nat) : leBytes (b % 256 + 256 * w) (k + 1) = b % 256 :: leBytes w k := by
  have h1 : (b % 256 + 256 * w) % 256 = b % 256 := by omega
  have h2 : (b % 256 + 256 * w) / 256 = w := by omega
  rw [leBytes, h1, h2]

/-- the `data_input` word `feed` builds from the bytes `bs` -/
def packLE (bs : List Nat) : Nat := bs.foldr (fun b w => b % 256 + 256 * w) 0

theorem leBytes_packLE (bs : List Nat) : leBytes (packLE bs) bs.length = bs.map (· % 256) := by
  induction bs with
  | nil => rfl
  | cons b bs ih => rw [packLE, List.foldr_cons, List.length_cons, leBytes_cons, ← packLE, ih]; rfl

theorem refReg_packed (poly : List Bool) (past bs : List Nat) (w : Nat) (hw : w = packLE bs) :
    refReg poly (past ++ leBytes w bs.length) = refReg poly (past ++ bs) := by
  rw [hw, leBytes_packLE, refReg_mod]

/-- **Payload CRC32 for every payload length** (any number of full words and any tail):
the CRC the gateware holds after a payload equals the reference CRC-32 of the payload bytes. -/
theorem usb3_crc32_after_payload (payload : List Nat) :
    crcOut (feed (init 0xFFFFFFFF) payload) = usb3Crc32 payload := by
  have key : ∀ (reg : Reg) (payload past : List Nat), reg = refReg poly32 past →
      feed reg payload = refReg poly32 (past ++ payload) := by
    intro reg payload
    fun_induction feed reg payload with
    | case1 reg b0 b1 b2 b3 rest ih =>
      intro past hr
      rw [ih (past ++ [b0, b1, b2, b3])]
      · simp
      · rw [hr, nextW_ref]
        exact refReg_packed poly32 past [b0, b1, b2, b3] _ (by simp only [packLE, List.foldr]; omega)
    | case2 reg b0 b1 b2 =>
      intro past hr
      rw [hr, next3_ref]
      exact refReg_packed poly32 past [b0, b1, b2] _ (by simp only [packLE, List.foldr]; omega)
    | case3 reg b0 b1 =>
      intro past hr
      rw [hr, next2_ref]
      exact refReg_packed poly32 past [b0, b1] _ (by simp only [packLE, List.foldr]; omega)
    | case4 reg b0 =>
      intro past hr
      rw [hr, next1_ref]
      exact refReg_packed poly32 past [b0] _ (by simp only [packLE, List.foldr]; omega)
    | case5 reg => intro past hr; simpa using hr
  have h := key (init 0xFFFFFFFF) payload [] rfl
  rw [h, crcOut_eq_field, List.nil_append]; rfl

end PayloadCrc

/-- **A token is accepted exactly when its CRC5 field is correct.** -/
theorem token_accept_iff_check_field_correct (word16 : Nat) :
    tokenAccept word16 = true ↔ (word16 / 2 ^ 11) % 2 ^ 5 = usb2Crc5 (word16 % 2 ^ 11) := by
  unfold tokenAccept
  rw [usb2_crc5_generated_eq_serial]
  exact beq_iff_eq

/-! ## Non-vacuity: concrete instances through the gateware model

(The reference definitions themselves are checked against externally known values in
`Lemmas/CrcReference.lean`.) -/
/-- the 18-byte flash-drive payload of the repository's test through the gateware model: four
words and a 2-byte tail -/
example : crcOut (PayloadCrc.feed (PayloadCrc.init 0xFFFFFFFF)
    [18, 1, 0, 3, 0, 0, 0, 9, 254, 19, 0, 82, 0, 1, 1, 2, 3, 1]) = 0x540AA487 := by decide +kernel
example : tokenAccept 0x3D3A = true ∧ tokenAccept 0x353A = false := by decide +kernel
example : crcOut (HeaderCrc.next (HeaderCrc.next (HeaderCrc.next (HeaderCrc.init 0xFFFF) 0x00000280) 0x00010004) 0)
    = 0x1845 := by decide +kernel

end LunaVerif.CrcGw
