import LunaVerif.Props.C12
/-!
# C14 — Data toggles advance only on success and reset on CLEAR_FEATURE(HALT)

"An endpoint's data toggle advances exactly once per successfully completed transaction (host ACK for IN,
device ACK of new data for OUT) and never otherwise; a CLEAR_FEATURE(ENDPOINT_HALT) request that completes
resets to DATA0 the toggle of exactly the endpoint number and direction it names, and no other."
Quantifier: all histories of transactions and CLEAR_FEATURE(ENDPOINT_HALT) requests naming any endpoint
number/direction, at any point of an IN or OUT transfer.  (That is the property; every theorem of this file is about
one cycle — `next` / `step` — or one event — `epStep`, `core` — from an arbitrary state, and none is over a history.)

* cycle level — `in_toggle_advances_iff_acked` (`InGate`: `USBInTransferManager` inside
  `USBStreamInEndpoint`), `out_toggle_advances_iff_acked_new_data` (`StreamOutEndpoint`),
  `sig_toggle_advances_iff_acked` (`SignalIn`), `clear_halt_next_packet_is_data0` (IN, in whichever of the
  states reachable when the strobe arrives, including the coincidence with `packet_ready`: F8, repaired),
  `clear_halt_resets_out_toggle`;
* transaction level (`EpDev`) — `clear_halt_resets_exactly_named_endpoint` (decode of `wIndex[7]`,
  `wIndex[3:0]` by the standard request handler, broadcast through the multiplexer's OR-join —
  `C12.halt_clear_single_driver` — and the per-endpoint match on direction and number),
  `strobe_only_after_zlp` (F5: the strobe is also emitted after a stalled CLEAR_FEATURE, but only a host
  that ACKs a STALL could make that happen), the event-level toggle laws.

The sequence bit of an IN endpoint is `InGate.seq`: the PID of the packet it sends next / is sending / has
sent without having seen the ACK yet.  (The register `data_pid[0]` itself is toggled *before* a packet is
sent, so in WAIT_FOR_DATA it still holds the previous packet's PID.)
-/

namespace LunaVerif.C14
open LunaVerif

/-! ## 1. Stream IN endpoint, cycle level -/
section InCycle
open InGate C12.InGateLemmas

/-- In WAIT_FOR_ACK `p` is the register after a reset, if any; the ACK that is taken flips the bit unless the
endpoint falls back to WAIT_FOR_DATA in the very cycle a new token sends it on to WAIT_TO_SEND. -/
theorem seq_next (c : Config) (s : State) (i : In) :
    seq (next c s i) =
      match s.fsm with
      | .waitData =>
        if i.resetSeq then (if packetReady c s i && !c.f8Repaired then !s.pid0 else i.start1) else !s.pid0
      | .waitSend => if !i.discard && i.resetSeq then i.start1 else s.pid0
      | .send => if i.resetSeq then !i.start1 else s.pid0
      | .waitAck =>
        let p := if i.resetSeq then !i.start1 else s.pid0
        if i.discard then !p
        else if i.ack && i.active && i.isIn then
          (if i.genZlp && rFill s == c.mps && rEnded s then !s.pid0
           else if !sReady c s || packetReady c s i then !s.pid0
           else if i.newToken then p else !p)
        else p := by
  unfold seq
  rw [next_fsm, next_pid0]
  cases hf : s.fsm <;> simp only []
  · cases packetReady c s i <;> cases c.f8Repaired <;> cases i.resetSeq <;> simp
  · cases i.discard <;> cases i.resetSeq <;> cases inTokenReceived i <;> cases (rFill s != 0) <;> simp
  · cases i.txReady <;> cases (s.sendPos + 1 == rFill s) <;> simp
  · generalize (i.ack && i.active && i.isIn) = g
    generalize (i.genZlp && rFill s == c.mps && rEnded s) = z
    generalize (!sReady c s || packetReady c s i) = w
    cases i.discard <;> cases g <;> cases z <;> cases w <;> cases i.newToken <;> simp

/-- **in_toggle_advances_iff_acked**.  In every cycle without a PID-sequence reset and without the
application's `discard`, and in which the host's ACK does not coincide with a new token (two packets
cannot end in the same cycle), the sequence bit of the IN endpoint flips if and only if the endpoint is
waiting for an ACK and the host's ACK arrives after an IN token for this endpoint. -/
theorem in_toggle_advances_iff_acked (c : Config) (s : State) (i : In)
    (hr : i.resetSeq = false) (hd : i.discard = false) (hx : ¬(i.ack = true ∧ i.newToken = true)) :
    seq (next c s i) ≠ seq s ↔ (s.fsm = .waitAck ∧ i.ack = true ∧ i.active = true ∧ i.isIn = true) := by
  rw [seq_next, seq]
  cases hf : s.fsm <;> simp [hr, hd]
  intro ha _ _
  have hn : i.newToken = false := Bool.eq_false_iff.mpr fun h => hx ⟨ha, h⟩
  simp [hn]

/-- The same for the endpoint (`active = (tokenizer.endpoint == endpoint_number)`, halt-clear decode). -/
theorem in_ep_toggle_advances_iff_acked (c : Config) (s : State) (i : EpIn)
    (hr : clearHalt c i = false) (hd : i.discard = false) (hx : ¬(i.ack = true ∧ i.newToken = true)) :
    seq (epStep c s i).1 ≠ seq s ↔
      (s.fsm = .waitAck ∧ i.ack = true ∧ i.tokEp = c.epNum ∧ i.isIn = true) := by
  have := in_toggle_advances_iff_acked c s (wire c i) (by simpa [wire] using hr) (by simpa [wire] using hd)
    (by simpa [wire] using hx)
  simpa [epStep, step, wire] using this

/-- The PID on the wire while the endpoint transmits is the sequence bit (bit 1 is the register's bit 1). -/
theorem transmitted_pid_is_seq (c : Config) (s : State) (i : In) (hv : (outOf c s i).valid = true) :
    (outOf c s i).pid = (if seq s then 1 else 0) + (if s.pid1 then 2 else 0) := by
  obtain ⟨fsm, pid0, pid1, toggle, fill0, fill1, ended0, ended1, sendPos, first⟩ := s
  cases fsm <;> simp_all [outOf, pidNat, seq]

/-- **clear_halt_next_packet_is_data0** (stream IN).  The halt-clear strobe of the device is caused by a
host ACK on endpoint 0, so it reaches an IN endpoint only after at least one new token, i.e. in
WAIT_FOR_DATA or WAIT_TO_SEND.  In both, in a cycle without the application's `discard` (which in WAIT_TO_SEND
takes precedence over the reset) — and also when the strobe coincides with the producer's byte that
completes a packet (`packet_ready`, F8 repaired) — the sequence bit after the cycle is DATA0 and bit 1 of
the PID register is clear. -/
theorem clear_halt_next_packet_is_data0 (c : Config) (hc : c.f8Repaired = true) (s : State) (i : In)
    (hr : i.resetSeq = true) (h1 : i.start1 = false) (hd : i.discard = false)
    (hs : s.fsm = .waitData ∨ s.fsm = .waitSend) :
    seq (next c s i) = false ∧ (next c s i).pid1 = false := by
  refine ⟨?_, next_pid1_of_reset c s i hr⟩
  rw [seq_next]
  rcases hs with hs | hs <;> simp [hs, hr, h1, hd, hc]

/-- One cycle without a PID-sequence reset, without `discard` and without the ACK of the endpoint's own packet leaves
the sequence bit as it is: one direction of `in_toggle_advances_iff_acked`.  (The statement mentions neither a
halt-clear nor DATA0; read after `clear_halt_next_packet_is_data0` it says that the DATA0 set there stays, cycle by
cycle, until that ACK, and by `transmitted_pid_is_seq` it is what goes out with the next packet.) -/
theorem clear_halt_then_quiet_keeps_data0 (c : Config) (s : State) (i : In)
    (hr : i.resetSeq = false) (hd : i.discard = false) (hx : ¬(i.ack = true ∧ i.newToken = true))
    (hna : ¬(s.fsm = .waitAck ∧ i.ack = true ∧ i.active = true ∧ i.isIn = true)) :
    seq (next c s i) = seq s := by
  apply Classical.byContradiction
  intro hne
  exact hna ((in_toggle_advances_iff_acked c s i hr hd hx).mp hne)

/-- F8 as it was before the repair: with `data_pid[0] = 0` (last packet DATA0, acknowledged) in
WAIT_FOR_DATA, a strobe in the very cycle the producer completes a packet leaves the sequence bit at
DATA1 — the reset is lost. -/
theorem clear_halt_f8_unrepaired_fails :
    ∃ (s : State) (i : In), i.resetSeq = true ∧ i.start1 = false ∧ i.discard = false ∧ s.fsm = .waitData ∧
      seq (next { mps := 4, f8Repaired := false } s i) = true := by
  refine ⟨{ pid0 := false }, ⟨true, false, false, false, false, true, true, false, false, true, false, true, false⟩, ?_⟩
  decide

/-- the witness's state and input on the repaired configuration: DATA0 -/
example : seq (next { mps := 4 } { pid0 := false }
    ⟨true, false, false, false, false, true, true, false, false, true, false, true, false⟩) = false := by decide

/-- Outside those two states (a packet of this endpoint is on the wire or awaits its ACK — not reachable
when the strobe comes from the device's own control endpoint) the register is set to 1: the *next new*
packet is DATA0, but a retransmission of the current one would carry DATA1.  Stated to document the
boundary of `clear_halt_next_packet_is_data0`. -/
theorem clear_halt_during_own_transaction (c : Config) (s : State) (i : In)
    (hr : i.resetSeq = true) (h1 : i.start1 = false) (hd : i.discard = false) (ha : i.ack = false)
    (hs : s.fsm = .send ∨ s.fsm = .waitAck) : (next c s i).pid0 = true := by
  rw [next_pid0]
  rcases hs with hs | hs <;> simp [hs, hr, h1, hd, ha]

end InCycle

/-! ## 2. Stream OUT and status endpoints, cycle level -/
section OutSigCycle

/-- **out_toggle_advances_iff_acked_new_data**.  Without a halt-clear in the same cycle, the expected data
toggle of the OUT endpoint flips exactly in the cycle in which it answers a data packet *with the expected
PID* that it has accepted — and in that cycle it requests an ACK. -/
theorem out_toggle_advances_iff_acked_new_data (c : StreamOutEndpoint.Config) (s : StreamOutEndpoint.State)
    (i : StreamOutEndpoint.In) (hh : i.clearHalt = false) :
    ((StreamOutEndpoint.step c s i).1.expectedToggle ≠ s.expectedToggle ↔
      ((StreamOutEndpoint.comb c s i).dataRequested = true ∧ (StreamOutEndpoint.comb c s i).dataAccepted = true)) ∧
    (((StreamOutEndpoint.comb c s i).dataRequested = true ∧ (StreamOutEndpoint.comb c s i).dataAccepted = true) →
      (StreamOutEndpoint.step c s i).2.ack = true ∧ (StreamOutEndpoint.comb c s i).pidMatch = true ∧
      i.tokEp = c.epNum ∧ i.tokIsOut = true ∧ i.rxReady = true) := by
  constructor
  · rw [C12.step_expectedToggle, hh]
    cases (StreamOutEndpoint.comb c s i).dataRequested <;> cases (StreamOutEndpoint.comb c s i).dataAccepted <;> simp
  · intro ⟨h1, h2⟩
    refine ⟨by simp [StreamOutEndpoint.step, StreamOutEndpoint.outOf, h1, h2], ?_⟩
    simp only [StreamOutEndpoint.comb, Bool.and_eq_true, beq_iff_eq] at h1 h2 ⊢
    exact ⟨h2.1.1.2, h1.1.1.1, h1.1.2, h1.2⟩

/-- An ACK that does not move the toggle is either the answer to a PING or to a packet with the *other*
PID (a repetition the host sent because it missed our ACK): the packet is not written to the FIFO. -/
theorem out_ack_without_advance (c : StreamOutEndpoint.Config) (s : StreamOutEndpoint.State)
    (i : StreamOutEndpoint.In) (hh : i.clearHalt = false)
    (ha : (StreamOutEndpoint.step c s i).2.ack = true)
    (hn : (StreamOutEndpoint.step c s i).1.expectedToggle = s.expectedToggle) :
    (StreamOutEndpoint.comb c s i).pingRequested = true ∨
    ((StreamOutEndpoint.comb c s i).shouldSkip = true ∧ (StreamOutEndpoint.fifoIn c s i).wen = false) := by
  have hna := mt (out_toggle_advances_iff_acked_new_data c s i hh).1.mpr (not_not_intro hn)
  -- `ack` = data accepted ∨ PING with room ∨ data to be skipped
  change ((_ && _) || (_ && _) || (_ && _)) = true at ha
  simp only [Bool.or_eq_true, Bool.and_eq_true] at ha
  rcases ha with (h | h) | h
  · exact absurd h hna
  · exact Or.inl h.1
  · refine Or.inr ⟨h.2, ?_⟩
    -- skipping means the PID does not match, so nothing is written
    have hs := h.2
    simp only [StreamOutEndpoint.fifoIn, StreamOutEndpoint.comb] at hs ⊢
    simp only [Bool.and_eq_true, Bool.not_eq_true'] at hs
    simp [hs.2]

/-- **clear_halt (stream OUT)**: a halt-clear naming this endpoint (`enable & ~direction & number ==
endpoint_number`, the `clearHalt` input of the model) leaves the expected toggle at DATA0 whatever else
happens in that cycle. -/
theorem clear_halt_resets_out_toggle (c : StreamOutEndpoint.Config) (s : StreamOutEndpoint.State)
    (i : StreamOutEndpoint.In) (hh : i.clearHalt = true) :
    (StreamOutEndpoint.step c s i).1.expectedToggle = false := by
  rw [C12.step_expectedToggle, hh]; rfl

/-- **sig_toggle_advances_iff_acked**: without a halt-clear naming it, the status endpoint's toggle flips
exactly when it is waiting for the ACK of its packet and the host's ACK arrives after an IN token for it. -/
theorem sig_toggle_advances_iff_acked (c : SignalIn.Config) (s : SignalIn.State) (i : SignalIn.In)
    (hh : i.clearHalt = false) :
    (SignalIn.step c s i).1.toggle ≠ s.toggle ↔ (s.fsm = .waitAck ∧ SignalIn.ackTaken c i = true) := by
  obtain ⟨fsm, latched, sent, toggle⟩ := s
  cases fsm <;> simp [SignalIn.step, SignalIn.stepCore, hh] <;> (repeat' split) <;> simp_all

/-- **clear_halt (status IN)**: a halt-clear naming the status endpoint leaves its toggle at DATA0 in every
FSM state (fix 08e26ae / 61d16f5). -/
theorem clear_halt_resets_sig_toggle (c : SignalIn.Config) (s : SignalIn.State) (i : SignalIn.In)
    (hh : i.clearHalt = true) : (SignalIn.step c s i).1.toggle = false := by
  simp [SignalIn.step, hh]

end OutSigCycle

/-! ## 3. Transaction level -/
section Events
open EpDev
open LunaVerif.Device hiding step run final init LegalHost legalEvent legalFrom

/-- The toggle of an endpoint as the host sees it (DATA1 iff `true`): PID of the next packet an IN endpoint
sends, PID an OUT endpoint expects. -/
def toggleOf : EpState → Bool
  | .sin s => s.seq
  | .sout s => s.toggle
  | .sig s => s.toggle

theorem inNewToken_seq (y : InState) : (inNewToken y).seq = y.seq := by
  obtain ⟨fsm, pid, wbuf, wended, rbuf, rended⟩ := y
  cases fsm <;> simp [inNewToken, InState.seq]

theorem inToken_seq (y : InState) : (inToken y).1.seq = y.seq := by
  obtain ⟨fsm, pid, wbuf, wended, rbuf, rended⟩ := y
  cases fsm <;> simp [inToken, InState.seq]

theorem inFeed_seq (mps : Nat) (y : InState) (b : Nat) (last : Bool) : (inFeed mps y b last).1.seq = y.seq := by
  unfold inFeed
  split
  · rfl
  · split
    · rename_i h; simp [InState.seq, h.1]
    · rfl

/-- Feeding the producer's bytes never moves the sequence bit (the register is toggled when a packet
becomes ready, but that packet is the *next* one). -/
theorem inProduce_seq (mps : Nat) (bytes : List Nat) (last : Bool) (y : InState) :
    (inProduce mps y bytes last).1.seq = y.seq := by
  induction bytes generalizing y with
  | nil => rfl
  | cons b bs ih =>
    simp only [inProduce]
    split
    · rw [ih, inFeed_seq]
    · rfl

/-- The host's ACK of the endpoint's packet advances the sequence bit exactly once; an ACK in any other
state does nothing. -/
theorem inAck_seq (mps : Nat) (y : InState) :
    (inAck mps y).seq = (if y.fsm = .waitAck then !y.seq else y.seq) := by
  unfold inAck
  split
  · rename_i h
    split
    · simp [InState.seq, h]
    · split <;> simp [InState.seq, h]
  · rfl

/-- After a halt-clear the next packet of an IN stream endpoint is DATA0 (not waiting for an ACK: see
`clear_halt_resets_exactly_named_endpoint`). -/
theorem inClearHalt_seq (y : InState) (h : y.fsm ≠ .waitAck) : (inClearHalt y).seq = false := by
  obtain ⟨fsm, pid, wbuf, wended, rbuf, rended⟩ := y
  cases fsm <;> simp_all [inClearHalt, InState.seq]

/-- OUT stream endpoint: the expected toggle moves exactly when a packet with a good CRC and the expected
PID arrives; that packet is ACKed and its bytes are appended to the FIFO; a good packet with the other PID
is ACKed and dropped. -/
theorem outData_toggle (mps : Nat) (y : OutState) (pid : Nat) (p : List Nat) (crcOk : Bool) :
    ((outData mps y pid p crcOk).1.toggle ≠ y.toggle ↔ (crcOk = true ∧ pidToggleBit pid = y.toggle)) ∧
    ((crcOk = true ∧ pidToggleBit pid = y.toggle) →
        (outData mps y pid p crcOk).2 = .hs PID_ACK ∧
        (outData mps y pid p crcOk).1.fifo = y.fifo ++ outEntries mps y.active p) ∧
    ((crcOk = true ∧ pidToggleBit pid ≠ y.toggle) →
        (outData mps y pid p crcOk).2 = .hs PID_ACK ∧ (outData mps y pid p crcOk).1 = y) := by
  obtain ⟨toggle, fifo, active⟩ := y
  cases crcOk <;> cases hb : pidToggleBit pid <;> cases toggle <;> simp [outData, hb]

theorem sigAck_toggle (y : SigState) : (sigAck y).toggle ≠ y.toggle ↔ y.fsm = .waitAck := by
  obtain ⟨fsm, latched, toggle, signal⟩ := y
  cases fsm <;> simp [sigAck]

theorem sigToken_toggle (w : Nat) (y : SigState) : (sigToken w y).1.toggle = y.toggle := by
  obtain ⟨fsm, latched, toggle, signal⟩ := y
  cases fsm <;> simp [sigToken]

/-- The strobe the standard request handler emits decodes `wIndex` of the latched SETUP packet: direction =
bit 7, endpoint number = bits 3:0 (bits 6:4 and 15:8 are ignored). -/
theorem halt_strobe_decodes_windex (c : DevConfig) (s : DevState) (e : HostEvent) (d : Bool) (n : Nat)
    (h : haltStrobe c s e = some (d, n)) :
    d = decide (s.setup.index / 128 % 2 = 1) ∧ n = s.setup.index % 16 ∧ n < 16 ∧
    e = .handshake PID_ACK ∧ s.hstate = .clearFeature ∧ s.tokEp = 0 ∧ s.tokPid = PID_IN := by
  cases e with
  | handshake pid =>
    simp only [haltStrobe] at h
    split at h
    · rename_i hc
      simp only [Option.some.injEq, Prod.mk.injEq] at h
      refine ⟨h.1.symm, h.2.symm, by omega, by rw [hc.1], hc.2.2.2.2.1, hc.2.1, hc.2.2.1⟩
    · simp at h
  | _ => simp [haltStrobe] at h

theorem haltHits_of_not_named (ec : EpCfg) (dir : Bool) (sh : Shared) (d : Bool) (n : Nat)
    (hh : sh.halt = some (d, n)) (h : ¬(d = dir ∧ n = ec.num)) : haltHits ec dir sh = false := by
  simpa [haltHits, hh] using h

/-- **clear_halt_resets_exactly_named_endpoint**.  In the event in which the strobe `(direction, number)`
fires (the host's ACK of the status stage of CLEAR_FEATURE):
 * the endpoint (stream IN, stream OUT or status) whose direction and number are the ones named has toggle
   DATA0 afterwards (stream IN: provided it is not in WAIT_FOR_ACK, which `new_token` has ruled out);
 * every endpoint that is *not* named ends the event exactly as it would have without the strobe. -/
theorem clear_halt_resets_exactly_named_endpoint (ec : EpCfg) (sh : Shared) (d : Bool) (n : Nat)
    (hh : sh.halt = some (d, n)) (st : EpState) (e : HostEvent) (hk : C12.kindOk ec st = true)
    (he : e = .handshake PID_ACK) (htok : sh.tokEp = 0) (hnum : 0 < ec.num) (hnt : sh.newTok = false) :
    ((d = dirIn ec.kind ∧ n = ec.num) →
        (∀ x, st = .sin x → x.fsm ≠ .waitAck) → toggleOf (epStep ec sh st e).1 = false) ∧
    (¬(d = dirIn ec.kind ∧ n = ec.num) → epStep ec sh st e = epStep ec { sh with halt := none } st e) := by
  subst he
  have hne : ¬(sh.tokEp = ec.num) := by omega
  constructor
  · intro ⟨hd, hn⟩ hwa
    cases st with
    | sin x =>
      have hkind : ec.kind = .streamIn := by simpa [C12.kindOk] using hk
      simp only [epStep, haltHits, hh, hd, hn, hkind, dirIn, hnt, hne, toggleOf]
      simpa using inClearHalt_seq x (hwa x rfl)
    | sout x =>
      have hkind : ec.kind = .streamOut := by simpa [C12.kindOk] using hk
      simp_all [epStep, haltHits, dirIn, toggleOf]
    | sig x =>
      have hkind : ec.kind = .signalIn := by simpa [C12.kindOk] using hk
      simp_all [epStep, haltHits, dirIn, toggleOf]
  · intro hnot
    -- neither the strobe nor the ACK (it is for endpoint 0) reaches the endpoint
    have hmiss := haltHits_of_not_named ec (dirIn ec.kind) sh d n hh hnot
    cases st with
    | sin x =>
      have hkind : ec.kind = .streamIn := by simpa [C12.kindOk] using hk
      have hm : haltHits ec true sh = false := by rw [hkind] at hmiss; exact hmiss
      simp [epStep, hm, C12Sig.haltHits_none, hne, hnt]
    | sout x =>
      have hkind : ec.kind = .streamOut := by simpa [C12.kindOk] using hk
      have hm : haltHits ec false sh = false := by rw [hkind] at hmiss; exact hmiss
      simp [epStep, hm, C12Sig.haltHits_none, hnt]
    | sig x =>
      have hkind : ec.kind = .signalIn := by simpa [C12.kindOk] using hk
      have hm : haltHits ec true sh = false := by rw [hkind] at hmiss; exact hmiss
      simp [epStep, hm, C12Sig.haltHits_none, hne, hnt]

/-! ### F5: the strobe of a stalled CLEAR_FEATURE -/

theorem stdRequest_setup (c : DevConfig) (s : DevState) (r : Req) : (stdRequest c s r).1.setup = s.setup := by
  cases hh : s.hstate <;> cases r <;> simp only [stdRequest, hh] <;> (try split) <;> simp [toIdle]

theorem stdRequest_data (c : DevConfig) (s : DevState) (r : Req) (h : (stdRequest c s r).2.isData = true)
    (hc : (stdRequest c s r).1.hstate = .clearFeature) : clearFeatureStalls s.setup = false := by
  cases hh : s.hstate <;> cases r <;> simp only [stdRequest, hh] at h hc ⊢ <;>
    (try (split at h)) <;> (try (split at hc)) <;> simp_all [Resp.isData]

theorem request_setup (c : DevConfig) (s : DevState) (r : Req) : (request c s r).1.setup = s.setup := by
  simp only [request]
  split <;> split <;> first | rfl | exact stdRequest_setup c s r

/-- A DATA answer of the control endpoint that leaves the standard handler in CLEAR_FEATURE with its
outputs selected is the status-stage ZLP of a CLEAR_FEATURE it does not stall. -/
theorem request_data (c : DevConfig) (s : DevState) (r : Req) (h : (request c s r).2.isData = true)
    (hc : (request c s r).1.hstate = .clearFeature) (ho : owner c s.setup = .std)
    (ht : s.setup.type = TYPE_STANDARD) : clearFeatureStalls s.setup = false := by
  simp only [request, ho, ht, if_true] at h hc
  exact stdRequest_data c s r h hc

/-- A result written as a pair whose answer is visibly not a DATA packet. -/
theorem nodata {α : Prop} {r : Resp} (h : r.isData = true) (hr : r.isData = false := by rfl) : α :=
  absurd (h.symm.trans hr) Bool.noConfusion

theorem onToken_data (c : DevConfig) (s : DevState) (pid ep : Nat) (h : (onToken c s pid ep).2.isData = true) :
    ∃ r, onToken c s pid ep = request c (afterToken s pid ep) r := by
  revert h
  unfold onToken
  generalize afterToken s pid ep = s1
  by_cases hep : ep = 0
  · simp only [if_pos hep]
    cases s1.stage <;> simp only []
    case setup => exact fun h => nodata h
    all_goals split
    all_goals first | exact fun _ => ⟨_, rfl⟩ | exact fun h => nodata h
  · simp only [if_neg hep]; exact fun h => nodata h

theorem onData_data (c : DevConfig) (s : DevState) (p : List Nat) (ok : Bool) (h : (onData c s p ok).2.isData = true) :
    onData c s p ok = request c s .status := by
  revert h
  unfold onData
  repeat' split
  all_goals first | exact fun _ => rfl | exact fun h => nodata h

/-- Every DATA packet the control endpoint transmits is the answer of the request handlers to a data- or
status-stage request. -/
theorem core_data_from_request (c : DevConfig) (s : DevState) (e : HostEvent) (h : (core c s e).2.isData = true) :
    ∃ s1 r, core c s e = request c s1 r := by
  cases e with
  | token pid addr ep =>
    unfold core at h ⊢
    by_cases ha : addr = s.address
    · simp only [if_pos ha] at h ⊢
      exact ⟨_, onToken_data c s pid ep h⟩
    · simp only [if_neg ha] at h; exact nodata h
  | data pid p ok => exact ⟨_, _, onData_data c s p ok h⟩
  | _ => exact nodata h

/-- **strobe_only_after_zlp** (F5).  The CLEAR_FEATURE state of the standard request handler emits the
halt-clear strobe on the host's ACK without looking at its own stall condition.  `e1` is the event before
the ACK; a legal host sends an ACK to the control endpoint only if the control endpoint answered `e1` with
a DATA packet.  If the ACK then makes the strobe fire, that DATA packet was the status-stage ZLP of a
CLEAR_FEATURE(ENDPOINT_HALT) addressed to an endpoint — a stalled CLEAR_FEATURE never resets a toggle. -/
theorem strobe_only_after_zlp (c : DevConfig) (s : DevState) (e1 : HostEvent) (x : Bool × Nat)
    (hs : haltStrobe c (core c s e1).1 (.handshake PID_ACK) = some x)
    (hd : (core c s e1).2.isData = true) : clearFeatureStalls (core c s e1).1.setup = false := by
  have hcond : (core c s e1).1.hstate = .clearFeature ∧ owner c (core c s e1).1.setup = .std ∧
      (core c s e1).1.setup.type = TYPE_STANDARD := by
    simp only [haltStrobe] at hs
    split at hs
    · rename_i hc; exact ⟨hc.2.2.2.2.1, hc.2.2.2.2.2, hc.2.2.2.1⟩
    · simp at hs
  obtain ⟨s1, r, heq⟩ := core_data_from_request c s e1 hd
  rw [heq] at hd hcond ⊢
  rw [request_setup] at hcond ⊢
  exact request_data c s1 r hd hcond.1 hcond.2.1 hcond.2.2

end Events

end LunaVerif.C14
