import LunaVerif.Model.Usb3.Lfps
/-!
# C42 — LFPS patterns are detected exactly within their timing windows

"A periodic LFPS pattern (polling, ping) is reported only after consecutive bursts whose durations lie
within the pattern's burst window and whose repeat periods lie within its repeat window, and a
non-repeating pattern (warm reset) only after a burst within its window; signalling outside the
windows is never reported. The generator produces bursts of the typical length at the typical period
while enabled."

All durations are `ss` cycle counts (`Config` fields, any values satisfying the stated side
conditions).  Histories of the synchronised `present` signal are most-recent-first lists; the full
detector is the core behind a two-cycle delay (`full_eq_core`).
-/

namespace LunaVerif.Lfps.Detector

def coreAfter (c : Config) : List Bool → Core
  | [] => coreInit
  | p :: past => coreStep c (coreAfter c past) p

/-- what follows the history `r` begins at a rising edge: `present` was low in the last cycle of `r`, or `r` is empty
(reset) -/
def Edge (r : List Bool) : Prop := r = [] ∨ ∃ r', r = false :: r'

/-- the history ends with `G ≥ 1` idle cycles preceded by a burst of `B` cycles that began at a
rising edge, burst length and start-to-start period inside the windows -/
def PrevOK (c : Config) (rest : List Bool) : Prop :=
  ∃ G B r, 1 ≤ G ∧ rest = List.replicate G false ++ (List.replicate B true ++ r) ∧ Edge r ∧
    c.bmin ≤ B ∧ B ≤ c.bmax ∧ c.rmin ≤ B + G ∧ B + G ≤ c.rmax

/-- side conditions on the windows (checked below for Polling/Ping/Reset at 125 MHz; `wrap` = 2^width
of a counter able to hold max(bmax, rmax)) -/
structure Valid (c : Config) : Prop where
  bmax_pos : 1 ≤ c.bmax
  b_lt_r   : c.hasRepeat = true → c.bmax < c.rmax
  b_wrap   : c.bmax < c.wrap
  r_wrap   : c.hasRepeat = true → c.rmax < c.wrap

def Inv (c : Config) (s : Core) (past : List Bool) : Prop :=
  match s.fsm with
  | .wait => s.delayed = false → Edge past
  | .burst => s.delayed = true ∧ ∃ r, 1 ≤ s.count ∧ past = List.replicate s.count true ++ r ∧ Edge r ∧
      s.count ≤ c.bmax ∧ (s.last = true → PrevOK c r)
  | .rep => s.delayed = true ∧ c.hasRepeat = true ∧ ∃ G B r, 1 ≤ G ∧ s.count = B + G ∧
      past = List.replicate G false ++ (List.replicate B true ++ r) ∧ Edge r ∧
      c.bmin ≤ B ∧ B ≤ c.bmax ∧ B + G ≤ c.rmax ∧ (s.last = true → PrevOK c r)

theorem coreStep_burst (c : Config) (cnt : Nat) (d l : Bool) (h : cnt < c.bmax) (hw : c.bmax < c.wrap) :
    coreStep c ⟨.burst, cnt, d, l⟩ true = ⟨.burst, cnt + 1, d, l⟩ := by
  simp [coreStep, Nat.ne_of_lt h, Nat.mod_eq_of_lt (Nat.lt_of_le_of_lt h hw)]

theorem coreStep_burst_end (c : Config) (cnt : Nat) (d l : Bool) (hr : c.hasRepeat = true)
    (hmin : c.bmin ≤ cnt) (hw : cnt + 1 < c.wrap) :
    coreStep c ⟨.burst, cnt, d, l⟩ false = ⟨.rep, cnt + 1, d, l⟩ := by
  simp [coreStep, Nat.not_lt.2 hmin, hr, Nat.mod_eq_of_lt hw]

theorem coreStep_rep (c : Config) (cnt : Nat) (d l : Bool) (h : cnt < c.rmax) (hw : c.rmax < c.wrap) :
    coreStep c ⟨.rep, cnt, d, l⟩ false = ⟨.rep, cnt + 1, d, l⟩ := by
  simp [coreStep, Nat.ne_of_lt h, Nat.mod_eq_of_lt (Nat.lt_of_le_of_lt h hw)]

theorem inv_step (c : Config) (hv : Valid c) (s : Core) (past : List Bool) (p : Bool)
    (h : Inv c s past) : Inv c (coreStep c s p) (p :: past) := by
  obtain ⟨fsm, count, delayed, last⟩ := s
  cases fsm with
  | wait =>
    simp only [Inv] at h
    cases hd : delayed <;> cases hp : p <;> simp [coreStep, Inv, Edge]
    exact ⟨h hd, hv.bmax_pos⟩
  | burst =>
    simp only [Inv] at h
    obtain ⟨hdl, r, hB, hpast, he, hle, hl⟩ := h
    subst hdl
    cases hp : p
    · by_cases hmin : count < c.bmin
      · simp [coreStep, hmin, Inv]
      · cases hr : c.hasRepeat
        · simp [coreStep, hmin, hr, Inv]
        · have hlt := hv.b_lt_r hr
          have hw := hv.r_wrap hr
          rw [coreStep_burst_end c _ _ _ hr (by omega) (by omega)]
          simp only [Inv]
          exact ⟨trivial, hr, 1, count, r, by omega, rfl, by simp [hpast], he, by omega, hle, by omega, hl⟩
    · by_cases hmax : count = c.bmax
      · simp [coreStep, hmax, Inv]
      · rw [coreStep_burst c _ _ _ (by omega) hv.b_wrap]
        simp only [Inv]
        exact ⟨trivial, r, by omega, by simp [hpast, List.replicate_succ], he, by omega, hl⟩
  | rep =>
    simp only [Inv] at h
    obtain ⟨hdl, hr, G, B, r, hG, hc, hpast, he, hbmin, hbmax, hrmax, hl⟩ := h
    subst hc; subst hdl
    cases hp : p
    · by_cases hmax : B + G = c.rmax
      · simp [coreStep, hmax, Inv]
      · rw [coreStep_rep c _ _ _ (by omega) (hv.r_wrap hr)]
        simp only [Inv]
        exact ⟨trivial, hr, G + 1, B, r, by omega, by omega, by simp [hpast, List.replicate_succ], he,
               hbmin, hbmax, by omega, hl⟩
    · simp only [coreStep, Inv, if_true]
      refine ⟨trivial, past, by omega, by simp, ?_, hv.bmax_pos, ?_⟩
      · obtain ⟨g, hg⟩ : ∃ g, G = g + 1 := ⟨G - 1, by omega⟩
        exact Or.inr ⟨List.replicate g false ++ (List.replicate B true ++ r), by simp [hpast, hg, List.replicate_succ]⟩
      · intro hlast
        have : c.rmin ≤ B + G := by simpa using hlast
        exact ⟨G, B, r, hG, hpast, he, hbmin, hbmax, this, hrmax⟩

theorem inv_coreAfter (c : Config) (hv : Valid c) (past : List Bool) :
    Inv c (coreAfter c past) past := by
  induction past with
  | nil => simp [Inv, coreAfter, coreInit, Edge]
  | cons p past ih => exact inv_step c hv _ past p ih

/-- **C42 (detect ⇒ windows), on the synchronised signal.**  For all windows (`Valid`) and every
history: a `detect` in the cycle with `present = p` after the history `past` implies
* periodic pattern: `p` is the first cycle of a burst, and the history before it is
  idle `G1` · burst `B1` · idle `G0` · burst `B0` (most recent first), the earlier burst beginning at
  a rising edge, with both burst lengths in `[bmin, bmax]` and both start-to-start periods
  `B0 + G0`, `B1 + G1` in `[rmin, rmax]`;
* non-repeating pattern: `p` is the first idle cycle after a burst of `B ∈ [bmin, bmax]` cycles
  that began at a rising edge. -/
theorem core_detect_implies_windows (c : Config) (hv : Valid c) (past : List Bool) (p : Bool)
    (h : coreDetect c (coreAfter c past) p = true) :
    (c.hasRepeat = true ∧ p = true ∧ ∃ G1 B1 G0 B0 r, 1 ≤ G1 ∧ 1 ≤ G0 ∧
        past = List.replicate G1 false ++ (List.replicate B1 true ++
                (List.replicate G0 false ++ (List.replicate B0 true ++ r))) ∧ Edge r ∧
        c.bmin ≤ B1 ∧ B1 ≤ c.bmax ∧ c.rmin ≤ B1 + G1 ∧ B1 + G1 ≤ c.rmax ∧
        c.bmin ≤ B0 ∧ B0 ≤ c.bmax ∧ c.rmin ≤ B0 + G0 ∧ B0 + G0 ≤ c.rmax) ∨
    (c.hasRepeat = false ∧ p = false ∧ ∃ B r, 1 ≤ B ∧ past = List.replicate B true ++ r ∧ Edge r ∧
        c.bmin ≤ B ∧ B ≤ c.bmax) := by
  have hi := inv_coreAfter c hv past
  generalize coreAfter c past = s at h hi
  obtain ⟨fsm, count, delayed, last⟩ := s
  cases fsm with
  | wait => simp [coreDetect] at h
  | burst =>
    simp only [coreDetect, Bool.and_eq_true, Bool.not_eq_true', decide_eq_false_iff_not] at h
    obtain ⟨hr, hp, hmin⟩ := h
    simp only [Inv] at hi
    obtain ⟨_, r, hB, hpast, he, hle, _⟩ := hi
    exact Or.inr ⟨hr, hp, count, r, hB, hpast, he, by omega, hle⟩
  | rep =>
    simp only [coreDetect, Bool.and_eq_true, decide_eq_true_eq] at h
    obtain ⟨hp, hmin, hl⟩ := h
    simp only [Inv] at hi
    obtain ⟨_, hr, G, B, r, hG, hc, hpast, he, hbmin, hbmax, hrmax, hprev⟩ := hi
    subst hc
    obtain ⟨G0, B0, r0, hG0, hr0, he0, h1, h2, h3, h4⟩ := hprev hl
    exact Or.inl ⟨hr, hp, G, B, G0, B0, r0, hG, hG0, by rw [hpast, hr0], he0, hbmin, hbmax, hmin, hrmax,
                  h1, h2, h3, h4⟩

/-! ### the synchroniser: the full detector is the core two cycles later -/

def stateAfter (c : Config) : List Bool → State
  | [] => init
  | x :: sigs => (step c (stateAfter c sigs) x).1

/-- history of `present` belonging to a history of `signaling_received` (both most recent first):
two cycles older, `present` being low in the first two cycles after reset -/
def delayed2 (sigs : List Bool) : List Bool := sigs.drop 2 ++ List.replicate (min 2 sigs.length) false

theorem delayed2_cons (x : Bool) (sigs : List Bool) :
    delayed2 (x :: sigs) = sigs.getD 1 false :: delayed2 sigs := by
  match sigs with
  | [] => rfl
  | [a] => rfl
  | a :: b :: r => simp [delayed2, List.getD]

theorem full_eq_core (c : Config) (sigs : List Bool) :
    stateAfter c sigs = ⟨sigs.getD 0 false, sigs.getD 1 false, coreAfter c (delayed2 sigs)⟩ := by
  induction sigs with
  | nil => rfl
  | cons x sigs ih =>
    rw [stateAfter, ih, delayed2_cons]
    cases sigs <;> simp [step, coreAfter, List.getD]

def outsFrom (c : Config) : List Bool → List Bool → List Bool
  | _, [] => []
  | sigs, x :: xs => (step c (stateAfter c sigs) x).2 :: outsFrom c (x :: sigs) xs

theorem run_eq_outsFrom (c : Config) (sigs hist : List Bool) :
    run c (stateAfter c sigs) hist = outsFrom c sigs hist := by
  induction hist generalizing sigs with
  | nil => rfl
  | cons x xs ih => simp only [run, outsFrom]; rw [← ih (x :: sigs)]; rfl

/-- **C42 (detect ⇒ windows), full detector.**  `detect` in the cycle after the input history
`sigs` (whatever the input of the current cycle is) implies the window facts of
`core_detect_implies_windows` for the input as it was two cycles earlier. -/
theorem detect_implies_windows (c : Config) (hv : Valid c) (sigs : List Bool) (x : Bool)
    (h : (step c (stateAfter c sigs) x).2 = true) :
    let past := delayed2 sigs
    let p := sigs.getD 1 false
    (c.hasRepeat = true ∧ p = true ∧ ∃ G1 B1 G0 B0 r, 1 ≤ G1 ∧ 1 ≤ G0 ∧
        past = List.replicate G1 false ++ (List.replicate B1 true ++
                (List.replicate G0 false ++ (List.replicate B0 true ++ r))) ∧ Edge r ∧
        c.bmin ≤ B1 ∧ B1 ≤ c.bmax ∧ c.rmin ≤ B1 + G1 ∧ B1 + G1 ≤ c.rmax ∧
        c.bmin ≤ B0 ∧ B0 ≤ c.bmax ∧ c.rmin ≤ B0 + G0 ∧ B0 + G0 ≤ c.rmax) ∨
    (c.hasRepeat = false ∧ p = false ∧ ∃ B r, 1 ≤ B ∧ past = List.replicate B true ++ r ∧ Edge r ∧
        c.bmin ≤ B ∧ B ≤ c.bmax) := by
  rw [full_eq_core] at h
  exact core_detect_implies_windows c hv _ _ (by simpa [step] using h)

/-! ### converse: patterns inside the windows are reported -/

/-- feed `present` values, oldest first -/
def coreFeed (c : Config) : Core → List Bool → Core
  | s, [] => s
  | s, p :: ps => coreFeed c (coreStep c s p) ps

theorem coreFeed_append (c : Config) (s : Core) (a b : List Bool) :
    coreFeed c s (a ++ b) = coreFeed c (coreFeed c s a) b := by
  induction a generalizing s with
  | nil => rfl
  | cons p ps ih => simp only [List.cons_append, coreFeed]; exact ih _

theorem burst_hold (c : Config) (hw : c.bmax < c.wrap) (n cnt : Nat) (d l : Bool)
    (h : cnt + n ≤ c.bmax) :
    coreFeed c ⟨.burst, cnt, d, l⟩ (List.replicate n true) = ⟨.burst, cnt + n, d, l⟩ := by
  induction n generalizing cnt with
  | zero => rfl
  | succ n ih =>
    rw [List.replicate_succ, coreFeed, coreStep_burst c cnt d l (by omega) hw, ih (cnt + 1) (by omega)]
    congr 1; omega

theorem rep_hold (c : Config) (hw : c.rmax < c.wrap) (n cnt : Nat) (d l : Bool)
    (h : cnt + n ≤ c.rmax) :
    coreFeed c ⟨.rep, cnt, d, l⟩ (List.replicate n false) = ⟨.rep, cnt + n, d, l⟩ := by
  induction n generalizing cnt with
  | zero => rfl
  | succ n ih =>
    rw [List.replicate_succ, coreFeed, coreStep_rep c cnt d l (by omega) hw, ih (cnt + 1) (by omega)]
    congr 1; omega

theorem burst_then_idle (c : Config) (hv : Valid c) (hr : c.hasRepeat = true) (B : Nat) (d l : Bool)
    (hB : 1 ≤ B) (hmin : c.bmin ≤ B) (hmax : B ≤ c.bmax) :
    coreFeed c (coreFeed c ⟨.burst, 1, d, l⟩ (List.replicate (B - 1) true)) [false] = ⟨.rep, B + 1, d, l⟩ := by
  have hlt := hv.b_lt_r hr
  have hw := hv.r_wrap hr
  rw [burst_hold c hv.b_wrap (B - 1) 1 d l (by omega), (by omega : 1 + (B - 1) = B), coreFeed, coreFeed,
    coreStep_burst_end c B d l hr hmin (by omega)]

theorem rising_edge (c : Config) (s : Core) (hs : s.fsm = .wait ∧ s.delayed = false) :
    coreFeed c s [true] = ⟨.burst, 1, true, false⟩ := by
  obtain ⟨fsm, count, delayed, last⟩ := s
  obtain ⟨rfl, rfl⟩ := hs
  simp [coreFeed, coreStep]

/-- **C42 (windows ⇒ detect).**  Periodic pattern, all windows (`Valid`): when the detector waits
on a quiet line (`WAIT_FOR_NEXT_BURST`, `present` low in the previous cycle) and then sees
burst `B0` · idle `G0` · burst `B1` · idle `G1` with both burst lengths in `[bmin, bmax]` and both
periods `B + G` in `[rmin, rmax]` (in particular: strictly inside), `detect` is asserted in the first
cycle of the third burst. -/
theorem in_window_is_detected (c : Config) (hv : Valid c) (hr : c.hasRepeat = true)
    (s : Core) (hs : s.fsm = .wait ∧ s.delayed = false)
    (B0 G0 B1 G1 : Nat) (hB0 : 1 ≤ B0) (hG0 : 1 ≤ G0) (hB1 : 1 ≤ B1) (hG1 : 1 ≤ G1)
    (b0 : c.bmin ≤ B0 ∧ B0 ≤ c.bmax) (p0 : c.rmin ≤ B0 + G0 ∧ B0 + G0 ≤ c.rmax)
    (b1 : c.bmin ≤ B1 ∧ B1 ≤ c.bmax) (p1 : c.rmin ≤ B1 + G1 ∧ B1 + G1 ≤ c.rmax) :
    coreDetect c (coreFeed c s
      ([true] ++ (List.replicate (B0 - 1) true ++ [false]) ++ List.replicate (G0 - 1) false ++
       [true] ++ (List.replicate (B1 - 1) true ++ [false]) ++ List.replicate (G1 - 1) false)) true = true := by
  have hw := hv.r_wrap hr
  simp only [coreFeed_append]
  rw [rising_edge c s hs, burst_then_idle c hv hr B0 true false hB0 b0.1 b0.2,
      rep_hold c hw (G0 - 1) (B0 + 1) true false (by omega)]
  have e2 : coreFeed c ⟨.rep, B0 + 1 + (G0 - 1), true, false⟩ [true] = ⟨.burst, 1, true, true⟩ := by
    have : c.rmin ≤ B0 + 1 + (G0 - 1) := by omega
    simp [coreFeed, coreStep, this]
  rw [e2, burst_then_idle c hv hr B1 true true hB1 b1.1 b1.2,
      rep_hold c hw (G1 - 1) (B1 + 1) true true (by omega)]
  have : c.rmin ≤ B1 + 1 + (G1 - 1) := by omega
  simp [coreDetect, this]

/-- … and the non-repeating pattern: a burst of `B ∈ [bmin, bmax]` cycles after a quiet line is
reported in its first idle cycle. -/
theorem in_window_is_detected_single (c : Config) (hv : Valid c) (hr : c.hasRepeat = false)
    (s : Core) (hs : s.fsm = .wait ∧ s.delayed = false) (B : Nat) (hB : 1 ≤ B)
    (b : c.bmin ≤ B ∧ B ≤ c.bmax) :
    coreDetect c (coreFeed c s ([true] ++ List.replicate (B - 1) true)) false = true := by
  simp only [coreFeed_append]
  rw [rising_edge c s hs, burst_hold c hv.b_wrap (B - 1) 1 true false (by omega)]
  have hnm : ¬ (1 + (B - 1) < c.bmin) := by omega
  simp [coreDetect, hr, hnm]

/-- the three USB patterns at the real 125 MHz clock satisfy the side conditions -/
example : Valid ⟨75, 175, true, 750, 1750, 2048⟩ := ⟨by decide, by decide, by decide, by decide⟩
example : Valid ⟨5, 20, true, 20000000, 30000000, 33554432⟩ := ⟨by decide, by decide, by decide, by decide⟩
example : Valid ⟨10000000, 15000000, false, 0, 0, 16777216⟩ := ⟨by decide, by simp, by decide, by simp⟩

/-- Non-vacuity: windows burst 2..3, period 5..7; bursts of 2 every 6 cycles: `detect` with the third
burst (two cycles after the input, through the synchroniser). -/
example : run ⟨2, 3, true, 5, 7, 8⟩ init
    [true, true, false, false, false, false, true, true, false, false, false, false, true, true, false, false]
    = [false, false, false, false, false, false, false, false, false, false, false, false, false, false,
       true, false] := by decide

end LunaVerif.Lfps.Detector

namespace LunaVerif.Lfps.Generator

def runState (c : Config) : State → List Bool → State
  | s, [] => s
  | s, x :: xs => runState c (step c s x).1 xs

theorem run_append (c : Config) (s : State) (a b : List Bool) :
    run c s (a ++ b) = run c s a ++ run c (runState c s a) b := by
  induction a generalizing s with
  | nil => rfl
  | cons x xs ih => simp only [List.cons_append, run, runState, ih]

theorem runState_append (c : Config) (s : State) (a b : List Bool) :
    runState c s (a ++ b) = runState c (runState c s a) b := by
  induction a generalizing s with
  | nil => rfl
  | cons x xs ih => simp only [List.cons_append, runState, ih]

def sendOut : Out := ⟨true, true, false⟩
def idleOut : Out := ⟨true, false, false⟩
def doneOut : Out := ⟨true, false, true⟩

theorem phase (c : Config) (f : Fsm) (o : Out) (lim : Nat)
    (hstep : ∀ cnt x, cnt + 1 < lim → step c ⟨f, cnt⟩ x = (⟨f, cnt + 1⟩, o))
    (xs : List Bool) (cnt : Nat) (h : cnt + xs.length < lim) :
    run c ⟨f, cnt⟩ xs = List.replicate xs.length o ∧ runState c ⟨f, cnt⟩ xs = ⟨f, cnt + xs.length⟩ := by
  induction xs generalizing cnt with
  | nil => exact ⟨rfl, rfl⟩
  | cons x xs ih =>
    simp only [List.length_cons] at h
    obtain ⟨h1, h2⟩ := ih (cnt + 1) (by omega)
    simp only [run, runState, hstep cnt x (by omega), List.length_cons, List.replicate_succ, h1, h2]
    exact ⟨trivial, by congr 1; omega⟩

set_option linter.unusedVariables false in -- `hb` follows from `h1`
/-- **C42 (generator).**  For all cycle counts `1 ≤ burst < period ≤ wrap`: a request seen in IDLE
(any counter value) is followed — whatever `generate` does meanwhile — by exactly `burst` cycles of
`send_signaling`, then `period - burst` cycles of electrical idle without signalling, the last of
them carrying `completed`; `drive_electrical_idle` is high throughout; then the generator is in IDLE
again.  With `generate` held the next burst therefore starts `period + 1` cycles after the previous
one (one IDLE cycle per LFPS cycle). -/
theorem generator_burst_and_period (c : Config) (hb : 1 ≤ c.burst) (hbp : c.burst < c.period)
    (hw : c.period ≤ c.wrap) (n : Nat) (xs1 : List Bool) (a : Bool) (xs2 : List Bool) (b : Bool)
    (h1 : xs1.length + 1 = c.burst) (h2 : xs2.length + 1 + c.burst = c.period) :
    run c ⟨.idle, n⟩ ([true] ++ xs1 ++ [a] ++ xs2 ++ [b]) =
      [idleOut] ++ List.replicate c.burst sendOut ++ List.replicate (c.period - c.burst - 1) idleOut ++ [doneOut] ∧
    (runState c ⟨.idle, n⟩ ([true] ++ xs1 ++ [a] ++ xs2 ++ [b])).fsm = .idle := by
  obtain ⟨p1, q1⟩ := phase c .burst sendOut c.burst (fun cnt x h => by
    have : cnt + 1 ≠ c.burst := by omega
    simp [step, this, Nat.mod_eq_of_lt (show cnt + 1 < c.wrap by omega), sendOut]) xs1 0 (by omega)
  have e0r : run c ⟨.idle, n⟩ [true] = [idleOut] := by simp [run, step, idleOut]
  have e0s : runState c ⟨.idle, n⟩ [true] = ⟨.burst, 0⟩ := by simp [runState, step]
  have hlast : (0 + xs1.length + 1 == c.burst) = true := by simp; omega
  have hmw : (0 + xs1.length + 1) % c.wrap = c.burst := by
    rw [Nat.mod_eq_of_lt (by omega)]; omega
  have ear : run c ⟨.burst, 0 + xs1.length⟩ [a] = [sendOut] := by simp [run, step, sendOut]
  have eas : runState c ⟨.burst, 0 + xs1.length⟩ [a] = ⟨.wait, c.burst⟩ := by
    simp only [runState, step, hlast, if_true, hmw]
  obtain ⟨p2, q2⟩ := phase c .wait idleOut c.period (fun cnt x h => by
    have : cnt + 1 ≠ c.period := by omega
    simp [step, this, Nat.mod_eq_of_lt (show cnt + 1 < c.wrap by omega), idleOut]) xs2 c.burst (by omega)
  have hfin : (c.burst + xs2.length + 1 == c.period) = true := by simp; omega
  have ebr : run c ⟨.wait, c.burst + xs2.length⟩ [b] = [doneOut] := by simp [run, step, hfin, doneOut]
  have ebs : (runState c ⟨.wait, c.burst + xs2.length⟩ [b]).fsm = .idle := by simp [runState, step, hfin]
  have hl2 : xs2.length = c.period - c.burst - 1 := by omega
  have hl1 : List.replicate xs1.length sendOut ++ [sendOut] = List.replicate c.burst sendOut := by
    rw [← h1, List.replicate_succ']
  constructor
  · simp only [run_append, runState_append, e0r, e0s, p1, q1, ear, eas, p2, q2, ebr]
    rw [← hl1, ← hl2]
    simp only [List.append_assoc]
  · simp only [runState_append, e0s, q1, eas, q2, ebs]

/-- the real Polling generator at 125 MHz: 125-cycle bursts (1 µs), LFPS cycle 1250 + 1 idle cycle
= 10.008 µs, inside the 6–14 µs repeat window (750..1750 cycles) -/
example : (1 : Nat) ≤ 125 ∧ 125 < 1250 ∧ 1250 ≤ 2048 ∧ 750 ≤ 1250 + 1 ∧ 1250 + 1 ≤ 1750 := by decide

/-- Non-vacuity: burst 2, period 5 with `generate` held: bursts start every 6 cycles -/
example : (run ⟨2, 5, 8⟩ init (List.replicate 13 true)).map (·.send)
    = [false, true, true, false, false, false, false, true, true, false, false, false, false] := by decide

end LunaVerif.Lfps.Generator
