import LunaVerif.Props.C56
import LunaVerif.Model.Periph.IlaStream
/-!
# C56 — read-out of the captured samples through `StreamILA`

"The ILA captures exactly the samples following a trigger" — for the stream wrapper: after a trigger that is
seen while the wrapper is idle, the words transferred on the output stream (cycles with `valid ∧ ready`) are exactly
the `depth` consecutive (delayed) samples that followed the trigger, in order, each once, the first one flagged
`first`, the last one flagged `last` — under every `ready` pattern, every input waveform and every trigger activity
during capture and read-out.  The number of words transferred is an explicit function of the number of `ready`
cycles offered: the read-out needs two ready cycles per word (one to let the synchronous read port fetch the word,
one to transfer it), one less for the very first read-out after reset (`data_valid` resets to 1).

When the consumer of the stream is another machine (the UART transmitter, the CDC FIFO) the ready pattern is generated by
feedback and the history does not stop when the last word has been transferred: `capture_readout` / `stream_readout_any` cover
every continuation `ys` of a capture in which no *new* capture is started (`noRetrigger`: the trigger input is low in every cycle
in which the wrapper FSM is IDLE; triggers while it is SAMPLING / SENDING are allowed — the wrapper blocks them).  The theorems
with a bound on the ready cycles instead (`stream_readout_exact` and its corollaries) follow: a new capture can start only when
those ready cycles are used up (`readout_cut`).

Cycle numbering: `x0` is the cycle in which the trigger is seen (wrapper IDLE), `xs` the `depth` capture cycles,
`xl` the cycle in which the wrapper sees `complete` (SAMPLING → SENDING), `ys` the cycles of the read-out.
-/
namespace LunaVerif.IlaStream
open LunaVerif.Ila

/-- a transferred stream word: (payload, first, last) -/
abbrev Xfer := Nat × Bool × Bool

def xferOf (i : In) (o : Out) : List Xfer :=
  if o.valid && i.ready then [(o.payload, o.first, o.last)] else []

def transfers (c : Config) : State → List In → List Xfer
  | _, [] => []
  | s, x :: xs => xferOf x (step c s x).2 ++ transfers c (step c s x).1 xs

/-- the spec: a buffer of samples as a framed packet -/
def frameFrom (first : Bool) : List Nat → List Xfer
  | [] => []
  | v :: rest => (v, first, rest.isEmpty) :: frameFrom false rest

def frame (samples : List Nat) : List Xfer := frameFrom true samples

def readyCount (ys : List In) : Nat := ys.countP (·.ready)

def inputsOfW (xs : List In) : List Nat := xs.map (·.inputs)

/-- a reachable idle state of the wrapper; the last clause: `data_valid` is still at its reset value 1 only while
`current_sample_number` is at its own, i.e. before the first read-out -/
def WIdle (c : Config) (σ : State) : Prop :=
  σ.fsm = .idle ∧ IdleState c σ.core ∧ σ.first = false ∧ (σ.dv = true → σ.csn = 0)

def noRetrigger (c : Config) : State → List In → Prop
  | _, [] => True
  | s, y :: ys => (s.fsm = .idle → y.trigger = false) ∧ noRetrigger c (step c s y).1 ys

instance (c : Config) : ∀ s ys, Decidable (noRetrigger c s ys)
  | _, [] => isTrue trivial
  | s, y :: ys =>
    have := instDecidableNoRetrigger c (step c s y).1 ys
    inferInstanceAs (Decidable ((s.fsm = .idle → y.trigger = false) ∧ noRetrigger c (step c s y).1 ys))

theorem transfers_eq_run (c : Config) (xs : List In) : ∀ s,
    transfers c s xs = ((xs.zip (run c s xs)).map (fun p => xferOf p.1 p.2)).flatten := by
  induction xs with
  | nil => intro s; rfl
  | cons x xs ih => intro s; simp [transfers, run, ih]

theorem transfers_append (c : Config) (a b : List In) : ∀ s,
    transfers c s (a ++ b) = transfers c s a ++ transfers c (runState c s a) b := by
  induction a with
  | nil => intro s; rfl
  | cons x a ih => intro s; simp [transfers, runState, ih]

theorem runState_append (c : Config) (a b : List In) : ∀ s,
    runState c s (a ++ b) = runState c (runState c s a) b := by
  induction a with
  | nil => intro s; rfl
  | cons x a ih => intro s; simp [runState, ih]

theorem noRetrigger_append (c : Config) (a b : List In) : ∀ s,
    noRetrigger c s (a ++ b) ↔ noRetrigger c s a ∧ noRetrigger c (runState c s a) b := by
  induction a with
  | nil => intro s; simp [noRetrigger, runState]
  | cons x a ih => intro s; simp [noRetrigger, runState, ih, and_assoc]

theorem readyCount_cons (y : In) (ys : List In) : readyCount (y :: ys) = readyCount ys + y.ready.toNat := by
  cases h : y.ready <;> simp [readyCount, h]

theorem readyCount_append (a b : List In) : readyCount (a ++ b) = readyCount a + readyCount b := by
  simp [readyCount]

theorem transfers_nil_of_no_ready (c : Config) (ys : List In) : ∀ s, readyCount ys = 0 → transfers c s ys = [] := by
  induction ys with
  | nil => intro s _; rfl
  | cons y ys ih =>
    intro s h
    simp only [readyCount, List.countP_cons] at h
    have hy : y.ready = false := by cases hr : y.ready <;> simp [hr] at h ⊢
    have h' : readyCount ys = 0 := by simp only [readyCount]; omega
    simp [transfers, xferOf, hy, ih _ h']

theorem frameFrom_drop (l : List Nat) : ∀ (f : Bool) (j : Nat) (h : j < l.length),
    (frameFrom f l).drop j =
      (l[j], f && decide (j = 0), decide (j + 1 = l.length)) :: (frameFrom f l).drop (j + 1) := by
  induction l with
  | nil => intro f j h; simp at h
  | cons a l ih =>
    intro f j h
    cases j with
    | zero => cases l <;> simp [frameFrom]
    | succ j => simpa [frameFrom] using ih false j (by simpa using h)

theorem frameFrom_payloads (l : List Nat) : ∀ f, (frameFrom f l).map (·.1) = l := by
  induction l with
  | nil => intro f; rfl
  | cons a l ih => intro f; simp [frameFrom, ih]

theorem frameFrom_length (l : List Nat) : ∀ f, (frameFrom f l).length = l.length := by
  induction l with
  | nil => intro f; rfl
  | cons a l ih => intro f; simp [frameFrom, ih]

/-! ## SAMPLING: the wrapper waits, with the trigger blocked, while the core's `complete` is low -/

def coreWait (csn : Nat) (i : In) : Ila.In := ⟨false, i.inputs, csn⟩

theorem sampling_phase (c : Config) (csn : Nat) (f dv : Bool) (xs : List In) : ∀ core : Ila.State,
    (Ila.run c core (xs.map (coreWait csn))).map (fun o => (o.sampling, o.complete)) = List.replicate xs.length (true, false) →
    runState c ⟨core, .sampling, csn, f, dv⟩ xs = ⟨Ila.runState c core (xs.map (coreWait csn)), .sampling, csn, f, dv⟩ ∧
    transfers c ⟨core, .sampling, csn, f, dv⟩ xs = [] := by
  induction xs with
  | nil => intro core _; exact ⟨rfl, rfl⟩
  | cons x xs ih =>
    intro core h
    simp only [List.map_cons, Ila.run, List.length_cons, List.replicate_succ, List.cons.injEq, Prod.mk.injEq] at h
    obtain ⟨⟨_, h0⟩, hrest⟩ := h
    obtain ⟨i1, i2⟩ := ih _ hrest
    simp only [coreWait] at h0 i1 i2 ⊢
    simp [runState, transfers, xferOf, step, coreIn, coreWait, h0, i1, i2, Ila.runState]

/-! ## the read-out phase

From the hand-over cycle until the next accepted trigger the core rests with the captured buffer `M` in its memory and the
wrapper is SENDING or IDLE.  Seen from the stream, such a state is two counters, `rem` (words still to hand over) and
`data_valid`, driven by `ready` alone: `readout_step`. -/

def rem (c : Config) (s : State) : Nat :=
  match s.fsm with
  | .sending => c.depth - s.csn
  | _ => 0

def Reading (c : Config) (M : List Nat) (s : State) : Prop :=
  Rests M s.core ∧ M.length = c.depth ∧
  match s.fsm with
  | .idle => s.first = false ∧ s.dv = false
  | .sampling => False
  | .sending => s.csn < c.depth ∧ s.first = decide (s.csn = 0) ∧ (s.dv = true → s.core.rdata = memRead M s.csn)

/-- The core's memory read inside the buffer (what `Reading` says of `rdata`). -/
theorem memRead_lt (mem : List Nat) (j : Nat) (h : j < mem.length) : memRead mem j = mem[j] := by
  simp [memRead, List.getElem?_eq_getElem h]

theorem readout_step (c : Config) (M : List Nat) (s : State) (h : Reading c M s) (i : In)
    (hi : s.fsm = .idle → i.trigger = false) :
    Reading c M (step c s i).1 ∧ (step c s i).1.core.complete = s.core.complete ∧
    rem c (step c s i).1 = rem c s - (decide (1 ≤ rem c s) && s.dv && i.ready).toNat ∧
    (step c s i).1.dv = (if decide (1 ≤ rem c s) && i.ready then !s.dv else s.dv) ∧
    (step c s i).2.valid = (decide (1 ≤ rem c s) && s.dv) ∧
    xferOf i (step c s i).2 =
      ((frame M).drop (c.depth - rem c s)).take (decide (1 ≤ rem c s) && s.dv && i.ready).toNat := by
  obtain ⟨⟨cf, wpos, wen, cpl, mem, rd, dl⟩, fsm, csn, f, dv⟩ := s
  obtain ⟨⟨h1, h2, h3⟩, h4, h5⟩ := h
  simp only at h1 h2 h3 h5 hi; subst h1 h2 h3
  cases fsm
  · obtain ⟨rfl, rfl⟩ := h5
    simp [step, coreIn, Ila.step, hi rfl, Reading, Rests, rem, xferOf, h4]
  · exact h5.elim
  · obtain ⟨hj, hf, hrd⟩ := h5
    have hP := le_two_pow_rangeWidth c.depth
    have hR : 1 ≤ c.depth - csn := by omega
    have hdrop : c.depth - (c.depth - csn) = csn := by omega
    cases hr : i.ready <;> cases dv
    · simp [step, coreIn, Ila.step, hr, Reading, Rests, rem, xferOf, h4, hj, hf, hR]
    · simp [step, coreIn, Ila.step, hr, Reading, Rests, rem, xferOf, h4, hj, hf, hR]
    · simp [step, coreIn, Ila.step, hr, Reading, Rests, rem, xferOf, h4, hj, hf, hR]
    · have hw : ((frame mem).drop csn).take 1 = [(rd, decide (csn = 0), decide (csn = c.depth - 1))] := by
        rw [frame, frameFrom_drop mem true csn (by omega), hrd rfl, memRead_lt mem csn (by omega)]
        simp only [Bool.true_and, List.take_succ_cons, List.take_zero, List.cons.injEq, Prod.mk.injEq, decide_eq_decide,
          and_true, true_and]
        omega
      by_cases hl : csn = c.depth - 1
      · subst hl
        simp [step, coreIn, Ila.step, hr, Reading, Rests, rem, xferOf, h4, hf, hR, hdrop, hw]
        omega
      · have hmod : (csn + 1) % 2 ^ rangeWidth c.depth = csn + 1 := Nat.mod_eq_of_lt (by omega)
        simp [step, coreIn, Ila.step, hr, Reading, Rests, rem, xferOf, h4, hf, hR, hdrop, hl, hmod, hw]
        omega

theorem rem_le (c : Config) (s : State) : rem c s ≤ c.depth := by
  unfold rem; split <;> omega

/-- one cycle of the closed form `(readyCount + data_valid) / 2` of `readout_run`, in the expressions `readout_step` gives
for the word that goes out and for `data_valid` after the cycle -/
theorem xfer_count (R n : Nat) (dv r : Bool) (hR : 1 ≤ R) :
    (n + r.toNat + dv.toNat) / 2 =
      (decide (1 ≤ R) && dv && r).toNat + (n + (if decide (1 ≤ R) && r then !dv else dv).toNat) / 2 := by
  cases dv <;> cases r <;> simp [hR] <;> omega

theorem readout_run (c : Config) (M : List Nat) (ys : List In) : ∀ s, Reading c M s → noRetrigger c s ys →
    transfers c s ys = ((frame M).drop (c.depth - rem c s)).take ((readyCount ys + s.dv.toNat) / 2) ∧
    rem c (runState c s ys) = rem c s - (readyCount ys + s.dv.toNat) / 2 ∧
    Reading c M (runState c s ys) ∧ (runState c s ys).core.complete = s.core.complete := by
  induction ys with
  | nil =>
    intro s h _
    have : s.dv.toNat / 2 = 0 := by cases s.dv <;> rfl
    simp [transfers, runState, readyCount, this, h]
  | cons y ys ih =>
    intro s h hq
    obtain ⟨r1, r2, r3, r4, _, r6⟩ := readout_step c M s h y hq.1
    obtain ⟨i1, i2, i3, i4⟩ := ih _ r1 hq.2
    have hle := rem_le c s
    simp only [transfers, runState, readyCount_cons]
    rw [i1, i2, r6, r3, r4, i4, r2]
    refine ⟨?_, ?_, i3, rfl⟩
    · rcases Nat.eq_zero_or_pos (rem c s) with h0 | h1
      · have hF : (frame M).drop (c.depth - 0) = [] := by
          rw [List.drop_eq_nil_iff, frame, frameFrom_length, h.2.1]; omega
        rw [h0]; simp only [Nat.zero_sub, hF, List.take_nil, List.append_nil, Bool.toNat_false, decide_false, Bool.false_and, Nat.le_zero_eq, Nat.one_ne_zero]
      · rw [xfer_count _ _ _ _ h1, List.take_add, List.drop_drop]
        congr 3
        cases (decide (1 ≤ rem c s) && s.dv && y.ready) <;> simp <;> omega
    · rcases Nat.eq_zero_or_pos (rem c s) with h0 | h1
      · simp [h0]
      · rw [xfer_count _ _ _ _ h1]; omega

/-- the inputs the core sees during a capture (trigger cycle, then the wrapper waiting) are the wrapper's -/
theorem inputsOf_coreWait (csn : Nat) (x0 : In) (xs : List In) :
    inputsOf (⟨true, x0.inputs, csn⟩ :: xs.map (coreWait csn)) = inputsOfW (x0 :: xs) := by
  simp [inputsOf, inputsOfW, coreWait, List.map_map, Function.comp_def]

theorem samples_length (c : Config) (σ : State) (x0 : In) (xs : List In) (hl : xs.length = c.depth) :
    (((σ.core.dl ++ inputsOfW (x0 :: xs)).drop 1).take c.depth).length = c.depth := by
  simp only [List.length_take, List.length_drop, List.length_append, inputsOfW, List.length_map, List.length_cons, hl]
  omega

theorem frame_take (c : Config) (σ : State) (x0 : In) (xs : List In) (hl : xs.length = c.depth) (k : Nat)
    (hk : c.depth ≤ k) :
    (frame (((σ.core.dl ++ inputsOfW (x0 :: xs)).drop 1).take c.depth)).take k =
      frame (((σ.core.dl ++ inputsOfW (x0 :: xs)).drop 1).take c.depth) :=
  List.take_of_length_le (by rw [frame, frameFrom_length, samples_length c σ x0 xs hl]; exact hk)

theorem handover (c : Config) (hd : 1 ≤ c.depth) (σ : State) (hσ : WIdle c σ)
    (x0 : In) (ht : x0.trigger = true) (xs : List In) (hl : xs.length = c.depth) (xl : In) :
    transfers c σ (x0 :: xs ++ [xl]) = [] ∧
    Reading c (((σ.core.dl ++ inputsOfW (x0 :: xs)).drop 1).take c.depth) (runState c σ (x0 :: xs ++ [xl])) ∧
    rem c (runState c σ (x0 :: xs ++ [xl])) = c.depth ∧ (runState c σ (x0 :: xs ++ [xl])).dv = σ.dv ∧
    (runState c σ (x0 :: xs ++ [xl])).core.complete = true := by
  have hlen := samples_length c σ x0 xs hl
  obtain ⟨core, fsm, csn, f, dv⟩ := σ
  obtain ⟨hf, hcore, hfirst, hdv⟩ := hσ
  simp only at hf hcore hfirst hdv hlen; subst hf hfirst
  have H := captures_depth_consecutive_samples c hd core hcore ⟨true, x0.inputs, csn⟩ rfl (xs.map (coreWait csn))
    (by simp [hl])
  obtain ⟨h1, h2, h3, h4, h5⟩ := H
  simp only [Ila.run, List.map_cons, List.cons.injEq] at h5
  simp only [Ila.runState] at h1 h2 h3 h4
  rw [inputsOf_coreWait] at h4
  obtain ⟨s1, s2⟩ := sampling_phase c csn false dv xs _ (by rw [h5.2, hl])
  generalize Ila.runState c (Ila.step c core ⟨true, x0.inputs, csn⟩).1 (xs.map (coreWait csn)) = fin at h1 h2 h3 h4 s1
  obtain ⟨k1, k2, k3⟩ := Rests.cycle ⟨h1, h2, h4⟩ c xl.inputs csn
  have hc : (Ila.step c fin ⟨false, xl.inputs, csn⟩).2.complete = true := by simp [Ila.step, h1, h3]
  have hrun : runState c ⟨core, .idle, csn, false, dv⟩ (x0 :: xs ++ [xl]) =
      ⟨(Ila.step c fin ⟨false, xl.inputs, csn⟩).1, .sending, 0, true, dv⟩ := by
    simp [runState, runState_append, step, coreIn, ht, s1, hc]
  refine ⟨?_, ?_⟩
  · simp [transfers, transfers_append, xferOf, step, coreIn, ht, s1, s2, hc]
  · rw [hrun]
    exact ⟨⟨k1, hlen, hd, rfl, fun h => by cases hdv h; exact k2⟩, by simp [rem], rfl, by rw [← h3]; exact k3⟩

theorem reading_idle (c : Config) (M : List Nat) (s : State) (h : Reading c M s) :
    (rem c s = 0 ↔ s.fsm = .idle) ∧ (s.fsm = .idle → WIdle c s ∧ s.dv = false) := by
  obtain ⟨h1, h4, h5⟩ := h
  constructor
  · cases hf : s.fsm <;> simp only [rem, hf] at h5 ⊢ <;> simp <;> omega
  · intro hf
    simp only [hf] at h5
    exact ⟨⟨hf, h1.idle h4, h5.1, fun h => by rw [h5.2] at h; cases h⟩, h5.2⟩

theorem capture_readout (c : Config) (hd : 1 ≤ c.depth) (σ : State) (hσ : WIdle c σ)
    (x0 : In) (ht : x0.trigger = true) (xs : List In) (hl : xs.length = c.depth) (xl : In) (ys : List In)
    (hq : noRetrigger c (runState c σ (x0 :: xs ++ [xl])) ys) :
    transfers c σ (x0 :: xs ++ xl :: ys) =
      (frame (((σ.core.dl ++ inputsOfW (x0 :: xs)).drop 1).take c.depth)).take ((readyCount ys + σ.dv.toNat) / 2) ∧
    ((runState c σ (x0 :: xs ++ xl :: ys)).fsm = .idle ↔ c.depth ≤ (readyCount ys + σ.dv.toNat) / 2) ∧
    ((runState c σ (x0 :: xs ++ xl :: ys)).fsm = .idle →
      WIdle c (runState c σ (x0 :: xs ++ xl :: ys)) ∧ (runState c σ (x0 :: xs ++ xl :: ys)).dv = false) ∧
    (runState c σ (x0 :: xs ++ xl :: ys)).core.mem = ((σ.core.dl ++ inputsOfW (x0 :: xs)).drop 1).take c.depth ∧
    (runState c σ (x0 :: xs ++ xl :: ys)).core.complete = true := by
  obtain ⟨t0, hR, hrem, hdv, hc⟩ := handover c hd σ hσ x0 ht xs hl xl
  obtain ⟨r1, r2, r3, r4⟩ := readout_run c _ ys _ hR hq
  obtain ⟨e, w⟩ := reading_idle c _ _ r3
  have hsplit : x0 :: xs ++ xl :: ys = (x0 :: xs ++ [xl]) ++ ys := by simp
  rw [hsplit, transfers_append c (x0 :: xs ++ [xl]) ys, runState_append c (x0 :: xs ++ [xl]) ys, t0, r1, r4, hc, hrem, hdv]
  exact ⟨by simp, by rw [← e, r2, hrem, hdv]; exact Nat.sub_eq_zero_iff_le, w, r3.1.2.2, rfl⟩

/-- **stream_readout_any**: a trigger seen while the wrapper is idle (`x0`), the `depth` capture cycles `xs`, the
hand-over cycle `xl`, then ANY continuation `ys` that starts no new capture (every ready pattern, waveform, and
trigger activity while the wrapper is busy): the words transferred on the stream during the whole history are the
first `k` of the `depth` captured samples, framed; and if the wrapper is idle at the end, `k ≥ depth`: all of
them, in order, each once. -/
theorem stream_readout_any (c : Config) (hd : 1 ≤ c.depth) (σ : State) (hσ : WIdle c σ)
    (x0 : In) (ht : x0.trigger = true) (xs : List In) (hl : xs.length = c.depth) (xl : In) (ys : List In)
    (hq : noRetrigger c (runState c σ (x0 :: xs ++ [xl])) ys) :
    ∃ k, transfers c σ (x0 :: xs ++ xl :: ys) =
        (frame (((σ.core.dl ++ inputsOfW (x0 :: xs)).drop 1).take c.depth)).take k ∧
      ((runState c σ (x0 :: xs ++ xl :: ys)).fsm = .idle → c.depth ≤ k) := by
  obtain ⟨h1, h2, _⟩ := capture_readout c hd σ hσ x0 ht xs hl xl ys hq
  exact ⟨_, h1, h2.mp⟩

/-- **stream_readout_total** (StreamILA, liveness relative to the consumer): a trigger seen while the wrapper is idle, the
`depth` capture cycles, the hand-over cycle, then ANY continuation `ys` that starts no new capture and in which the consumer
offers at least `2·depth - data_valid` ready cycles (at any times): the words transferred on the stream during the whole
history are exactly the `depth` captured samples, framed, in order, each once, and the wrapper is idle again.  (The wrapper
never stalls by itself: the only thing it waits for is `ready`.) -/
theorem stream_readout_total (c : Config) (hd : 1 ≤ c.depth) (σ : State) (hσ : WIdle c σ)
    (x0 : In) (ht : x0.trigger = true) (xs : List In) (hl : xs.length = c.depth) (xl : In) (ys : List In)
    (hq : noRetrigger c (runState c σ (x0 :: xs ++ [xl])) ys) (hn : 2 * c.depth - σ.dv.toNat ≤ readyCount ys) :
    transfers c σ (x0 :: xs ++ xl :: ys) = frame (((σ.core.dl ++ inputsOfW (x0 :: xs)).drop 1).take c.depth) ∧
    (runState c σ (x0 :: xs ++ xl :: ys)).fsm = .idle := by
  obtain ⟨h1, h2, _⟩ := capture_readout c hd σ hσ x0 ht xs hl xl ys hq
  refine ⟨?_, h2.mpr (by omega)⟩
  rw [h1, frame_take c σ x0 xs hl _ (by omega)]

theorem split_retrigger (c : Config) (ys : List In) : ∀ s : State,
    ∃ a b, ys = a ++ b ∧ noRetrigger c s a ∧
      (b = [] ∨ ∃ y rest, b = y :: rest ∧ (runState c s a).fsm = .idle ∧ y.trigger = true) := by
  induction ys with
  | nil => intro s; exact ⟨[], [], rfl, trivial, Or.inl rfl⟩
  | cons y ys ih =>
    intro s
    by_cases hh : s.fsm = .idle ∧ y.trigger = true
    · exact ⟨[], y :: ys, rfl, trivial, Or.inr ⟨y, ys, rfl, hh.1, hh.2⟩⟩
    · obtain ⟨a, b, e, ha, hb⟩ := ih (step c s y).1
      refine ⟨y :: a, b, by rw [e]; rfl, ⟨?_, ha⟩, hb⟩
      intro hf
      cases ht : y.trigger
      · rfl
      · exact absurd ⟨hf, ht⟩ hh

theorem readout_cut (c : Config) (hd : 1 ≤ c.depth) (σ : State) (hσ : WIdle c σ)
    (x0 : In) (ht : x0.trigger = true) (xs : List In) (hl : xs.length = c.depth) (xl : In) (ys : List In) :
    ∃ a b, ys = a ++ b ∧ noRetrigger c (runState c σ (x0 :: xs ++ [xl])) a ∧
      (b = [] ∨ 2 * c.depth - σ.dv.toNat ≤ readyCount a) := by
  obtain ⟨a, b, e, ha, hb⟩ := split_retrigger c ys (runState c σ (x0 :: xs ++ [xl]))
  refine ⟨a, b, e, ha, hb.imp id ?_⟩
  rintro ⟨y, rest, _, hi, _⟩
  obtain ⟨_, h2, _⟩ := capture_readout c hd σ hσ x0 ht xs hl xl a ha
  have hsplit : x0 :: xs ++ xl :: a = (x0 :: xs ++ [xl]) ++ a := by simp
  rw [← runState_append, ← hsplit] at hi
  have := h2.mp hi
  omega

/-- **stream_readout_exact**: a trigger seen while the wrapper is idle (`x0`), the `depth` capture cycles `xs`, the
hand-over cycle `xl`, then any read-out cycles `ys` offering `n = readyCount ys` ready cycles (at most as many as the
read-out needs: `2·depth`, one less for the first read-out after reset): the words transferred on the stream during the
whole history are exactly the first `(n + data_valid) / 2` of the `depth` captured samples
`S[1 .. depth]` (`S` = delay line ++ inputs from the trigger cycle on, as in `captures_depth_consecutive_samples`),
in order, `first` set exactly on sample 0 and `last` exactly on sample `depth - 1` — for every ready pattern, input
waveform and trigger activity in `xs`, `xl`, `ys`. -/
theorem stream_readout_exact (c : Config) (hd : 1 ≤ c.depth) (σ : State) (hσ : WIdle c σ)
    (x0 : In) (ht : x0.trigger = true) (xs : List In) (hl : xs.length = c.depth) (xl : In) (ys : List In)
    (hn : readyCount ys ≤ 2 * c.depth - σ.dv.toNat) :
    transfers c σ (x0 :: xs ++ xl :: ys) =
      (frame (((σ.core.dl ++ inputsOfW (x0 :: xs)).drop 1).take c.depth)).take ((readyCount ys + σ.dv.toNat) / 2) := by
  obtain ⟨a, b, e, ha, hb⟩ := readout_cut c hd σ hσ x0 ht xs hl xl ys
  obtain ⟨h1, _⟩ := capture_readout c hd σ hσ x0 ht xs hl xl a ha
  have hsplit : x0 :: xs ++ xl :: ys = (x0 :: xs ++ xl :: a) ++ b := by simp [e]
  rw [e, readyCount_append] at hn
  have hb0 : readyCount b = 0 := by
    rcases hb with hb | hb
    · rw [hb]; rfl
    · omega
  rw [hsplit, transfers_append, transfers_nil_of_no_ready c b _ hb0, List.append_nil, h1, e, readyCount_append, hb0]
  rfl

/-- **stream_readout_complete**: with all the ready cycles the read-out needs, the stream carries the whole
buffer: `depth` words, the captured samples in order, framed by `first` / `last`. -/
theorem stream_readout_complete (c : Config) (hd : 1 ≤ c.depth) (σ : State) (hσ : WIdle c σ)
    (x0 : In) (ht : x0.trigger = true) (xs : List In) (hl : xs.length = c.depth) (xl : In) (ys : List In)
    (hn : readyCount ys = 2 * c.depth - σ.dv.toNat) :
    transfers c σ (x0 :: xs ++ xl :: ys) = frame (((σ.core.dl ++ inputsOfW (x0 :: xs)).drop 1).take c.depth) := by
  rw [stream_readout_exact c hd σ hσ x0 ht xs hl xl ys (by omega), frame_take c σ x0 xs hl]
  rw [hn]; cases σ.dv <;> simp <;> omega

/-- **stream_readout_returns_idle**: the cycle that transfers the last word (the `2·depth − data_valid`-th ready cycle
of the read-out, `y`) leaves the wrapper in an idle state again, `data_valid` low, the core's memory untouched: the
next trigger starts a new capture and `stream_readout_exact` applies again — each captured buffer is sent exactly
once. -/
theorem stream_readout_returns_idle (c : Config) (hd : 1 ≤ c.depth) (σ : State) (hσ : WIdle c σ)
    (x0 : In) (ht : x0.trigger = true) (xs : List In) (hl : xs.length = c.depth) (xl : In) (ys : List In) (y : In)
    (hy : y.ready = true) (hn : readyCount ys + 1 = 2 * c.depth - σ.dv.toNat) :
    WIdle c (runState c σ (x0 :: xs ++ xl :: (ys ++ [y]))) ∧
    (runState c σ (x0 :: xs ++ xl :: (ys ++ [y]))).dv = false ∧
    (runState c σ (x0 :: xs ++ xl :: (ys ++ [y]))).core.complete = true ∧
    (runState c σ (x0 :: xs ++ xl :: (ys ++ [y]))).core.mem = ((σ.core.dl ++ inputsOfW (x0 :: xs)).drop 1).take c.depth := by
  obtain ⟨a, b, e, ha, hb⟩ := readout_cut c hd σ hσ x0 ht xs hl xl ys
  have hb0 : b = [] := by
    rcases hb with hb | hb
    · exact hb
    · rw [e, readyCount_append] at hn; omega
  rw [hb0, List.append_nil] at e
  subst e
  obtain ⟨_, h2, _⟩ := capture_readout c hd σ hσ x0 ht xs hl xl ys ha
  have hsplit : x0 :: xs ++ xl :: ys = (x0 :: xs ++ [xl]) ++ ys := by simp
  have hns : (runState c (runState c σ (x0 :: xs ++ [xl])) ys).fsm ≠ .idle := by
    rw [← runState_append, ← hsplit]
    intro h
    have := h2.mp h
    omega
  have hq : noRetrigger c (runState c σ (x0 :: xs ++ [xl])) (ys ++ [y]) :=
    (noRetrigger_append c ys [y] _).mpr ⟨ha, fun h => absurd h hns, trivial⟩
  obtain ⟨_, k2, k3, k4, k5⟩ := capture_readout c hd σ hσ x0 ht xs hl xl (ys ++ [y]) hq
  have hry : readyCount (ys ++ [y]) = readyCount ys + 1 := by rw [readyCount_append, readyCount_cons, hy]; rfl
  obtain ⟨w1, w2⟩ := k3 (k2.mpr (by omega))
  exact ⟨w1, w2, k5, k4⟩

theorem sending_within (c : Config) (M : List Nat) (ys : List In) (s : State) (h : Reading c M s)
    (hq : noRetrigger c s ys) (hr : 2 * rem c s - s.dv.toNat ≤ readyCount ys) : (runState c s ys).fsm = .idle := by
  obtain ⟨_, h2, h3, _⟩ := readout_run c M ys s h hq
  exact ((reading_idle c M _ h3).1).mp (by omega)

theorem init_WIdle (c : Config) : WIdle c (init c) := by
  simp [WIdle, IdleState, init, Ila.init]

theorem idle_step (c : Config) (σ : State) (hσ : WIdle c σ) (i : In) (hi : i.trigger = false) :
    WIdle c (step c σ i).1 ∧ (step c σ i).1.dv = σ.dv ∧ (step c σ i).2.valid = false ∧ xferOf i (step c σ i).2 = [] := by
  obtain ⟨⟨cf, wpos, wen, cpl, mem, rd, dl⟩, fsm, csn, f, dv⟩ := σ
  obtain ⟨hf, ⟨hcf, hw, hm⟩, hfirst, hdv⟩ := hσ
  simp only at hf hcf hw hm hfirst hdv; subst hf hcf hw hfirst
  simp [step, coreIn, Ila.step, hi, WIdle, IdleState, hm, xferOf]
  exact hdv

/-! ## Non-vacuity: depth 3, pre-trigger 1, the first read-out after reset with `ready` toggling (data_valid = 1 at reset:
it takes 2·3 - 1 = 5 ready cycles); depth 2, pre-trigger 0, two read-outs with `ready` constantly high -/
example : transfers ⟨3, 1⟩ (init ⟨3, 1⟩)
    [⟨false, 9, true⟩, ⟨true, 10, true⟩, ⟨true, 11, false⟩, ⟨false, 12, true⟩, ⟨true, 13, true⟩, ⟨true, 14, true⟩,
     ⟨true, 15, false⟩, ⟨true, 15, true⟩, ⟨true, 15, true⟩, ⟨true, 15, false⟩, ⟨true, 15, true⟩, ⟨true, 15, true⟩,
     ⟨false, 15, true⟩]
    = [(10, true, false), (11, false, false), (12, false, true)] := by decide
example : readyCount [⟨true, 15, false⟩, ⟨true, 15, true⟩, ⟨true, 15, true⟩, ⟨true, 15, false⟩, ⟨true, 15, true⟩,
    ⟨true, 15, true⟩, ⟨false, 15, true⟩] = 2 * 3 - (init ⟨3, 1⟩).dv.toNat := by decide
example : frame [10, 11, 12] = [(10, true, false), (11, false, false), (12, false, true)] := by decide
example : frame [7] = [(7, true, true)] := by decide
/-- two captures: triggers during capture / read-out are ignored; data_valid is low at the start of the second read-out -/
example : transfers ⟨2, 0⟩ (init ⟨2, 0⟩)
    [⟨true, 1, true⟩, ⟨true, 2, true⟩, ⟨true, 3, true⟩, ⟨true, 4, true⟩, ⟨true, 5, true⟩, ⟨true, 6, true⟩, ⟨true, 7, true⟩,
     ⟨true, 8, true⟩, ⟨false, 9, true⟩, ⟨false, 10, true⟩, ⟨false, 11, true⟩, ⟨false, 12, true⟩, ⟨false, 13, true⟩,
     ⟨false, 14, true⟩, ⟨false, 15, true⟩]
    = [(2, true, false), (3, false, true), (9, true, false), (10, false, true)] := by decide

/-! ## Non-vacuity of `noRetrigger`: depth 3, pre-trigger 1, after a capture triggered in the first cycle, a read-out with
ready cycles beyond its end, a blocked trigger during it, idle afterwards -/
example : noRetrigger ⟨3, 1⟩ (runState ⟨3, 1⟩ (init ⟨3, 1⟩) [⟨true, 10, true⟩, ⟨false, 11, false⟩, ⟨false, 12, true⟩,
      ⟨false, 13, true⟩, ⟨false, 14, true⟩])
    [⟨true, 15, false⟩, ⟨true, 15, true⟩, ⟨true, 15, true⟩, ⟨false, 15, true⟩, ⟨true, 15, true⟩, ⟨false, 15, true⟩,
     ⟨false, 15, true⟩, ⟨false, 15, true⟩] := by decide

/-! Non-vacuity: that continuation offers 7 ≥ 2·3 - 1 ready cycles -/
example : 2 * 3 - (init ⟨3, 1⟩).dv.toNat ≤ readyCount
    [⟨true, 15, false⟩, ⟨true, 15, true⟩, ⟨true, 15, true⟩, ⟨false, 15, true⟩, ⟨true, 15, true⟩, ⟨false, 15, true⟩,
     ⟨false, 15, true⟩, ⟨false, 15, true⟩] := by decide

end LunaVerif.IlaStream
