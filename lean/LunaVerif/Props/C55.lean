import LunaVerif.Model.Util.StrobeStretcher
/-!
# C55 — Strobe stretching holds the output for exactly the requested time

"For any stretch length, the stretched output is high in every cycle within the requested number
of cycles after a strobe (starting one cycle later when delay is allowed) and low otherwise."

Histories are presented most-recent-first: in the cycle in which the strobe input is `x` and the
strobes of the earlier cycles were `past` (`past[0]` = previous cycle, `past[1]` the one before …)
the output must be high iff one of the `n` most recent strobes is high, where "most recent"
includes the current cycle when no delay is allowed (or `n = 1`, a wire) and starts at the
previous cycle when delay is allowed.
-/
namespace LunaVerif.StrobeStretcher

/-- The specification: which strobes are visible to the output of the current cycle. -/
def window (c : Config) (past : List Bool) (x : Bool) : List Bool :=
  if c.allowDelay && c.n != 1 then past.take c.n else (x :: past).take c.n

/-- Register contents after the strobes `past` (most recent first) have been shifted in from reset. -/
def regAfter (c : Config) (past : List Bool) : State :=
  (past ++ List.replicate (width c) false).take (width c)

theorem regAfter_nil (c : Config) : regAfter c [] = init c := by
  simp [regAfter, init]

theorem take_cons_take (w : Nat) (x : Bool) (l : List Bool) :
    (x :: l.take w).take w = (x :: l).take w := by
  cases w with
  | zero => simp
  | succ w => simp [List.take_take]

theorem step_reg (c : Config) (h : c.n ≠ 1) (past : List Bool) (x : Bool) :
    (step c (regAfter c past) x).1 = regAfter c (x :: past) := by
  simp only [step, h, if_false, regAfter]
  rw [take_cons_take]; rfl

theorem any_take_append_false (w : Nat) (l : List Bool) :
    ((l ++ List.replicate w false).take w).any id = (l.take w).any id := by
  induction l generalizing w with
  | nil => simp
  | cons a l ih =>
    cases w with
    | zero => simp
    | succ w =>
      have : (a :: l ++ List.replicate (w+1) false).take (w+1)
            = a :: ((l ++ List.replicate w false) ++ [false]).take w := by
        simp [List.replicate_succ', List.append_assoc]
      rw [this]
      simp only [List.any_cons, List.take_succ_cons]
      congr 1
      rw [← ih w]
      by_cases hl : w ≤ (l ++ List.replicate w false).length
      · rw [List.take_append_of_le_length hl]
      · simp at hl

theorem step_out (c : Config) (hn : 1 ≤ c.n) (past : List Bool) (x : Bool) :
    (step c (regAfter c past) x).2 = (window c past x).any id := by
  by_cases h1 : c.n = 1
  · simp [step, window, h1]
  · cases hd : c.allowDelay
    · have hw : width c = c.n - 1 := by simp [width, hd]
      simp only [step, h1, if_false, hd, window, regAfter, hw, Bool.false_and]
      rw [any_take_append_false]
      obtain ⟨m, hm⟩ : ∃ m, c.n = m + 1 := ⟨c.n - 1, by omega⟩
      simp [hm]
    · have hw : width c = c.n := by simp [width, hd]
      simp only [step, h1, if_false, hd, window, regAfter, hw]
      rw [any_take_append_false]
      simp [h1]

/-- The outputs the specification asks for over the history `hist` (oldest first) that continues
after the strobes `past` (most recent first). -/
def specRun (c : Config) : List Bool → List Bool → List Bool
  | _, [] => []
  | past, x :: xs => (window c past x).any id :: specRun c (x :: past) xs

theorem run_eq_spec_from (c : Config) (hn : 1 ≤ c.n) (past hist : List Bool) :
    run c (regAfter c past) hist = specRun c past hist := by
  induction hist generalizing past with
  | nil => rfl
  | cons x xs ih =>
    simp only [run, specRun]
    rw [step_out c hn]
    congr 1
    by_cases h1 : c.n = 1
    · -- a wire: the register is never used
      have : (step c (regAfter c past) x).1 = regAfter c past := by simp [step, h1]
      rw [this]
      have indep : ∀ (s t : State) (h : List Bool), run c s h = run c t h := by
        intro s t h
        induction h generalizing s t with
        | nil => rfl
        | cons y ys ihy => simp only [run, step, h1, if_true]; congr 1; exact ihy _ _
      rw [indep (regAfter c past) (regAfter c (x :: past))]
      exact ih (x :: past)
    · rw [step_reg c h1]; exact ih (x :: past)

/-- **C55** for every stretch length `n ≥ 1`, both delay modes and every strobe history: the
outputs produced from reset are exactly the specification windows. -/
theorem stretcher_exact (c : Config) (hn : 1 ≤ c.n) (hist : List Bool) :
    run c (init c) hist = specRun c [] hist := by
  rw [← regAfter_nil]; exact run_eq_spec_from c hn [] hist

/-- The window contains exactly the `n` most recent strobes: high output ⇔ a strobe at distance
`k < n` (counted from the current cycle without delay, from the previous cycle with delay). -/
theorem window_any_iff (c : Config) (past : List Bool) (x : Bool) :
    (window c past x).any id = true ↔
      ∃ k, k < c.n ∧ (if c.allowDelay && c.n != 1 then past else x :: past)[k]? = some true := by
  unfold window
  split <;> simp [List.any_eq_true, List.mem_iff_getElem?, List.getElem?_take] <;>
    constructor <;> (rintro ⟨k, hk⟩; exact ⟨k, by simpa using hk⟩)

/-- Non-vacuity / sanity: a concrete 3-cycle stretch in both modes. -/
example : run ⟨3, false⟩ (init ⟨3, false⟩) [false, true, false, false, false, true, true, false, false, false]
    = [false, true, true, true, false, true, true, true, true, false] := by decide
example : run ⟨3, true⟩ (init ⟨3, true⟩) [false, true, false, false, false, false]
    = [false, false, true, true, true, false] := by decide

end LunaVerif.StrobeStretcher
