import LunaVerif.Model.Periph.StreamArbiter
/-!
# C26 — Stream arbiters and multiplexers forward whole bursts without loss

"A stream arbiter forwards words only from the currently selected input, never switches inputs
while that input's valid is held, selects the highest-priority waiting input when the current one
goes idle, and passes ready back only to the selected input, so that every accepted word is
delivered exactly once and bursts are never interleaved; 'idle' is asserted exactly when no input is
offering data."

All theorems are for every number of inputs `n` (`n ≥ 1` where a selected input must exist), every
selection state `s < n` (every reachable state is one, `reachable_lt`), every payload and every
valid/ready history.  "Priority" is as coded: streams added first (lowest index) win.
Left out: `StreamMultiplexer` (no scheduling; its docstring assumes that only one stream communicates at once),
and a `valid` wider than one bit (no arbiter in the repository is instantiated with such a stream).
-/
namespace LunaVerif.StreamArbiter

/-- The highest-priority waiting input: the lowest index whose `valid` is high. -/
def firstValid : List Sink → Option Nat
  | [] => none
  | x :: xs => if x.valid then some 0 else (firstValid xs).map (· + 1)

/-- The words accepted from the inputs in one cycle (input index, word): input `k` hands over a
word iff its `valid` and the `ready` it sees are both high.  `k0` = index of the first list element. -/
def acceptedFrom : Nat → List Sink → List Bool → List (Nat × Nat)
  | k0, a :: as, r :: rs => (if a.valid && r then [(k0, a.data)] else []) ++ acceptedFrom (k0 + 1) as rs
  | _, _, _ => []

/-- All words accepted from the inputs during a history, in time order. -/
def sinkTransfers (n : Nat) : Nat → List In → List (Nat × Nat)
  | _, [] => []
  | s, x :: xs => acceptedFrom 0 x.sinks (step n s x).2.readys ++ sinkTransfers n (step n s x).1 xs

/-- All words delivered on the output during a history (tagged with the selected input), in time order. -/
def sourceTransfers (n : Nat) : Nat → List In → List (Nat × Nat)
  | _, [] => []
  | s, x :: xs =>
    (if (step n s x).2.valid && x.ready then [(s, (step n s x).2.data)] else [])
      ++ sourceTransfers n (step n s x).1 xs

def WF (n : Nat) (hist : List In) : Prop := ∀ x ∈ hist, x.sinks.length = n

/-- `firstValid` is core's `List.findIdx?` on `valid`. -/
theorem firstValid_eq (l : List Sink) : firstValid l = l.findIdx? (·.valid) := by
  induction l with
  | nil => rfl
  | cons x xs ih => simp only [firstValid, List.findIdx?_cons, ih]

theorem firstValid_eq_none (l : List Sink) : firstValid l = none ↔ ∀ a ∈ l, a.valid = false := by
  simp [firstValid_eq, List.findIdx?_eq_none_iff]

theorem firstValid_some (l : List Sink) : ∀ j, firstValid l = some j →
    (∃ a, l[j]? = some a ∧ a.valid = true) ∧ ∀ i, i < j → ∀ a, l[i]? = some a → a.valid = false := by
  intro j h
  rw [firstValid_eq, List.findIdx?_eq_some_iff_getElem] at h
  obtain ⟨hj, hv, hlt⟩ := h
  refine ⟨⟨l[j], List.getElem?_eq_getElem hj, hv⟩, fun i hi a ha => ?_⟩
  obtain ⟨hi', rfl⟩ := List.getElem?_eq_some_iff.mp ha
  simpa using hlt i hi

theorem firstValid_lt (l : List Sink) (j : Nat) (h : firstValid l = some j) : j < l.length := by
  rw [firstValid_eq, List.findIdx?_eq_some_iff_getElem] at h
  exact h.1

/-- The chain of `If`s ("last assignment wins") computes the lowest valid index. -/
theorem scan_eq (l : List Sink) (k : Nat) (acc : Nat × Bool) :
    scan l k acc = match firstValid l with
      | some j => (k + j, false)
      | none => acc := by
  induction l generalizing k with
  | nil => simp [scan, firstValid]
  | cons x xs ih =>
    unfold scan firstValid
    by_cases hx : x.valid = true
    · simp [hx]
    · simp only [hx, if_false, Bool.false_eq_true, ih (k + 1)]
      cases firstValid xs <;> simp; omega

theorem acceptedFrom_readys (s : Nat) (rdy : Bool) (l : List Sink) (k0 : Nat) :
    acceptedFrom k0 l ((List.range' k0 l.length).map (fun k => k == s && rdy)) =
      if k0 ≤ s then
        match l[s - k0]? with
        | some a => if a.valid && rdy then [(s, a.data)] else []
        | none => []
      else [] := by
  induction l generalizing k0 with
  | nil => simp [acceptedFrom]
  | cons x xs ih =>
    simp only [List.length_cons, List.range'_succ, List.map_cons, acceptedFrom, ih (k0 + 1)]
    rcases Nat.lt_trichotomy k0 s with h | h | h
    · have h3 : s - k0 = (s - (k0 + 1)) + 1 := by omega
      simp [Nat.ne_of_lt h, Nat.le_of_lt h, Nat.succ_le_of_lt h, h3]
    · subst h
      simp [Nat.not_succ_le_self]
    · simp [Nat.ne_of_gt h, Nat.not_le_of_gt h, Nat.not_le_of_gt (Nat.lt_succ_of_lt h)]

theorem step_readys (n s : Nat) (i : In) :
    (step n s i).2.readys = (List.range n).map (fun k => k == s && i.ready) := by
  unfold step
  cases i.sinks[s]? <;> simp only [] <;> split <;> rfl

/-! ## The clauses of the property -/

/-- **forwards_only_selected**: the output stream (valid and every data field) is that of the
selected input, whatever the other inputs do. -/
theorem forwards_only_selected (n s : Nat) (i : In) (hl : i.sinks.length = n) (hs : s < n) :
    ∃ a, i.sinks[s]? = some a ∧ (step n s i).2.valid = a.valid ∧ (step n s i).2.data = a.data := by
  obtain ⟨a, ha⟩ : ∃ a, i.sinks[s]? = some a := ⟨i.sinks[s], List.getElem?_eq_getElem (by omega)⟩
  refine ⟨a, ha, ?_⟩
  unfold step
  simp only [ha]
  cases hv : a.valid <;> simp

/-- **no_switch_while_valid**: while the selected input holds `valid`, the selection is kept. -/
theorem no_switch_while_valid (n s : Nat) (i : In) (a : Sink) (ha : i.sinks[s]? = some a)
    (hv : a.valid = true) : (step n s i).1 = s := by
  unfold step; simp [ha, hv]

/-- **picks_highest_priority_waiting**: when the selected input is not offering data, the next
selection is the lowest-index input with `valid` high (none of the inputs before it is valid —
`firstValid_some`), and the selection is unchanged when nobody is waiting. -/
theorem picks_highest_priority_waiting (n s : Nat) (i : In) (a : Sink) (ha : i.sinks[s]? = some a)
    (hv : a.valid = false) :
    (step n s i).1 = (match firstValid i.sinks with | some j => j | none => s) ∧
    (∀ j, firstValid i.sinks = some j →
      (∃ b, i.sinks[j]? = some b ∧ b.valid = true) ∧
      ∀ k, k < j → ∀ b, i.sinks[k]? = some b → b.valid = false) := by
  constructor
  · unfold step
    simp only [ha, hv, Bool.false_eq_true, if_false, scan_eq]
    cases firstValid i.sinks <;> simp
  · exact firstValid_some i.sinks

/-- **ready_only_to_selected**: input `k` sees `ready` iff it is the selected one and the consumer
is ready. -/
theorem ready_only_to_selected (n s : Nat) (i : In) :
    (step n s i).2.readys.length = n ∧
    ∀ k, k < n → (step n s i).2.readys[k]? = some (k == s && i.ready) := by
  rw [step_readys]
  refine ⟨by simp, ?_⟩
  intro k hk
  simp [List.getElem?_map, List.getElem?_range hk]

/-- **idle_iff_none_valid**: `idle` is asserted exactly when no input offers data. -/
theorem idle_iff_none_valid (n s : Nat) (i : In) (hl : i.sinks.length = n) (hs : s < n) :
    (step n s i).2.idle = true ↔ ∀ a ∈ i.sinks, a.valid = false := by
  obtain ⟨a, ha, _⟩ := forwards_only_selected n s i hl hs
  have hmem : a ∈ i.sinks := List.mem_of_getElem? ha
  unfold step
  simp only [ha]
  by_cases hv : a.valid = true
  · simp only [hv, if_true, Bool.false_eq_true, false_iff]
    intro h; have := h a hmem; simp [hv] at this
  · simp only [hv, if_false, Bool.false_eq_true, scan_eq, ← firstValid_eq_none]
    cases firstValid i.sinks <;> simp

/-! ### Between the clauses: the selection stays an index, and one cycle of the transfer equality -/

/-- The invariant `s < n`, one cycle. -/
theorem step_lt (n s : Nat) (i : In) (hl : i.sinks.length = n) (hs : s < n) : (step n s i).1 < n := by
  obtain ⟨a, ha, _⟩ := forwards_only_selected n s i hl hs
  cases hv : a.valid
  · rw [(picks_highest_priority_waiting n s i a ha hv).1]
    cases hf : firstValid i.sinks with
    | none => simpa using hs
    | some j => have := firstValid_lt _ _ hf; simp; omega
  · rw [no_switch_while_valid n s i a ha hv]; exact hs

/-- … and over histories from reset: every reachable selection state is below `n`. -/
theorem reachable_lt (n : Nat) (hn : 1 ≤ n) (hist : List In) (hw : WF n hist) : runState n 0 hist < n := by
  suffices h : ∀ s, s < n → runState n s hist < n from h 0 (by omega)
  induction hist with
  | nil => intro s hs; simpa [runState] using hs
  | cons x xs ih =>
    intro s hs
    simp only [runState]
    exact ih (fun y hy => hw y (List.mem_cons_of_mem _ hy)) _ (step_lt n s x (hw x (List.mem_cons_self ..)) hs)

/-- One cycle of `every_accepted_word_delivered_once`: what the inputs hand over is the word delivered, if one is. -/
theorem step_transfers (n s : Nat) (i : In) (hl : i.sinks.length = n) (hs : s < n) :
    acceptedFrom 0 i.sinks (step n s i).2.readys =
      if (step n s i).2.valid && i.ready then [(s, (step n s i).2.data)] else [] := by
  subst hl
  obtain ⟨a, ha, hv, hd⟩ := forwards_only_selected _ s i rfl hs
  rw [step_readys, List.range_eq_range', acceptedFrom_readys, hv, hd]
  simp [ha]

/-! ### The clauses over histories -/

/-- **every_accepted_word_delivered_once**: for every history, the sequence of words the inputs
hand over (with the index of the input) equals the sequence of words delivered on the output (with
the index of the selected input): nothing lost, nothing duplicated, nothing reordered. -/
theorem every_accepted_word_delivered_once (n s : Nat) (hs : s < n) (hist : List In) (hw : WF n hist) :
    sinkTransfers n s hist = sourceTransfers n s hist := by
  induction hist generalizing s with
  | nil => rfl
  | cons x xs ih =>
    have hl := hw x (List.mem_cons_self ..)
    simp only [sinkTransfers, sourceTransfers]
    rw [step_transfers n s x hl hs,
      ih _ (step_lt n s x hl hs) (fun y hy => hw y (List.mem_cons_of_mem _ hy))]

/-- **burst_not_interrupted** (bursts are never interleaved): as long as the selected input `s`
holds `valid`, the selection stays `s`, and every word delivered in that time comes from `s`
whatever the other inputs and the consumer do. -/
theorem burst_not_interrupted (n s : Nat) (hist : List In)
    (hb : ∀ x ∈ hist, ∃ a, x.sinks[s]? = some a ∧ a.valid = true) :
    runState n s hist = s ∧ ∀ p ∈ sourceTransfers n s hist, p.1 = s := by
  induction hist with
  | nil => simp [runState, sourceTransfers]
  | cons x xs ih =>
    obtain ⟨a, ha, hv⟩ := hb x (List.mem_cons_self ..)
    have hst := no_switch_while_valid n s x a ha hv
    have ih' := ih (fun y hy => hb y (List.mem_cons_of_mem _ hy))
    simp only [runState, sourceTransfers, hst]
    refine ⟨ih'.1, ?_⟩
    intro p hp
    rcases List.mem_append.mp hp with h | h
    · split at h
      · rw [List.mem_singleton.mp h]
      · cases h
    · exact ih'.2 p h

/-! ## Non-vacuity: two inputs, a burst on input 1 is not interrupted by higher-priority input 0 -/
example :
    let h : List In := [⟨[⟨false, 0⟩, ⟨true, 7⟩], true⟩, ⟨[⟨true, 1⟩, ⟨true, 7⟩], true⟩,
                        ⟨[⟨true, 1⟩, ⟨true, 8⟩], false⟩, ⟨[⟨true, 1⟩, ⟨true, 8⟩], true⟩,
                        ⟨[⟨true, 1⟩, ⟨false, 0⟩], true⟩, ⟨[⟨true, 1⟩, ⟨false, 0⟩], true⟩]
    WF 2 h ∧ sourceTransfers 2 0 h = [(1, 7), (1, 8), (0, 1)] ∧ sinkTransfers 2 0 h = [(1, 7), (1, 8), (0, 1)] := by
  refine ⟨by simp [WF], by decide, by decide⟩

end LunaVerif.StreamArbiter
