import LunaVerif.Model.Usb2.ResetSequencer
/-!
# C19 — USB2 reset, high-speed handshake and suspend follow the line-state timing rules

"The device enters high-speed operation only after a bus reset in which it has driven its chirp K
and then observed at least three host chirp K-J pairs whose every state lasted at least 2.5 us (or
when resuming from a suspend entered at high speed); it never starts that handshake while
restricted to full or low speed, leaves high speed within two cycles of such a restriction, and
falls back to full/low speed when the host chirp does not arrive in time. A bus reset is reported
only while VBUS is absent or after SE0 has persisted continuously for at least 2.5 us (5 us when
active at full/low speed; 3 ms of SE0 followed by 200 us of non-idle at high speed), and suspend is
entered only after 3 ms of continuous idle."

The statements are about *all* input histories: `Reach c s g` says that the sequencer state `s`
and the history summary `g` (`Ghost`: run lengths of the line states, the chirp log since the last
bus reset — computed from the input ports and the output ports only, never from the FSM state) are
what an arbitrary input history leads to from reset.  All theorems hold for every configuration of
cycle constants satisfying `Valid` (the real constants `luna` do: `luna_valid`).
-/
namespace LunaVerif.ResetSeq

/-- What the theorems need of the cycle constants: non-zero, and representable in the timers. -/
structure Valid (c : Config) : Prop where
  pos3   : 0 < c.c3ms
  m3     : c.c3ms < c.M
  m25    : c.c2p5ms < c.M
  m200   : c.c200us < c.M

theorem luna_valid : Valid luna := by constructor <;> decide

/-- High-speed operation as seen on the ports: speed HIGH and normal operating mode
(the chirp handshake runs with speed HIGH but operating mode CHIRP). -/
def hsop (o : Out) : Bool := o.speed == .HIGH && o.opMode == .NORMAL
def hsopS (s : State) : Bool := s.speed == .HIGH && s.opMode == .NORMAL

/-- History summary at the beginning of a cycle (everything refers to the cycles before it). -/
structure Ghost where
  se0Run     : Nat := 0          -- length of the SE0 run ending with the previous cycle
  idleRun    : Nat := 0          -- … of the run of idle line states (idle for the speed reported in that cycle)
  kRun       : Nat := 0          -- … of the K run
  jRun       : Nat := 0          -- … of the J run
  hsSe0      : Nat := 0          -- … of the run of undisturbed high-speed idle (hsop, SE0, VBUS, unrestricted)
  win        : Option Nat := none -- `some k`: this cycle is cycle k of the 200us window that follows 3ms of HS idle
  prep       : Nat := 0          -- since the last bus reset: cycles in chirp mode before the device chirp began
  chirp      : Nat := 0          -- since the last bus reset: cycles in which the device drove its chirp K
  afterChirp : Option Nat := none -- since the last bus reset: `some k` = the device chirp ended k cycles ago
  wantJ      : Bool := false     -- K-J pair recogniser since the device chirp: next wanted state
  pairs      : Nat := 0          -- … complete K-J pairs with every state ≥ 2.5us
  susHs      : Bool := false     -- the present (or last) suspend was entered from the high-speed window
deriving Repr

def gstep (c : Config) (g : Ghost) (i : In) (o : Out) : Ghost :=
  let arm := hsop o && decide (c.c3ms ≤ g.hsSe0) && !restricted i
  let restart := o.busReset || o.txValid
  let kOk := !g.wantJ && i.line == .K && decide (c.c2p5us ≤ g.kRun + 1)
  let jOk := g.wantJ && i.line == .J && decide (c.c2p5us ≤ g.jRun + 1)
  { se0Run := if i.line == .SE0 then g.se0Run + 1 else 0
    idleRun := if busIdle o.speed i.line then g.idleRun + 1 else 0
    kRun := if i.line == .K then g.kRun + 1 else 0
    jRun := if i.line == .J then g.jRun + 1 else 0
    hsSe0 := if hsop o && i.line == .SE0 && i.vbus && !restricted i then g.hsSe0 + 1 else 0
    win := if arm then some 0 else
             match g.win with
             | some k => if k < c.c200us then some (k + 1) else none
             | none => none
    prep := if o.busReset then 0
            else if o.opMode == .CHIRP && !o.txValid && g.chirp == 0 then g.prep + 1 else g.prep
    chirp := if o.busReset then 0 else if o.txValid then g.chirp + 1 else g.chirp
    afterChirp := if o.busReset then none else if o.txValid then some 0 else g.afterChirp.map (· + 1)
    wantJ := if restart then false else if kOk then true else if jOk then false else g.wantJ
    pairs := if restart then 0 else if jOk then g.pairs + 1 else g.pairs
    susHs := if o.suspended then g.susHs else (g.win == some c.c200us && i.line == .J) }

inductive Reach (c : Config) : State → Ghost → Prop
  | init : Reach c init {}
  | step {s g} (i : In) : Reach c s g → Reach c (step c s i).1 (gstep c g i (step c s i).2)

/-! ## The invariant relating the FSM registers to the history summary -/

/-- Progress of the K-J pair recogniser, in half pairs. -/
def pOf (g : Ghost) : Nat := 2 * g.pairs + (if g.wantJ then 1 else 0)

/-- Common part for the four host-chirp states; `q` is 1 in the two states that follow a counted K.
The FSM's own count of half pairs never runs ahead of the recogniser's. -/
def Hs4 (c : Config) (s : State) (g : Ghost) (q : Nat) : Prop :=
  g.afterChirp = some s.timer ∧ s.timer ≤ c.c2p5ms ∧ c.c2ms + 1 ≤ g.prep + g.chirp ∧
  2 * s.validPairs + q ≤ pOf g ∧ s.validPairs ≤ 2 ∧ s.opMode = .CHIRP

def StInv (c : Config) (s : State) (g : Ghost) : Prop :=
  match s.fsm with
  | .LS_FS_NON_RESET      => s.timer ≤ g.se0Run ∧ s.lst ≤ g.idleRun ∧ s.speed ≠ .HIGH ∧ s.opMode ≠ .CHIRP
  | .HS_NON_RESET         => s.timer = g.hsSe0 ∧ s.timer ≤ c.c3ms ∧ s.speed = .HIGH ∧ s.opMode = .NORMAL
  | .START_HS_DETECTION   => g.chirp = 0 ∧ g.afterChirp = none ∧ s.speed ≠ .HIGH ∧ s.opMode ≠ .CHIRP
  | .PREPARE_FOR_CHIRP_0  => s.timer ≤ g.prep ∧ g.chirp = 0 ∧ g.afterChirp = none ∧ s.opMode = .CHIRP
  | .PREPARE_FOR_CHIRP_1  => s.timer ≤ g.prep ∧ g.chirp = 0 ∧ g.afterChirp = none ∧ s.opMode = .CHIRP
  | .DEVICE_CHIRP         => s.timer ≤ g.prep + g.chirp ∧ s.opMode = .CHIRP
  | .AWAIT_HOST_K         => Hs4 c s g 0
  | .AWAIT_HOST_J         => Hs4 c s g 1
  | .IN_HOST_K            => Hs4 c s g 0 ∧ s.lst + 1 ≤ g.kRun
  | .IN_HOST_J            => Hs4 c s g 1 ∧ s.lst + 1 ≤ g.jRun
  | .IS_HIGH_SPEED        => hsopS s = false ∧ (s.opMode = .CHIRP → ∀ k, g.afterChirp = some k → k ≤ c.c2p5ms + 1)
  | .IS_LOW_OR_FULL_SPEED => (hsopS s = true → g.hsSe0 = 0) ∧
                             (s.opMode = .CHIRP → ∀ k, g.afterChirp = some k → k ≤ c.c2p5ms + 1)
  | .DETECT_HS_SUSPEND    => s.timer ≤ c.c200us ∧ s.speed ≠ .HIGH ∧ s.opMode ≠ .CHIRP
  | .SUSPENDED            => s.timer ≤ g.se0Run ∧ s.wasHs = g.susHs ∧ s.speed ≠ .HIGH ∧ s.opMode ≠ .CHIRP
  | .INITIALIZE           => s.speed ≠ .HIGH ∧ s.opMode ≠ .CHIRP
  | .DISCONNECT           => (hsopS s = true → g.hsSe0 = 0) ∧ s.opMode ≠ .CHIRP

structure Inv (c : Config) (s : State) (g : Ghost) : Prop where
  /-- the 200 us window is open exactly in DETECT_HS_SUSPEND, and the timer is its index -/
  win : g.win = if s.fsm = .DETECT_HS_SUSPEND then some s.timer else none
  st  : StInv c s g

theorem wrapInc_le (M x : Nat) : wrapInc M x ≤ x + 1 := Nat.mod_le _ _
theorem wrapInc_lt {M x : Nat} (h : x + 1 < M) : wrapInc M x = x + 1 := Nat.mod_eq_of_lt h

/-- `StInv` of a next state whose FSM register is an `if`: decide the branch first, so that only the clauses of
the states that can follow are ever written out. -/
theorem StInv_ite (c : Config) (g : Ghost) (p : Prop) [Decidable p] (a b : Fsm) (t l v : Nat) (w d : Bool)
    (sp : Speed) (om : OpMode) (ts : Bool) :
    StInv c ⟨if p then a else b, t, l, v, w, d, sp, om, ts⟩ g =
      if p then StInv c ⟨a, t, l, v, w, d, sp, om, ts⟩ g else StInv c ⟨b, t, l, v, w, d, sp, om, ts⟩ g := by
  split <;> rfl

theorem inv_init (c : Config) : Inv c init {} := by
  constructor <;> simp [init, StInv]

theorem inv_step (c : Config) (hv : Valid c) (s : State) (g : Ghost) (i : In) (h : Inv c s g) :
    Inv c (step c s i).1 (gstep c g i (step c s i).2) := by
  obtain ⟨win, st⟩ := h
  obtain ⟨p3, m3, m25, m200⟩ := hv
  obtain ⟨fsm, timer, lst, vp, wasHs, tddis, speed, opMode, termSel⟩ := s
  obtain ⟨low, full, busy, vbus, line, disc⟩ := i
  have wt := wrapInc_le c.M timer
  have wl := wrapInc_le c.M lst
  have wt' := @wrapInc_lt c.M timer
  -- one state at a time: unfold that state's step and the history update, then linear arithmetic over the branches
  cases fsm <;> simp only [StInv, hsopS, Hs4, pOf, ↓reduceIte] at win st <;>
    simp only [step, stepInitialize, stepLsFs, stepHs, stepStartHs, stepPrepare, stepDeviceChirp, stepAwaitK,
      stepInK, stepAwaitJ, stepInJ, stepIsHs, stepIsLsFs, stepDetectHsSuspend, stepSuspended, stepDisconnect,
      gstep, mkOut, hsop, restricted, ↓reduceIte, Bool.false_eq_true, Bool.or_self, Bool.not_false,
      Bool.and_true] <;>
    constructor <;> simp only [↓StInv_ite, StInv, hsopS, Hs4, pOf] <;> grind

theorem Inv.hs_states {c : Config} {s : State} {g : Ghost} (h : Inv c s g) (hh : hsopS s = true) :
    s.fsm = .HS_NON_RESET ∨ s.fsm = .IS_LOW_OR_FULL_SPEED ∨ s.fsm = .DISCONNECT := by
  obtain ⟨fsm, timer, lst, vp, wasHs, tddis, speed, opMode, termSel⟩ := s
  have st := h.st
  cases fsm <;> simp_all [StInv, Hs4, hsopS]

theorem reach_inv (c : Config) (hv : Valid c) {s : State} {g : Ghost} (h : Reach c s g) : Inv c s g := by
  induction h with
  | init => exact inv_init c
  | step i _ ih => exact inv_step c hv _ _ i ih

/-- Executable form of `Reach`: state and history summary after an input history (oldest first). -/
def runG (c : Config) : State × Ghost → List In → State × Ghost
  | sg, [] => sg
  | sg, i :: is => runG c ((step c sg.1 i).1, gstep c sg.2 i (step c sg.1 i).2) is

/-- From `runG` to `Reach`: what `runG` computes from a reachable pair is reachable. -/
theorem reach_runG (c : Config) (hist : List In) {s : State} {g : Ghost} (h : Reach c s g) :
    Reach c (runG c (s, g) hist).1 (runG c (s, g) hist).2 := by
  induction hist generalizing s g with
  | nil => exact h
  | cons i is ih => exact ih (Reach.step i h)

/-! ## Port-level facts that need no invariant -/

theorem out_regs (c : Config) (s : State) (i : In) :
    (step c s i).2.speed = s.speed ∧ (step c s i).2.opMode = s.opMode ∧ (step c s i).2.termSel = s.termSel ∧
    ((step c s i).2.suspended = true ↔ s.fsm = .SUSPENDED) ∧
    ((step c s i).2.txValid = true ↔ s.fsm = .DEVICE_CHIRP) := by
  obtain ⟨fsm, timer, lst, vp, wasHs, tddis, speed, opMode, termSel⟩ := s
  have hs : (step c ⟨fsm, timer, lst, vp, wasHs, tddis, speed, opMode, termSel⟩ i).2.suspended
      = decide (fsm = .SUSPENDED) := by cases fsm <;> rfl
  have ht : (step c ⟨fsm, timer, lst, vp, wasHs, tddis, speed, opMode, termSel⟩ i).2.txValid
      = decide (fsm = .DEVICE_CHIRP) := by cases fsm <;> rfl
  refine ⟨?_, ?_, ?_, by rw [hs, decide_eq_true_iff], by rw [ht, decide_eq_true_iff]⟩ <;> cases fsm <;> rfl

/-- The port-level `hsop` of a cycle is `hsopS` of the state the cycle starts in: the sense in which statements about
`hsopS s` speak of what "the ports show". -/
theorem hsop_out (c : Config) (s : State) (i : In) : hsop (step c s i).2 = hsopS s := by
  simp [hsop, hsopS, out_regs]

theorem hsop_rises_only_from_is_high_speed (c : Config) (s : State) (i : In) :
    hsopS s = false → hsopS (step c s i).1 = true → s.fsm = .IS_HIGH_SPEED := by
  obtain ⟨fsm, timer, lst, vp, wasHs, tddis, speed, opMode, termSel⟩ := s
  cases fsm
  case IS_HIGH_SPEED => exact fun _ _ => rfl
  case INITIALIZE | HS_NON_RESET | START_HS_DETECTION | IS_LOW_OR_FULL_SPEED | DISCONNECT =>
    simp only [step, stepInitialize, stepHs, stepStartHs, stepIsLsFs, stepDisconnect, hsopS]
    grind
  -- the other states leave `current_speed` and `operating_mode` alone
  all_goals exact fun h1 h2 => Bool.noConfusion (h1.symm.trans h2)

theorem chirp_mode_only_via_start (c : Config) (s : State) (i : In) :
    s.opMode ≠ .CHIRP → (step c s i).1.opMode = .CHIRP → s.fsm = .START_HS_DETECTION := by
  obtain ⟨fsm, timer, lst, vp, wasHs, tddis, speed, opMode, termSel⟩ := s
  cases fsm
  case START_HS_DETECTION => exact fun _ _ => rfl
  case HS_NON_RESET | IS_HIGH_SPEED | IS_LOW_OR_FULL_SPEED | DISCONNECT =>
    simp only [step, stepHs, stepIsHs, stepIsLsFs, stepDisconnect]
    grind
  -- the other states leave `operating_mode` alone
  all_goals exact fun h1 h2 => absurd h2 h1

/-! ## The property -/

/-- **never starts the handshake while restricted** (and only together with a bus-reset strobe): the
handshake entry state is entered, from whatever state and inputs, only in a cycle in which neither
`low_speed_only` nor `full_speed_only` is asserted and `bus_reset` is reported. -/
theorem no_chirp_when_restricted (c : Config) (s : State) (i : In) :
    (step c s i).1.fsm = .START_HS_DETECTION → restricted i = false ∧ (step c s i).2.busReset = true := by
  obtain ⟨fsm, timer, lst, vp, wasHs, tddis, speed, opMode, termSel⟩ := s
  cases fsm
  case LS_FS_NON_RESET => simp only [step, stepLsFs, mkOut, restricted]; grind
  case DETECT_HS_SUSPEND => simp only [step, stepDetectHsSuspend, mkOut, restricted]; grind
  case SUSPENDED => simp only [step, stepSuspended, mkOut, restricted]; grind
  -- no other state has START_HS_DETECTION among its successors
  all_goals
    intro hn
    exfalso
    simp only [step, stepInitialize, stepHs, stepStartHs, stepPrepare, stepDeviceChirp, stepAwaitK,
      stepInK, stepAwaitJ, stepInJ, stepIsHs, stepIsLsFs, stepDisconnect] at hn
    grind

/-- **high speed only after the handshake**: whenever, after any input history, the sequencer moves
to IS_HIGH_SPEED (the only state from which high-speed operation appears on the ports), then either
since the last `bus_reset` strobe (the history including this cycle) the device chirp and its
preparation lasted at least 2 ms + 1 cycle and afterwards at least three K-J pairs with every state ≥ 2.5 us
were seen on the line; or the device is suspended and that suspend was entered from the
high-speed window (3 ms of high-speed idle, 200 us, then J). -/
theorem hs_only_after_handshake (c : Config) (hv : Valid c) {s : State} {g : Ghost} (h : Reach c s g) (i : In) :
    (step c s i).1.fsm = .IS_HIGH_SPEED →
      (3 ≤ (gstep c g i (step c s i).2).pairs ∧
        c.c2ms + 1 ≤ (gstep c g i (step c s i).2).prep + (gstep c g i (step c s i).2).chirp) ∨
      ((step c s i).2.suspended = true ∧ g.susHs = true) := by
  have st := (reach_inv c hv h).st
  obtain ⟨fsm, timer, lst, vp, wasHs, tddis, speed, opMode, termSel⟩ := s
  cases fsm
  case IN_HOST_J =>
    simp only [StInv, Hs4, pOf] at st
    simp only [step, stepInJ, gstep, mkOut]
    grind
  case SUSPENDED =>
    simp only [StInv] at st
    simp only [step, stepSuspended, mkOut]
    grind
  -- no other state has IS_HIGH_SPEED among its successors
  all_goals
    intro hn
    exfalso
    clear st
    simp only [step, stepInitialize, stepLsFs, stepHs, stepStartHs, stepPrepare, stepDeviceChirp, stepAwaitK,
      stepInK, stepAwaitJ, stepIsHs, stepIsLsFs, stepDetectHsSuspend, stepDisconnect] at hn
    grind

/-- The second conjunct: IS_HIGH_SPEED is the only state from which the ports could show high-speed operation a
cycle later (`hsop_rises_only_from_is_high_speed`). -/
theorem step_not_hs (c : Config) (s : State) (i : In) (hf : s.fsm = .IS_LOW_OR_FULL_SPEED ∨ s.fsm = .DISCONNECT) :
    hsopS (step c s i).1 = false ∧ (step c s i).1.fsm ≠ .IS_HIGH_SPEED := by
  rcases hf with hf | hf
  · simp only [step, hf, stepIsLsFs, hsopS]; grind
  · simp only [step, hf, stepDisconnect, hsopS]; grind

/-- **leaves high speed within two cycles of a restriction**: if the ports show high-speed operation
in a cycle in which `low_speed_only` or `full_speed_only` is asserted, they no longer do two cycles
later (whatever the inputs of the cycle in between). -/
theorem leaves_hs_within_two_cycles (c : Config) (hv : Valid c) {s : State} {g : Ghost} (h : Reach c s g)
    (i0 i1 : In) :
    hsopS s = true → restricted i0 = true → hsopS (step c (step c s i0).1 i1).1 = false := by
  intro hh hr
  rcases (reach_inv c hv h).hs_states hh with hf | hf
  · have : (step c s i0).1.fsm = .IS_LOW_OR_FULL_SPEED := by simp [step, hf, stepHs, hr]
    exact (step_not_hs c _ i1 (.inl this)).1
  · obtain ⟨h1, h2⟩ := step_not_hs c s i0 hf
    exact Bool.eq_false_iff.mpr fun h3 => h2 (hsop_rises_only_from_is_high_speed c _ i1 h1 h3)

/-- **falls back on time-out**, as a bound on a duration: while the ports show chirp mode and the device chirp is over,
the chirp ended at most 2.5 ms + 1 cycle ago.  The statement is this bound and nothing about where chirp mode goes.
`afterChirp` counts every cycle since the device chirp (`gstep`), so chirp mode cannot be shown later than 2.5 ms + 2
cycles after it; into what it ends is `chirp_mode_ends_in_hs_or_fallback`. -/
theorem falls_back_on_timeout (c : Config) (hv : Valid c) {s : State} {g : Ghost} (h : Reach c s g) (i : In)
    (k : Nat) :
    (step c s i).2.opMode = .CHIRP → (step c s i).2.txValid = false → g.afterChirp = some k →
      k ≤ c.c2p5ms + 1 := by
  intro hc ht hk
  have st := (reach_inv c hv h).st
  obtain ⟨_, hom, _, _, htx⟩ := out_regs c s i
  rw [hom] at hc
  have hd : s.fsm ≠ .DEVICE_CHIRP := fun hf => by rw [htx.mpr hf] at ht; cases ht
  obtain ⟨fsm, timer, lst, vp, wasHs, tddis, speed, opMode, termSel⟩ := s
  cases fsm <;> simp only [StInv, Hs4] at st <;> grind

/-- The cycle in which chirp mode ends leads into high-speed operation, or into full/low speed in normal mode. -/
theorem chirp_mode_ends_in_hs_or_fallback (c : Config) (hv : Valid c) {s : State} {g : Ghost} (h : Reach c s g)
    (i : In) :
    s.opMode = .CHIRP → (step c s i).1.opMode ≠ .CHIRP →
      hsopS (step c s i).1 = true ∨ ((step c s i).1.speed ≠ .HIGH ∧ (step c s i).1.opMode = .NORMAL) := by
  have st := (reach_inv c hv h).st
  obtain ⟨fsm, timer, lst, vp, wasHs, tddis, speed, opMode, termSel⟩ := s
  cases fsm
  -- DISCONNECT goes to non-driving mode, but is never in chirp mode
  case DISCONNECT => exact fun hc => absurd hc st.2
  case HS_NON_RESET | START_HS_DETECTION | IS_HIGH_SPEED | IS_LOW_OR_FULL_SPEED =>
    simp only [step, stepHs, stepStartHs, stepIsHs, stepIsLsFs, hsopS]
    grind
  -- the other states leave `operating_mode` alone
  all_goals exact fun h1 h2 => absurd h1 h2

/-- **bus reset only if**: after any input history, `bus_reset` is reported only (1) while VBUS is
absent, or (2) in the last cycle of the 200 us window that follows 3 ms of undisturbed high-speed idle,
with a line state other than J, or — outside that window — (3) in suspend after ≥ 2.5 us of SE0, or
(4) at full/low speed after ≥ 5 us of SE0. -/
theorem bus_reset_only_if (c : Config) (hv : Valid c) {s : State} {g : Ghost} (h : Reach c s g) (i : In) :
    (step c s i).2.busReset = true →
      i.vbus = false ∨
      (g.win = some c.c200us ∧ i.line ≠ .J) ∨
      (g.win = none ∧ (step c s i).2.suspended = true ∧ c.c2p5us ≤ g.se0Run) ∨
      (g.win = none ∧ (step c s i).2.suspended = false ∧ (step c s i).2.speed ≠ .HIGH ∧ c.c5us ≤ g.se0Run) := by
  obtain ⟨win, st⟩ := reach_inv c hv h
  obtain ⟨fsm, timer, lst, vp, wasHs, tddis, speed, opMode, termSel⟩ := s
  cases fsm
  case LS_FS_NON_RESET =>
    simp only [StInv, reduceCtorEq, ↓reduceIte] at st win
    simp only [step, stepLsFs, mkOut]
    grind
  case HS_NON_RESET => simp only [step, stepHs, mkOut]; grind
  case DETECT_HS_SUSPEND =>
    simp only [StInv, ↓reduceIte] at st win
    simp only [step, stepDetectHsSuspend, mkOut]
    grind
  case SUSPENDED =>
    simp only [StInv, reduceCtorEq, ↓reduceIte] at st win
    simp only [step, stepSuspended, mkOut]
    grind
  -- the other states never report a bus reset
  all_goals exact fun hb => Bool.noConfusion hb

/-- **suspend only after 3 ms of idle**: the SUSPENDED state (= the `suspended` output, `out_regs`) is
entered only after ≥ 3 ms of continuous idle line state for the reported speed, or at the end of the
high-speed window (3 ms of high-speed idle = SE0, then 200 us) with the line at J. -/
theorem suspend_only_after_3ms_idle (c : Config) (hv : Valid c) {s : State} {g : Ghost} (h : Reach c s g)
    (i : In) :
    s.fsm ≠ .SUSPENDED → (step c s i).1.fsm = .SUSPENDED →
      c.c3ms ≤ g.idleRun ∨ (g.win = some c.c200us ∧ i.line = .J) := by
  obtain ⟨win, st⟩ := reach_inv c hv h
  obtain ⟨fsm, timer, lst, vp, wasHs, tddis, speed, opMode, termSel⟩ := s
  cases fsm
  case LS_FS_NON_RESET =>
    simp only [StInv] at st
    simp only [step, stepLsFs]
    grind
  case DETECT_HS_SUSPEND =>
    simp only [StInv, ↓reduceIte] at st win
    simp only [step, stepDetectHsSuspend]
    grind
  case SUSPENDED => exact fun hne => absurd rfl hne
  -- no other state has SUSPENDED among its successors
  all_goals
    intro _ hn
    exfalso
    clear st win
    simp only [step, stepInitialize, stepHs, stepStartHs, stepPrepare, stepDeviceChirp, stepAwaitK,
      stepInK, stepAwaitJ, stepInJ, stepIsHs, stepIsLsFs, stepDisconnect] at hn
    grind

/-! ## Non-vacuity: concrete histories (small constants) that reach the situations the theorems speak about -/

def exCfg : Config := ⟨2, 3, 4, 5, 40, 50, 64⟩
def exLine (l : Line) (n : Nat) : List In := List.replicate n ⟨false, false, false, true, l, false⟩
/-- power-up, bus reset, device chirp, three host K-J pairs (the last J one cycle short of completion). -/
def exHandshake : List In :=
  exLine .J 2 ++ exLine .SE0 4 ++ exLine .K 8 ++ exLine .SE0 2 ++ (exLine .K 4 ++ exLine .J 4) ++
    (exLine .K 4 ++ exLine .J 4) ++ (exLine .K 4 ++ exLine .J 3)
/-- … then high speed, 3 ms of SE0, the 200 us window, and J: suspended out of high speed. -/
def exHsSuspend : List In := exHandshake ++ exLine .J 2 ++ exLine .SE0 55 ++ exLine .J 3

example : Valid exCfg := by constructor <;> decide
/-- the handshake history enters IS_HIGH_SPEED with the next J (first disjunct of `hs_only_after_handshake`) -/
example : (step exCfg (runG exCfg (init, {}) exHandshake).1 ⟨false, false, false, true, .J, false⟩).1.fsm
    = .IS_HIGH_SPEED := by decide +kernel
/-- resume from a high-speed suspend enters IS_HIGH_SPEED (second disjunct) -/
example : (runG exCfg (init, {}) exHsSuspend).1.fsm = .SUSPENDED ∧
    (runG exCfg (init, {}) exHsSuspend).2.susHs = true ∧
    (step exCfg (runG exCfg (init, {}) exHsSuspend).1 ⟨false, false, false, true, .K, false⟩).1.fsm
      = .IS_HIGH_SPEED := by decide +kernel
/-- a bus reset at full speed after 5 us of SE0 (fourth disjunct of `bus_reset_only_if`) -/
example : (step exCfg (runG exCfg (init, {}) (exLine .J 2 ++ exLine .SE0 3)).1
    ⟨false, false, false, true, .SE0, false⟩).2.busReset = true := by decide +kernel

end LunaVerif.ResetSeq
