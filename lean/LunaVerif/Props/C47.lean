import LunaVerif.Model.Usb3.TimestampReceiver
/-!
# C47 — Isochronous timestamp packets are decoded in full

"On each isochronous timestamp packet, the reported bus-interval counter and delta equal the
packet's full 14-bit counter and 13-bit delta fields, and an update strobe is raised."
Quantifier: all timestamp packet contents.

USB 3.2 §8.7 (ITP, DWORD 0): bits 4:0 type = 01100b, bits 18:5 bus interval counter (14 bits),
bits 31:19 delta (13 bits).  `itpWord counter delta` is that word; every 32-bit word whose type
field is ITP is of this form (`itp_word_surjective`).

The model is the *repaired* gateware (widths 14/13, defect F21); `unrepaired_truncates` keeps the
failure of the original declaration (`Signal()` = 1 bit) visible.
-/
namespace LunaVerif.TimestampReceiver

def itpWord (counter delta : Nat) : Nat := ITP_TYPE + 2 ^ 5 * counter + 2 ^ 19 * delta

theorem isForUs_itpWord (counter delta : Nat) :
    isForUs (itpWord counter delta) = true := by
  simp only [isForUs, itpWord, ITP_TYPE, beq_iff_eq]
  omega

/-- **C47.**  For every previous state, every 14-bit counter and every 13-bit delta: a valid ITP is
accepted (`ready`), and after the clock edge the update strobe is set and both fields are reported
in full. -/
theorem itp_fields_full_width (s : State) (counter delta : Nat)
    (hc : counter < 2 ^ 14) (hd : delta < 2 ^ 13) :
    step repaired s ⟨true, itpWord counter delta⟩
      = (⟨true, counter, delta⟩, ⟨true, s.updateReceived, s.counter, s.delta⟩) := by
  have h32 : itpWord counter delta % 2 ^ 32 = itpWord counter delta := by
    simp only [itpWord, ITP_TYPE]; omega
  simp only [step, h32, isForUs_itpWord counter delta, Bool.and_self, if_true, repaired, slice]
  have h1 : itpWord counter delta / 2 ^ 5 % 2 ^ (19 - 5) % 2 ^ 14 = counter := by
    simp only [itpWord, ITP_TYPE]; omega
  have h2 : itpWord counter delta / 2 ^ 19 % 2 ^ (32 - 19) % 2 ^ 13 = delta := by
    simp only [itpWord, ITP_TYPE]; omega
  rw [h1, h2]

/-- Every 32-bit word with the ITP type is `itpWord` of its own fields: the theorem above covers
all timestamp packet contents. -/
theorem itp_word_surjective (dw0 : Nat) (h32 : dw0 < 2 ^ 32) (ht : isForUs dw0 = true) :
    dw0 = itpWord (slice dw0 5 19) (slice dw0 19 32) ∧ slice dw0 5 19 < 2 ^ 14 ∧ slice dw0 19 32 < 2 ^ 13 := by
  simp only [isForUs, ITP_TYPE, beq_iff_eq] at ht
  simp only [itpWord, slice, ITP_TYPE]
  omega

theorem non_itp_holds (c : Config) (s : State) (i : In)
    (h : (i.valid && isForUs (i.dw0 % 2 ^ 32)) = false) :
    step c s i = ({ s with updateReceived := false }, ⟨false, s.updateReceived, s.counter, s.delta⟩) := by
  simp [step, h]

theorem runState_append (c : Config) (s : State) (h₁ h₂ : List In) :
    runState c s (h₁ ++ h₂) = runState c (runState c s h₁) h₂ := by
  induction h₁ generalizing s with
  | nil => rfl
  | cons i is ih => simp only [List.cons_append, runState]; exact ih _

/-- History form of C47: whatever happened before (any state, any history), immediately after a valid
ITP the registers hold exactly its fields with the strobe set. -/
theorem itp_after_any_history (s : State) (h : List In) (counter delta : Nat)
    (hc : counter < 2 ^ 14) (hd : delta < 2 ^ 13) :
    runState repaired s (h ++ [⟨true, itpWord counter delta⟩]) = ⟨true, counter, delta⟩ := by
  rw [runState_append]
  simp only [runState, itp_fields_full_width _ counter delta hc hd]

theorem fields_held_until_next_itp (s : State) (gap : List In) (hne : gap ≠ [])
    (hgap : ∀ i ∈ gap, (i.valid && isForUs (i.dw0 % 2 ^ 32)) = false) :
    runState repaired s gap = ⟨false, s.counter, s.delta⟩ := by
  induction gap generalizing s with
  | nil => exact absurd rfl hne
  | cons i is ih =>
    have hi := hgap i (List.mem_cons_self)
    simp only [runState, non_itp_holds repaired s i hi]
    cases is with
    | nil => rfl
    | cons j js =>
      have := ih { s with updateReceived := false } (by simp)
        (fun k hk => hgap k (List.mem_cons_of_mem _ hk))
      simpa using this

/-- F21 witness: with the original 1-bit declarations the all-ones ITP is not reported as counter 0x3FFF,
delta 0x1FFF (the statement does not say what is reported instead). -/
theorem unrepaired_truncates :
    (step unrepaired init ⟨true, itpWord 0x3FFF 0x1FFF⟩).1 ≠ ⟨true, 0x3FFF, 0x1FFF⟩ := by
  decide +kernel

/-- Non-vacuity: a concrete timestamp (counter 0x2ABC, delta 0x1234) after an unrelated header. -/
example : runState repaired init [⟨true, 0x00000004⟩, ⟨false, 0⟩, ⟨true, itpWord 0x2ABC 0x1234⟩]
    = ⟨true, 0x2ABC, 0x1234⟩ := by decide +kernel

end LunaVerif.TimestampReceiver
