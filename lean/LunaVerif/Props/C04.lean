import LunaVerif.Model.Usb2.Handshake
import LunaVerif.Core.UtmiTrack
/-!
# C04 — USB2 handshakes are generated and detected exactly

"Each handshake request made while the generator is idle produces exactly one single-byte packet
carrying the requested ACK, NAK or STALL PID with its correct check nibble, held until the PHY
accepts it.  A handshake-detected strobe (ACK/NAK/STALL/NYET) is raised exactly once for each
received one-byte packet whose PID and check nibble form that handshake, and never for longer
packets or malformed PIDs."

Quantified over all request strobe timings (including requests while busy), all PHY ready
patterns, and all UTMI receive histories for the detector.

Generator specification: the generator is *idle* when no accepted-but-unsent handshake is pending;
`specNext` is the whole protocol (idle + request → pending; pending + ready → idle; requests while
pending are ignored).  Simultaneous requests: the code's priority is stall > nak > ack (`request`).

Detector specification: `Utmi.trackNext/trackDone` (Core/UtmiTrack.lean) define the received
packets of a raw history; a strobe is due in the cycle after a packet completes, iff the packet is
exactly the one byte `0xD2` / `0x5A` / `0x1E` / `0x96`.
-/
namespace LunaVerif.Handshake

namespace Gen

inductive Hs | ack | nak | stall
deriving Repr, DecidableEq

/-- PID nibbles of USB 2.0 table 8-1. -/
def pidNibble : Hs → Nat
  | .ack => 0b0010
  | .nak => 0b1010
  | .stall => 0b1110

/-- The PID byte: nibble, and its complement as check nibble in the upper half (USB 2.0 §8.3.1). -/
def pidByte (h : Hs) : Nat := pidNibble h + 16 * (15 - pidNibble h)

/-- Which handshake a set of simultaneous request strobes asks for, as coded (later `If` wins). -/
def request (i : In) : Option Hs :=
  if i.stall then some .stall else if i.nak then some .nak else if i.ack then some .ack else none

def specNext (p : Option Hs) (i : In) : Option Hs :=
  match p with
  | none => request i
  | some h => if i.ready then none else some h

def pendings : Option Hs → List In → List (Option Hs)
  | _, [] => []
  | p, i :: is => p :: pendings (specNext p i) is

def Matches (o : Out) (p : Option Hs) : Prop :=
  o.valid = p.isSome ∧ ∀ h, p = some h → o.data = pidByte h

def AllMatch : List Out → List (Option Hs) → Prop
  | [], [] => True
  | o :: os, p :: ps => Matches o p ∧ AllMatch os ps
  | _, _ => False

def Rel (s : State) (p : Option Hs) : Prop :=
  s.transmit = p.isSome ∧ ∀ h, p = some h → s.data = pidByte h

theorem rel_init : Rel init none := by simp [Rel, init]

theorem step_idle (s : State) (i : In) (h : s.transmit = false) :
    (step s i).1 = match request i with | some hs => ⟨true, pidByte hs⟩ | none => s := by
  obtain ⟨ack, nak, stall, ready⟩ := i
  cases ack <;> cases nak <;> cases stall <;>
    simp [step, h, request, pidByte, pidNibble, packetAck, packetNak, packetStall]

theorem step_rel (s : State) (p : Option Hs) (i : In) (h : Rel s p) :
    Rel (step s i).1 (specNext p i) ∧ Matches (step s i).2 p := by
  obtain ⟨ht, hd⟩ := h
  refine ⟨?_, ⟨by simpa [step] using ht, by simpa [step] using hd⟩⟩
  cases p with
  | none =>
    simp at ht
    rw [step_idle s i ht, specNext]
    cases request i <;> simp [Rel, ht]
  | some h0 =>
    simp at ht
    have hd0 := hd h0 rfl
    cases hr : i.ready <;> simp [Rel, step, ht, specNext, hr, hd0]

theorem gen_outputs_exact_from (s : State) (p : Option Hs) (h : Rel s p) (hist : List In) :
    AllMatch (run s hist) (pendings p hist) := by
  induction hist generalizing s p with
  | nil => exact True.intro
  | cons i is ih =>
    have := step_rel s p i h
    exact ⟨this.2, ih _ _ this.1⟩

/-- **C04 (generator), cycle level.**  For every request/ready schedule, in every cycle `tx_valid`
is high iff a handshake is pending, and `tx_data` is then that handshake's PID byte — so the byte
is held, unchanged, from the cycle after the request until the cycle `tx_ready` is high. -/
theorem gen_outputs_exact (hist : List In) :
    AllMatch (run init hist) (pendings none hist) :=
  gen_outputs_exact_from init none rel_init hist

def accepted : List Out → List In → List Nat
  | o :: os, i :: is => if o.valid && i.ready then o.data :: accepted os is else accepted os is
  | _, _ => []

def served : Option Hs → List In → List Hs
  | _, [] => []
  | none, i :: is => served (request i) is
  | some h, i :: is => if i.ready then h :: served none is else served (some h) is

theorem accepted_from (s : State) (p : Option Hs) (h : Rel s p) (hist : List In) :
    accepted (run s hist) hist = (served p hist).map pidByte := by
  induction hist generalizing s p with
  | nil => simp [run, accepted, served]
  | cons i is ih =>
    have hs := step_rel s p i h
    have ih' := ih _ _ hs.1
    obtain ⟨hv, hd⟩ := hs.2
    cases p with
    | none =>
      simp at hv
      simp only [run, accepted, hv, Bool.false_and, Bool.false_eq_true, if_false, served]
      simpa [specNext] using ih'
    | some h0 =>
      simp at hv
      have hd0 := hd h0 rfl
      cases hr : i.ready
      · simp only [run, accepted, hv, hr, Bool.and_false, Bool.false_eq_true, if_false, served]
        simpa [specNext, hr] using ih'
      · simp only [run, accepted, hv, hr, Bool.and_self, if_true, served, List.map_cons, hd0]
        congr 1
        simpa [specNext, hr] using ih'

/-- **C04 (generator), packet level.**  The bytes the PHY accepts are exactly the PID bytes of the
requests made while idle, one byte each, in order; requests made while busy never appear. -/
theorem gen_one_packet_per_idle_request (hist : List In) :
    accepted (run init hist) hist = (served none hist).map pidByte :=
  accepted_from init none rel_init hist

/-- The three PID bytes are the constants of the specification and pass the detector's own check
nibble test. -/
theorem gen_byte_has_valid_check_nibble (h : Hs) :
    Det.isValidPid (pidByte h) = true ∧ pidByte h % 16 = pidNibble h ∧ pidByte h < 256 ∧
    (pidByte .ack = 0xD2 ∧ pidByte .nak = 0x5A ∧ pidByte .stall = 0x1E) := by
  cases h <;> decide

theorem request_single :
    request ⟨true, false, false, r⟩ = some .ack ∧ request ⟨false, true, false, r⟩ = some .nak ∧
    request ⟨false, false, true, r⟩ = some .stall ∧ request ⟨false, false, false, r⟩ = none := by
  simp [request]

/-- Back-pressure: a pending byte that is not accepted is presented again, unchanged. -/
theorem gen_valid_held (s : State) (i : In) (hv : (step s i).2.valid = true) (hr : i.ready = false) :
    (step s i).1 = s := by
  simp [step] at hv
  simp [step, hv, hr]

example : accepted (run init [⟨true, false, false, false⟩, ⟨false, true, false, false⟩,
      ⟨false, false, false, true⟩, ⟨true, true, false, true⟩, ⟨false, false, false, true⟩])
    [⟨true, false, false, false⟩, ⟨false, true, false, false⟩,
      ⟨false, false, false, true⟩, ⟨true, true, false, true⟩, ⟨false, false, false, true⟩]
    = [0xD2, 0x5A] := by decide

end Gen

namespace Det
open LunaVerif.Utmi

def noStrobe : Out := ⟨false, false, false, false⟩

def specOut : Option (List Nat) → Out
  | some pkt => ⟨pkt == [0xD2], pkt == [0x5A], pkt == [0x1E], pkt == [0x96]⟩
  | none => noStrobe

/-- Cycle-by-cycle specification: the output of a cycle is decided by the packet (if any) that
completed in the previous cycle. -/
def specRun : Track → Option (List Nat) → List RxCycle → List Out
  | _, _, [] => []
  | cur, done, c :: cs => specOut done :: specRun (trackNext cur c) (trackDone cur c) cs

/-- Refinement invariant: FSM state as a function of the packet received so far. -/
def Inv (s : State) (cur : Track) (done : Option (List Nat)) : Prop :=
  (⟨s.ack, s.nak, s.stall, s.nyet⟩ : Out) = specOut done ∧
  match cur with
  | none => s.fsm = .idle
  | some [] => s.fsm = .readPid
  | some [b] => b < 256 ∧
      if isValidPid b then s.fsm = .awaitCompletion ∧ s.activePid = b % 16 else s.fsm = .irrelevant
  | some (_ :: _ :: _) => s.fsm = .irrelevant

theorem inv_init : Inv init none none := by simp [Inv, init, specOut, noStrobe]

theorem pid_byte_iff (b n m : Nat) (hb : b < 256) (hnm : n + m = 15) :
    (isValidPid b = true ∧ b % 16 = n) ↔ b = n + 16 * m := by
  simp only [isValidPid, beq_iff_eq]
  have h16 : b / 16 < 16 := by omega
  rw [Nat.mod_eq_of_lt h16]
  constructor
  · rintro ⟨h1, h2⟩; omega
  · intro h; constructor <;> omega

theorem specOut_single (b : Nat) (hb : b < 256) :
    specOut (some [b]) =
      if isValidPid b then ⟨b % 16 == ackPid, b % 16 == nakPid, b % 16 == stallPid, b % 16 == nyetPid⟩ else noStrobe := by
  have key : ∀ n m x, n + m = 15 → x = n + 16 * m → ([b] == [x]) = (isValidPid b && b % 16 == n) := by
    intro n m x hnm hx
    rw [Bool.eq_iff_iff, Bool.and_eq_true, beq_iff_eq, beq_iff_eq, List.cons.injEq, and_iff_left rfl, hx]
    exact (pid_byte_iff b n m hb hnm).symm
  rw [specOut, key 2 13 0xD2 rfl rfl, key 10 5 0x5A rfl rfl, key 14 1 0x1E rfl rfl, key 6 9 0x96 rfl rfl]
  cases isValidPid b <;> rfl

theorem step_inv (s : State) (cur : Track) (done : Option (List Nat)) (c : RxCycle)
    (hd : c.data < 256) (h : Inv s cur done) :
    Inv (step s c).1 (trackNext cur c) (trackDone cur c) ∧ (step s c).2 = specOut done := by
  obtain ⟨hout, hfsm⟩ := h
  refine ⟨?_, by simpa [step] using hout⟩
  obtain ⟨active, valid, data⟩ := c
  simp only at hd
  match cur, hfsm with
  | none, hf =>
    simp only at hf
    cases active <;> simp [Inv, step, hf, trackNext, trackDone, specOut, noStrobe]
  | some [], hf =>
    simp only at hf
    cases active <;> cases valid <;>
      simp [Inv, step, hf, trackNext, trackDone, specOut, noStrobe, hd]
    cases hv : isValidPid data <;> simp
  | some [b], hf =>
    simp only at hf
    obtain ⟨hb, hf⟩ := hf
    have hso := specOut_single b hb
    have hsn : specOut none = noStrobe := rfl
    cases hv : isValidPid b
    · simp [hv] at hf hso
      cases active <;> cases valid <;> simp [Inv, step, hf, trackNext, trackDone, hso, hsn, noStrobe, hv, hb]
    · simp [hv] at hf hso
      obtain ⟨hf, hp⟩ := hf
      cases active <;> cases valid <;> simp [Inv, step, hf, hp, trackNext, trackDone, hso, hsn, noStrobe, hv, hb]
  | some (b1 :: b2 :: rest), hf =>
    simp only at hf
    cases active <;> cases valid <;>
      simp [Inv, step, hf, trackNext, trackDone, specOut, noStrobe]

theorem det_exact_from (s : State) (cur : Track) (done : Option (List Nat)) (h : Inv s cur done)
    (hist : List RxCycle) (hd : ∀ c ∈ hist, c.data < 256) :
    run s hist = specRun cur done hist := by
  induction hist generalizing s cur done with
  | nil => rfl
  | cons c cs ih =>
    have hs := step_inv s cur done c (hd c (by simp)) h
    simp only [run, specRun, hs.2]
    congr 1
    exact ih _ _ _ hs.1 (fun x hx => hd x (by simp [hx]))

/-- **C04 (detector), cycle level.**  For every receive history (8-bit data), the four strobes are,
in every cycle, exactly those due for the packet that completed in the previous cycle: one strobe
iff that packet is the single byte ACK / NAK / STALL / NYET with its check nibble, none otherwise
(longer packets, malformed PIDs, byte-less packets, or no packet end). -/
theorem det_exact (hist : List RxCycle) (hd : ∀ c ∈ hist, c.data < 256) :
    run init hist = specRun none none hist :=
  det_exact_from init none none inv_init hist hd

inductive Kind | ack | nak | stall | nyet
deriving Repr, DecidableEq

def kindOf (o : Out) : Option Kind :=
  if o.ack then some .ack else if o.nak then some .nak else if o.stall then some .stall
  else if o.nyet then some .nyet else none

def handshakeOf (pkt : List Nat) : Option Kind :=
  if pkt = [0xD2] then some .ack else if pkt = [0x5A] then some .nak
  else if pkt = [0x1E] then some .stall else if pkt = [0x96] then some .nyet else none

/-- The specification's output `specOut done` for a completed packet `done` (the detector's strobes are these by
`det_exact`): a strobe is raised iff the completed packet is that handshake; at most one strobe at a time. -/
theorem det_strobe_iff_handshake_packet (done : Option (List Nat)) :
    kindOf (specOut done) = done.bind handshakeOf ∧
    ((specOut done).ack = true ↔ done = some [0xD2]) ∧
    ((specOut done).nak = true ↔ done = some [0x5A]) ∧
    ((specOut done).stall = true ↔ done = some [0x1E]) ∧
    ((specOut done).nyet = true ↔ done = some [0x96]) := by
  cases done with
  | none => simp [specOut, noStrobe, kindOf]
  | some pkt =>
    refine ⟨?_, by simp [specOut], by simp [specOut], by simp [specOut], by simp [specOut]⟩
    simp only [specOut, kindOf, handshakeOf, Option.bind_some, beq_iff_eq]

theorem specRun_events (cur : Track) (done : Option (List Nat)) (hist : List RxCycle) (x : RxCycle) :
    (specRun cur done (hist ++ [x])).filterMap kindOf
      = (done.bind handshakeOf).toList ++ (packetsOf cur hist).filterMap handshakeOf := by
  induction hist generalizing cur done with
  | nil =>
    simp only [List.nil_append, specRun, List.filterMap_cons, List.filterMap_nil, packetsOf,
      List.append_nil, (det_strobe_iff_handshake_packet done).1]
    cases done.bind handshakeOf <;> rfl
  | cons c cs ih =>
    simp only [List.cons_append, specRun, List.filterMap_cons, (det_strobe_iff_handshake_packet done).1,
      ih, packetsOf]
    cases hdn : trackDone cur c with
    | none => cases done.bind handshakeOf <;> simp
    | some p =>
      cases done.bind handshakeOf <;> cases hp : handshakeOf p <;> simp [hp]

/-- **C04 (detector), packet level.**  The sequence of strobes raised during a history (observed one
cycle beyond its end) is the sequence of handshakes among the packets received in it: exactly one
strobe per one-byte handshake packet, in order, and nothing for any other packet. -/
theorem det_events_eq_packets (hist : List RxCycle) (x : RxCycle)
    (hd : ∀ c ∈ hist ++ [x], c.data < 256) :
    (run init (hist ++ [x])).filterMap kindOf = (packetsOf none hist).filterMap handshakeOf := by
  rw [det_exact _ hd, specRun_events]; rfl

/-- The same for a list of well-formed rendered packets with arbitrary timing. -/
theorem det_events_rendered (ps : List RxPacket) (hw : ∀ p ∈ ps, p.wf) (x : RxCycle)
    (hd : ∀ c ∈ renderAll ps ++ [x], c.data < 256) :
    (run init (renderAll ps ++ [x])).filterMap kindOf = ps.filterMap (fun p => handshakeOf p.bytes) := by
  rw [det_events_eq_packets _ x hd, (packetsOf_renderAll ps hw).1, List.filterMap_map]
  rfl

/-- Never for longer packets, malformed PIDs or byte-less packets. -/
theorem no_handshake_unless_single_pid_byte (pkt : List Nat) :
    (pkt.length ≠ 1 → handshakeOf pkt = none) ∧
    (∀ b, pkt = [b] → isValidPid b = false → handshakeOf pkt = none) := by
  constructor
  · intro h
    have hne : ∀ b, pkt ≠ [b] := fun b e => h (by rw [e]; rfl)
    simp only [handshakeOf, hne, if_false]
  · intro b e hv
    have hne : ∀ x, isValidPid x = true → pkt ≠ [x] := by
      intro x hx e'
      rw [e, List.cons.injEq] at e'
      rw [e'.1, hx] at hv
      exact Bool.noConfusion hv
    simp only [handshakeOf, hne _ (by decide : isValidPid 0xD2 = true), hne _ (by decide : isValidPid 0x5A = true),
      hne _ (by decide : isValidPid 0x1E = true), hne _ (by decide : isValidPid 0x96 = true), if_false]

/-- Non-vacuity: ACK with a wait cycle, a two-byte packet starting with ACK (ignored), NYET. -/
example :
    (run init ([waitC 0, byteC 0xD2, waitC 7, idleC 0] ++ [waitC 0, byteC 0xD2, byteC 0, idleC 0]
      ++ [waitC 0, byteC 0x96, idleC 0] ++ [idleC 0])).filterMap kindOf = [.ack, .nyet] := by decide

end Det
end LunaVerif.Handshake
