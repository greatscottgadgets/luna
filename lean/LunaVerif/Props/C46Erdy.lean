import LunaVerif.Props.C46Framing
import LunaVerif.Props.C45
import LunaVerif.Model.Usb3.SSInLoop
/-!
# C46 — the endpoint wired to the transaction packet generator: NRDY, then ERDY, within a bound

"… answers an IN request with a data packet when it holds data (NRDY otherwise), notifies the host with ERDY
once data becomes available after an NRDY …"

The theorems of `Props/C46.lean`, `C46Once.lean`, `C46Framing.lean` are about the endpoint with the completion of
its ERDY as an input (`In.done`).  Here the endpoint is wired as the library wires it
(`Model/Usb3/SSInLoop.lean`): `handshakes_out` connected to the `TransactionPacketGenerator` (model of C45),
directly or through `SuperSpeedEndpointMultiplexer`, the generator feeding the header queue (`qReady`).  The
generator pulses `done` for *every* packet it completes.  The endpoint honours `done` only after the generator has
taken the ERDY request (`erdy_in_flight`).  Without that gate (`nextU`: this model with `done` passed to
REQUEST_IN_TOKEN ungated, everything else as here) the `done` of the endpoint's own NRDY can be taken for the `done`
of the ERDY it has just started to request, when the packet completes while the NRDY is still in the generator: shown
on one history, `unrepaired_loses_erdy`.

* `hs_refines_core`, `loop_refines_core` — the wired endpoint is the `In.done` endpoint run on the inputs
  `done := handshakes_out.done ∧ erdy_in_flight`: every theorem about `next`/`out` (all inputs) applies.
* `loop_exactly_once`, `loop_framing` — the history-level host-view theorems for closed-loop histories (configuration
  `CfgOK`: `max_packet_size` a multiple of 4, at least 8, memories addressable, as in Props/C46Once.lean).
* `loop_inv_run` — `erdy_in_flight ↔ generator in SEND_ERDY`, only in REQUEST_IN_TOKEN; the generator only ever sends
  NRDY / ERDY, for this endpoint (`loop_tp_names_endpoint`).
* `loop_nrdy_then_erdy` — all closed-loop histories from reset: from an NRDY request until an ERDY transaction packet
  has been handed to the header queue the endpoint starts no data packet and no ZLP.
* `loop_erdy_within_bound` — all closed-loop histories from reset: if an ERDY is owed and the packet completes in
  cycle `i` (or has completed: REQUEST_IN_TOKEN), and the header queue never lets `L + 1` consecutive cycles pass
  without `ready`, the ERDY transaction packet is handed to the queue within `2 L + 4` cycles.
-/
namespace LunaVerif.SSInLoop
open LunaVerif LunaVerif.SSStreamIn

theorem out_done_irrel (c : SSStreamIn.Config) (s : SSStreamIn.State) (i : SSStreamIn.In) (d : Bool) :
    SSStreamIn.out c s { i with done := d } = SSStreamIn.out c s i := by
  unfold SSStreamIn.out SSStreamIn.control
  cases hf : s.fsm <;> simp only [] <;> grind

theorem outHs_eq (c : SSStreamIn.Config) (s : HsState) (i : HsIn) :
    (outHs c s i).base = SSStreamIn.out c s.core i.base := by
  simp only [outHs, effIn]; exact out_done_irrel c s.core i.base _

theorem epOut_base (c : Config) (s : State) (i : In) :
    (epOut c s i).base = SSStreamIn.out c.ep s.ep.core (effIn s.ep (epIn c s i)) := by
  simp only [epOut, outHs, effIn, epIn]
  rw [out_done_irrel]
  exact (out_done_irrel c.ep s.ep.core i.ep _).symm

/-- one cycle of the endpoint with `handshakes_out.ready/done` and `erdy_in_flight` is one cycle of the core model
with `done := handshakes_out.done ∧ erdy_in_flight`; every one-step theorem of `Props/C46.lean` (they hold for all
inputs) therefore applies to it. -/
theorem hs_refines_core (c : SSStreamIn.Config) (s : HsState) (i : HsIn) :
    (nextHs c s i).core = SSStreamIn.next c s.core (effIn s i) ∧
      (outHs c s i).base = SSStreamIn.out c s.core (effIn s i) ∧
      (outHs c s i).base = SSStreamIn.out c s.core i.base :=
  ⟨rfl, rfl, outHs_eq c s i⟩

/-- a closed-loop history: per cycle the loop's inputs and the link oracle of the host observer -/
def runGL (c : Config) : State → Ghost → List (In × Bool) → State × Ghost
  | s, g, [] => (s, g)
  | s, g, (i, d) :: r => runGL c (next c s i) (gnext i.ep (out c s i).ep.base d g) r

def runFL (c : Config) : State → Ghost → Frame → List (In × Bool) → State × Ghost × Frame
  | s, g, f, [] => (s, g, f)
  | s, g, f, (i, d) :: r =>
    runFL c (next c s i) (gnext i.ep (out c s i).ep.base d g) (fnext c.ep.mps i.ep (out c s i).ep.base d g f) r

def envAllL (c : Config) : State → Ghost → List (In × Bool) → Bool
  | _, _, [] => true
  | s, g, (i, d) :: r =>
    decide (EnvOK c.ep g i.ep (out c s i).ep.base) && envAllL c (next c s i) (gnext i.ep (out c s i).ep.base d g) r

/-- the inputs the endpoint FSM effectively sees along a closed-loop run -/
def coreHist (c : Config) : State → List (In × Bool) → List (SSStreamIn.In × Bool)
  | _, [] => []
  | s, (i, d) :: r => (effIn s.ep (epIn c s i), d) :: coreHist c (next c s i) r

theorem gnext_done_irrel (i : SSStreamIn.In) (b : Bool) (o : SSStreamIn.Out) (d : Bool) (g : Ghost) :
    gnext { i with done := b } o d g = gnext i o d g := rfl

theorem fnext_done_irrel (m : Nat) (i : SSStreamIn.In) (b : Bool) (o : SSStreamIn.Out) (d : Bool) (g : Ghost)
    (f : Frame) : fnext m { i with done := b } o d g f = fnext m i o d g f := rfl

theorem envOK_done_irrel (c : SSStreamIn.Config) (g : Ghost) (i : SSStreamIn.In) (b : Bool) (o : SSStreamIn.Out) :
    EnvOK c g { i with done := b } o ↔ EnvOK c g i o := Iff.rfl

/-! The inputs the FSM effectively sees differ from the loop's inputs in `done` only, which neither the observers
nor the environment read. -/

theorem gnext_effIn (c : Config) (s : State) (i : In) (o : SSStreamIn.Out) (d : Bool) (g : Ghost) :
    gnext (effIn s.ep (epIn c s i)) o d g = gnext i.ep o d g := gnext_done_irrel i.ep _ o d g

theorem fnext_effIn (c : Config) (s : State) (i : In) (o : SSStreamIn.Out) (d : Bool) (g : Ghost) (f : Frame) :
    fnext c.ep.mps (effIn s.ep (epIn c s i)) o d g f = fnext c.ep.mps i.ep o d g f :=
  fnext_done_irrel _ i.ep _ o d g f

theorem envOK_effIn (c : Config) (s : State) (i : In) (o : SSStreamIn.Out) (g : Ghost) :
    decide (EnvOK c.ep g (effIn s.ep (epIn c s i)) o) = decide (EnvOK c.ep g i.ep o) :=
  decide_eq_decide.2 (envOK_done_irrel c.ep g i.ep _ o)

theorem loop_refines_core (c : Config) (h : List (In × Bool)) (s : State) (g : Ghost) :
    ((runGL c s g h).1.ep.core, (runGL c s g h).2) = runG c.ep s.ep.core g (coreHist c s h) := by
  induction h generalizing s g with
  | nil => rfl
  | cons e r ih =>
    obtain ⟨i, d⟩ := e
    rw [runGL, coreHist, runG, ih, gnext_effIn, ← epOut_base]
    rfl

theorem loop_refines_frame (c : Config) (h : List (In × Bool)) (s : State) (g : Ghost) (f : Frame) :
    ((runFL c s g f h).1.ep.core, (runFL c s g f h).2) = runF c.ep s.ep.core g f (coreHist c s h) := by
  induction h generalizing s g f with
  | nil => rfl
  | cons e r ih =>
    obtain ⟨i, d⟩ := e
    rw [runFL, coreHist, runF, ih, gnext_effIn, fnext_effIn, ← epOut_base]
    rfl

theorem envAllL_eq (c : Config) (h : List (In × Bool)) (s : State) (g : Ghost) :
    envAllL c s g h = envAll c.ep s.ep.core g (coreHist c s h) := by
  induction h generalizing s g with
  | nil => rfl
  | cons e r ih =>
    obtain ⟨i, d⟩ := e
    rw [envAllL, coreHist, envAll, ih, gnext_effIn, envOK_effIn, ← epOut_base]
    rfl

/-- **loop_exactly_once**: `ss_in_exactly_once` for the endpoint wired to the transaction packet generator — for
every configuration with `CfgOK c.ep` (`max_packet_size` a multiple of 4, at least 8, memories addressable) and every
closed-loop history allowed by the environment, at every reachable cycle, bytes accepted by the host ++ bytes held by
the endpoint = bytes accepted from the producer. -/
theorem loop_exactly_once (c : Config) (hc : CfgOK c.ep) (hist : List (In × Bool))
    (henv : envAllL c (init c) Ghost.init hist = true) :
    (runGL c (init c) Ghost.init hist).2.deliv ++
        pending (runGL c (init c) Ghost.init hist).1.ep.core (runGL c (init c) Ghost.init hist).2 =
      (runGL c (init c) Ghost.init hist).2.prod := by
  rw [envAllL_eq] at henv
  have h := ss_in_exactly_once c.ep hc (coreHist c (init c) hist) henv
  rw [show runG c.ep (SSStreamIn.init c.ep) Ghost.init (coreHist c (init c) hist) = _ from
    (loop_refines_core c hist (init c) Ghost.init).symm] at h
  exact h

/-- **loop_framing**: `ss_in_framing` for closed-loop histories, under the same `CfgOK c.ep`. -/
theorem loop_framing (c : Config) (hc : CfgOK c.ep) (hist : List (In × Bool))
    (henv : envAllL c (init c) Ghost.init hist = true) :
    (runFL c (init c) Ghost.init Frame.init hist).2.2.pkts ++
        pendingPkts c.ep (runFL c (init c) Ghost.init Frame.init hist).1.ep.core
          (runFL c (init c) Ghost.init Frame.init hist).2.1 =
      (runFL c (init c) Ghost.init Frame.init hist).2.2.exp := by
  rw [envAllL_eq] at henv
  have h := ss_in_framing c.ep hc (coreHist c (init c) hist) henv
  rw [show runF c.ep (SSStreamIn.init c.ep) Ghost.init Frame.init (coreHist c (init c) hist) = _ from
    (loop_refines_frame c hist (init c) Ghost.init Frame.init).symm] at h
  exact h

/-! ## The loop invariant: `erdy_in_flight` ↔ the generator is sending this endpoint's ERDY -/

/-- the generator hands an ERDY transaction packet to the header queue in this cycle -/
def erdyHanded (s : State) (i : In) : Bool := decide (s.gen.fsm = .sendErdy) && i.qReady

/-- ghost flag: an NRDY has been requested and no ERDY transaction packet has reached the header queue since -/
def owedNextL (c : Config) (s : State) (i : In) (owed : Bool) : Bool :=
  if (out c s i).ep.base.sendNrdy then true
  else if erdyHanded s i then false
  else owed

structure LoopInv (c : Config) (s : State) (owed : Bool) : Prop where
  genk : s.gen.fsm = .dispatch ∨ s.gen.fsm = .sendNrdy ∨ s.gen.fsm = .sendErdy
  genep : s.gen.fsm ≠ .dispatch → s.gen.ep = c.ep.ep % 128
  fl : s.ep.flight = true ↔ s.gen.fsm = .sendErdy
  flreq : s.ep.flight = true → s.ep.core.fsm = .reqIn
  owed : owed = true → (s.ep.core.fsm = .waitData ∨ s.ep.core.fsm = .reqIn) ∧ s.ep.core.erdyReq = true

theorem epOut_erdy (c : Config) (s : State) (i : In) :
    (epOut c s i).base.sendErdy = decide (s.ep.core.fsm = .reqIn) := by
  rw [epOut_base, Bool.eq_iff_iff, decide_eq_true_iff]
  exact erdy_iff c.ep s.ep.core _

theorem epOut_nrdy_not_reqIn (c : Config) (s : State) (i : In) (h : (epOut c s i).base.sendNrdy = true) :
    s.ep.core.fsm ≠ .reqIn := by
  rw [epOut_base] at h
  intro hf
  simp [SSStreamIn.out, SSStreamIn.control, hf] at h

theorem epOut_hsEp (c : Config) (s : State) (i : In) : (epOut c s i).hsEp = c.ep.ep % 128 := rfl

theorem sel_erdy (c : Config) (s : State) (i : In) :
    (selected c s i && (epOut c s i).base.sendErdy) = (epOut c s i).base.sendErdy := by
  unfold selected
  cases c.viaMux <;> cases (epOut c s i).base.sendNrdy <;> cases (epOut c s i).base.sendErdy <;> rfl

theorem sel_nrdy (c : Config) (s : State) (i : In) :
    (selected c s i && (epOut c s i).base.sendNrdy) = (epOut c s i).base.sendNrdy := by
  unfold selected
  cases c.viaMux <;> cases (epOut c s i).base.sendNrdy <;> cases (epOut c s i).base.sendErdy <;> rfl

theorem sel_of_req (c : Config) (s : State) (i : In)
    (h : (epOut c s i).base.sendNrdy = true ∨ (epOut c s i).base.sendErdy = true) : selected c s i = true := by
  unfold selected
  rcases h with h | h <;> simp [h]

theorem gen_next_dispatch (c : Config) (s : State) (i : In) (h : s.gen.fsm = .dispatch) :
    (next c s i).gen.fsm = (if (epOut c s i).base.sendErdy then .sendErdy
        else if (epOut c s i).base.sendNrdy then .sendNrdy else .dispatch) ∧
      (next c s i).gen.ep = (if selected c s i then c.ep.ep % 128 else 0) % 128 := by
  simp only [next, TransactionPacketGenerator.step, h, genIn, TransactionPacketGenerator.dispatchNext,
    TransactionPacketGenerator.repaired, sel_erdy, sel_nrdy, epOut_hsEp]
  simp

theorem gen_next_send (c : Config) (s : State) (i : In) (h : s.gen.fsm ≠ .dispatch) :
    (next c s i).gen = { s.gen with fsm := if i.qReady then .dispatch else s.gen.fsm } :=
  congrArg Prod.fst (TransactionPacketGenerator.step_send _ s.gen (genIn c s i) h)

theorem genOut_dispatch (c : Config) (s : State) (i : In) (h : s.gen.fsm = .dispatch) :
    (genOut c s i).ifReady = true ∧ (genOut c s i).done = false ∧ (genOut c s i).valid = false := by
  simp [genOut, TransactionPacketGenerator.step, h]

theorem genOut_send (c : Config) (s : State) (i : In) (h : s.gen.fsm ≠ .dispatch) :
    (genOut c s i).ifReady = false ∧ (genOut c s i).done = i.qReady ∧ (genOut c s i).valid = true ∧
      (genOut c s i).header = TransactionPacketGenerator.headerOf s.gen.fsm s.gen := by
  rw [genOut, TransactionPacketGenerator.step_send _ s.gen (genIn c s i) h]
  exact ⟨rfl, rfl, rfl, rfl⟩

theorem ep_next_core (c : Config) (s : State) (i : In) :
    (next c s i).ep.core = SSStreamIn.next c.ep s.ep.core (effIn s.ep (epIn c s i)) := rfl

theorem ep_next_flight (c : Config) (s : State) (i : In) :
    (next c s i).ep.flight =
      (if s.ep.core.fsm = .reqIn then
        (if (selected c s i && (genOut c s i).done) && s.ep.flight then false
         else s.ep.flight || (selected c s i && (genOut c s i).ifReady))
       else s.ep.flight) := rfl

/-- what REQUEST_IN_TOKEN sees as `done` -/
theorem eff_done (c : Config) (s : State) (i : In) :
    (effIn s.ep (epIn c s i)).done = ((selected c s i && (genOut c s i).done) && s.ep.flight) := rfl

/-- the stream side of what the endpoint core sees is the loop's own input -/
theorem eff_stream (c : Config) (s : State) (i : In) :
    (effIn s.ep (epIn c s i)).sValid = i.ep.sValid ∧ (effIn s.ep (epIn c s i)).sLast = i.ep.sLast := by
  simp only [effIn, epIn, and_self]

theorem flight_false (c : Config) (s : State) (o : Bool) (h : LoopInv c s o) (hg : s.gen.fsm ≠ .sendErdy) :
    s.ep.flight = false := by
  cases hq : s.ep.flight
  · rfl
  · exact absurd (h.fl.1 hq) hg

/-- under the invariant, "REQUEST_IN_TOKEN sees done" is exactly "the ERDY packet is handed to the header queue" -/
theorem eff_done_iff_handed (c : Config) (s : State) (i : In) (owed : Bool) (h : LoopInv c s owed) :
    ((epOut c s i).base.sendErdy && (effIn s.ep (epIn c s i)).done) = erdyHanded s i := by
  rw [eff_done, epOut_erdy, erdyHanded]
  by_cases hg : s.gen.fsm = .sendErdy
  case neg => simp [hg, flight_false c s owed h hg]
  · have hfl : s.ep.flight = true := h.fl.2 hg
    have hreq := h.flreq hfl
    have hsel : selected c s i = true := sel_of_req c s i (Or.inr (by rw [epOut_erdy]; simp [hreq]))
    have hd := (genOut_send c s i (by rw [hg]; intro hh; cases hh)).2.1
    simp [hg, hfl, hreq, hsel, hd]

theorem owedNext_eq (c : Config) (s : State) (i : In) (owed : Bool) (h : LoopInv c s owed) :
    owedNext c.ep s.ep.core (effIn s.ep (epIn c s i)) owed = owedNextL c s i owed := by
  have h1 := eff_done_iff_handed c s i owed h
  have h2 := epOut_base c s i
  unfold owedNext owedNextL
  simp only [out]
  rw [← h2, h1]
  rfl

theorem loop_inv_step (c : Config) (s : State) (i : In) (owed : Bool) (h : LoopInv c s owed) :
    LoopInv c (next c s i) (owedNextL c s i owed) := by
  have howed : OwedInv (next c s i).ep.core (owedNextL c s i owed) := by
    rw [← owedNext_eq c s i owed h, ep_next_core]
    exact owed_step c.ep s.ep.core _ owed h.owed
  have hed := eff_done c s i
  rcases h.genk with hg | hg | hg
  · -- DISPATCH_REQUESTS: a request of this cycle is taken
    have hfl := flight_false c s owed h (by rw [hg]; intro hh; cases hh)
    obtain ⟨hn1, hn2⟩ := gen_next_dispatch c s i hg
    obtain ⟨hr, hd, _⟩ := genOut_dispatch c s i hg
    have hfl' := ep_next_flight c s i
    rw [hfl, hr, hd] at hfl'
    rw [hfl, hd] at hed
    by_cases hreq : s.ep.core.fsm = .reqIn
    · have he : (epOut c s i).base.sendErdy = true := by rw [epOut_erdy]; simp [hreq]
      have hsel := sel_of_req c s i (Or.inr he)
      have hc := reqIn_next c.ep s.ep.core (effIn s.ep (epIn c s i)) hreq
      rw [he] at hn1; rw [hsel] at hn2
      refine ⟨Or.inr (Or.inr (by simpa using hn1)), fun _ => by rw [hn2]; simp, ?_, ?_, howed⟩
      · simp [hfl', hreq, hsel, hn1]
      · intro _; rw [ep_next_core, hc.1]; simp [hed]
    · have he : (epOut c s i).base.sendErdy = false := by rw [epOut_erdy]; simp [hreq]
      rw [he] at hn1
      have hflf : (next c s i).ep.flight = false := by simp [hfl', hreq]
      -- the generator takes an NRDY request of this cycle, or stays in DISPATCH
      cases hn : (epOut c s i).base.sendNrdy <;> simp [hn] at hn1
      · exact ⟨Or.inl hn1, fun hne => absurd hn1 hne, by simp [hflf, hn1], by simp [hflf], howed⟩
      · exact ⟨Or.inr (Or.inl hn1), fun _ => by rw [hn2, sel_of_req c s i (Or.inl hn)]; simp, by simp [hflf, hn1],
          by simp [hflf], howed⟩
  · -- SEND_NRDY: its done is not for the endpoint's ERDY
    have hfl := flight_false c s owed h (by rw [hg]; intro hh; cases hh)
    have hne : s.gen.fsm ≠ .dispatch := by rw [hg]; intro hh; cases hh
    have hn := gen_next_send c s i hne
    obtain ⟨hr, hd, _⟩ := genOut_send c s i hne
    have hfl' := ep_next_flight c s i
    rw [hfl, hr] at hfl'
    have hflf : (next c s i).ep.flight = false := by
      rw [hfl']; split <;> simp
    refine ⟨?_, ?_, ?_, ?_, howed⟩
    · rw [hn]; cases i.qReady <;> simp [hg]
    · intro _; rw [hn]; exact h.genep hne
    · rw [hflf, hn]; cases i.qReady <;> simp [hg]
    · rw [hflf]; intro hh; cases hh
  · -- SEND_ERDY: the endpoint waits in REQUEST_IN_TOKEN with erdy_in_flight
    have hfl : s.ep.flight = true := h.fl.2 hg
    have hreq := h.flreq hfl
    have hne : s.gen.fsm ≠ .dispatch := by rw [hg]; intro hh; cases hh
    have hsel : selected c s i = true := sel_of_req c s i (Or.inr (by rw [epOut_erdy]; simp [hreq]))
    have hn := gen_next_send c s i hne
    obtain ⟨hr, hd, _⟩ := genOut_send c s i hne
    have hfl' := ep_next_flight c s i
    rw [hfl, hr, hd, hsel] at hfl'
    rw [hfl, hd, hsel] at hed
    have hc := reqIn_next c.ep s.ep.core (effIn s.ep (epIn c s i)) hreq
    refine ⟨?_, ?_, ?_, ?_, howed⟩
    · rw [hn]; cases i.qReady <;> simp [hg]
    · intro _; rw [hn]; exact h.genep hne
    · rw [hfl', hn]; cases i.qReady <;> simp [hg, hreq]
    · rw [hfl', ep_next_core, hc.1, hed]; cases i.qReady <;> simp [hreq]

theorem loop_inv_init (c : Config) : LoopInv c (init c) false := by
  refine ⟨Or.inl rfl, fun h => absurd rfl h, ⟨?_, ?_⟩, ?_, ?_⟩ <;> intro h <;> cases h

/-- a closed-loop history (inputs only) with the ghost flag -/
def runL (c : Config) : State → Bool → List In → State × Bool
  | s, o, [] => (s, o)
  | s, o, i :: is => runL c (next c s i) (owedNextL c s i o) is

theorem loop_inv_run (c : Config) (is : List In) (s : State) (o : Bool) (h : LoopInv c s o) :
    LoopInv c (runL c s o is).1 (runL c s o is).2 := by
  induction is generalizing s o with
  | nil => exact h
  | cons i is ih => exact ih _ _ (loop_inv_step c s i o h)

/-- **loop_nrdy_then_erdy** (all closed-loop histories from reset): in any cycle in which an ERDY is still owed —
an NRDY has been requested and no ERDY transaction packet has been handed to the header queue since — the endpoint
neither strobes a ZLP nor loads a data word, whatever the inputs of that cycle: no data packet starts between an NRDY
and the ERDY the host actually gets. -/
theorem loop_nrdy_then_erdy (c : Config) (hist : List In) (i : SSStreamIn.In)
    (ho : (runL c (init c) false hist).2 = true) :
    transmits c.ep (runL c (init c) false hist).1.ep.core i = false := by
  have hinv := loop_inv_run c hist (init c) false (loop_inv_init c)
  exact no_transmit c.ep _ i (hinv.owed ho).1

/-- every transaction packet the generator offers to the header queue in the closed loop is an NRDY or an ERDY
naming this endpoint (4-bit field), direction IN -/
theorem loop_tp_names_endpoint (c : Config) (hist : List In) (i : In)
    (hv : (genOut c (runL c (init c) false hist).1 i).valid = true) :
    (genOut c (runL c (init c) false hist).1 i).header.dw1 =
        TransactionPacketGenerator.SUB_NRDY + 2 ^ 7 + 2 ^ 8 * (c.ep.ep % 128 % 16) ∨
      (genOut c (runL c (init c) false hist).1 i).header.dw1 =
        TransactionPacketGenerator.SUB_ERDY + 2 ^ 7 + 2 ^ 8 * (c.ep.ep % 128 % 16) + 2 ^ 16 := by
  have hinv := loop_inv_run c hist (init c) false (loop_inv_init c)
  generalize (runL c (init c) false hist).1 = s at hv hinv
  rcases hinv.genk with hg | hg | hg
  · rw [(genOut_dispatch c s i hg).2.2] at hv; cases hv
  · have hne : s.gen.fsm ≠ .dispatch := by rw [hg]; intro hh; cases hh
    left
    rw [(genOut_send c s i hne).2.2.2, hg]
    simp [TransactionPacketGenerator.headerOf, hinv.genep hne]
  · have hne : s.gen.fsm ≠ .dispatch := by rw [hg]; intro hh; cases hh
    right
    rw [(genOut_send c s i hne).2.2.2, hg]
    simp [TransactionPacketGenerator.headerOf, hinv.genep hne]

/-- environment: the header queue never lets more than `L` consecutive cycles pass without `ready`
(`w` = cycles without `ready` immediately before the list) -/
def QOK (L : Nat) : Nat → List In → Bool
  | _, [] => true
  | w, i :: is => if i.qReady = true then QOK L 0 is else (decide (w < L) && QOK L (w + 1) is)

/-- an ERDY transaction packet is handed to the header queue in one of the cycles of the run -/
def erdySent (c : Config) : State → List In → Bool
  | _, [] => false
  | s, i :: is => erdyHanded s i || erdySent c (next c s i) is

/-- cycles until the ERDY is handed over, at most: the packet in progress, one DISPATCH cycle, the ERDY -/
def remaining (L : Nat) (s : State) (w : Nat) : Nat :=
  match s.gen.fsm with
  | .sendErdy => L - w + 1
  | .dispatch => 1 + (L + 1)
  | _ => (L - w + 1) + 1 + (L + 1)

/-- REQUEST_IN_TOKEN is left only when the ERDY is handed over: the `done` of any other packet is ignored -/
theorem reqIn_stays (c : Config) (s : State) (i : In) (o : Bool) (h : LoopInv c s o)
    (hreq : s.ep.core.fsm = .reqIn) (hh : erdyHanded s i = false) : (next c s i).ep.core.fsm = .reqIn := by
  have h1 := eff_done_iff_handed c s i o h
  rw [hh, epOut_erdy] at h1
  have hd : (effIn s.ep (epIn c s i)).done = false := by simpa [hreq] using h1
  rw [ep_next_core, (reqIn_next c.ep s.ep.core _ hreq).1, hd]; rfl

theorem erdy_sent_of_reqIn (c : Config) (L : Nat) : ∀ (is : List In) (s : State) (o : Bool) (w : Nat),
    LoopInv c s o → s.ep.core.fsm = .reqIn → w ≤ L → QOK L w is = true → remaining L s w ≤ is.length →
    erdySent c s is = true := by
  intro is
  induction is with
  | nil =>
    intro s o w _ _ _ _ hlen
    unfold remaining at hlen
    split at hlen <;> simp at hlen
  | cons i is ih =>
    intro s o w h hreq hw hq hlen
    have h' := loop_inv_step c s i o h
    simp only [erdySent, Bool.or_eq_true]
    simp only [QOK] at hq
    simp only [List.length_cons] at hlen
    have he : (epOut c s i).base.sendErdy = true := by rw [epOut_erdy]; simp [hreq]
    rcases h.genk with hg | hg | hg
    · -- DISPATCH_REQUESTS: the request is taken in this cycle
      right
      have hh : erdyHanded s i = false := by simp [erdyHanded, hg]
      have hn := (gen_next_dispatch c s i hg).1
      rw [he] at hn
      have hn' : (next c s i).gen.fsm = .sendErdy := by simpa using hn
      have hr := reqIn_stays c s i o h hreq hh
      simp only [remaining, hg] at hlen
      by_cases hqr : i.qReady = true
      · rw [if_pos hqr] at hq
        exact ih _ _ 0 h' hr (Nat.zero_le _) hq (by simp only [remaining, hn']; omega)
      · rw [if_neg hqr, Bool.and_eq_true, decide_eq_true_eq] at hq
        exact ih _ _ (w + 1) h' hr (by omega) hq.2 (by simp only [remaining, hn']; omega)
    · -- SEND_NRDY: wait for the queue, its done does not count
      right
      have hh : erdyHanded s i = false := by simp [erdyHanded, hg]
      have hne : s.gen.fsm ≠ .dispatch := by rw [hg]; intro hh; cases hh
      have hn := gen_next_send c s i hne
      have hr := reqIn_stays c s i o h hreq hh
      simp only [remaining, hg] at hlen
      by_cases hqr : i.qReady = true
      · rw [if_pos hqr] at hq
        have hn' : (next c s i).gen.fsm = .dispatch := by rw [hn]; simp [hqr]
        exact ih _ _ 0 h' hr (Nat.zero_le _) hq (by simp only [remaining, hn']; omega)
      · rw [if_neg hqr, Bool.and_eq_true, decide_eq_true_eq] at hq
        have hn' : (next c s i).gen.fsm = .sendNrdy := by rw [hn]; simp [hqr, hg]
        exact ih _ _ (w + 1) h' hr (by omega) hq.2 (by simp only [remaining, hn']; omega)
    · -- SEND_ERDY: handed over as soon as the queue is ready
      by_cases hqr : i.qReady = true
      · left; simp [erdyHanded, hg, hqr]
      · right
        have hh : erdyHanded s i = false := by simp [erdyHanded, hqr]
        have hne : s.gen.fsm ≠ .dispatch := by rw [hg]; intro hh; cases hh
        have hn := gen_next_send c s i hne
        have hr := reqIn_stays c s i o h hreq hh
        simp only [remaining, hg] at hlen
        rw [if_neg hqr, Bool.and_eq_true, decide_eq_true_eq] at hq
        have hn' : (next c s i).gen.fsm = .sendErdy := by rw [hn]; simp [hqr, hg]
        exact ih _ _ (w + 1) h' hr (by omega) hq.2 (by simp only [remaining, hn']; omega)

theorem remaining_le (L : Nat) (s : State) (w : Nat) : remaining L s w ≤ 2 * L + 3 := by
  unfold remaining; split <;> omega

/-- **loop_erdy_within_bound** (all closed-loop histories from reset, all continuations): if an ERDY is owed (an
NRDY has been requested, no ERDY has reached the header queue since) and the packet completes in cycle `i` — a valid
word that fills the buffer or carries `last`, or the stream has ended in the write buffer — or has completed before
(REQUEST_IN_TOKEN), and the header queue never lets more than `L` consecutive cycles pass without `ready`, then an
ERDY transaction packet is handed to the header queue within the next `2 L + 4` cycles (one cycle to enter
REQUEST_IN_TOKEN, the packet the generator may still be sending, one DISPATCH cycle, the ERDY). -/
theorem loop_erdy_within_bound (c : Config) (L : Nat) (hist : List In) (i : In) (is : List In)
    (ho : (runL c (init c) false hist).2 = true)
    (hdata : (runL c (init c) false hist).1.ep.core.fsm = .waitData →
      (i.ep.sValid % 2 == 1 &&
          (decide (fillW (runL c (init c) false hist).1.ep.core + 4 ≥ c.ep.mps) || i.ep.sLast)) = true ∨
        endedW (runL c (init c) false hist).1.ep.core = true)
    (hq : QOK L 0 (i :: is) = true) (hlen : (i :: is).length = 2 * L + 4) :
    erdySent c (runL c (init c) false hist).1 (i :: is) = true := by
  have hinv := loop_inv_run c hist (init c) false (loop_inv_init c)
  generalize (runL c (init c) false hist).1 = s at *
  generalize (runL c (init c) false hist).2 = o at *
  obtain ⟨hf, hreq⟩ := hinv.owed ho
  rcases hf with hf | hf
  · -- WAIT_FOR_DATA: the packet completes now, REQUEST_IN_TOKEN in the next cycle
    have hd := hdata hf
    rw [← (eff_stream c s i).1, ← (eff_stream c s i).2] at hd
    have hn := (nrdy_leads_to_erdy_request c.ep s.ep.core (effIn s.ep (epIn c s i)) hf hreq hd).1
    have h' := loop_inv_step c s i o hinv
    simp only [erdySent, Bool.or_eq_true]
    right
    simp only [QOK] at hq
    simp only [List.length_cons] at hlen
    have hrem := remaining_le L (next c s i)
    by_cases hqr : i.qReady = true
    · rw [if_pos hqr] at hq
      exact erdy_sent_of_reqIn c L is _ _ 0 h' hn (Nat.zero_le _) hq (by have := hrem 0; omega)
    · rw [if_neg hqr, Bool.and_eq_true, decide_eq_true_eq] at hq
      exact erdy_sent_of_reqIn c L is _ _ 1 h' hn (by omega) hq.2 (by have := hrem 1; omega)
  · exact erdy_sent_of_reqIn c L (i :: is) s o 0 hinv hf (Nat.zero_le _) hq
      (by have := remaining_le L s 0; simp only [List.length_cons] at hlen ⊢; omega)

/-! ## Non-vacuity, and the unrepaired endpoint

max_packet_size 8, endpoint 1, direct wiring.  `raceHist`: the IN request arrives in the very cycle in which the
second word completes the packet (NRDY and buffer swap in one cycle); the header queue stalls every header for one
cycle. -/

def cfgL : Config := ⟨cfg8, false⟩
def lin (e : SSStreamIn.In) (q : Bool) : In := ⟨e, q, 5⟩

def raceHist : List In :=
  [lin (word 0x11111111 false) true,
   lin { tp false 0 1 with sValid := 15, sData := 0x22222222 } true,    -- IN request + completing word: NRDY
   lin idle false, lin idle true,                                       -- the NRDY waits one cycle for the queue
   lin idle true, lin idle false, lin idle true, lin idle true]          -- DISPATCH, the ERDY waits, handed over

/-- the hypotheses of `loop_erdy_within_bound` are satisfiable: after two cycles of `raceHist` an ERDY is owed, the
endpoint is in REQUEST_IN_TOKEN, the rest of the history (6 = 2·1 + 4 cycles) satisfies `QOK 1` … -/
example : (runL cfgL (init cfgL) false (raceHist.take 2)).2 = true ∧
    (runL cfgL (init cfgL) false (raceHist.take 2)).1.ep.core.fsm = .reqIn ∧
    QOK 1 0 (raceHist.drop 2) = true ∧ (raceHist.drop 2).length = 2 * 1 + 4 := by decide +kernel

/-- … and the ERDY is handed over within those six cycles and not within the first four, after which the endpoint
waits for the IN request with nothing owed; the header the generator offers in the fifth of them has
`dw1 = 0x10183`: ERDY, direction IN, endpoint 1, one packet -/
example : erdySent cfgL (runL cfgL (init cfgL) false (raceHist.take 2)).1 (raceHist.drop 2) = true ∧
    erdySent cfgL (runL cfgL (init cfgL) false (raceHist.take 2)).1 ((raceHist.drop 2).take 4) = false ∧
    (runL cfgL (init cfgL) false raceHist).2 = false ∧
    (runL cfgL (init cfgL) false raceHist).1.ep.core.fsm = .waitSend ∧
    (genOut cfgL (runL cfgL (init cfgL) false (raceHist.take 6)).1 (lin idle true)).header.dw1 = 0x10183 := by decide +kernel

/-- the same through the multiplexer -/
example : erdySent ⟨cfg8, true⟩ (init ⟨cfg8, true⟩) raceHist = true ∧
    (runL ⟨cfg8, true⟩ (init ⟨cfg8, true⟩) false raceHist).1.ep = (runL cfgL (init cfgL) false raceHist).1.ep := by decide +kernel

/-- The loop without the `erdy_in_flight` gate, everything else as in `next`: the core sees `handshakes_out.done`
itself, so REQUEST_IN_TOKEN honours every `done`. -/
def nextU (c : Config) (s : State) (i : In) : State :=
  ⟨⟨SSStreamIn.next c.ep s.ep.core (epIn c s i).base, s.ep.flight⟩,
   (TransactionPacketGenerator.step TransactionPacketGenerator.repaired s.gen (genIn c s i)).1⟩

def runU (c : Config) : State → Bool → List In → State × Bool
  | s, o, [] => (s, o)
  | s, o, i :: is => runU c (nextU c s i) (owedNextL c s i o) is

def erdySentU (c : Config) : State → List In → Bool
  | _, [] => false
  | s, i :: is => erdyHanded s i || erdySentU c (nextU c s i) is

/-- **unrepaired_loses_erdy**: on the same history (followed by 24 more idle cycles) the unrepaired endpoint takes
the `done` of its NRDY for the `done` of the ERDY: it leaves REQUEST_IN_TOKEN for WAIT_TO_SEND with
`erdy_required` cleared, no ERDY transaction packet is ever handed to the header queue, and the ERDY stays owed — the
flow-controlled host is never told that data is available. -/
theorem unrepaired_loses_erdy :
    erdySentU cfgL (init cfgL) (raceHist ++ List.replicate 24 (lin idle true)) = false ∧
    (runU cfgL (init cfgL) false (raceHist ++ List.replicate 24 (lin idle true))).2 = true ∧
    (runU cfgL (init cfgL) false (raceHist ++ List.replicate 24 (lin idle true))).1.ep.core.fsm = .waitSend ∧
    (runU cfgL (init cfgL) false (raceHist ++ List.replicate 24 (lin idle true))).1.ep.core.erdyReq = false ∧
    (runU cfgL (init cfgL) false (raceHist ++ List.replicate 24 (lin idle true))).1.gen.fsm = .dispatch := by
  decide +kernel

end LunaVerif.SSInLoop
