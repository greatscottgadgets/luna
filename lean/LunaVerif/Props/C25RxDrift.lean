import LunaVerif.Lemmas.C25RxBack
/-!
# C25 (receive direction) — the cycle-level RxPipeline decodes `encode bytes` under CLOCK DRIFT

"… conversely any correctly encoded full-speed packet on D+/D- (**within USB clock tolerance**) is delivered as exactly
its bytes with receive-active framing, and a bit-stuffing violation is reported as an error."  Quantifier: "sampling
phases/drift within ±0.25 % between the 48 MHz sampler and the line".

The model is `FsRx.step` (co-simulated against the real `RxPipeline` cycle by cycle; see `Props/C25Rx.lean`); the line need
not be sampled exactly four times per bit.  The line is a stream of *bit cells* `(symbol, samples, first sample)`: the `k`-th
line transition of a transmitter with bit period `T` samples falls at sample `⌊φ + k T⌋`, so every cell has 4 samples
except that one in about `1 / |T - 4|` cells has 3 (`T < 4`) or 5 (`T > 4`).

**Envelope actually proved** (`DriftOk`, a decidable predicate on the list of cell lengths): every cell has 3, 4 or 5
samples and two cells of length ≠ 4 are at least **8 cells apart** (index difference ≥ 8; 3s and 5s may be mixed:
the transmitter's phase may also wander back and forth by one sample, once in 8 cells).  ±0.25 % (`|T - 4| ≤ 0.01`)
has them at least 100 cells apart (`floor_cells_driftOk`: proved for the `⌊φ + k T⌋` model with exact scaled integers,
every `T ∈ [3.99, 4.01]`, every phase `φ`, every number of cells), so the envelope is about 12 times wider than the
property requires (`DriftOk` allows a constant offset of up to ±3 %).  The other ingredient is bit stuffing: a line
transition at least every seven cells (`runsOk 7`, from `no_seven_ones_on_wire`).

**Skew** (`SkewOk`, decidable): at every J↔K transition, independently, the two lines may be seen switching in the same
sample or one sample apart in either order -- the first sample of the new cell shows SE0 or SE1 (`Cell`'s third
component); every other sample of a cell shows its symbol.

Theorems (from any idle state, any sampling phase `k` against the receiver's idle bit clock, every byte list, every
cell stream in the envelope):
* `rx_pipeline_decodes_encode_drift` — the events written into the clock-domain crossing are `start`, the bytes in
  order, each once, `end`; `o_receive_error` stays low after the start flag; the path is idle again afterwards (so the
  theorem composes over any number of packets, each with its own drift pattern).
* `stuff_error_detected_cycle_drift` — seven consecutive 1s latch the error, for every trackable cell stream
  (`trackable`, the exact condition of the proof; `trackable_of_drift`: implied by `runOKL L`, `driftOk (L + 1)` and
  `skewOk` for any `L ≥ 2`, i.e. by a drift that is small against the longest run of the -- illegal -- packet).
* `rx_drift_nominal` — with four clean samples in every cell the stimulus is the nominal-rate one of `Props/C25Rx.lean`.

Proof: `Lemmas/C25RxFront` (position `k` of the recovered bit clock against the cell boundaries as invariant, one
finite lemma per cell over all symbols, positions and lengths, induction over the cells; the envelope keeps
`2 ≤ k ≤ 4`), `Lemmas/C25RxBack` (the back end is quiet from two cycles after a strobe on, so a spacing of 3, 4
or 5 cycles gives the same bit-level run; the bit-level analysis), and here `run_packetD_outs`: idle line, lock and
packet as one stream of blocks.

The line symbols of the cell stream are those of `encode bytes` but for its last one: the J that ends the EOP is
followed by the idle J, there is no cell boundary to speak of, and the stimulus continues with `4 (m + 3) + 3` samples
of J.
-/
namespace LunaVerif.FsRx
open LunaVerif.FsCodec

/-- The receive path on an idle bus (J since at least four bit times), in the cycle in which the NRZI decoder presents
an idle 1; `c` = the free-running bit-stuff counter, `e` = the error latch (left over from the previous packet). -/
def idleSt (c : Nat) (e : Bool) : St := ⟨G true .J .J, conc ⟨0, c, srInit, e⟩ true⟩

theorem run_append (a b : List In) : ∀ s, run s (a ++ b) = ((run (run s a).1 b).1, (run s a).2 ++ (run (run s a).1 b).2) := by
  induction a with
  | nil => intro s; rfl
  | cons i is ih => intro s; simp only [List.cons_append, run, ih]

/-! ### the bits of a packet's waveform -/

def lastLvl : Bool → List Bool → Bool
  | l, [] => l
  | _, x :: xs => lastLvl x xs

theorem symBits_lvl (ls : List Bool) : ∀ (l : Bool) (rest : List Sym),
    symBits (lvl l) (ls.map lvl ++ rest) = fbits (unnrzi l ls) ++ symBits (lvl (lastLvl l ls)) rest := by
  induction ls with
  | nil => intro l rest; rfl
  | cons x xs ih =>
    intro l rest
    simp only [List.map, List.cons_append, symBits, unnrzi, fbits, lastLvl, ih]
    cases x <;> cases l <;> rfl

theorem symBits_idle (m : Nat) : symBits .J (List.replicate m .J) = List.replicate m (true, false) := by
  induction m with
  | zero => rfl
  | succ m ih => simp only [List.replicate_succ, symBits, ih]; rfl

theorem symBits_eop (l : Bool) (m : Nat) :
    symBits (lvl l) ([.SE0, .SE0, .J] ++ List.replicate m .J) =
      [(!l, true), (true, true), (false, false)] ++ List.replicate m (true, false) := by
  simp only [List.cons_append, List.nil_append, symBits, symBits_idle]
  cases l <;> rfl

/-- the bits the NRZI decoder produces for the waveform of the bit list `bits` (SYNC included), EOP and `m` idle
bit times -/
theorem symBits_packet (bits : List Bool) (m : Nat) :
    symBits .J ((nrzi true bits).map lvl ++ [.SE0, .SE0, .J] ++ List.replicate m .J) =
      fbits bits ++ [(!lastLvl true (nrzi true bits), true), (true, true), (false, false)] ++
        List.replicate m (true, false) := by
  have := symBits_lvl (nrzi true bits) true ([.SE0, .SE0, .J] ++ List.replicate m .J)
  rw [unnrzi_nrzi, symBits_eop] at this
  simp only [List.append_assoc]
  exact this

theorem lastSym_JJ (w : List Sym) : ∀ c d, lastSym d (w ++ [.J, .J]) = .J ∧ prevSym c d (w ++ [.J, .J]) = .J := by
  induction w with
  | nil => intro c d; exact ⟨rfl, rfl⟩
  | cons x w ih => intro c d; exact ih d x

theorem lastD_idle (x : List (Bool × Bool)) (m : Nat) (bd : Bool) :
    lastD bd (x ++ List.replicate (m + 1) (true, false)) = true := by
  induction x generalizing bd with
  | nil =>
    induction m generalizing bd with
    | zero => rfl
    | succ m ih => rw [List.replicate_succ]; exact ih true
  | cons b bs ih => exact ih b.1

/-- the waveform of a packet whose bit stream after SYNC is `bits`, followed by `m + 2` idle bit times -/
def packetWave (bits : List Bool) (m : Nat) : List Sym :=
  (nrzi true (syncBits ++ bits)).map lvl ++ [.SE0, .SE0, .J] ++ List.replicate (m + 2) .J

/-- what the back end is stepped through for `packetWave bits m` -/
def packetBits (bits : List Bool) (m : Nat) : List (Bool × Bool) :=
  fbits syncBits ++ (fbits bits ++ ([(!lastLvl true (nrzi true (syncBits ++ bits)), true), (true, true), (false, false)] ++
    List.replicate (m + 1) (true, false)))

theorem packet_shape (bits : List Bool) (m : Nat) :
    packetWave bits m = .K :: .J ::
      (((nrzi true ([false, false, false, false, false, true] ++ bits)).map lvl ++ [.SE0, .SE0, .J] ++
        List.replicate m .J) ++ [.J, .J]) ∧
    (symBits .J (packetWave bits m)).dropLast = packetBits bits m := by
  constructor
  · have : List.replicate (m + 2) Sym.J = List.replicate m Sym.J ++ [.J, .J] := by
      rw [← List.replicate_append_replicate]; rfl
    simp only [packetWave, this, syncBits, List.cons_append, nrzi, List.map, lvl, List.append_assoc]
    simp
  · have h := symBits_packet (syncBits ++ bits) (m + 2)
    simp only [packetWave]
    rw [h, List.replicate_succ' (n := m + 1), ← List.append_assoc, List.dropLast_concat]
    simp only [packetBits, fbits, List.map_append, List.append_assoc]

/-! ### the stimulus; `noErrorAfterStart`, `trackable` -/

/-- nominal-rate input: `k` idle samples, the waveform `w` with four samples per bit, `m + 2` idle bit times and three
more idle samples -/
def rxInput (k : Nat) (w : List Sym) (m : Nat) : List In :=
  jn k ++ wave (w ++ List.replicate (m + 2) .J) ++ jn 3

/-- `o_receive_error` is never seen in a cycle after the one with `o_pkt_start` -/
def noErrorAfterStart (outs : List Out) : Prop := errAfter false (outs.map seOf) = false

/-- the whole stream can be tracked, from the idle line on -/
def trackable : List Cell → Bool
  | [] => false
  | (d, n, g) :: w => track 3 .J d n g w

/-- the cell stream of a packet whose bit stream after SYNC is `bits`: `cells` carries SYNC, `bits` and the two SE0 of
the EOP; `m + 3` idle bit times follow -/
def packetCells (cells : List Cell) (m : Nat) : List Cell := cells ++ List.replicate (m + 3) (.J, 4, none)

/-- drifting input: `k` idle samples, the cells of the packet, `m + 3` idle bit times and three more idle samples -/
def rxInputD (k : Nat) (cells : List Cell) (m : Nat) : List In := jn k ++ dwave (packetCells cells m) ++ jn 3

/-- **nominal rate is the special case** of four samples in every cell -/
theorem rx_drift_nominal (k : Nat) (w : List Sym) (m : Nat) :
    rxInputD k (w.map (·, 4, none)) m = rxInput k (w ++ [.J]) m := by
  have : packetCells (w.map (·, 4, none)) m = (w ++ [Sym.J] ++ List.replicate (m + 2) Sym.J).map (·, 4, none) := by
    simp only [packetCells, List.map_append, List.map_replicate, List.append_assoc, List.map, List.cons_append,
      List.nil_append, List.replicate_succ]
  simp only [rxInputD, rxInput, this, dwave_nominal]

/-! ### reception of a packet: idle line, lock and packet as one stream of blocks -/

/-- blocks of idle 1s outside of a packet -/
theorem idle_blocks (l : List (Nat × (Bool × Bool))) (hl : ∀ p ∈ l, 3 ≤ p.1) (q : Nat)
    (hq : l.map (·.2) = List.replicate q (true, false)) (c : Nat) (e : Bool) (hc : c ≤ 6) :
    (∃ c', c' ≤ 6 ∧ runB (conc ⟨0, c, srInit, e⟩ true) (vblocks l) = conc ⟨0, c', srInit, e⟩ true) ∧
    events (outsB (conc ⟨0, c, srInit, e⟩ true) (vblocks l)) = [] ∧
    ∀ o ∈ outsB (conc ⟨0, c, srInit, e⟩ true) (vblocks l), seOf o = (false, e) := by
  cases q with
  | zero =>
    have : l = [] := by simpa using hq
    subst this
    exact ⟨⟨c, hc, rfl⟩, rfl, by simp [vblocks, outsB]⟩
  | succ q =>
    obtain ⟨b1, b2, b3⟩ := back_vblocks l hl ⟨0, c, srInit, e⟩ true
    obtain ⟨⟨c', hc', i1⟩, i2, i3⟩ := idle_bits q 0 c e (by omega) hc
    rw [hq] at b1 b2
    refine ⟨⟨c', hc', by rw [b1, i1, show lastD true (List.replicate (q + 1) (true, false)) = true from lastD_idle [] q true]⟩,
      by rw [b2, i2], ?_⟩
    intro o ho
    have hm : seOf o ∈ bitSEsD ⟨0, c, srInit, e⟩ l := by rw [← b3]; exact List.mem_map.mpr ⟨o, ho, rfl⟩
    have := bitSEsD_sub l _ _ hm
    rw [hq] at this
    exact i3 _ this

/-- **reception of a packet, any sampling phase**: over `k` idle samples, the trackable cell stream of a packet whose bit
stream after SYNC is `bits` and the idle line after it, the receive path puts out a prefix `pre` without writes (the idle
line and the first seven samples of the packet: `lockF`) and then what the back end makes of one block per bit of
`packetBits bits m`, strobes 3, 4 or 5 cycles apart; the front end is back in its idle state. -/
theorem run_packetD_outs (c : Nat) (e : Bool) (hc : c ≤ 6) (k : Nat) (bits : List Bool) (m : Nat)
    (cells : List Cell)
    (hs : cells.map (·.1) = (nrzi true (syncBits ++ bits)).map lvl ++ [.SE0, .SE0])
    (ht : trackable (packetCells cells m) = true) :
    ∃ c0 pre l, c0 ≤ 6 ∧ events pre = [] ∧ (∀ o ∈ pre, seOf o = (false, e)) ∧ (∀ p ∈ l, 3 ≤ p.1) ∧
      l.map (·.2) = packetBits bits m ∧
      run (idleSt c e) (rxInputD k cells m) =
        (⟨G true .J .J, runB (conc ⟨0, c0, srInit, e⟩ true) (vblocks l)⟩,
         pre ++ outsB (conc ⟨0, c0, srInit, e⟩ true) (vblocks l)) := by
  have hsyms : (packetCells cells m).map (·.1) = packetWave bits m := by
    simp only [packetCells, List.map_append, hs, List.map_replicate, packetWave, List.append_assoc]
    congr 1
  obtain ⟨hshape, hbits⟩ := packet_shape bits m
  rw [hshape] at hsyms
  match hpc : packetCells cells m, hsyms with
  | (d0, n0, g0) :: (d1, n1, g1) :: W, hsyms =>
    simp only [List.map, List.cons.injEq] at hsyms
    obtain ⟨hd0, hd1, hW⟩ := hsyms
    subst hd0 hd1
    rw [hpc] at ht
    simp only [trackable, track, Bool.and_eq_true] at ht
    obtain ⟨⟨hk0, _⟩, ht1⟩ := ht
    obtain ⟨_, _, hn3, hn5, _, _, _⟩ := (okCell_iff 3 .J .K n0).mp hk0
    have hnk : nextK 3 .J .K n0 = 7 - n0 := by simp [nextK]
    rw [hnk] at ht1
    have hin : rxInputD k cells m =
        jn (4 * (k / 4)) ++ ((jn (k % 4) ++ (cellIn .K n0 g0 ++ cellIn .J (7 - n0) g1)) ++ dblocks (7 - n0) .K .J n1 W) := by
      have hk : jn k = jn (4 * (k / 4)) ++ jn (k % 4) := by
        simp only [jn, List.replicate_append_replicate]; congr 1; omega
      have hw := dwave_dblocks W (7 - n0) .K .J n1 g1 ht1
      have hd : dwave ((.K, n0, g0) :: (.J, n1, g1) :: W) = cellIn .K n0 g0 ++ dwave ((.J, n1, g1) :: W) := rfl
      simp only [rxInputD, hpc]
      rw [hd, hk, ← rep_J 3]
      simp only [List.append_assoc]
      rw [← hw]
    obtain ⟨q1, q2⟩ := front_idle (k / 4)
    obtain ⟨l1, l2⟩ := lockF g0 g1 ⟨k % 4, Nat.mod_lt _ (by omega)⟩ ⟨n0, by omega⟩ hn3
    obtain ⟨f1, f2⟩ := front_blocksD W false (7 - n0) .K .J n1 g1 ht1
    obtain ⟨s1, s2⟩ := lastSym_JJ _ .K .J
    rw [hW, s1, s2] at f1
    have hbits' : (dbits false (7 - n0) .K .J n1 W).map (·.2) = packetBits bits m := by
      rw [dbits_bits, hW, ← hbits, hshape]
      simp [symBits, bitOf, dkOf, se0Of]
    have hlens : ∀ p ∈ dbits false (7 - n0) .K .J n1 W, 3 ≤ p.1 :=
      fun p hp => (dbits_lens W false (7 - n0) .K .J n1 g1 ht1 p hp).1
    -- the back end over the blocks of the idle line and of the lock: two more idle 1s than whole idle bit times
    have hl0 : ∀ p ∈ List.replicate (k / 4) (4, (true, false)) ++ [(4, (true, false)), (k % 4 + 3, (true, false))],
        3 ≤ p.1 := by
      intro p hp
      rcases List.mem_append.mp hp with hp | hp
      · rw [(List.mem_replicate.mp hp).2]; omega
      · simp only [List.mem_cons, List.not_mem_nil, or_false] at hp
        rcases hp with rfl | rfl <;> simp
    obtain ⟨⟨c0, hc0, p1⟩, p2, p3⟩ := idle_blocks _ hl0 (k / 4 + 2)
      (by simp only [List.map_append, List.map_replicate, List.map]; rw [← List.replicate_append_replicate]; rfl) c e hc
    refine ⟨c0, _, _, hc0, p2, p3, hlens, hbits', ?_⟩
    rw [hin, run_split]
    simp only [idleSt, runF_append, traceF_append, q1, q2, l1, l2, f1, f2]
    rw [← List.append_assoc, ← vblocks_append, runB_append, outsB_append, p1]
    rfl

/-- the same in terms of the bit-level run; the prefix shows no start flag, so `errAfter` does not see it -/
theorem run_packetD (c : Nat) (e : Bool) (hc : c ≤ 6) (k : Nat) (bits : List Bool) (m : Nat)
    (cells : List Cell)
    (hs : cells.map (·.1) = (nrzi true (syncBits ++ bits)).map lvl ++ [.SE0, .SE0])
    (ht : trackable (packetCells cells m) = true) :
    ∃ c0, c0 ≤ 6 ∧
    (run (idleSt c e) (rxInputD k cells m)).1 =
      ⟨G true .J .J, conc (bitRun ⟨0, c0, srInit, e⟩ (packetBits bits m)) true⟩ ∧
    events (run (idleSt c e) (rxInputD k cells m)).2 = bitEvs ⟨0, c0, srInit, e⟩ (packetBits bits m) ∧
    errAfter false ((run (idleSt c e) (rxInputD k cells m)).2.map seOf) =
      errAfter false (bitSEs ⟨0, c0, srInit, e⟩ (packetBits bits m)) := by
  obtain ⟨c0, pre, l, hc0, hev, hse, hl, hbits, hrun⟩ := run_packetD_outs c e hc k bits m cells hs ht
  obtain ⟨b1, b2, b3⟩ := back_vblocks l hl ⟨0, c0, srInit, e⟩ true
  rw [hbits] at b1 b2
  have hlast : lastD true (packetBits bits m) = true := by
    simp only [packetBits, ← List.append_assoc]
    exact lastD_idle _ m true
  -- no start flag in the prefix
  have hpre : ∀ p ∈ pre.map seOf, p.1 = false := by
    intro p hp
    obtain ⟨o, ho, rfl⟩ := List.mem_map.mp hp
    rw [hse o ho]
  have hany : (pre.map seOf).any (·.1) = false := by
    rw [List.any_eq_false]; intro p hp; rw [hpre p hp]; simp
  refine ⟨c0, hc0, by rw [hrun, b1, hlast], by rw [hrun, events_append, hev, b2]; rfl, ?_⟩
  rw [hrun, List.map_append, b3, errAfter_append, errAfter_nostart _ hpre, hany, bitSEsD_errAfter l hl, hbits]
  simp only [Bool.false_or]

/-! ### the envelope -/

/-- **the drift envelope** on the list of cell lengths (in 48 MHz samples): every cell has 3, 4 or 5 samples, and any
two cells of length ≠ 4 are at least 8 cells apart. -/
def DriftOk (lens : List Nat) : Prop := driftOk 8 8 lens = true

instance (lens : List Nat) : Decidable (DriftOk lens) := by unfold DriftOk; infer_instance

/-- **skew envelope**: the first sample of a cell may show SE0 or SE1 instead of the symbol, at J↔K transitions only (the
two lines switching one sample apart, in either order, independently at every transition) -/
def SkewOk (cells : List Cell) : Prop := skewOk .J cells = true

instance (cells : List Cell) : Decidable (SkewOk cells) := by unfold SkewOk; infer_instance

/-- a stream ending in SE0 is tracked on over the J of the EOP and the idle line -/
theorem track_tail (k' : Nat) (h2 : 2 ≤ k') (h4 : k' ≤ 4) (q : Nat) :
    track k' .SE0 .J 4 none (List.replicate q (.J, 4, none)) = true := by
  have h1 : okCell k' .SE0 .J 4 = true := by
    rw [okCell_iff]; simp [nextK]; omega
  have hn : nextK k' .SE0 .J 4 = 3 := by simp [nextK]
  have h3 : skewOk1 .SE0 .J none = true := by decide
  cases q with
  | zero => simp only [List.replicate, track, h1, hn, h3, decide_true, Bool.and_self]
  | succ q =>
    have hi := track_nominal (List.replicate q .J) .J .J
    rw [List.map_replicate] at hi
    simp only [List.replicate_succ, track, h1, hn, h3, hi, Bool.and_self]

/-- `FsCodec.runOK` with the bound as a parameter: at most `L - 1` consecutive 1s (`n` = current run) -/
def runOKL (L : Nat) : Nat → List Bool → Bool
  | _, [] => true
  | n, true :: bs => decide (n + 2 ≤ L) && runOKL L (n + 1) bs
  | _, false :: bs => runOKL L 0 bs

/-- no symbol more than `L` times in a row in the NRZI of a bit stream with at most `L - 1` consecutive 1s -/
theorem runsOk_nrzi (L : Nat) (rest : List Sym) (hrest : ∀ l' j', j' ≤ L → runsOk L (lvl l') j' rest = true)
    (bits : List Bool) : ∀ (l : Bool) (n : Nat), n + 1 ≤ L → runOKL L n bits = true →
    runsOk L (lvl l) (n + 1) ((nrzi l bits).map lvl ++ rest) = true := by
  induction bits with
  | nil => intro l n hn _; exact hrest l (n + 1) hn
  | cons b bs ih =>
    intro l n hn h
    cases b with
    | true =>
      simp only [runOKL, Bool.and_eq_true, decide_eq_true_eq] at h
      simp only [nrzi, if_true, List.map, List.cons_append, runsOk, Bool.and_eq_true, decide_eq_true_eq]
      exact ⟨h.1, ih l (n + 1) h.1 h.2⟩
    | false =>
      simp only [runOKL] at h
      have hne : lvl (!l) ≠ lvl l := by cases l <;> decide
      simp only [nrzi, Bool.false_eq_true, if_false, List.map, List.cons_append, runsOk, hne]
      exact ih (!l) 0 (by omega) h

theorem runOKL_seven (bits : List Bool) : ∀ n, runOK n bits = true → runOKL 7 n bits = true := by
  induction bits with
  | nil => intro n _; rfl
  | cons b bs ih =>
    intro n h
    cases b with
    | true =>
      simp only [runOK, Bool.and_eq_true, decide_eq_true_eq] at h
      simp only [runOKL, Bool.and_eq_true, decide_eq_true_eq]
      exact ⟨by omega, ih (n + 1) h.2⟩
    | false => exact ih 0 h

/-- **the envelope is trackable**: a packet whose NRZI bit stream has at most `L - 1` consecutive 1s (a line transition
at least every `L` cells), cell lengths 3, 4, 5 with two cells of length ≠ 4 at least `M ≥ L + 1` cells apart, first samples
within `skewOk` (SE0 or SE1 at J↔K transitions only). -/
theorem trackable_of_drift (L M : Nat) (hL : 2 ≤ L) (hLM : L + 1 ≤ M) (bits : List Bool) (m : Nat)
    (cells : List Cell)
    (hs : cells.map (·.1) = (nrzi true (syncBits ++ bits)).map lvl ++ [.SE0, .SE0])
    (hr : runOKL L 0 (syncBits ++ bits) = true)
    (hd : driftOk M M (cells.map (·.2.1)) = true) (hk : skewOk .J cells = true) :
    trackable (packetCells cells m) = true := by
  have hruns : runsOk L .J 1 (cells.map (·.1)) = true := by
    rw [hs]
    refine runsOk_nrzi L [.SE0, .SE0] ?_ (syncBits ++ bits) true 0 (by omega) hr
    intro l' j' _
    have hne : Sym.SE0 ≠ lvl l' := by cases l' <;> decide
    simp only [runsOk, hne, if_false, if_true, Bool.and_true, decide_eq_true_eq]
    omega
  have hend : ∀ d w, cells.map (·.1) = d :: w → endSym d w = .SE0 := by
    intro d w h
    rw [hs] at h
    have : endSym .J (d :: w) = .SE0 := by
      rw [← h, show (nrzi true (syncBits ++ bits)).map lvl ++ [Sym.SE0, .SE0] =
        ((nrzi true (syncBits ++ bits)).map lvl ++ [.SE0]) ++ [.SE0] by simp]
      exact endSym_concat _ _ _
    exact this
  match cells, hruns, hd, hk, hend with
  | [], _, _, _, _ => simp [syncBits, nrzi] at hs
  | (d, n, g) :: cells', hruns, hd, hk, hend =>
    simp only [packetCells, List.cons_append, trackable]
    refine track_of_drift L M (by omega) hLM cells' 3 .J 1 M d n g (List.replicate (m + 3) (.J, 4, none)) (by omega)
      (by omega) (by omega) (fun h => absurd rfl h) hd hruns hk ?_
    intro k' h2 h4
    have he := hend d (cells'.map (·.1)) rfl
    simp only [List.replicate_succ (n := m + 2), he]
    exact track_tail k' h2 h4 (m + 2)

/-- the packets of `encode`: bit stuffing gives `L = 7` -/
theorem trackable_encode (bytes : List Nat) (m : Nat) (cells : List Cell)
    (hs : cells.map (·.1) ++ [.J] = encode bytes) (hd : DriftOk (cells.map (·.2.1))) (hk : SkewOk cells) :
    trackable (packetCells cells m) = true ∧
    cells.map (·.1) = (nrzi true (syncBits ++ stuff 1 (bitsOf bytes))).map lvl ++ [.SE0, .SE0] := by
  have hs' : cells.map (·.1) = (nrzi true (syncBits ++ stuff 1 (bitsOf bytes))).map lvl ++ [.SE0, .SE0] := by
    have : encode bytes = ((nrzi true (syncBits ++ stuff 1 (bitsOf bytes))).map lvl ++ [.SE0, .SE0]) ++ [.J] := by
      simp [encode]
    rw [this] at hs
    exact List.append_cancel_right hs
  exact ⟨trackable_of_drift 7 8 (by omega) (by omega) _ m cells hs'
    (runOKL_seven _ 0 (no_seven_ones_on_wire bytes)) hd hk, hs'⟩

/-! ### the theorems of the property -/

/-- the bit-level run of a good packet: SYNC, data, EOP, idle -/
theorem packetBits_good (bytes : List Nat) (hb : ∀ b ∈ bytes, b < 256) (c0 : Nat) (h0 : c0 ≤ 6) (e : Bool) (m : Nat) :
    bitEvs ⟨0, c0, srInit, e⟩ (packetBits (stuff 1 (bitsOf bytes)) m) = [.start] ++ bytes.map Ev.byte ++ [.fin] ∧
    errAfter false (bitSEs ⟨0, c0, srInit, e⟩ (packetBits (stuff 1 (bitsOf bytes)) m)) = false ∧
    ∃ c', c' ≤ 6 ∧ bitRun ⟨0, c0, srInit, e⟩ (packetBits (stuff 1 (bitsOf bytes)) m) = ⟨0, c', srInit, false⟩ := by
  obtain ⟨s1, s2, s3, s4⟩ := sync_run c0 h0 e
  obtain ⟨⟨n', hn', d1⟩, d2, d3⟩ := unstuff_run _ 1 srInit _ (by omega) (unstuff_stuff 1 (by omega) (bitsOf bytes))
  obtain ⟨a1, a2⟩ := shifter_bytes bytes hb srInit (Or.inr rfl)
  obtain ⟨⟨c1, hc1, e1⟩, e2, e3⟩ := eop_run n' (shRun srInit (bitsOf bytes))
    (!lastLvl true (nrzi true (syncBits ++ stuff 1 (bitsOf bytes)))) false (by omega)
  obtain ⟨⟨c2, hc2, i1⟩, i2, i3⟩ := idle_bits m 1 c1 false (by omega) hc1
  refine ⟨?_, ?_, c2, hc2, ?_⟩
  · simp only [packetBits, bitEvs_append, s1, s2, d1, d2, a2, e1, e2, i2, List.append_nil, List.append_assoc]
  · simp only [packetBits, bitSEs_append, s1, d1, e1]
    rw [errAfter_append, s3, s4]
    apply errAfter_clean
    intro p hp
    rcases List.mem_append.mp hp with hp | hp
    · rw [d3 p hp]
    rcases List.mem_append.mp hp with hp | hp
    · rw [e3 p hp]
    · rw [i3 p hp]
  · simp only [packetBits, bitRun_append, s1, d1, e1, i1]

/-- a correctly encoded packet on any trackable cell stream: start, the bytes, end; no error after the start flag; idle
again afterwards -/
theorem rx_decodes_trackable (bytes : List Nat) (hb : ∀ b ∈ bytes, b < 256) (cells : List Cell) (m : Nat)
    (hs : cells.map (·.1) = (nrzi true (syncBits ++ stuff 1 (bitsOf bytes))).map lvl ++ [.SE0, .SE0])
    (ht : trackable (packetCells cells m) = true) (c : Nat) (e : Bool) (hc : c ≤ 6) (k : Nat) :
    events (run (idleSt c e) (rxInputD k cells m)).2 = [.start] ++ bytes.map Ev.byte ++ [.fin] ∧
    noErrorAfterStart (run (idleSt c e) (rxInputD k cells m)).2 ∧
    ∃ c', c' ≤ 6 ∧ (run (idleSt c e) (rxInputD k cells m)).1 = idleSt c' false := by
  obtain ⟨c0, h0, h1, h2, h4⟩ := run_packetD c e hc k (stuff 1 (bitsOf bytes)) m cells hs ht
  obtain ⟨g1, g2, c', hc', g3⟩ := packetBits_good bytes hb c0 h0 e m
  refine ⟨?_, ?_, c', hc', ?_⟩
  · rw [h2, g1]
  · simp only [noErrorAfterStart]
    rw [h4]; exact g2
  · rw [h1, g3]; rfl

/-- **the receive chain decodes `encode` under clock drift and skew** (cycle level, any sampling phase, every drift pattern in
the envelope).  From an idle state, for every byte list and every stream of bit cells whose symbols are those of
`encode bytes` (the final J merging with the idle line) and whose lengths satisfy `DriftOk` -- 3, 4 or 5 samples per
cell, two cells of length ≠ 4 at least 8 cells apart -- and whose first samples satisfy `SkewOk` -- SE0 or SE1 instead of
the symbol at J↔K transitions only --, starting after any number `k` of idle samples: the receive
chain writes into the clock-domain crossing exactly packet start, the bytes in order, each once, packet end; the latched
receive error is low from the cycle after the start flag on; `4 (m + 3) + 3` idle cycles after the second SE0 the path
is in an idle state again, error latch clear. -/
theorem rx_pipeline_decodes_encode_drift (bytes : List Nat) (hb : ∀ b ∈ bytes, b < 256)
    (cells : List Cell) (hs : cells.map (·.1) ++ [.J] = encode bytes) (hd : DriftOk (cells.map (·.2.1)))
    (hk : SkewOk cells) (c : Nat) (e : Bool) (hc : c ≤ 6) (k m : Nat) :
    events (run (idleSt c e) (rxInputD k cells m)).2 = [.start] ++ bytes.map Ev.byte ++ [.fin] ∧
    noErrorAfterStart (run (idleSt c e) (rxInputD k cells m)).2 ∧
    ∃ c', c' ≤ 6 ∧ (run (idleSt c e) (rxInputD k cells m)).1 = idleSt c' false := by
  obtain ⟨ht, hs'⟩ := trackable_encode bytes m cells hs hd hk
  exact rx_decodes_trackable bytes hb cells m hs' ht c e hc k

/-- **a bit-stuffing violation latches the receive error under clock drift**: a packet whose bit stream after SYNC
contains seven consecutive 1s anywhere (`pre`, `post` arbitrary), as any trackable cell stream -- packet start and
packet end are written into the clock-domain crossing, and at the end of the run `o_receive_error` is set. -/
theorem stuff_error_detected_cycle_drift (pre post : List Bool) (cells : List Cell) (m : Nat)
    (hs : cells.map (·.1) =
      (nrzi true (syncBits ++ (pre ++ List.replicate 7 true ++ post))).map lvl ++ [.SE0, .SE0])
    (ht : trackable (packetCells cells m) = true)
    (c : Nat) (e : Bool) (hc : c ≤ 6) (k : Nat) :
    (∃ evs, events (run (idleSt c e) (rxInputD k cells m)).2 = [.start] ++ evs ++ [.fin]) ∧
    ∃ c', c' ≤ 6 ∧ (run (idleSt c e) (rxInputD k cells m)).1 = idleSt c' true := by
  obtain ⟨c0, h0, h1, h2, _⟩ := run_packetD c e hc k (pre ++ List.replicate 7 true ++ post) m cells hs ht
  obtain ⟨s1, s2, _, _⟩ := sync_run c0 h0 e
  obtain ⟨n3, sr3, hn3, hrun⟩ := bad_run pre post
  obtain ⟨⟨c1, hc1, q1⟩, q2, _⟩ := eop_run n3 sr3
    (!lastLvl true (nrzi true (syncBits ++ (pre ++ List.replicate 7 true ++ post)))) true hn3
  obtain ⟨⟨c2, hc2, i1⟩, i2, _⟩ := idle_bits m 1 c1 true (by omega) hc1
  refine ⟨⟨bitEvs ⟨6, 1, srInit, false⟩ (fbits (pre ++ List.replicate 7 true ++ post)), ?_⟩, c2, hc2, ?_⟩
  · rw [h2]
    simp only [packetBits, bitEvs_append, s1, s2, hrun, q1, q2, i2]
    simp only [List.append_nil, List.append_assoc]
  · rw [h1]
    simp only [packetBits, bitRun_append, s1, hrun, q1, i1]
    rfl

/-! ### ±0.25 % is inside the envelope -/

/-- The cell lengths a drifting transmitter produces: times in units of 1/4000 sample, `a` = time of the current
line transition (its integer part is the sample in which it is seen: `⌊φ + k T⌋`), `P` = bit period
(`T = P / 4000` samples; nominal 16000).  `N` cells. -/
def floorLens (P : Nat) : Nat → Nat → List Nat
  | _, 0 => []
  | a, N + 1 => ((a + P) / 4000 - a / 4000) :: floorLens P (a + P) N

/-- `g` cells after a cell of length ≠ 4 the transition time is still near the sample boundary it crossed there: a slow
transmitter (`4 ≤ T ≤ 4.01`) was seen a sample late, the fractional part of the transition time was below 0.01 then and
has grown by at most 0.01 per cell; a fast one (`3.99 ≤ T ≤ 4`) a sample early, the fractional part was above 0.99 and
has fallen by at most 0.01 per cell.  Either way the boundary is not crossed again within 100 cells. -/
theorem floor_cells_near (M P : Nat) (hM : M ≤ 100) (h1 : 15960 ≤ P) (h2 : P ≤ 16040) (N : Nat) : ∀ (a g : Nat),
    (M ≤ g ∨ (16000 ≤ P ∧ a % 4000 < (g + 1) * 40) ∨ (P ≤ 16000 ∧ 4000 ≤ a % 4000 + (g + 1) * 40)) →
    driftOk M g (floorLens P a N) = true := by
  induction N with
  | zero => intro a g _; rfl
  | succ N ih =>
    intro a g hinv
    simp only [floorLens, driftOk]
    by_cases h4 : (a + P) / 4000 - a / 4000 = 4
    · simp only [h4, if_true]
      exact ih (a + P) (g + 1) (by omega)
    · simp only [h4, if_false, Bool.and_eq_true, decide_eq_true_eq]
      refine ⟨⟨by omega, by omega⟩, ih (a + P) 0 (by omega)⟩

/-- **±0.25 % is inside the envelope**: the cell lengths of a transmitter whose bit period is within ±0.25 % of four
samples (`15960 ≤ P ≤ 16040` in 1/4000 sample), in any phase `a` against the sampler, for any number of cells, are 3, 4
or 5 with two cells of length ≠ 4 at least 100 cells apart -- a fortiori at least 8 (`DriftOk`). -/
theorem floor_cells_apart (M : Nat) (hM : M ≤ 100) (P : Nat) (h1 : 15960 ≤ P) (h2 : P ≤ 16040) (a N : Nat) :
    driftOk M M (floorLens P a N) = true :=
  floor_cells_near M P hM h1 h2 N a M (Or.inl (Nat.le_refl _))

theorem floor_cells_driftOk (P : Nat) (h1 : 15960 ≤ P) (h2 : P ≤ 16040) (a N : Nat) : DriftOk (floorLens P a N) :=
  floor_cells_apart 8 (by omega) P h1 h2 a N

/-- a transmitter 0.25 % slow, phase 0.6: cells 39, 139, 239 have five samples -/
example : (floorLens 16040 2400 300).count 5 = 3 ∧ (floorLens 16040 2400 300).count 4 = 297 ∧
    (floorLens 16040 2400 300)[39]? = some 5 ∧ (floorLens 16040 2400 300)[139]? = some 5 := by decide +kernel
/-- a transmitter 0.25 % fast: three samples now and then -/
example : (floorLens 15960 2400 300).count 3 = 3 ∧ (floorLens 15960 2400 300).count 4 = 297 := by decide +kernel
/-- the envelope is much wider: a slipped sample every 8 cells (3 % off), 3s and 5s mixed -/
example : DriftOk [4, 3, 4, 4, 4, 4, 4, 4, 4, 5, 4, 4, 4, 4, 4, 4, 4, 5, 4, 4, 4, 4, 4, 4, 4, 3] := by decide
/-- … but not closer -/
example : ¬ DriftOk [4, 3, 4, 4, 4, 4, 4, 4, 3, 4] := by decide

/-! ### non-vacuity: runs of the model itself on drifting streams -/

/-- cells of a packet: the symbols of `encode bytes` but the last, with the lengths `lens` -/
def cellsOf (bytes : List Nat) (lens : List Nat) : List Cell :=
  ((encode bytes).dropLast.zip lens).map (fun p => (p.1, p.2, none))

/-- `[0xA5]`, slow transmitter (cells 3 and 12 have five samples), sampling phase 2, from reset -/
example : events (run {} (jn 15 ++ rxInputD 2 (cellsOf [0xA5] [4, 4, 4, 5, 4, 4, 4, 4, 4, 4, 4, 4, 5, 4, 4, 4, 4, 4]) 0)).2 =
    [.start, .byte 0xA5, .fin] := by decide +kernel

/-- the hypotheses of `rx_pipeline_decodes_encode_drift` hold for that stream -/
example : (cellsOf [0xA5] [4, 4, 4, 5, 4, 4, 4, 4, 4, 4, 4, 4, 5, 4, 4, 4, 4, 4]).map (·.1) ++ [.J] = encode [0xA5] ∧
    DriftOk ((cellsOf [0xA5] [4, 4, 4, 5, 4, 4, 4, 4, 4, 4, 4, 4, 5, 4, 4, 4, 4, 4]).map (·.2.1)) ∧
    SkewOk (cellsOf [0xA5] [4, 4, 4, 5, 4, 4, 4, 4, 4, 4, 4, 4, 5, 4, 4, 4, 4, 4]) := by decide

/-- `[0x0F, 0xFC]` (six 1s and a stuffed 0 at the end), fast transmitter: the FIRST cell (the K that the receiver locks
on) and the fifth 1 of the run of six have three samples; stale error latch; phase 3 -/
example : events (run (idleSt 5 true) (rxInputD 3 (cellsOf [0x0F, 0xFC]
      [3, 4, 4, 4, 4, 4, 4, 4, 4, 4, 4, 4, 4, 4, 4, 4, 4, 4, 4, 4, 4, 4, 3, 4, 4, 4, 4]) 1)).2 =
      [.start, .byte 0x0F, .byte 0xFC, .fin] ∧
    (run (idleSt 5 true) (rxInputD 3 (cellsOf [0x0F, 0xFC]
      [3, 4, 4, 4, 4, 4, 4, 4, 4, 4, 4, 4, 4, 4, 4, 4, 4, 4, 4, 4, 4, 4, 3, 4, 4, 4, 4]) 1)).1 = idleSt 2 false := by
  decide +kernel

/-- outside the envelope the recovery does fail: two cells of three samples inside one run of equal symbols -/
example : events (run (idleSt 0 false) (rxInputD 0 (cellsOf [0xFF]
      [4, 4, 4, 4, 4, 4, 4, 4, 3, 4, 3, 4, 4, 4, 4, 4, 4, 4, 4]) 0)).2 ≠ [.start, .byte 0xFF, .fin] := by
  decide +kernel

/-- cells of a packet with a seventh 1 -/
def sevenCells : List Cell :=
  (((nrzi true (syncBits ++ ([false] ++ List.replicate 7 true ++ [false]))).map lvl ++ [Sym.SE0, Sym.SE0]).zip
    [4, 4, 5, 4, 4, 4, 4, 4, 4, 4, 4, 4, 4, 4, 4, 4, 4, 3, 4]).map (fun p => (p.1, p.2, none))

/-- seven 1s under drift: the error is latched at the end; the stream is trackable -/
example : trackable (packetCells sevenCells 0) = true ∧
    ((run (idleSt 0 false) (rxInputD 1 sevenCells 0)).1).b.rxErr = true := by
  decide +kernel

/-- cells with skewed first samples: `sk` = what the first sample of each cell shows -/
def skewCells (bytes : List Nat) (lens : List Nat) (sk : List (Option Bool)) : List Cell :=
  (((encode bytes).dropLast.zip lens).zip sk).map (fun p => (p.1.1, p.1.2, p.2))

/-- `[0xA5]` with drift AND skew: at the first transition of the packet (idle J to the K the receiver locks on) D+ is
seen falling one sample before D- rises (SE0), at the next transitions SE1, SE0, SE1, …; no skew where the symbol does
not change or at the EOP -/
example : events (run (idleSt 3 false) (rxInputD 2 (skewCells [0xA5] [3, 4, 4, 5, 4, 4, 4, 4, 4, 4, 4, 4, 5, 4, 4, 4, 4, 4]
      [some false, some true, some false, some true, some false, some true, some false, none,
       none, some true, none, some false, some true, none, some false, none, none, none]) 0)).2 =
      [.start, .byte 0xA5, .fin] ∧
    SkewOk (skewCells [0xA5] [3, 4, 4, 5, 4, 4, 4, 4, 4, 4, 4, 4, 5, 4, 4, 4, 4, 4]
      [some false, some true, some false, some true, some false, some true, some false, none,
       none, some true, none, some false, some true, none, some false, none, none, none]) ∧
    (skewCells [0xA5] [3, 4, 4, 5, 4, 4, 4, 4, 4, 4, 4, 4, 5, 4, 4, 4, 4, 4]
      [some false, some true, some false, some true, some false, some true, some false, none,
       none, some true, none, some false, some true, none, some false, none, none, none]).map (·.1) ++ [.J] =
      encode [0xA5] := by
  decide +kernel

/-- a skewed sample where only one line switches (here: in the middle of a run) is outside the envelope -/
example : ¬ SkewOk (skewCells [0xA5] [4, 4, 4, 4, 4, 4, 4, 4, 4, 4, 4, 4, 4, 4, 4, 4, 4, 4]
    [none, none, none, none, none, none, none, some false, none, none, none, none, none, none, none, none, none, none]) := by
  decide

/-! ### any number of packets -/

/-- a packet on a drifting line: its bytes, its bit cells (SYNC … second SE0), the number `k` of idle samples before it
(sampling phase) and `4 (m + 3) + 3` idle samples after it -/
structure DPkt where
  bytes : List Nat
  cells : List Cell
  k : Nat
  m : Nat

/-- the environment hypotheses of `rx_pipeline_decodes_encode_drift` -/
def DPkt.Ok (p : DPkt) : Prop :=
  (∀ b ∈ p.bytes, b < 256) ∧ p.cells.map (·.1) ++ [.J] = encode p.bytes ∧ DriftOk (p.cells.map (·.2.1)) ∧
    SkewOk p.cells

def DPkt.input (p : DPkt) : List In := rxInputD p.k p.cells p.m
def DPkt.events (p : DPkt) : List Ev := [.start] ++ p.bytes.map Ev.byte ++ [.fin]

/-- **any number of packets, each with its own drift pattern and sampling phase**: from an idle state, the events written
into the clock-domain crossing are, packet after packet, start, the bytes, end; the path ends in an idle state. -/
theorem rx_packets_drift (ps : List DPkt) (h : ∀ p ∈ ps, p.Ok) : ∀ (c : Nat) (e : Bool), c ≤ 6 →
    events (run (idleSt c e) (ps.flatMap DPkt.input)).2 = ps.flatMap DPkt.events ∧
    ∃ c' e', c' ≤ 6 ∧ (run (idleSt c e) (ps.flatMap DPkt.input)).1 = idleSt c' e' := by
  induction ps with
  | nil => intro c e hc; exact ⟨rfl, c, e, hc, rfl⟩
  | cons p ps ih =>
    intro c e hc
    obtain ⟨hb, hs, hd, hk⟩ := h p (by simp)
    obtain ⟨h1, _, c1, hc1, h3⟩ := rx_pipeline_decodes_encode_drift p.bytes hb p.cells hs hd hk c e hc p.k p.m
    obtain ⟨i1, c2, e2, hc2, i2⟩ := ih (fun q hq => h q (by simp [hq])) c1 false hc1
    simp only [List.flatMap_cons, run_append, events_append, DPkt.input, DPkt.events] at *
    rw [h3]
    exact ⟨by rw [h1, i1], c2, e2, hc2, i2⟩

example : (⟨[0xA5], cellsOf [0xA5] [4, 4, 4, 5, 4, 4, 4, 4, 4, 4, 4, 4, 5, 4, 4, 4, 4, 4], 2, 0⟩ : DPkt).Ok := by
  refine ⟨by decide, by decide, by decide, by decide⟩

end LunaVerif.FsRx
