import LunaVerif.Model.Periph.SpiRegister
/-!
# C51 — SPI register interface reads and writes exactly the addressed register

"A register transaction reads back the current value of the addressed register (or the default for
unassigned addresses) and, for a write, updates exactly that register with the transmitted value
and strobes its write signal once; an aborted transaction changes nothing."

Structure of the argument (all for EVERY pin history, every register map, every size):

* `refines_protocol` — the shift registers and the bit counter of the command interface are, in
  every reachable state, exactly the list of bits sampled on falling clock edges since the phase
  (command / data) began (`Ghost.bits`), MSB first, and during the data phase the not yet
  overwritten upper part of `current_word` is the word latched for transmission.
* `word_complete_exactly_after_full_word` — `word_complete` is raised only by the data phase after
  exactly `register_size` sampled bits, with `word_received` = those bits; it lasts one cycle.
* `write_updates_exactly_addressed_once` — one cycle, register `k` of the map: its backing store
  changes only if its write strobe is high, and then to the received word (truncated to the
  register's size); `strobes_only_for_addressed`: a strobe is high only in a `word_complete` cycle,
  for the command's direction and for a register whose address is the command's.
* `abort_returns_to_idle` — dropping chip select before the command or the word is complete returns
  the FSM to IDLE without `word_complete`; `abort_changes_nothing` — over any stretch of cycles
  without `word_complete`, from a state whose `mem` has one entry per register, `mem` is unchanged;
  `no_strobe_without_complete` — without `word_complete` no strobe is high.
* `read_returns_addressed_or_default` — the word latched for transmission is the read value of the
  first (= only) register with the commanded address, the default if there is none or if it has no
  read value; `sdo_is_next_unsent_bit`: during the data phase `sdo` is loaded with the latched
  word's bit `register_size-1-k` after `k` sampled bits (MSB first).
-/
namespace LunaVerif.SpiRegister

theorem natToBits_length (w n : Nat) : (natToBits w n).length = w := by
  induction w generalizing n with
  | zero => rfl
  | succ w ih => simp [natToBits, ih]

theorem shift_take (l p : List Bool) (b : Bool) (hlt : p.length < l.length)
    (h : l.take p.length = p.reverse) :
    (b :: l.dropLast).take (p.length + 1) = (p ++ [b]).reverse := by
  simp only [List.take_succ_cons, List.reverse_append, List.reverse_cons, List.reverse_nil,
    List.nil_append, List.singleton_append]
  congr 1
  rw [List.dropLast_eq_take, List.take_take, ← h]
  congr 1
  omega

theorem shift_data (lat p : List Bool) (b : Bool) (w : Nat) (hl : lat.length = w) (hlt : p.length < w) :
    b :: (p.reverse ++ lat.take (w - p.length)).dropLast =
      (p ++ [b]).reverse ++ lat.take (w - (p.length + 1)) := by
  have hne : lat.take (w - p.length) ≠ [] := by
    intro h
    have := congrArg List.length h
    simp only [List.length_take, hl, List.length_nil] at this
    omega
  rw [List.dropLast_append_of_ne_nil hne, List.dropLast_eq_take, List.take_take, List.length_take, hl]
  have : min (min (w - p.length) w - 1) (w - p.length) = w - (p.length + 1) := by omega
  rw [this]
  simp

theorem natToBits_take (w n : Nat) : (natToBits w n).take w = natToBits w n :=
  List.take_of_length_le (by rw [natToBits_length]; exact Nat.le_refl _)

/-! ## ghost history: the bits sampled in the current phase and the word latched for transmission -/

structure Ghost where
  bits    : List Bool
  latched : List Bool

def gstep (c : Config) (s : State) (g : Ghost) (i : In) : Ghost :=
  let edge := s.pastSck && !i.sck
  match s.fsm with
  | .idle => { g with bits := [] }
  | .recvCmd =>
    if s.bitCount < c.cmdSize then (if edge then { g with bits := g.bits ++ [i.sdi] } else g)
    else { g with bits := [] }
  | .latchOutput =>
    { bits := [], latched := natToBits c.wordSize (wordToSend c (address s) c.regs s.mem i.vals) }
  | .shiftData =>
    if s.bitCount < c.wordSize then (if edge then { g with bits := g.bits ++ [i.sdi] } else g) else g
  | _ => g

def after (c : Config) : State × Ghost → List In → State × Ghost
  | sg, [] => sg
  | (s, g), i :: is => after c (step c s i, gstep c s g i) is

def ginit (c : Config) : Ghost := ⟨[], zeros c.wordSize⟩

structure Rel (c : Config) (s : State) (g : Ghost) : Prop where
  cmdLen  : s.curCmd.length = c.cmdSize
  wordLen : s.curWord.length = c.wordSize
  latLen  : g.latched.length = c.wordSize
  cmd     : s.fsm = .recvCmd → s.bitCount = g.bits.length ∧ g.bits.length ≤ c.cmdSize ∧
              s.curCmd.take g.bits.length = g.bits.reverse
  wait    : (s.fsm = .processing ∨ s.fsm = .latchOutput) → s.bitCount = 0
  data    : s.fsm = .shiftData → s.bitCount = g.bits.length ∧ g.bits.length ≤ c.wordSize ∧
              s.curWord = g.bits.reverse ++ g.latched.take (c.wordSize - g.bits.length)

theorem rel_init (c : Config) : Rel c (init c) (ginit c) := by
  constructor <;> simp [init, ginit, zeros]

theorem length_shift (b : Bool) (l : List Bool) (h : 0 < l.length) : (b :: l.dropLast).length = l.length := by
  simp only [List.length_cons, List.length_dropLast]; omega

/-- the per-cycle defaults of `step`: `past_sck`, the two strobes low, the register write of the previous word -/
def dflt (c : Config) (s : State) (i : In) : State :=
  { s with pastSck := i.sck, commandReady := false, wordComplete := false,
           mem := memStep (s.wordComplete && isWrite s) (address s) (bitsToNat s.wordReceived) c.regs s.mem }

/-- … with the FSM back in IDLE when chip select is released (RECEIVE_COMMAND and SHIFT_DATA watch it) -/
def dfltCs (c : Config) (s : State) (i : In) : State :=
  if !i.cs then { dflt c s i with fsm := .idle } else dflt c s i

/-- **The arms of `step`**, one hypothesis each.  `SPICommandInterface`'s states: STALL (waits for chip select to fall),
IDLE (waits for it to rise), RECEIVE_COMMAND and SHIFT_DATA — each either shifts one bit in on a sample edge (`cmdBit`,
`dataBit`) or, with the bit counter at its size, finishes (`cmdEnd`: `command_ready`; `dataEnd`: `word_complete`, STALL) —
PROCESSING, LATCH_OUTPUT.  Releasing chip select in the two shifting states sends the FSM to IDLE (`dfltCs`), but a phase
that is complete still finishes. -/
@[elab_as_elim]
theorem step_cases {P : State → Prop} (c : Config) (s : State) (i : In) (t : State) (ht : step c s i = t)
    (stall : s.fsm = .stall → P (if !i.cs then { dflt c s i with fsm := .idle } else dflt c s i))
    (idle : s.fsm = .idle →
      P (if i.cs then { dflt c s i with bitCount := 0, fsm := .recvCmd } else { dflt c s i with bitCount := 0 }))
    (cmdBit : s.fsm = .recvCmd → s.bitCount < c.cmdSize →
      P (if s.pastSck && !i.sck then
           { dfltCs c s i with bitCount := s.bitCount + 1, curCmd := i.sdi :: s.curCmd.dropLast }
         else dfltCs c s i))
    (cmdEnd : s.fsm = .recvCmd → ¬s.bitCount < c.cmdSize →
      P { dfltCs c s i with bitCount := 0, commandReady := true, command := s.curCmd, fsm := .processing })
    (proc : s.fsm = .processing → P { dflt c s i with fsm := .latchOutput })
    (latch : s.fsm = .latchOutput →
      P { dflt c s i with curWord := natToBits c.wordSize (wordToSend c (address s) c.regs s.mem i.vals),
                          fsm := .shiftData })
    (dataBit : s.fsm = .shiftData → s.bitCount < c.wordSize →
      P (if s.pastSck && !i.sck then
           { dfltCs c s i with sdo := s.curWord.getLast?.getD false, bitCount := s.bitCount + 1,
                               curWord := i.sdi :: s.curWord.dropLast }
         else { dfltCs c s i with sdo := s.curWord.getLast?.getD false }))
    (dataEnd : s.fsm = .shiftData → ¬s.bitCount < c.wordSize →
      P { dfltCs c s i with sdo := s.curWord.getLast?.getD false, bitCount := 0, wordComplete := true,
                            wordReceived := s.curWord, fsm := .stall }) :
    P t := by
  subst ht
  unfold step
  split
  · exact stall ‹_›
  · exact idle ‹_›
  · rename_i hf
    by_cases hlt : s.bitCount < c.cmdSize
    · rw [if_pos hlt]; exact cmdBit hf hlt
    · rw [if_neg hlt]; exact cmdEnd hf hlt
  · exact proc ‹_›
  · exact latch ‹_›
  · rename_i hf
    by_cases hlt : s.bitCount < c.wordSize
    · rw [if_pos hlt]; exact dataBit hf hlt
    · rw [if_neg hlt]; exact dataEnd hf hlt

/-- In every arm the new state is a record update of the defaults, so each clause of `Rel` is read off it: the length
clauses, and the clause of the phase the FSM is in afterwards (the others are vacuous). -/
theorem step_rel (c : Config) (s : State) (g : Ghost) (i : In) (r : Rel c s g) :
    Rel c (step c s i) (gstep c s g i) := by
  obtain ⟨hcl, hwl, hll, hcmd, hwait, hdata⟩ := r
  have nw : ∀ {f : Fsm} {p : Prop}, f ≠ .processing → f ≠ .latchOutput → (f = .processing ∨ f = .latchOutput) → p :=
    fun a b h => (h.elim a b).elim
  refine step_cases c s i (step c s i) rfl ?_ ?_ ?_ ?_ ?_ ?_ ?_ ?_
  · -- stall
    intro hf
    simp only [gstep, dflt, hf]
    split <;> exact ⟨hcl, hwl, hll, nofun, nw nofun nofun, nofun⟩
  · -- idle
    intro hf
    simp only [gstep, dflt, hf]
    split
    · exact ⟨hcl, hwl, hll, fun _ => ⟨rfl, Nat.zero_le _, rfl⟩, nw nofun nofun, nofun⟩
    · exact ⟨hcl, hwl, hll, nofun, nw nofun nofun, nofun⟩
  · -- a command bit, or none
    intro hf hlt
    obtain ⟨h1, h2, h3⟩ := hcmd hf
    have hlen : (i.sdi :: s.curCmd.dropLast).length = c.cmdSize := by rw [length_shift _ _ (by omega), hcl]
    cases hcs : i.cs <;>
      simp only [dfltCs, dflt, gstep, hf, hlt, hcs, Bool.not_true, Bool.not_false, Bool.false_eq_true, ↓reduceIte]
    · split
      · exact ⟨hlen, hwl, hll, nofun, nw nofun nofun, nofun⟩
      · exact ⟨hcl, hwl, hll, nofun, nw nofun nofun, nofun⟩
    · split
      · refine ⟨hlen, hwl, hll, fun _ => ⟨?_, ?_, ?_⟩, nw nofun nofun, nofun⟩
        · simp [h1]
        · simp only [List.length_append, List.length_cons, List.length_nil]; omega
        · rw [List.length_append]; exact shift_take s.curCmd g.bits i.sdi (by omega) h3
      · exact ⟨hcl, hwl, hll, fun _ => ⟨h1, h2, h3⟩, nw nofun nofun, nofun⟩
  · -- the command is complete
    intro hf hlt
    cases hcs : i.cs <;>
      simp only [dfltCs, dflt, gstep, hf, hlt, hcs, Bool.not_true, Bool.not_false, Bool.false_eq_true, ↓reduceIte] <;>
      exact ⟨hcl, hwl, hll, nofun, fun _ => rfl, nofun⟩
  · -- processing
    intro hf
    simp only [gstep, dflt, hf]
    exact ⟨hcl, hwl, hll, nofun, fun _ => hwait (.inl hf), nofun⟩
  · -- latchOutput
    intro hf
    simp only [gstep, dflt, hf]
    exact ⟨hcl, natToBits_length _ _, natToBits_length _ _, nofun, nw nofun nofun,
      fun _ => ⟨hwait (.inr hf), Nat.zero_le _, by simp [natToBits_take]⟩⟩
  · -- a data bit, or none
    intro hf hlt
    obtain ⟨h1, h2, h3⟩ := hdata hf
    have hlen : (i.sdi :: s.curWord.dropLast).length = c.wordSize := by rw [length_shift _ _ (by omega), hwl]
    cases hcs : i.cs <;>
      simp only [dfltCs, dflt, gstep, hf, hlt, hcs, Bool.not_true, Bool.not_false, Bool.false_eq_true, ↓reduceIte]
    · split
      · exact ⟨hcl, hlen, hll, nofun, nw nofun nofun, nofun⟩
      · exact ⟨hcl, hwl, hll, nofun, nw nofun nofun, nofun⟩
    · split
      · refine ⟨hcl, hlen, hll, nofun, nw nofun nofun, fun _ => ⟨?_, ?_, ?_⟩⟩
        · simp [h1]
        · simp only [List.length_append, List.length_cons, List.length_nil]; omega
        · rw [h3, List.length_append]; exact shift_data g.latched g.bits i.sdi c.wordSize hll (by omega)
      · exact ⟨hcl, hwl, hll, nofun, nw nofun nofun, fun _ => ⟨h1, h2, h3⟩⟩
  · -- the word is complete
    intro hf hlt
    cases hcs : i.cs <;>
      simp only [dfltCs, dflt, gstep, hf, hlt, hcs, Bool.not_true, Bool.not_false, Bool.false_eq_true, ↓reduceIte] <;>
      exact ⟨hcl, hwl, hll, nofun, nw nofun nofun, nofun⟩

/-- **Refinement** — after every pin history from reset the command interface's registers are the
sampled-bit lists of the ghost history. -/
theorem refines_protocol (c : Config) (h : List In) :
    Rel c (after c (init c, ginit c) h).1 (after c (init c, ginit c) h).2 := by
  suffices ∀ (sg : State × Ghost), Rel c sg.1 sg.2 → Rel c (after c sg h).1 (after c sg h).2 from
    this _ (rel_init c)
  induction h with
  | nil => intro sg r; exact r
  | cons i is ih => intro (s, g) r; exact ih _ (step_rel c s g i r)

/-- `word_complete` is raised exactly by the data phase once `register_size` bits have been
sampled, and then `word_received` is that list of bits (first bit = MSB). -/
theorem word_complete_exactly_after_full_word (c : Config) (s : State) (g : Ghost) (i : In) (r : Rel c s g) :
    ((step c s i).wordComplete = true ↔ (s.fsm = .shiftData ∧ ¬ s.bitCount < c.wordSize)) ∧
    ((step c s i).wordComplete = true →
      g.bits.length = c.wordSize ∧ (step c s i).wordReceived = g.bits.reverse ∧ (step c s i).fsm = .stall) := by
  have hd : (dflt c s i).wordComplete = false := rfl
  have hc : (dfltCs c s i).wordComplete = false := by unfold dfltCs; split <;> rfl
  refine step_cases c s i (step c s i) rfl ?stall ?idle ?cmdBit ?cmdEnd ?proc ?latch ?dataBit ?dataEnd
  case dataEnd =>
    intro hf hlt
    obtain ⟨h1, h2, h3⟩ := r.data hf
    have : g.bits.length = c.wordSize := by omega
    simp [hf, hlt, this, h3]
  all_goals intros; (try split) <;> simp_all

/-- The same for the command: `command_ready` only after `address_size + 1` sampled bits, and the
command register then holds them (first bit = write flag = MSB). -/
theorem command_is_sampled_bits (c : Config) (s : State) (g : Ghost) (i : In) (r : Rel c s g) :
    (step c s i).commandReady = true →
      s.fsm = .recvCmd ∧ g.bits.length = c.cmdSize ∧ (step c s i).command = g.bits.reverse := by
  have hd : (dflt c s i).commandReady = false := rfl
  have hc : (dfltCs c s i).commandReady = false := by unfold dfltCs; split <;> rfl
  refine step_cases c s i (step c s i) rfl ?stall ?idle ?cmdBit ?cmdEnd ?proc ?latch ?dataBit ?dataEnd
  case cmdEnd =>
    intro hf hlt _
    obtain ⟨h1, h2, h3⟩ := r.cmd hf
    have : g.bits.length = c.cmdSize := by omega
    rw [this, ← r.cmdLen, List.take_length] at h3
    exact ⟨hf, this, h3⟩
  all_goals intros; (try split at *) <;> simp_all

theorem step_mem (c : Config) (s : State) (i : In) :
    (step c s i).mem =
      memStep (s.wordComplete && isWrite s) (address s) (bitsToNat s.wordReceived) c.regs s.mem := by
  have hc : (dfltCs c s i).mem = (dflt c s i).mem := by unfold dfltCs; split <;> rfl
  refine step_cases c s i (step c s i) rfl ?_ ?_ ?_ ?_ ?_ ?_ ?_ ?_ <;> intros <;> (try split) <;> first | rfl | exact hc

theorem memStep_length (st : Bool) (a w : Nat) (regs : List Reg) (mem : List Nat) :
    (memStep st a w regs mem).length = regs.length := by
  induction regs generalizing mem with
  | nil => rfl
  | cons r rs ih => simp [memStep, ih]

theorem memStep_get (st : Bool) (a w : Nat) (regs : List Reg) (mem : List Nat) (k : Nat) (r : Reg)
    (hk : regs[k]? = some r) :
    (memStep st a w regs mem)[k]? = some
      (match r.kind with
       | .mem size _ => if st && a = r.addr then w % 2 ^ size else mem.getD k 0
       | _ => mem.getD k 0) := by
  induction regs generalizing mem k with
  | nil => simp at hk
  | cons r0 rs ih =>
    cases k with
    | zero =>
      simp at hk; subst hk
      simp only [memStep, List.getElem?_cons_zero]
      cases r0.kind <;> cases mem <;> simp
    | succ k =>
      simp at hk
      simp only [memStep, List.getElem?_cons_succ]
      rw [ih mem.tail k hk]
      cases mem <;> simp

/-- **Write** — for every state and input, register `k` of the map after the clock edge:
unchanged unless it is a memory register whose write strobe is high in this cycle, in which case it
holds `word_received` truncated to its size.  The strobe (`writeStrobe`) is
`is_write ∧ word_complete ∧ address = r.addr` (`strobes_only_for_addressed`).  Nothing here counts
strobes per completed write or assumes the addresses of the map distinct. -/
theorem write_updates_exactly_addressed_once (c : Config) (s : State) (i : In) (k : Nat) (r : Reg)
    (hk : c.regs[k]? = some r) :
    (step c s i).mem[k]? = some
      (match r.kind with
       | .mem size _ => if writeStrobe s r then bitsToNat s.wordReceived % 2 ^ size else s.mem.getD k 0
       | _ => s.mem.getD k 0) := by
  rw [step_mem, memStep_get _ _ _ _ _ k r hk]
  cases hkind : r.kind <;> simp [writeStrobe, hkind]
  congr 1
  simp
  intro _
  exact And.comm

theorem strobes_only_for_addressed (s : State) (r : Reg) :
    (writeStrobe s r = true → s.wordComplete = true ∧ isWrite s = true ∧ address s = r.addr) ∧
    (readStrobe s r = true → s.wordComplete = true ∧ isWrite s = false ∧ address s = r.addr) := by
  unfold writeStrobe readStrobe
  cases r.kind <;> simp <;> intros <;> simp_all

theorem memStep_no_strobe (a w : Nat) (regs : List Reg) (mem : List Nat) (hl : mem.length = regs.length) :
    memStep false a w regs mem = mem := by
  induction regs generalizing mem with
  | nil => cases mem <;> simp_all [memStep]
  | cons r rs ih =>
    cases mem with
    | nil => simp at hl
    | cons m ms =>
      simp only [memStep, List.headD_cons, List.tail_cons]
      rw [ih ms (by simpa using hl)]
      cases r.kind <;> simp

/-- An abort (chip select dropped while the command or the word is incomplete) returns to IDLE and
raises neither `command_ready` nor `word_complete`. -/
theorem abort_returns_to_idle (c : Config) (s : State) (i : In) (hcs : i.cs = false) :
    (s.fsm = .shiftData → s.bitCount < c.wordSize →
      (step c s i).fsm = .idle ∧ (step c s i).wordComplete = false) ∧
    (s.fsm = .recvCmd → s.bitCount < c.cmdSize →
      (step c s i).fsm = .idle ∧ (step c s i).commandReady = false ∧ (step c s i).wordComplete = false) := by
  constructor <;> intro hf hlt <;> unfold step <;> simp [hf, hlt, hcs] <;> split <;> simp

/-- The state after the run (`abort_changes_nothing` reads its `mem`). -/
def memAfter (c : Config) : State → List In → State
  | s, [] => s
  | s, i :: is => memAfter c (step c s i) is

/-- No state along the run (including the first, excluding the last) has `word_complete`. -/
def noComplete (c : Config) : State → List In → Bool
  | _, [] => true
  | s, i :: is => !s.wordComplete && noComplete c (step c s i) is

/-- **Abort changes nothing** — over any stretch of cycles in which `word_complete` is never high
(by `word_complete_exactly_after_full_word` that is any stretch in which no data phase collects all
`register_size` bits; by `abort_returns_to_idle` an abort ends the attempt), from a state whose
`mem` has one entry per register of the map, the register file is unchanged, whatever happens on
the pins. -/
theorem abort_changes_nothing (c : Config) (h : List In) :
    ∀ s : State, s.mem.length = c.regs.length → noComplete c s h = true → (memAfter c s h).mem = s.mem := by
  induction h with
  | nil => intro s _ _; rfl
  | cons i is ih =>
    intro s hl hn
    simp only [noComplete, Bool.and_eq_true, Bool.not_eq_true'] at hn
    obtain ⟨hwc, hrest⟩ := hn
    have hm : (step c s i).mem = s.mem := by
      rw [step_mem, hwc]; exact memStep_no_strobe _ _ _ _ hl
    simp only [memAfter]
    rw [ih (step c s i) (by rw [hm]; exact hl) hrest, hm]

theorem no_strobe_without_complete (s : State) (r : Reg) (h : s.wordComplete = false) :
    writeStrobe s r = false ∧ readStrobe s r = false := by
  unfold writeStrobe readStrobe
  cases r.kind <;> simp [h]

theorem wordToSend_unassigned (c : Config) (addr : Nat) (regs : List Reg) (mem vals : List Nat)
    (h : ∀ r ∈ regs, r.addr ≠ addr) : wordToSend c addr regs mem vals = c.default := by
  induction regs generalizing mem vals with
  | nil => rfl
  | cons r rs ih =>
    have hr : addr ≠ r.addr := fun e => h r (by simp) e.symm
    simp only [wordToSend, hr, if_false]
    exact ih _ _ (fun r' hr' => h r' (by simp [hr']))

theorem wordToSend_assigned (c : Config) (addr : Nat) (regs : List Reg) (mem vals : List Nat) (k : Nat) (r : Reg)
    (hk : regs[k]? = some r) (ha : r.addr = addr) (hfirst : ∀ j r', j < k → regs[j]? = some r' → r'.addr ≠ addr) :
    wordToSend c addr regs mem vals =
      (readOf r (mem.getD k 0) (vals.getD k 0)).getD c.default % 2 ^ c.wordSize := by
  induction regs generalizing mem vals k with
  | nil => simp at hk
  | cons r0 rs ih =>
    cases k with
    | zero =>
      simp at hk; subst hk
      simp only [wordToSend, ha, if_true]
      cases mem <;> cases vals <;> simp
    | succ k =>
      simp at hk
      have h0 : addr ≠ r0.addr := fun e => hfirst 0 r0 (by omega) (by simp) e.symm
      simp only [wordToSend, h0, if_false]
      rw [ih mem.tail vals.tail k hk (fun j r' hj hr' => hfirst (j + 1) r' (by omega) (by simpa using hr'))]
      cases mem <;> cases vals <;> simp

/-- **Read** — in the LATCH_OUTPUT cycle the word latched for transmission is: the default value if
no register has the commanded address; otherwise the current read value of that register (the
constant, the input signal's value in this cycle, the backing store), or the default if it has no
read value. -/
theorem read_returns_addressed_or_default (c : Config) (s : State) (g : Ghost) (i : In)
    (hf : s.fsm = .latchOutput) :
    (gstep c s g i).latched = (step c s i).curWord ∧
    ((∀ r ∈ c.regs, r.addr ≠ address s) → (step c s i).curWord = natToBits c.wordSize c.default) ∧
    (∀ k r, c.regs[k]? = some r → r.addr = address s →
        (∀ j r', j < k → c.regs[j]? = some r' → r'.addr ≠ address s) →
        (step c s i).curWord = natToBits c.wordSize
          ((readOf r (s.mem.getD k 0) (i.vals.getD k 0)).getD c.default % 2 ^ c.wordSize)) := by
  refine ⟨by simp [gstep, step, hf], ?_, ?_⟩
  · intro h
    simp [step, hf, wordToSend_unassigned c _ _ _ _ h]
  · intro k r hk ha hfirst
    simp [step, hf, wordToSend_assigned c _ _ _ _ k r hk ha hfirst]

/-- In SHIFT_DATA `sdo` is loaded with the top bit of the word being shifted out. -/
theorem step_sdo (c : Config) (s : State) (i : In) (hf : s.fsm = .shiftData) :
    (step c s i).sdo = s.curWord.getLast?.getD false := by
  refine step_cases c s i (step c s i) rfl ?stall ?idle ?cmdBit ?cmdEnd ?proc ?latch ?dataBit ?dataEnd
  case dataBit => intros; split <;> rfl
  case dataEnd => intros; rfl
  all_goals intro h; rw [hf] at h; cases h

/-- During the data phase, after `k < register_size` sampled bits, `sdo` is loaded with bit
`register_size-1-k` of the latched word: the word is returned MSB first. -/
theorem sdo_is_next_unsent_bit (c : Config) (s : State) (g : Ghost) (i : In) (r : Rel c s g)
    (hf : s.fsm = .shiftData) (hlt : g.bits.length < c.wordSize) :
    some (step c s i).sdo = g.latched[c.wordSize - 1 - g.bits.length]? := by
  obtain ⟨h1, h2, h3⟩ := r.data hf
  rw [step_sdo c s i hf, h3]
  have hne : g.latched.take (c.wordSize - g.bits.length) ≠ [] := by
    intro h
    have := congrArg List.length h
    simp [r.latLen] at this
    omega
  have hidx : (g.latched.take (c.wordSize - g.bits.length)).getLast? =
      g.latched[c.wordSize - 1 - g.bits.length]? := by
    rw [List.getLast?_eq_getElem?, List.length_take, r.latLen, List.getElem?_take]
    have : min (c.wordSize - g.bits.length) c.wordSize - 1 = c.wordSize - 1 - g.bits.length := by omega
    rw [this]
    have hlt3 : c.wordSize - 1 - g.bits.length < c.wordSize - g.bits.length := by omega
    simp [hlt3]
  have hlt2 : c.wordSize - 1 - g.bits.length < g.latched.length := by rw [r.latLen]; omega
  rw [List.getLast?_append, hidx, List.getElem?_eq_getElem hlt2]
  simp

/-! ## non-vacuity: a complete write and an aborted write on a 3-bit-address / 4-bit-register map -/

def exCfg : Config := ⟨3, 4, 9, [⟨0, .const 15⟩, ⟨5, .mem 4 3⟩, ⟨6, .sfr⟩]⟩
def bitIn (b : Bool) : List In := [⟨true, b, true, [0, 0, 0]⟩, ⟨false, b, true, [0, 0, 0]⟩]
def idleIn (cs : Bool) : In := ⟨false, false, cs, [0, 0, 0]⟩
/-- write 0b1010 to address 5: command 1 101, data 1010 -/
def exWrite : List In :=
  [idleIn false, idleIn true] ++ bitIn true ++ bitIn true ++ bitIn false ++ bitIn true ++
  [idleIn true, idleIn true, idleIn true] ++
  bitIn true ++ bitIn false ++ bitIn true ++ bitIn false ++ [idleIn true, idleIn true, idleIn false]

example : (memAfter exCfg (init exCfg) exWrite).mem = [0, 10, 0] := by decide +kernel
example : (memAfter exCfg (init exCfg) (exWrite.take 19 ++ [idleIn false, idleIn false, idleIn false])).mem
    = [0, 3, 0] := by decide +kernel
example : noComplete exCfg (init exCfg) (exWrite.take 19 ++ [idleIn false, idleIn false, idleIn false]) = true := by
  decide +kernel

end LunaVerif.SpiRegister
