import LunaVerif.Props.C46
import LunaVerif.Lemmas.C46Step
/-!
# C46 — `ss_in_exactly_once`: the SuperSpeed IN endpoint delivers the producer's stream exactly once, in order

Host view, history level.  The observers of `Lemmas/C46Ghost.lean` look at the interface signals only:

* the **producer** observer appends the valid byte lanes of every stream word taken (`stream.valid ≠ 0 ∧ stream.ready`)
  to `prod`;
* the **host** observer reassembles data packets from the tx stream (header = `tx_sequence_number` in the cycle a
  word is first offered, words taken when `tx.ready`, end at `last`; a `tx_zlp` strobe is an empty packet) and
  **accepts a packet iff it carries the sequence number the host expects** (`hseq`) and the link did not lose it
  (the per-cycle oracle `drop`); accepted bytes are appended to `deliv`, `hseq` advances by one (mod 32).

Environment (`EnvOK`, decidable, checked in every cycle of the history):
* no `ep_reset`;
* producer: `stream.valid` is a byte-prefix mask `0/1/3/7/15`, a partial word only together with `last`;
* host: an ACK transaction packet for this endpoint is sent only while no tx word is offered (`tx.valid = 0`: the
  host answers completely received packets, one outstanding packet) and carries `next_sequence = hseq`, the number
  the host expects (Retry bit, NumP arbitrary; nothing is assumed about flow control, `tx.ready` or `done`).
Configuration (`CfgOK`): `max_packet_size` a multiple of 4, at least 8, memories addressable.

`ss_in_exactly_once`: at every reachable cycle
  `deliv ++ pending = prod`
where `pending` = the bytes of the read buffer up to its fill count (unless the host has already accepted that
packet and the endpoint is only waiting for / re-sending on the ACK) ++ the bytes of the write buffer up to its
fill count.  Hence (`ss_in_delivered_prefix`) the host's byte stream is always a prefix of the producer's:
nothing is lost, duplicated or reordered — through retries (lost packets, Retry-bit requests after an accepted
packet, whose duplicates the host discards by number), ZLPs, the follow-up-ZLP branch and buffer swaps.

The proof goes through the packets.  `runF` runs the model with both observers and the reference packetizer of
`Lemmas/C46Frame.lean`; `invAll_run` is the one induction over histories (the invariants `Inv`, `InvF` and the two
equations that tie the packet lists to the byte streams).  The byte equation is the packet equation of `InvF`
flattened (`exactly_once_of_framing`); `Props/C46Framing.lean` reads the packet equation itself off the same run.
-/
namespace LunaVerif.SSStreamIn

theorem inv_init (c : Config) : Inv c (view (init c)) Ghost.init := by
  constructor <;> constructor <;> simp [Tx, view, init, Ghost.init, fillW, fillR, endedW, endedR, memW, memR, rdR]

theorem inv_step (c : Config) (v : View) (g : Ghost) (i : In) (d : Bool) (hc : CfgOK c)
    (hI : Inv c v g) (he : EnvOK c g i (vout c v i)) :
    Inv c (vnext c v i) (gnext i (vout c v i) d g) :=
  ⟨shape_step c v i hI.toShape he.2.1, (step_ok c v g i d hc hI he).1⟩

theorem invF_init (c : Config) (hc : CfgOK c) : InvF c (view (init c)) Ghost.init Frame.init := by
  have hm8 := hc.2.1
  have h0 : ¬ c.mps ≤ 0 := by omega
  have h1 : ¬ 0 = c.mps := by omega
  constructor <;>
    simp [view, init, Frame.init, fillW, fillR, endedW, endedR, memW, memR, rpart, zowed, wpart,
      ppart, h0, h1]
  omega

theorem invF_step (c : Config) (v : View) (g : Ghost) (f : Frame) (i : In) (d : Bool) (hc : CfgOK c)
    (hI : Inv c v g) (hF : InvF c v g f) (he : EnvOK c g i (vout c v i)) :
    InvF c (vnext c v i) (gnext i (vout c v i) d g) (fnext c.mps i (vout c v i) d g f) :=
  (step_ok c v g i d hc hI he).2 f hF

instance (c : Config) (g : Ghost) (i : In) (o : Out) : Decidable (EnvOK c g i o) := by
  unfold EnvOK ProdOK HostOK; infer_instance

/-- A history: per cycle the endpoint's inputs and the link oracle (`true` = a packet completed in this cycle
is lost).  `runG` runs the model and the observers, `envAll` checks the environment in every cycle. -/
def runG (c : Config) : State → Ghost → List (In × Bool) → State × Ghost
  | s, g, [] => (s, g)
  | s, g, (i, d) :: r => runG c (next c s i) (gnext i (out c s i) d g) r

def envAll (c : Config) : State → Ghost → List (In × Bool) → Bool
  | _, _, [] => true
  | s, g, (i, d) :: r => decide (EnvOK c g i (out c s i)) && envAll c (next c s i) (gnext i (out c s i) d g) r

def runF (c : Config) : State → Ghost → Frame → List (In × Bool) → State × Ghost × Frame
  | s, g, f, [] => (s, g, f)
  | s, g, f, (i, d) :: r =>
    runF c (next c s i) (gnext i (out c s i) d g) (fnext c.mps i (out c s i) d g f) r

theorem runF_runG (c : Config) (hist : List (In × Bool)) (s : State) (g : Ghost) (f : Frame) :
    ((runF c s g f hist).1, (runF c s g f hist).2.1) = runG c s g hist := by
  induction hist generalizing s g f with
  | nil => rfl
  | cons e r ih => obtain ⟨i, d⟩ := e; exact ih _ _ _

structure InvAll (c : Config) (s : State) (g : Ghost) (f : Frame) : Prop where
  inv : Inv c (view s) g
  invF : InvF c (view s) g f
  bytes : f.pkts.flatten = g.deliv
  pbytes : f.exp.flatten ++ f.part = g.prod

theorem invAll_run (c : Config) (hc : CfgOK c) (hist : List (In × Bool)) (s : State) (g : Ghost) (f : Frame)
    (hA : InvAll c s g f) (henv : envAll c s g hist = true) :
    InvAll c (runF c s g f hist).1 (runF c s g f hist).2.1 (runF c s g f hist).2.2 := by
  induction hist generalizing s g f with
  | nil => exact hA
  | cons e r ih =>
    obtain ⟨i, d⟩ := e
    simp only [envAll, Bool.and_eq_true, decide_eq_true_eq] at henv
    have he : EnvOK c g i (vout c (view s) i) := by rw [← out_eq_vout]; exact henv.1
    have h1 := inv_step c (view s) g i d hc hA.inv he
    have h2 := invF_step c (view s) g f i d hc hA.inv hA.invF he
    rw [← view_next, ← out_eq_vout] at h1 h2
    refine ih _ _ _ ⟨h1, h2, ?_, ?_⟩ henv.2
    · rw [gnext_deliv, fnext_pkts, fProd_pkts, List.flatten_append, hA.bytes]
    · rw [gnext_prod, fnext_exp, fnext_part, fProd_bytes, hA.pbytes]

theorem invAll_init (c : Config) (hc : CfgOK c) : InvAll c (init c) Ghost.init Frame.init :=
  ⟨inv_init c, invF_init c hc, rfl, rfl⟩

/-- bytes the endpoint holds that the host has not accepted yet -/
def pending (s : State) (g : Ghost) : List Nat :=
  (if g.hseq = s.seq then bufBytes (memR s) (fillR s) else []) ++ bufBytes (memW s) (fillW s)

/-- packets held by the endpoint that the host has not accepted yet -/
def pendingPkts (c : Config) (s : State) (g : Ghost) : List (List Nat) :=
  rpart (view s) g ++ (zowed c (view s) ++ wpart c.mps (fillW s) (endedW s) (memW s))

/-- the bytes of the packets the endpoint holds, with the packetizer's partial packet, are the bytes it holds -/
theorem pendingPkts_flatten (c : Config) (s : State) (g : Ghost) (hwd : s.fsm = .waitData → fillR s = 0) :
    (pendingPkts c s g).flatten ++ ppart c.mps (fillW s) (endedW s) (memW s) = pending s g := by
  have hR : (rpart (view s) g).flatten = if g.hseq = s.seq then bufBytes (memR s) (fillR s) else [] := by
    unfold rpart
    by_cases hf : (view s).fsm = .waitData
    · have h0 : fillR s = 0 := hwd hf
      simp [hf, h0]
    · rw [if_neg hf]; change (if g.hseq = s.seq then [bufBytes (memR s) (fillR s)] else []).flatten = _
      split <;> simp
  have hZ : (zowed c (view s)).flatten = [] := by unfold zowed; split <;> rfl
  have hW : (wpart c.mps (fillW s) (endedW s) (memW s)).flatten ++ ppart c.mps (fillW s) (endedW s) (memW s) =
      bufBytes (memW s) (fillW s) := by
    unfold wpart ppart
    split
    · split <;> simp
    · simp
  rw [pendingPkts, pending, List.flatten_append, List.flatten_append, hR, hZ, List.nil_append, List.append_assoc, hW]

/-- The byte equation is the packet equation flattened: accepted packets concatenate to `deliv`, the reference packets
and the partial packet to `prod`, the packets held and the partial packet to the bytes held. -/
theorem exactly_once_of_framing (c : Config) (s : State) (g : Ghost) (f : Frame) (h : InvAll c s g f) :
    g.deliv ++ pending s g = g.prod := by
  rw [← h.pbytes, ← h.bytes, ← h.invF.pk, h.invF.partEq, ← pendingPkts_flatten c s g h.inv.wd, List.flatten_append,
    List.append_assoc]
  rfl

/-- **ss_in_exactly_once**: for every history allowed by the environment, at every reachable cycle, the bytes
the host has accepted followed by the bytes still held by the endpoint are exactly the bytes accepted from the
producer. -/
theorem ss_in_exactly_once (c : Config) (hc : CfgOK c) (hist : List (In × Bool))
    (henv : envAll c (init c) Ghost.init hist = true) :
    (runG c (init c) Ghost.init hist).2.deliv ++
        pending (runG c (init c) Ghost.init hist).1 (runG c (init c) Ghost.init hist).2 =
      (runG c (init c) Ghost.init hist).2.prod := by
  rw [← runF_runG c hist (init c) Ghost.init Frame.init]
  exact exactly_once_of_framing c _ _ _ (invAll_run c hc hist _ _ _ (invAll_init c hc) henv)

/-- the host's byte stream is a prefix of the producer's: nothing lost, duplicated or reordered -/
theorem ss_in_delivered_prefix (c : Config) (hc : CfgOK c) (hist : List (In × Bool))
    (henv : envAll c (init c) Ghost.init hist = true) :
    (runG c (init c) Ghost.init hist).2.deliv <+: (runG c (init c) Ghost.init hist).2.prod :=
  ⟨_, ss_in_exactly_once c hc hist henv⟩

/-- once both buffers are empty the host has everything -/
theorem ss_in_all_delivered (c : Config) (hc : CfgOK c) (hist : List (In × Bool))
    (henv : envAll c (init c) Ghost.init hist = true)
    (h0 : (runG c (init c) Ghost.init hist).1.fill0 = 0) (h1 : (runG c (init c) Ghost.init hist).1.fill1 = 0) :
    (runG c (init c) Ghost.init hist).2.deliv = (runG c (init c) Ghost.init hist).2.prod := by
  have h := ss_in_exactly_once c hc hist henv
  have hR : fillR (runG c (init c) Ghost.init hist).1 = 0 := by unfold fillR; split <;> assumption
  have hW : fillW (runG c (init c) Ghost.init hist).1 = 0 := by unfold fillW; split <;> assumption
  simpa [pending, hR, hW] using h

/-- the host's expected number is the endpoint's, or one ahead (it has accepted the packet of the read buffer and the
endpoint has not yet seen the ACK for it) -/
theorem ss_in_host_seq (c : Config) (hc : CfgOK c) (hist : List (In × Bool))
    (henv : envAll c (init c) Ghost.init hist = true) :
    (runG c (init c) Ghost.init hist).2.hseq = (runG c (init c) Ghost.init hist).1.seq ∨
      (runG c (init c) Ghost.init hist).2.hseq = ((runG c (init c) Ghost.init hist).1.seq + 1) % 32 := by
  rw [← runF_runG c hist (init c) Ghost.init Frame.init]
  exact (invAll_run c hc hist _ _ _ (invAll_init c hc) henv).inv.hs

/-! ## Non-vacuity: concrete histories that satisfy the environment (max_packet_size 8, endpoint 1) and in
which data really flows; and histories showing that the hypotheses cannot be dropped. -/

def ok (l : List In) : List (In × Bool) := l.map (fun i => (i, false))
def lossy (l : List In) : List (In × Bool) := l.map (fun i => (i, true))

example : CfgOK cfg8 := by unfold CfgOK cfg8; decide

/-- a full packet, IN request, two words, accepting ACK: 8 bytes delivered -/
def hPlain : List (In × Bool) := ok (sentOne ++ [tp false 1 0])
/-- the packet is lost on the link, the host repeats its number, the endpoint re-sends, then the ACK -/
def hLost : List (In × Bool) :=
  ok [word 0x11111111 false, word 0x22222222 false, tp false 0 1] ++ lossy [idle, idle, idle] ++
    ok [tp false 0 1, idle, idle, idle, tp false 1 0]
/-- the host accepts the packet but sets the Retry bit: the duplicate is discarded by its number -/
def hDup : List (In × Bool) := ok (sentOne ++ [tp true 1 1, idle, idle, idle, tp false 1 0])
/-- full packet that ends its transfer: follow-up ZLP strobed in the ACK cycle, then acknowledged -/
def hZlp : List (In × Bool) := ok (sentFullLast ++ [tp false 1 1, tp false 2 0])
/-- ... and the follow-up ZLP is lost and repeated -/
def hZlpLost : List (In × Bool) := ok sentFullLast ++ [(tp false 1 1, true)] ++ ok [tp false 1 1, tp false 2 0]
/-- the second packet is buffered while the first is on the wire; the ACK swaps the buffers -/
def hSwap : List (In × Bool) :=
  ok [word 1 false, word 2 false, tp false 0 1, word 3 false, word 4 false, idle, tp false 1 1, idle, idle, idle,
    tp false 2 0]
/-- a three-byte transfer -/
def hShort : List (In × Bool) :=
  ok [{ idle with sValid := 7, sData := 0xAABBCCDD, sLast := true }, idle, tp false 0 1, idle, idle, tp false 1 0]

example : ∀ h ∈ [hPlain, hLost, hDup, hZlp, hZlpLost], envAll cfg8 (init cfg8) Ghost.init h = true ∧
    (runG cfg8 (init cfg8) Ghost.init h).2.deliv = [0x11, 0x11, 0x11, 0x11, 0x22, 0x22, 0x22, 0x22] ∧
    (runG cfg8 (init cfg8) Ghost.init h).2.prod = [0x11, 0x11, 0x11, 0x11, 0x22, 0x22, 0x22, 0x22] := by
  decide +kernel

example : envAll cfg8 (init cfg8) Ghost.init hSwap = true ∧
    (runG cfg8 (init cfg8) Ghost.init hSwap).2.deliv = [1, 0, 0, 0, 2, 0, 0, 0, 3, 0, 0, 0, 4, 0, 0, 0] := by decide +kernel

example : envAll cfg8 (init cfg8) Ghost.init hShort = true ∧
    (runG cfg8 (init cfg8) Ghost.init hShort).2.deliv = [0xDD, 0xCC, 0xBB] := by decide +kernel

/-- the host hypothesis is needed: a host that announces the next number although it lost the packet makes the
endpoint discard data (delivered and pending are empty, 8 bytes were accepted from the producer) -/
def hLie : List (In × Bool) :=
  ok [word 0x11111111 false, word 0x22222222 false, tp false 0 1] ++ lossy [idle, idle, idle] ++ ok [tp false 1 0]

example : envAll cfg8 (init cfg8) Ghost.init hLie = false ∧
    (runG cfg8 (init cfg8) Ghost.init hLie).2.deliv = [] ∧
    pending (runG cfg8 (init cfg8) Ghost.init hLie).1 (runG cfg8 (init cfg8) Ghost.init hLie).2 = [] ∧
    (runG cfg8 (init cfg8) Ghost.init hLie).2.prod.length = 8 := by decide +kernel

/-- max_packet_size 4: one-word buffers -/
def cfg4 : Config := ⟨4, 1, 0⟩

/-- `8 ≤ max_packet_size` is needed: with max_packet_size 4 (`cfg4`) a word written in the very cycle
of an ACK + IN request that swaps the buffers is read stale (the read port of the buffer being written was
addressed with 0 in the same cycle, the memories are not transparent): the second packet carries 0 instead of
0x22222222.  Replayed on the real gateware (notes/C46.md). -/
def hStale : List (In × Bool) :=
  ok [word 0x11111111 false, tp false 0 1, idle, idle, idle,
    { tp false 1 1 with sValid := 15, sData := 0x22222222 }, idle, idle, idle, tp false 2 0]

example : envAll cfg4 (init cfg4) Ghost.init hStale = true ∧
    (runG cfg4 (init cfg4) Ghost.init hStale).2.deliv = [0x11, 0x11, 0x11, 0x11, 0, 0, 0, 0] ∧
    (runG cfg4 (init cfg4) Ghost.init hStale).2.prod = [0x11, 0x11, 0x11, 0x11, 0x22, 0x22, 0x22, 0x22] := by
  decide +kernel

end LunaVerif.SSStreamIn
