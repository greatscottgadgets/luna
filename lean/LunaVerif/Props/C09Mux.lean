import LunaVerif.Props.C09
import LunaVerif.Lemmas.C09Mux
/-!
# C09 — `GetDescriptorHandlerMux` (block-ROM handler for the fixed descriptors + distributed handler
for the runtime descriptors, as `StandardRequestHandler.get_descriptor_handler_submodule` builds it)

The request is served by exactly the handler that owns the descriptor, the mux's answer is that
handler's answer (`mux_packet_exact`), and, with `mux_stall_iff_absent`, the mux STALLs iff neither handler owns
it — from *any* value of the stall latches
(they may still describe the previous request; the repaired code masks them with `~start`).
-/
namespace LunaVerif.Desc

/-- the distributed handler over runtime descriptors (opaque generators: no fixed length known to
the handler, so no ZLP path — the generator is `USBDescriptorStreamGenerator(bytes)`). -/
def distRuntimeOf (coll : Collection) (mps : Nat) : Dist.Config :=
  ⟨coll.map (fun d => ⟨key d, ⟨d.bytes⟩, none⟩), mps⟩

/-- the mux `get_descriptor_handler_submodule` builds: handler 0 = block(fixed), handler 1 = distributed(runtime). -/
def muxOf (fixed runtime : Collection) (mps : Nat) : Mux.Config := ⟨blockOf fixed mps, distRuntimeOf runtime mps⟩

/-- **dist_runtime_packet_exact**: the distributed handler over runtime descriptors, a request
strictly inside the descriptor (`p < min wLength |d|` — a runtime generator cannot be asked for the
position equal to its length, see ASSUMPTIONS in harness/props/c09.py) or for an absent descriptor. -/
theorem dist_runtime_packet_exact (coll : Collection) (mps : Nat) (s0 : Dist.State)
    (ty idx l p : Nat) (rs : List Bool)
    (hm : mps = 8 ∨ mps = 16 ∨ mps = 32 ∨ mps = 64)
    (hwf : ∀ d ∈ coll, d.idx < 256)
    (hidx : idx < 256) (hl : l < 65536)
    (h0 : Dist.Quiescent (distRuntimeOf coll mps) s0)
    (hp : ∀ d, descrBytes coll ty idx = some d → p < min l d.length) :
    Dist.run (distRuntimeOf coll mps) s0 (Dist.reqInputs (ty * 256 + idx) l p rs)
      = respTrace (if (descrBytes coll ty idx).isSome then 2 else 0)
          (specResponse (descrBytes coll ty idx) l mps p) rs := by
  have h := dist_request coll _ (fun _ => rfl) (fun _ => rfl) (fun _ _ h => by cases h) mps s0 ty idx l p rs
    (by omega) hwf hidx hl h0 (fun d hf => Or.inl (hp d.bytes (by unfold descrBytes; rw [hf]; rfl)))
  have hlat : (find? coll ty idx).elim 0 (fun d => if p < min l d.bytes.length then 2 else 1)
      = if (descrBytes coll ty idx).isSome then 2 else 0 := by
    unfold descrBytes at hp ⊢
    cases hf : find? coll ty idx with
    | none => rfl
    | some d => exact if_pos (hp d.bytes (by rw [hf]; rfl))
  rw [hlat] at h
  exact h

theorem descrBytes_append (a b : Collection) (ty idx : Nat) :
    descrBytes (a ++ b) ty idx = (descrBytes a ty idx).or (descrBytes b ty idx) := by
  unfold descrBytes find?
  rw [List.find?_append]
  cases List.find? (fun d => d.ty == ty && d.idx == idx) a <;> simp

theorem specResponse_some_ne_stall (d : List Nat) (l mps p : Nat) : specResponse (some d) l mps p ≠ .stall := by
  unfold specResponse
  simp only
  split <;> simp

/-- **mux_packet_exact**: `GetDescriptorHandlerMux` over the block handler for the well-formed
collection `fixed` and the distributed handler for the runtime collection `runtime`, no (type, index)
in both.  From any state in which both handlers are idle and for **any** value of the two stall
latches, for every `tx.ready` pattern, an in-order request (for a runtime descriptor strictly inside it, `hpr`, as
in `dist_runtime_packet_exact`) is answered with the abstract transmitter's
trace of `specResponse` for the descriptor in `fixed ++ runtime`: the answer of the handler that owns
the descriptor (the other one's STALL is swallowed), and a single STALL pulse — in the cycle the
second handler stalls — iff neither owns it. -/
theorem mux_packet_exact (fixed runtime : Collection) (mps : Nat) (s0 : Mux.State)
    (ty idx l p : Nat) (rs : List Bool)
    (hwf : wellFormed fixed = true)
    (hm : mps = 8 ∨ mps = 16 ∨ mps = 32 ∨ mps = 64)
    (hpw : 2 ≤ (Rom.layout fixed).maxLen)
    (hty : ty < 256) (hidx : idx < 256) (hl : l < 65536)
    (hrt : ∀ d ∈ runtime, d.idx < 256)
    (hdisj : descrBytes fixed ty idx = none ∨ descrBytes runtime ty idx = none)
    (h0b : s0.b.fsm = .idle) (h0d : Dist.Quiescent (distRuntimeOf runtime mps) s0.d)
    (hpf : ∀ d, descrBytes fixed ty idx = some d → p ≤ min l d.length)
    (hpr : ∀ d, descrBytes runtime ty idx = some d → p < min l d.length) :
    ∃ lat, 1 ≤ lat ∧ lat ≤ 4 ∧
      Mux.run (muxOf fixed runtime mps) s0 (Block.reqInputs (ty * 256 + idx) l p rs)
        = respTrace lat (specResponse (descrBytes (fixed ++ runtime) ty idx) l mps p) rs := by
  cases rs with
  | nil => exact ⟨1, by omega, by omega, rfl⟩
  | cons r rs =>
    obtain ⟨latB, hB1, hB4, hB⟩ := block_packet_exact fixed mps s0.b ty idx l p (r :: rs) hwf hm hpw hty hidx hl h0b hpf
    have hD := dist_runtime_packet_exact runtime mps s0.d ty idx l p (r :: rs) hm hrt hidx hl h0d hpr
    obtain ⟨n, rfl⟩ : ∃ n, latB = n + 1 := ⟨latB - 1, by omega⟩
    rw [Mux.run_eq, Mux.toDist_reqInputs, Mux.start_reqInputs]
    show ∃ lat, 1 ≤ lat ∧ lat ≤ 4 ∧ Mux.muxTrace (Block.run (blockOf fixed mps) s0.b _)
      (Dist.run (distRuntimeOf runtime mps) s0.d _) _ s0.latch0 s0.latch1 = _
    rw [hB, hD, descrBytes_append]
    cases hf : descrBytes fixed ty idx with
    | some d =>
      rw [hdisj.resolve_left (by rw [hf]; exact Option.some_ne_none _)]
      exact ⟨n + 1, hB1, hB4, Mux.mux_owner0 n _ (specResponse_some_ne_stall d l mps p) r rs _ _⟩
    | none =>
      cases hr : descrBytes runtime ty idx with
      | some d => exact ⟨2, by omega, by omega, Mux.mux_owner1 n 1 _ (specResponse_some_ne_stall d l mps p) r rs _ _⟩
      | none => exact ⟨n + 1, hB1, hB4, Mux.mux_nobody n r rs _ _⟩

/-- The specified answer for the joined collection is STALL exactly when neither collection has the descriptor — a fact
about `specResponse` and `descrBytes` in which no term of the mux model occurs.  With `mux_packet_exact`, whose trace is
`respTrace` of this answer, it says of the mux: STALL iff neither handler owns the descriptor (and `valid` is then
never raised: `respTrace_stall_no_valid`). -/
theorem mux_stall_iff_absent (fixed runtime : Collection) (ty idx l mps p : Nat) :
    specResponse (descrBytes (fixed ++ runtime) ty idx) l mps p = .stall
      ↔ (descrBytes fixed ty idx = none ∧ descrBytes runtime ty idx = none) := by
  rw [descrBytes_append]
  cases hf : descrBytes fixed ty idx with
  | some d => simp [specResponse_some_ne_stall]
  | none =>
    cases hr : descrBytes runtime ty idx with
    | some d => simp [specResponse_some_ne_stall]
    | none => simp [specResponse]

/-! ## Non-vacuity -/

theorem Dist.quiescent_init (c : Dist.Config) : Dist.Quiescent c (Dist.init c) := by
  refine ⟨rfl, by simp [Dist.init], ?_⟩
  intro g hg
  simp only [Dist.init, List.mem_map] at hg
  obtain ⟨_, _, rfl⟩ := hg
  exact ⟨rfl, rfl⟩

/-- a runtime string descriptor (index 0xEE, 5 bytes — not a multiple of a packet size). -/
def sampleRuntime : Collection := [⟨3, 0xEE, [5, 3, 88, 0, 89]⟩]

-- hypotheses of `mux_packet_exact` on (sample, sampleRuntime): no key in both, both owners occur
example : (∀ ty ∈ List.range 5, ∀ idx ∈ [0, 1, 0xEE, 0xFE],
      descrBytes sample ty idx = none ∨ descrBytes sampleRuntime ty idx = none)
    ∧ (descrBytes sample 3 0xEE = none ∧ (descrBytes sampleRuntime 3 0xEE).isSome)
    ∧ ((descrBytes sample 3 0xFE).isSome ∧ descrBytes sampleRuntime 3 0xFE = none) := by decide +kernel
-- owner = runtime handler, with both stall latches left set by "the previous request"
set_option maxRecDepth 100000 in
example : Mux.run (muxOf sample sampleRuntime 8) ⟨Block.init, Dist.init (distRuntimeOf sampleRuntime 8), true, true⟩
      (Block.reqInputs (3 * 256 + 0xEE) 255 0 [true, true, false, true, true, true, true, true, true])
    = respTrace 2 (.data [5, 3, 88, 0, 89]) [true, true, false, true, true, true, true, true, true] := by
  decide +kernel
-- owner = block handler
set_option maxRecDepth 100000 in
example : Mux.run (muxOf sample sampleRuntime 8) (Mux.init (muxOf sample sampleRuntime 8))
      (Block.reqInputs (3 * 256 + 0) 2 0 [true, true, false, true, true, true, true, true, true])
    = respTrace 4 (.data [4, 3]) [true, true, false, true, true, true, true, true, true] := by
  decide +kernel
-- owner = nobody: one STALL pulse when the block handler has finished its lookup
set_option maxRecDepth 100000 in
example : Mux.run (muxOf sample sampleRuntime 8) (Mux.init (muxOf sample sampleRuntime 8))
      (Block.reqInputs (3 * 256 + 7) 255 0 [true, true, true, true, true])
    = respTrace 2 .stall [true, true, true, true, true] := by
  decide +kernel

end LunaVerif.Desc
