import LunaVerif.Props.C57Streams
/-!
# C57 — rx order seen from the HOST, over whole-device event histories

`rx_in_order` (Props/C57Streams.lean) says that the rx stream delivers exactly the packets the DEVICE ACKed with a
fresh toggle.  Here the host's bookkeeping is added (`HRx`, the whole-device version of `RxHost` of
`rx_in_order_partial`): its sequence bit `hBit`, the packet it is still trying to get across (`pending`), the bytes
of the packets it has seen ACKed (`done`).  The annotation `got` of a data event says whether the host sees the
device's handshake.

Environment hypothesis `HostOutDiscipline` (USB 2.0 §8.6, decidable along the history): a data packet the host sends
to OUT endpoint 4 carries the host's sequence bit, and while a packet is pending the host sends that packet again.

`rx_host_in_order`: the packets the device ACKed fresh — without the re-deliveries below — are the host's `done`
bytes, followed by the pending packet if the device has it already (the host missed its ACK): each packet once, in
order, whatever else happens on the bus.  As coded, a halt-clear of OUT 4 restarts both sequence bits at DATA0; if
it arrives while the device has the pending packet and the host does not know (`unseen`), the host's retransmission
is now fresh again and the device takes the packet a SECOND time: exactly these re-deliveries are logged in
`rredone` (each equal to the pending packet), at most one per such halt-clear (`rAmb`).  Without such a halt-clear
`rx_host_exactly_once`: bytes read ++ bytes buffered = `done` ++ (pending packet if the device has it).
-/
namespace LunaVerif.C57
open LunaVerif LunaVerif.Device LunaVerif.Device.Full

structure HRx where
  hBit    : Bool := false                 -- the host's sequence bit for OUT endpoint 4
  pending : Option (List Nat) := none     -- sent, not (yet) seen ACKed
  done    : List Nat := []                -- bytes of the packets seen ACKed
  unseen  : Bool := false                 -- the device has ACKed the pending packet (fresh), the host missed it
  rredo   : Bool := false                 -- a halt-clear arrived while `unseen`: the next fresh packet is a re-delivery
  ackedH  : List Nat := []                -- payloads ACKed fresh, re-deliveries left out
  rredone : List (List Nat × List Nat) := []   -- (packet taken again, the pending packet)
  rAmb    : Nat := 0                      -- halt-clears of OUT 4 that arrived while `unseen`
deriving Repr, DecidableEq

/-- `g`: the ghost history BEFORE the event; `o`: the device's answer to it. -/
def hrStep (s : FullState) (g : Ghost) (hr : HRx) (a : AEvent) (o : Obs) : HRx :=
  match a.ev with
  | .data pid payload _ =>
      if s.ctl.tokPid = PID_OUT ∧ s.ctl.tokEp = 4 then
        let fresh : Bool := decide (o.resp = .hs PID_ACK ∧ pidToggle pid = g.rxBit)
        let hr1 := if fresh then
                     (if hr.rredo then { hr with rredo := false, rredone := hr.rredone ++ [(payload, hr.pending.getD [])] }
                      else { hr with ackedH := hr.ackedH ++ payload })
                   else hr
        if o.resp = .hs PID_ACK ∧ a.got = true then
          { hr1 with hBit := !hr.hBit, pending := none, done := hr.done ++ payload, unseen := false }
        else { hr1 with pending := some payload, unseen := hr1.unseen || fresh }
      else hr
  | .handshake _ =>
      if haltFor (ctxOf s.ctl a.ev) false 4 then
        { hr with hBit := false, rredo := hr.rredo || hr.unseen, unseen := false,
                  rAmb := hr.rAmb + (if hr.unseen then 1 else 0) }
      else hr
  | _ => hr

def outOk (s : FullState) (hr : HRx) (a : AEvent) : Bool :=
  match a.ev with
  | .data pid payload _ =>
      if s.ctl.tokPid = PID_OUT ∧ s.ctl.tokEp = 4 then
        pidToggle pid == hr.hBit && (match hr.pending with | none => true | some q => payload == q)
      else true
  | _ => true

def runH (c : FullConfig) : FullState → Ghost → HRx → List AEvent → FullState × Ghost × HRx
  | s, g, hr, [] => (s, g, hr)
  | s, g, hr, a :: as =>
      runH c (Full.step c s a.ev).1 (ghostStep s g a (Full.step c s a.ev).2) (hrStep s g hr a (Full.step c s a.ev).2) as

def discFrom (c : FullConfig) : FullState → Ghost → HRx → List AEvent → Bool
  | _, _, _, [] => true
  | s, g, hr, a :: as =>
      outOk s hr a &&
      discFrom c (Full.step c s a.ev).1 (ghostStep s g a (Full.step c s a.ev).2) (hrStep s g hr a (Full.step c s a.ev).2) as

def HostOutDiscipline (c : FullConfig) (h : List AEvent) : Bool := discFrom c (Full.init c) {} {} h

theorem runH_runG (c : FullConfig) (s : FullState) (g : Ghost) (hr : HRx) (h : List AEvent) :
    ((runH c s g hr h).1, (runH c s g hr h).2.1) = runG c s g h := by
  induction h generalizing s g hr with
  | nil => rfl
  | cons a as ih => simp only [runH, runG]; exact ih _ _ _

/-! ## The invariant (a property of the observed history alone) -/

def HCore (g : Ghost) (hr : HRx) : Prop :=
  (g.rxBit = hr.hBit ∧ hr.unseen = false ∧ hr.rredo = false ∧ hr.ackedH = hr.done) ∨
  (g.rxBit = (!hr.hBit) ∧ hr.unseen = true ∧ hr.rredo = false ∧ ∃ q, hr.pending = some q ∧ hr.ackedH = hr.done ++ q) ∨
  (g.rxBit = hr.hBit ∧ hr.unseen = false ∧ hr.rredo = true ∧ ∃ q, hr.pending = some q ∧ hr.ackedH = hr.done ++ q)

def HInv (g : Ghost) (hr : HRx) : Prop :=
  HCore g hr ∧ (∀ x ∈ hr.rredone, x.1 = x.2) ∧ hr.rredone.length + (if hr.rredo then 1 else 0) ≤ hr.rAmb ∧
  (hr.rAmb = 0 → g.acked = hr.ackedH)

theorem not_not_bool (a b : Bool) (h : a = !b) : ¬ (a = b) := by cases a <;> cases b <;> simp at h ⊢

theorem hcore_bytes {g : Ghost} {hr : HRx} (h : HCore g hr) :
    hr.ackedH = hr.done ++ (if hr.unseen = true ∨ hr.rredo = true then hr.pending.getD [] else []) := by
  rcases h with ⟨_, c2, c3, c4⟩ | ⟨_, c2, _, q, c4, c5⟩ | ⟨_, _, c3, q, c4, c5⟩
  · simp [c2, c3, c4]
  · simp [c2, c4, c5]
  · simp [c3, c4, c5]

theorem hinv_init : HInv {} {} :=
  ⟨Or.inl ⟨rfl, rfl, rfl, rfl⟩, fun x hx => (by cases hx), Nat.le_refl _, fun _ => rfl⟩

theorem hr_data_fields (s : FullState) (g : Ghost) (hr : HRx) (got : Bool) (pid : Nat) (p : List Nat) (ok : Bool)
    (o : Obs) (h12 : s.ctl.tokPid = PID_OUT ∧ s.ctl.tokEp = 4) :
    let hr' := hrStep s g hr ⟨.data pid p ok, got⟩ o
    let fresh := o.resp = .hs PID_ACK ∧ pidToggle pid = g.rxBit
    let seen := o.resp = .hs PID_ACK ∧ got = true
    hr'.hBit = (if seen then !hr.hBit else hr.hBit) ∧
    hr'.pending = (if seen then none else some p) ∧
    hr'.done = (if seen then hr.done ++ p else hr.done) ∧
    hr'.unseen = (if seen then false else (hr.unseen || decide fresh)) ∧
    hr'.rredo = (if fresh then false else hr.rredo) ∧
    hr'.ackedH = (if fresh ∧ hr.rredo = false then hr.ackedH ++ p else hr.ackedH) ∧
    hr'.rredone = (if fresh ∧ hr.rredo = true then hr.rredone ++ [(p, hr.pending.getD [])] else hr.rredone) ∧
    hr'.rAmb = hr.rAmb := by
  simp only [hrStep, if_pos h12]
  cases got <;>
  by_cases h1 : o.resp = .hs PID_ACK <;>
  by_cases h2 : pidToggle pid = g.rxBit <;>
  cases hrd : hr.rredo <;> simp [h1, h2, hrd]

theorem hinv_congr {g g' : Ghost} {hr : HRx} (h1 : g'.rxBit = g.rxBit) (h2 : g'.acked = g.acked) (hi : HInv g hr) :
    HInv g' hr := by
  unfold HInv HCore
  rw [h1, h2]
  exact hi

theorem hinv_data (s : FullState) (g : Ghost) (hr : HRx) (got : Bool) (pid : Nat) (p : List Nat) (ok : Bool) (o : Obs)
    (hi : HInv g hr) (hd : outOk s hr ⟨.data pid p ok, got⟩ = true) :
    HInv (ghostStep s g ⟨.data pid p ok, got⟩ o) (hrStep s g hr ⟨.data pid p ok, got⟩ o) := by
  obtain ⟨g1, g2, _⟩ := ghost_rx s g ⟨.data pid p ok, got⟩ o
  dsimp only at g1 g2
  by_cases h12 : s.ctl.tokPid = PID_OUT ∧ s.ctl.tokEp = 4
  · obtain ⟨hcore, hred, hcnt, hamb⟩ := hi
    simp only [outOk, if_pos h12, Bool.and_eq_true, beq_iff_eq] at hd
    obtain ⟨htog, hpend⟩ := hd
    obtain ⟨f1, f2, f3, f4, f5, f6, f7, f8⟩ := hr_data_fields s g hr got pid p ok o h12
    unfold HInv HCore
    rw [f1, f2, f3, f4, f5, f6, f7, f8]
    have hp' : ∀ q, hr.pending = some q → p = q := by
      intro q hq; rw [hq] at hpend; simpa using hpend
    have hred2 : ∀ (a b : List Nat), (a, b) ∈ hr.rredone → a = b := fun a b hab => hred (a, b) hab
    by_cases hack : o.resp = .hs PID_ACK
    · rcases hcore with ⟨c1, c2, c3, c4⟩ | ⟨c1, c2, c3, q, c4, c5⟩ | ⟨c1, c2, c3, q, c4, c5⟩
      · -- in step: the packet is fresh
        have hfr : pidToggle pid = g.rxBit := by rw [htog, c1]
        rw [if_pos ⟨h12.1, h12.2, hack, hfr⟩] at g1 g2
        rw [g1, g2]
        have hc' : hr.rredone.length ≤ hr.rAmb := by simpa [c3] using hcnt
        cases got <;> simp [hack, hfr, c1, c2, c3, c4]
        all_goals exact ⟨hred2, hc', fun h0 => by rw [hamb h0, c4]⟩
      · -- out of step: a retransmission the device skips
        have hnf : ¬ (pidToggle pid = g.rxBit) := by rw [htog, c1]; cases hr.hBit <;> simp
        have := hp' q c4; subst this
        rw [if_neg (fun h => hnf h.2.2.2)] at g1 g2
        rw [g1, g2]
        have hc' : hr.rredone.length ≤ hr.rAmb := by simpa [c3] using hcnt
        have hne : ¬ (hr.hBit = !hr.hBit) := by cases hr.hBit <;> simp
        cases got <;> simp [hack, htog, hne, c1, c2, c3, c5]
        all_goals exact ⟨hred2, hc', fun h0 => by rw [hamb h0, c5]⟩
      · -- after an ambiguous halt-clear: the retransmission is fresh again (the re-delivery)
        have hfr : pidToggle pid = g.rxBit := by rw [htog, c1]
        have := hp' q c4; subst this
        rw [if_pos ⟨h12.1, h12.2, hack, hfr⟩] at g1 g2
        rw [g1, g2]
        have hc' : hr.rredone.length + 1 ≤ hr.rAmb := by simpa [c3] using hcnt
        have hred3 : ∀ (a b : List Nat), (a, b) ∈ hr.rredone ∨ a = p ∧ b = p → a = b := by
          intro a b hab
          rcases hab with hab | ⟨h1, h2⟩
          · exact hred2 a b hab
          · rw [h1, h2]
        cases got <;> simp [hack, hfr, c1, c2, c3, c4, c5]
        all_goals exact ⟨hred3, hc', fun h0 => by omega⟩
    · -- no ACK (corrupted, NAKed, …): the packet stays pending, nothing else changes
      rw [if_neg (fun h => hack h.2.2.1)] at g1 g2
      rw [g1, g2]
      simp [hack]
      refine ⟨?_, hred2, hcnt, hamb⟩
      rcases hcore with ⟨c1, c2, c3, c4⟩ | ⟨c1, c2, c3, q, c4, c5⟩ | ⟨c1, c2, c3, q, c4, c5⟩
      · exact Or.inl ⟨c1, c2, c3, c4⟩
      · have := hp' q c4; subst this
        exact Or.inr (Or.inl ⟨c1, c2, c3, c5⟩)
      · have := hp' q c4; subst this
        exact Or.inr (Or.inr ⟨c1, c2, c3, c5⟩)
  · -- not a packet for OUT endpoint 4
    rw [if_neg (fun h => h12 ⟨h.1, h.2.1⟩)] at g1 g2
    simp only [hrStep, if_neg h12]
    exact hinv_congr g1 g2 hi

theorem hinv_handshake (s : FullState) (g : Ghost) (hr : HRx) (got : Bool) (pid : Nat) (o : Obs) (hi : HInv g hr) :
    HInv (ghostStep s g ⟨.handshake pid, got⟩ o) (hrStep s g hr ⟨.handshake pid, got⟩ o) := by
  obtain ⟨g1, g2, _⟩ := ghost_rx s g ⟨.handshake pid, got⟩ o
  dsimp only at g1 g2
  simp only [hrStep]
  cases hh : haltFor (ctxOf s.ctl (.handshake pid)) false 4
  · simp only [hh, Bool.false_eq_true, if_false] at g1 ⊢
    exact hinv_congr g1 g2 hi
  · simp only [hh, if_true] at g1 ⊢
    obtain ⟨hcore, hred, hcnt, hamb⟩ := hi
    rcases hcore with ⟨c1, c2, c3, c4⟩ | ⟨c1, c2, c3, q, c4, c5⟩ | ⟨c1, c2, c3, q, c4, c5⟩
    · refine ⟨Or.inl ⟨by simp [g1], by simp, by simp [c2, c3], by simp [c4]⟩, hred, ?_, ?_⟩
      · simpa [c2, c3] using hcnt
      · simpa [c2, g2] using hamb
    · refine ⟨Or.inr (Or.inr ⟨by simp [g1], by simp, by simp [c2, c3], q, c4, c5⟩), hred, ?_, ?_⟩
      · simp [c2, c3] at hcnt ⊢; omega
      · simp [c2]
    · refine ⟨Or.inr (Or.inr ⟨by simp [g1], by simp, by simp [c2, c3], q, c4, c5⟩), hred, ?_, ?_⟩
      · simpa [c2, c3] using hcnt
      · simpa [c2, g2] using hamb

theorem hinv_step (s : FullState) (g : Ghost) (hr : HRx) (a : AEvent) (o : Obs) (hi : HInv g hr)
    (hd : outOk s hr a = true) : HInv (ghostStep s g a o) (hrStep s g hr a o) := by
  obtain ⟨ev, got⟩ := a
  cases ev with
  | data pid p ok => exact hinv_data s g hr got pid p ok o hi hd
  | handshake pid => exact hinv_handshake s g hr got pid o hi
  | _ => exact hinv_congr (ghost_rx s g _ o).1 (ghost_rx s g _ o).2.1 hi

theorem hinv_run (c : FullConfig) (s : FullState) (g : Ghost) (hr : HRx) (h : List AEvent) (hi : HInv g hr)
    (hd : discFrom c s g hr h = true) : HInv (runH c s g hr h).2.1 (runH c s g hr h).2.2 := by
  induction h generalizing s g hr with
  | nil => exact hi
  | cons a as ih =>
    simp only [discFrom, Bool.and_eq_true] at hd
    exact ih _ _ _ (hinv_step s g hr a _ hi hd.1) hd.2

/-! ## The host's view of the rx direction -/

/-- **C57 (rx in order, the host's view, whole-device histories).**  For EVERY event history of the device from
reset in which the host follows the toggle protocol on OUT endpoint 4: the payloads the device ACKed with a fresh
toggle (re-deliveries after an ambiguous halt-clear left out) are the bytes of the packets the host has seen ACKed,
followed by the pending packet when the device already has it; every logged re-delivery is the pending packet
again, and there is at most one per halt-clear of OUT 4 that arrived while the host had missed an ACK. -/
theorem rx_host_in_order (c : FullConfig) (h : List AEvent) (hd : HostOutDiscipline c h = true) :
    let r := runH c (Full.init c) {} {} h
    r.2.2.ackedH = r.2.2.done ++ (if r.2.2.unseen = true ∨ r.2.2.rredo = true then r.2.2.pending.getD [] else []) ∧
    (∀ x ∈ r.2.2.rredone, x.1 = x.2) ∧
    r.2.2.rredone.length + (if r.2.2.rredo then 1 else 0) ≤ r.2.2.rAmb := by
  obtain ⟨hcore, hred, hcnt, _⟩ := hinv_run c _ _ _ h hinv_init hd
  exact ⟨hcore_bytes hcore, hred, hcnt⟩

/-- **C57 (rx exactly once, end to end).**  If moreover no halt-clear of OUT 4 arrived while the host had missed an
ACK: the bytes read from the rx stream followed by the bytes still buffered are exactly the bytes of the packets the
host has seen ACKed, followed by the pending packet when the device already has it — the whole-device version of `rx_in_order_partial`, halt-clears included. -/
theorem rx_host_exactly_once (c : FullConfig) (hc : IsSerial c) (h : List AEvent) (hd : HostOutDiscipline c h = true)
    (hn : (runH c (Full.init c) {} {} h).2.2.rAmb = 0) :
    let r := runH c (Full.init c) {} {} h
    r.2.1.delivered ++ bytesOf (rxEp r.1).fifo =
      r.2.2.done ++ (if r.2.2.unseen = true then r.2.2.pending.getD [] else []) := by
  obtain ⟨hcore, _, hcnt, hamb⟩ := hinv_run c _ _ _ h hinv_init hd
  have hG := runH_runG c (Full.init c) {} {} h
  have hrx := (rx_in_order c hc h).1
  rw [← hG] at hrx
  simp only at hrx ⊢
  rw [hrx, hamb hn, hcore_bytes hcore, (no_redo hcnt hn).2]
  simp

/-! ## The ghost's test at a data packet -/

/-- The ghost's test "the token detector shows an OUT token for endpoint 4" at a data packet says what one expects:
for a data packet that is legal by the host's packet grammar (`Device.legalEvent`: it follows an OUT / SETUP token,
or an IN token of another device), the detector shows OUT / 4 exactly when the event before it was an OUT token
for endpoint 4 carrying the device's address. -/
theorem out_data_follows_out_token (c : FullConfig) (s0 : FullState) (e : HostEvent)
    (hl : let s := (Full.step c s0 e).1.ctl
          (s.gPrevTok == PID_OUT || s.gPrevTok == PID_SETUP || (s.gPrevTok == PID_IN && s.tokPid == 0)) = true) :
    ((Full.step c s0 e).1.ctl.tokPid = PID_OUT ∧ (Full.step c s0 e).1.ctl.tokEp = 4) ↔
      e = .token PID_OUT s0.ctl.address 4 := by
  constructor
  · rintro ⟨h1, h2⟩
    have hg : (Full.step c s0 e).1.ctl.gPrevTok = tokenPidOf e := by rw [step_ctl]; exact step_gPrevTok ..
    simp only [hg, h1] at hl
    cases e with
    | token pid addr ep =>
      by_cases ha : addr = s0.ctl.address
      · subst ha
        rw [(tok_token_mine c s0 pid ep).1] at h1
        rw [(tok_token_mine c s0 pid ep).2] at h2
        rw [h1, h2]
      · have : (Full.step c s0 (.token pid addr ep)).1.ctl.tokPid = 0 := by
          rw [(step_tk c s0 _).1]; simp only [core, if_neg ha]
        rw [this] at h1; exact absurd h1 (by decide)
    | _ => simp [tokenPidOf, PID_OUT, PID_SETUP, PID_IN] at hl
  · intro he
    subst he
    exact tok_token_mine c s0 PID_OUT 4

/-! ## Non-vacuity -/

/-- Enumeration; [1, 2, 3] ACKed but the host misses the ACK, retransmitted (ACKed, not delivered again); a corrupted
packet and its retransmission; another device's transaction; halt-clear of OUT 4 (in step), DATA0 again. -/
def demoRx : List AEvent :=
  ann (enumeration 5) ++
  [⟨.token PID_OUT 5 4, true⟩, ⟨.data PID_DATA0 [1, 2, 3] true, false⟩,
   ⟨.token PID_OUT 5 4, true⟩, ⟨.data PID_DATA0 [1, 2, 3] true, true⟩] ++
  ann [.consume 4 2,
       .token PID_OUT 5 4, .data PID_DATA1 [4] false,
       .token PID_OUT 7 4, .data PID_DATA1 [9] true,
       .token PID_OUT 5 4, .data PID_DATA1 [4] true] ++
  ann (clearHalt 5 0x04) ++
  ann [.token PID_OUT 5 4, .data PID_DATA0 [5] true, .consume 4 1]

example : Full.LegalHost acmCfg (demoRx.map (·.ev)) = true ∧ HostOutDiscipline acmCfg demoRx = true := by
  decide +kernel

example : (runH acmCfg (Full.init acmCfg) {} {} demoRx).2.2 =
      { hBit := true, done := [1, 2, 3, 4, 5], ackedH := [1, 2, 3, 4, 5] } ∧
    (runH acmCfg (Full.init acmCfg) {} {} demoRx).2.1.delivered = [1, 2, 3] := by decide +kernel

/-- The ambiguous halt-clear of OUT 4: the device has [1, 2, 3], the host missed the ACK, CLEAR_FEATURE(ENDPOINT_HALT)
— the retransmission is DATA0 = fresh again and the bytes come out of rx twice (replayed on the real
`USBSerialDevice`: the gateware does exactly this). -/
def demoRxRedo : List AEvent :=
  ann (enumeration 5) ++
  [⟨.token PID_OUT 5 4, true⟩, ⟨.data PID_DATA0 [1, 2, 3] true, false⟩] ++
  ann (clearHalt 5 0x04) ++
  ann [.token PID_OUT 5 4, .data PID_DATA0 [1, 2, 3] true, .consume 4 10]

example : Full.LegalHost acmCfg (demoRxRedo.map (·.ev)) = true ∧ HostOutDiscipline acmCfg demoRxRedo = true := by
  decide +kernel

example : (runH acmCfg (Full.init acmCfg) {} {} demoRxRedo).2.2 =
      { hBit := true, done := [1, 2, 3], ackedH := [1, 2, 3], rredone := [([1, 2, 3], [1, 2, 3])], rAmb := 1 } ∧
    (runH acmCfg (Full.init acmCfg) {} {} demoRxRedo).2.1.delivered = [1, 2, 3, 1, 2, 3] := by decide +kernel

/-- The hypothesis can fail: a host that sends a NEW packet with the toggle of the one it has seen ACKed. -/
example : HostOutDiscipline acmCfg (ann (enumeration 5) ++
    ann [.token PID_OUT 5 4, .data PID_DATA0 [1] true, .token PID_OUT 5 4, .data PID_DATA0 [2] true]) = false := by
  decide +kernel

end LunaVerif.C57
