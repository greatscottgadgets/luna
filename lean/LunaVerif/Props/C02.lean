import LunaVerif.Model.Usb2.DataReceiver
import LunaVerif.Core.UtmiTrack
/-!
# C02 — USB2 data packets are accepted iff their CRC16 is valid, payload intact

"For any received packet, the receiver streams exactly the bytes between the PID and the two
trailing CRC bytes, in order, and then signals completion iff the PID is a valid DATA0/1/2/MDATA
PID and the CRC16 over those bytes equals the trailing CRC.  A data packet of at least two bytes
after its PID whose CRC does not match raises a CRC-mismatch strobe instead, and no packet ever
raises both.  The 'ready for response' indication follows only a completed packet."

Quantifier: all sequences of packets — any byte values and lengths (0- and 1-byte payloads, packets
shorter than a CRC), arbitrary `rx_valid` gaps, lead-in and idle times — in the rendered form and under the
environment assumptions below.

Presentation.  The histories are `renderAll ps` for a list of `RxPacket`s (`Core/Utmi.lean`):
every packet carries its bytes, the number of wait cycles before/after each byte, the number of
idle cycles after it, and the arbitrary `rx_data` of all byte-less cycles.  (A `LegalRx` history
that begins with idle cycles or stops inside a packet is not of this form; idle cycles at a packet
boundary are `idle_idles`.)  What the receiver does is read off as a list of `Event`s in cycle order
(`observed`): every `stream.next` with its payload, every `packet_complete` with `packet_id`, every
`crc_mismatch`, every `ready_for_response`.  The specification `rxOutcome bytes` says what one packet
must produce.

Environment assumptions (explicit hypotheses of the theorems):
* `p.wf`   — `rx_active` rises at least one cycle before the first byte, ≥ 1 idle cycle after a packet;
* `gapOk`  — after a packet that *completes* (valid CRC) the line is idle for ≥ delay + 2 cycles:
             the receiver waits in INTERPACKET_DELAY for the timer and does not look at the bus;
             every other packet may be followed by a single idle cycle;
* `c.delay ≤ c.counterMax + 1` — the timer's counter can reach the delay (all table entries do).
-/
namespace LunaVerif.DataReceiver
open LunaVerif.Utmi LunaVerif.DataCrc LunaVerif.Crc

inductive Event
  | byte (b : Nat)        -- `stream.next` with `stream.payload = b`
  | complete (pid : Nat)  -- `packet_complete` with `packet_id = pid`
  | mismatch              -- `crc_mismatch`
  | ready                 -- `ready_for_response`
deriving Repr, DecidableEq

def rxOutcome : List Nat → List Event
  | [] => []
  | pid :: rest =>
    if isDataPid pid then
      match rest.reverse with
      | hi :: lo :: rp =>
        rp.reverse.map .byte ++
          (if usb2Crc16 rp.reverse = lo + 256 * hi then [.complete (pid % 16), .ready] else [.mismatch])
      | _ => []
    else []

def endEvents (pid : Nat) (pre : List Nat) (lo hi : Nat) : List Event :=
  if usb2Crc16 pre = lo + 256 * hi then [.complete (pid % 16), .ready] else [.mismatch]

theorem rxOutcome_data (pid : Nat) (payload : List Nat) (lo hi : Nat) (hp : isDataPid pid = true) :
    rxOutcome (pid :: (payload ++ [lo, hi])) = payload.map .byte ++ endEvents pid payload lo hi := by
  simp [rxOutcome, hp, endEvents]

theorem rxOutcome_nondata (pid : Nat) (rest : List Nat) (hp : isDataPid pid = false) :
    rxOutcome (pid :: rest) = [] := by simp [rxOutcome, hp]

theorem rxOutcome_short (pid : Nat) (rest : List Nat) (hl : rest.length < 2) : rxOutcome (pid :: rest) = [] := by
  match rest, hl with
  | [], _ => simp [rxOutcome]
  | [x], _ => simp [rxOutcome]

/-- The registered strobes held in a state (they are on the ports in the next cycle). -/
def pending (s : State) : List Event :=
  (if s.packetComplete then [.complete s.packetId] else []) ++ (if s.crcMismatch then [.mismatch] else [])

def outEvents (o : Out) : List Event :=
  (if o.packetComplete then [.complete o.packetId] else []) ++ (if o.crcMismatch then [.mismatch] else []) ++
  (if o.streamNext then [.byte o.payload] else []) ++ (if o.ready then [.ready] else [])

def observed (c : Config) (s : State) (h : List RxCycle) : List Event := (run c s h).flatMap outEvents

/-- Events *caused* by one cycle: its combinational strobes, then the strobes its clock edge latches. -/
def stepEvents (c : Config) (s : State) (i : RxCycle) : List Event :=
  (if (step c s i false).2.streamNext then [.byte (step c s i false).2.payload] else []) ++
  (if (step c s i false).2.ready then [.ready] else []) ++ pending (step c s i false).1

def trace (c : Config) : State → List RxCycle → List Event
  | _, [] => []
  | s, i :: is => stepEvents c s i ++ trace c (step c s i false).1 is

def gapOk (c : Config) (p : RxPacket) : Prop :=
  Event.ready ∈ rxOutcome p.bytes → c.delay + 2 ≤ p.gap.length

theorem trace_append (c : Config) (s : State) (h1 h2 : List RxCycle) :
    trace c s (h1 ++ h2) = trace c s h1 ++ trace c (final c s h1) h2 := by
  induction h1 generalizing s with
  | nil => rfl
  | cons i is ih => simp [trace, final, ih]

theorem final_append (c : Config) (s : State) (h1 h2 : List RxCycle) :
    final c s (h1 ++ h2) = final c (final c s h1) h2 := by
  induction h1 generalizing s with
  | nil => rfl
  | cons i is ih => simp [final, ih]

/-- Port observations and caused events differ only by the one-cycle latency of the two registered strobes. -/
theorem observed_trace (c : Config) (s : State) (h : List RxCycle) :
    observed c s h ++ pending (final c s h) = pending s ++ trace c s h := by
  induction h generalizing s with
  | nil => simp [observed, run, final, trace]
  | cons i is ih =>
    have := ih (step c s i false).1
    simp only [observed] at this
    simp only [observed, run, final, trace, List.flatMap_cons, List.append_assoc, this]
    simp [outEvents, stepEvents, step, pending]

/-! ## Phases of one packet -/

theorem stutter (c : Config) (P : State → Prop) (Q : RxCycle → Prop)
    (hstep : ∀ s i, Q i → P s → P (step c s i false).1 ∧ stepEvents c s i = [])
    (h : List RxCycle) (s : State) (hq : ∀ i ∈ h, Q i) (hs : P s) :
    trace c s h = [] ∧ P (final c s h) := by
  induction h generalizing s with
  | nil => exact ⟨rfl, hs⟩
  | cons i is ih =>
    obtain ⟨h1, h2⟩ := hstep s i (hq i (by simp)) hs
    obtain ⟨h3, h4⟩ := ih _ (fun j hj => hq j (by simp [hj])) h1
    simp [trace, final, h2, h3, h4]

theorem idle_idles (c : Config) (gs : List Nat) (s : State) (hs : s.fsm = .idle) :
    trace c s (gs.map idleC) = [] ∧ (final c s (gs.map idleC)).fsm = .idle :=
  stutter c (fun s => s.fsm = .idle) (∃ g, · = idleC g)
    (by rintro s _ ⟨g, rfl⟩ h; simp [step, fsmStep, stepEvents, pending, idleC, h]) _ s (mem_idles gs) hs

theorem wait_step (c : Config) (s : State) (d : Nat) (h : s.fsm = .first ∨ s.fsm = .second ∨ s.fsm = .emit) :
    (step c s (waitC d) false).1 = { s with packetComplete := false, crcMismatch := false,
                                            counter := counterNext c s.counter false } ∧
    stepEvents c s (waitC d) = [] := by
  rcases h with h | h | h <;> simp [step, fsmStep, stepEvents, pending, waitC, h, DataCrc.next]

theorem silent_end (c : Config) (g : Nat) (gs : List Nat) (s : State)
    (hs : s.fsm = .readPid ∨ s.fsm = .first ∨ s.fsm = .second ∨ s.fsm = .irrelevant) :
    trace c s ((g :: gs).map idleC) = [] ∧ (final c s ((g :: gs).map idleC)).fsm = .idle := by
  obtain ⟨h1, h2⟩ : (step c s (idleC g) false).1.fsm = .idle ∧ stepEvents c s (idleC g) = [] := by
    rcases hs with h | h | h | h <;> simp [step, fsmStep, stepEvents, pending, idleC, h]
  obtain ⟨h3, h4⟩ := idle_idles c gs _ h1
  simp [trace, final, h2, h3, h4]

/-! ### The PID byte, and what follows a data PID -/

/-- RECEIVE_FIRST_BYTE after the PID byte `pid`: CRC unit freshly cleared. -/
structure FirstInv (s : State) (pid : Nat) : Prop where
  hfsm : s.fsm = .first
  hpid : s.activePid = pid % 16
  hcrc : s.crc = usb2Crc16Reg []

/-- RECEIVE_SECOND_BYTE after `pid, b1`. -/
structure SecondInv (s : State) (pid b1 : Nat) : Prop where
  hfsm : s.fsm = .second
  hpid : s.activePid = pid % 16
  hhi  : s.pipeHi = b1
  hlbc : s.lastByteCrc = usb2Crc16 []
  hcrc : s.crc = usb2Crc16Reg [b1]

/-- RECEIVE_AND_EMIT after `pid, pre…, lo, hi`: the pipeline holds the last two bytes, the two CRC
snapshots are the CRC16 of everything before the last two / before the last byte. -/
structure EmitInv (s : State) (pid : Nat) (pre : List Nat) (lo hi : Nat) : Prop where
  hfsm : s.fsm = .emit
  hpid : s.activePid = pid % 16
  hlo  : s.pipeLo = lo
  hhi  : s.pipeHi = hi
  hlwc : s.lastWordCrc = usb2Crc16 pre
  hlbc : s.lastByteCrc = usb2Crc16 (pre ++ [lo])
  hcrc : s.crc = usb2Crc16Reg (pre ++ [lo, hi])

theorem pid_byte_data (c : Config) (s : State) (pid : Nat) (hs : s.fsm = .readPid) (hp : isDataPid pid = true) :
    stepEvents c s (byteC pid) = [] ∧ FirstInv (step c s (byteC pid) false).1 pid := by
  refine ⟨by simp [step, fsmStep, stepEvents, pending, byteC, hs, hp], ?_, ?_, ?_⟩ <;>
    simp [step, fsmStep, byteC, hs, hp, DataCrc.next, reg_nil]

theorem pid_byte_other (c : Config) (s : State) (pid : Nat) (hs : s.fsm = .readPid) (hp : isDataPid pid = false) :
    stepEvents c s (byteC pid) = [] ∧ (step c s (byteC pid) false).1.fsm = .irrelevant := by
  constructor <;> simp [step, fsmStep, stepEvents, pending, byteC, hs, hp]

theorem first_byte (c : Config) (s : State) (pid b1 : Nat) (hs : FirstInv s pid) :
    stepEvents c s (byteC b1) = [] ∧ SecondInv (step c s (byteC b1) false).1 pid b1 := by
  have e : (step c s (byteC b1) false).1 =
        { s with packetComplete := false, crcMismatch := false, pipeHi := b1, lastByteCrc := output s.crc,
                 fsm := .second, crc := update s.crc b1, counter := counterNext c s.counter false } ∧
      stepEvents c s (byteC b1) = [] := by
    simp [step, fsmStep, stepEvents, pending, byteC, hs.hfsm, DataCrc.next]
  rw [e.1, e.2]
  refine ⟨rfl, rfl, hs.hpid, rfl, ?_, ?_⟩
  · show output s.crc = _
    rw [hs.hcrc, output_reg]
  · show update s.crc b1 = _
    rw [hs.hcrc, ← reg_snoc]; rfl

theorem second_byte (c : Config) (s : State) (pid b1 b2 : Nat) (hs : SecondInv s pid b1) :
    stepEvents c s (byteC b2) = [] ∧ EmitInv (step c s (byteC b2) false).1 pid [] b1 b2 := by
  have e : (step c s (byteC b2) false).1 =
        { s with packetComplete := false, crcMismatch := false, pipeHi := b2, pipeLo := s.pipeHi,
                 lastByteCrc := output s.crc, lastWordCrc := s.lastByteCrc, fsm := .emit,
                 crc := update s.crc b2, counter := counterNext c s.counter false } ∧
      stepEvents c s (byteC b2) = [] := by
    simp [step, fsmStep, stepEvents, pending, byteC, hs.hfsm, DataCrc.next]
  rw [e.1, e.2]
  refine ⟨rfl, rfl, hs.hpid, hs.hhi, rfl, hs.hlbc, ?_, ?_⟩
  · show output s.crc = _
    rw [hs.hcrc, output_reg]; rfl
  · show update s.crc b2 = _
    rw [hs.hcrc, ← reg_snoc]; rfl

theorem emit_byte (c : Config) (s : State) (pid : Nat) (pre : List Nat) (lo hi b : Nat)
    (hs : EmitInv s pid pre lo hi) :
    stepEvents c s (byteC b) = [.byte lo] ∧ EmitInv (step c s (byteC b) false).1 pid (pre ++ [lo]) hi b := by
  have e : (step c s (byteC b) false).1 =
        { s with packetComplete := false, crcMismatch := false, pipeHi := b, pipeLo := s.pipeHi,
                 lastByteCrc := output s.crc, lastWordCrc := s.lastByteCrc, crc := update s.crc b,
                 counter := counterNext c s.counter false } ∧
      stepEvents c s (byteC b) = [.byte s.pipeLo] := by
    simp [step, fsmStep, stepEvents, pending, byteC, hs.hfsm, DataCrc.next]
  rw [e.1, e.2, hs.hlo]
  refine ⟨rfl, hs.hfsm, hs.hpid, hs.hhi, rfl, hs.hlbc, ?_, ?_⟩
  · show output s.crc = _
    rw [hs.hcrc, output_reg]; simp
  · show update s.crc b = _
    rw [hs.hcrc, ← reg_snoc]; simp

theorem delay_phase (c : Config) (hc : c.delay ≤ c.counterMax + 1) (gs : List Nat) (s : State) (k : Nat)
    (hs : s.fsm = .delay) (hk : s.counter = k) (hkd : k ≤ c.delay) (hg : c.delay - k + 1 ≤ gs.length) :
    trace c s (gs.map idleC) = [.ready] ∧ (final c s (gs.map idleC)).fsm = .idle := by
  induction gs generalizing s k with
  | nil => simp at hg
  | cons g gs ih =>
    subst hk
    by_cases hkeq : s.counter = c.delay
    · obtain ⟨h1, h2⟩ : (step c s (idleC g) false).1.fsm = .idle ∧ stepEvents c s (idleC g) = [.ready] := by
        simp [step, fsmStep, stepEvents, pending, idleC, hs, hkeq]
      obtain ⟨h3, h4⟩ := idle_idles c gs _ h1
      simp [trace, final, h2, h3, h4]
    · have hlt : s.counter < c.counterMax + 1 := by omega
      obtain ⟨h1, h2, h5⟩ : (step c s (idleC g) false).1.fsm = .delay ∧ stepEvents c s (idleC g) = [] ∧
          (step c s (idleC g) false).1.counter = s.counter + 1 := by
        simp [step, fsmStep, stepEvents, pending, idleC, hs, hkeq, counterNext, hlt]
      have hg' : c.delay - (s.counter + 1) + 1 ≤ gs.length := by simp at hg; omega
      obtain ⟨h3, h4⟩ := ih _ (s.counter + 1) h1 h5 (by omega) hg'
      simp [trace, final, h2, h3, h4]

theorem emit_end (c : Config) (hc : c.delay ≤ c.counterMax + 1) (s : State) (pid : Nat) (pre : List Nat)
    (lo hi g : Nat) (gs : List Nat) (hs : EmitInv s pid pre lo hi)
    (hg : Event.ready ∈ endEvents pid pre lo hi → c.delay + 1 ≤ gs.length) :
    trace c s ((g :: gs).map idleC) = endEvents pid pre lo hi ∧
      (final c s ((g :: gs).map idleC)).fsm = .idle := by
  by_cases hm : usb2Crc16 pre = lo + 256 * hi
  · have hm' : s.lastWordCrc = s.pipeLo + 256 * s.pipeHi := by rw [hs.hlwc, hs.hlo, hs.hhi]; exact hm
    obtain ⟨h1, h2, h5⟩ : (step c s (idleC g) false).1.fsm = .delay ∧
        stepEvents c s (idleC g) = [.complete (pid % 16)] ∧ (step c s (idleC g) false).1.counter = 0 := by
      simp [step, fsmStep, stepEvents, pending, idleC, hs.hfsm, hm', hs.hpid, counterNext]
    have hg' : c.delay + 1 ≤ gs.length := hg (by simp [endEvents, hm])
    obtain ⟨h3, h4⟩ := delay_phase c hc gs _ 0 h1 h5 (by omega) (by omega)
    simp [trace, final, h2, h3, h4, endEvents, hm]
  · have hm' : ¬ s.lastWordCrc = s.pipeLo + 256 * s.pipeHi := by rw [hs.hlwc, hs.hlo, hs.hhi]; exact hm
    obtain ⟨h1, h2⟩ : (step c s (idleC g) false).1.fsm = .idle ∧ stepEvents c s (idleC g) = [.mismatch] := by
      simp [step, fsmStep, stepEvents, pending, idleC, hs.hfsm, hm']
    obtain ⟨h3, h4⟩ := idle_idles c gs _ h1
    simp [trace, final, h2, h3, h4, endEvents, hm]

/-! ## Inside a packet, byte by byte -/

/-- The receiver inside a packet: the bytes `bs` have arrived, the payload bytes `ev` have been streamed. -/
inductive Mid (s : State) : List Nat → List Event → Prop
  | pid : s.fsm = .readPid → Mid s [] []
  | other {pid : Nat} {rest : List Nat} : isDataPid pid = false → s.fsm = .irrelevant → Mid s (pid :: rest) []
  | first {pid : Nat} : isDataPid pid = true → FirstInv s pid → Mid s [pid] []
  | second {pid b1 : Nat} : isDataPid pid = true → SecondInv s pid b1 → Mid s [pid, b1] []
  | emit {pid lo hi : Nat} {pre : List Nat} : isDataPid pid = true → EmitInv s pid pre lo hi →
      Mid s (pid :: (pre ++ [lo, hi])) (pre.map .byte)

theorem mid_wait (c : Config) (s : State) (bs : List Nat) (ev : List Event) (d : Nat) (h : Mid s bs ev) :
    Mid (step c s (waitC d) false).1 bs ev ∧ stepEvents c s (waitC d) = [] := by
  have other : ∀ f, f = Fsm.readPid ∨ f = Fsm.irrelevant → s.fsm = f →
      (step c s (waitC d) false).1.fsm = f ∧ stepEvents c s (waitC d) = [] := by
    rintro f (rfl | rfl) h <;> simp [step, fsmStep, stepEvents, pending, waitC, h]
  -- READ_PID and IRRELEVANT: `Mid` holds the FSM state only (`other`); FIRST / SECOND / EMIT: a wait cycle touches only
  -- the two strobes and the timer, which no invariant mentions (`wait_step`)
  cases h with
  | pid h => exact ⟨.pid (other _ (.inl rfl) h).1, (other _ (.inl rfl) h).2⟩
  | other hp h => exact ⟨.other hp (other _ (.inr rfl) h).1, (other _ (.inr rfl) h).2⟩
  | first hp h =>
    obtain ⟨e1, e2⟩ := wait_step c s d (.inl h.hfsm)
    exact ⟨.first hp (e1 ▸ ⟨h.hfsm, h.hpid, h.hcrc⟩), e2⟩
  | second hp h =>
    obtain ⟨e1, e2⟩ := wait_step c s d (.inr (.inl h.hfsm))
    exact ⟨.second hp (e1 ▸ ⟨h.hfsm, h.hpid, h.hhi, h.hlbc, h.hcrc⟩), e2⟩
  | emit hp h =>
    obtain ⟨e1, e2⟩ := wait_step c s d (.inr (.inr h.hfsm))
    exact ⟨.emit hp (e1 ▸ ⟨h.hfsm, h.hpid, h.hlo, h.hhi, h.hlwc, h.hlbc, h.hcrc⟩), e2⟩

theorem lead_in (c : Config) (d : Nat) (ds : List Nat) (s : State) (hs : s.fsm = .idle) :
    trace c s ((d :: ds).map waitC) = [] ∧ Mid (final c s ((d :: ds).map waitC)) [] [] := by
  obtain ⟨h1, h2⟩ : (step c s (waitC d) false).1.fsm = .readPid ∧ stepEvents c s (waitC d) = [] := by
    simp [step, fsmStep, stepEvents, pending, waitC, hs]
  obtain ⟨h3, h4⟩ := stutter c (Mid · [] []) (∃ d, · = waitC d) (fun s' _ ⟨d, e⟩ h' => e ▸ mid_wait c s' _ _ d h')
    (ds.map waitC) _ (mem_waits ds) (.pid h1)
  exact ⟨by rw [List.map_cons, trace, h2, h3]; rfl, h4⟩

theorem mid_byte (c : Config) (s : State) (bs : List Nat) (ev : List Event) (b : Nat) (h : Mid s bs ev) :
    Mid (step c s (byteC b) false).1 (bs ++ [b]) (ev ++ stepEvents c s (byteC b)) := by
  cases h with
  | pid h =>
    cases hp : isDataPid b
    · rw [(pid_byte_other c s b h hp).1]; exact .other hp (pid_byte_other c s b h hp).2
    · rw [(pid_byte_data c s b h hp).1]; exact .first hp (pid_byte_data c s b h hp).2
  | other hp h =>
    have : (step c s (byteC b) false).1.fsm = .irrelevant ∧ stepEvents c s (byteC b) = [] := by
      simp [step, fsmStep, stepEvents, pending, byteC, h]
    rw [this.2]; exact .other hp this.1
  | first hp h => rw [(first_byte c s _ b h).1]; exact .second hp (first_byte c s _ b h).2
  | second hp h => rw [(second_byte c s _ _ b h).1]; exact .emit (pre := []) hp (second_byte c s _ _ b h).2
  | emit hp h =>
    rw [(emit_byte c s _ _ _ _ b h).1]
    simpa using Mid.emit hp (emit_byte c s _ _ _ _ b h).2

theorem mid_slots (c : Config) (sl : List (Nat × List Nat)) (s : State) (bs : List Nat) (ev : List Event)
    (h : Mid s bs ev) :
    Mid (final c s (renderSlots sl)) (bs ++ sl.map (·.1)) (ev ++ trace c s (renderSlots sl)) := by
  induction sl generalizing s bs ev with
  | nil => simpa [renderSlots, final, trace] using h
  | cons x rest ih =>
    obtain ⟨b, ws⟩ := x
    obtain ⟨e2, h2⟩ := stutter c (Mid · (bs ++ [b]) (ev ++ stepEvents c s (byteC b))) (∃ d, · = waitC d)
      (fun s' _ ⟨d, e⟩ h' => e ▸ mid_wait c s' _ _ d h') (ws.map waitC) _ (mem_waits ws) (mid_byte c s bs ev b h)
    simpa [renderSlots, final, final_append, trace, trace_append, e2] using ih _ _ _ h2

theorem mid_end (c : Config) (hc : c.delay ≤ c.counterMax + 1) (s : State) (bs : List Nat) (ev : List Event)
    (g : Nat) (gs : List Nat) (h : Mid s bs ev) (hg : Event.ready ∈ rxOutcome bs → c.delay + 1 ≤ gs.length) :
    ev ++ trace c s ((g :: gs).map idleC) = rxOutcome bs ∧ (final c s ((g :: gs).map idleC)).fsm = .idle := by
  have silent : ∀ {bs}, rxOutcome bs = [] → s.fsm = .readPid ∨ s.fsm = .first ∨ s.fsm = .second ∨ s.fsm = .irrelevant →
      [] ++ trace c s ((g :: gs).map idleC) = rxOutcome bs ∧ (final c s ((g :: gs).map idleC)).fsm = .idle :=
    fun e hf => by rw [e]; exact silent_end c g gs s hf
  cases h with
  | pid h => exact silent rfl (.inl h)
  | other hp h => exact silent (rxOutcome_nondata _ _ hp) (.inr (.inr (.inr h)))
  | first hp h => exact silent (rxOutcome_short _ [] (by simp)) (.inr (.inl h.hfsm))
  | second hp h => exact silent (rxOutcome_short _ [_] (by simp)) (.inr (.inr (.inl h.hfsm)))
  | emit hp h =>
    rw [rxOutcome_data _ _ _ _ hp] at hg ⊢
    obtain ⟨t, f⟩ := emit_end c hc s _ _ _ _ g gs h fun hr => hg (List.mem_append_right _ hr)
    exact ⟨by rw [t], f⟩

/-! ## One packet, from any packet boundary -/

/-- **One packet.**  From a packet boundary (receiver FSM in IDLE, everything else arbitrary: stale
pipeline, stale CRC snapshots, any CRC register, any timer count, strobes of the previous packet
still latched) a well-formed packet followed by the idle gap `gapOk` asks for (delay + 2 cycles if it completes;
`hc`: the timer can reach the delay) causes exactly the events of the specification, and the receiver is at a
packet boundary again afterwards. -/
theorem packet_exact (c : Config) (hc : c.delay ≤ c.counterMax + 1) (p : RxPacket) (s : State)
    (hs : s.fsm = .idle) (hw : p.wf) (hg : gapOk c p) :
    trace c s (render p) = rxOutcome p.bytes ∧ (final c s (render p)).fsm = .idle := by
  obtain ⟨lead, slots, gap⟩ := p
  obtain ⟨d, ds, g, gs, rfl, rfl⟩ := hw.cons
  obtain ⟨t1, m1⟩ := lead_in c d ds s hs
  obtain ⟨t3, m3⟩ := mid_end c hc _ _ _ g gs (mid_slots c slots _ _ _ m1) fun h => by
    have := hg h; simp at this; omega
  rw [render, trace_append, trace_append, final_append, final_append, t1]
  exact ⟨t3, m3⟩

/-- **C02, main theorem**: for every sequence of well-formed packets, each followed by the idle gap `gapOk` asks for
(the receiver does not look at the bus while it waits in INTERPACKET_DELAY) and otherwise with any timing, the events
caused are exactly the concatenated per-packet specifications — nothing leaks from one packet into the next. -/
theorem trace_exact (c : Config) (hc : c.delay ≤ c.counterMax + 1) (ps : List RxPacket) (s : State)
    (hs : s.fsm = .idle) (hw : ∀ p ∈ ps, p.wf) (hg : ∀ p ∈ ps, gapOk c p) :
    trace c s (renderAll ps) = ps.flatMap (fun p => rxOutcome p.bytes) ∧
      (final c s (renderAll ps)).fsm = .idle := by
  induction ps generalizing s with
  | nil => exact ⟨rfl, hs⟩
  | cons p ps ih =>
    obtain ⟨h1, h2⟩ := packet_exact c hc p s hs (hw p (by simp)) (hg p (by simp))
    obtain ⟨h3, h4⟩ := ih _ h2 (fun q hq => hw q (by simp [hq])) (fun q hq => hg q (by simp [hq]))
    simp only [renderAll, List.flatMap_cons] at h3 h4 ⊢
    rw [trace_append, final_append, h1, h3, h4]; simp

/-- **C02 on the ports**, from reset: everything observed on `stream`, `packet_complete`,
`crc_mismatch`, `ready_for_response` during the history (plus the strobe still latched when the
history stops right after a packet end: it is on the port in the next cycle whatever happens) is
the concatenation of the per-packet specifications, in order. -/
theorem receiver_events_exact (c : Config) (hc : c.delay ≤ c.counterMax + 1) (ps : List RxPacket)
    (hw : ∀ p ∈ ps, p.wf) (hg : ∀ p ∈ ps, gapOk c p) :
    observed c init (renderAll ps) ++ pending (final c init (renderAll ps))
      = ps.flatMap (fun p => rxOutcome p.bytes) := by
  rw [observed_trace, (trace_exact c hc ps init rfl hw hg).1]; simp [pending, init]

/-- The same, with the packets read off the RAW cycle history by the packet tracker of
`Core/UtmiTrack.lean` (`packetsOf`: maximal `rx_active` runs and their `rx_valid` bytes): what the
receiver does is a function of the packets on the wire alone. -/
theorem receiver_events_of_raw_history (c : Config) (hc : c.delay ≤ c.counterMax + 1) (ps : List RxPacket)
    (hw : ∀ p ∈ ps, p.wf) (hg : ∀ p ∈ ps, gapOk c p) :
    observed c init (renderAll ps) ++ pending (final c init (renderAll ps))
      = (packetsOf none (renderAll ps)).flatMap rxOutcome := by
  rw [receiver_events_exact c hc ps hw hg, (packetsOf_renderAll ps hw).1, List.flatMap_map]

/-- No state leaks: at every packet boundary of a legal history the receiver FSM is in IDLE (and
`packet_exact` holds from every such state, whatever the other registers contain). -/
theorem boundary_state_is_idle (c : Config) (hc : c.delay ≤ c.counterMax + 1) (ps : List RxPacket)
    (hw : ∀ p ∈ ps, p.wf) (hg : ∀ p ∈ ps, gapOk c p) :
    (final c init (renderAll ps)).fsm = .idle :=
  (trace_exact c hc ps init rfl hw hg).2

/-! ## The specification, read out (these say what `rxOutcome` means; with `packet_exact` they are
statements about the receiver for a packet anywhere in a legal history) -/

theorem rxOutcome_cases (bytes : List Nat) :
    rxOutcome bytes = [] ∨ ∃ pid payload lo hi, bytes = pid :: (payload ++ [lo, hi]) ∧ isDataPid pid = true ∧
      rxOutcome bytes = payload.map .byte ++ endEvents pid payload lo hi := by
  match bytes with
  | [] => left; rfl
  | pid :: rest =>
    cases hp : isDataPid pid with
    | false => left; exact rxOutcome_nondata pid rest hp
    | true =>
      cases hr : rest.reverse with
      | nil => left; simp [rxOutcome, hr]
      | cons hi t =>
        cases t with
        | nil => left; simp [rxOutcome, hr]
        | cons lo rp =>
          right
          have : rest = rp.reverse ++ [lo, hi] := by
            have := congrArg List.reverse hr; simpa using this
          exact ⟨pid, rp.reverse, lo, hi, by rw [this], hp, by rw [this]; exact rxOutcome_data pid _ lo hi hp⟩

def streamed : List Event → List Nat
  | [] => []
  | .byte b :: es => b :: streamed es
  | _ :: es => streamed es

theorem streamed_bytes (l : List Nat) (es : List Event) : streamed (l.map .byte ++ es) = l ++ streamed es := by
  induction l with
  | nil => rfl
  | cons b l ih => simp [streamed, ih]

theorem streamed_end (pid : Nat) (pre : List Nat) (lo hi : Nat) : streamed (endEvents pid pre lo hi) = [] := by
  unfold endEvents; split <;> simp [streamed]

section OnePacket
variable (c : Config) (hc : c.delay ≤ c.counterMax + 1) (p : RxPacket) (s : State) (hs : s.fsm = .idle)
  (hw : p.wf) (hg : gapOk c p)
include hc hs hw hg

/-- the receiver streams exactly the bytes between the PID and the two trailing CRC bytes, in order, once -/
theorem receiver_streams_payload (pid : Nat) (payload : List Nat) (lo hi : Nat)
    (hb : p.bytes = pid :: (payload ++ [lo, hi])) (hp : isDataPid pid = true) :
    streamed (trace c s (render p)) = payload := by
  rw [(packet_exact c hc p s hs hw hg).1, hb, rxOutcome_data _ _ _ _ hp, streamed_bytes, streamed_end]; simp

/-- … and nothing for a non-data PID or fewer than two bytes after the PID. -/
theorem receiver_streams_nothing (h : (∃ pid rest, p.bytes = pid :: rest ∧ (isDataPid pid = false ∨ rest.length < 2))
    ∨ p.bytes = []) : trace c s (render p) = [] := by
  rw [(packet_exact c hc p s hs hw hg).1]
  rcases h with ⟨pid, rest, hb, h | h⟩ | h
  · rw [hb]; exact rxOutcome_nondata pid rest h
  · rw [hb]; exact rxOutcome_short pid rest h
  · rw [h]; rfl

theorem complete_iff_crc_valid :
    (∃ k, Event.complete k ∈ trace c s (render p)) ↔
      ∃ pid payload lo hi, p.bytes = pid :: (payload ++ [lo, hi]) ∧ isDataPid pid = true ∧
        usb2Crc16 payload = lo + 256 * hi := by
  rw [(packet_exact c hc p s hs hw hg).1]
  constructor
  · rintro ⟨k, hk⟩
    rcases rxOutcome_cases p.bytes with h | ⟨pid, payload, lo, hi, hb, hp, h⟩
    · simp [h] at hk
    · refine ⟨pid, payload, lo, hi, hb, hp, ?_⟩
      rw [h] at hk
      by_cases hm : usb2Crc16 payload = lo + 256 * hi
      · exact hm
      · simp [endEvents, hm] at hk
  · rintro ⟨pid, payload, lo, hi, hb, hp, hm⟩
    exact ⟨pid % 16, by rw [hb, rxOutcome_data _ _ _ _ hp]; simp [endEvents, hm]⟩

theorem mismatch_iff_crc_invalid_and_len_ge_2 :
    Event.mismatch ∈ trace c s (render p) ↔
      ∃ pid payload lo hi, p.bytes = pid :: (payload ++ [lo, hi]) ∧ isDataPid pid = true ∧
        usb2Crc16 payload ≠ lo + 256 * hi := by
  rw [(packet_exact c hc p s hs hw hg).1]
  constructor
  · intro hk
    rcases rxOutcome_cases p.bytes with h | ⟨pid, payload, lo, hi, hb, hp, h⟩
    · simp [h] at hk
    · refine ⟨pid, payload, lo, hi, hb, hp, ?_⟩
      rw [h] at hk
      intro hm
      simp [endEvents, hm] at hk
  · rintro ⟨pid, payload, lo, hi, hb, hp, hm⟩
    rw [hb, rxOutcome_data _ _ _ _ hp]; simp [endEvents, hm]

theorem never_both : ¬ (Event.mismatch ∈ trace c s (render p) ∧ ∃ k, Event.complete k ∈ trace c s (render p)) := by
  rw [(packet_exact c hc p s hs hw hg).1]
  rintro ⟨h1, k, h2⟩
  rcases rxOutcome_cases p.bytes with h | ⟨pid, payload, lo, hi, _, _, h⟩
  · simp [h] at h1
  · rw [h] at h1 h2
    by_cases hm : usb2Crc16 payload = lo + 256 * hi <;> simp [endEvents, hm] at h1 h2

/-- `ready_for_response` only ever follows a completed packet — and it is the last thing the packet
causes, directly after `packet_complete`; a completed packet gets exactly this one. -/
theorem ready_for_response_only_after_complete :
    (Event.ready ∈ trace c s (render p) ↔ ∃ k, Event.complete k ∈ trace c s (render p)) ∧
    (Event.ready ∈ trace c s (render p) →
      ∃ (k : Nat) (payload : List Nat), trace c s (render p) = payload.map .byte ++ [.complete k, .ready]) := by
  rw [(packet_exact c hc p s hs hw hg).1]
  rcases rxOutcome_cases p.bytes with h | ⟨pid, payload, lo, hi, _, _, h⟩
  · simp [h]
  · rw [h]
    by_cases hm : usb2Crc16 payload = lo + 256 * hi
    · simp only [endEvents, hm, if_true]
      exact ⟨by simp, fun _ => ⟨pid % 16, payload, rfl⟩⟩
    · simp [endEvents, hm]

/-- the reported `packet_id` is the PID nibble of the packet -/
theorem pid_reported (k : Nat) (h : Event.complete k ∈ trace c s (render p)) :
    ∃ pid rest, p.bytes = pid :: rest ∧ k = pid % 16 := by
  rw [(packet_exact c hc p s hs hw hg).1] at h
  rcases rxOutcome_cases p.bytes with h0 | ⟨pid, payload, lo, hi, hb, _, h0⟩
  · simp [h0] at h
  · refine ⟨pid, _, hb, ?_⟩
    rw [h0] at h
    by_cases hm : usb2Crc16 payload = lo + 256 * hi <;> simp [endEvents, hm] at h
    exact h

end OnePacket

/-! ## Non-vacuity: concrete histories satisfying the hypotheses, evaluated on the model -/

/-- HS timing (delay 1) -/
def demoCfg : Config := ⟨1, 640⟩
/-- DATA0 [0x12, 0x34] with its correct CRC16 (computed by the oracle) and the least gap `gapOk` allows (3 idle cycles) -/
def demoGood : RxPacket :=
  ⟨[0], [(0xC3, []), (0x12, [7]), (0x34, []), (usb2Crc16 [0x12, 0x34] % 256, [9, 9]),
          (usb2Crc16 [0x12, 0x34] / 256, [])], [0, 0, 0]⟩
/-- a corrupted DATA1, one idle cycle after it -/
def demoBad : RxPacket := ⟨[5, 5], [(0x4B, []), (1, []), (2, []), (3, [])], [0]⟩
/-- a PID-only DATA0 packet -/
def demoShort : RxPacket := ⟨[0], [(0xC3, [])], [0]⟩

example : demoGood.wf ∧ demoBad.wf ∧ demoShort.wf := by decide
example : gapOk demoCfg demoGood ∧ gapOk demoCfg demoBad ∧ gapOk demoCfg demoShort :=
  ⟨fun _ => by decide, fun h => absurd h (by decide +kernel), fun h => absurd h (by decide +kernel)⟩
example : observed demoCfg init (renderAll [demoGood, demoBad, demoShort]) ++
      pending (final demoCfg init (renderAll [demoGood, demoBad, demoShort]))
    = [.byte 0x12, .byte 0x34, .complete 3, .ready, .byte 1, .mismatch] := by decide +kernel

end LunaVerif.DataReceiver
