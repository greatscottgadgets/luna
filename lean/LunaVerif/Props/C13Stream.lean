import LunaVerif.Props.C13
import LunaVerif.Lemmas.C13Fin
/-!
# C13 — the consumer's stream along `LegalHost` histories

`Sim c p s w del` ties the endpoint in acceptor phase `p` to the write-side machine `w` of Lemmas/C13Write.lean and to
what the consumer already has, `del`.  One accepted cycle keeps it (`sim_step`; the FIFO side is `qstep_eq` +
`transfer_now`), so along an accepted history the accepted entries are what the host-side observer expects (`sim_run`):
`out_stream_exact` and its two readings, and where the `first` / `last` marks of an accepted packet fall.
-/
namespace LunaVerif.StreamOutEndpoint
open LunaVerif

def runState (c : Config) : State → List In → State
  | s, [] => s
  | s, i :: is => runState c (step c s i).1 is

theorem runState_append (c : Config) (s : State) (xs ys : List In) :
    runState c s (xs ++ ys) = runState c (runState c s xs) ys := by
  induction xs generalizing s with
  | nil => rfl
  | cons x xs ih => simp [runState, ih]

theorem runOuts_append (c : Config) (s : State) (xs ys : List In) :
    runOuts c s (xs ++ ys) = runOuts c s xs ++ runOuts c (runState c s xs) ys := by
  induction xs generalizing s with
  | nil => rfl
  | cons x xs ih => simp [runOuts, runState, ih]

theorem transfers_nil : transfers [] [] = [] := rfl

theorem transfers_cons (i : In) (o : Out) (is : List In) (os : List Out) :
    transfers (i :: is) (o :: os)
      = (if i.ready && o.valid then [(o.data, o.first, o.last)] else []) ++ transfers is os := by
  simp only [transfers, List.zip_cons_cons, List.filterMap_cons]
  split <;> simp_all

theorem view_not_both {p : Phase} {o : BoundaryDetector.Out} (h : View p o) :
    ¬(o.completeOut = true ∧ o.invalidOut = true) := by
  cases p <;> simp only [View] at h
  case finStrobe t pid bytes ok r => obtain ⟨_, h1, h2⟩ := h; rw [h1, h2]; cases ok <;> simp
  all_goals (obtain ⟨h1, h2, _⟩ := h; simp_all)

/-- one cycle of C18's queue as the endpoint drives it: `read_commit = 1`, `read_discard = 0`, and `write_en`
already gated with `~full` -/
theorem qstep_eq (q : TxnFifo.Queue Nat) (d : Nat) (w : Nat × Bool × Bool × Bool) (ren : Bool) (com : List Nat)
    (h : (w.2.1 && !(q.held == d)) = w.2.1) :
    (q.step d ⟨w.1, w.2.1, w.2.2.1, w.2.2.2, ren, true, false⟩).W = (wNext q.W com w).1 ∧
    ∃ Cadd, q.taken ren ++ (q.step d ⟨w.1, w.2.1, w.2.2.1, w.2.2.2, ren, true, false⟩).C = q.C ++ Cadd ∧
      (wNext q.W com w).2 = com ++ Cadd := by
  obtain ⟨wd, wen, wc, wdis⟩ := w
  simp only at h
  refine ⟨?_, _, TxnFifo.Queue.taken_append_step_C d q ⟨wd, wen, wc, wdis, ren, true, false⟩ rfl, ?_⟩
  · rw [TxnFifo.Queue.step_W]
    simp only [TxnFifo.Queue.pushed, h, wNext]
    cases wdis <;> cases wc <;> rfl
  · cases wdis <;> cases wc <;> simp [wNext, TxnFifo.Queue.commits]

theorem transfer_now {c : Config} {s : State} {q : TxnFifo.Queue Nat} (i : In) (hrel : TxnFifo.Rel c.depth s.fifo q) :
    transfers [i] [(step c s i).2] = (q.taken i.ready).map dec := by
  show transfers [i] [outOf c s i] = _
  rw [← TxnFifo.rel_taken hrel, transfers_cons]
  show (if i.ready && !TxnFifo.empty s.fifo then [dec s.fifo.rdata] else []) ++ [] = _
  cases (i.ready && !TxnFifo.empty s.fifo) <;> rfl

/-- the concrete endpoint against the write-side machine: detector by `DetRel`, registers equal, the FIFO
represents (C18's `Rel`) a queue whose uncommitted part is `W` and whose committed unread part, after the
transfers already handed to the consumer, is everything committed so far -/
structure Sim (c : Config) (p : Phase) (s : State) (w : WState) (del : List Entry) : Prop where
  det  : DetRel p s.det
  regs : s.regs = w.r
  fifo : ∃ q, TxnFifo.Rel c.depth s.fifo q ∧ q.W = w.W ∧ del ++ q.C.map dec = w.com.map dec
  inv  : w.Inv c p

theorem Sim.toggle {c : Config} {p : Phase} {s : State} {w : WState} {del : List Entry} (h : Sim c p s w del) :
    s.expectedToggle = w.a.toggle :=
  (congrArg Regs.expectedToggle h.regs).trans h.inv.1

theorem Sim.quiet {c : Config} {p : Phase} {s : State} {w : WState} {del : List Entry} (h : Sim c p s w del)
    (hq : p.quiet = true) : w.W = [] ∧ w.com.map dec = w.acc := by
  have hi := h.inv
  cases p with
  | idle => exact ⟨hi.2.1, hi.2.2.2.2⟩
  | tok t => exact ⟨hi.2.1, hi.2.2.2.2.1⟩
  | _ => cases hq

theorem Sim.tok_overflow {c : Config} {t : Tok} {s : State} {w : WState} {del : List Entry}
    (h : Sim c (.tok t) s w del) : s.overflow = false :=
  (congrArg Regs.overflow h.regs).trans h.inv.2.2.2.2.2.1

theorem Sim.wf {c : Config} {p : Phase} {s : State} {w : WState} {del : List Entry} {t : Tok} (h : Sim c p s w del)
    (ht : p.token = some t) : t.wf = true := by
  have hi := h.inv
  cases p <;> simp only [Phase.token, Option.some.injEq, reduceCtorEq] at ht <;> subst ht
  · exact hi.2.2.2.2.2.2.2
  · exact hi.2.1
  · exact hi.2.1.1
  · exact hi.2.1
  · exact hi.2.1

/-- a transaction that has only seen its token can be forgotten: the invariants' clauses for `.idle` are those for `.tok t`
without `overflow = false`, `packet_has_data = false` and `t.wf` -/
theorem Sim.forget {c : Config} {t : Tok} {s : State} {w : WState} {del : List Entry} (h : Sim c (.tok t) s w del) :
    Sim c .idle s w del :=
  ⟨h.det, h.regs, h.fifo, h.inv.1, h.inv.2.1, h.inv.2.2.1, h.inv.2.2.2.1, h.inv.2.2.2.2.1⟩

theorem sim_step {c : Config} {p p' : Phase} {s : State} {w : WState} {del : List Entry} {i : In}
    (hmps : 1 ≤ c.mps) (h : Sim c p s w del) (hs : p.step c i = some p') :
    Sim c p' (step c s i).1
      (w.next c p s.det.out (TxnFifo.full c.depth s.fifo) (TxnFifo.space c.depth s.fifo) i)
      (del ++ transfers [i] [(step c s i).2]) := by
  obtain ⟨hdet, hregs, ⟨q, hrel, hW, hdel⟩, hinv⟩ := h
  have hview := hdet.view
  refine ⟨detRel_step hdet hs, ?_, ?_, winv_step hmps hinv hview hs⟩
  · rw [step_regs, hregs]; rfl
  · have hlegal := fifo_inputs_legal c s i (view_not_both hview)
    have hfull := TxnFifo.rel_full hrel
    have hwen : ((wctl c s.det.out (TxnFifo.full c.depth s.fifo) (TxnFifo.space c.depth s.fifo) w.r i).2.1
        && !(q.held == c.depth)) = (wctl c s.det.out (TxnFifo.full c.depth s.fifo) (TxnFifo.space c.depth s.fifo) w.r i).2.1 := by
      simp only [wctl, combG, hfull]
      cases (q.held == c.depth) <;> simp
    obtain ⟨h1, Cadd, h2, h3⟩ := qstep_eq q c.depth _ i.ready w.com hwen
    refine ⟨q.step c.depth (fifoIn c s i), TxnFifo.rel_step hrel hlegal, ?_⟩
    rw [fifoIn_eq, hregs]
    refine ⟨by rw [h1, hW]; rfl, ?_⟩
    rw [transfer_now i hrel]
    simp only [WState.next]
    rw [← hW, h3, List.map_append, ← hdel, List.append_assoc, List.append_assoc, ← List.map_append, ← List.map_append, h2]

theorem sim_init (c : Config) : Sim c .idle init ⟨Acct.init, Regs.init, [], [], []⟩ [] :=
  ⟨detRel_init, rfl, ⟨TxnFifo.Queue.nil, TxnFifo.rel_init c.depth 0, rfl, rfl⟩, winv_init c⟩

/-- the observer's bookkeeping after a history -/
def acctRun (c : Config) : Acct → Phase → List In → List Out → Acct
  | a, p, i :: is, o :: os =>
    match p.step c i with
    | some p' => acctRun c (a.step c p i o.ack).1 p' is os
    | none => a
  | a, _, _, _ => a

theorem sim_run {c : Config} (hmps : 1 ≤ c.mps) (ins : List In) :
    ∀ {p : Phase} {s : State} {w : WState} {del : List Entry} {pf : Phase}, Sim c p s w del →
      Phase.run c p ins = some pf →
      ∃ w', Sim c pf (runState c s ins) w' (del ++ transfers ins (runOuts c s ins)) ∧
        w'.acc = w.acc ++ expected c w.a p ins (runOuts c s ins) ∧
        w'.a = acctRun c w.a p ins (runOuts c s ins) := by
  induction ins with
  | nil =>
    intro p s w del pf h hr
    simp only [Phase.run, Option.some.injEq] at hr
    subst hr
    exact ⟨w, by simpa [runState, runOuts, transfers_nil] using h, by simp [expected], by simp [acctRun]⟩
  | cons i is ih =>
    intro p s w del pf h hr
    obtain ⟨p', hs, hr⟩ := Phase.run_cons hr
    have h1 := sim_step hmps h hs
    obtain ⟨w', hsim, hacc, hacct⟩ := ih h1 hr
    have hack : (hsG c s.det.out (TxnFifo.full c.depth s.fifo) (TxnFifo.space c.depth s.fifo) w.r i).1
        = (step c s i).2.ack := by
      rw [← h.regs, ← hs_eq]; rfl
    refine ⟨w', ?_, ?_, ?_⟩
    · have : transfers (i :: is) (runOuts c s (i :: is))
          = transfers [i] [(step c s i).2] ++ transfers is (runOuts c (step c s i).1 is) := by
        simp only [runOuts, transfers_cons, transfers_nil, List.append_nil]
      rw [this, ← List.append_assoc]
      exact hsim
    · rw [hacc]
      simp only [WState.next, runOuts, expected, hs, hack, List.append_assoc]
    · rw [hacct]
      simp only [WState.next, runOuts, acctRun, hs, hack]

/-- **out_stream_exact**.  For every endpoint number, `max_packet_size ≥ 1`, buffer size, and every
`LegalHost` history (OUT / PING / foreign transactions, CRC-corrupted packets, repeated or wrong data
toggles, any response delay ≥ 1, any consumer `ready` pattern): the transfers handed to the consumer,
followed by the committed entries still waiting in the FIFO (the `C` part of the commit/rollback queue the
FIFO state represents, C18), are exactly the payloads — with their `first`/`last` marks — of the packets
that were ACKed with the expected data toggle, in order, each once.  Corrupted, NAKed, overflowed,
wrong-toggle and foreign packets contribute nothing. -/
theorem out_stream_exact (c : Config) (hmps : 1 ≤ c.mps) (ins : List In) (hl : LegalHost c ins = true) :
    ∃ q : TxnFifo.Queue Nat, TxnFifo.Rel c.depth (runState c init ins).fifo q ∧
      transfers ins (runOuts c init ins) ++ q.C.map dec
        = expected c Acct.init .idle ins (runOuts c init ins) := by
  simp only [LegalHost] at hl
  cases hr : Phase.run c .idle ins with
  | none => simp [hr] at hl
  | some pf =>
    simp only [hr] at hl
    obtain ⟨w', hsim, hacc, _⟩ := sim_run hmps ins (sim_init c) hr
    obtain ⟨q, hrel, _, hdel⟩ := hsim.fifo
    refine ⟨q, hrel, ?_⟩
    simp only [List.nil_append] at hdel hacc
    have hcom := (hsim.quiet hl).2
    rw [hdel, hcom, hacc]

/-- The consumer never sees anything but a prefix of the accepted payloads (safety, at the end of every
complete transaction). -/
theorem out_stream_prefix (c : Config) (hmps : 1 ≤ c.mps) (ins : List In) (hl : LegalHost c ins = true) :
    transfers ins (runOuts c init ins) <+: expected c Acct.init .idle ins (runOuts c init ins) := by
  obtain ⟨q, _, h⟩ := out_stream_exact c hmps ins hl
  exact ⟨_, h⟩

/-- Once the consumer has drained the FIFO (`stream.valid` low after the history) it has received exactly
the accepted payloads. -/
theorem out_stream_complete_when_drained (c : Config) (hmps : 1 ≤ c.mps) (ins : List In)
    (hl : LegalHost c ins = true) (hd : TxnFifo.empty (runState c init ins).fifo = true) :
    transfers ins (runOuts c init ins) = expected c Acct.init .idle ins (runOuts c init ins) := by
  obtain ⟨q, hrel, h⟩ := out_stream_exact c hmps ins hl
  rw [TxnFifo.rel_empty hrel] at hd
  have : q.C = [] := by simpa using hd
  simpa [this] using h

theorem marks_length (f short : Bool) (bytes : List Nat) : (marks f short bytes).length = bytes.length := by
  induction bytes generalizing f with
  | nil => rfl
  | cons b bs ih => cases bs <;> simp_all [marks]

theorem marks_payloads (f short : Bool) (bytes : List Nat) :
    (marks f short bytes).map (·.1) = bytes.map (· % 256) := by
  induction bytes generalizing f with
  | nil => rfl
  | cons b bs ih => cases bs <;> simp_all [marks]

theorem marks_get (f short : Bool) (bytes : List Nat) (j : Nat) (h : j < (marks f short bytes).length) :
    (marks f short bytes)[j].2 = (f && j == 0, short && j + 1 == bytes.length) := by
  induction bytes generalizing f j with
  | nil => simp [marks] at h
  | cons b bs ih =>
    cases bs with
    | nil =>
      simp only [marks, List.length_singleton] at h
      have : j = 0 := by omega
      subst this; simp [marks]
    | cons b' bs =>
      cases j with
      | zero => simp [marks]
      | succ j =>
        have := ih false j (by simpa [marks] using h)
        simp only [marks, List.getElem_cons_succ] at this ⊢
        rw [this]; simp

/-- **last_iff_short_packet_end**: in the expected stream an entry is marked `last` iff it is the final
byte of its packet and the packet is shorter than `max_packet_size`. -/
theorem last_iff_short_packet_end (c : Config) (open_ : Bool) (bytes : List Nat) (j : Nat)
    (h : j < (pktEntries c open_ bytes).length) :
    (pktEntries c open_ bytes)[j].2.2 = true ↔ (j + 1 = bytes.length ∧ bytes.length < c.mps) := by
  simp only [pktEntries] at h ⊢
  rw [marks_get]
  simp [and_comm]

/-- **first_iff_transfer_start**: in the expected stream an entry is marked `first` iff it is byte 0 of its
packet and no transfer is open, i.e. the previously accepted packet (if any) was not a max-size one
(`Acct.step` sets `open_ := bytes.length == max_packet_size` on every newly accepted packet). -/
theorem first_iff_transfer_start (c : Config) (open_ : Bool) (bytes : List Nat) (j : Nat)
    (h : j < (pktEntries c open_ bytes).length) :
    (pktEntries c open_ bytes)[j].2.1 = true ↔ (j = 0 ∧ open_ = false) := by
  simp only [pktEntries] at h ⊢
  rw [marks_get]
  simp [and_comm]

/-! ### Non-vacuity -/

/-- The three regression histories of `Props/C13.lean` are `LegalHost` histories (max-size packet + ZLP +
short packet; a corrupted packet between two transfers; an overflowed packet NAKed after a 10-cycle
response delay and retried), and this is what the observer expects for them (the consumer's transfers for the same
histories are the three theorems at the end of `Props/C13.lean`: compare the literals). -/
example :
    let ins := outPacket 2 0 true [11, 12, 13, 14] 2 ++ outPacket 2 1 true [] 2 ++ outPacket 2 0 true [21, 22] 2
                 ++ List.replicate 6 (idleIn 2 1 true)
    LegalHost ⟨2, 4, 7⟩ ins = true ∧
    expected ⟨2, 4, 7⟩ Acct.init .idle ins (runOuts ⟨2, 4, 7⟩ init ins)
      = [(11, true, false), (12, false, false), (13, false, false), (14, false, false),
         (21, true, false), (22, false, true)] := by decide +kernel

example :
    let ins := outPacket 2 0 true [11] 2 ++ badPacket 2 1 true [66, 79] ++ outPacket 2 1 true [21] 2
                 ++ List.replicate 6 (idleIn 2 0 true)
    LegalHost ⟨2, 2, 3⟩ ins = true ∧
    expected ⟨2, 2, 3⟩ Acct.init .idle ins (runOuts ⟨2, 2, 3⟩ init ins) = [(11, true, true), (21, true, true)] := by
  decide +kernel

example :
    let ins := outPacket 2 0 false [11, 12, 13, 14] 10 ++ outPacket 2 1 false [21, 22, 23, 24] 10
                 ++ List.replicate 8 (idleIn 2 1 true) ++ outPacket 2 1 true [21, 22, 23, 24] 10
                 ++ List.replicate 8 (idleIn 2 0 true)
    LegalHost ⟨2, 4, 7⟩ ins = true ∧
    (expected ⟨2, 4, 7⟩ Acct.init .idle ins (runOuts ⟨2, 4, 7⟩ init ins)).map (·.1)
      = [11, 12, 13, 14, 21, 22, 23, 24] ∧
    TxnFifo.empty (runState ⟨2, 4, 7⟩ init ins).fifo = true := by decide +kernel

end LunaVerif.StreamOutEndpoint
