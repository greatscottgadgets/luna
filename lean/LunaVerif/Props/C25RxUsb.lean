import LunaVerif.Props.C25RxUsbDrift
import LunaVerif.Props.C25Rx
/-!
# C25 (receive direction, end to end) — bytes, framing and error as the 12 MHz side sees them

"… any correctly encoded full-speed packet on D+/D- is delivered as exactly its bytes with receive-active framing …"

The model is `FsRxCdc.step phase` (Model/Phy/FsRxCdc.lean): the whole 48 MHz receive chain `FsRx` **and** the two
Amaranth `AsyncFIFOBuffered` (binary/Gray pointers, 2-FF synchronizers, memory with synchronous read port, output
register, reset synchronizer) that carry bytes and packet flags into the 12 MHz `usb` domain, and `o_pkt_in_progress` --
the function the co-simulation compares with the `usb`-domain outputs of the real `RxPipeline`, usb_io cycle by usb_io
cycle, for all four phases of the `usb` clock.  `GatewarePHY` exports `rx_valid = o_data_strobe & o_pkt_in_progress`,
`rx_active = o_pkt_in_progress`, `rx_data = o_data_payload`, `rx_error = o_receive_error`.

`rx_delivers_to_usb`: for every phase `φ` of the `usb` clock and position `c0` of the stimulus against it, every non-empty
list of bytes < 256, the waveform `encode bytes` at nominal rate (four samples per bit) starting after any number `k` of
idle samples, from any idle state (`idleCdc`: receive chain idle with arbitrary bit-stuff counter and stale error latch,
both FIFOs empty and settled with arbitrary pointers and memory contents, `o_pkt_in_progress` low): what the 12 MHz side
sees at its clock edges (`evsU`) is exactly: `o_pkt_start`; then each byte once, in order, on `o_data_payload` with
`o_data_strobe` **while `o_pkt_in_progress` is high**; then `o_pkt_end`; and `o_receive_error` is never high at a `usb`
edge while `o_pkt_in_progress` is high (there is no `.err` event).  `4 (m + 6) + 3` idle cycles after the packet the
whole path is in an idle state again (so the theorem composes over any number of packets).

Nominal rate is four clean samples in every bit cell (`rx_drift_nominal`, `trackable_nominal`): an instance of
`rx_delivers_trackable` (`Props/C25RxUsbDrift.lean`).
-/
namespace LunaVerif.FsRxCdc
open LunaVerif.FsRx LunaVerif.FsCodec

/-- **end to end**: a correctly encoded packet is delivered to the 12 MHz side as exactly its bytes, inside the
start / end framing, without error (see the module comment). -/
theorem rx_delivers_to_usb (φ c0 : Nat) (hφ : φ < 4) (hc0 : c0 < 4)
    (bytes : List Nat) (hne : bytes ≠ []) (hb : ∀ b ∈ bytes, b < 256)
    (c : Nat) (e : Bool) (hc : c ≤ 6) (pp pf : Nat) (hpp : pp < 8) (hpf : pf < 8) (memp memf : List Nat)
    (hmp : memp.length = 4) (hmf : memf.length = 4) (k m : Nat) :
    evsU (runCdc φ (idleCdc c e pp memp pf memf c0) (rxInput k (encode bytes) (m + 4))).2 =
      [.start] ++ bytes.map EvU.byte ++ [.fin] ∧
    ∃ c' pp' memp' pf' memf' cyc', c' ≤ 6 ∧ pp' < 8 ∧ pf' < 8 ∧ memp'.length = 4 ∧ memf'.length = 4 ∧ cyc' < 4 ∧
      (runCdc φ (idleCdc c e pp memp pf memf c0) (rxInput k (encode bytes) (m + 4))).1 =
        idleCdc c' false pp' memp' pf' memf' cyc' := by
  have hW : encode bytes = ((nrzi true (syncBits ++ stuff 1 (bitsOf bytes))).map lvl ++ [.SE0, .SE0]) ++ [.J] := by
    simp [encode]
  rw [hW, ← rx_drift_nominal]
  exact rx_delivers_trackable φ c0 hφ hc0 bytes hne hb _ m (map_nominal_fst _) (trackable_nominal _ (by simp) (m + 4))
    c e hc pp pf hpp hpf memp memf hmp hmf k

/-! ### non-vacuity: runs of the model itself -/

/-- from reset (15 idle cycles), every `usb` clock phase: the packet [0xA5, 0x3C] -/
example : ∀ φ : Fin 4, evsU (runCdc φ.val {} (jn 15 ++ rxInput 1 (encode [0xA5, 0x3C]) 4)).2 =
    [.start, .byte 0xA5, .byte 0x3C, .fin] := by decide +kernel

/-- 15 idle cycles after reset the path is in an idle state, for every `usb` clock phase -/
example : ∀ φ : Fin 4, (runCdc φ.val {} (jn 15)).1 = idleCdc 1 false 0 [0, 0, 0, 0] 0 [0, 0, 0, 0] 3 := by
  decide +kernel

/-- a stuffing violation is seen as an error while the packet is in progress (phase 2) -/
example : EvU.err ∈ evsU (runCdc 2 {} (jn 15 ++ rxInput 1
    ((nrzi true (syncBits ++ ([false] ++ List.replicate 7 true ++ [false, false, false, false, false, false, false,
      false]))).map lvl ++ [.SE0, .SE0, .J]) 4)).2 := by decide +kernel

end LunaVerif.FsRxCdc
