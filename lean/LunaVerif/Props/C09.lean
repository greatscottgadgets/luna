import LunaVerif.Lemmas.C09Stage
import LunaVerif.Lemmas.C09Block
import LunaVerif.Lemmas.C09Dist
import LunaVerif.Lemmas.C09RomCorrect
/-!
# C09 — GET_DESCRIPTOR returns exactly the requested descriptor bytes

"For any descriptor collection (including non-consecutive indices) and either descriptor handler
(block-RAM ROM or the block-RAM-free variant), and any request (type, index, wLength) read in
max-packet-size pieces, the concatenated data stage equals the first min(wLength, descriptor length)
bytes of that descriptor, each packet is at most the max packet size, and the stage ends with a short
packet or, when the total is a non-zero multiple of the packet size below wLength, with a
zero-length packet.  Requests for descriptors that do not exist are STALLed without data."

The specification vocabulary (`dataStage`, `specResponse`, `respTrace`, `hostRead`) is in
`Props/C09Spec.lean`.  The statement is split the way the gateware is:

* packet level (`block_packet_exact`, `dist_packet_exact`): started from an idle state with
  `value`/`length`/`start_position` held, the model's whole output trace, for *every* `tx.ready`
  pattern, is a few quiet cycles followed by the abstract transmitter's trace of
  `specResponse` — the right chunk, a single ZLP pulse, or a single STALL pulse without `valid`;
* data-stage level (`datastage_exact`): the host's in-order read (one IN per packet at
  `start_position = k·mps`, as `StandardRequestHandler` advances it on ACK) over responses that meet
  `specResponse` yields exactly `dataStage d wLength mps`, whose concatenation is `d.take wLength`
  (`dataStage_concat`) and whose packets are at most `mps` long (`dataStage_packet_le`).

Max packet sizes are the four USB 2.0 allows for a control endpoint (8, 16, 32, 64).
-/
namespace LunaVerif.Desc

/-- the descriptor a wValue names. -/
def descrBytes (coll : Collection) (ty idx : Nat) : Option (List Nat) := (find? coll ty idx).map (·.bytes)

/-- the block handler for a collection (`GetDescriptorHandlerBlock(collection, max_packet_length)`). -/
def blockOf (coll : Collection) (mps : Nat) : Block.Config := ⟨Rom.layout coll, mps⟩

/-- the distributed handler for a collection of fixed descriptors. -/
def distOf (coll : Collection) (mps : Nat) : Dist.Config :=
  ⟨coll.map (fun d => ⟨key d, ⟨d.bytes⟩, some d.bytes.length⟩), mps⟩

theorem chunks_flatten (l : List Nat) (mps : Nat) :
    ∀ n, ((List.range n).map (fun k => (l.drop (k * mps)).take mps)).flatten = l.take (n * mps) := by
  intro n
  induction n with
  | zero => simp
  | succ n ih =>
    rw [List.range_succ, List.map_append, List.flatten_append, ih]
    simp only [List.map_cons, List.map_nil, List.flatten_cons, List.flatten_nil, List.append_nil]
    rw [Nat.succ_mul, List.take_add]

/-- **concatenation**: the packets of the data stage concatenate to the first `wLength` bytes. -/
theorem dataStage_concat (d : List Nat) (wLength mps : Nat) (hm : 0 < mps) :
    (dataStage d wLength mps).flatten = d.take wLength := by
  unfold dataStage
  simp only [List.flatten_append]
  have hz : (if min wLength d.length ≠ 0 ∧ min wLength d.length % mps = 0 ∧ min wLength d.length < wLength
      then [([] : List Nat)] else []).flatten = [] := by split <;> simp
  rw [hz, List.append_nil]
  have := chunks_flatten (d.take wLength) mps ((min wLength d.length + mps - 1) / mps)
  unfold packetAt
  rw [this]
  apply List.take_of_length_le
  rw [List.length_take]
  have h1 : (min wLength d.length + mps - 1) / mps * mps + (min wLength d.length + mps - 1) % mps
      = min wLength d.length + mps - 1 := by
    rw [Nat.mul_comm]; exact Nat.div_add_mod _ _
  have h2 := Nat.mod_lt (min wLength d.length + mps - 1) hm
  omega

/-- **packet size**: every packet of the data stage is at most `mps` long. -/
theorem dataStage_packet_le (d : List Nat) (wLength mps : Nat) :
    ∀ p ∈ dataStage d wLength mps, p.length ≤ mps := by
  intro p hp
  unfold dataStage at hp
  rw [List.mem_append] at hp
  rcases hp with hp | hp
  · rw [List.mem_map] at hp
    obtain ⟨k, _, rfl⟩ := hp
    rw [packetAt_length]; omega
  · split at hp
    · simp at hp; subst hp; simp
    · simp at hp

/-- **data stage** (for any response function that meets the packet-level specification on the
offsets an in-order read visits): the host's read is exactly `dataStage`.  For `wLength > 0`, a non-empty descriptor
and fewer than 2048 bytes to send (`h11`: `start_position` is an 11-bit register, `hostRead` takes it modulo 2048). -/
theorem datastage_exact (resp : Nat → Response) (d : List Nat) (wLength mps fuel : Nat)
    (hm : mps = 8 ∨ mps = 16 ∨ mps = 32 ∨ mps = 64)
    (hw : 0 < wLength) (hd : 0 < d.length) (h11 : min wLength d.length < 2048)
    (hresp : ∀ k, k * mps ≤ min wLength d.length → k * mps < wLength →
      resp (k * mps) = specResponse (some d) wLength mps (k * mps))
    (hfuel : (min wLength d.length + mps - 1) / mps + 1 ≤ fuel) :
    hostRead resp mps wLength fuel 0 0 = (dataStage d wLength mps).map Response.ofPacket := by
  have hm0 : 0 < mps := by omega
  have hlen := dataStage_length d wLength mps
  have hpos := (lt_packets_iff (min wLength d.length) mps 0 hm0).mpr (by omega)
  have := hostRead_list resp mps wLength hm0 (dataStage d wLength mps) fuel 0 (by split at hlen <;> omega)
    (fun h => by rw [h] at hlen; simp at hlen; omega) fun j p hj => ?_
  · rwa [Nat.zero_mul] at this
  obtain ⟨h1, h2, h3, h4, h5⟩ := dataStage_get d wLength mps hm0 j p hj
  rw [Nat.zero_add, Nat.mod_eq_of_lt (by omega), hresp j h1 h2]
  exact ⟨h3, h4, h5⟩

/-- in particular over the specification's own responses. -/
theorem datastage_exact_spec (d : List Nat) (wLength mps fuel : Nat)
    (hm : mps = 8 ∨ mps = 16 ∨ mps = 32 ∨ mps = 64)
    (hw : 0 < wLength) (hd : 0 < d.length) (h11 : min wLength d.length < 2048)
    (hfuel : (min wLength d.length + mps - 1) / mps + 1 ≤ fuel) :
    hostRead (specResponse (some d) wLength mps) mps wLength fuel 0 0
      = (dataStage d wLength mps).map Response.ofPacket :=
  datastage_exact _ d wLength mps fuel hm hw hd h11 (fun _ _ _ => rfl) hfuel

theorem datastage_stall_when_absent (wLength mps fuel : Nat) :
    hostRead (specResponse none wLength mps) mps wLength (fuel + 1) 0 0 = [.stall] := by
  simp [hostRead, specResponse]

example : dataStage [1, 2, 3, 4, 5, 6, 7, 8, 9, 10, 11, 12, 13, 14, 15, 16] 0xFFFF 8
    = [[1, 2, 3, 4, 5, 6, 7, 8], [9, 10, 11, 12, 13, 14, 15, 16], []] := by decide
example : dataStage [1, 2, 3, 4, 5, 6, 7, 8, 9, 10, 11, 12, 13, 14, 15, 16] 16 8
    = [[1, 2, 3, 4, 5, 6, 7, 8], [9, 10, 11, 12, 13, 14, 15, 16]] := by decide
example : dataStage [1, 2, 3, 4, 5, 6, 7, 8, 9, 10] 255 8 = [[1, 2, 3, 4, 5, 6, 7, 8], [9, 10]] := by decide

/-- **block_packet_exact**, for every `wellFormed` collection (the constructor preconditions:
non-empty, distinct (type, index), 8-bit fields, non-empty byte strings, ROM below 64 KiB) whose longest descriptor
has at least 2 bytes (`hpw`: the look-ahead `(position_in_stream + 1).bit_select(2, len(position_in_stream) - 2)`
needs a position register of two bits).  The ROM side is `rom_lookup_correct` (`Lemmas/C09RomCorrect.lean`): the two
pointer hops over the ROM generated by `Rom.layout` reach an aligned entry word carrying the length and the bytes of
the descriptor if it is present, and are refused if it is absent.

From any idle state, for every `tx.ready` pattern `rs`, a request at an in-order offset
`p ≤ min wLength |d|` is answered, after one to four quiet cycles, with the abstract transmitter's
trace of `specResponse`: the chunk `d[p .. p+mps) ∩ [0, wLength)`, or a one-cycle ZLP at the end of
the data, or — descriptor absent — a one-cycle STALL and never `valid`. -/
theorem block_packet_exact (coll : Collection) (mps : Nat) (s0 : Block.State)
    (ty idx l p : Nat) (rs : List Bool)
    (hwf : wellFormed coll = true)
    (hm : mps = 8 ∨ mps = 16 ∨ mps = 32 ∨ mps = 64)
    (hpw : 2 ≤ (Rom.layout coll).maxLen)
    (hty : ty < 256) (hidx : idx < 256) (hl : l < 65536)
    (h0 : s0.fsm = .idle)
    (hp : ∀ d, descrBytes coll ty idx = some d → p ≤ min l d.length) :
    ∃ lat, 1 ≤ lat ∧ lat ≤ 4 ∧
      Block.run (blockOf coll mps) s0 (Block.reqInputs (ty * 256 + idx) l p rs)
        = respTrace lat (specResponse (descrBytes coll ty idx) l mps p) rs := by
  have hlk : lookupOk (Rom.layout coll) coll ty idx = true := lookupOk_layout coll hwf ty idx hidx
  have hposW : 2 ≤ (blockOf coll mps).img.posW := by
    show 2 ≤ bitsFor (Rom.layout coll).maxLen
    unfold bitsFor
    rw [if_neg (by omega)]
    have : 1 ≤ Nat.log2 (Rom.layout coll).maxLen := by
      rw [Nat.le_log2 (by omega)]; omega
    omega
  unfold descrBytes at hp ⊢
  cases hf : find? coll ty idx with
  | some d =>
    obtain ⟨w, hpres⟩ := Block.present_of_lookupOk (blockOf coll mps) coll ty idx d hlk hf
    exact Block.block_present (blockOf coll mps) s0 ty idx l p w d.bytes hty hidx hpres h0 (by show 0 < mps; omega)
      (by show mps < 65536; omega) hl hposW (hp d.bytes (by rw [hf]; rfl)) rs
  | none =>
    unfold lookupOk at hlk
    rw [hf] at hlk
    obtain ⟨lat, hlat1, hlat, h⟩ := Block.block_stall (blockOf coll mps) s0 ty idx l p hty hidx
      (Option.isNone_iff_eq_none.mp hlk) h0 rs
    exact ⟨lat, hlat1, by omega, h⟩

/-! ## Distributed (block-RAM-free) handler, with the repair of F6 -/

/-- One request on a distributed handler with one entry `F d` per descriptor `d` of a collection —
fixed (`fixedLen = some |d|`, the repaired ZLP path) or runtime (`fixedLen = none`) — with its exact
latency: from a quiescent state, for every `tx.ready` pattern, a request inside the descriptor is
answered after two quiet cycles with the chunk, a request at the end of a fixed descriptor after one
with a ZLP, a request for an absent descriptor with a STALL pulse in the start cycle. -/
theorem dist_request (coll : Collection) (F : Descr → Dist.Entry) (hF : ∀ d, (F d).key = key d)
    (hG : ∀ d, (F d).gen = ⟨d.bytes⟩) (hL : ∀ d n, (F d).fixedLen = some n → n = d.bytes.length)
    (mps : Nat) (s0 : Dist.State) (ty idx l p : Nat) (rs : List Bool)
    (hm : 0 < mps ∧ mps < 65536) (hwf : ∀ d ∈ coll, d.idx < 256) (hidx : idx < 256) (hl : l < 65536)
    (h0 : Dist.Quiescent ⟨coll.map F, mps⟩ s0)
    (hp : ∀ d, find? coll ty idx = some d → p < min l d.bytes.length
      ∨ (p = d.bytes.length ∧ (F d).fixedLen = some d.bytes.length)) :
    Dist.run ⟨coll.map F, mps⟩ s0 (Dist.reqInputs (ty * 256 + idx) l p rs)
      = respTrace ((find? coll ty idx).elim 0 fun d => if p < min l d.bytes.length then 2 else 1)
          (specResponse (descrBytes coll ty idx) l mps p) rs := by
  unfold descrBytes
  cases hf : find? coll ty idx with
  | some d =>
    obtain ⟨j, _, _, hs⟩ := dist_selects coll F hF mps ty idx hidx hwf d hf
    obtain ⟨g0, hgi, hv⟩ := h0.view hs
    simp only [Option.map_some, specResponse, Option.elim_some]
    rcases hp d hf with hlt | ⟨hpe, hfix⟩
    · rw [if_pos hlt, if_pos hlt]
      have := Dist.dist_data ⟨coll.map F, mps⟩ s0 g0 _ l p j (F d) hs hv hgi
        (fun n hn => by rw [hL d n hn]; omega) hm.1 hm.2 hl (by rw [hG]; exact hlt) rs
      rw [hG] at this
      exact this
    · rw [if_neg (by omega), if_neg (by omega)]
      exact Dist.dist_zlp ⟨coll.map F, mps⟩ s0 g0 _ l p j d.bytes.length (F d) hs hv hgi hfix (by omega) rs
  | none =>
    exact Dist.dist_stall _ _ _ _ _ (dist_selects_none coll F hF ty idx hidx hwf hf) h0.1 rs

/-- **dist_packet_exact** (full — no ROM, no assumption beyond the constructor's): from a quiescent
state, for every `tx.ready` pattern, an in-order request (`p ≤ min wLength |d|`, and `p < wLength`
as long as the host still asks) is answered after at most two quiet cycles with the abstract
transmitter's trace of `specResponse`; an absent descriptor with a STALL pulse in the start cycle
and never `valid`. -/
theorem dist_packet_exact (coll : Collection) (mps : Nat) (s0 : Dist.State)
    (ty idx l p : Nat) (rs : List Bool)
    (hm : mps = 8 ∨ mps = 16 ∨ mps = 32 ∨ mps = 64)
    (hwf : ∀ d ∈ coll, d.idx < 256)
    (hidx : idx < 256) (hl : l < 65536)
    (h0 : Dist.Quiescent (distOf coll mps) s0)
    (hp : ∀ d, descrBytes coll ty idx = some d → p ≤ min l d.length ∧ p < l) :
    ∃ lat, lat ≤ 2 ∧
      Dist.run (distOf coll mps) s0 (Dist.reqInputs (ty * 256 + idx) l p rs)
        = respTrace lat (specResponse (descrBytes coll ty idx) l mps p) rs := by
  refine ⟨_, ?_, dist_request coll _ (fun _ => rfl) (fun _ => rfl) (fun _ _ h => (Option.some.inj h).symm)
    mps s0 ty idx l p rs (by omega) hwf hidx hl h0 fun d hf => ?_⟩
  · cases find? coll ty idx with
    | none => exact Nat.zero_le 2
    | some d => show (if _ then 2 else 1) ≤ 2; split <;> omega
  · have := hp d.bytes (by unfold descrBytes; rw [hf]; rfl)
    by_cases hlt : p < min l d.bytes.length
    · exact Or.inl hlt
    · exact Or.inr ⟨by omega, rfl⟩

/-! ## Absent descriptor: STALL and no data, on both handlers -/

/-- **stall_without_data_when_absent**, block handler: for every `wellFormed` collection whose longest descriptor has
at least 2 bytes, every mps ∈ {8, 16, 32, 64}, from any idle state, for every `tx.ready` pattern, any 16-bit `wLength`
and any `start_position`, a request for a `(type, index)` the collection does not have is answered with one STALL
pulse after one to four quiet cycles (`respTrace lat .stall`), and no beat of the whole trace has `valid`. -/
theorem stall_without_data_when_absent_block (coll : Collection) (mps : Nat) (s0 : Block.State)
    (ty idx l p : Nat) (rs : List Bool)
    (hwf : wellFormed coll = true)
    (hm : mps = 8 ∨ mps = 16 ∨ mps = 32 ∨ mps = 64) (hpw : 2 ≤ (Rom.layout coll).maxLen)
    (hty : ty < 256) (hidx : idx < 256) (hl : l < 65536) (h0 : s0.fsm = .idle)
    (habs : descrBytes coll ty idx = none) :
    (∃ lat, 1 ≤ lat ∧ lat ≤ 4 ∧ Block.run (blockOf coll mps) s0 (Block.reqInputs (ty * 256 + idx) l p rs)
        = respTrace lat .stall rs)
    ∧ ∀ b ∈ Block.run (blockOf coll mps) s0 (Block.reqInputs (ty * 256 + idx) l p rs), b.valid = false := by
  obtain ⟨lat, hlat1, hlat, h⟩ := block_packet_exact coll mps s0 ty idx l p rs hwf hm hpw hty hidx hl h0
    (by intro d hd; rw [habs] at hd; simp at hd)
  rw [habs] at h
  simp only [specResponse] at h
  exact ⟨⟨lat, hlat1, hlat, h⟩, by rw [h]; exact respTrace_stall_no_valid lat rs⟩

/-- **stall_without_data_when_absent**, distributed handler: for every collection with 8-bit indexes, every
mps ∈ {8, 16, 32, 64}, from any quiescent state, for every `tx.ready` pattern, any 16-bit `wLength` and any
`start_position`, a request for a `(type, index)` the collection does not have is answered with one STALL pulse in the start cycle itself (`respTrace 0 .stall`), and no
beat of the whole trace has `valid`. -/
theorem stall_without_data_when_absent_dist (coll : Collection) (mps : Nat) (s0 : Dist.State)
    (ty idx l p : Nat) (rs : List Bool)
    (hm : mps = 8 ∨ mps = 16 ∨ mps = 32 ∨ mps = 64)
    (hwf : ∀ d ∈ coll, d.idx < 256) (hidx : idx < 256) (hl : l < 65536)
    (h0 : Dist.Quiescent (distOf coll mps) s0)
    (habs : descrBytes coll ty idx = none) :
    Dist.run (distOf coll mps) s0 (Dist.reqInputs (ty * 256 + idx) l p rs) = respTrace 0 .stall rs
    ∧ ∀ b ∈ Dist.run (distOf coll mps) s0 (Dist.reqInputs (ty * 256 + idx) l p rs), b.valid = false := by
  have hf : find? coll ty idx = none := by
    unfold descrBytes at habs
    exact Option.map_eq_none_iff.mp habs
  have hq : Dist.run (distOf coll mps) s0 (Dist.reqInputs (ty * 256 + idx) l p rs) = respTrace 0 .stall rs := by
    have := dist_request coll _ (fun _ => rfl) (fun _ => rfl) (fun _ _ h => (Option.some.inj h).symm)
      mps s0 ty idx l p rs (by omega) hwf hidx hl h0 (fun d hd => by rw [hf] at hd; cases hd)
    rw [habs, hf] at this
    exact this
  exact ⟨hq, by rw [hq]; exact respTrace_stall_no_valid 0 rs⟩

/-! ## Non-vacuity: a concrete collection with a sparse string index (0xFE) -/

/-- device (18 bytes), configuration (16 bytes = 2 packets of 8), language string, string 0xFE (8 bytes). -/
def sample : Collection :=
  [⟨1, 0, [18, 1, 0, 2, 0, 0, 0, 64, 9, 18, 1, 0, 0, 0, 1, 2, 0, 1]⟩,
   ⟨3, 0, [4, 3, 9, 4]⟩,
   ⟨3, 0xFE, [8, 3, 65, 0, 66, 0, 67, 0]⟩,
   ⟨2, 0, [9, 2, 16, 0, 1, 1, 0, 128, 50, 7, 5, 129, 2, 64, 0, 0]⟩]

-- the collection satisfies the hypotheses of `block_packet_exact` / `rom_lookup_correct`
set_option maxRecDepth 100000 in
example : wellFormed sample = true ∧ 2 ≤ (Rom.layout sample).maxLen := by decide +kernel
-- `lookupOk` is non-trivial: it holds on the generated ROM for present and absent wValues …
set_option maxRecDepth 100000 in
example : lookupOk (Rom.layout sample) sample 3 0xFE = true := by decide +kernel
set_option maxRecDepth 100000 in
example : lookupOk (Rom.layout sample) sample 3 1 = true ∧ lookupOk (Rom.layout sample) sample 9 0 = true := by
  decide +kernel
-- … and fails against a collection whose descriptor differs from the ROM's in one byte
set_option maxRecDepth 100000 in
example : lookupOk (Rom.layout sample) [⟨3, 0xFE, [8, 3, 65, 0, 66, 0, 67, 1]⟩] 3 0xFE = false := by decide +kernel
-- the 8-byte string read with wLength 255 at mps 8: one full packet, then (start_position 8) a ZLP
set_option maxRecDepth 100000 in
example : Block.run (blockOf sample 8) Block.init
      (Block.reqInputs (3 * 256 + 0xFE) 255 8 [true, true, true, true, true, false, true])
    = respTrace 4 .zlp [true, true, true, true, true, false, true] := by decide +kernel
set_option maxRecDepth 100000 in
example : Dist.run (distOf sample 8) (Dist.init (distOf sample 8))
      (Dist.reqInputs (3 * 256 + 0xFE) 255 8 [true, true, true, true])
    = respTrace 1 .zlp [true, true, true, true] := by decide +kernel
set_option maxRecDepth 100000 in
example : Dist.run (distOf sample 8) (Dist.init (distOf sample 8))
      (Dist.reqInputs (3 * 256 + 0) 2 0 [true, false, true, true, false, true, true])
    = respTrace 2 (.data [4, 3]) [true, false, true, true, false, true, true] := by decide +kernel

end LunaVerif.Desc
