import LunaVerif.Lemmas.Ltssm
/-!
# C41 — The LTSSM reaches U0 only through training and honours resets and timeouts

"The link reports ready only after, since the last reset, it has detected a partner, exchanged
polling LFPS (or TS1 when loosened) and completed the TS1/TS2 exchange, and, since the last entry
to polling, recovery or hot reset, it has completed the TS2 exchange and the idle handshake; a warm
or power-on reset removes link-ready within one cycle and keeps the link out of U0 while it lasts.
Each training, recovery and inactive substate with a defined timeout is left no later than that
timeout (12 ms, 2 ms or 360 ms as documented).  Scrambling is enabled in U0 unless either side
requested otherwise."

All theorems are about the model `LunaVerif.Ltssm` of the controller *with the F18 repair*
(warm-reset handling emitted last in every state) and hold for every input history and every
configuration (`Config.Valid` where the counter width matters).  "Reset" is a cycle in which the
input `in_usb_reset` is asserted (the only reset input the controller reads).

Ghost / history variables (defined here, not in the model):
* `sinceReset` — the (FSM state, inputs) pairs of all cycles after the last reset cycle,
* `sinceEntry` — the same since the FSM last *entered* Polling.LFPS, Recovery.Active or Hot Reset.Active,
* the age of the current FSM state (second component of `ageStep` / `ageRun`) — the number of cycles since it
  was entered,
* `ourReq`, `partnerReq` — what either side asked about scrambling during the last training.
-/
namespace LunaVerif.Ltssm

/-! ## What one cycle does -/

/-- The substates with a time-out and its length in cycles (12 ms, 2 ms or 360 ms at the clock). -/
def timeoutOf (c : Config) : St → Option Nat
  | .RxDetectQuiet => some c.c12
  | .PollingLFPS => some c.c360
  | .PollingActive => some c.c12
  | .PollingConfiguration => some c.c12
  | .PollingIdle => some c.c2
  | .HotResetActive => some c.c12
  | .HotResetExit => some c.c2
  | .RecoveryActive => some c.c12
  | .RecoveryConfiguration => some c.c12
  | .RecoveryIdle => some c.c2
  | .SSInactiveQuiet => some c.c12
  | _ => none

/-- The pending register file `n` of a cycle with registers `s` and inputs `i` is of one of three kinds: no
transition fires; a listed transition into a live state fires, and what it overrode had no entry tasks, so the
registers are those of `goto` over `pre`; or the FSM moves to a state where only `st` and `cycles` matter. -/
inductive Cycle (c : Config) (s : State) (i : In) (n : State) : Prop
  | stay : n = book c s i → (i.inUsbReset → s.st = .RxDetectReset) →
      (∀ T, timeoutOf c s.st = some T → s.cycles ≠ T) → Cycle c s i n
  | go (T : St) : Row c s i T → s.st ≠ T → i.inUsbReset = false → n = goto i T (pre c s i) → Cycle c s i n
  | leave : ¬live n.st → s.st ≠ n.st → n.cycles = 0 → (i.inUsbReset → n.st = .RxDetectReset) → Cycle c s i n

variable {c : Config} {s n : State} {i : In}

/- The three kinds in the shape `next_cycle` meets them: as rewrite rules to `True`, so that `simp` closes the
conjunct of a statement once its side conditions are discharged from the guards in context. -/

theorem Cycle.leave_goto {T : St} (m : State) (hl : ¬live T) (hne : s.st ≠ T)
    (hr : i.inUsbReset → T = .RxDetectReset) : Cycle c s i (goto i T m) ↔ True :=
  iff_true_intro (.leave hl hne (goto_cycles ..) hr)

theorem Cycle.go_goto {T : St} {m : State} (he : goto i T m = goto i T (pre c s i)) (row : Row c s i T)
    (hne : s.st ≠ T) (hr : i.inUsbReset = false) : Cycle c s i (goto i T m) ↔ True :=
  iff_true_intro (.go T row hne hr he)

theorem Cycle.stay_book (he : n = book c s i) (hr : i.inUsbReset → s.st = .RxDetectReset)
    (ht : ∀ T, timeoutOf c s.st = some T → s.cycles ≠ T) : Cycle c s i n ↔ True :=
  iff_true_intro (.stay he hr ht)

/-- Read backwards through the statements of the state's body (`when_iff`, `ite_iff`): a transition into a state that
is not live is `leave`, one into a live state is its row, and what no transition touched is `book`. -/
theorem next_cycle (c : Config) (s : State) (i : In) : Cycle c s i (next c s i) := by
  cases hst : s.st <;>
    -- one conjunct `guards → Cycle c s i (goto i T m)` per transition statement, last statement first
    simp only [↓next_pollingLFPS, ↓next_hotResetActive, ↓next_pollingActive, next, fsmBody, hst, warm, onTimeout,
      when_iff (Cycle c s i), ite_iff (Cycle c s i)] <;>
    -- the transitions into states that are not live; the overridden statements `m` go where they left no entry tasks
    simp +contextual only [Cycle.leave_goto, live, hasTasks, goto_over, goto_idem, hst, reduceCtorEq, ne_eq,
      not_false_eq_true, Bool.false_eq_true, implies_true, true_and, and_true, Bool.and_eq_true, Bool.not_eq_true'] <;>
    -- the rows, each from the guards in context, and the conjunct in which nothing fired
    simp +contextual [Cycle.go_goto, Cycle.stay_book, pre, book, hst, timeoutOf, Row.partner, Row.lfps, Row.tseq, Row.ts1,
      Row.ts2, Row.ts2more, Row.idle, Row.hot, Row.recover, Row.hotDone, Row.hotIdle, Row.rts1, Row.rts2, Row.rts2more,
      Row.ridle, Row.rhot]

/-! ## Resets -/

theorem Cycle.reset (h : Cycle c s i n) (hr : i.inUsbReset = true) : n.st = .RxDetectReset := by
  rcases h with ⟨rfl, h, -⟩ | ⟨T, -, -, h, -⟩ | ⟨-, -, -, h⟩
  · rw [book_st]; exact h hr
  · rw [hr] at h; cases h
  · exact h hr

/-- While `in_usb_reset` is asserted the next state is Rx.Detect.Reset, from every state. -/
theorem reset_forces_rx_detect_reset (c : Config) (s : State) (i : In) (h : i.inUsbReset = true) :
    (next c s i).st = .RxDetectReset :=
  (next_cycle c s i).reset h

/-- `link_ready` is exactly "the FSM is in U0". -/
theorem link_ready_iff_u0 (c : Config) (s : State) (i : In) :
    (out c s i).linkReady = true ↔ s.st = .U0 := by
  simp [out]

/-- A reset cycle removes link-ready within one cycle: whatever the state `s` (in particular U0
with `link_ready` high) and whatever the other inputs, in the cycle after a cycle with
`in_usb_reset` the output `link_ready` is low. -/
theorem reset_removes_link_ready_next_cycle (c : Config) (s : State) (i j : In)
    (h : i.inUsbReset = true) : (out c (next c s i) j).linkReady = false := by
  have := reset_forces_rx_detect_reset c s i h
  simp [out, this]

theorem runFrom_append (c : Config) (s : State) (a b : List In) :
    runFrom c s (a ++ b) = runFrom c (runFrom c s a) b := by
  induction a generalizing s with
  | nil => rfl
  | cons x xs ih => simp [runFrom, ih]

/-- … and keeps the link out of U0 while it lasts: for every input history, a cycle that follows a
cycle with `in_usb_reset` asserted is not spent in U0 (so during a reset of k cycles the link is out
of U0 from the second of them up to and including the cycle after the last). -/
theorem no_u0_during_reset (c : Config) (hist : List In) (i : In) (h : i.inUsbReset = true) :
    (runFrom c init (hist ++ [i])).st ≠ .U0 := by
  rw [runFrom_append]
  simp [runFrom, reset_forces_rx_detect_reset c _ i h]

/-! ## Time-outs -/

/-- Ghost: the registers together with the age of the current FSM state (0 in its first cycle). -/
def ageStep (c : Config) (sa : State × Nat) (i : In) : State × Nat :=
  let s' := next c sa.1 i
  (s', if s'.st = sa.1.st then sa.2 + 1 else 0)

def ageRun (c : Config) : State × Nat → List In → State × Nat
  | sa, [] => sa
  | sa, i :: is => ageRun c (ageStep c sa i) is

/-- The counter follows the age of the state: a cycle that stays advances it (modulo the register; in a state with
a time-out it stays only with the counter not at the time-out), and a cycle that leaves clears it. -/
def Clocked (c : Config) (s n : State) : Prop :=
  if n.st = s.st then
    n.cycles = (s.cycles + 1) % c.ctrMod ∧ ∀ T, timeoutOf c s.st = some T → s.cycles ≠ T
  else n.cycles = 0

theorem Cycle.clocked (h : Cycle c s i n) : Clocked c s n := by
  rcases h with ⟨rfl, -, ht⟩ | ⟨T, -, hne, -, rfl⟩ | ⟨-, hne, hc, -⟩
  · rw [Clocked, book_st, if_pos rfl, book_cycles]; exact ⟨rfl, ht⟩
  · rw [Clocked, goto_st, if_neg (Ne.symm hne)]; exact goto_cycles ..
  · rw [Clocked, if_neg (Ne.symm hne)]; exact hc

theorem timeout_le_c360 (c : Config) (hc : c.Valid) (st : St) (T : Nat) (h : timeoutOf c st = some T) :
    T ≤ c.c360 := by
  obtain ⟨h1, h2, _⟩ := hc
  cases st <;> simp [timeoutOf] at h <;> omega

/-- The invariant behind `timeouts_respected`: in a timed state the time-out counter *is* the age,
and it has not passed the time-out. -/
def AgeInv (c : Config) (sa : State × Nat) : Prop :=
  ∀ T, timeoutOf c sa.1.st = some T → sa.1.cycles = sa.2 ∧ sa.2 ≤ T

theorem ageInv_step (c : Config) (hc : c.Valid) (sa : State × Nat) (i : In) (h : AgeInv c sa) :
    AgeInv c (ageStep c sa i) := by
  intro T hT
  have hk := (next_cycle c sa.1 i).clocked
  simp only [ageStep, Clocked] at hT hk ⊢
  split at hk
  next hstay =>
    rw [hstay] at hT
    obtain ⟨heq, hle⟩ := h T hT
    have hT360 := timeout_le_c360 c hc _ T hT
    have := hk.2 T hT
    rw [if_pos hstay, hk.1, Nat.mod_eq_of_lt (by have := hc.2.2; omega)]
    omega
  next hleave => rw [if_neg hleave]; exact ⟨hk, Nat.zero_le _⟩

theorem ageInv_run (c : Config) (hc : c.Valid) (sa : State × Nat) (hist : List In) (h : AgeInv c sa) :
    AgeInv c (ageRun c sa hist) := by
  induction hist generalizing sa with
  | nil => exact h
  | cons i is ih => exact ih _ (ageInv_step c hc sa i h)

theorem ageInv_reach (c : Config) (hc : c.Valid) (hist : List In) : AgeInv c (ageRun c (init, 0) hist) :=
  ageInv_run c hc (init, 0) hist (by intro T h; simp [timeoutOf, init] at h)

/-- **Time-outs.**  For every history: whenever the FSM is in a substate with a time-out of `T`
cycles, it has been there for at most `T` cycles (age ≤ T, i.e. the state is occupied during at
most the `T + 1` cycles with ages `0 … T`; the decision to leave is taken in the cycle of age `T`). -/
theorem timeouts_respected (c : Config) (hc : c.Valid) (hist : List In) (T : Nat)
    (hT : timeoutOf c (ageRun c (init, 0) hist).1.st = some T) :
    (ageRun c (init, 0) hist).2 ≤ T :=
  (ageInv_reach c hc hist T hT).2

/-- … and in the cycle of age `T` the state is left, whatever the inputs. -/
theorem timeout_leaves (c : Config) (hc : c.Valid) (hist : List In) (i : In) (T : Nat)
    (hT : timeoutOf c (ageRun c (init, 0) hist).1.st = some T)
    (hage : (ageRun c (init, 0) hist).2 = T) :
    (next c (ageRun c (init, 0) hist).1 i).st ≠ (ageRun c (init, 0) hist).1.st := by
  intro hstay
  have hinv := ageInv_reach c hc hist T hT
  have hk := (next_cycle c (ageRun c (init, 0) hist).1 i).clocked
  rw [Clocked, if_pos hstay] at hk
  have := hk.2 T hT
  omega

/-! ## Training: link-ready only after the handshake sequence -/

/-- One observed cycle: the FSM state it was spent in and the inputs of that cycle. -/
abbrev Ev := St × In

/-- `HasSubseq ps log`: the log (oldest first) contains, in this order but not necessarily
adjacent, events `e₁, e₂, …` with `p₁ e₁`, `p₂ e₂`, … -/
def HasSubseq {α : Type} : List (α → Bool) → List α → Prop
  | [], _ => True
  | _ :: _, [] => False
  | p :: ps, x :: xs => (p x = true ∧ HasSubseq ps xs) ∨ HasSubseq (p :: ps) xs

theorem HasSubseq.nil {α : Type} (xs : List α) : HasSubseq ([] : List (α → Bool)) xs := by
  cases xs <;> simp [HasSubseq]

theorem HasSubseq.cons {α : Type} {ps : List (α → Bool)} {xs : List α} (x : α) (h : HasSubseq ps xs) :
    HasSubseq ps (x :: xs) := by
  cases ps with
  | nil => exact HasSubseq.nil _
  | cons p ps => exact Or.inr h

theorem HasSubseq.append {α : Type} {ps qs : List (α → Bool)} {xs ys : List α}
    (h : HasSubseq ps xs) (h' : HasSubseq qs ys) : HasSubseq (ps ++ qs) (xs ++ ys) := by
  induction xs generalizing ps with
  | nil =>
    cases ps with
    | nil => exact h'
    | cons p ps => exact h.elim
  | cons x xs ih =>
    cases ps with
    | nil => exact (ih (HasSubseq.nil _)).cons x
    | cons p ps => exact h.imp (And.imp_right ih) ih

theorem HasSubseq.of_append {α : Type} {ps qs : List (α → Bool)} {xs : List α}
    (h : HasSubseq (ps ++ qs) xs) : HasSubseq ps xs := by
  induction xs generalizing ps with
  | nil =>
    cases ps with
    | nil => exact HasSubseq.nil _
    | cons p ps => exact h.elim
  | cons x xs ih =>
    cases ps with
    | nil => exact HasSubseq.nil _
    | cons p ps => exact h.imp (And.imp_right ih) ih

def evAt (chain : List (Ev → Bool)) (k : Nat) (e : Ev) : Bool :=
  match chain[k]? with
  | some p => p e
  | none => false

/-- One step of a rank argument: the rank (how much of the chain the log is known to contain) may fall freely, and
rise by one only on the event of that index. -/
theorem rank_step (chain : List (Ev → Bool)) (log : List Ev) (e : Ev) (r r' : Nat)
    (hinv : HasSubseq (chain.take r) log)
    (h : r' ≤ r ∨ (r' = r + 1 ∧ evAt chain r e = true)) :
    HasSubseq (chain.take r') (log ++ [e]) := by
  rcases h with h | ⟨rfl, he⟩
  · rw [← List.take_append_drop r' (chain.take r), List.take_take, Nat.min_eq_left h] at hinv
    simpa using hinv.of_append.append (HasSubseq.nil [e])
  · unfold evAt at he
    cases hk : chain[r]? with
    | none => simp [hk] at he
    | some p =>
      rw [List.take_add_one, hk]
      exact hinv.append (Or.inl ⟨by simpa [hk] using he, trivial⟩)

/-- The FSM *enters* Polling, Recovery or Hot Reset. -/
def isEntry (a b : St) : Bool :=
  a != b && (b == .PollingLFPS || b == .RecoveryActive || b == .HotResetActive)

theorem isEntry_iff (a b : St) :
    isEntry a b = true ↔ a ≠ b ∧ (b = .PollingLFPS ∨ b = .RecoveryActive ∨ b = .HotResetActive) := by
  simp [isEntry, or_assoc]

structure Ghost where
  s : State
  sinceReset : List Ev      -- cycles after the last cycle with in_usb_reset, oldest first
  sinceEntry : List Ev      -- cycles since the FSM last entered Polling.LFPS / Recovery.Active / Hot Reset.Active

def gstep (c : Config) (g : Ghost) (i : In) : Ghost :=
  let s' := next c g.s i
  { s := s'
    sinceReset := if i.inUsbReset then [] else g.sinceReset ++ [(g.s.st, i)]
    sinceEntry := if isEntry g.s.st s'.st then [] else g.sinceEntry ++ [(g.s.st, i)] }

def grun (c : Config) : Ghost → List In → Ghost
  | g, [] => g
  | g, i :: is => grun c (gstep c g i) is

def ginit : Ghost := ⟨init, [], []⟩

theorem grun_inv (c : Config) (P : Ghost → Prop) (hs : ∀ g i, P g → P (gstep c g i)) (g : Ghost)
    (hist : List In) (h0 : P g) : P (grun c g hist) := by
  induction hist generalizing g with
  | nil => exact h0
  | cons i is ih => exact ih _ (hs g i h0)

theorem grun_s (c : Config) (g : Ghost) (hist : List In) : (grun c g hist).s = runFrom c g.s hist := by
  induction hist generalizing g with
  | nil => rfl
  | cons i is ih => simp [grun, runFrom, ih, gstep]

def evPartner : Ev → Bool := fun e => e.1 == .RxDetectActive && e.2.linkPartnerDetected
def evLfpsRx (c : Config) : Ev → Bool := fun e =>
  e.1 == .PollingLFPS && (e.2.lfpsPollingDetected || (c.loosen && e.2.ts1Detected))
def evLfpsTx : Ev → Bool := fun e => e.1 == .PollingLFPS && decide (e.2.lfpsCyclesSent ≥ 16)
def evTseq : Ev → Bool := fun e => e.1 == .PollingRxEQ && e.2.tsBurstComplete
def evTs1Tx : Ev → Bool := fun e => e.1 == .PollingActive && e.2.tsBurstComplete
def evTsRx : Ev → Bool := fun e =>
  e.1 == .PollingActive && (e.2.ts1Detected || e.2.ts2Detected || e.2.invertedTs1Detected)
def evTs2RxP : Ev → Bool := fun e =>
  (e.1 == .PollingActive || e.1 == .PollingConfiguration) && e.2.ts2Detected
def evTs2TxP : Ev → Bool := fun e => e.1 == .PollingConfiguration && e.2.tsBurstComplete
def evTs2More : Ev → Bool := fun e => e.1 == .PollingConfigurationExit && e.2.tsBurstComplete
def evTs2Rx : Ev → Bool := fun e =>
  (e.1 == .PollingActive || e.1 == .PollingConfiguration || e.1 == .RecoveryActive ||
   e.1 == .RecoveryConfiguration || e.1 == .HotResetActive) && e.2.ts2Detected
def evTs2Tx : Ev → Bool := fun e =>
  (e.1 == .PollingConfiguration || e.1 == .RecoveryConfiguration || e.1 == .HotResetActive) &&
  e.2.tsBurstComplete
def evIdle : Ev → Bool := fun e =>
  (e.1 == .PollingIdle || e.1 == .RecoveryIdle || e.1 == .HotResetExit) && e.2.idleHandshakeComplete

/-- Since the last reset: receiver detection found a partner; polling LFPS was received (or TS1
when loosened); the TSEQ burst was sent; a TS1 burst was sent; TS1/TS2 were received; the TS2 burst
was sent (which the code only accepts once TS2 has been received, see `ts2RxChain`); the closing
TS2 burst was sent. -/
def trainingChain (c : Config) : List (Ev → Bool) :=
  [evPartner, evLfpsRx c, evTseq, evTs1Tx, evTsRx, evTs2TxP, evTs2More]
/-- Since the last reset: … TS2 was received during Polling.Active/Configuration before the TS2
burst that ended Polling.Configuration. -/
def ts2RxChain : List (Ev → Bool) := [evPartner, evTseq, evTs2RxP, evTs2TxP]
/-- Since the last reset: … the PHY reported at least 16 polling LFPS bursts sent, in Polling.LFPS. -/
def lfpsTxChain : List (Ev → Bool) := [evPartner, evLfpsTx, evTseq]
/-- Since the last entry to Polling / Recovery / Hot Reset: TS2 received, then a TS2 burst sent,
then the idle handshake completed. -/
def entryChain : List (Ev → Bool) := [evTs2Rx, evTs2Tx, evIdle]

/-! ### Ranks: how far along each chain the registers say we are -/

def latch (k : Nat) (b : Bool) : Nat := if b then k + 1 else k

/-- A `latch` rank advances by at most one, when the latch goes from clear to set: what remains to be shown
is that this happens only on the chain's event. -/
theorem adv_latch (chain : List (Ev → Bool)) (ev : Ev) (k : Nat) (a a' : Bool) :
    (latch k a' ≤ latch k a ∨ (latch k a' = latch k a + 1 ∧ evAt chain (latch k a) ev = true)) ↔
    (a = false → a' = true → evAt chain k ev = true) := by
  cases a <;> cases a' <;> simp [latch, Nat.not_succ_le_self]

def rankTraining (s : State) : Nat :=
  match s.st with
  | .PollingLFPS => latch 1 s.lfpsBurstSeen
  | .PollingRxEQ => 2
  | .PollingActive => latch 3 s.burstMinimumMet
  | .PollingConfiguration => 5
  | .PollingConfigurationExit => 6
  | .PollingIdle | .U0 | .HotResetActive | .HotResetExit
  | .RecoveryActive | .RecoveryConfiguration | .RecoveryConfigurationExit | .RecoveryIdle => 7
  | _ => 0

def rankTs2Rx (s : State) : Nat :=
  match s.st with
  | .PollingLFPS | .PollingRxEQ => 1
  | .PollingActive | .PollingConfiguration => latch 2 s.ts2Seen
  | .PollingConfigurationExit
  | .PollingIdle | .U0 | .HotResetActive | .HotResetExit
  | .RecoveryActive | .RecoveryConfiguration | .RecoveryConfigurationExit | .RecoveryIdle => 4
  | _ => 0

def rankLfpsTx (s : State) : Nat :=
  match s.st with
  | .PollingLFPS => latch 1 (decide (s.targetLfpsCount < 16))
  | .PollingRxEQ => 2
  | .PollingActive | .PollingConfiguration | .PollingConfigurationExit
  | .PollingIdle | .U0 | .HotResetActive | .HotResetExit
  | .RecoveryActive | .RecoveryConfiguration | .RecoveryConfigurationExit | .RecoveryIdle => 3
  | _ => 0

def rankEntry (s : State) : Nat :=
  match s.st with
  | .PollingActive | .PollingConfiguration | .RecoveryActive | .RecoveryConfiguration
  | .HotResetActive => latch 0 s.ts2Seen
  | .PollingConfigurationExit | .RecoveryConfigurationExit
  | .PollingIdle | .RecoveryIdle | .HotResetExit => 2
  | .U0 => 3
  | _ => 0

/-- One cycle of a chain, with pending registers `n`; `fresh s.st n.st` is where the ghost log starts afresh. -/
def Adv (rank : State → Nat) (chain : List (Ev → Bool)) (s : State) (i : In) (fresh : St → St → Bool)
    (n : State) : Prop :=
  if fresh s.st n.st then rank n = 0
  else rank n ≤ rank s ∨ (rank n = rank s + 1 ∧ evAt chain (rank s) (s.st, i) = true)

theorem Adv.log {rank : State → Nat} {chain : List (Ev → Bool)} {s n : State} {i : In} {fresh : St → St → Bool}
    {log : List Ev} (h : Adv rank chain s i fresh n) (hinv : HasSubseq (chain.take (rank s)) log) :
    HasSubseq (chain.take (rank n)) (if fresh s.st n.st then [] else log ++ [(s.st, i)]) := by
  cases hf : fresh s.st n.st <;> simp only [Adv, hf, if_true] at h ⊢
  · exact rank_step _ _ _ _ _ hinv h
  · rw [h]; exact HasSubseq.nil _

theorem rank_dead (h : ¬live n.st) : rankTraining n = 0 ∧ rankTs2Rx n = 0 ∧ rankLfpsTx n = 0 ∧ rankEntry n = 0 := by
  cases hn : n.st <;> simp_all [live, rankTraining, rankTs2Rx, rankLfpsTx, rankEntry]

theorem Adv.of_zero {rank : State → Nat} {chain : List (Ev → Bool)} {fresh : St → St → Bool} (h : rank n = 0) :
    Adv rank chain s i fresh n := by
  unfold Adv; split
  · exact h
  · exact .inl (h ▸ Nat.zero_le _)

theorem Cycle.adv_training (h : Cycle c s i n) :
    Adv rankTraining (trainingChain c) s i (fun _ _ => i.inUsbReset) n := by
  rcases h with ⟨rfl, hr, -⟩ | ⟨T, row, -, hr, rfl⟩ | ⟨hd, -, -, -⟩
  · cases hst : s.st <;>
      simp only [Adv, rankTraining, hst, book_st, book_burstMinimumMet, book_lfpsBurstSeen, adv_latch] <;>
      simp_all +contextual [evAt, trainingChain, evLfpsRx, evTs1Tx]
  · cases row <;> rename_i hst <;>
      simp only [Adv, rankTraining, hst, goto_st, goto_lfpsBurstSeen, goto_burstMinimumMet] <;>
      simp_all [latch, evAt, trainingChain, evPartner, evTseq, evTsRx, evTs2TxP, evTs2More]
    -- Polling.LFPS to Polling.RxEQ: the burst had been seen, or (loosened) this cycle's TS1 stands in for it
    cases h : s.lfpsBurstSeen <;> simp_all [evLfpsRx]
  · exact .of_zero (rank_dead hd).1

theorem Cycle.adv_ts2rx (h : Cycle c s i n) : Adv rankTs2Rx ts2RxChain s i (fun _ _ => i.inUsbReset) n := by
  rcases h with ⟨rfl, hr, -⟩ | ⟨T, row, -, hr, rfl⟩ | ⟨hd, -, -, -⟩
  · cases hst : s.st <;> simp only [Adv, rankTs2Rx, hst, book_st, book_ts2Seen, adv_latch] <;>
      simp_all +contextual [evAt, ts2RxChain, evTs2RxP]
  · cases row <;> rename_i hst <;> simp only [Adv, rankTs2Rx, hst, goto_st, goto_ts2Seen, pre_ts2Seen, adv_latch] <;>
      simp_all [latch, evAt, ts2RxChain, evPartner, evTseq, evTs2RxP, evTs2TxP]
  · exact .of_zero (rank_dead hd).2.1

theorem Cycle.adv_lfpstx (h : Cycle c s i n) : Adv rankLfpsTx lfpsTxChain s i (fun _ _ => i.inUsbReset) n := by
  rcases h with ⟨rfl, hr, -⟩ | ⟨T, row, -, hr, rfl⟩ | ⟨hd, -, -, -⟩
  · cases hst : s.st <;> simp only [Adv, rankLfpsTx, hst, book_st, adv_latch] <;>
      simp_all +contextual [evAt, lfpsTxChain, evLfpsTx]
    exact book_targetLfpsCount c hst
  · cases row <;> rename_i hst <;>
      simp only [Adv, rankLfpsTx, hst, goto_st, goto_targetLfpsCount] <;>
      simp_all [latch, evAt, lfpsTxChain, evPartner, evTseq]
    -- Polling.LFPS is left with the target reached: if that is still 16 or more, 16 bursts have been sent
    by_cases h : s.targetLfpsCount < 16 <;> simp [h, evLfpsTx]
    omega
  · exact .of_zero (rank_dead hd).2.2.1

theorem Cycle.adv_entry (h : Cycle c s i n) : Adv rankEntry entryChain s i isEntry n := by
  rcases h with ⟨rfl, -, -⟩ | ⟨T, row, -, -, rfl⟩ | ⟨hd, -, -, -⟩
  · cases hst : s.st <;> simp only [Adv, rankEntry, hst, book_st, book_ts2Seen, adv_latch] <;>
      simp +contextual [isEntry, evAt, entryChain, evTs2Rx]
  · cases row <;> rename_i hst <;> simp only [Adv, rankEntry, hst, goto_st, goto_ts2Seen, pre_ts2Seen, adv_latch] <;>
      simp_all [isEntry_iff, latch, evAt, entryChain, evTs2Rx, evTs2Tx, evIdle]
  · exact .of_zero (rank_dead hd).2.2.2

/-- Per chain: the log contains the chain as far as the rank of the registers says. -/
structure TrainInv (c : Config) (g : Ghost) : Prop where
  training : HasSubseq ((trainingChain c).take (rankTraining g.s)) g.sinceReset
  ts2rx : HasSubseq (ts2RxChain.take (rankTs2Rx g.s)) g.sinceReset
  lfpstx : HasSubseq (lfpsTxChain.take (rankLfpsTx g.s)) g.sinceReset
  entry : HasSubseq (entryChain.take (rankEntry g.s)) g.sinceEntry

theorem trainInv_init (c : Config) : TrainInv c ginit := by
  constructor <;> simp [ginit, init, rankTraining, rankTs2Rx, rankLfpsTx, rankEntry, HasSubseq]

theorem trainInv_step (c : Config) (g : Ghost) (i : In) (h : TrainInv c g) : TrainInv c (gstep c g i) :=
  have hc := next_cycle c g.s i
  ⟨hc.adv_training.log h.training, hc.adv_ts2rx.log h.ts2rx, hc.adv_lfpstx.log h.lfpstx, hc.adv_entry.log h.entry⟩

theorem trainInv_run (c : Config) (hist : List In) : TrainInv c (grun c ginit hist) :=
  grun_inv c (TrainInv c) (trainInv_step c) ginit hist (trainInv_init c)

/-- **Link-ready only after training (1).**  For every input history: if the FSM is in U0 (i.e.
`link_ready` is high), then the cycles since the last reset contain, in this order: a partner
detected in Rx.Detect.Active; polling LFPS received (or TS1 when loosened) in Polling.LFPS; the
TSEQ burst completed in Polling.RxEQ; a TS1 burst completed in Polling.Active; TS1/TS2 (or inverted
TS1) received in Polling.Active; the TS2 burst completed in Polling.Configuration; the closing TS2
burst completed in Polling.Configuration.Exit. -/
theorem link_ready_only_after_training (c : Config) (hist : List In)
    (h : (grun c ginit hist).s.st = .U0) :
    HasSubseq (trainingChain c) (grun c ginit hist).sinceReset := by
  have := (trainInv_run c hist).training
  simpa [rankTraining, h, trainingChain] using this

/-- **(2)** … and a partner detected, the TSEQ burst, TS2 *received* in Polling.Active or
Polling.Configuration, then the TS2 burst completed in Polling.Configuration (the TS2 exchange). -/
theorem link_ready_only_after_ts2_rx (c : Config) (hist : List In)
    (h : (grun c ginit hist).s.st = .U0) :
    HasSubseq ts2RxChain (grun c ginit hist).sinceReset := by
  have := (trainInv_run c hist).ts2rx
  simpa [rankTs2Rx, h, ts2RxChain] using this

/-- **(3)** … and, between the partner detection and the TSEQ burst, a cycle in Polling.LFPS in which
the PHY reported at least 16 polling LFPS bursts sent. -/
theorem link_ready_only_after_lfps_sent (c : Config) (hist : List In)
    (h : (grun c ginit hist).s.st = .U0) :
    HasSubseq lfpsTxChain (grun c ginit hist).sinceReset := by
  have := (trainInv_run c hist).lfpstx
  simpa [rankLfpsTx, h, lfpsTxChain] using this

/-- **(4)** Since the last entry to Polling (Polling.LFPS), Recovery (Recovery.Active) or Hot Reset
(Hot Reset.Active): TS2 received, then a TS2 burst completed, then the idle handshake completed. -/
theorem link_ready_only_after_handshake_since_entry (c : Config) (hist : List In)
    (h : (grun c ginit hist).s.st = .U0) :
    HasSubseq entryChain (grun c ginit hist).sinceEntry := by
  have := (trainInv_run c hist).entry
  simpa [rankEntry, h, entryChain] using this

/-- The ghost run is the model's run (so "U0" above is `link_ready` of the model after `hist`). -/
theorem grun_is_model_run (c : Config) (hist : List In) (j : In) :
    (out c (grun c ginit hist).s j).linkReady = (out c (runFrom c init hist) j).linkReady := by
  rw [grun_s]; rfl

/-! ## Scrambling -/

/-- The FSM enters one of the states whose entry tasks sample `disable_scrambling` and clear the
"partner asked for no scrambling" latch. -/
def isScrEntry (a b : St) : Bool :=
  a != b && (b == .PollingRxEQ || b == .PollingActive || b == .RecoveryActive)

theorem isScrEntry_iff (a b : St) :
    isScrEntry a b = true ↔ a ≠ b ∧ (b = .PollingRxEQ ∨ b = .PollingActive ∨ b = .RecoveryActive) := by
  simp [isScrEntry, or_assoc]

structure ScrGhost where
  s : State
  ourReq : Bool         -- `disable_scrambling` in the cycle of the last such entry
  partnerReq : Bool     -- `no_scrambling_requested` seen in some cycle since then

def scrStep (c : Config) (g : ScrGhost) (i : In) : ScrGhost :=
  let s' := next c g.s i
  if isScrEntry g.s.st s'.st then ⟨s', i.disableScrambling, false⟩
  else ⟨s', g.ourReq, g.partnerReq || i.noScramblingRequested⟩

def scrRun (c : Config) : ScrGhost → List In → ScrGhost
  | g, [] => g
  | g, i :: is => scrRun c (scrStep c g i) is

/-- the states between such an entry and the next exit to Rx.Detect, Loopback or SS.Inactive -/
def inTraining : St → Bool
  | .PollingRxEQ | .PollingActive | .PollingConfiguration | .PollingConfigurationExit | .PollingIdle
  | .U0 | .HotResetActive | .HotResetExit
  | .RecoveryActive | .RecoveryConfiguration | .RecoveryConfigurationExit | .RecoveryIdle => true
  | _ => false

/-- In training the two registers behind `enable_scrambling` follow the ghosts: sampled and cleared on
an entry, kept and latched otherwise. -/
def ScrOk (s : State) (i : In) (n : State) : Prop :=
  inTraining n.st = true →
    if isScrEntry s.st n.st then
      n.requestNoScrambling = i.disableScrambling ∧ n.disableScramblingSeen = false
    else
      inTraining s.st = true ∧ n.requestNoScrambling = s.requestNoScrambling ∧
      n.disableScramblingSeen = (s.disableScramblingSeen || i.noScramblingRequested)

theorem Cycle.scrOk (h : Cycle c s i n) : ScrOk s i n := by
  rcases h with ⟨rfl, -, -⟩ | ⟨T, row, -, -, rfl⟩ | ⟨hd, -, -, -⟩
  · simp +contextual [ScrOk, isScrEntry, book_st, book_requestNoScrambling, book_disableScramblingSeen]
  · cases row <;> rename_i hst <;>
      simp [ScrOk, isScrEntry_iff, inTraining, hst, goto_st, goto_requestNoScrambling, goto_disableScramblingSeen,
        pre_requestNoScrambling, pre_disableScramblingSeen]
  · intro ht
    cases hn : n.st <;> simp_all [live, inTraining]

def ScrInv (g : ScrGhost) : Prop :=
  inTraining g.s.st = true →
    g.s.requestNoScrambling = g.ourReq ∧ g.s.disableScramblingSeen = g.partnerReq

theorem scrInv_step (c : Config) (g : ScrGhost) (i : In) (h : ScrInv g) : ScrInv (scrStep c g i) := by
  intro ht
  have hf := (next_cycle c g.s i).scrOk
  unfold scrStep at ht ⊢
  cases he : isScrEntry g.s.st (next c g.s i).st
  · simp only [ScrOk, he] at ht hf ⊢
    obtain ⟨hin, h1, h2⟩ := hf (by simpa using ht)
    obtain ⟨h3, h4⟩ := h hin
    simp [h1, h2, h3, h4]
  · simp only [ScrOk, he] at ht hf ⊢
    obtain ⟨h1, h2⟩ := hf (by simpa using ht)
    simp [h1, h2]

theorem scrInv_run (c : Config) (g : ScrGhost) (hist : List In) (h : ScrInv g) : ScrInv (scrRun c g hist) := by
  induction hist generalizing g with
  | nil => exact h
  | cons i is ih => exact ih _ (scrInv_step c g i h)

/-- **Scrambling.**  For every input history: in U0 `enable_scrambling` is high exactly when neither
side asked otherwise — our side through `disable_scrambling` (sampled when Polling.RxEQ,
Polling.Active or Recovery.Active was last entered), the partner through a training set with the
"disable scrambling" bit (`no_scrambling_requested`) in some cycle since that entry. -/
theorem scrambling_in_u0 (c : Config) (hist : List In) (j : In)
    (h : (scrRun c ⟨init, false, false⟩ hist).s.st = .U0) :
    (out c (scrRun c ⟨init, false, false⟩ hist).s j).enableScrambling =
      (!(scrRun c ⟨init, false, false⟩ hist).ourReq && !(scrRun c ⟨init, false, false⟩ hist).partnerReq) := by
  have hinv := scrInv_run c ⟨init, false, false⟩ hist (by intro h; simp [init, inTraining] at h)
  obtain ⟨h1, h2⟩ := hinv (by simp [h, inTraining])
  simp [out, h, scramblingWanted, h1, h2]

/-! ## Non-vacuity: a concrete run from power-on to U0 (2 kHz counts) and back out by a reset -/

def exIn : In :=
  { inUsbReset := false, triggerLinkRecovery := false, phyReady := true, disableScrambling := false,
    linkPartnerDetected := false, noLinkPartnerDetected := false, lfpsPollingDetected := false,
    lfpsCyclesSent := 0, ts1Detected := false, invertedTs1Detected := false, ts2Detected := false,
    hotResetRequested := false, loopbackRequested := false, noScramblingRequested := false,
    tsBurstComplete := false, idleHandshakeComplete := false, enableComplianceScrambling := false }

def exCfg : Config := ⟨24, 4, 720, 1024, true, false⟩

/-- power-on → Rx.Detect.Active → Polling.LFPS → RxEQ → Active → Configuration → Exit → Idle → U0 -/
def exTrain : List In :=
  [exIn, { exIn with linkPartnerDetected := true },
   { exIn with lfpsPollingDetected := true, lfpsCyclesSent := 16 }, { exIn with lfpsCyclesSent := 20 },
   { exIn with tsBurstComplete := true }, { exIn with tsBurstComplete := true },
   { exIn with ts1Detected := true }, { exIn with ts2Detected := true },
   { exIn with tsBurstComplete := true }, { exIn with tsBurstComplete := true },
   { exIn with idleHandshakeComplete := true }]

example : (grun exCfg ginit exTrain).s.st = .U0 := by decide
example : (grun exCfg ginit exTrain).sinceReset.length = 11 := by decide
example : (grun exCfg ginit (exTrain ++ [{ exIn with inUsbReset := true }])).s.st = .RxDetectReset := by decide
example : (ageRun exCfg (init, 0) (exTrain.take 10 ++ List.replicate 4 exIn)).1.st = .PollingIdle ∧
          (ageRun exCfg (init, 0) (exTrain.take 10 ++ List.replicate 4 exIn)).2 = 4 ∧
          (ageRun exCfg (init, 0) (exTrain.take 10 ++ List.replicate 5 exIn)).1.st = .RxDetectReset := by decide
example : (out exCfg (scrRun exCfg ⟨init, false, false⟩ exTrain).s exIn).enableScrambling = true := by decide

example : Config.Valid ⟨24, 4, 720, 1024, true, false⟩ := by simp [Config.Valid]

end LunaVerif.Ltssm
