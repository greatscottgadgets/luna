import LunaVerif.Model.Usb2.MultibyteIn
/-!
# C29 — Multi-byte IN endpoints serialise words little-endian with correct framing

"Each word accepted from a multi-byte stream is sent as its bytes in little-endian order, exactly once,
with the word's 'first' flag on its first byte and its 'last' flag on its final byte, and words are
accepted only as fast as the underlying byte endpoint can take them."

The statements are about the serialiser in front of the inner byte endpoint, for an ARBITRARY `ready`
schedule of that endpoint (`Shim.step` takes `ready` as an input), every byte width ≥ 1, all word
values and flag patterns.  A byte is *handed over* in a cycle with `byte_stream.valid & ready`; a word
is *accepted* in a cycle with `word_stream.valid & word_stream.ready`.
-/
namespace LunaVerif.MultibyteIn

/-- A byte as the inner endpoint sees it: payload, first, last. -/
abbrev ByteEv := Nat × Bool × Bool

/-- The last `n` bytes of a `bw`-byte word whose not-yet-sent part is `v` (little-endian: low byte
first), with the word's `first` flag on byte 0 of the word and `last` on byte `bw-1`. -/
def restBytes (bw : Nat) (f l : Bool) : Nat → Nat → List ByteEv
  | 0, _ => []
  | n + 1, v => (v % 256, f && (n + 1 == bw), l && (n == 0)) :: restBytes bw f l n (v / 256)

/-- The specification: what an accepted word owes the byte stream. -/
def wordBytes (bw : Nat) (w : WordIn) : List ByteEv :=
  restBytes bw w.first w.last bw (w.payload % 2 ^ (8 * bw))

/-- Bytes of the current word that have not been handed over yet (abstraction map). -/
def pending (bw : Nat) (s : Shim) : List ByteEv :=
  match s.fsm with
  | .idle => []
  | .transmit => restBytes bw s.firstL s.lastL (s.bts + 1) s.shift

def handed (o : ShimOut) (bReady : Bool) : List ByteEv :=
  if o.bValid && bReady then [(o.bPayload, o.bFirst, o.bLast)] else []
def accepted (bw : Nat) (w : WordIn) (o : ShimOut) : List ByteEv :=
  if w.valid && o.wReady then wordBytes bw w else []

/-- Whole histories: inputs are (word stream, byte-stream ready) pairs. -/
def run (bw : Nat) : Shim → List (WordIn × Bool) → Shim
  | s, [] => s
  | s, (w, r) :: rest => run bw (Shim.step bw s w r).1 rest
def handedAll (bw : Nat) : Shim → List (WordIn × Bool) → List ByteEv
  | _, [] => []
  | s, (w, r) :: rest => handed (Shim.step bw s w r).2 r ++ handedAll bw (Shim.step bw s w r).1 rest
def acceptedAll (bw : Nat) : Shim → List (WordIn × Bool) → List ByteEv
  | _, [] => []
  | s, (w, r) :: rest => accepted bw w (Shim.step bw s w r).2 ++ acceptedAll bw (Shim.step bw s w r).1 rest

theorem beq_congr {a b c d : Nat} (h : a = b ↔ c = d) : (a == b) = (c == d) := by
  rw [Bool.eq_iff_iff]; simp [h]

theorem restBytes_one (bw : Nat) (f l : Bool) (v : Nat) :
    restBytes bw f l 1 v = [(v % 256, f && (1 == bw), l)] := by simp [restBytes]

theorem step_conserves (bw : Nat) (hb : 1 ≤ bw) (s : Shim) (w : WordIn) (r : Bool) :
    handed (Shim.step bw s w r).2 r ++ pending bw (Shim.step bw s w r).1
      = pending bw s ++ accepted bw w (Shim.step bw s w r).2 := by
  rcases s with ⟨fsm, shift, fl, ll, bts⟩
  cases fsm with
  | idle =>
    cases hv : w.valid <;> cases r <;>
      simp [Shim.step, handed, accepted, pending, hv, Shim.load, wordBytes, Nat.sub_add_cancel hb]
  | transmit =>
    cases r with
    | false => simp [Shim.step, handed, accepted, pending]
    | true =>
      cases bts with
      | zero =>
        have h1 : (0 == bw - 1) = (1 == bw) := beq_congr (by omega)
        cases hv : w.valid <;>
          simp [Shim.step, handed, accepted, pending, hv, Shim.load, wordBytes, restBytes_one,
            Nat.sub_add_cancel hb, h1]
      | succ n =>
        have h1 : (n + 1 == bw - 1) = (n + 1 + 1 == bw) := beq_congr (by omega)
        simp [Shim.step, handed, accepted, pending, restBytes, h1]

theorem bytes_conserved (bw : Nat) (hb : 1 ≤ bw) (s : Shim) (ins : List (WordIn × Bool)) :
    handedAll bw s ins ++ pending bw (run bw s ins) = pending bw s ++ acceptedAll bw s ins := by
  induction ins generalizing s with
  | nil => simp [handedAll, run, acceptedAll]
  | cons x xs ih =>
    obtain ⟨w, r⟩ := x
    simp only [handedAll, run, acceptedAll, List.append_assoc]
    rw [ih, ← List.append_assoc, step_conserves bw hb, List.append_assoc]

/-- **C29, main theorem.**  For every byte width ≥ 1, every word/flag sequence and every `ready`
schedule of the byte endpoint: the bytes handed over so far, followed by the bytes still pending in
the shift register, are exactly the little-endian bytes (with first/last on the word's first/final
byte) of the words accepted so far, in order — nothing lost, duplicated or reordered. -/
theorem bytes_little_endian_once (bw : Nat) (hb : 1 ≤ bw) (ins : List (WordIn × Bool)) :
    handedAll bw Shim.init ins ++ pending bw (run bw Shim.init ins) = acceptedAll bw Shim.init ins := by
  simpa [pending, Shim.init] using bytes_conserved bw hb Shim.init ins

theorem restBytes_get (bw : Nat) (f l : Bool) (n v k : Nat) (hk : k < n) :
    (restBytes bw f l n v)[k]? = some (v / 256 ^ k % 256, f && (n - k == bw), l && (n - k == 1)) := by
  induction n generalizing v k with
  | zero => omega
  | succ n ih =>
    cases k with
    | zero => simp [restBytes]
    | succ k =>
      simp only [restBytes, List.getElem?_cons_succ]
      rw [ih (v / 256) k (by omega), Nat.div_div_eq_div_mul, Nat.pow_succ, Nat.mul_comm]
      simp

theorem restBytes_length (bw : Nat) (f l : Bool) (n v : Nat) : (restBytes bw f l n v).length = n := by
  induction n generalizing v with
  | zero => rfl
  | succ n ih => simp [restBytes, ih]

/-- **Framing and byte order of the specification.**  An accepted word owes exactly `bw` bytes; byte
`k` is bits `8k..8k+7` of the word (little-endian), carries `first` iff the word has `first` and
`k = 0`, and `last` iff the word has `last` and `k = bw-1`. -/
theorem first_last_placement (bw : Nat) (w : WordIn) :
    (wordBytes bw w).length = bw ∧
    ∀ k, k < bw → (wordBytes bw w)[k]? =
      some (w.payload % 2 ^ (8 * bw) / 256 ^ k % 256, w.first && (k == 0), w.last && (k + 1 == bw)) := by
  refine ⟨restBytes_length _ _ _ _ _, fun k hk => ?_⟩
  unfold wordBytes
  rw [restBytes_get bw w.first w.last bw _ k hk]
  have h1 : (bw - k == bw) = (k == 0) := beq_congr (by omega)
  have h2 : (bw - k == 1) = (k + 1 == bw) := beq_congr (by omega)
  rw [h1, h2]

/-- **Words are accepted only as fast as the byte endpoint takes them.**  Whenever the word stream is
`ready`, everything still pending of the previous word (at most its final byte) is handed over in this
very cycle — so the shift register never holds bytes of two words, and `ready` requires the byte
endpoint's `ready` unless the serialiser is idle. -/
theorem word_ready_only_when_consumable (bw : Nat) (hb : 1 ≤ bw) (s : Shim) (w : WordIn) (r : Bool)
    (h : (Shim.step bw s w r).2.wReady = true) :
    handed (Shim.step bw s w r).2 r = pending bw s ∧ (s.fsm = .transmit → r = true ∧ s.bts = 0) := by
  rcases s with ⟨fsm, shift, fl, ll, bts⟩
  cases fsm with
  | idle => simp [Shim.step, handed, pending]
  | transmit =>
    cases r with
    | false => simp [Shim.step] at h
    | true =>
      cases bts with
      | zero =>
        have h1 : (0 == bw - 1) = (1 == bw) := beq_congr (by omega)
        cases hv : w.valid <;> simp [Shim.step, handed, pending, restBytes_one, hv, h1]
      | succ n => simp [Shim.step] at h

/-- `bytes_to_send` is loaded with `bw - 1` and only counts down. -/
theorem step_bts_lt (bw : Nat) (hb : 1 ≤ bw) (s : Shim) (w : WordIn) (r : Bool)
    (hs : s.fsm = .transmit → s.bts < bw) :
    (Shim.step bw s w r).1.fsm = .transmit → (Shim.step bw s w r).1.bts < bw := by
  have hload : bw - 1 < bw := Nat.sub_lt hb Nat.one_pos
  rcases s with ⟨fsm, shift, fl, ll, bts⟩
  cases fsm with
  | idle => cases hv : w.valid <;> simp [Shim.step, hv, Shim.load, hload]
  | transmit =>
    have hlt : bts < bw := hs rfl
    cases r with
    | false => simpa [Shim.step] using hlt
    | true =>
      cases bts with
      | zero => cases hv : w.valid <;> simp [Shim.step, hv, Shim.load, hload]
      | succ n => simp [Shim.step]; omega

theorem pending_le_from (bw : Nat) (hb : 1 ≤ bw) (s : Shim) (hs : s.fsm = .transmit → s.bts < bw)
    (ins : List (WordIn × Bool)) : (pending bw (run bw s ins)).length ≤ bw := by
  induction ins generalizing s with
  | nil =>
    rcases s with ⟨fsm, shift, fl, ll, bts⟩
    cases fsm
    · exact Nat.zero_le _
    · simp only [run, pending, restBytes_length]; exact hs rfl
  | cons x xs ih => exact ih _ (step_bts_lt bw hb s x.1 x.2 hs)

/-- The pending part never exceeds one word. -/
theorem pending_le (bw : Nat) (hb : 1 ≤ bw) (ins : List (WordIn × Bool)) :
    (pending bw (run bw Shim.init ins)).length ≤ bw :=
  pending_le_from bw hb Shim.init (fun h => by cases h) ins

/-! ## Non-vacuity: byte width 3, word 0x030201 with first and last, a stalled byte endpoint, then a
back-to-back second word -/
def exW (v : Bool) (p : Nat) (f l : Bool) : WordIn := ⟨v, p, f, l⟩
example : handedAll 3 Shim.init
    [(exW true 0x030201 true true, true), (exW false 0 false false, true), (exW false 0 false false, false),
     (exW false 0 false false, true), (exW true 0x0A0B0C false false, true), (exW false 0 false false, true)]
    = [(1, true, false), (2, false, false), (3, false, true), (0x0C, false, false)] := by decide
example : wordBytes 3 (exW true 0x030201 true true) = [(1, true, false), (2, false, false), (3, false, true)] := by
  decide

end LunaVerif.MultibyteIn
