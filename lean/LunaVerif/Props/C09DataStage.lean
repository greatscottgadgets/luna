import LunaVerif.Props.C09Seq
/-!
# C09 — the whole data stage on the handler models

The host reads the data stage in order: the `k`-th IN starts the handler at `start_position = k·mps`
(`stageReqs`), one request per packet of the specification's `dataStage`.  Composition of the
per-request theorems, return-to-idle and `dataStage`: the model's output is the packets of
`dataStage d wLength mps` — full packets, the short packet or the trailing ZLP — one after the other.
-/
namespace LunaVerif.Desc

/-- the output trace consists of the given responses, in order, each over its window of cycles. -/
def Answers (L : Nat) : List (Response × List Bool) → List Beat → Prop
  | [], out => out = []
  | (r, rs) :: t, out => ∃ lat, lat ≤ L ∧ ∃ rest, out = respTrace lat r rs ++ rest ∧ Answers L t rest

theorem answers_of_all (spec : Req → Response) (L : Nat) (qs : List Req) : ∀ out,
    AnswersAll spec L qs out → Answers L (qs.map (fun q => (spec q, q.rs))) out := by
  induction qs with
  | nil => intro out h; exact h
  | cons q qs ih =>
    intro out ⟨lat, hlat, rest, h1, h2⟩
    exact ⟨lat, hlat, rest, h1, ih rest h2⟩

/-- the host's in-order requests from the `k`-th IN on, one per window. -/
def stageReqs (ty idx l mps : Nat) : Nat → List (List Bool) → List Req
  | _, [] => []
  | k, rs :: ws => ⟨ty, idx, l, k * mps, rs⟩ :: stageReqs ty idx l mps (k + 1) ws

theorem stageReqs_mem (ty idx l mps : Nat) (ws : List (List Bool)) : ∀ k, ∀ q ∈ stageReqs ty idx l mps k ws,
    q.ty = ty ∧ q.idx = idx ∧ q.l = l ∧ ∃ j, k ≤ j ∧ j < k + ws.length ∧ q.p = j * mps := by
  induction ws with
  | nil => intro k q hq; simp [stageReqs] at hq
  | cons rs ws ih =>
    intro k q hq
    simp only [stageReqs, List.mem_cons] at hq
    rcases hq with rfl | hq
    · exact ⟨rfl, rfl, rfl, k, by omega, by simp, rfl⟩
    · obtain ⟨h1, h2, h3, j, h4, h5, h6⟩ := ih (k + 1) q hq
      exact ⟨h1, h2, h3, j, by omega, by simp only [List.length_cons]; omega, h6⟩

theorem stageReqs_map (ty idx l mps : Nat) (f : Nat → Response) (ws : List (List Bool)) : ∀ k,
    (stageReqs ty idx l mps k ws).map (fun q => (f q.p, q.rs))
      = ((List.range' k ws.length).map (fun j => f (j * mps))).zip ws := by
  induction ws with
  | nil => intro k; rfl
  | cons rs ws ih =>
    intro k
    simp only [stageReqs, List.map_cons, List.length_cons, List.range'_succ, List.zip_cons_cons, ih]

theorem stageReqs_spec (ty idx l mps : Nat) (hm : 0 < mps) (d : List Nat) (ws : List (List Bool))
    (hn : ws.length = (dataStage d l mps).length) : ∀ q ∈ stageReqs ty idx l mps 0 ws,
    q.ty = ty ∧ q.idx = idx ∧ q.l = l ∧ q.p ≤ min l d.length ∧ q.p < l
    ∧ (¬ (min l d.length % mps = 0 ∧ min l d.length < l) → q.p < min l d.length) := by
  intro q hq
  obtain ⟨h1, h2, h3, j, _, hj, hp⟩ := stageReqs_mem ty idx l mps ws 0 q hq
  have hoff := (stage_specs d l mps hm).1 j (by omega)
  -- an offset equal to the total is a multiple of `mps` below `wLength`: the ZLP's
  exact ⟨h1, h2, h3, by omega, by omega, fun hz => Nat.lt_of_le_of_ne (by omega) fun he =>
    hz ⟨by rw [← he, hp]; exact Nat.mul_mod_left j mps, by omega⟩⟩

theorem answers_stage (D : Nat → Nat → Option (List Nat)) (L : Nat) (d : List Nat) (ty idx l mps : Nat) (hm : 0 < mps)
    (hd : D ty idx = some d) (ws : List (List Bool)) (hn : ws.length = (dataStage d l mps).length) (out : List Beat)
    (h : AnswersAll (fun q => specResponse (D q.ty q.idx) q.l mps q.p) L (stageReqs ty idx l mps 0 ws) out) :
    Answers L (((dataStage d l mps).map Response.ofPacket).zip ws) out := by
  have h1 := answers_of_all _ L _ _ h
  rw [List.map_congr_left (g := fun q => (specResponse (some d) l mps q.p, q.rs)) (fun q hq => by
      obtain ⟨rfl, rfl, rfl, _⟩ := stageReqs_mem ty idx l mps ws 0 q hq
      rw [hd]),
    stageReqs_map ty idx l mps (fun p => specResponse (some d) l mps p), hn, (stage_specs d l mps hm).2] at h1
  exact h1

/-- **block_datastage_exact**: the whole data stage of GET_DESCRIPTOR(ty, idx, wLength = l) for a
descriptor `d` of a well-formed collection on the block handler model: the host's in-order read (one
request per packet of `dataStage d l mps`, at `start_position = k·mps`, each with a window in which
the response is over) produces exactly the packets of `dataStage d l mps` — the first
`min l |d|` bytes in max-packet-size pieces, ending with the short packet or the ZLP —
one after the other, and leaves the handler idle.  `hl0 : 0 < l` is carried by the statement and used nowhere in
the proof. -/
theorem block_datastage_exact (coll : Collection) (mps : Nat)
    (hwf : wellFormed coll = true)
    (hm : mps = 8 ∨ mps = 16 ∨ mps = 32 ∨ mps = 64)
    (hpw : 2 ≤ (Rom.layout coll).maxLen)
    (ty idx l : Nat) (hty : ty < 256) (hidx : idx < 256) (hl0 : 0 < l) (hl : l < 65536)
    (d : List Nat) (hd : descrBytes coll ty idx = some d)
    (ws : List (List Bool)) (hn : ws.length = (dataStage d l mps).length)
    (hwin : ∀ q ∈ stageReqs ty idx l mps 0 ws, Complete 4 (specResponse (some d) l mps q.p) q.rs)
    (s0 : Block.State) (h0 : s0.fsm = .idle) :
    Answers 4 (((dataStage d l mps).map Response.ofPacket).zip ws)
      (Block.run (blockOf coll mps) s0
        ((stageReqs ty idx l mps 0 ws).flatMap (fun q => Block.reqInputs (q.ty * 256 + q.idx) q.l q.p q.rs)))
    ∧ (Block.final (blockOf coll mps) s0
        ((stageReqs ty idx l mps 0 ws).flatMap (fun q => Block.reqInputs (q.ty * 256 + q.idx) q.l q.p q.rs))).fsm
        = .idle := by
  have hq := stageReqs_spec ty idx l mps (by omega) d ws hn
  have hok : ∀ q ∈ stageReqs ty idx l mps 0 ws, BlockOk coll mps q := fun q hq' => by
    obtain ⟨rfl, rfl, rfl, h1, _⟩ := hq q hq'
    exact ⟨hty, hidx, hl, fun d' hd' => by rw [hd] at hd'; cases hd'; exact h1, by rw [hd]; exact hwin q hq'⟩
  obtain ⟨ha, hf⟩ := block_requests_exact coll mps hwf hm hpw _ s0 h0 hok
  exact ⟨answers_stage (descrBytes coll) 4 d ty idx l mps (by omega) hd ws hn _ ha, hf⟩

/-- **dist_datastage_exact**: the same on the distributed (block-RAM-free) handler model.  `hl0 : 0 < l` and
`hdpos : 0 < d.length` are carried by the statement and used nowhere in the proof. -/
theorem dist_datastage_exact (coll : Collection) (mps : Nat)
    (hm : mps = 8 ∨ mps = 16 ∨ mps = 32 ∨ mps = 64)
    (hwf : ∀ d ∈ coll, d.idx < 256) (hnd : (coll.map key).Nodup)
    (ty idx l : Nat) (hidx : idx < 256) (hl0 : 0 < l) (hl : l < 65536)
    (d : List Nat) (hd : descrBytes coll ty idx = some d) (hdpos : 0 < d.length)
    (ws : List (List Bool)) (hn : ws.length = (dataStage d l mps).length)
    (hwin : ∀ q ∈ stageReqs ty idx l mps 0 ws, Complete 2 (specResponse (some d) l mps q.p) q.rs.dropLast)
    (s0 : Dist.State) (h0 : Dist.Quiescent (distOf coll mps) s0) :
    Answers 2 (((dataStage d l mps).map Response.ofPacket).zip ws)
      (Dist.run (distOf coll mps) s0
        ((stageReqs ty idx l mps 0 ws).flatMap (fun q => Dist.reqInputs (q.ty * 256 + q.idx) q.l q.p q.rs)))
    ∧ Dist.Quiescent (distOf coll mps) (Dist.final (distOf coll mps) s0
        ((stageReqs ty idx l mps 0 ws).flatMap (fun q => Dist.reqInputs (q.ty * 256 + q.idx) q.l q.p q.rs))) := by
  have hq := stageReqs_spec ty idx l mps (by omega) d ws hn
  have hok : ∀ q ∈ stageReqs ty idx l mps 0 ws, DistOk coll mps q := fun q hq' => by
    obtain ⟨rfl, rfl, rfl, h1, h2, _⟩ := hq q hq'
    exact ⟨hidx, hl, fun d' hd' => by rw [hd] at hd'; cases hd'; exact ⟨h1, h2⟩, by rw [hd]; exact hwin q hq'⟩
  obtain ⟨ha, hf⟩ := dist_requests_exact coll mps hm hwf hnd _ s0 h0 hok
  exact ⟨answers_stage (descrBytes coll) 2 d ty idx l mps (by omega) hd ws hn _ ha, hf⟩

/-- **mux_datastage_exact**: the same on the mux of the block handler (fixed descriptors) and the
distributed handler (runtime descriptors), for a descriptor of either; for a runtime descriptor the
data stage must not end with a ZLP (its generator cannot be asked for `start_position == length`).  `hl0 : 0 < l` and
`hdpos : 0 < d.length` are carried by the statement and used nowhere in the proof. -/
theorem mux_datastage_exact (fixed runtime : Collection) (mps : Nat)
    (hwf : wellFormed fixed = true)
    (hm : mps = 8 ∨ mps = 16 ∨ mps = 32 ∨ mps = 64)
    (hpw : 2 ≤ (Rom.layout fixed).maxLen)
    (hrt : ∀ d ∈ runtime, d.idx < 256) (hrn : (runtime.map key).Nodup)
    (ty idx l : Nat) (hty : ty < 256) (hidx : idx < 256) (hl0 : 0 < l) (hl : l < 65536)
    (hdisj : descrBytes fixed ty idx = none ∨ descrBytes runtime ty idx = none)
    (d : List Nat) (hd : descrBytes (fixed ++ runtime) ty idx = some d) (hdpos : 0 < d.length)
    (hnozlp : descrBytes runtime ty idx = some d → ¬ (min l d.length % mps = 0 ∧ min l d.length < l))
    (ws : List (List Bool)) (hn : ws.length = (dataStage d l mps).length)
    (hwin : ∀ q ∈ stageReqs ty idx l mps 0 ws, Complete 4 (specResponse (some d) l mps q.p) q.rs.dropLast)
    (s0 : Mux.State) (h0 : Mux.Idle (muxOf fixed runtime mps) s0) :
    Answers 4 (((dataStage d l mps).map Response.ofPacket).zip ws)
      (Mux.run (muxOf fixed runtime mps) s0
        ((stageReqs ty idx l mps 0 ws).flatMap (fun q => Block.reqInputs (q.ty * 256 + q.idx) q.l q.p q.rs)))
    ∧ Mux.Idle (muxOf fixed runtime mps) (Mux.final (muxOf fixed runtime mps) s0
        ((stageReqs ty idx l mps 0 ws).flatMap (fun q => Block.reqInputs (q.ty * 256 + q.idx) q.l q.p q.rs))) := by
  have hq := stageReqs_spec ty idx l mps (by omega) d ws hn
  have hok : ∀ q ∈ stageReqs ty idx l mps 0 ws, MuxOk fixed runtime mps q := fun q hq' => by
    obtain ⟨rfl, rfl, rfl, h1, _, h3⟩ := hq q hq'
    have hd' := hd
    rw [descrBytes_append] at hd'
    refine ⟨hty, hidx, hl, hdisj, fun d' hf => ?_, fun d' hr => ?_, by rw [hd]; exact hwin q hq'⟩
    · rw [hf] at hd'; cases hd'; exact h1
    · -- a runtime descriptor: the fixed collection has none, and no ZLP is due
      rw [hdisj.resolve_right (by rw [hr]; exact Option.some_ne_none _), hr] at hd'
      cases hd'
      exact h3 (hnozlp hr)
  obtain ⟨ha, hf⟩ := mux_requests_exact fixed runtime mps hwf hm hpw hrt hrn _ s0 h0 hok
  exact ⟨answers_stage (descrBytes (fixed ++ runtime)) 4 d ty idx l mps (by omega) hd ws hn _ ha, hf⟩

/-! ## Non-vacuity: the 16-byte configuration descriptor of `sample`, wLength 0xFFFF, mps 8 -/

def sampleCfg : List Nat := [9, 2, 16, 0, 1, 1, 0, 128, 50, 7, 5, 129, 2, 64, 0, 0]
/-- three windows: two for the full packets (one with a stalled cycle), one for the ZLP. -/
def sampleWindows : List (List Bool) :=
  [[true, true, true, true, true, true, true, true, true, true, true, true, true],
   [true, true, true, true, true, false, true, true, true, true, true, true, true, true],
   [true, true, true, true, true, true]]

-- hypotheses of `block_datastage_exact`
set_option maxRecDepth 100000 in
example : descrBytes sample 2 0 = some sampleCfg
    ∧ sampleWindows.length = (dataStage sampleCfg 0xFFFF 8).length
    ∧ ∀ q ∈ stageReqs 2 0 0xFFFF 8 0 sampleWindows, Complete 4 (specResponse (some sampleCfg) 0xFFFF 8 q.p) q.rs := by
  decide +kernel
-- its conclusion, evaluated: two full packets and the ZLP
set_option maxRecDepth 100000 in
example : Block.run (blockOf sample 8) Block.init
      ((stageReqs 2 0 0xFFFF 8 0 sampleWindows).flatMap (fun q => Block.reqInputs (q.ty * 256 + q.idx) q.l q.p q.rs))
    = respTrace 4 (.data [9, 2, 16, 0, 1, 1, 0, 128]) [true, true, true, true, true, true, true, true, true, true, true, true, true]
      ++ respTrace 4 (.data [50, 7, 5, 129, 2, 64, 0, 0]) [true, true, true, true, true, false, true, true, true, true, true, true, true, true]
      ++ respTrace 4 .zlp [true, true, true, true, true, true] := by decide +kernel
example : ((dataStage sampleCfg 0xFFFF 8).map Response.ofPacket).zip sampleWindows
    = [(.data [9, 2, 16, 0, 1, 1, 0, 128], [true, true, true, true, true, true, true, true, true, true, true, true, true]),
       (.data [50, 7, 5, 129, 2, 64, 0, 0], [true, true, true, true, true, false, true, true, true, true, true, true, true, true]),
       (.zlp, [true, true, true, true, true, true])] := by decide +kernel

end LunaVerif.Desc
