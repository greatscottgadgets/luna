import LunaVerif.Props.C56Spi
/-!
# C56 — `SyncSerialILA`: the bit-level statements about `sdo`

`spi_readout_words` (which word is loaded into the SPI transmit register for word `k` of a chip-select window) combined
with C50's serialisation argument (`SpiDevice.iter` / `shiftOutBit_iter` / `sdoBit`, the argument behind
`sdo_msb_first`) into one statement about the `sdo` pin (`window_bits` / `spi_readout_bits`): at any point of a chip-select
window, if `K` words have been completed in the window and `n ≥ 1` output edges have occurred since the last word boundary, `sdo`
carries bit `bits_per_word - n` of recorded sample `K` — the samples go out in order, most significant bit first.

The tracker `(K, n)` (`track`, `Props/C56Spi.lean`) is computed along the model's run and tied to the transmit register by
`window_run` there.  Here both components are tied to the `sck` waveform:
`K = ⌊E / bits_per_word⌋` where `E` counts the sampling edges of `sck` in the window (`sampleEdges`, a function of the `sck`
waveform, the clock polarity / phase, and the level of `sck` in the cycle before the window; `window_progress` /
`spi_readout_progress`), and `n = E mod bits_per_word + 1` while the clock sits after an output edge — both by one induction over
the window, `track_run`.  The device side never stalls; there is no time bound other than the controller's clocking: the explicit
hypothesis is `InWindow` (chip select high, no trigger) plus the number of sampling edges the controller has produced
(`spi_readout_covers`: `depth · bits_per_word` of them complete all `depth` words).  `window_pins` / `spi_readout_pins`: the
controller's sampling edge number `E` reads bit `bits_per_word - 1 - E mod bits_per_word` of recorded sample
`⌊E / bits_per_word⌋` — for every clock waveform whose first edge in the window is an output edge.

Each statement but `spi_readout_covers` is proved from any state that holds a buffer (`Holds`, the `window_*` forms); the
`spi_readout_*` forms are the first window after a capture.  The statements about bits (`*_bits`, `*_pins`) are for MSB first
(`hm : msbFirst = true`, as `SyncSerialILA` builds its interface), the others do not read the bit order.
-/
namespace LunaVerif.IlaSpi
open LunaVerif.Ila

theorem sampleWord_length (c : Config) (M : List Nat) (q : Nat) : (sampleWord c M q).length = c.spi.w := by
  unfold sampleWord
  generalize memRead M (q % wd c) = v
  generalize c.spi.w = w
  induction w generalizing v with
  | zero => rfl
  | succ w ih => simp [SpiDevice.natToBits, ih]

/-- `spi_readout_bits` from any state that holds `M` (MSB first, `hm`) -/
theorem window_bits (c : Config) (hw : 4 ≤ c.spi.w) (hcs : c.spi.csIdlesHigh = false) (hm : c.spi.msbFirst = true)
    (M : List Nat) (s : State) (h : Holds c M s) (g1 g2 g3 g4 : In) (hg : AtRest [g1, g2, g3, g4]) (ws : List In)
    (hws : InWindow ws) (y : In) :
    let s0 := runState c s [g1, g2, g3, g4]
    let p := track c (0, 0) s0 ws
    1 ≤ p.2 → some (step c (runState c s0 ws) y).2.sdo = (sampleWord c M p.1)[c.spi.w - p.2]? := by
  intro s0 p hn
  obtain ⟨w1, w2, _⟩ := window_start c hcs M s h.core g1 g2 g3 g4 hg
  obtain ⟨m, _, e, _, _, hb⟩ := window_run c hw hcs M ws 0 0 0 s0 w1 w2 hws
  have hout : (step c (runState c s0 ws) y).2.sdo = (runState c s0 ws).spi.sdo := rfl
  rw [hout, hb.sdo hn, ← e, SpiDevice.shiftOutBit_iter c.spi _ (by rw [sampleWord_length]; omega) p.2 hn]
  simp only [SpiDevice.sdoBit, hm, if_true, sampleWord_length]
  rfl

/-- **spi_readout_bits**: under the hypotheses of `spi_readout_words` (trigger seen by the idle analyzer, `depth` capture
cycles, chip select low and no trigger for at least four cycles, then a chip-select window `ws` without a trigger and with
any SPI clock activity) and MSB first (`hm`), at ANY point of the window: let `K` be the number of words completed in the window so far and
`n` the number of output edges since the last word boundary (`track`).  If `n ≥ 1`, the `sdo` pin (in the following cycle
`y`, whatever its inputs) carries bit `bits_per_word - n` of recorded sample `K` (`sampleWord c S K`, `= S[K]` for
`K < depth`: `sampleWord_lt`; index 0 = least significant bit): the recorded samples leave in order, each most
significant bit first. -/
theorem spi_readout_bits (c : Config) (hw : 4 ≤ c.spi.w) (hcs : c.spi.csIdlesHigh = false) (hm : c.spi.msbFirst = true)
    (hd : 1 ≤ c.ila.depth)
    (σ : State) (hσ : IdleState c.ila σ.core) (x0 : In) (ht : x0.trigger = true) (xs : List In)
    (hl : xs.length = c.ila.depth) (gs : List In) (hgs : AtRest gs) (g1 g2 g3 g4 : In)
    (hg : AtRest [g1, g2, g3, g4]) (ws : List In) (hws : InWindow ws) (y : In) :
    let s0 := runState c σ (x0 :: xs ++ gs ++ [g1, g2, g3, g4])
    let S := ((σ.core.dl ++ (x0 :: xs).map (·.inputs)).drop 1).take c.ila.depth
    let p := track c (0, 0) s0 ws
    1 ≤ p.2 → some (step c (runState c s0 ws) y).2.sdo = (sampleWord c S p.1)[c.spi.w - p.2]? := by
  intro s0 S p hn
  have := window_bits c hw hcs hm _ _ (readout_holds c hd σ hσ x0 ht xs hl gs hgs.noTrig) g1 g2 g3 g4 hg ws hws y
  rw [← runState_append c (x0 :: xs ++ gs) [g1, g2, g3, g4] σ] at this
  exact this hn

/-- number of sampling edges of the SPI clock in a stretch of cycles, computed from the `sck` pin alone (`p` = level of the
polarity-corrected clock in the cycle before) -/
def sampleEdges (c : SpiDevice.Config) : Bool → List In → Nat
  | _, [] => 0
  | p, x :: xs =>
    (if SpiDevice.sampleEdge c p ⟨x.sck, x.sdi, x.cs, []⟩ then 1 else 0) + sampleEdges c (x.sck != c.pol) xs

theorem sampleEdge_pin (c : Config) (s : State) (x : In) (p : Bool) :
    SpiDevice.sampleEdge c.spi p (spiIn c s x) = SpiDevice.sampleEdge c.spi p ⟨x.sck, x.sdi, x.cs, []⟩ := rfl

/-- 1 while the clock sits at the level it has after an output edge (`phase`), 0 at the level after a sampling edge -/
def afterOut (ph p : Bool) : Nat := bif p == ph then 1 else 0

/-- an output edge takes the clock to the level after an output edge, a sampling edge away from it -/
theorem afterOut_step (c : SpiDevice.Config) (p : Bool) (i : SpiDevice.In) :
    afterOut c.phase p + (SpiDevice.outputEdge c p i).toNat =
      afterOut c.phase (i.sck != c.pol) + (SpiDevice.sampleEdge c p i).toNat := by
  simp only [SpiDevice.sampleEdge, SpiDevice.outputEdge, SpiDevice.leading, SpiDevice.trailing, SpiDevice.serialClock,
    afterOut]
  generalize (i.sck != c.pol) = k
  cases c.phase <;> cases p <;> cases k <;> rfl

/-- from any point of a chip-select window at which the bit counter is in range.  The invariant of the third clause: the output
edges since the last word boundary are the bits of the current word already sampled, plus one while the clock sits after an output
edge -/
theorem track_run (c : Config) (hcs : c.spi.csIdlesHigh = false) (ws : List In) :
    ∀ (K n : Nat) (s : State), s.spi.bitCount < c.spi.w → InWindow ws →
      (track c (K, n) s ws).1 = K + (s.spi.bitCount + sampleEdges c.spi s.spi.pastClk ws) / c.spi.w ∧
      (runState c s ws).spi.bitCount = (s.spi.bitCount + sampleEdges c.spi s.spi.pastClk ws) % c.spi.w ∧
      (n = s.spi.bitCount + afterOut c.spi.phase s.spi.pastClk →
        (track c (K, n) s ws).2 =
          (runState c s ws).spi.bitCount + afterOut c.spi.phase (runState c s ws).spi.pastClk) := by
  induction ws with
  | nil =>
    intro K n s hb _
    simp [track, sampleEdges, runState, Nat.div_eq_of_lt hb, Nat.mod_eq_of_lt hb]
  | cons x xs ih =>
    intro K n s hb hin
    have hrest : InWindow xs := fun y hy => hin y (by simp [hy])
    obtain ⟨b1, b2, b3, -⟩ := win_spi c hcs s x (hin x (by simp)).1
    have hlev := afterOut_step c.spi s.spi.pastClk (spiIn c s x)
    have hex := SpiDevice.edges_exclusive c.spi s.spi.pastClk (spiIn c s x)
    rw [show (spiIn c s x).sck = x.sck from rfl] at hlev
    simp only [track, runState, sampleEdges, ← sampleEdge_pin c s x]
    obtain ⟨e, he⟩ : ∃ e, SpiDevice.sampleEdge c.spi s.spi.pastClk (spiIn c s x) = e := ⟨_, rfl⟩
    obtain ⟨o, ho⟩ : ∃ o, SpiDevice.outputEdge c.spi s.spi.pastClk (spiIn c s x) = o := ⟨_, rfl⟩
    simp only [he, ho] at b1 b3 hlev hex ⊢
    by_cases hlast : e = true ∧ s.spi.bitCount + 1 = c.spi.w
    · obtain ⟨rfl, hl⟩ := hlast
      have hc : completing c.spi s.spi (spiIn c s x) = true := by rw [b1]; simp [hl]
      rw [hc, if_pos rfl] at b3
      obtain ⟨i1, i2, i3⟩ := ih (K + 1) 0 (step c s x).1 (by rw [b3]; omega) hrest
      rw [b3, b2, Nat.zero_add] at i1 i2 i3
      have e1 : s.spi.bitCount + (1 + sampleEdges c.spi (x.sck != c.spi.pol) xs) =
          c.spi.w + sampleEdges c.spi (x.sck != c.spi.pol) xs := by omega
      simp only [hc, if_true, e1, Nat.add_div_left _ (show 0 < c.spi.w by omega), Nat.add_mod_left]
      refine ⟨by rw [i1]; omega, i2, fun _ => i3 ?_⟩
      have : afterOut c.spi.phase s.spi.pastClk ≤ 1 := by unfold afterOut; cases (s.spi.pastClk == c.spi.phase) <;> decide
      simp [hex rfl] at hlev
      omega
    · have hc : completing c.spi s.spi (spiIn c s x) = false := by
        rw [b1]; cases e <;> simp at hlast ⊢; exact hlast
      have hbc : (step c s x).1.spi.bitCount = s.spi.bitCount + e.toNat ∧ s.spi.bitCount + e.toNat < c.spi.w := by
        rw [b3, hc]
        cases e
        · exact ⟨rfl, hb⟩
        · have : s.spi.bitCount + 1 < c.spi.w := by simp at hlast; omega
          exact ⟨SpiDevice.bc_wrap c.spi.w s.spi.bitCount this, this⟩
      obtain ⟨i1, i2, i3⟩ := ih K (n + o.toNat) (step c s x).1 (by rw [hbc.1]; exact hbc.2) hrest
      rw [hbc.1, b2] at i1 i2 i3
      have e1 : s.spi.bitCount + ((if e = true then 1 else 0) + sampleEdges c.spi (x.sck != c.spi.pol) xs) =
          s.spi.bitCount + e.toNat + sampleEdges c.spi (x.sck != c.spi.pol) xs := by cases e <;> simp <;> omega
      have e2 : (if o = true then (K, n + 1) else (K, n)) = (K, n + o.toNat) := by cases o <;> rfl
      simp only [hc, Bool.false_eq_true, if_false, e1, e2]
      exact ⟨i1, i2, fun hn => i3 (by omega)⟩

theorem window_spi_state (c : Config) (hcs : c.spi.csIdlesHigh = false) (M : List Nat) (s : State)
    (h : Holds c M s) (g1 g2 g3 g4 : In) (hg : AtRest [g1, g2, g3, g4]) :
    (runState c s [g1, g2, g3, g4]).spi.bitCount = 0 ∧
    (runState c s [g1, g2, g3, g4]).spi.pastClk = (g4.sck != c.spi.pol) := by
  obtain ⟨w1, _, _⟩ := window_start c hcs M s h.core g1 g2 g3 g4 hg
  refine ⟨by have := w1.bc; omega, ?_⟩
  have h3 : runState c s [g1, g2, g3, g4] = (step c (runState c s [g1, g2, g3]) g4).1 := by
    have : [g1, g2, g3, g4] = [g1, g2, g3] ++ [g4] := rfl
    rw [this, runState_append]; rfl
  rw [h3, (step_proj c _ g4).2.1, SpiDevice.step_pastClk]; rfl

/-- `spi_readout_progress` from any state that holds `M` -/
theorem window_progress (c : Config) (hw : 4 ≤ c.spi.w) (hcs : c.spi.csIdlesHigh = false) (M : List Nat) (s : State)
    (h : Holds c M s) (g1 g2 g3 g4 : In) (hg : AtRest [g1, g2, g3, g4]) (ws : List In) (hws : InWindow ws) :
    (track c (0, 0) (runState c s [g1, g2, g3, g4]) ws).1 = sampleEdges c.spi (g4.sck != c.spi.pol) ws / c.spi.w ∧
    (runState c (runState c s [g1, g2, g3, g4]) ws).spi.bitCount = sampleEdges c.spi (g4.sck != c.spi.pol) ws % c.spi.w := by
  obtain ⟨hb0, hpc⟩ := window_spi_state c hcs M s h g1 g2 g3 g4 hg
  obtain ⟨t1, t2, _⟩ := track_run c hcs ws 0 0 _ (by rw [hb0]; omega) hws
  rw [hb0, hpc, Nat.zero_add] at t1 t2
  exact ⟨by rw [t1, Nat.zero_add], t2⟩

/-- **spi_readout_progress**: under the hypotheses of `spi_readout_words` (trigger seen by the idle
analyzer, `depth` capture cycles, chip select low and no trigger for at least four cycles `g1 .. g4`, then a chip-select
window `ws` without a trigger), the number of words completed at any point of the window is determined by the SPI
controller's clock alone: `⌊E / bits_per_word⌋`, `E` = number of sampling edges of `sck` in the window so far (counted on the
pin, starting from the level `sck` had in `g4`).  The device never stalls: the count follows the controller's clock alone
(`spi_readout_covers`: `depth · bits_per_word` sampling edges complete at least `depth` words). -/
theorem spi_readout_progress (c : Config) (hw : 4 ≤ c.spi.w) (hcs : c.spi.csIdlesHigh = false) (hd : 1 ≤ c.ila.depth)
    (σ : State) (hσ : IdleState c.ila σ.core) (x0 : In) (ht : x0.trigger = true) (xs : List In)
    (hl : xs.length = c.ila.depth) (gs : List In) (hgs : AtRest gs) (g1 g2 g3 g4 : In)
    (hg : AtRest [g1, g2, g3, g4]) (ws : List In) (hws : InWindow ws) :
    let s0 := runState c σ (x0 :: xs ++ gs ++ [g1, g2, g3, g4])
    (track c (0, 0) s0 ws).1 = sampleEdges c.spi (g4.sck != c.spi.pol) ws / c.spi.w := by
  intro s0
  have := (window_progress c hw hcs _ _ (readout_holds c hd σ hσ x0 ht xs hl gs hgs.noTrig) g1 g2 g3 g4 hg ws hws).1
  rwa [← runState_append] at this

/-- a window in which the controller has produced at least `depth · bits_per_word` sampling edges has completed at least
`depth` words (one direction; first window after a capture only) -/
theorem spi_readout_covers (c : Config) (hw : 4 ≤ c.spi.w) (hcs : c.spi.csIdlesHigh = false) (hd : 1 ≤ c.ila.depth)
    (σ : State) (hσ : IdleState c.ila σ.core) (x0 : In) (ht : x0.trigger = true) (xs : List In)
    (hl : xs.length = c.ila.depth) (gs : List In) (hgs : AtRest gs) (g1 g2 g3 g4 : In)
    (hg : AtRest [g1, g2, g3, g4]) (ws : List In) (hws : InWindow ws)
    (he : c.ila.depth * c.spi.w ≤ sampleEdges c.spi (g4.sck != c.spi.pol) ws) :
    c.ila.depth ≤ (track c (0, 0) (runState c σ (x0 :: xs ++ gs ++ [g1, g2, g3, g4])) ws).1 := by
  have := spi_readout_progress c hw hcs hd σ hσ x0 ht xs hl gs hgs g1 g2 g3 g4 hg ws hws
  simp only at this
  rw [this]
  exact (Nat.le_div_iff_mul_le (by omega)).mpr he

def clkAfter (c : SpiDevice.Config) : Bool → List In → Bool
  | p, [] => p
  | _, x :: xs => clkAfter c (x.sck != c.pol) xs

theorem pastClk_run (c : Config) (ws : List In) : ∀ s, (runState c s ws).spi.pastClk = clkAfter c.spi s.spi.pastClk ws := by
  induction ws with
  | nil => intro s; rfl
  | cons x xs ih =>
    intro s
    simp only [runState, clkAfter]
    rw [ih, (step_proj c s x).2.1, SpiDevice.step_pastClk]; rfl

/-- `spi_readout_pins` from any state that holds `M` -/
theorem window_pins (c : Config) (hw : 4 ≤ c.spi.w) (hcs : c.spi.csIdlesHigh = false) (hm : c.spi.msbFirst = true)
    (M : List Nat) (s : State) (h : Holds c M s) (g1 g2 g3 g4 : In) (hg : AtRest [g1, g2, g3, g4])
    (hclk : (g4.sck != c.spi.pol) = !c.spi.phase) (ws : List In) (hws : InWindow ws)
    (hout : clkAfter c.spi (g4.sck != c.spi.pol) ws = c.spi.phase) (y : In) :
    let s0 := runState c s [g1, g2, g3, g4]
    let E := sampleEdges c.spi (g4.sck != c.spi.pol) ws
    some (step c (runState c s0 ws) y).2.sdo = (sampleWord c M (E / c.spi.w))[c.spi.w - 1 - E % c.spi.w]? := by
  intro s0 E
  obtain ⟨hb0, hpc⟩ := window_spi_state c hcs M s h g1 g2 g3 g4 hg
  have hb0' : s0.spi.bitCount = 0 := hb0
  have hpc' : s0.spi.pastClk = (g4.sck != c.spi.pol) := hpc
  obtain ⟨hprog, hwords⟩ := window_progress c hw hcs M s h g1 g2 g3 g4 hg ws hws
  have hbits := (track_run c hcs ws 0 0 s0 (by rw [hb0']; omega) hws).2.2
    (by rw [hb0', hpc', hclk]; cases c.spi.phase <;> rfl)
  have hpe : (runState c s0 ws).spi.pastClk = c.spi.phase := by
    rw [pastClk_run, hpc']; exact hout
  have hao : afterOut c.spi.phase c.spi.phase = 1 := by cases c.spi.phase <;> rfl
  have hp2 : (track c (0, 0) s0 ws).2 = E % c.spi.w + 1 := by rw [hbits, hpe, hao, hwords]
  have hbitsThm := window_bits c hw hcs hm M s h g1 g2 g3 g4 hg ws hws y
  simp only at hbitsThm
  have := hbitsThm (by rw [hp2]; omega)
  rw [this, hprog, hp2]
  congr 1
  omega

/-- **spi_readout_pins**: `spi_readout_bits` stated on the pins alone.  Hypotheses of `spi_readout_bits`, and the SPI clock rests,
before the window, at the level it has after a sampling edge (`hclk`: the first edge in the window is an output edge — the
monitor's "judged window" condition).  At ANY point of the chip-select window `ws` at which the clock sits after an output edge
(`clkAfter … = phase`: the next edge will be a sampling edge), with `E` = the number of sampling edges of `sck` in the window so
far: the `sdo` pin carries bit `bits_per_word - 1 - E mod bits_per_word` of recorded sample `⌊E / bits_per_word⌋` — i.e. the
controller's sampling edge number `E` (counting from 0) reads exactly that bit: the samples leave in order, MSB first,
`bits_per_word` clock periods each, for every clock waveform. -/
theorem spi_readout_pins (c : Config) (hw : 4 ≤ c.spi.w) (hcs : c.spi.csIdlesHigh = false) (hm : c.spi.msbFirst = true)
    (hd : 1 ≤ c.ila.depth)
    (σ : State) (hσ : IdleState c.ila σ.core) (x0 : In) (ht : x0.trigger = true) (xs : List In)
    (hl : xs.length = c.ila.depth) (gs : List In) (hgs : AtRest gs) (g1 g2 g3 g4 : In)
    (hg : AtRest [g1, g2, g3, g4]) (hclk : (g4.sck != c.spi.pol) = !c.spi.phase)
    (ws : List In) (hws : InWindow ws) (hout : clkAfter c.spi (g4.sck != c.spi.pol) ws = c.spi.phase) (y : In) :
    let s0 := runState c σ (x0 :: xs ++ gs ++ [g1, g2, g3, g4])
    let S := ((σ.core.dl ++ (x0 :: xs).map (·.inputs)).drop 1).take c.ila.depth
    let E := sampleEdges c.spi (g4.sck != c.spi.pol) ws
    some (step c (runState c s0 ws) y).2.sdo = (sampleWord c S (E / c.spi.w))[c.spi.w - 1 - E % c.spi.w]? := by
  intro s0 S E
  have := window_pins c hw hcs hm _ _ (readout_holds c hd σ hσ x0 ht xs hl gs hgs.noTrig) g1 g2 g3 g4 hg hclk ws hws hout y
  rw [← runState_append c (x0 :: xs ++ gs) [g1, g2, g3, g4] σ] at this
  exact this

/-! ## Non-vacuity (the configuration of `Props/C56Spi.lean`: depth 2, 4-bit words, samples 5 = 0101b and 6 = 0110b):
after the first output edge `sdo` carries bit 3 of sample 0; after 4 bits and 2 more output edges bit 2 of sample 1 -/
example : track cfgX (0, 0) (runState cfgX (init cfgX) (capX ++ [restX, restX, restX, restX])) (bitX.take 1) = (0, 1) := by
  decide
example : track cfgX (0, 0) (runState cfgX (init cfgX) (capX ++ [restX, restX, restX, restX]))
    (bitX ++ bitX ++ bitX ++ bitX ++ bitX ++ bitX.take 1) = (1, 2) := by decide
example : (step cfgX (runState cfgX (runState cfgX (init cfgX) (capX ++ [restX, restX, restX, restX]))
    (bitX ++ bitX ++ bitX ++ bitX ++ bitX ++ bitX.take 1)) restX).2.sdo = true ∧
    (SpiDevice.natToBits 4 6)[4 - 2]? = some true := by decide

/-! ## Non-vacuity (the configuration of `Props/C56Spi.lean`: 4-bit words): 5 clock periods and the first half of the sixth =
5 sampling edges = 1 word completed -/
example : sampleEdges cfgX.spi (restX.sck != cfgX.spi.pol) (bitX ++ bitX ++ bitX ++ bitX ++ bitX ++ bitX.take 1) / cfgX.spi.w = 1 := by
  decide

/-! ## Non-vacuity (the configuration of `Props/C56Spi.lean`: depth 2, 4-bit words, samples 5 = 0101b and 6 = 0110b): after five
clock periods and the output edge of the sixth, `E = 5`: bit `4 - 1 - 5 mod 4 = 2` of sample `5 / 4 = 1` -/
example : (restX.sck != cfgX.spi.pol) = !cfgX.spi.phase := by decide
example : clkAfter cfgX.spi (restX.sck != cfgX.spi.pol) (bitX ++ bitX ++ bitX ++ bitX ++ bitX ++ bitX.take 1) = cfgX.spi.phase ∧
    sampleEdges cfgX.spi (restX.sck != cfgX.spi.pol) (bitX ++ bitX ++ bitX ++ bitX ++ bitX ++ bitX.take 1) = 5 := by decide

end LunaVerif.IlaSpi
