import LunaVerif.Model.Memory.TxnFifo
/-!
# C18 — Transactional FIFO behaves as a commit/rollback queue

"The FIFO behaves like a bounded queue in which writes become readable only after a write commit and
are erased by a write discard, and reads are finalised by a read commit and undone by a read discard;
no entry is lost, duplicated or reordered. 'empty' is true exactly when no committed, unread entry
remains, 'full' exactly when no further write fits, and 'space available' equals the capacity minus
the entries held (including uncommitted writes and un-finalised reads)."

Specification: `Queue` — three lists (reads not yet finalised, committed unread entries, uncommitted
writes); the capacity is the `depth` argument of `Queue.step`, `Queue.obs` and `Queue.run`.  Theorem `fifo_refines_queue`: for every depth, every entry type and every
input history in which commit and discard are never asserted together on one side, the four outputs
of the pointer/memory model equal those of the queue (read_data is compared when not empty).
`queue_conserves` states the no-loss/no-duplication/no-reordering reading on the queue itself.

Both rest on two conservation laws of one cycle of the queue, `Queue.read_conserves` and
`Queue.write_conserves`.  Appended, they account for every entry between the committed read pointer and the
current write pointer, which is the step of the refinement (`rel_step`); the first alone, iterated, is
`queue_conserves`.
-/
namespace LunaVerif.TxnFifo

structure Queue (α : Type) where
  R : List α     -- read but not finalised (oldest first)
  C : List α     -- committed and unread
  W : List α     -- written, not committed

def Queue.held (q : Queue α) : Nat := q.R.length + q.C.length + q.W.length

/-- What a user of the FIFO can observe: the next entry (only when there is one), the flags and the
free space. -/
structure Obs (α : Type) where
  head  : Option α
  empty : Bool
  full  : Bool
  space : Nat
deriving DecidableEq, Repr

def obs (o : Out α) : Obs α := ⟨if o.empty then none else some o.rdata, o.empty, o.full, o.space⟩

def Queue.obs (depth : Nat) (q : Queue α) : Obs α :=
  ⟨q.C.head?, q.C.isEmpty, q.held == depth, depth - q.held⟩

/-- The environment precondition: per side, commit and discard are not requested together. -/
def Legal (i : In α) : Prop := ¬(i.wcommit = true ∧ i.wdiscard = true) ∧ ¬(i.rcommit = true ∧ i.rdiscard = true)

/-- One cycle of the commit/rollback queue.  A write is performed when requested and not full, a read
when requested and not empty (both judged on the state before the cycle).  Write side: discard erases
the uncommitted writes (including one requested in the same cycle); commit makes the *earlier* writes
readable, a write requested in the same cycle starts the next transaction.  Read side: discard returns
the un-finalised reads to the front of the queue (a read requested in the same cycle is dropped);
commit finalises the *earlier* reads, a read performed in the same cycle starts the next transaction. -/
def Queue.step (depth : Nat) (q : Queue α) (i : In α) : Queue α :=
  let doW := i.wen && !(q.held == depth)
  let doR := i.ren && !q.C.isEmpty
  let taken := if doR then q.C.take 1 else []
  let rest  := if doR then q.C.drop 1 else q.C
  let app   := if doW then [i.wdata] else []
  let (R', C') := if i.rdiscard then ([], q.R ++ q.C) else ((if i.rcommit then [] else q.R) ++ taken, rest)
  let (Cadd, W') := if i.wdiscard then ([], []) else if i.wcommit then (q.W, app) else ([], q.W ++ app)
  ⟨R', C' ++ Cadd, W'⟩

def Queue.run (depth : Nat) : Queue α → List (In α) → List (Obs α)
  | _, [] => []
  | q, i :: is => q.obs depth :: Queue.run depth (q.step depth i) is

def Queue.nil : Queue α := ⟨[], [], []⟩

def Queue.commits (q : Queue α) (i : In α) : List α := if i.wcommit && !i.wdiscard then q.W else []
def Queue.finals (q : Queue α) (i : In α) : List α := if i.rcommit && !i.rdiscard then q.R else []

def Queue.taken (q : Queue α) (ren : Bool) : List α := if ren && !q.C.isEmpty then q.C.take 1 else []
def Queue.pushed (depth : Nat) (q : Queue α) (i : In α) : List α :=
  if i.wen && !(q.held == depth) then [i.wdata] else []

/-- The entries a `write_discard` throws away in this cycle: the uncommitted writes, this cycle's included. -/
def Queue.erased (depth : Nat) (q : Queue α) (i : In α) : List α := if i.wdiscard then q.W ++ q.pushed depth i else []

theorem Queue.taken_append_drop (q : Queue α) (ren : Bool) : q.taken ren ++ q.C.drop (q.taken ren).length = q.C := by
  unfold Queue.taken
  split
  · cases q.C <;> simp
  · rfl

theorem Queue.pushed_length_le (d : Nat) (q : Queue α) (i : In α) :
    (q.pushed d i).length ≤ if i.wen = true then 1 else 0 := by
  unfold Queue.pushed
  cases i.wen <;> cases (q.held == d) <;> simp

theorem Queue.pushed_of_room (d : Nat) (q : Queue α) (i : In α) (h : i.wen = true → q.held < d) :
    q.pushed d i = if i.wen then [i.wdata] else [] := by
  unfold Queue.pushed
  cases hw : i.wen
  · rfl
  · have := h hw
    have : (q.held == d) = false := by simp; omega
    simp [this]

theorem Queue.step_R (d : Nat) (q : Queue α) (i : In α) :
    (q.step d i).R = if i.rdiscard then [] else (if i.rcommit then [] else q.R) ++ q.taken i.ren := by
  simp only [Queue.step, Queue.taken]
  cases i.rdiscard <;> rfl

theorem Queue.step_C (d : Nat) (q : Queue α) (i : In α) :
    (q.step d i).C = (if i.rdiscard then q.R ++ q.C else q.C.drop (q.taken i.ren).length) ++ q.commits i := by
  have hd : q.C.drop (q.taken i.ren).length = if i.ren && !q.C.isEmpty then q.C.drop 1 else q.C := by
    unfold Queue.taken
    split
    · cases q.C <;> rfl
    · rfl
  rw [hd]
  simp only [Queue.step, Queue.commits]
  cases i.rdiscard <;> cases i.wdiscard <;> cases i.wcommit <;> rfl

theorem Queue.step_W (d : Nat) (q : Queue α) (i : In α) :
    (q.step d i).W = if i.wdiscard then [] else (if i.wcommit then [] else q.W) ++ q.pushed d i := by
  simp only [Queue.step, Queue.pushed]
  cases i.wdiscard <;> cases i.wcommit <;> rfl

theorem Queue.taken_append_step_C (d : Nat) (q : Queue α) (i : In α) (hrd : i.rdiscard = false) :
    q.taken i.ren ++ (q.step d i).C = q.C ++ q.commits i := by
  rw [Queue.step_C, hrd, ← List.append_assoc]
  exact congrArg (· ++ _) (q.taken_append_drop i.ren)

/-- One cycle with room for the write and no read discard, as its users apply it: the new `W`, and what is taken with the
new `C`. -/
theorem Queue.step_apply (q : Queue α) (d : Nat) (i : In α) (hrd : i.rdiscard = false)
    (hwen : i.wen = true → q.held < d) :
    (q.step d i).W = (if i.wdiscard then [] else
      (if i.wcommit then [] else q.W) ++ (if i.wen then [i.wdata] else [])) ∧
    q.taken i.ren ++ (q.step d i).C = q.C ++ q.commits i := by
  refine ⟨?_, Queue.taken_append_step_C d q i hrd⟩
  rw [Queue.step_W, Queue.pushed_of_room d q i hwen]

/-- The read side of one cycle neither loses nor invents an entry: what `read_commit` finalises, then the new `R`
and `C`, are the old `R` and `C` and what `write_commit` adds. -/
theorem Queue.read_conserves (d : Nat) (q : Queue α) (i : In α) :
    q.finals i ++ ((q.step d i).R ++ (q.step d i).C) = q.R ++ q.C ++ q.commits i := by
  have ht := q.taken_append_drop i.ren
  rw [Queue.step_R, Queue.step_C, Queue.finals]
  generalize q.taken i.ren = taken at ht ⊢
  generalize q.C.drop taken.length = rest at ht ⊢
  rw [← ht]
  cases i.rdiscard <;> cases i.rcommit <;> simp

/-- The write side likewise: what is committed, the new `W` and what `write_discard` erases are the old `W` and the
entry written. -/
theorem Queue.write_conserves (d : Nat) (q : Queue α) (i : In α) :
    q.commits i ++ ((q.step d i).W ++ q.erased d i) = q.W ++ q.pushed d i := by
  rw [Queue.step_W, Queue.commits, Queue.erased]
  cases i.wdiscard <;> cases i.wcommit <;> simp

theorem Queue.held_step (d : Nat) (q : Queue α) (i : In α) :
    (q.step d i).held + (q.finals i).length + (q.erased d i).length = q.held + (q.pushed d i).length := by
  have hr := congrArg List.length (q.read_conserves d i)
  have hw := congrArg List.length (q.write_conserves d i)
  simp only [List.length_append] at hr hw
  simp only [Queue.held]; omega

theorem Queue.held_step_le (d : Nat) (q : Queue α) (i : In α) :
    (q.step d i).held ≤ q.held + (if i.wen = true then 1 else 0) := by
  have := q.held_step d i
  have := q.pushed_length_le d i
  omega

/-- `n` applications of `nxt` to a pointer `p ≤ depth` (for `n ≤ depth + 1`), in closed form. -/
def adv (depth p n : Nat) : Nat := if p + n ≤ depth then p + n else p + n - (depth + 1)

theorem adv_zero {d p : Nat} (hp : p ≤ d) : adv d p 0 = p := by simp [adv, hp]

theorem adv_le {d p n : Nat} (hp : p ≤ d) (hn : n ≤ d + 1) : adv d p n ≤ d := by
  unfold adv; split <;> omega

theorem nxt_adv {d p n : Nat} (hp : p ≤ d) (hn : n ≤ d) : nxt d (adv d p n) = adv d p (n + 1) := by
  unfold nxt adv; split <;> split <;> split <;> omega

theorem nxt_eq_adv_one {d p : Nat} (hp : p ≤ d) : nxt d p = adv d p 1 := by
  have := nxt_adv (d := d) (p := p) (n := 0) hp (by omega)
  rwa [adv_zero hp] at this

theorem adv_adv {d p a b : Nat} (hp : p ≤ d) (hab : a + b ≤ d + 1) :
    adv d (adv d p a) b = adv d p (a + b) := by
  unfold adv; split <;> split <;> split <;> omega

theorem adv_inj {d p j k : Nat} (hj : j ≤ d) (hk : k ≤ d) (h : adv d p j = adv d p k) : j = k := by
  unfold adv at h; split at h <;> split at h <;> omega

def seg (d : Nat) (mem : Nat → α) : Nat → Nat → List α
  | _, 0 => []
  | p, n + 1 => mem p :: seg d mem (nxt d p) n

theorem seg_length (d : Nat) (mem : Nat → α) (p n : Nat) : (seg d mem p n).length = n := by
  induction n generalizing p with
  | zero => rfl
  | succ n ih => simp [seg, ih]

theorem seg_append {d : Nat} (mem : Nat → α) {p a b : Nat} (hp : p ≤ d) (hab : a + b ≤ d + 1) :
    seg d mem p (a + b) = seg d mem p a ++ seg d mem (adv d p a) b := by
  induction a generalizing p with
  | zero => simp [seg, adv_zero hp]
  | succ a ih =>
    have h1 : nxt d p ≤ d := by rw [nxt_eq_adv_one hp]; exact adv_le hp (by omega)
    have h2 : adv d (nxt d p) a = adv d p (a + 1) := by
      rw [nxt_eq_adv_one hp, adv_adv hp (by omega)]; congr 1; omega
    have : a + 1 + b = (a + b) + 1 := by omega
    rw [this]
    simp only [seg, List.cons_append]
    rw [ih h1 (by omega), h2]

theorem seg_snoc {d : Nat} (mem : Nat → α) {p n : Nat} (hp : p ≤ d) (hn : n ≤ d) :
    seg d mem p (n + 1) = seg d mem p n ++ [mem (adv d p n)] := by
  rw [seg_append mem hp (by omega)]; rfl

theorem seg_upd {d : Nat} (mem : Nat → α) (v : α) {p n h : Nat} (hp : p ≤ d) (hn : n ≤ h) (hh : h ≤ d) :
    seg d (upd mem (adv d p h) v) p n = seg d mem p n := by
  induction n generalizing p h with
  | zero => rfl
  | succ n ih =>
    have h1 : nxt d p ≤ d := by rw [nxt_eq_adv_one hp]; exact adv_le hp (by omega)
    have h2 : adv d p h = adv d (nxt d p) (h - 1) := by
      rw [nxt_eq_adv_one hp, adv_adv hp (by omega)]; congr 1; omega
    have h3 : p ≠ adv d p h := by
      intro e
      have := adv_inj (j := 0) (k := h) (by omega) hh (by rw [adv_zero hp]; exact e)
      omega
    simp only [seg]
    congr 1
    · simp [upd, h3]
    · rw [h2]; exact ih h1 (by omega) (by omega)

theorem seg_sub {d : Nat} (mem : Nat → α) {p : Nat} (L1 L2 L3 : List α) (hp : p ≤ d)
    (hlen : L1.length + L2.length + L3.length ≤ d + 1)
    (h : seg d mem p (L1.length + L2.length + L3.length) = L1 ++ L2 ++ L3) :
    seg d mem (adv d p L1.length) L2.length = L2 := by
  rw [seg_append mem hp (by omega), seg_append mem hp (by omega), List.append_assoc, List.append_assoc] at h
  have h1 := List.append_inj h (by simp [seg_length])
  have h2 := List.append_inj h1.2 (by simp [seg_length])
  exact h2.1

/-- The pointer/memory state `s` represents the queue `q`: the pointers are the committed read pointer
advanced by the list lengths (cyclic order committed_read ≤ current_read ≤ committed_write ≤
current_write < committed_read + depth + 1), the memory holds the three lists consecutively from the
committed read pointer, and the read data register holds the oldest unread entry whenever there is
one. -/
structure Rel (d : Nat) (s : State α) (q : Queue α) : Prop where
  hcr  : s.cr ≤ d
  hrr  : s.rr = adv d s.cr q.R.length
  hcw  : s.cw = adv d s.cr (q.R.length + q.C.length)
  hww  : s.ww = adv d s.cr q.held
  hlen : q.held ≤ d
  hmem : seg d s.mem s.cr q.held = q.R ++ q.C ++ q.W
  hrd  : q.C ≠ [] → q.C.head? = some s.rdata

theorem rel_full {d : Nat} {s : State α} {q : Queue α} (h : Rel d s q) : full d s = (q.held == d) := by
  have := h.hcr; have := h.hlen
  simp only [full, h.hww, nxt, adv]
  grind

theorem rel_empty {d : Nat} {s : State α} {q : Queue α} (h : Rel d s q) : empty s = q.C.isEmpty := by
  have := h.hcr; have := h.hlen
  have hl : q.C.isEmpty = (q.C.length == 0) := by cases q.C <;> simp
  simp only [empty, h.hrr, h.hcw, adv, hl, Queue.held] at *
  grind

theorem rel_space {d : Nat} {s : State α} {q : Queue α} (h : Rel d s q) : space d s = d - q.held := by
  have := h.hcr; have := h.hlen
  simp only [space, rel_full h, h.hww, adv]
  grind

theorem rel_taken {d : Nat} {s : State α} {q : Queue α} (h : Rel d s q) (ren : Bool) :
    (if ren && !empty s then [s.rdata] else []) = q.taken ren := by
  rw [rel_empty h, Queue.taken]
  cases hC : q.C with
  | nil => simp
  | cons x xs =>
    have := h.hrd (by simp [hC])
    simp only [hC, List.head?_cons, Option.some.injEq] at this
    cases ren <;> simp [this]

theorem rel_R_nil {d : Nat} {s : State α} {q : Queue α} (h : Rel d s q) (he : s.rr = s.cr) : q.R = [] := by
  have hle : q.held ≤ d := h.hlen
  simp only [Queue.held] at hle
  exact List.eq_nil_of_length_eq_zero
    (adv_inj (by omega) (by omega) ((h.hrr.symm.trans he).trans (adv_zero h.hcr).symm))

theorem rel_obs {d : Nat} {s : State α} {q : Queue α} (h : Rel d s q) : obs (outOf d s) = q.obs d := by
  simp only [obs, outOf, Queue.obs, rel_full h, rel_empty h, rel_space h]
  congr 1
  cases hc : q.C with
  | nil => simp
  | cons x xs =>
    have := h.hrd (by simp [hc])
    simp [hc] at this ⊢
    exact this.symm

/-- The write of one cycle on the pointer side: it fits, the current write pointer and the memory follow the queue's
`pushed`, and the memory changes at most at the write address. -/
theorem rel_write {d : Nat} {s : State α} {q : Queue α} (h : Rel d s q) (i : In α) :
    q.held + (q.pushed d i).length ≤ d ∧
    (if i.wen && !full d s then nxt d s.ww else s.ww) = adv d s.cr (q.held + (q.pushed d i).length) ∧
    seg d (if i.wen && !full d s then upd s.mem s.ww i.wdata else s.mem) s.cr (q.held + (q.pushed d i).length)
      = q.R ++ q.C ++ q.W ++ q.pushed d i ∧
    ∀ a, a ≠ adv d s.cr q.held → (if i.wen && !full d s then upd s.mem s.ww i.wdata else s.mem) a = s.mem a := by
  have hlen := h.hlen
  rw [rel_full h, Queue.pushed]
  cases hw : (i.wen && !(q.held == d))
  · exact ⟨hlen, h.hww, by simpa using h.hmem, fun _ _ => rfl⟩
  · have hlt : q.held < d := by simp at hw; omega
    refine ⟨hlt, by rw [h.hww]; exact nxt_adv h.hcr hlen, ?_, fun a ha => by simp [upd, h.hww, ha]⟩
    simp only [if_true, List.length_singleton]
    rw [seg_snoc _ h.hcr hlen, h.hww, seg_upd _ _ h.hcr (Nat.le_refl _) hlen, h.hmem]
    simp [upd]

/-- The read of one cycle on the pointer side: the current read pointer follows the queue's `taken`. -/
theorem rel_read {d : Nat} {s : State α} {q : Queue α} (h : Rel d s q) (ren : Bool) :
    (if ren && !empty s then nxt d s.rr else s.rr) = adv d s.cr (q.R.length + (q.taken ren).length) := by
  have hlen := h.hlen
  rw [rel_empty h, Queue.taken, h.hrr]
  cases hr : (ren && !q.C.isEmpty)
  · rfl
  · have : 0 < q.C.length := by cases hC : q.C <;> simp_all
    simp only [Queue.held] at hlen
    simp only [if_true, List.length_take]
    rw [nxt_adv h.hcr (by omega)]; congr 2; omega

/-- How `Rel` is established after a cycle.  From the old committed read pointer `cr`, the memory over the `h`
entries held and the entry written in this cycle (`app`, empty or one entry; `mem'` differs from `mem` at most at
the write address `adv d cr h`) reads `L1 ++ (R' ++ C' ++ W') ++ L3`: `L1` leaves at the front (what a `read_commit`
finalises), `L3` is given up at the back (what a `write_discard` erases), and the four pointers of `s'` stand at the
four boundaries of `R'`, `C'`, `W'` in between.  The read data register is loaded from the memory *before* the write
(`e6`); that is the right entry because `C'` lies within the `h` entries held already (`hC`). -/
theorem rel_intro {d cr h : Nat} {mem mem' : Nat → α} {s' : State α}
    (L1 R' C' W' L3 app : List α)
    (hcr : cr ≤ d) (hh : h + app.length ≤ d)
    (hmw : ∀ a, a ≠ adv d cr h → mem' a = mem a)
    (Hbig : seg d mem' cr (h + app.length) = L1 ++ (R' ++ C' ++ W') ++ L3)
    (hC : L1.length + R'.length + C'.length ≤ h)
    (e1 : s'.cr = adv d cr L1.length) (e2 : s'.rr = adv d cr (L1.length + R'.length))
    (e3 : s'.cw = adv d cr (L1.length + R'.length + C'.length))
    (e4 : s'.ww = adv d cr (L1.length + R'.length + C'.length + W'.length))
    (e5 : s'.mem = mem') (e6 : s'.rdata = mem s'.rr) :
    Rel d s' ⟨R', C', W'⟩ := by
  have hsum : h + app.length = L1.length + (R' ++ C' ++ W').length + L3.length := by
    simpa only [seg_length, List.length_append] using congrArg List.length Hbig
  rw [hsum] at Hbig
  have hcr' : s'.cr ≤ d := by rw [e1]; exact adv_le hcr (by omega)
  have hm := seg_sub _ L1 (R' ++ C' ++ W') L3 hcr (by omega) Hbig
  simp only [List.length_append] at hm hsum
  refine ⟨hcr', ?_, ?_, ?_, ?_, ?_, ?_⟩ <;> dsimp only [Queue.held]
  · rw [e2, e1, adv_adv hcr (by omega)]
  · rw [e3, e1, adv_adv hcr (by omega)]; congr 1; omega
  · rw [e4, e1, adv_adv hcr (by omega)]; congr 1; omega
  · omega
  · rw [e5, e1]; exact hm
  · intro hne
    have hm2 := seg_sub mem' (p := adv d cr L1.length) R' C' W'
      (adv_le hcr (by omega)) (by omega) hm
    rw [adv_adv hcr (by omega)] at hm2
    cases C' with
    | nil => exact absurd rfl hne
    | cons x xs =>
      simp only [List.length_cons, seg, List.cons.injEq] at hm2 hC
      have hne2 : adv d cr (L1.length + R'.length) ≠ adv d cr h := by
        intro e
        have := adv_inj (by omega) (by omega) e
        omega
      rw [e6, e2, List.head?_cons, ← hm2.1, hmw _ hne2]

theorem rel_step {d : Nat} {s : State α} {q : Queue α} {i : In α} (h : Rel d s q) (hl : Legal i) :
    Rel d (step d s i).1 (q.step d i) := by
  obtain ⟨hh, hwwn, Hbig, hmw⟩ := rel_write h i
  have hrrn := rel_read h i.ren
  have hrc := q.read_conserves d i
  have hwc := q.write_conserves d i
  have lr := congrArg List.length hrc
  have lw := congrArg List.length hwc
  have hcr := h.hcr; have hrr := h.hrr; have hcw := h.hcw; have hww := h.hww
  have hcom : (q.commits i).length ≤ q.W.length := by unfold Queue.commits; split <;> simp
  simp only [List.length_append] at lr lw
  -- the memory after the write is `q.R ++ q.C ++ q.W ++ pushed`; the two conservation laws, appended, regroup it as
  -- `finals ++ (R' ++ C' ++ W') ++ erased`
  refine rel_intro (mem := s.mem) (q.finals i) (q.step d i).R (q.step d i).C (q.step d i).W (q.erased d i)
    (q.pushed d i) hcr hh hmw ?_ ?_ ?_ ?_ ?_ ?_ rfl rfl
  · rw [Hbig]
    simpa only [List.append_assoc, hwc] using (congrArg (· ++ ((q.step d i).W ++ q.erased d i)) hrc).symm
  · simp only [Queue.held]; omega
  -- the four pointers, in the order committed read, current read, committed write, current write
  all_goals simp only [Legal] at hl
  · simp only [step, Queue.finals]
    cases hc : i.rcommit <;> cases hd : i.rdiscard <;> simp [hc, hd, hrr, adv_zero hcr] at hl ⊢
  · simp only [step, Queue.finals, Queue.step_R, hrrn]
    cases hc : i.rcommit <;> cases hd : i.rdiscard <;> simp [hc, hd, adv_zero hcr] at hl ⊢
  · rw [show (q.finals i).length + (q.step d i).R.length + (q.step d i).C.length
        = q.R.length + q.C.length + (q.commits i).length by omega]
    simp only [step, Queue.commits]
    cases hc : i.wcommit <;> cases hd : i.wdiscard <;> simp [hc, hd, hcw, hww, Queue.held] at hl ⊢
  · simp only [step, hwwn]
    cases hd : i.wdiscard
    · have : (q.erased d i).length = 0 := by simp [Queue.erased, hd]
      simp only [Queue.held, Bool.false_eq_true, if_false]; congr 1; omega
    · have h1 : (q.step d i).W.length = 0 := by simp [Queue.step_W, hd]
      have h2 : (q.commits i).length = 0 := by simp [Queue.commits, hd]
      simp only [if_true, hcw]; congr 1; omega

theorem rel_init (d : Nat) (z : α) : Rel d (init z) Queue.nil := by
  refine ⟨Nat.zero_le _, ?_, ?_, ?_, Nat.zero_le _, rfl, fun h => absurd rfl h⟩ <;>
    simp [init, Queue.nil, Queue.held, adv]

theorem run_refines {d : Nat} {s : State α} {q : Queue α} (h : Rel d s q) (ins : List (In α))
    (hl : ∀ i ∈ ins, Legal i) : (run d s ins).map obs = Queue.run d q ins := by
  induction ins generalizing s q with
  | nil => rfl
  | cons i is ih =>
    simp only [run, Queue.run, List.map_cons]
    have h1 : obs (step d s i).2 = q.obs d := rel_obs h
    rw [h1, ih (rel_step h (hl i (by simp))) (fun j hj => hl j (by simp [hj]))]

/-- **C18**: for every depth, every entry type (width) and every input history that never asserts
commit and discard together on one side, the FIFO started from reset shows in every cycle exactly
what the commit/rollback queue shows: `empty`, `full`, `space_available = depth - held`, and (when not
empty) `read_data` = the oldest committed unread entry. -/
theorem fifo_refines_queue (d : Nat) (z : α) (ins : List (In α)) (hl : ∀ i ∈ ins, Legal i) :
    (run d (init z) ins).map obs = Queue.run d Queue.nil ins :=
  run_refines (rel_init d z) ins hl

/-- The represented queue never holds more than `depth` entries (so `space_available` is never
negative and `full` is exactly `held = depth`). -/
theorem rel_held_le {d : Nat} {s : State α} {q : Queue α} (h : Rel d s q) : q.held ≤ d := h.hlen

/-! ### The excluded combination: what commit together with discard is coded to do -/

/-- `write_commit` and `write_discard` in the same cycle *swap* the two write pointers (the commit
takes the current pointer, the discard takes the committed one). -/
theorem write_commit_and_discard_swaps (d : Nat) (s : State α) (i : In α)
    (hc : i.wcommit = true) (hd : i.wdiscard = true) :
    (step d s i).1.cw = s.ww ∧ (step d s i).1.ww = s.cw := by
  simp [step, hc, hd]

/-- `read_commit` and `read_discard` in the same cycle swap the two read pointers. -/
theorem read_commit_and_discard_swaps (d : Nat) (s : State α) (i : In α)
    (hc : i.rcommit = true) (hd : i.rdiscard = true) :
    (step d s i).1.cr = s.rr ∧ (step d s i).1.rr = s.cr := by
  simp [step, hc, hd]

/-- Why the combination is a precondition and not a case of the theorem: after one write followed by
write commit+discard, the written entry is readable (as after a commit) while `space_available`
reports the whole depth free (as after a discard), and the next write overwrites the readable entry:
the FIFO (depth 2) then shows 8 where 7 was committed.  No queue behaves like that. -/
theorem write_commit_and_discard_breaks_queue :
    (run 2 (init 0) [⟨7, true, false, false, false, false, false⟩,
                     ⟨0, false, true, true, false, false, false⟩,
                     ⟨0, false, false, false, false, false, false⟩,
                     ⟨8, true, false, false, false, false, false⟩,
                     ⟨0, false, false, false, false, false, false⟩,
                     ⟨0, false, false, false, false, false, false⟩]).map obs
      = [⟨none, true, false, 2⟩, ⟨none, true, false, 1⟩, ⟨some 7, false, false, 2⟩,
         ⟨some 7, false, false, 2⟩, ⟨some 7, false, false, 1⟩, ⟨some 8, false, false, 1⟩] := by
  decide

/-! ### Nothing is lost, duplicated or reordered (a statement about the queue itself) -/

/-- run the queue accumulating all committed writes and all finalised reads -/
def Queue.runAcc (depth : Nat) : List α × List α × Queue α → List (In α) → List α × List α × Queue α
  | acc, [] => acc
  | (com, fin, q), i :: is => Queue.runAcc depth (com ++ q.commits i, fin ++ q.finals i, q.step depth i) is

theorem queue_conserves_step (depth : Nat) (q : Queue α) (i : In α) (com fin : List α)
    (h : fin ++ q.R ++ q.C = com) :
    (fin ++ q.finals i) ++ (q.step depth i).R ++ (q.step depth i).C = com ++ q.commits i := by
  subst h
  simpa only [List.append_assoc] using congrArg (fin ++ ·) (q.read_conserves depth i)

/-- For every legal history from reset (or from any queue and logs with `fin ++ R ++ C = com`): the
finalised reads, followed by the reads not yet finalised and the committed unread entries still in the
queue, are exactly the committed writes, in order. So the reader is handed a prefix of what the writer
committed: nothing lost, duplicated or reordered, and discarded writes never appear. -/
theorem queue_conserves (depth : Nat) (ins : List (In α)) (hl : ∀ i ∈ ins, Legal i)
    (com fin : List α) (q : Queue α) (h : fin ++ q.R ++ q.C = com) :
    (Queue.runAcc depth (com, fin, q) ins).2.1 ++ (Queue.runAcc depth (com, fin, q) ins).2.2.R
      ++ (Queue.runAcc depth (com, fin, q) ins).2.2.C = (Queue.runAcc depth (com, fin, q) ins).1 := by
  induction ins generalizing com fin q with
  | nil => exact h
  | cons i is ih =>
    simp only [Queue.runAcc]
    exact ih (fun j hj => hl j (by simp [hj])) _ _ _
      (queue_conserves_step depth q i com fin h)

/-! ### Non-vacuity: a legal history with fills, a write refused when full, a write discard, a read discard and the
re-read after it (depth 2) -/
example :
    (run 2 (init 0) [⟨1, true, false, false, false, false, false⟩,
                     ⟨2, true, true, false, false, false, false⟩,     -- commits 1; 2 starts a new transaction
                     ⟨3, true, false, false, true, false, false⟩,     -- full: write dropped; read 1
                     ⟨0, false, false, true, false, false, true⟩,     -- discard 2; un-read 1
                     ⟨4, true, false, false, true, true, false⟩,
                     ⟨0, false, true, false, false, true, false⟩,
                     ⟨0, false, false, false, false, false, false⟩]).map obs
      = [⟨none, true, false, 2⟩, ⟨none, true, false, 1⟩, ⟨some 1, false, true, 0⟩, ⟨none, true, true, 0⟩,
         ⟨some 1, false, false, 1⟩, ⟨none, true, true, 0⟩, ⟨some 4, false, false, 1⟩] := by decide

end LunaVerif.TxnFifo
