import LunaVerif.Props.C56SpiBits
/-!
# C56 — `SyncSerialILA`: any number of captures and read-outs in one history

`spi_readout_words` / `_bits` / `_pins` speak about the first chip-select window after one capture; `window_words` /
`window_bits` / `window_pins` about a window read from any state in which the analyzer *holds* a completed buffer `M` (`Holds`,
kept by every cycle without a trigger: `quiet_run`, established by every capture: `capture_holds`, and implying the start
hypothesis of the next capture: `Ila.Rests.idle`).  Hence the chain
(`spi_capture_chain_words` / `_bits` / `_pins`): a history cut at the accepted triggers into rounds = trigger cycle, `depth`
capture cycles (anything on the pins, further triggers ignored), then any trigger-free cycles.  In round `k`, EVERY chip-select
window that is preceded by four cycles with chip select low — the first read-out, a re-read, a read-out after an aborted or a
partial one — returns the samples recorded by capture `k`, sample 0 first, each MSB first: never a sample of capture `k-1`.

What the code does NOT do (unlike `StreamILA`): block the trigger during a read-out.  A trigger that arrives while the analyzer
is idle is always accepted, also in the middle of a chip-select window; the memory is then overwritten while it is being read.
The guarantee therefore covers exactly the windows described above: the four chip-select-low cycles and the window itself lie
after the `depth` capture cycles of round `k` and before the next accepted trigger.  A window (or its four lead-in cycles) that
overlaps a capture returns a mixture: e.g. a word latched before the trigger is still shifted out (stale, from capture `k-1`)
after `complete` has risen again, and the following words come from capture `k` (`stale_window_example`, co-simulated by the
harness's "trigger during the read-out" windows).  Such a word was addressed before capture `k` completed, so this is not a
violation of "after `complete`, reading back sample n returns the n-th recorded sample"; it is the reason why the environment
hypothesis "no trigger from the lead-in cycles to the end of the window" is needed and cannot be weakened for this wrapper.
-/
namespace LunaVerif.IlaSpi
open LunaVerif.Ila

/-- one round of a history cut at the accepted triggers: the trigger cycle, the `depth` capture cycles, then trigger-free
cycles (read-outs, pauses, anything on the SPI pins) up to the next accepted trigger -/
structure Round where
  x0 : In
  xs : List In
  qs : List In

def Round.hist (r : Round) : List In := r.x0 :: r.xs ++ r.qs

def RoundsOK (c : Config) (rs : List Round) : Prop :=
  ∀ r ∈ rs, r.x0.trigger = true ∧ r.xs.length = c.ila.depth ∧ NoTrig r.qs

instance (c : Config) (rs : List Round) : Decidable (RoundsOK c rs) := by unfold RoundsOK; infer_instance

theorem rounds_idle (c : Config) (hd : 1 ≤ c.ila.depth) (rs : List Round) : ∀ σ : State, IdleState c.ila σ.core →
    RoundsOK c rs → IdleState c.ila (runState c σ (rs.flatMap Round.hist)).core := by
  induction rs with
  | nil => intro σ h _; exact h
  | cons r rs ih =>
    intro σ hσ hok
    obtain ⟨ht, hl, hq⟩ := hok r (by simp)
    have h1 := capture_holds c hd σ hσ r.x0 ht r.xs hl
    have h2 := quiet_run c _ r.qs _ h1 hq
    have h3 := h2.core.idle (roundSamples_length c σ r.x0 r.xs hl)
    have happ : runState c σ ((r :: rs).flatMap Round.hist) =
        runState c (runState c (runState c σ (r.x0 :: r.xs)) r.qs) (rs.flatMap Round.hist) := by
      simp only [List.flatMap_cons, Round.hist]
      rw [runState_append, runState_append]
    rw [happ]
    exact ih _ h3 (fun r' hr' => hok r' (by simp [hr']))

theorem chain_holds (c : Config) (hd : 1 ≤ c.ila.depth) (σ : State) (hσ : IdleState c.ila σ.core) (rs : List Round)
    (hok : RoundsOK c rs) (x0 : In) (ht : x0.trigger = true) (xs : List In) (hl : xs.length = c.ila.depth)
    (a : List In) (ha : NoTrig a) :
    Holds c (roundSamples c (runState c σ (rs.flatMap Round.hist)) x0 xs)
      (runState c (runState c σ (rs.flatMap Round.hist)) (x0 :: xs ++ a)) :=
  readout_holds c hd _ (rounds_idle c hd rs σ hσ hok) x0 ht xs hl a ha

/-- **spi_capture_chain_words**: any number of complete rounds `rs` (captures with their read-outs), then a round with trigger
cycle `x0`, capture cycles `xs`, any trigger-free cycles `a` (earlier read-outs of this capture — complete, partial, aborted —
and pauses), four cycles with chip select low and no trigger, and a chip-select window `ws` without a trigger: `complete` is high, the SPI
transmit register holds sample 0 of THIS capture when the window opens, and the words loaded at the completing sample edges
are samples 1, 2, 3, … of THIS capture, in order. -/
theorem spi_capture_chain_words (c : Config) (hw : 4 ≤ c.spi.w) (hcs : c.spi.csIdlesHigh = false) (hd : 1 ≤ c.ila.depth)
    (σ : State) (hσ : IdleState c.ila σ.core) (rs : List Round) (hok : RoundsOK c rs)
    (x0 : In) (ht : x0.trigger = true) (xs : List In) (hl : xs.length = c.ila.depth) (a : List In) (ha : NoTrig a)
    (g1 g2 g3 g4 : In) (hg : AtRest [g1, g2, g3, g4]) (ws : List In) (hws : InWindow ws) :
    let σk := runState c σ (rs.flatMap Round.hist)
    let s0 := runState c σk (x0 :: xs ++ a ++ [g1, g2, g3, g4])
    let S := roundSamples c σk x0 xs
    s0.spi.tx = sampleWord c S 0 ∧ s0.core.complete = true ∧
    ∃ n, latchedWords c s0 ws = (List.range' 1 n).map (sampleWord c S) := by
  intro σk s0 S
  have h := chain_holds c hd σ hσ rs hok x0 ht xs hl a ha
  have := window_words c hw hcs S _ h g1 g2 g3 g4 hg ws hws
  rw [← runState_append] at this
  exact this

/-- **spi_capture_chain_bits**: in the same situation, at ANY point of the window: with `K` words completed in the window and
`n ≥ 1` output edges since the last word boundary, `sdo` carries bit `bits_per_word - n` of sample `K` of THIS capture. -/
theorem spi_capture_chain_bits (c : Config) (hw : 4 ≤ c.spi.w) (hcs : c.spi.csIdlesHigh = false)
    (hm : c.spi.msbFirst = true) (hd : 1 ≤ c.ila.depth)
    (σ : State) (hσ : IdleState c.ila σ.core) (rs : List Round) (hok : RoundsOK c rs)
    (x0 : In) (ht : x0.trigger = true) (xs : List In) (hl : xs.length = c.ila.depth) (a : List In) (ha : NoTrig a)
    (g1 g2 g3 g4 : In) (hg : AtRest [g1, g2, g3, g4]) (ws : List In) (hws : InWindow ws) (y : In) :
    let σk := runState c σ (rs.flatMap Round.hist)
    let s0 := runState c σk (x0 :: xs ++ a ++ [g1, g2, g3, g4])
    let S := roundSamples c σk x0 xs
    let p := track c (0, 0) s0 ws
    1 ≤ p.2 → some (step c (runState c s0 ws) y).2.sdo = (sampleWord c S p.1)[c.spi.w - p.2]? := by
  intro σk s0 S
  have h := chain_holds c hd σ hσ rs hok x0 ht xs hl a ha
  have := window_bits c hw hcs hm S _ h g1 g2 g3 g4 hg ws hws y
  rw [← runState_append] at this
  exact this

/-- **spi_capture_chain_pins**: the statement on the pins alone, for every capture of a history and every read-out of it: if
moreover `sck` rests before the window at the level it has after a sampling edge, then at any point of the window at which the
clock sits after an output edge, with `E` = the sampling edges of `sck` in the window so far, `sdo` carries bit
`bits_per_word - 1 - E mod bits_per_word` of sample `⌊E / bits_per_word⌋` of THIS capture (`sampleWord_lt`: that is
`S[⌊E / bits_per_word⌋]` while `E < depth · bits_per_word`) — the controller reads back sample `n` of the latest capture as
word `n`, whatever was captured and read before. -/
theorem spi_capture_chain_pins (c : Config) (hw : 4 ≤ c.spi.w) (hcs : c.spi.csIdlesHigh = false)
    (hm : c.spi.msbFirst = true) (hd : 1 ≤ c.ila.depth)
    (σ : State) (hσ : IdleState c.ila σ.core) (rs : List Round) (hok : RoundsOK c rs)
    (x0 : In) (ht : x0.trigger = true) (xs : List In) (hl : xs.length = c.ila.depth) (a : List In) (ha : NoTrig a)
    (g1 g2 g3 g4 : In) (hg : AtRest [g1, g2, g3, g4]) (hclk : (g4.sck != c.spi.pol) = !c.spi.phase)
    (ws : List In) (hws : InWindow ws) (hout : clkAfter c.spi (g4.sck != c.spi.pol) ws = c.spi.phase) (y : In) :
    let σk := runState c σ (rs.flatMap Round.hist)
    let s0 := runState c σk (x0 :: xs ++ a ++ [g1, g2, g3, g4])
    let S := roundSamples c σk x0 xs
    let E := sampleEdges c.spi (g4.sck != c.spi.pol) ws
    some (step c (runState c s0 ws) y).2.sdo = (sampleWord c S (E / c.spi.w))[c.spi.w - 1 - E % c.spi.w]? := by
  intro σk s0 S
  have h := chain_holds c hd σ hσ rs hok x0 ht xs hl a ha
  have := window_pins c hw hcs hm S _ h g1 g2 g3 g4 hg hclk ws hws hout y
  rw [← runState_append] at this
  exact this

/-- The reset state is a witness of the hypothesis `hσ` of the theorems above. -/
theorem init_idle (c : Config) : IdleState c.ila (init c).core := by
  simp [IdleState, init, Ila.init]

/-! ## Non-vacuity (configuration of `Props/C56Spi.lean`: depth 2, pre-trigger 1, 4-bit words): round 1 records 5, 6 and is read
out (two words); round 2 records 9, 10, is read partially (aborted after 3 bits), then — after four rest cycles — read again:
the words are those of round 2 -/
def cap2X : List In := [⟨false, 10, false, false, false⟩, ⟨false, 11, false, false, false⟩]
def round1X : Round := ⟨⟨true, 5, false, false, false⟩, [⟨false, 6, false, false, false⟩, ⟨true, 7, false, false, false⟩],
  [restX, restX, restX, restX] ++ winX ++ [restX, restX]⟩
def abortX : List In := [restX, restX, restX, restX] ++ bitX ++ bitX ++ bitX

example : RoundsOK cfgX [round1X] := by decide
example : NoTrig abortX := by decide
example : roundSamples cfgX (runState cfgX (init cfgX) ([round1X].flatMap Round.hist)) ⟨true, 9, false, false, false⟩ cap2X
    = [9, 10] := by decide
example : (runState cfgX (runState cfgX (init cfgX) ([round1X].flatMap Round.hist))
      (⟨true, 9, false, false, false⟩ :: cap2X ++ abortX ++ [restX, restX, restX, restX])).spi.tx = SpiDevice.natToBits 4 9 ∧
    latchedWords cfgX (runState cfgX (runState cfgX (init cfgX) ([round1X].flatMap Round.hist))
      (⟨true, 9, false, false, false⟩ :: cap2X ++ abortX ++ [restX, restX, restX, restX])) winX
    = [SpiDevice.natToBits 4 10, SpiDevice.natToBits 4 9] := by decide

/-- **stale_window_example** (what is NOT guaranteed, and why the "no trigger in the window" hypothesis cannot be dropped): the
trigger of round 2 arrives in the first cycle of a chip-select window opened after round 1 (samples 5, 6).  The wrapper does not
block it.  The transmit register was loaded with sample 0 of round 1 (5) before the trigger; it is shifted out while capture 2
(9, 10) runs and completes — `complete` is high again at the end of the window — and the word loaded at the first word boundary
is sample 1 of round 2 (10): the window returns 5 (stale, capture 1), then 10 (capture 2). -/
theorem stale_window_example :
    let s1 := runState cfgX (init cfgX) (round1X.hist ++ [restX, restX, restX, restX])
    let trigWin : List In := [⟨true, 9, true, false, true⟩, ⟨false, 10, false, false, true⟩] ++ bitX ++ bitX ++ bitX ++ bitX ++ bitX
    s1.spi.tx = SpiDevice.natToBits 4 5 ∧
    latchedWords cfgX s1 trigWin = [SpiDevice.natToBits 4 10] ∧
    (runState cfgX s1 trigWin).core.complete = true ∧ (runState cfgX s1 trigWin).core.mem = [9, 10] := by
  decide

/-! ## every history can be cut into rounds

`spi_capture_chain_*` assume that the history is given cut at the accepted triggers (`RoundsOK`).  Every history can be cut that
way: it is `pre ++ rounds ++ tail`, trigger-free cycles, complete rounds, and possibly a last trigger followed by fewer than
`depth` cycles (a capture still running when the history ends).  Purely a fact about the trigger column: the SyncSerialILA
accepts every trigger that arrives while the analyzer is idle. -/

theorem rounds_of (c : Config) : ∀ (n : Nat) (h : List In), h.length ≤ n →
    (h = [] ∨ ∃ x rest, h = x :: rest ∧ x.trigger = true) →
    ∃ rs tail, h = rs.flatMap Round.hist ++ tail ∧ RoundsOK c rs ∧
      (tail = [] ∨ ∃ x0 rest, tail = x0 :: rest ∧ x0.trigger = true ∧ rest.length < c.ila.depth) := by
  intro n
  induction n with
  | zero =>
    intro h hn _
    have : h = [] := List.eq_nil_of_length_eq_zero (by omega)
    exact ⟨[], [], by simp [this], (by simp [RoundsOK]), Or.inl rfl⟩
  | succ n ih =>
    intro h hn hh
    rcases hh with hh | ⟨x0, rest, e, ht⟩
    · exact ⟨[], [], by simp [hh], (by simp [RoundsOK]), Or.inl rfl⟩
    · by_cases hlen : rest.length < c.ila.depth
      · exact ⟨[], h, by simp, (by simp [RoundsOK]), Or.inr ⟨x0, rest, e, ht, hlen⟩⟩
      · obtain ⟨qs, b, e2, hq, hb⟩ := split_first (·.trigger) (rest.drop c.ila.depth)
        have hbl : b.length ≤ n := by
          have h1 : (rest.drop c.ila.depth).length = qs.length + b.length := by rw [e2, List.length_append]
          rw [List.length_drop] at h1
          rw [e] at hn; simp only [List.length_cons] at hn
          omega
        obtain ⟨rs, tail, e3, hok, htail⟩ := ih b hbl hb
        refine ⟨⟨x0, rest.take c.ila.depth, qs⟩ :: rs, tail, ?_, ?_, htail⟩
        · rw [e]
          simp only [List.flatMap_cons, Round.hist, List.append_assoc, List.cons_append]
          rw [← e3, ← e2, List.take_append_drop]
        · intro r hr
          rcases List.mem_cons.mp hr with h1 | h1
          · rw [h1]
            exact ⟨ht, by simp only [List.length_take]; omega, hq⟩
          · exact hok r h1

/-- **spi_history_decomposes**: EVERY input history of the SyncSerialILA is of the form the chain theorems speak about: trigger-free
cycles, then complete rounds (`RoundsOK`), then possibly a trigger followed by fewer than `depth` cycles. -/
theorem spi_history_decomposes (c : Config) (h : List In) :
    ∃ pre rs tail, h = pre ++ rs.flatMap Round.hist ++ tail ∧ NoTrig pre ∧ RoundsOK c rs ∧
      (tail = [] ∨ ∃ x0 rest, tail = x0 :: rest ∧ x0.trigger = true ∧ rest.length < c.ila.depth) := by
  obtain ⟨pre, b, e, hp, hb⟩ := split_first (·.trigger) h
  obtain ⟨rs, tail, e2, hok, htail⟩ := rounds_of c b.length b (Nat.le_refl _) hb
  exact ⟨pre, rs, tail, by rw [e, e2, List.append_assoc], hp, hok, htail⟩

/-- **spi_history_pins**: the whole-history form of `spi_capture_chain_pins`.  ANY history from an idle analyzer (by
`spi_history_decomposes` it is `pre ++ rounds ++ tail`); if no capture is running at its end (`tail = []`) and at least one
capture was made (`rounds = rs ++ [r]`), then a chip-select window `ws` after four chip-select-low cycles, all without a trigger,
reads — at the controller's sampling edge number `E` — bit `bits_per_word - 1 - E mod bits_per_word` of sample
`⌊E / bits_per_word⌋` of the LAST capture `r`, whatever the earlier rounds captured and however often and how far they were read.
As in `spi_capture_chain_pins`: MSB first (`hm`), the clock rests in `g4` at the level after a sampling edge (`hclk`), and the point
of the window is one at which the clock sits after an output edge (`hout`). -/
theorem spi_history_pins (c : Config) (hw : 4 ≤ c.spi.w) (hcs : c.spi.csIdlesHigh = false) (hm : c.spi.msbFirst = true)
    (hd : 1 ≤ c.ila.depth) (σ : State) (hσ : IdleState c.ila σ.core) (pre : List In) (hp : NoTrig pre)
    (rs : List Round) (r : Round) (hok : RoundsOK c (rs ++ [r]))
    (g1 g2 g3 g4 : In) (hg : AtRest [g1, g2, g3, g4]) (hclk : (g4.sck != c.spi.pol) = !c.spi.phase)
    (ws : List In) (hws : InWindow ws) (hout : clkAfter c.spi (g4.sck != c.spi.pol) ws = c.spi.phase) (y : In) :
    let σk := runState c σ (pre ++ rs.flatMap Round.hist)
    let s0 := runState c σ (pre ++ (rs ++ [r]).flatMap Round.hist ++ [g1, g2, g3, g4])
    let S := roundSamples c σk r.x0 r.xs
    let E := sampleEdges c.spi (g4.sck != c.spi.pol) ws
    some (step c (runState c s0 ws) y).2.sdo = (sampleWord c S (E / c.spi.w))[c.spi.w - 1 - E % c.spi.w]? := by
  intro σk s0 S E
  have hσ' := idle_quiet_run c pre σ hσ hp
  have hok1 : RoundsOK c rs := fun r' hr' => hok r' (by simp [hr'])
  obtain ⟨ht, hl, hq⟩ := hok r (by simp)
  have := spi_capture_chain_pins c hw hcs hm hd _ hσ' rs hok1 r.x0 ht r.xs hl r.qs hq g1 g2 g3 g4 hg hclk ws hws hout y
  simp only at this
  have e1 : σk = runState c (runState c σ pre) (rs.flatMap Round.hist) := by
    simp only [σk]; rw [runState_append]
  have e2 : s0 = runState c (runState c (runState c σ pre) (rs.flatMap Round.hist))
      (r.x0 :: r.xs ++ r.qs ++ [g1, g2, g3, g4]) := by
    simp only [s0, List.flatMap_append, List.flatMap_cons, List.flatMap_nil, List.append_nil, Round.hist]
    rw [runState_append, runState_append, runState_append, ← runState_append c (r.x0 :: r.xs ++ r.qs)]
  simp only [S]
  rw [e1, e2]
  exact this

/-! Non-vacuity (configuration of `Props/C56Spi.lean`, round 1 and `abortX` from above): two rounds, the second one read partially before; then four
rest cycles and a window: after five clock periods and the output edge of the sixth (`E = 5`) `sdo` carries bit 2 of sample 1 of
round 2 (10 = 1010b: bit 2 is 0) -/
def round2X : Round := ⟨⟨true, 9, false, false, false⟩, cap2X, abortX⟩

example : RoundsOK cfgX ([round1X] ++ [round2X]) := by decide
example : NoTrig [restX, restX] := by decide
example : (step cfgX (runState cfgX (runState cfgX (init cfgX)
      ([restX, restX] ++ ([round1X] ++ [round2X]).flatMap Round.hist ++ [restX, restX, restX, restX]))
      (bitX ++ bitX ++ bitX ++ bitX ++ bitX ++ bitX.take 1)) restX).2.sdo = false ∧
    roundSamples cfgX (runState cfgX (init cfgX) ([restX, restX] ++ [round1X].flatMap Round.hist)) round2X.x0 round2X.xs = [9, 10] ∧
    (SpiDevice.natToBits 4 10)[4 - 1 - 5 % 4]? = some false := by decide +kernel

end LunaVerif.IlaSpi
