import LunaVerif.Lemmas.I2cStep
/-!
# C52 — The I2C initiator follows the I2C bus protocol

"SDA driven by the initiator changes while SCL is high only when generating a requested START or
STOP condition; a write clocks out the byte MSB first and reports the target's acknowledge bit, a
read samples eight bits while SCL is high and then drives the requested acknowledge, a target
holding SCL low stretches the clock, and 'busy' is low only when a new operation can be accepted."

Proved in full (all operation sequences, all target behaviours = all values of the pad inputs in
every cycle, every `period_cyc`, both `clk_stretch` settings):
`sda_changes_under_scl_high_only_for_start_stop`, `busy_low_iff_accepting`, `stretch_holds_timer`,
`read_samples_when_scl_high` (where and under which SCL condition the read shift register samples).

The byte-level write statement (`write_msb_first_and_ack`: SCL-high phase of data clock `bitno`
carries bit `7 - bitno` of the latched octet, SDA released during the acknowledge clock, read
acknowledge clock carries the complement of the register `r_ack` — the register an accepted read loads from `ack_i`,
`idle_cases`; no theorem follows the register from there to the acknowledge clock) is in
`LunaVerif/Lemmas/I2cWrite.lean`, the loop invariant
`sda_released_for_target_bits` in `LunaVerif/Lemmas/I2cStep.lean` (both audited with this module).

The byte-level read statement (`read_returns_sampled_octet`: exactly eight samples, `data_o` = their
value, first bit most significant) is in `LunaVerif/Lemmas/I2cRead.lean` (audited with this module).
-/
namespace LunaVerif.I2c

/-- States in which the initiator moves SDA while it holds SCL low itself. -/
def sdaSetupState : Fsm → Bool
  | .startSdaH | .stopSdaL | .wrDataSdaX | .wrAckSdaH | .rdDataSdaH | .rdAckSdaX => true
  | _ => false

def SclLowInSetup (s : State) : Prop := sdaSetupState s.fsm = true → s.sclO = false

/-- Releasing SCL happens in the SCL-H states only, none of which is a set-up state; a set-up state is entered
only from the SCL-L state before it, whose handover pulls SCL low. -/
theorem sclLowInSetup_step (c : Config) (s : State) (i : In) (h : SclLowInSetup s) :
    SclLowInSetup (step c s i) := by
  refine step_cases c s i (fun _ _ => h) (fun _ _ hh hs => ?_) fun _ => ?_
  · cases hf : s.fsm <;> simp [hf, sclHighState, sdaSetupState, tick_fields] at hh hs
  · cases hf : s.fsm
    case idle =>
      refine idle_cases c s i hf ?_ (fun _ _ _ => nofun) (fun _ _ _ _ => nofun) fun _ _ _ _ => ?_
      · rintro f (⟨_, rfl | rfl | rfl⟩ | ⟨_, _, rfl | rfl | rfl⟩) <;> nofun
      · simp [SclLowInSetup, tick_fields, hf, sdaSetupState]
    all_goals simp only [SclLowInSetup, handover, hf] <;> (repeat' split) <;> simp [sdaSetupState, tick_fields]

theorem sclLowInSetup_reachable (c : Config) (h : List In) : SclLowInSetup (stateAfter c init h) :=
  stateAfter_inv c (sclLowInSetup_step c) h init (by simp [SclLowInSetup, init, sdaSetupState])

theorem sda_change_step (c : Config) (s : State) (i : In) (hinv : SclLowInSetup s)
    (hch : (step c s i).sdaO ≠ s.sdaO) :
    s.sclO = false ∨ (s.fsm = .startSdaL ∧ (step c s i).sdaO = false) ∨
      (s.fsm = .stopSdaH ∧ (step c s i).sdaO = true) := by
  unfold SclLowInSetup at hinv
  revert hch
  refine step_cases (P := fun s' => s'.sdaO ≠ s.sdaO → _ ∨ (_ ∧ s'.sdaO = false) ∨ (_ ∧ s'.sdaO = true)) c s i
    (fun _ _ h => absurd rfl h) (fun _ _ _ h => absurd rfl h) fun _ => ?_
  cases hf : s.fsm
  case idle => exact fun h => absurd (handover_idle c s i hf).2.1 h
  all_goals simp only [handover, hf] <;> simp [tick_fields, hinv, hf, sdaSetupState]

/-- **Safety.**  After ANY history of inputs from reset (operation strobes at any time, any
target behaviour on the SCL/SDA pads), if the initiator's SDA drive changes at the next clock edge
then either the initiator is holding SCL low itself, or the FSM is in `START-SDA-L` and SDA goes
low (a START condition), or it is in `STOP-SDA-H` and SDA is released (a STOP condition). -/
theorem sda_changes_under_scl_high_only_for_start_stop (c : Config) (h : List In) (i : In) :
    let s := stateAfter c init h
    (step c s i).sdaO ≠ s.sdaO →
      s.sclO = false ∨ (s.fsm = .startSdaL ∧ (step c s i).sdaO = false) ∨
        (s.fsm = .stopSdaH ∧ (step c s i).sdaO = true) :=
  fun hch => sda_change_step c _ i (sclLowInSetup_reachable c h) hch

def startState : Fsm → Bool
  | .startSclL | .startSdaH | .startSclH | .startSdaL => true
  | _ => false
def stopState : Fsm → Bool
  | .stopSclL | .stopSdaL | .stopSclH | .stopSdaH => true
  | _ => false

/-- `START-SDA-L` and `STOP-SDA-H`, the two states the safety theorem excepts, belong to operations that were
requested: the START (STOP) states are entered only from IDLE in a cycle in which `start` (`stop`, without
`start`) is asserted. -/
theorem start_stop_states_only_on_request (c : Config) (s : State) (i : In) :
    (startState (step c s i).fsm = true → startState s.fsm = true ∨ (s.fsm = .idle ∧ i.start = true)) ∧
    (stopState (step c s i).fsm = true →
      stopState s.fsm = true ∨ (s.fsm = .idle ∧ i.start = false ∧ i.stop = true)) := by
  refine step_cases (P := fun s' => (startState s'.fsm = true → _) ∧ (stopState s'.fsm = true → _)) c s i
    (fun _ _ => ⟨Or.inl, Or.inl⟩) (fun _ _ _ => ⟨Or.inl, Or.inl⟩) fun _ => ?_
  cases hf : s.fsm
  case idle =>
    refine idle_cases (P := fun s' => (startState s'.fsm = true → _) ∧ (stopState s'.fsm = true → _)) c s i hf
      ?_ ?_ ?_ ?_
    · rintro f (⟨h, rfl | rfl | rfl⟩ | ⟨h1, h2, rfl | rfl | rfl⟩) <;> simp [startState, stopState, *]
    all_goals simp [startState, stopState, tick_fields, hf]
  all_goals simp only [handover, hf] <;> (repeat' split) <;> simp [startState, stopState, *]

/-- SDA and SCL drives never change at the same clock edge. -/
theorem sda_and_scl_never_change_together (c : Config) (s : State) (i : In)
    (hch : (step c s i).sdaO ≠ s.sdaO) : (step c s i).sclO = s.sclO := by
  revert hch
  refine step_cases (P := fun s' => s'.sdaO ≠ s.sdaO → s'.sclO = s.sclO) c s i
    (fun _ _ h => absurd rfl h) (fun _ _ _ h => absurd rfl h) fun _ => ?_
  cases hf : s.fsm
  case idle => exact fun h => absurd (handover_idle c s i hf).2.1 h
  all_goals simp only [handover, hf] <;> simp [tick_fields]

def BusyInv (s : State) : Prop := s.busy = false → s.fsm = .idle

theorem busyInv_step (c : Config) (s : State) (i : In) (h : BusyInv s) : BusyInv (step c s i) := by
  refine step_cases c s i (fun hi _ hb => absurd (h hb) hi) (fun hi _ _ hb => absurd (h hb) hi) fun _ => ?_
  cases hf : s.fsm
  case idle =>
    exact idle_cases c s i hf (fun _ _ => nofun) (fun _ _ _ => nofun) (fun _ _ _ _ => nofun) fun _ _ _ _ _ => hf
  all_goals unfold BusyInv at * <;> simp only [handover, hf] <;> (repeat' split) <;> simp_all [tick_fields]

/-- **busy.**  After any history: `busy` low ⇒ the FSM is in IDLE (this direction only: in IDLE `busy` is high after
reset and in the cycle after an operation), and in IDLE every strobe is accepted in that very cycle: the FSM leaves
IDLE and `busy` goes high (which operation is entered — priority start > stop > write > read — is `idle_cases`, not
part of this statement); without a strobe nothing happens and `busy` is (stays) low. -/
theorem busy_low_iff_accepting (c : Config) (h : List In) (i : In) :
    let s := stateAfter c init h
    (s.busy = false → s.fsm = .idle) ∧
    (s.fsm = .idle → (i.start || i.stop || i.write || i.read) = true →
      (step c s i).fsm ≠ .idle ∧ (step c s i).busy = true) ∧
    (s.fsm = .idle → (i.start || i.stop || i.write || i.read) = false →
      (step c s i).fsm = .idle ∧ (step c s i).busy = false ∧
      (step c s i).sclO = s.sclO ∧ (step c s i).sdaO = s.sdaO) := by
  intro s
  refine ⟨?_, ?_, ?_⟩
  · exact stateAfter_inv c (busyInv_step c) h init (by simp [BusyInv, init])
  · intro hf hs
    rw [step_idle c s i hf]
    refine idle_cases (P := fun s' => s'.fsm ≠ .idle ∧ s'.busy = true) c s i hf ?_ (fun _ _ _ => ⟨nofun, rfl⟩)
      (fun _ _ _ _ => ⟨nofun, rfl⟩) fun h1 h2 h3 h4 => ?_
    · rintro f (⟨_, rfl | rfl | rfl⟩ | ⟨_, _, rfl | rfl | rfl⟩) <;> exact ⟨nofun, rfl⟩
    · simp [h1, h2, h3, h4] at hs
  · intro hf hs
    simp only [Bool.or_eq_false_iff] at hs
    obtain ⟨⟨⟨h1, h2⟩, h3⟩, h4⟩ := hs
    simp [step_idle c s i hf, handover, hf, h1, h2, h3, h4, tick_fields]

/-- **Clock stretching.**  With `clk_stretch`, while the initiator (busy, the timer not at 0, where it reloads) has
released SCL but the (synchronised) line is still low, the quarter-period timer is frozen; and an FSM state
waiting for SCL to be high does not advance and changes neither line. -/
theorem stretch_holds_timer (c : Config) (s : State) (i : In) (hc : c.clkStretch = true)
    (hb : s.busy = true) (ht : s.timer ≠ 0) (hm : s.sclO = true) (hl : s.sclI = false) :
    (step c s i).timer = s.timer ∧
    (sclHighState s.fsm = true →
      (step c s i).fsm = s.fsm ∧ (step c s i).sclO = s.sclO ∧ (step c s i).sdaO = s.sdaO) := by
  constructor
  · rw [step_timer]
    simp [tick, ht, hb, hc, hm, hl]
  · intro hs
    have hst : stb s = false := by simp [stb, ht]
    have hi : s.fsm ≠ .idle := fun hi => by rw [hi] at hs; cases hs
    have he : exits c s = false := by simp [exits, hs, hst, hc, hl]
    rw [step_eq, if_neg (by simp [hi, he]), if_neg (by simp [hst])]
    exact ⟨rfl, rfl, rfl⟩

/-- **Read sampling.**  The receive shift register changes only in `READ-DATA-SCL-H`, in a cycle
in which the initiator has SCL released and (with `clk_stretch`) the synchronised SCL line is high;
the bit shifted in is the synchronised SDA line. -/
theorem read_samples_when_scl_high (c : Config) (s : State) (i : In)
    (hch : (step c s i).rShreg ≠ s.rShreg) :
    s.fsm = .rdDataSclH ∧ s.sclO = true ∧ (c.clkStretch = false ∨ s.sclI = true) ∧
    (step c s i).rShreg = (if s.sdaI then 1 else 0) + s.rShreg % 128 * 2 := by
  revert hch
  refine step_cases (P := fun s' => s'.rShreg ≠ s.rShreg → _ ∧ _ ∧ _ ∧ s'.rShreg = _) c s i
    (fun _ _ h => absurd rfl h) (fun _ _ _ h => absurd rfl h) fun hx => ?_
  cases hf : s.fsm
  case rdDataSclH =>
    have he : exits c s = true := hx.resolve_left (by simp [hf])
    simp [exits, hf, sclHighState] at he
    simp [handover, hf, he]
  case idle => exact fun h => absurd (handover_idle c s i hf).2.2.1 h
  all_goals
    simp only [handover, hf]
    exact fun h => absurd rfl h

/-- One-step facts of the write path (the byte-level statements built on them are in
`Lemmas/I2cWrite.lean`): an accepted write loads the shift register from `data_i`; the data bit is put on SDA on the
strobe of `WRITE-DATA-SDA-X` (that SCL is held low there is `SclLowInSetup`) and is bit 7 of the shift register; the
handover from `WRITE-DATA-SCL-H` shifts it left by one (that nothing else moves it is in `winv_step`); `ack_o` changes
only in `WRITE-ACK-SCL-H` with SCL released (and, with `clk_stretch`, seen high), to the complement of the
synchronised SDA line. -/
theorem write_and_ack_step_facts (c : Config) (s : State) (i : In) :
    (s.fsm = .idle → i.start = false → i.stop = false → i.write = true →
      (step c s i).wShreg = i.dataI % 256 ∧ (step c s i).fsm = .wrDataSclL) ∧
    (s.fsm = .wrDataSdaX → stb s = true →
      (step c s i).sdaO = (s.wShreg / 128 % 2 == 1) ∧ (step c s i).fsm = .wrDataSclH) ∧
    (s.fsm = .wrDataSclH → (step c s i).fsm = .wrDataSdaN → (step c s i).wShreg = s.wShreg * 2 % 256) ∧
    ((step c s i).ackO ≠ s.ackO →
      s.fsm = .wrAckSclH ∧ s.sclO = true ∧ (c.clkStretch = false ∨ s.sclI = true) ∧
      (step c s i).ackO = !s.sdaI) := by
  refine ⟨?_, ?_, ?_, ?_⟩
  · intro hf h1 h2 h3
    simp [step_idle c s i hf, handover, hf, h1, h2, h3]
  · intro hf hst
    simp [step_eq, exits, sclHighState, handover, hf, hst]
  · intro hf
    refine step_cases (P := fun s' => s'.fsm = .wrDataSdaN → s'.wShreg = s.wShreg * 2 % 256) c s i
      (fun _ _ h => ?_) (fun _ _ _ h => ?_) fun _ => ?_ <;> simp_all [handover, tick_fields]
  · refine step_cases (P := fun s' => s'.ackO ≠ s.ackO → _ ∧ _ ∧ _ ∧ s'.ackO = _) c s i
      (fun _ _ h => absurd rfl h) (fun _ _ _ h => absurd rfl h) fun hx => ?_
    cases hf : s.fsm
    case wrAckSclH =>
      have he : exits c s = true := hx.resolve_left (by simp [hf])
      simp [exits, hf, sclHighState] at he
      simp [handover, hf, he]
    case idle => exact fun h => absurd (handover_idle c s i hf).2.2.2.1 h
    all_goals
      simp only [handover, hf]
      exact fun h => absurd rfl h

/-! ## non-vacuity: a START on an idle bus (period 8: quarter = 2) -/
def idleBus (start : Bool) : In := ⟨true, true, start, false, false, false, 0, false⟩
example : (stateAfter ⟨8, true⟩ init ([idleBus false, idleBus false, idleBus true] ++ List.replicate 2 (idleBus false))).fsm
    = .startSdaL := by decide +kernel
example : (stateAfter ⟨8, true⟩ init ([idleBus false, idleBus false, idleBus true] ++ List.replicate 3 (idleBus false))).sdaO
    = false := by decide +kernel
example : (stateAfter ⟨8, true⟩ init ([idleBus false, idleBus false, idleBus true] ++ List.replicate 3 (idleBus false))).sclO
    = true := by decide +kernel

end LunaVerif.I2c
