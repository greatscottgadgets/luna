import LunaVerif.Lemmas.C25Tx12
import LunaVerif.Lemmas.C25TxIo
/-!
# C25 (transmit direction) — the cycle-level TxPipeline emits `encode bytes` and accepts every byte once

"Each byte sequence handed to the gateware PHY for transmission appears on D+/D- as SYNC, the NRZI-encoded and
bit-stuffed bytes (LSB first, a stuffed 0 after six 1s) and an SE0-SE0-J end of packet, and is accepted byte-by-byte
exactly once."

The model is `FsTx.step phase` (Model/Phy/FsTx.lean): the registers of `TxShifter`, `TxBitstuffer`, the `TxPipeline`
controller (12 MHz `usb` domain), the two 3-stage synchronizers, `TxNRZIEncoder` and the bit-strobe counter (48 MHz
`usb_io` domain), one step per `usb_io` cycle -- the same function the co-simulation compares with the real
`GatewarePHY` / `TxPipeline` cycle by cycle, for all four phases between the `usb` clock and the bit-strobe counter.

Environment (explicit, decidable hypotheses): the UTMI producer `Prod` keeps `tx_valid` and the byte until `tx_ready`,
then offers the next byte, and drops `tx_valid` after the last `tx_ready`; `tx_data` is arbitrary while it offers
nothing; the transmit path is `Quiescent` when the packet starts (true `phase + 1` cycles after reset and again five bit
times after the last data bit of every packet -- `reset_quiescent`, `tx_pipeline_emits_encode`, `idle_stays_quiescent`,
which together cover any number of packets with arbitrary gaps of at least that length).

Proof structure: `Lemmas/C25Tx12` (12 MHz part: invariants over SYNC and data phase, induction over the bits),
`Lemmas/C25TxIo` (48 MHz part: one lemma per `usb` cycle for each phase, induction over the `usb` cycles, staggering of
the per-cycle encoder states into the `usb_io` output stream), and here the decoupling of the two clock domains
(`loopIo_split`) and the theorems of the property.
-/
namespace LunaVerif.FsTx
open LunaVerif.FsCodec

def Out.line (o : Out) : Line := if o.oe then .d o.dP o.dN else .z

structure RIo where
  outs : List Out        -- one per `usb_io` cycle (four per `usb` cycle)
  acc  : List Nat        -- `tx_data` at the `usb` edges with `tx_ready`
  st   : St
  prod : Prod

/-- The whole transmit path (`FsTx.step`, the function the co-simulation runs against the gateware) in closed loop
with the producer: one `usb` cycle = four `usb_io` cycles with the producer's outputs held; the producer sees
`tx_ready` at the `usb` edge, i.e. in the last of the four. -/
def loopIo (φ : Nat) : St → Prod → List Nat → RIo
  | s, p, [] => ⟨[], [], s, p⟩
  | s, p, g :: gs =>
    let i : In := ⟨p.valid, p.data g⟩
    let r1 := step φ s i
    let r2 := step φ r1.1 i
    let r3 := step φ r2.1 i
    let r4 := step φ r3.1 i
    let r := loopIo φ r4.1 (p.next r4.2.ready) gs
    ⟨r1.2 :: r2.2 :: r3.2 :: r4.2 :: r.outs, (if r4.2.ready then [i.data] else []) ++ r.acc, r.st, r.prod⟩

theorem usb_cycle (φ : Nat) (hφ : φ < 4) (s : St) (i : In) (hc : s.io.counter = (φ + 1) % 4) :
    (step φ (step φ (step φ (step φ s i).1 i).1 i).1 i).1 =
      ⟨s.tx.next i.valid i.data, (ioRun s.io (List.replicate 4 (s.tx.fitOe, s.tx.fitDat))).2⟩ ∧
    [(step φ s i).2.line, (step φ (step φ s i).1 i).2.line, (step φ (step φ (step φ s i).1 i).1 i).2.line,
      (step φ (step φ (step φ (step φ s i).1 i).1 i).1 i).2.line] =
      (ioRun s.io (List.replicate 4 (s.tx.fitOe, s.tx.fitDat))).1 ∧
    (step φ (step φ (step φ (step φ s i).1 i).1 i).1 i).2.ready = s.tx.ready i.valid ∧
    (step φ (step φ (step φ (step φ s i).1 i).1 i).1 i).1.io.counter = (φ + 1) % 4 := by
  have : φ = 0 ∨ φ = 1 ∨ φ = 2 ∨ φ = 3 := by omega
  rcases this with h | h | h | h <;> subst h <;>
    simp [step, St.next, St.out, Out.line, Io.line, ioRun, Io.next, hc, List.replicate]

/-- **the two clock domains decouple**: the closed loop over the whole path is the 12 MHz loop, whose
(`fit_oe`, `fit_dat`) stream, each value held four `usb_io` cycles, drives the 48 MHz part. -/
theorem loopIo_split (φ : Nat) (hφ : φ < 4) (gs : List Nat) : ∀ (s : St) (p : Prod), s.io.counter = (φ + 1) % 4 →
    (loopIo φ s p gs).outs.map Out.line = (ioRun s.io (held ((loop12 s.tx p gs).outs.map O12.fit))).1 ∧
    (loopIo φ s p gs).acc = accepted (loop12 s.tx p gs).outs ∧
    (loopIo φ s p gs).st = ⟨(loop12 s.tx p gs).st, (ioRun s.io (held ((loop12 s.tx p gs).outs.map O12.fit))).2⟩ ∧
    (loopIo φ s p gs).prod = (loop12 s.tx p gs).prod := by
  induction gs with
  | nil => intro s p _; simp [loopIo, loop12, held, ioRun, accepted]
  | cons g gs ih =>
    intro s p hc
    obtain ⟨u1, u2, u3, u4⟩ := usb_cycle φ hφ s ⟨p.valid, p.data g⟩ hc
    have := ih _ (p.next (s.tx.ready p.valid)) u4
    rw [u1] at this
    obtain ⟨i1, i2, i3, i4⟩ := this
    simp only [loopIo, loop12_cons_outs, loop12_cons_st, loop12_cons_prod, List.map_cons, O12.fit, held_cons,
      ioRun_append, u3, u1]
    refine ⟨?_, ?_, ?_, ?_⟩
    · rw [← u2, i1]; simp
    · rw [i2]; cases hr : s.tx.ready p.valid <;> simp [accepted]
    · rw [i3]
    · rw [i4]

/-- nothing is being sent anywhere in the transmit path: the 12 MHz controller idle, the synchronizers flushed, the
encoder in IDLE with its output flops not driving; `usb` cycle boundary (counter = phase + 1) -/
def Quiescent (φ : Nat) (s : St) : Prop :=
  Quiet12 s.tx ∧ Shape φ xI s.io ∧ s.io.nrzi = .idle ∧ s.io.line = .z

theorem idle12 (gs : List Nat) : ∀ (s : Tx12), Quiet12 s →
    (loop12 s ⟨[]⟩ gs).outs.map O12.fit = List.replicate gs.length xI ∧ accepted (loop12 s ⟨[]⟩ gs).outs = [] ∧
    Quiet12 (loop12 s ⟨[]⟩ gs).st ∧ (loop12 s ⟨[]⟩ gs).prod = ⟨[]⟩ := by
  induction gs with
  | nil => intro s h; simp [loop12, accepted, h]
  | cons g gs ih =>
    intro s h
    obtain ⟨q1, q2, q3⟩ := quiet_out s h
    have hv : Prod.valid ⟨[]⟩ = false := rfl
    have hn : Prod.next ⟨[]⟩ false = ⟨[]⟩ := rfl
    obtain ⟨i1, i2, i3, i4⟩ := ih _ (quiet_idle s h (Prod.data ⟨[]⟩ g))
    simp only [loop12_cons_outs, loop12_cons_st, loop12_cons_prod, hv, q3, hn]
    refine ⟨?_, ?_, i3, i4⟩
    · simp [O12.fit, q1, q2, i1, xI, List.replicate_succ]
    · unfold accepted at i2 ⊢; simp [i2]

/-! ## The theorems of the property -/

/-- what `encode bytes` looks like on the pins: every symbol driven for four `usb_io` cycles (one bit time) -/
def waveform (bytes : List Nat) : List Line := (encode bytes).flatMap (fun x => List.replicate 4 (Sym.line x))

theorem nrzi_length (bs : List Bool) : ∀ l, (nrzi l bs).length = bs.length := by
  induction bs with
  | nil => intro l; rfl
  | cons b bs ih => intro l; simp [nrzi, ih]

theorem encode_length (bytes : List Nat) : (encode bytes).length = 11 + (stuff 1 (bitsOf bytes)).length := by
  simp [encode, nrzi_length, syncBits]; omega

theorem waveform_eq (bytes : List Nat) :
    waveform bytes = wave (syncBits.tail ++ stuff 1 (bitsOf bytes)) := by
  simp only [waveform, wave, encode, syncBits, List.tail_cons, List.cons_append, List.nil_append]

/-- both theorems at once (they share the decomposition) -/
theorem tx_packet (φ : Nat) (hφ : φ < 4) (bytes : List Nat) (hne : bytes ≠ []) (hb : ∀ b ∈ bytes, b < 256)
    (s : St) (hq : Quiescent φ s) (gs : List Nat) (hlen : gs.length = (encode bytes).length + 3) :
    (loopIo φ s ⟨bytes⟩ gs).outs.map Out.line =
      List.replicate (lat φ) Line.z ++ waveform bytes ++ List.replicate (tailZ φ) Line.z ∧
    (loopIo φ s ⟨bytes⟩ gs).acc = bytes ∧
    Quiescent φ (loopIo φ s ⟨bytes⟩ gs).st ∧ (loopIo φ s ⟨bytes⟩ gs).prod.rest = [] := by
  obtain ⟨hq1, hq2⟩ := hq
  rw [encode_length] at hlen
  obtain ⟨gsP, gsT, rfl, hP, hT⟩ : ∃ gsP gsT, gs = gsP ++ gsT ∧ gsP.length = cycles12 bytes ∧ gsT.length = 5 :=
    ⟨gs.take (cycles12 bytes), gs.drop (cycles12 bytes), by simp, by simp [cycles12]; omega, by simp [cycles12]; omega⟩
  obtain ⟨l1, l2, l3, l4⟩ := loopIo_split φ hφ (gsP ++ gsT) s ⟨bytes⟩ hq2.1.1
  obtain ⟨p1, p2, p3, p4⟩ := packet12 bytes hne hb s.tx hq1 gsP hP
  obtain ⟨t1, t2, t3, t4⟩ := idle12 gsT _ p3
  simp only [loop12_append, p4] at l1 l2 l3 l4
  have hfit : ((loop12 s.tx ⟨bytes⟩ gsP).outs ++ (loop12 (loop12 s.tx ⟨bytes⟩ gsP).st ⟨[]⟩ gsT).outs).map O12.fit
      = fitStream (syncBits.tail ++ stuff 1 (bitsOf bytes)) := by
    rw [List.map_append, p1, t1, hT]
    simp [fitStream, syncBits, xI]
  rw [hfit] at l1 l3
  obtain ⟨w1, w2⟩ := io_packet φ hφ (syncBits.tail ++ stuff 1 (bitsOf bytes)) s.io hq2
  -- the two runs are hidden behind variables: the `exact` for `Quiescent` would otherwise unfold them (time-out)
  generalize ioRun s.io (held (fitStream (syncBits.tail ++ stuff 1 (bitsOf bytes))))
    = R at l1 l3 w1 w2
  generalize loop12 (loop12 s.tx ⟨bytes⟩ gsP).st ⟨[]⟩ gsT = T at l3 l4 t3 t4
  refine ⟨?_, ?_, ?_, ?_⟩
  · rw [l1, w1, waveform_eq]
  · unfold accepted at p2 t2 l2
    rw [l2, List.filterMap_append, p2, t2, List.append_nil]
  · rw [l3]; exact ⟨t3, w2⟩
  · rw [l4, t4]

/-- **C25, transmit direction.**  For every clock phase, every non-empty byte list and a producer that keeps
`tx_valid` (and the byte) until `tx_ready` and drops it after the last one: started with the transmit path quiescent,
the D+/D- pins are undriven for `lat φ` `usb_io` cycles, then carry exactly `encode bytes` -- SYNC, the bytes LSB first
with a 0 stuffed after six 1s (the 1 ending SYNC counted), NRZI, SE0 SE0 J -- every symbol for one bit time (four
`usb_io` cycles), then are undriven for the `tailZ φ` ≤ 3 `usb_io` cycles left of the run.  The run is `(encode bytes).length
+ 3` `usb` cycles from the one in which `tx_valid` is first seen (`lat φ + tailZ φ` = 12 `usb_io` cycles more than the
waveform: `tx_valid` low for five bit times after the last data bit); at its end the path is quiescent again, so that the
statement applies to the next packet. -/
theorem tx_pipeline_emits_encode (φ : Nat) (hφ : φ < 4) (bytes : List Nat) (hne : bytes ≠ [])
    (hb : ∀ b ∈ bytes, b < 256) (s : St) (hq : Quiescent φ s) (gs : List Nat)
    (hlen : gs.length = (encode bytes).length + 3) :
    (loopIo φ s ⟨bytes⟩ gs).outs.map Out.line =
      List.replicate (lat φ) Line.z ++ waveform bytes ++ List.replicate (tailZ φ) Line.z ∧
    Quiescent φ (loopIo φ s ⟨bytes⟩ gs).st ∧ (loopIo φ s ⟨bytes⟩ gs).prod.rest = [] := by
  obtain ⟨h1, _, h3, h4⟩ := tx_packet φ hφ bytes hne hb s hq gs hlen
  exact ⟨h1, h3, h4⟩

/-- **every byte is accepted exactly once**: the `tx_data` values at the `usb` edges with `tx_ready`, over the whole
packet (SYNC, data, EOP, idle tail), are exactly the bytes offered, in order. -/
theorem each_byte_accepted_once (φ : Nat) (hφ : φ < 4) (bytes : List Nat) (hne : bytes ≠ [])
    (hb : ∀ b ∈ bytes, b < 256) (s : St) (hq : Quiescent φ s) (gs : List Nat)
    (hlen : gs.length = (encode bytes).length + 3) :
    (loopIo φ s ⟨bytes⟩ gs).acc = bytes :=
  (tx_packet φ hφ bytes hne hb s hq gs hlen).2.1

theorem no_ready_without_valid (φ : Nat) (s : St) (d : Nat) : (step φ s ⟨false, d⟩).2.ready = false := by
  simp [step, St.out, Tx12.ready]

/-! ## Idle, reset, several packets -/

theorem io_idle (φ : Nat) (hφ : φ < 4) (n : Nat) : ∀ io : Io, IoQuiet φ io →
    (ioRun io (held (List.replicate n xI))).1 = List.replicate (4 * n) Line.z ∧
    IoQuiet φ (ioRun io (held (List.replicate n xI))).2 := by
  induction n with
  | zero => intro io h; simp [held, ioRun, h]
  | succ n ih =>
    intro io ⟨h1, h2, h3⟩
    obtain ⟨b1, b2, b3⟩ := block φ hφ xI xI io h1
    have hs : sample φ xI xI = xI := by simp [sample]
    have hi : Nrzi.idle.next true xI.1 xI.2 = .idle := rfl
    rw [hs, h2, hi] at b1 b3
    have hfb : fsmBlock φ .idle .idle = List.replicate 4 .idle := by
      rw [fsmBlock, List.replicate_append_replicate]
      congr 1
      omega
    rw [hfb, h3] at b1
    obtain ⟨b1, b4⟩ := List.append_inj' (b1.trans (rfl : _ = List.replicate 4 Line.z ++ [Line.z])) rfl
    obtain ⟨i1, i2⟩ := ih _ ⟨b2, b3, List.singleton_inj.mp b4⟩
    rw [List.replicate_succ, held_cons, ioRun_append]
    refine ⟨?_, i2⟩
    simp only [b1, i1]
    rw [show 4 * (n + 1) = 4 + 4 * n by omega, rep_add]

/-- **idle**: while `tx_valid` stays low a quiescent transmit path never drives D+/D-, takes no byte (`acc = []`: no
`tx_ready` at a `usb` edge; that `tx_ready` is low in every `usb_io` cycle without `tx_valid`, from any state, is
`no_ready_without_valid`), and stays quiescent -- for any number of `usb` cycles and whatever is on `tx_data`. -/
theorem idle_stays_quiescent (φ : Nat) (hφ : φ < 4) (s : St) (hq : Quiescent φ s) (gs : List Nat) :
    (loopIo φ s ⟨[]⟩ gs).outs.map Out.line = List.replicate (4 * gs.length) Line.z ∧
    (loopIo φ s ⟨[]⟩ gs).acc = [] ∧ Quiescent φ (loopIo φ s ⟨[]⟩ gs).st ∧ (loopIo φ s ⟨[]⟩ gs).prod.rest = [] := by
  obtain ⟨hq1, hq2⟩ := hq
  obtain ⟨l1, l2, l3, l4⟩ := loopIo_split φ hφ gs s ⟨[]⟩ hq2.1.1
  obtain ⟨t1, t2, t3, t4⟩ := idle12 gs s.tx hq1
  rw [t1] at l1 l3
  obtain ⟨w1, w2⟩ := io_idle φ hφ gs.length s.io hq2
  generalize ioRun s.io (held (List.replicate gs.length xI)) = R at l1 l3 w1 w2
  generalize loop12 s.tx ⟨[]⟩ gs = T at l2 l3 l4 t2 t3 t4
  exact ⟨by rw [l1, w1], by rw [l2, t2], by rw [l3]; exact ⟨t3, w2⟩, by rw [l4, t4]⟩

/-- `usb_io` cycles with `tx_valid` low -/
def idleSteps (φ : Nat) : St → List Nat → St
  | s, [] => s
  | s, d :: ds => idleSteps φ (step φ s ⟨false, d⟩).1 ds

theorem idleSteps_quiet (φ : Nat) (ds : List Nat) : ∀ s : St, Quiet12 s.tx →
    Quiet12 (idleSteps φ s ds).tx ∧ (idleSteps φ s ds).io = (ioRun s.io (List.replicate ds.length xI)).2 := by
  induction ds with
  | nil => intro s h; exact ⟨h, rfl⟩
  | cons d ds ih =>
    intro s h
    obtain ⟨q1, q2, _⟩ := quiet_out s.tx h
    have h' : Quiet12 (step φ s ⟨false, d⟩).1.tx := by
      simp only [step, St.next]
      split
      · exact quiet_idle s.tx h d
      · exact h
    obtain ⟨i1, i2⟩ := ih _ h'
    exact ⟨i1, i2.trans (by simp only [step, St.next, q1, q2, List.length_cons, List.replicate_succ, ioRun, xI])⟩

/-- **reset**: `phase + 1` `usb_io` cycles after reset (i.e. at the first `usb` cycle boundary) the path is quiescent,
provided `tx_valid` was low until then. -/
theorem reset_quiescent (φ : Nat) (hφ : φ < 4) (ds : List Nat) (hd : ds.length = φ + 1) :
    Quiescent φ (idleSteps φ {} ds) := by
  obtain ⟨h1, h2⟩ := idleSteps_quiet φ ds {} ⟨rfl, rfl, Or.inl rfl⟩
  refine ⟨h1, ?_⟩
  rw [h2, hd]
  -- the 48 MHz registers after `φ + 1` edges with (0, 0) at the synchronizer inputs
  have : φ = 0 ∨ φ = 1 ∨ φ = 2 ∨ φ = 3 := by omega
  rcases this with h | h | h | h <;> subst h <;> unfold Shape <;> decide

/-- a transmission job: the bytes, the idle `tx_data` values of the packet's `usb` cycles, and those of the gap after it -/
structure Job where
  bytes : List Nat
  during : List Nat
  gap : List Nat

def Job.ok (j : Job) : Prop :=
  j.bytes ≠ [] ∧ (∀ b ∈ j.bytes, b < 256) ∧ j.during.length = (encode j.bytes).length + 3

/-- packet after packet: the producer offers the bytes of a job, waits `gap` further `usb` cycles, offers the next -/
def jobsLoop (φ : Nat) : St → List Job → List Line × List (List Nat) × St
  | s, [] => ([], [], s)
  | s, j :: js =>
    let r1 := loopIo φ s ⟨j.bytes⟩ j.during
    let r2 := loopIo φ r1.st ⟨[]⟩ j.gap
    let r := jobsLoop φ r2.st js
    (r1.outs.map Out.line ++ r2.outs.map Out.line ++ r.1, (r1.acc ++ r2.acc) :: r.2.1, r.2.2)

/-- **any number of packets**: every packet appears as `encode` of its bytes, its bytes -- and nothing else -- are
accepted, and between the packets the pins are not driven. -/
theorem tx_packets (φ : Nat) (hφ : φ < 4) (js : List Job) : ∀ (s : St), Quiescent φ s → (∀ j ∈ js, j.ok) →
    (jobsLoop φ s js).1 = js.flatMap (fun j => List.replicate (lat φ) Line.z ++ waveform j.bytes ++
      List.replicate (tailZ φ) Line.z ++ List.replicate (4 * j.gap.length) Line.z) ∧
    (jobsLoop φ s js).2.1 = js.map Job.bytes ∧ Quiescent φ (jobsLoop φ s js).2.2 := by
  induction js with
  | nil => intro s hq _; exact ⟨rfl, rfl, hq⟩
  | cons j js ih =>
    intro s hq hj
    obtain ⟨h1, h2, h3⟩ := hj j (by simp)
    obtain ⟨p1, p2, p3, _⟩ := tx_packet φ hφ j.bytes h1 h2 s hq j.during h3
    obtain ⟨g1, g2, g3, _⟩ := idle_stays_quiescent φ hφ _ p3 j.gap
    obtain ⟨i1, i2, i3⟩ := ih _ g3 (fun x hx => hj x (by simp [hx]))
    simp only [jobsLoop, List.flatMap_cons, List.map_cons]
    exact ⟨by rw [p1, g1, i1], by rw [p2, g2, i2]; simp, i3⟩

/-! ### non-vacuity: the hypotheses are satisfiable and the statement says what it should on a concrete packet -/

example : Quiescent 0 (idleSteps 0 {} [0x55]) := reset_quiescent 0 (by decide) [0x55] rfl
example : ([0xA5] : List Nat) ≠ [] ∧ (∀ b ∈ ([0xA5] : List Nat), b < 256) ∧
    (List.replicate 22 (0x3C : Nat)).length = (encode [0xA5]).length + 3 := by decide
/-- the model run itself (no theorem involved): reset, one `usb_io` cycle, then the packet [0xA5] -/
example : ((loopIo 0 (idleSteps 0 {} [0x55]) ⟨[0xA5]⟩ (List.replicate 22 0x3C)).outs.map Out.line) =
    List.replicate 9 Line.z ++ waveform [0xA5] ++ List.replicate 3 Line.z := by decide +kernel
example : (loopIo 0 (idleSteps 0 {} [0x55]) ⟨[0xA5]⟩ (List.replicate 22 0x3C)).acc = [0xA5] := by decide +kernel
/-- a packet whose last bit is the sixth 1 (STUFF_LAST_BIT), phase 2 -/
example : ((loopIo 2 (idleSteps 2 {} [1, 2, 3]) ⟨[0xFC]⟩ (List.replicate 23 0xFF)).outs.map Out.line) =
    List.replicate (lat 2) Line.z ++ waveform [0xFC] ++ List.replicate (tailZ 2) Line.z := by decide +kernel

example : Job.ok ⟨[0xC3, 0xFF, 0x00], List.replicate 39 0, [1, 2, 3]⟩ := by
  refine ⟨by decide, by decide, by decide⟩

end LunaVerif.FsTx
