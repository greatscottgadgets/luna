import LunaVerif.Props.C56Stream
import LunaVerif.Props.C49
import LunaVerif.Model.Periph.IlaUart
/-!
# C56 — read-out of the captured samples through `AsyncSerialILA` (UART)

"The ILA captures exactly the samples following a trigger" — for the UART wrapper: after a trigger that is seen while
the wrapper is idle, the `tx` line carries, as complete 8N1 frames (start bit, 8 data bits LSB first, stop bit, each
bit `divisor` cycles) separated only by idle-high cycles, exactly the little-endian bytes of the `depth` consecutive
(delayed) samples that followed the trigger, in order, each once.

The statement is a composition of two facts, each for *every* input history:

* `StreamILA` (`IlaStream.capture_readout`, seen through `ilaHist`: `ila_capture`): the words transferred on the internal
  stream are a prefix of the framed samples, all of them once the wrapper is idle again — for every ready pattern (here
  generated by the transmitter);
* the transmitter coupled to it (`mb_run`, cycle by cycle from C49's refinement `mbStep_abs` of the specification
  `mbSpecStep`: `step_spec`), over ANY history of the composite, from any transmitter state satisfying C49's `Uart.Inv`
  (the baud counter is below the divisor while a frame is under way): the bytes handed to the byte
  transmitter, followed by the bytes still pending in the shift register, are the little-endian bytes of the words the
  StreamILA transferred, in order (`mb_bytes`); the `tx` waveform, followed by the part of the current frame still owed to
  the line (C49's abstraction `Uart.abs`), is `wave`: one idle-high cycle per cycle the byte transmitter is idle and one
  complete 8N1 frame per byte handed over, in order (`mb_line`) — the UART's counterpart of the CDC back end's
  `queue_conservation`.

`decode` is an independent 8N1 receiver on waveforms; `decode_wave` shows that it recovers the bytes of a `wave` modulo 256,
`decode_bytes` the bytes themselves when they are below 256.
-/
namespace LunaVerif.IlaUart
open LunaVerif.Uart

inductive Seg
  | gap                -- one idle-high cycle
  | byte (b : Nat)     -- one complete 8N1 frame
deriving DecidableEq, Repr

def wave (d : Nat) : List Seg → List Bool
  | [] => []
  | .gap :: r => true :: wave d r
  | .byte b :: r => expand d (Uart.frame b) ++ wave d r

def segBytes : List Seg → List Nat
  | [] => []
  | .gap :: r => segBytes r
  | .byte b :: r => b :: segBytes r

theorem wave_append (d : Nat) (a b : List Seg) : wave d (a ++ b) = wave d a ++ wave d b := by
  induction a with
  | nil => rfl
  | cons s a ih => cases s <;> simp [wave, ih]

theorem segBytes_append (a b : List Seg) : segBytes (a ++ b) = segBytes a ++ segBytes b := by
  induction a with
  | nil => rfl
  | cons s a ih => cases s <;> simp [segBytes, ih]

/-! ## the word transmitter, through C49's abstraction

C49 shows that `mbStep` refines `mbSpecStep` on the abstract state `mbAbs` = (bytes pending, line schedule owed).  What one cycle
adds to the line, and what it takes from the pending bytes, is read off that specification. -/

theorem abs_idle (d : Nat) (s : Uart.State) (h : s.fsm = .idle) : Uart.abs d s = [] := by
  simp [Uart.abs, h]

theorem abs_transmit_ne (d : Nat) (s : Uart.State) (h : s.fsm = .transmit) : Uart.abs d s ≠ [] := by
  simp [Uart.abs, h, List.replicate_succ]

theorem lineOut_tx_cons (b : Bool) (t : List Bool) : (lineOut (b :: t)).tx = b := by
  cases t <;> rfl

/-- what one cycle of the word transmitter adds to the line: an idle cycle if nothing is owed, a frame if a pending byte is
handed over (at most one cycle still owed) -/
def stepSegs (q : List Nat × List Bool) : List Seg :=
  (if q.2 = [] then [.gap] else []) ++
    (match q.1 with
     | b :: _ => if q.2.length ≤ 1 then [.byte b] else []
     | [] => [])

theorem mbSpec_segs (d w : Nat) (q : List Nat × List Bool) (i : Uart.In) :
    (mbSpecStep d w q i).2.tx :: (mbSpecStep d w q i).1.2 = q.2 ++ wave d (stepSegs q) ∧
    segBytes (stepSegs q) ++ (mbSpecStep d w q i).1.1 =
      q.1 ++ (if i.valid && (mbSpecStep d w q i).2.ready then bytesLE w i.payload else []) := by
  obtain ⟨pend, rem⟩ := q
  rcases pend with _ | ⟨b, _ | ⟨b', rest⟩⟩ <;> rcases rem with _ | ⟨x, _ | ⟨y, t⟩⟩ <;> cases hv : i.valid <;>
    simp [mbSpecStep, stepSegs, wave, segBytes, lineOut, hv]

/-- the input of the inner byte transmitter in a cycle of the word transmitter -/
def innerIn (s : MBState) : Uart.In := ⟨decide (s.fsm = .transmit), s.shift % 256⟩

/-- the first component of C49's `mbAbs`: the bytes of the accepted word not yet handed to the byte transmitter -/
def pend (s : MBState) : List Nat :=
  match s.fsm with
  | .idle => []
  | .transmit => bytesLE (s.bytes + 1) s.shift

theorem pend_length (s : MBState) :
    (pend s).length = (match s.fsm with | .idle => 0 | .transmit => s.bytes + 1) := by
  obtain ⟨f, shift, bytes, u⟩ := s
  cases f <;> simp [pend, bytesLE_length]

theorem mbStep_uart (d w : Nat) (s : MBState) (i : Uart.In) :
    (mbStep d w s i).1.uart = (Uart.step d s.uart (innerIn s)).1 ∧
    (mbStep d w s i).2.tx = (Uart.step d s.uart (innerIn s)).2.tx := by
  obtain ⟨f, shift, bytes, u⟩ := s
  cases f
  · cases hv : i.valid <;> simp [mbStep, innerIn, hv]
  · simp only [mbStep, innerIn]
    split <;> (try split) <;> (try split) <;> simp

theorem mbStep_ready (d w : Nat) (s : MBState) (i : Uart.In) :
    (mbStep d w s i).2.ready =
      (match s.fsm with
       | .idle => true
       | .transmit => (Uart.step d s.uart (innerIn s)).2.ready && decide (s.bytes = 0)) := by
  obtain ⟨f, shift, bytes, u⟩ := s
  cases f
  · cases hv : i.valid <;> simp [mbStep, hv]
  · simp only [mbStep, innerIn]
    by_cases hr : (Uart.step d u ⟨true, shift % 256⟩).2.ready = true
    · by_cases hb : bytes > 0
      · have : bytes ≠ 0 := by omega
        simp [hr, hb, this]
      · have hb0 : bytes = 0 := by omega
        cases hv : i.valid <;> simp [hr, hb0]
    · simp [hr]

/-- what lets the model compute `stream.ready` by probing `mbStep` with a dummy input (`uartReady`) -/
theorem mbStep_ready_indep (d w : Nat) (s : MBState) (i j : Uart.In) :
    (mbStep d w s i).2.ready = (mbStep d w s j).2.ready := by
  rw [mbStep_ready, mbStep_ready]

/-! ## the StreamILA inside the composite, through its input history `ilaHist` -/

/-- the input history the StreamILA sees during a run of the composite (`ready` generated by the transmitter) -/
def ilaHist (c : Config) : State → List In → List IlaStream.In
  | _, [] => []
  | s, x :: xs => ilaIn c s x :: ilaHist c (step c s x).1 xs

theorem ilaHist_append (c : Config) (a b : List In) : ∀ s,
    ilaHist c s (a ++ b) = ilaHist c s a ++ ilaHist c (runState c s a) b := by
  induction a with
  | nil => intro s; rfl
  | cons x a ih => intro s; simp [ilaHist, runState, ih]

theorem runState_append (c : Config) (a b : List In) : ∀ s,
    runState c s (a ++ b) = runState c (runState c s a) b := by
  induction a with
  | nil => intro s; rfl
  | cons x a ih => intro s; simp [runState, ih]

theorem ilaHist_length (c : Config) (h : List In) : ∀ s, (ilaHist c s h).length = h.length := by
  induction h with
  | nil => intro s; rfl
  | cons x h ih => intro s; simp [ilaHist, ih]

theorem ilaHist_inputs (c : Config) (h : List In) : ∀ s,
    IlaStream.inputsOfW (ilaHist c s h) = h.map (·.inputs) := by
  induction h with
  | nil => intro s; rfl
  | cons x h ih =>
    intro s
    have := ih (step c s x).1
    simp only [IlaStream.inputsOfW] at this
    simp [ilaHist, IlaStream.inputsOfW, ilaIn, this]

theorem ila_view (c : Config) (h : List In) : ∀ s,
    (runState c s h).ila = IlaStream.runState c.ila s.ila (ilaHist c s h) := by
  induction h with
  | nil => intro s; rfl
  | cons x h ih => intro s; simp only [runState, ilaHist, IlaStream.runState]; rw [ih]; rfl

/-- `IlaStream.noRetrigger` on the composite (`noRetrigger_view`) -/
def noRetrigger (c : Config) : State → List In → Prop
  | _, [] => True
  | s, y :: ys => (s.ila.fsm = .idle → y.trigger = false) ∧ noRetrigger c (step c s y).1 ys

instance (c : Config) : ∀ s ys, Decidable (noRetrigger c s ys)
  | _, [] => isTrue trivial
  | s, y :: ys =>
    have := instDecidableNoRetrigger c (step c s y).1 ys
    inferInstanceAs (Decidable ((s.ila.fsm = .idle → y.trigger = false) ∧ noRetrigger c (step c s y).1 ys))

theorem noRetrigger_view (c : Config) (ys : List In) : ∀ s, noRetrigger c s ys →
    IlaStream.noRetrigger c.ila s.ila (ilaHist c s ys) := by
  induction ys with
  | nil => intro s _; trivial
  | cons y ys ih =>
    intro s h
    exact ⟨h.1, ih _ h.2⟩

/-- the captured samples, as in `captures_depth_consecutive_samples`: `S[1 .. depth]`, `S` = delay line ++ inputs from
the trigger cycle on -/
def samples (c : Config) (σ : State) (x0 : In) (xs : List In) : List Nat :=
  ((σ.ila.core.dl ++ (x0 :: xs).map (·.inputs)).drop 1).take c.ila.depth

theorem ilaHist_handover (c : Config) (σ : State) (x0 : In) (xs : List In) (xl : In) :
    ilaHist c σ (x0 :: xs ++ [xl]) =
      ilaIn c σ x0 :: ilaHist c (step c σ x0).1 xs ++ [ilaIn c (runState c σ (x0 :: xs)) xl] := by
  rw [show x0 :: xs ++ [xl] = (x0 :: xs) ++ [xl] from rfl, ilaHist_append]
  simp [ilaHist, runState]

theorem ilaHist_inputs_cons (c : Config) (σ : State) (x0 : In) (xs : List In) :
    IlaStream.inputsOfW (ilaIn c σ x0 :: ilaHist c (step c σ x0).1 xs) = (x0 :: xs).map (·.inputs) := by
  simpa [ilaHist] using ilaHist_inputs c (x0 :: xs) σ

/-- `IlaStream.handover` through `ilaHist` -/
theorem ila_handover (c : Config) (hD : 1 ≤ c.ila.depth) (σ : State) (hσ : IlaStream.WIdle c.ila σ.ila)
    (x0 : In) (ht : x0.trigger = true) (xs : List In) (hl : xs.length = c.ila.depth) (xl : In) :
    IlaStream.transfers c.ila σ.ila (ilaHist c σ (x0 :: xs ++ [xl])) = [] ∧
    IlaStream.Reading c.ila (samples c σ x0 xs) (runState c σ (x0 :: xs ++ [xl])).ila ∧
    IlaStream.rem c.ila (runState c σ (x0 :: xs ++ [xl])).ila = c.ila.depth ∧
    (runState c σ (x0 :: xs ++ [xl])).ila.dv = σ.ila.dv := by
  have h := IlaStream.handover c.ila hD σ.ila hσ (ilaIn c σ x0) ht (ilaHist c (step c σ x0).1 xs)
    (by rw [ilaHist_length, hl]) (ilaIn c (runState c σ (x0 :: xs)) xl)
  rw [← ilaHist_handover, ← ila_view, ilaHist_inputs_cons] at h
  exact ⟨h.1, h.2.1, h.2.2.1, h.2.2.2.1⟩

/-- `IlaStream.capture_readout` through `ilaHist`; `k` depends on the ready pattern the transmitter generates -/
theorem ila_capture (c : Config) (hD : 1 ≤ c.ila.depth) (σ : State) (hσ : IlaStream.WIdle c.ila σ.ila)
    (x0 : In) (ht : x0.trigger = true) (xs : List In) (hl : xs.length = c.ila.depth) (xl : In) (ys : List In)
    (hq : noRetrigger c (runState c σ (x0 :: xs ++ [xl])) ys) :
    let k := (IlaStream.readyCount (ilaHist c (runState c σ (x0 :: xs ++ [xl])) ys) + σ.ila.dv.toNat) / 2
    IlaStream.transfers c.ila σ.ila (ilaHist c σ (x0 :: xs ++ xl :: ys)) = (IlaStream.frame (samples c σ x0 xs)).take k ∧
    ((runState c σ (x0 :: xs ++ xl :: ys)).ila.fsm = .idle ↔ c.ila.depth ≤ k) ∧
    ((runState c σ (x0 :: xs ++ xl :: ys)).ila.fsm = .idle →
      IlaStream.WIdle c.ila (runState c σ (x0 :: xs ++ xl :: ys)).ila ∧ (runState c σ (x0 :: xs ++ xl :: ys)).ila.dv = false) := by
  have hpre := ilaHist_handover c σ x0 xs xl
  have hview : ilaHist c σ (x0 :: xs ++ xl :: ys) = ilaIn c σ x0 :: ilaHist c (step c σ x0).1 xs ++
      ilaIn c (runState c σ (x0 :: xs)) xl :: ilaHist c (runState c σ (x0 :: xs ++ [xl])) ys := by
    rw [show x0 :: xs ++ xl :: ys = (x0 :: xs ++ [xl]) ++ ys by simp, ilaHist_append, hpre]
    simp
  have hq' := noRetrigger_view c ys _ hq
  rw [ila_view, hpre] at hq'
  have h := IlaStream.capture_readout c.ila hD σ.ila hσ (ilaIn c σ x0) ht
    (ilaHist c (step c σ x0).1 xs) (by rw [ilaHist_length, hl]) (ilaIn c (runState c σ (x0 :: xs)) xl)
    (ilaHist c (runState c σ (x0 :: xs ++ [xl])) ys) hq'
  rw [← hview, ← ila_view, ilaHist_inputs_cons] at h
  exact ⟨h.1, h.2.1, h.2.2.1⟩

/-! ## the transmitter inside the composite: one cycle, then any history -/

/-- one cycle of the composite, seen from the transmitter: a step of C49's specification on `mbAbs`, whose `ready` is what the
StreamILA is shown (`uartReady`, by `mbStep_ready_indep`) -/
theorem step_spec (c : Config) (hd : 1 ≤ c.d) (hw : 1 ≤ c.w) (σ : State) (x : In) (hu : Uart.Inv c.d σ.uart.uart) :
    mbAbs c.d (step c σ x).1.uart = (mbSpecStep c.d c.w (mbAbs c.d σ.uart) (uartIn c σ x)).1 ∧
    (step c σ x).2.tx = (mbSpecStep c.d c.w (mbAbs c.d σ.uart) (uartIn c σ x)).2.tx ∧
    (ilaIn c σ x).ready = (mbSpecStep c.d c.w (mbAbs c.d σ.uart) (uartIn c σ x)).2.ready ∧
    Uart.Inv c.d (step c σ x).1.uart.uart := by
  obtain ⟨ha, ho, hi⟩ := mbStep_abs c.d c.w hd hw σ.uart (uartIn c σ x) hu
  exact ⟨ha, congrArg (·.tx) ho, (mbStep_ready_indep c.d c.w σ.uart _ _).trans (congrArg (·.ready) ho), hi⟩

/-- what that cycle adds to the line and takes from the pending bytes (`stepSegs`), against the word the StreamILA transfers
in it -/
theorem step_account (c : Config) (hd : 1 ≤ c.d) (hw : 1 ≤ c.w) (σ : State) (x : In) (hu : Uart.Inv c.d σ.uart.uart) :
    (step c σ x).2.tx :: Uart.abs c.d (step c σ x).1.uart.uart =
      Uart.abs c.d σ.uart.uart ++ wave c.d (stepSegs (mbAbs c.d σ.uart)) ∧
    segBytes (stepSegs (mbAbs c.d σ.uart)) ++ pend (step c σ x).1.uart =
      pend σ.uart ++ ((IlaStream.xferOf (ilaIn c σ x) (IlaStream.step c.ila σ.ila (ilaIn c σ x)).2).map (·.1)).flatMap
        (bytesLE c.w) := by
  obtain ⟨ha, ht, hr, _⟩ := step_spec c hd hw σ x hu
  obtain ⟨g1, g2⟩ := mbSpec_segs c.d c.w (mbAbs c.d σ.uart) (uartIn c σ x)
  rw [← ht, ← ha] at g1
  rw [← hr, ← ha] at g2
  refine ⟨g1, g2.trans ?_⟩
  show pend σ.uart ++ (if (IlaStream.step c.ila σ.ila (ilaIn c σ x)).2.valid && (ilaIn c σ x).ready then _ else _) = _
  unfold IlaStream.xferOf
  split <;> simp [uartIn]

/-- the idle cycles and frames a history of the composite puts on the line -/
def mbSegs (c : Config) : State → List In → List Seg
  | _, [] => []
  | σ, x :: xs => stepSegs (mbAbs c.d σ.uart) ++ mbSegs c (step c σ x).1 xs

theorem mb_run (c : Config) (hd : 1 ≤ c.d) (hw : 1 ≤ c.w) (h : List In) : ∀ (σ : State), Uart.Inv c.d σ.uart.uart →
    (run c σ h).map (·.tx) ++ Uart.abs c.d (runState c σ h).uart.uart = Uart.abs c.d σ.uart.uart ++ wave c.d (mbSegs c σ h) ∧
    segBytes (mbSegs c σ h) ++ pend (runState c σ h).uart =
      pend σ.uart ++ ((IlaStream.transfers c.ila σ.ila (ilaHist c σ h)).map (·.1)).flatMap (bytesLE c.w) ∧
    Uart.Inv c.d (runState c σ h).uart.uart := by
  induction h with
  | nil => intro σ hu; simp [run, runState, mbSegs, wave, segBytes, ilaHist, IlaStream.transfers, hu]
  | cons x h ih =>
    intro σ hu
    obtain ⟨s1, s2⟩ := step_account c hd hw σ x hu
    obtain ⟨i1, i2, i3⟩ := ih (step c σ x).1 (step_spec c hd hw σ x hu).2.2.2
    refine ⟨?_, ?_, i3⟩
    · simp only [run, runState, mbSegs, List.map_cons, List.cons_append, wave_append]
      rw [i1, ← List.cons_append, s1, List.append_assoc]
    · simp only [runState, mbSegs, ilaHist, IlaStream.transfers, segBytes_append, List.map_append, List.flatMap_append,
        List.append_assoc]
      rw [i2, ← List.append_assoc, s2, List.append_assoc]
      rfl

/-- **mb_line**: the `tx` waveform of any history of the composite, followed by what is still owed to the line at the end, is
what was owed at the start followed by idle cycles and complete frames (`mbSegs`) -/
theorem mb_line (c : Config) (hd : 1 ≤ c.d) (hw : 1 ≤ c.w) (h : List In) (σ : State) (hu : Uart.Inv c.d σ.uart.uart) :
    (run c σ h).map (·.tx) ++ Uart.abs c.d (runState c σ h).uart.uart = Uart.abs c.d σ.uart.uart ++ wave c.d (mbSegs c σ h) ∧
    Uart.Inv c.d (runState c σ h).uart.uart :=
  ⟨(mb_run c hd hw h σ hu).1, (mb_run c hd hw h σ hu).2.2⟩

/-- **mb_bytes**: over any history of the composite, the bytes handed to the 8N1 line followed by the bytes still pending at
the end are the bytes pending at the start followed by the little-endian bytes of the words the StreamILA transferred -/
theorem mb_bytes (c : Config) (hd : 1 ≤ c.d) (hw : 1 ≤ c.w) (h : List In) (σ : State) (hu : Uart.Inv c.d σ.uart.uart) :
    segBytes (mbSegs c σ h) ++ pend (runState c σ h).uart =
      pend σ.uart ++ ((IlaStream.transfers c.ila σ.ila (ilaHist c σ h)).map (·.1)).flatMap (bytesLE c.w) :=
  (mb_run c hd hw h σ hu).2.1

/-- **uart_readout_exact**: a trigger seen while the wrapper is idle (`x0`), the `depth` capture cycles `xs`, the
hand-over cycle `xl`, then ANY continuation `ys` that starts no new capture.  Then the `tx` waveform of the whole
history, followed by the rest of the frame in progress at the end (`Uart.abs`: what the byte transmitter still owes to
the line), is: what was owed at the start, followed by idle-high cycles and complete 8N1 frames (`wave`), and the
bytes of those frames, followed by the bytes still pending in the word transmitter's shift register at the end, are:
the bytes pending at the start, followed by the little-endian bytes of the first `k` of the `depth` captured samples
in order — with `k ≥ depth` (all of them, each once) if the wrapper is idle again at the end.  For every divisor ≥ 1,
byte width ≥ 1, depth ≥ 1, pre-trigger count, waveform and trigger activity while the wrapper is busy, and every state of the
transmitter at the trigger that satisfies C49's `Inv`. -/
theorem uart_readout_exact (c : Config) (hD : 1 ≤ c.ila.depth) (hd : 1 ≤ c.d) (hw : 1 ≤ c.w) (σ : State)
    (hσ : IlaStream.WIdle c.ila σ.ila) (hu : Uart.Inv c.d σ.uart.uart)
    (x0 : In) (ht : x0.trigger = true) (xs : List In) (hl : xs.length = c.ila.depth) (xl : In) (ys : List In)
    (hq : noRetrigger c (runState c σ (x0 :: xs ++ [xl])) ys) :
    let hist := x0 :: xs ++ xl :: ys
    ∃ segs k,
      (run c σ hist).map (·.tx) ++ Uart.abs c.d (runState c σ hist).uart.uart = Uart.abs c.d σ.uart.uart ++ wave c.d segs ∧
      segBytes segs ++ pend (runState c σ hist).uart = pend σ.uart ++ ((samples c σ x0 xs).take k).flatMap (bytesLE c.w) ∧
      ((runState c σ hist).ila.fsm = .idle → c.ila.depth ≤ k) := by
  intro hist
  obtain ⟨hk1, hk2, _⟩ := ila_capture c hD σ hσ x0 ht xs hl xl ys hq
  have h2 := mb_bytes c hd hw hist σ hu
  rw [hk1, IlaStream.frame, List.map_take, IlaStream.frameFrom_payloads] at h2
  exact ⟨_, _, (mb_line c hd hw hist σ hu).1, h2, hk2.mp⟩

/-- the UART transmitter is quiescent: no word pending, nothing owed to the line -/
def UartQuiet (s : State) : Prop := s.uart.fsm = .idle ∧ s.uart.uart.fsm = .idle

instance (s : State) : Decidable (UartQuiet s) := inferInstanceAs (Decidable (_ ∧ _))

theorem UartQuiet.inv {c : Config} {s : State} (h : UartQuiet s) : Uart.Inv c.d s.uart.uart := by
  intro h'; rw [h.2] at h'; cases h'

/-- between two quiescent states of the transmitter the two accounts of `uart_readout_exact` lose their boundary terms -/
theorem quiet_ends (c : Config) {σ τ : State} (hu : UartQuiet σ) (hfu : UartQuiet τ) {tx : List Bool} {segs : List Seg}
    {B : List Nat} (h1 : tx ++ Uart.abs c.d τ.uart.uart = Uart.abs c.d σ.uart.uart ++ wave c.d segs)
    (h2 : segBytes segs ++ pend τ.uart = pend σ.uart ++ B) : tx = wave c.d segs ∧ segBytes segs = B := by
  have hp : ∀ {s : State}, UartQuiet s → pend s.uart = [] := fun h => by unfold pend; rw [h.1]
  rw [abs_idle _ _ hfu.2, abs_idle _ _ hu.2, List.append_nil, List.nil_append] at h1
  rw [hp hu, hp hfu, List.append_nil, List.nil_append] at h2
  exact ⟨h1, h2⟩

theorem samples_length_le (c : Config) (σ : State) (x0 : In) (xs : List In) :
    (samples c σ x0 xs).length ≤ c.ila.depth := by
  simp only [samples, List.length_take]; omega

/-- **uart_readout_complete**: as `uart_readout_exact`, starting with a quiescent transmitter, for a history at whose end
the wrapper is idle again and the transmitter quiescent: the `tx` waveform of the whole history consists of idle-high
cycles and complete 8N1 frames, and the bytes of the frames are exactly the little-endian bytes of all `depth` captured
samples, in order, each once. -/
theorem uart_readout_complete (c : Config) (hD : 1 ≤ c.ila.depth) (hd : 1 ≤ c.d) (hw : 1 ≤ c.w) (σ : State)
    (hσ : IlaStream.WIdle c.ila σ.ila) (hu : UartQuiet σ)
    (x0 : In) (ht : x0.trigger = true) (xs : List In) (hl : xs.length = c.ila.depth) (xl : In) (ys : List In)
    (hq : noRetrigger c (runState c σ (x0 :: xs ++ [xl])) ys)
    (hfi : (runState c σ (x0 :: xs ++ xl :: ys)).ila.fsm = .idle) (hfu : UartQuiet (runState c σ (x0 :: xs ++ xl :: ys))) :
    ∃ segs, (run c σ (x0 :: xs ++ xl :: ys)).map (·.tx) = wave c.d segs ∧
      segBytes segs = (samples c σ x0 xs).flatMap (bytesLE c.w) := by
  obtain ⟨segs, k, h1, h2, h3⟩ := uart_readout_exact c hD hd hw σ hσ hu.inv x0 ht xs hl xl ys hq
  rw [List.take_of_length_le (by have := samples_length_le c σ x0 xs; have := h3 hfi; omega)] at h2
  exact ⟨segs, quiet_ends c hu hfu h1 h2⟩

/-! ## an independent 8N1 receiver -/

def bitsVal : List Bool → Nat
  | [] => 0
  | b :: r => b.toNat + 2 * bitsVal r

/-- the data byte of a frame starting at the head of `l`: data bit `k` is sampled in the middle of its bit period -/
def byteAt (d : Nat) (l : List Bool) : Nat :=
  bitsVal ((List.range 8).map (fun k => l.getD (d * (k + 1) + d / 2) false))

/-- receiver: skip idle-high cycles; a low cycle starts a frame of `10·d` cycles (`fuel` bounds the recursion) -/
def decodeF (d : Nat) : Nat → List Bool → List Nat
  | 0, _ => []
  | _ + 1, [] => []
  | f + 1, b :: l => if b then decodeF d f l else byteAt d (b :: l) :: decodeF d f ((b :: l).drop (10 * d))

def decode (d : Nat) (l : List Bool) : List Nat := decodeF d l.length l

theorem bitsVal_lsbBits (k v : Nat) : bitsVal (lsbBits k v) = v % 2 ^ k := by
  induction k generalizing v with
  | zero => simp [lsbBits, bitsVal, Nat.mod_one]
  | succ k ih =>
    simp only [lsbBits, bitsVal, ih, Nat.pow_succ]
    have : (v % 2 == 1).toNat = v % 2 := by
      rcases Nat.mod_two_eq_zero_or_one v with h | h <;> simp [h]
    rw [this, Nat.mul_comm (2 ^ k) 2, Nat.mod_mul]

theorem expand_getD (d : Nat) (bits rest : List Bool) (r : Nat) (hr : r < d) : ∀ i, i < bits.length →
    (expand d bits ++ rest).getD (d * i + r) false = bits.getD i false := by
  induction bits with
  | nil => intro i h; simp at h
  | cons b bs ih =>
    intro i hi
    rw [expand_cons, List.append_assoc]
    cases i with
    | zero =>
      simp only [Nat.mul_zero, Nat.zero_add, List.getD_eq_getElem?_getD]
      rw [List.getElem?_append_left (by simp; exact hr)]
      simp [hr]
    | succ i =>
      have e : d * (i + 1) + r = d + (d * i + r) := by rw [Nat.mul_succ]; omega
      simp only [List.getD_eq_getElem?_getD] at ih ⊢
      rw [e, List.getElem?_append_right (by simp), List.length_replicate, Nat.add_sub_cancel_left]
      simpa using ih i (by simpa using hi)

theorem range_map_getD (l : List Bool) : (List.range l.length).map (fun k => l.getD k false) = l := by
  apply List.ext_getElem
  · simp
  · intro i h1 h2; simp [List.getD_eq_getElem?_getD, List.getElem?_eq_getElem h2]

theorem byteAt_frame (d : Nat) (hd : 1 ≤ d) (b : Nat) (rest : List Bool) :
    byteAt d (expand d (Uart.frame b) ++ rest) = b % 256 := by
  have hmap : (List.range 8).map (fun k => (expand d (Uart.frame b) ++ rest).getD (d * (k + 1) + d / 2) false) =
      (List.range 8).map (fun k => (lsbBits 8 b).getD k false) := by
    apply List.map_congr_left
    intro k hk
    have hk8 : k < 8 := by simpa using hk
    rw [expand_getD d _ rest (d / 2) (by omega) (k + 1) (by rw [frame_length]; omega)]
    simp only [Uart.frame, List.getD_eq_getElem?_getD, List.getElem?_cons_succ]
    rw [List.getElem?_append_left (by rw [lsbBits_length]; exact hk8)]
  have h8 : (lsbBits 8 b).length = 8 := lsbBits_length 8 b
  have := range_map_getD (lsbBits 8 b)
  rw [h8] at this
  rw [byteAt, hmap, this, bitsVal_lsbBits]

theorem expand_frame_cons (d : Nat) (hd : 1 ≤ d) (b : Nat) :
    ∃ t, expand d (Uart.frame b) = false :: t := by
  obtain ⟨e, rfl⟩ : ∃ e, d = e + 1 := ⟨d - 1, by omega⟩
  exact ⟨_, by rw [Uart.frame, expand_cons, List.replicate_succ]; rfl⟩

theorem decodeF_wave (d : Nat) (hd : 1 ≤ d) (segs : List Seg) : ∀ fuel, (wave d segs).length ≤ fuel →
    decodeF d fuel (wave d segs) = (segBytes segs).map (· % 256) := by
  induction segs with
  | nil => intro fuel _; cases fuel <;> rfl
  | cons s r ih =>
    intro fuel hf
    cases s with
    | gap =>
      simp only [wave, List.length_cons] at hf ⊢
      obtain ⟨f, rfl⟩ : ∃ f, fuel = f + 1 := ⟨fuel - 1, by omega⟩
      simp only [decodeF, if_true, segBytes]
      exact ih f (by omega)
    | byte b =>
      have hL : (expand d (Uart.frame b)).length = 10 * d := by rw [expand_length, frame_length]; omega
      simp only [wave, List.length_append, hL] at hf ⊢
      obtain ⟨f, rfl⟩ : ∃ f, fuel = f + 1 := ⟨fuel - 1, by omega⟩
      have hby := byteAt_frame d hd b (wave d r)
      have hdrop : (expand d (Uart.frame b) ++ wave d r).drop (10 * d) = wave d r := by
        rw [← hL]; exact List.drop_left
      obtain ⟨t, ht⟩ := expand_frame_cons d hd b
      rw [ht] at hby hdrop
      rw [ht, List.cons_append]
      simp only [decodeF, Bool.false_eq_true, if_false, segBytes, List.map_cons]
      rw [← List.cons_append, hby, hdrop, ih f (by omega)]

/-- **decode_wave**: from a waveform made of idle cycles and complete frames the receiver recovers the bytes modulo 256
(every divisor ≥ 1); `decode_bytes` below: the bytes themselves when they are below 256. -/
theorem decode_wave (d : Nat) (hd : 1 ≤ d) (segs : List Seg) :
    decode d (wave d segs) = (segBytes segs).map (· % 256) :=
  decodeF_wave d hd segs _ (Nat.le_refl _)

theorem bytesLE_lt (k v : Nat) : ∀ b ∈ bytesLE k v, b < 256 := by
  induction k generalizing v with
  | zero => intro b h; simp [bytesLE] at h
  | succ k ih =>
    intro b h
    simp only [bytesLE, List.mem_cons] at h
    rcases h with rfl | h
    · omega
    · exact ih _ b h

theorem flatMap_bytesLE_lt (w : Nat) (l : List Nat) : ∀ b ∈ l.flatMap (bytesLE w), b < 256 := by
  intro b hb
  obtain ⟨v, _, hv⟩ := List.mem_flatMap.mp hb
  exact bytesLE_lt _ _ b hv

theorem decode_bytes (d : Nat) (hd : 1 ≤ d) (segs : List Seg) (h : ∀ b ∈ segBytes segs, b < 256) :
    decode d (wave d segs) = segBytes segs := by
  rw [decode_wave d hd, List.map_congr_left (f := (· % 256)) (g := id) (fun b hb => Nat.mod_eq_of_lt (h b hb)), List.map_id]

/-- **uart_readout_decoded**: under the hypotheses of `uart_readout_complete`, an 8N1 receiver listening to `tx` over the
whole history receives exactly the little-endian bytes of the `depth` captured samples, in order, each once. -/
theorem uart_readout_decoded (c : Config) (hD : 1 ≤ c.ila.depth) (hd : 1 ≤ c.d) (hw : 1 ≤ c.w) (σ : State)
    (hσ : IlaStream.WIdle c.ila σ.ila) (hu : UartQuiet σ)
    (x0 : In) (ht : x0.trigger = true) (xs : List In) (hl : xs.length = c.ila.depth) (xl : In) (ys : List In)
    (hq : noRetrigger c (runState c σ (x0 :: xs ++ [xl])) ys)
    (hfi : (runState c σ (x0 :: xs ++ xl :: ys)).ila.fsm = .idle) (hfu : UartQuiet (runState c σ (x0 :: xs ++ xl :: ys))) :
    decode c.d ((run c σ (x0 :: xs ++ xl :: ys)).map (·.tx)) = (samples c σ x0 xs).flatMap (bytesLE c.w) := by
  obtain ⟨segs, h1, h2⟩ := uart_readout_complete c hD hd hw σ hσ hu x0 ht xs hl xl ys hq hfi hfu
  rw [h1, decode_bytes c.d hd segs (by rw [h2]; exact flatMap_bytesLE_lt _ _), h2]

/-! ## Non-vacuity: depth 2, pre-trigger 1, divisor 1, two bytes per sample; samples 0x0102, 0x0304; a (blocked) trigger
during the read-out; the history ends with the wrapper idle and the transmitter quiescent -/
def exCfg : Config := ⟨⟨2, 1⟩, 1, 2⟩
def exHead : List In := [⟨true, 0x0102⟩, ⟨false, 0x0304⟩, ⟨false, 7⟩, ⟨false, 8⟩]
def exTail : List In := ⟨true, 9⟩ :: List.replicate 50 ⟨false, 9⟩

example : IlaStream.WIdle exCfg.ila (init exCfg).ila := IlaStream.init_WIdle _
example : UartQuiet (init exCfg) := by decide
example : noRetrigger exCfg (runState exCfg (init exCfg) exHead) exTail := by decide +kernel
example : (runState exCfg (init exCfg) (exHead ++ exTail)).ila.fsm = .idle ∧
    UartQuiet (runState exCfg (init exCfg) (exHead ++ exTail)) := by decide +kernel
example : decode 1 ((run exCfg (init exCfg) (exHead ++ exTail)).map (·.tx)) = [0x02, 0x01, 0x04, 0x03] := by
  decide +kernel
example : wave 1 [.gap, .byte 0x55, .gap] =
    [true, false, true, false, true, false, true, false, true, false, true, true] := by decide

end LunaVerif.IlaUart
