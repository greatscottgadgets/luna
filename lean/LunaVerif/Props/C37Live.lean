import LunaVerif.Lemmas.C37LiveAck
import LunaVerif.Lemmas.C37LiveCrd
import LunaVerif.Lemmas.C37LiveBad
import LunaVerif.Lemmas.C37LiveRty
import LunaVerif.Lemmas.C37LiveLxu
import LunaVerif.Lemmas.C37LiveKa
/-!
# C37 — liveness of the header receiver (owed link commands are eventually sent, with explicit bounds)

Environment: that of `Props/C37.lean` (`EnvOk`: link enabled, no USB reset, partner honours credits and the
four-unacknowledged-headers limit, LRTY answers a completed LBAD) plus **bounded fairness** of the sink of the
link-command generator: never `K` consecutive cycles without `source.ready` (`FairOk K`, `K` universally
quantified).

The proofs (Lemmas/C37Live*.lean) use one ranking function per kind of command, counted in *ready cycles*: in a cycle
that brings no new higher-priority work it does not increase, and drops if the cycle is ready; a cycle that brings new
higher-priority work raises it by at most a constant; and it is 0 exactly when the command has completed on the wire.
A fair history of length `K·R` contains `R` ready cycles (`fair_ready_ge`), which gives the bounds below.

* `lgood_within` — every header accepted so far has its LGOOD on the wire (by `lgood_carries_seq`: carrying
  its sequence number) within `B1 = K·(40 + 4·r)` cycles, `r` = number of `retry_required` pulses in the
  window (each puts one LRTY ahead of the LGOOD).
* `lcrd_within` — every buffer freed so far has its LCRD on the wire within `B2 = K·(52 + 4·r)` cycles.
* `lbad_within` — every corrupted header noticed so far has its LBAD on the wire within `B3 = K·(44 + 4·r)`.
* `lrty_within` — a pending LRTY completes within `B4 = 28·K` cycles (highest priority: only the session in
  progress is ahead of it).  `lrty_request_latched`: in a cycle without the reset-on-disable (`resetNow … = false`, which
  clears the flag too) a `retry_required` pulse makes the LRTY pending unless an LRTY completes in that very cycle (as
  coded the completion's clear wins; the request is merged with it).
* `lxu_within`, `keepalive_within` — lowest priorities: a pending LXU / keepalive completes within
  `K·(48 + 16·b)` / `K·(52 + 20·b)` cycles, `b` = number of cycles of the window that bring new higher-priority
  work (header accepted, buffer freed, corrupted header, `retry_required`; for the keepalive also
  `reject_power_state`).  Under saturating traffic these two can be postponed for as long as the traffic
  lasts — that is the priority order of DISPATCH_COMMAND as coded, so the bound necessarily counts `b`.
* `wire_lrty`, `wire_lxu`, `wire_keepalive` — what the counts count: a command of that kind completing on
  the source stream.
-/
namespace LunaVerif.HeaderRx

/-- **C37 liveness (1): LGOOD.**  After any history `pre` from reset, every header accepted during `pre`
has been acknowledged (LGOOD #(k+1) for accepted header #k, see `lgood_carries_seq`) at the end of every fair
continuation `post` of length at least `K·(40 + 4·#retry_required)`. -/
theorem lgood_within (c : Config) (K : Nat) (pre post : List In) (e : EnvOk c init Ghost.init (pre ++ post))
    (hK : 0 < K) (hf : FairOk K 0 post)
    (hl : K * (40 + 4 * countIn (·.retryRequired) post) ≤ post.length) :
    (runG c init Ghost.init pre).2.accepted.length + 1 ≤
      (runG c init Ghost.init (pre ++ post)).2.lgoods.length := by
  obtain ⟨e1, e2⟩ := envOk_append c pre post _ _ e
  have hI := inv_reachable c pre e1
  rw [runG_append]
  exact lgood_live c _ _ _ hI (by have := hI.hack; omega) post e2 (fair_ready_ge K _ post hf hK hl)

/-- **C37 liveness (2): LCRD.**  After any history `pre` from reset, every buffer freed during `pre` (plus the
four initial ones) has been advertised by an LCRD at the end of every fair continuation `post` of length at
least `K·(52 + 4·#retry_required)`. -/
theorem lcrd_within (c : Config) (K : Nat) (pre post : List In) (e : EnvOk c init Ghost.init (pre ++ post))
    (hK : 0 < K) (hf : FairOk K 0 post)
    (hl : K * (52 + 4 * countIn (·.retryRequired) post) ≤ post.length) :
    (runG c init Ghost.init pre).2.delivered.length + 4 ≤
      (runG c init Ghost.init (pre ++ post)).2.lcrds.length := by
  obtain ⟨e1, e2⟩ := envOk_append c pre post _ _ e
  have hI := inv_reachable c pre e1
  rw [runG_append]
  exact lcrd_live c _ _ _ hI (by have := hI.hcti; omega) post e2 (fair_ready_ge K _ post hf hK hl)

/-- **C37 liveness (3): LBAD.**  Every corrupted header noticed during `pre` has been answered by a completed
LBAD at the end of every fair continuation `post` of length at least `K·(44 + 4·#retry_required)`. -/
theorem lbad_within (c : Config) (K : Nat) (pre post : List In) (e : EnvOk c init Ghost.init (pre ++ post))
    (hK : 0 < K) (hf : FairOk K 0 post)
    (hl : K * (44 + 4 * countIn (·.retryRequired) post) ≤ post.length) :
    (runG c init Ghost.init pre).2.bads ≤ (runG c init Ghost.init (pre ++ post)).2.lbads := by
  obtain ⟨e1, e2⟩ := envOk_append c pre post _ _ e
  have hI := inv_reachable c pre e1
  rw [runG_append]
  refine lbad_live c _ _ _ hI ?_ post e2 (fair_ready_ge K _ post hf hK hl)
  have := hI.hlbc
  simp only [b2]; omega

/-- a command completing on the wire is an LRTY iff the dispatch FSM is in SEND_LRTY -/
theorem wire_lrty {c : Config} {s : State} {g : Ghost} (i : In) (h : Inv c s g) :
    wire s i LRTY = (s.fsm == .sendLrty && done s i) := wire_cmd i h .sendLrty (by simp)

/-- a command completing on the wire is an LXU iff the dispatch FSM is in SEND_LXU -/
theorem wire_lxu {c : Config} {s : State} {g : Ghost} (i : In) (h : Inv c s g) :
    wire s i LXU = (s.fsm == .sendLxu && done s i) := wire_cmd i h .sendLxu (by simp)

/-- a command completing on the wire is the keepalive (LUP, or LDN on a downstream-facing port) iff the
dispatch FSM is in SEND_KEEPALIVE -/
theorem wire_keepalive {c : Config} {s : State} {g : Ghost} (i : In) (h : Inv c s g) :
    wire s i (if c.downstream then LDN else LUP) = (s.fsm == .sendKeepalive && done s i) :=
  wire_cmd i h .sendKeepalive (by simp)

/-- **C37 liveness (4a): LRTY.**  If an LRTY is pending after `pre`, one completes on the wire during every
fair continuation of at least `28·K` cycles. -/
theorem lrty_within (c : Config) (K : Nat) (pre post : List In) (e : EnvOk c init Ghost.init (pre ++ post))
    (hK : 0 < K) (hf : FairOk K 0 post) (hl : K * 28 ≤ post.length)
    (hp : (runG c init Ghost.init pre).1.lrty = true) :
    1 ≤ lrtysRun c (runG c init Ghost.init pre).1 0 post := by
  obtain ⟨e1, e2⟩ := envOk_append c pre post _ _ e
  exact lrty_live c _ _ (inv_reachable c pre e1) hp post e2 (fair_ready_ge K _ post hf hK hl)

/-- **C37 liveness (4b): LXU.**  If an LXU is pending after `pre`, one completes on the wire during every fair
continuation of at least `K·(48 + 16·b)` cycles, `b` = cycles of the continuation that bring new
higher-priority work. -/
theorem lxu_within (c : Config) (K : Nat) (pre post : List In) (e : EnvOk c init Ghost.init (pre ++ post))
    (hK : 0 < K) (hf : FairOk K 0 post)
    (hl : K * (48 + 16 * badXCount c (runG c init Ghost.init pre).1 (runG c init Ghost.init pre).2 post) ≤ post.length)
    (hp : (runG c init Ghost.init pre).1.lxu = true) :
    1 ≤ lxusRun c (runG c init Ghost.init pre).1 0 post := by
  obtain ⟨e1, e2⟩ := envOk_append c pre post _ _ e
  exact lxu_live c _ _ (inv_reachable c pre e1) hp post e2 (fair_ready_ge K _ post hf hK hl)

/-- **C37 liveness (4c): keepalive.**  Same for a pending keepalive, `K·(52 + 20·b)` cycles. -/
theorem keepalive_within (c : Config) (K : Nat) (pre post : List In) (e : EnvOk c init Ghost.init (pre ++ post))
    (hK : 0 < K) (hf : FairOk K 0 post)
    (hl : K * (52 + 20 * badKCount c (runG c init Ghost.init pre).1 (runG c init Ghost.init pre).2 post) ≤ post.length)
    (hp : (runG c init Ghost.init pre).1.keepalive = true) :
    1 ≤ kasRun c (runG c init Ghost.init pre).1 0 post := by
  obtain ⟨e1, e2⟩ := envOk_append c pre post _ _ e
  exact keepalive_live c _ _ (inv_reachable c pre e1) hp post e2 (fair_ready_ge K _ post hf hK hl)

/-! ## Non-vacuity -/

def decFairOk (K : Nat) : (w : Nat) → (is : List In) → Decidable (FairOk K w is)
  | _, [] => isTrue trivial
  | w, i :: is =>
    match (inferInstance : Decidable (i.srcReady = true ∨ w + 1 < K)),
        decFairOk K (if i.srcReady then 0 else w + 1) is with
    | isTrue a, isTrue b => isTrue ⟨a, b⟩
    | isFalse a, _ => isFalse (fun h => a h.1)
    | _, isFalse b => isFalse (fun h => b h.2)

instance (K w : Nat) (is : List In) : Decidable (FairOk K w is) := decFairOk K w is

def stall : In := { cyc false 0 0 with srcReady := false }

/-- bring-up, a good header, the protocol layer takes it -/
def livePre : List In := List.replicate 20 (cyc false 0 0) ++ sendHdr hdrA ++ [cyc false 0 0 true]
/-- two stalled cycles, then a granted one, 70 times: fair for `K = 3` -/
def livePost : List In := (List.replicate 70 [stall, stall, cyc false 0 0]).flatten

example : EnvOk ⟨true, false, false⟩ init Ghost.init (livePre ++ livePost) ∧ FairOk 3 0 livePost ∧
    3 * (52 + 4 * countIn (·.retryRequired) livePost) ≤ livePost.length ∧
    (runG ⟨true, false, false⟩ init Ghost.init livePre).2.accepted.length = 1 ∧
    (runG ⟨true, false, false⟩ init Ghost.init livePre).2.delivered.length = 1 ∧
    (runG ⟨true, false, false⟩ init Ghost.init livePre).2.lgoods.length = 1 ∧
    (runG ⟨true, false, false⟩ init Ghost.init livePre).2.lcrds.length = 4 := by decide +kernel


/-- bring-up, then a corrupted header (LBAD owed), with retry / keepalive / power-state requests pending -/
def livePre2 : List In :=
  List.replicate 20 (cyc false 0 0) ++ sendHdr hdrBad ++
  [{ cyc false 0 0 with retryRequired := true, keepaliveRequired := true, rejectPower := true }]

example : EnvOk ⟨true, false, false⟩ init Ghost.init (livePre2 ++ livePost) ∧
    (runG ⟨true, false, false⟩ init Ghost.init livePre2).2.bads = 1 ∧
    (runG ⟨true, false, false⟩ init Ghost.init livePre2).2.lbads = 0 ∧
    (runG ⟨true, false, false⟩ init Ghost.init livePre2).1.lrty = true ∧
    (runG ⟨true, false, false⟩ init Ghost.init livePre2).1.lxu = true ∧
    (runG ⟨true, false, false⟩ init Ghost.init livePre2).1.keepalive = true ∧
    3 * (52 + 20 * badKCount ⟨true, false, false⟩ (runG ⟨true, false, false⟩ init Ghost.init livePre2).1
      (runG ⟨true, false, false⟩ init Ghost.init livePre2).2 livePost) ≤ livePost.length ∧
    lrtysRun ⟨true, false, false⟩ (runG ⟨true, false, false⟩ init Ghost.init livePre2).1 0 livePost = 1 ∧
    kasRun ⟨true, false, false⟩ (runG ⟨true, false, false⟩ init Ghost.init livePre2).1 0 livePost = 1 := by decide +kernel

end LunaVerif.HeaderRx
