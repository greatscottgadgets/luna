import LunaVerif.Model.Device.Full
import LunaVerif.Model.Device.TxMux
import LunaVerif.Model.Usb2.Handshake
import LunaVerif.Model.Usb2.DataGenerator
import LunaVerif.Core.Crc
import LunaVerif.Lemmas.DeviceSteps
/-!
# C20 — Everything the USB2 device transmits is a well-formed, solicited packet

"Under any legal host behaviour, every packet the device puts on the bus is either a one-byte handshake
with a valid PID or a data packet whose CRC16 is correct, each packet comes entirely from a single
transmitter, and outside reset chirping the device transmits only in response to a host token or data
packet addressed to it, never while a received packet is still in progress."

Three layers:

* cycle level, the UTMI transmit multiplexer (`TxMux`, tied cycle by cycle to the real
  `UTMIInterfaceMultiplexer`): `mux_single_source`, `mux_valid_iff`, `mux_overlap_takes_input0`;
* cycle level, the two packet generators feeding it (models of C03/C04, tied by those checks):
  `generator_idle_unless_stream_valid`, `handshake_idle_unless_requested`;
* transaction level, the full-device model `Full.step` (control endpoint + bulk IN/OUT + status endpoints,
  tied event by event to the real `USBDevice`): `every_response_is_handshake_or_crc_valid_data`,
  `response_only_after_addressed_token_or_data`, `at_most_one_transmitter_per_response`,
  `response_is_the_single_transmitters`.  They are about ONE event from an arbitrary state (so in particular along every
  legal host history, from reset or not): the first for every state, the second for states with `KindsOk` (every endpoint
  state is of its endpoint's kind), the last two with `KindsOk` and `WellFormedCfg` (no endpoint 0, no two endpoints with the same number and direction).

"Never while a received packet is still in progress" (`tx_valid → ¬rx_active`) is proved on the cycle-level
composition of the packet layer (`Model/Device/DevCyc.lean`) in `Lemmas/C20CycMain.lean` (`tx_never_during_rx`,
`tx_only_in_response_window`, `transmitters_exclusive`, `pulse_only_after_delay`) under an explicit host assumption and
endpoint discipline; `Lemmas/C20CycEvent.lean` has the handshake-response case of the cycles -> events refinement.
What remains unproved is listed in harness/props/c20.py `PARTIAL` and notes/C20.md.
-/
namespace LunaVerif.C20
open LunaVerif LunaVerif.Device LunaVerif.Device.Full

/-! ## 1. The transmit multiplexer -/
section Mux
open TxMux

theorem validIdx_none (ps : List Port) (k : Nat) (h : ∀ q ∈ ps, q.valid = false) : validIdx ps k = [] := by
  induction ps generalizing k with
  | nil => rfl
  | cons p ps ih =>
    have hp : p.valid = false := h p (by simp)
    simp only [validIdx, hp]
    exact ih (k + 1) (fun q hq => h q (by simp [hq]))

theorem validIdx_single (pre post : List Port) (p : Port) (k : Nat) (hp : p.valid = true)
    (hpre : ∀ q ∈ pre, q.valid = false) (hpost : ∀ q ∈ post, q.valid = false) :
    validIdx (pre ++ p :: post) k = [k + pre.length] := by
  induction pre generalizing k with
  | nil => simp [validIdx, hp, validIdx_none post (k + 1) hpost]
  | cons a pre ih =>
    have ha : a.valid = false := hpre a (by simp)
    simp only [List.cons_append, validIdx, ha]
    rw [ih (k + 1) (fun q hq => hpre q (by simp [hq]))]
    simp only [List.length_cons, Bool.false_eq_true, ↓reduceIte]
    congr 1
    omega

theorem dataAt_append (pre post : List Port) (p : Port) : dataAt (pre ++ p :: post) pre.length = p.data := by
  induction pre with
  | nil => rfl
  | cons a pre ih => simpa [dataAt] using ih

/-- **C20, multiplexer.** When exactly one input is valid, the output is valid and carries that input's
data byte — whatever the other inputs' data lines show. -/
theorem mux_single_source (pre post : List Port) (p : Port) (hp : p.valid = true)
    (hpre : ∀ q ∈ pre, q.valid = false) (hpost : ∀ q ∈ post, q.valid = false) :
    mux (pre ++ p :: post) = { valid := true, data := p.data } := by
  have hv := validIdx_single pre post p 0 hp hpre hpost
  simp only [Nat.zero_add] at hv
  simp only [mux, encode, hv, dataAt_append, List.any_append, List.any_cons, hp, Bool.true_or, Bool.or_true]

theorem mux_valid_iff (ps : List Port) : (mux ps).valid = true ↔ ∃ q ∈ ps, q.valid = true := by
  simp [mux, List.any_eq_true]

theorem mux_idle (ps : List Port) (h : ∀ q ∈ ps, q.valid = false) : (mux ps).valid = false :=
  Bool.eq_false_iff.mpr fun hv => by
    obtain ⟨q, hq, hqv⟩ := (mux_valid_iff ps).1 hv
    simp [h q hq] at hqv

/-- The quirk left "undefined" by the source: with two or more valid inputs the encoder's output stays 0,
so the output carries the data of input 0 (valid or not). -/
theorem mux_overlap_takes_input0 (ps : List Port) (a b : Nat) (rest : List Nat)
    (h : validIdx ps 0 = a :: b :: rest) : (mux ps).data = dataAt ps 0 := by
  simp [mux, encode, h]

example : mux [⟨false, 7⟩, ⟨true, 0xD2⟩, ⟨false, 9⟩] = ⟨true, 0xD2⟩ := by decide
example : mux [⟨false, 7⟩, ⟨true, 0xD2⟩, ⟨true, 9⟩] = ⟨true, 7⟩ := by decide

end Mux

/-! ## 2. The generators behind the multiplexer are silent unless asked -/
section Generators

def genRun (c : DataGenerator.Config) : DataGenerator.State → List DataGenerator.In → List DataGenerator.Out
  | _, [] => []
  | s, i :: is => (DataGenerator.step c s i).2 :: genRun c (DataGenerator.step c s i).1 is

theorem gen_idle_step (c : DataGenerator.Config) (s : DataGenerator.State) (i : DataGenerator.In)
    (hs : s.fsm = .idle) :
    (DataGenerator.step c s i).2.txValid = false ∧
      (i.valid = false → (DataGenerator.step c s i).1.fsm = .idle) := by
  constructor
  · simp [DataGenerator.step, DataGenerator.fsmStep, hs]
    split <;> (try split) <;> rfl
  · intro hv
    simp [DataGenerator.step, DataGenerator.fsmStep, hs, hv]

/-- **C20, data generator.** From its idle state the data packet generator drives `tx.valid` low for as long
as the endpoint side does not present a valid stream word: it never starts a packet on its own. -/
theorem generator_idle_unless_stream_valid (c : DataGenerator.Config) (h : List DataGenerator.In)
    (s : DataGenerator.State) (hs : s.fsm = .idle) (hv : ∀ i ∈ h, i.valid = false) :
    ∀ o ∈ genRun c s h, o.txValid = false := by
  induction h generalizing s with
  | nil => intro o ho; cases ho
  | cons i is ih =>
    intro o ho
    have hi := gen_idle_step c s i hs
    simp only [genRun, List.mem_cons] at ho
    rcases ho with rfl | ho
    · exact hi.1
    · exact ih _ (hi.2 (hv i (by simp))) (fun j hj => hv j (by simp [hj])) o ho

example : ∀ o ∈ genRun ⟨false⟩ DataGenerator.init
    [⟨1, false, true, false, 5, true⟩, ⟨0, false, false, true, 9, false⟩], o.txValid = false := by decide

/-- **C20, handshake generator.** Starting idle, the handshake generator keeps `tx.valid` low for as long as
none of `issue_ack` / `issue_nak` / `issue_stall` is strobed. -/
theorem handshake_idle_unless_requested (h : List Handshake.Gen.In) (s : Handshake.Gen.State)
    (hs : s.transmit = false) (hr : ∀ i ∈ h, i.ack = false ∧ i.nak = false ∧ i.stall = false) :
    ∀ o ∈ Handshake.Gen.run s h, o.valid = false := by
  induction h generalizing s with
  | nil => intro o ho; cases ho
  | cons i is ih =>
    intro o ho
    obtain ⟨ha, hn, hst⟩ := hr i (by simp)
    simp only [Handshake.Gen.run, List.mem_cons] at ho
    rcases ho with rfl | ho
    · simp [Handshake.Gen.step, hs]
    · refine ih _ ?_ (fun j hj => hr j (by simp [hj])) o ho
      simp [Handshake.Gen.step, hs, ha, hn, hst]

theorem handshake_valid_needs_request (h : List Handshake.Gen.In)
    (hv : ∃ o ∈ Handshake.Gen.run Handshake.Gen.init h, o.valid = true) :
    ∃ i ∈ h, i.ack = true ∨ i.nak = true ∨ i.stall = true := by
  apply Classical.byContradiction
  intro hn
  obtain ⟨o, ho, hov⟩ := hv
  have := handshake_idle_unless_requested h Handshake.Gen.init rfl
    (fun i hi => by simpa using fun hc => hn ⟨i, hi, hc⟩) o ho
  rw [this] at hov
  cases hov

end Generators

/-! ## 3. Transaction level: the full device -/

/-- A PID nibble followed by its complement (USB 2.0 §8.3.1). -/
def pidByte (pid : Nat) : Nat := pid % 16 + 16 * (15 - pid % 16)

/-- The bytes a response puts on the wire: handshake = PID byte; data = PID byte, payload, CRC16 of the
payload (low byte first), with the CRC of the specification (`Crc.usb2Crc16`, USB 2.0 §8.3.5). -/
def wire : Resp → List Nat
  | .none => []
  | .hs p => [pidByte p]
  | .data p b => pidByte p :: (b ++ [Crc.usb2Crc16 b % 256, Crc.usb2Crc16 b / 256])

def pidCheckOk (b : Nat) : Bool := b % 16 + b / 16 % 16 == 15

/-- A receiver's view of one packet: a single byte that is a handshake PID with a correct check nibble, or a
data PID with a correct check nibble followed by a payload and the payload's CRC16. -/
def WellFormedPacket (bytes : List Nat) : Prop :=
  match bytes with
  | [] => False
  | [b] => pidCheckOk b = true ∧ isHsPid (b % 16) = true
  | b :: rest =>
      pidCheckOk b = true ∧ isDataPid (b % 16) = true ∧
      ∃ payload, rest = payload ++ [Crc.usb2Crc16 payload % 256, Crc.usb2Crc16 payload / 256]

def RespOk : Resp → Prop
  | .none => True
  | .hs p => p = PID_ACK ∨ p = PID_NAK ∨ p = PID_STALL
  | .data p _ => p = PID_DATA0 ∨ p = PID_DATA1

theorem wire_wellFormed (r : Resp) (ok : RespOk r) (hn : r ≠ .none) : WellFormedPacket (wire r) := by
  cases r with
  | none => exact absurd rfl hn
  | hs p =>
    rcases ok with rfl | rfl | rfl <;> exact ⟨by decide, by decide⟩
  | data p b =>
    -- `b ++ [lo, hi]` is not empty: once the constructor of `b` is known the `match` reduces to its third arm
    have hb : WellFormedPacket (wire (.data p b)) = (pidCheckOk (pidByte p) = true ∧ isDataPid (pidByte p % 16) = true ∧
        ∃ payload, b ++ [Crc.usb2Crc16 b % 256, Crc.usb2Crc16 b / 256] =
          payload ++ [Crc.usb2Crc16 payload % 256, Crc.usb2Crc16 payload / 256]) := by
      cases b <;> rfl
    rw [hb]
    refine ⟨?_, ?_, b, rfl⟩ <;> rcases ok with rfl | rfl <;> decide

/-! ### 3a. every response is ACK / NAK / STALL or DATA0 / DATA1

`epStep_resp` reads this and which transactions an endpoint answers off one case analysis of `epStep`; so `EpAnswers` and
`KindOk`, which 3b takes up (`epStep_answers`), are defined here. -/

theorem dataPid_ok (s : DevState) : dataPid s = PID_DATA0 ∨ dataPid s = PID_DATA1 := by
  unfold dataPid; split <;> simp

theorem respOk_stdRequest (c : DevConfig) (s : DevState) (r : Req) : RespOk (stdRequest c s r).2 := by
  have hd := dataPid_ok s
  unfold stdRequest
  split <;> (try split) <;> simp_all [RespOk]

theorem respOk_request (c : DevConfig) (s : DevState) (r : Req) : RespOk (request c s r).2 := by
  have h1 := respOk_stdRequest c s r
  unfold request
  cases owner c s.setup <;> simp only []
  · split
    · exact h1
    · trivial
  · cases r <;> simp [RespOk]
  · simp [RespOk]

theorem respOk_onToken (c : DevConfig) (s : DevState) (pid ep : Nat) : RespOk (onToken c s pid ep).2 := by
  unfold onToken
  simp only []
  split
  · split <;> (try split) <;> first | exact respOk_request c _ _ | simp [RespOk]
  · trivial

theorem respOk_onData (c : DevConfig) (s : DevState) (p : List Nat) (ok : Bool) : RespOk (onData c s p ok).2 := by
  unfold onData
  split
  · trivial
  · split
    · split
      · split
        · simp [onSetupData, RespOk]
        · trivial
      · trivial
    · split
      · exact respOk_request c _ _
      · trivial

theorem respOk_core (c : DevConfig) (s : DevState) (e : HostEvent) : RespOk (core c s e).2 := by
  unfold core
  split <;> try trivial
  · split
    · exact respOk_onToken c s _ _
    · trivial
  · exact respOk_onData c s _ _

theorem respOk_dataPidOf (t : Bool) : dataPidOf t = PID_DATA0 ∨ dataPidOf t = PID_DATA1 := by
  cases t <;> simp [dataPidOf]

/-- The transactions an endpoint answers: an IN token (an OUT endpoint: a PING token) for its number that carries the
device's address, or a good data packet while the token detector shows an OUT token for its number. -/
def EpAnswers (c : EpCfg) (x : Ctx) (ev : HostEvent) : Prop :=
  match ev with
  | .token pid _ ep => x.mine = true ∧ ep = c.num ∧ ((c.isIn = true ∧ pid = PID_IN) ∨ (c.isIn = false ∧ pid = PID_PING))
  | .data _ _ ok => ok = true ∧ c.isIn = false ∧ x.tokPid = PID_OUT ∧ x.tokEp = c.num
  | _ => False

def KindOk (c : EpCfg) : EpState → Prop
  | .sIn _ => c.kind = .streamIn
  | .sOut _ => c.kind = .streamOut
  | .sSig _ => c.kind = .signalIn

theorem epStep_resp (c : EpCfg) (st : EpState) (x : Ctx) (ev : HostEvent) :
    RespOk (epStep c st x ev).2.1 ∧ (KindOk c st → (epStep c st x ev).2.1 ≠ .none → EpAnswers c x ev) := by
  cases st with
  | sIn e =>
    cases ev <;> simp only [epStep] <;> (try split) <;> try exact ⟨trivial, fun _ h => absurd rfl h⟩
    rename_i pid addr ep hm
    unfold inToken
    simp only []
    split
    · rename_i hp
      exact ⟨by split <;> simp [RespOk, respOk_dataPidOf],
        fun hk _ => ⟨hm, hp.2, Or.inl ⟨by simp [EpCfg.isIn, show c.kind = .streamIn from hk], hp.1⟩⟩⟩
    · exact ⟨trivial, fun _ h => absurd rfl h⟩
  | sOut e =>
    cases ev <;> simp only [epStep] <;> (try split) <;> try exact ⟨trivial, fun _ h => absurd rfl h⟩
    · rename_i pid addr ep hm
      unfold outToken
      split
      · rename_i hp
        refine ⟨?_, fun hk _ => ⟨hm, hp.2, Or.inr ⟨by simp [EpCfg.isIn, show c.kind = .streamOut from hk], hp.1⟩⟩⟩
        simp only []; split <;> simp [RespOk]
      · exact ⟨trivial, fun _ h => absurd rfl h⟩
    · rename_i pid payload ok
      unfold outData
      split
      · rename_i hp
        refine ⟨by (repeat' split) <;> simp [RespOk], fun hk h => ⟨?_, by simp [EpCfg.isIn, show c.kind = .streamOut from hk], hp.1, hp.2⟩⟩
        cases ok
        · exfalso; revert h; simp
        · rfl
      · exact ⟨trivial, fun _ h => absurd rfl h⟩
  | sSig e =>
    cases ev <;> simp only [epStep] <;> (try split) <;> try exact ⟨trivial, fun _ h => absurd rfl h⟩
    rename_i pid addr ep hm
    unfold sigToken
    simp only []
    split
    · rename_i hp
      exact ⟨by split <;> simp [RespOk, respOk_dataPidOf],
        fun hk _ => ⟨hm, hp.2, Or.inl ⟨by simp [EpCfg.isIn, show c.kind = .signalIn from hk], hp.1⟩⟩⟩
    · exact ⟨trivial, fun _ h => absurd rfl h⟩

theorem respOk_firstResp (rs : List Resp) (h : ∀ r ∈ rs, RespOk r) : RespOk (firstResp rs) := by
  induction rs with
  | nil => trivial
  | cons r rs ih =>
    unfold firstResp
    split
    · exact ih (fun q hq => h q (by simp [hq]))
    · exact h r (by simp)

theorem mem_epsStep (x : Ctx) (ev : HostEvent) (cs : List EpCfg) (sts : List EpState)
    (t : EpState × Resp × Delivery) (h : t ∈ epsStep x ev cs sts) : ∃ c st, t = epStep c st x ev := by
  induction cs generalizing sts with
  | nil => simp [epsStep] at h
  | cons c cs ih =>
    cases sts with
    | nil => simp [epsStep] at h
    | cons st sts =>
      simp only [epsStep, List.mem_cons] at h
      rcases h with rfl | h
      · exact ⟨c, st, rfl⟩
      · exact ih sts h

theorem respOk_step (c : FullConfig) (s : FullState) (ev : HostEvent) : RespOk (step c s ev).2.resp := by
  simp only [Full.step]
  split
  · simp [RespOk]
  · simp only [Device.step]
    split
    · apply respOk_firstResp
      intro r hr
      simp only [List.mem_map] at hr
      obtain ⟨t, ht, rfl⟩ := hr
      obtain ⟨c', st, rfl⟩ := mem_epsStep _ _ _ _ t ht
      exact (epStep_resp c' st _ ev).1
    · exact respOk_core c.dev s.ctl ev

/-- **C20 (well-formed).** Whatever the state and whatever the host event, what the device transmits is
nothing, or — on the wire — a one-byte handshake (ACK / NAK / STALL with a correct check nibble), or a DATA0 /
DATA1 packet carrying the CRC16 of its payload. -/
theorem every_response_is_handshake_or_crc_valid_data (c : FullConfig) (s : FullState) (ev : HostEvent) :
    (step c s ev).2.resp = .none ∨
      (RespOk (step c s ev).2.resp ∧ WellFormedPacket (wire (step c s ev).2.resp)) := by
  by_cases h : (step c s ev).2.resp = .none
  · exact Or.inl h
  · exact Or.inr ⟨respOk_step c s ev, wire_wellFormed _ (respOk_step c s ev) h⟩

example : WellFormedPacket (wire (.data PID_DATA1 [0x12, 0x01])) :=
  wire_wellFormed _ (Or.inr rfl) (by simp)
example : wire (.hs PID_ACK) = [0xD2] := by decide
example : wire (.data PID_DATA0 []) = [0xC3, 0x00, 0x00] := by decide

/-! ### 3b. responses are solicited -/

/-- The event is a packet that may be answered: an IN or PING token carrying the device's address, or a data
packet with a good CRC while the token detector shows an OUT or SETUP token (the detector keeps a token's
PID only if the token carried the device's address: a token for another device clears it). -/
def Solicits (s : DevState) (ev : HostEvent) : Prop :=
  match ev with
  | .token pid addr _ => addr = s.address ∧ (pid = PID_IN ∨ pid = PID_PING)
  | .data _ _ ok => ok = true ∧ (s.tokPid = PID_OUT ∨ s.tokPid = PID_SETUP)
  | _ => False

theorem onToken_answers (c : DevConfig) (s : DevState) (pid ep : Nat) (h : (onToken c s pid ep).2 ≠ .none) :
    ep = 0 ∧ (pid = PID_IN ∨ pid = PID_PING) := by
  unfold onToken at h
  simp only [] at h
  split at h
  · rename_i h0
    refine ⟨h0, ?_⟩
    split at h <;> (try split at h) <;> simp_all
  · exact absurd rfl h

/-- The control endpoint answers a data packet only if its CRC16 is good: a SETUP packet, or the status stage's OUT
packet for endpoint 0. -/
theorem onData_answers (c : DevConfig) (s : DevState) (p : List Nat) (ok : Bool)
    (h : (onData c s p ok).2 ≠ .none) : ok = true ∧ (s.tokPid = PID_SETUP ∨ (s.tokEp = 0 ∧ s.tokPid = PID_OUT)) := by
  unfold onData at h
  split at h
  · exact absurd rfl h
  · rename_i hok
    refine ⟨by simpa using hok, ?_⟩
    split at h
    · split at h
      · split at h
        · rename_i h8; exact Or.inl h8.2
        · exact absurd rfl h
      · exact absurd rfl h
    · split at h
      · rename_i hs; exact Or.inr hs.2
      · exact absurd rfl h

theorem core_solicited (c : DevConfig) (s : DevState) (e : HostEvent) (h : (core c s e).2 ≠ .none) :
    Solicits s e := by
  unfold core at h
  split at h <;> try exact absurd rfl h
  · split at h
    · rename_i ha; exact ⟨ha, (onToken_answers c s _ _ h).2⟩
    · exact absurd rfl h
  · obtain ⟨hok, hs | ⟨_, ho⟩⟩ := onData_answers c s _ _ h
    · exact ⟨hok, Or.inr hs⟩
    · exact ⟨hok, Or.inl ho⟩

theorem ctxOf_mine (s : DevState) (pid addr ep : Nat) : (ctxOf s (.token pid addr ep)).mine = true → addr = s.address := by
  simp [ctxOf]

theorem epStep_answers (c : EpCfg) (st : EpState) (x : Ctx) (ev : HostEvent) (hk : KindOk c st)
    (h : (epStep c st x ev).2.1 ≠ .none) : EpAnswers c x ev :=
  (epStep_resp c st x ev).2 hk h

def KindsOk : List EpCfg → List EpState → Prop
  | c :: cs, st :: sts => KindOk c st ∧ KindsOk cs sts
  | [], [] => True
  | _, _ => False

theorem kindsOk_init (cs : List EpCfg) : KindsOk cs (cs.map initEp) := by
  induction cs with
  | nil => trivial
  | cons c cs ih =>
    refine ⟨?_, ih⟩
    unfold initEp
    cases hc : c.kind <;> exact hc

theorem epStep_kind (c : EpCfg) (st : EpState) (x : Ctx) (ev : HostEvent) (hk : KindOk c st) :
    KindOk c (epStep c st x ev).1 := by
  cases st <;> cases ev <;> simp only [epStep] <;> (try split) <;> exact hk

theorem kindsOk_step (x : Ctx) (ev : HostEvent) (cs : List EpCfg) (sts : List EpState) (h : KindsOk cs sts) :
    KindsOk cs ((epsStep x ev cs sts).map (·.1)) := by
  induction cs generalizing sts with
  | nil => cases sts <;> simp_all [KindsOk, epsStep]
  | cons c cs ih =>
    cases sts with
    | nil => exact absurd h (by simp [KindsOk])
    | cons st sts =>
      simp only [epsStep, List.map_cons]
      exact ⟨epStep_kind c st x ev h.1, ih sts h.2⟩

theorem kindsOk_reachable (c : FullConfig) (h : List HostEvent) :
    KindsOk c.eps (Full.final c (Full.init c) h).eps := by
  suffices ∀ s : FullState, KindsOk c.eps s.eps → KindsOk c.eps (Full.final c s h).eps from
    this _ (kindsOk_init c.eps)
  induction h with
  | nil => intro s hs; exact hs
  | cons e es ih =>
    intro s hs
    simp only [Full.final]
    apply ih
    simp only [Full.step]
    exact kindsOk_step _ _ _ _ hs

theorem foreign_solicited (x : Ctx) (ev : HostEvent) (cs : List EpCfg) (sts : List EpState) (hk : KindsOk cs sts)
    (h : firstResp ((epsStep x ev cs sts).map (·.2.1)) ≠ .none) : ∃ c ∈ cs, EpAnswers c x ev := by
  induction cs generalizing sts with
  | nil => cases sts <;> simp [epsStep, firstResp] at h
  | cons c cs ih =>
    cases sts with
    | nil => simp [epsStep, firstResp] at h
    | cons st sts =>
      simp only [epsStep, List.map_cons, firstResp] at h
      split at h
      · obtain ⟨c', hc', ha⟩ := ih sts hk.2 h
        exact ⟨c', by simp [hc'], ha⟩
      · exact ⟨c, by simp, epStep_answers c st x ev hk.1 h⟩

theorem epAnswers_solicits (c : EpCfg) (s : DevState) (ev : HostEvent) (h : EpAnswers c (ctxOf s ev) ev) :
    Solicits s ev := by
  cases ev with
  | token pid addr ep =>
    obtain ⟨hm, _, hp⟩ := h
    refine ⟨ctxOf_mine s pid addr ep hm, ?_⟩
    rcases hp with hp | hp
    · exact Or.inl hp.2
    · exact Or.inr hp.2
  | data pid p ok => exact ⟨h.1, Or.inl h.2.2.1⟩
  | _ => exact absurd h (by simp [EpAnswers])

theorem acmAcksData_spec (s : DevState) (ev : HostEvent) (h : acmAcksData s ev = true) :
    (∃ pid p, ev = .data pid p true) ∧ s.tokEp = 0 ∧ s.tokPid = PID_OUT := by
  unfold acmAcksData at h
  split at h
  · rename_i pid p ok
    simp only [Bool.and_eq_true, beq_iff_eq, Bool.not_eq_true'] at h
    obtain ⟨⟨⟨⟨⟨⟨hok, _⟩, _⟩, hep⟩, hpid⟩, _⟩, _⟩ := h
    subst hok
    exact ⟨⟨pid, p, rfl⟩, hep, hpid⟩
  · cases h

/-- **C20 (solicited).** In every state whose endpoint states have the configured kinds (all states reachable
from reset: `kindsOk_reachable`), the device transmits something only in response to an IN / PING token that
carries its address, or to a correctly received data packet that follows an OUT / SETUP token carrying its
address.  Nothing is ever sent after a host handshake, a SOF, a malformed packet, a token for another
device, a bus reset, a time-out or an application-side stream event. -/
theorem response_only_after_addressed_token_or_data (c : FullConfig) (s : FullState) (ev : HostEvent)
    (hk : KindsOk c.eps s.eps) (h : (step c s ev).2.resp ≠ .none) : Solicits s.ctl ev := by
  simp only [Full.step] at h
  split at h
  · rename_i hacm
    simp only [Bool.and_eq_true] at hacm
    obtain ⟨⟨pid, p, rfl⟩, _, hpid⟩ := acmAcksData_spec s.ctl ev hacm.1.2
    exact ⟨rfl, Or.inl hpid⟩
  · simp only [Device.step] at h
    split at h
    · obtain ⟨c', _, ha⟩ := foreign_solicited _ ev c.eps s.eps hk h
      exact epAnswers_solicits c' s.ctl ev ha
    · exact core_solicited c.dev s.ctl ev h

/-! ### 3c. one transmitter per response -/

/-- The control endpoint's own answer (request handlers incl. the ACM handler, SETUP decoder, PING). -/
def ctlResp (c : FullConfig) (s : DevState) (ev : HostEvent) : Resp :=
  if c.acm && acmAcksData s ev && (core c.dev s ev).2.isNone then .hs PID_ACK else (core c.dev s ev).2

/-- What each part of the device drives towards the transmitters for this event: the control endpoint
first, then every other endpoint in the order of the configuration. -/
def transmitters (c : FullConfig) (s : FullState) (ev : HostEvent) : List Resp :=
  ctlResp c s.ctl ev :: (epsStep (ctxOf s.ctl ev) ev c.eps s.eps).map (·.2.1)

def active (rs : List Resp) : Nat := (rs.filter (fun r => !r.isNone)).length

/-- The configuration gives every endpoint a number other than 0, and no two endpoints of the same direction
share a number (`USBDevice.add_endpoint` checks neither: it is left to its caller). -/
def WellFormedCfg (c : FullConfig) : Prop :=
  (∀ e ∈ c.eps, e.num ≠ 0) ∧ c.eps.Pairwise (fun a b => a.num ≠ b.num ∨ a.isIn ≠ b.isIn)

theorem active_cons (r : Resp) (rs : List Resp) : active (r :: rs) = if r = .none then active rs else active rs + 1 := by
  cases r <;> simp [active, Resp.isNone]

theorem epAnswers_excl (a b : EpCfg) (x : Ctx) (ev : HostEvent) (hab : a.num ≠ b.num ∨ a.isIn ≠ b.isIn)
    (ha : EpAnswers a x ev) (hb : EpAnswers b x ev) : False := by
  cases ev with
  | token pid addr ep =>
    obtain ⟨_, ea, pa⟩ := ha
    obtain ⟨_, eb, pb⟩ := hb
    rcases hab with hn | hi
    · exact hn (ea.symm.trans eb)
    · rcases pa with pa | pa <;> rcases pb with pb | pb
      · exact hi (pa.1.trans pb.1.symm)
      · have := pa.2.symm.trans pb.2; exact absurd this (by decide)
      · have := pa.2.symm.trans pb.2; exact absurd this (by decide)
      · exact hi (pa.1.trans pb.1.symm)
  | data pid p ok =>
    rcases hab with hn | hi
    · exact hn (ha.2.2.2.symm.trans hb.2.2.2)
    · exact hi (ha.2.1.trans hb.2.1.symm)
  | _ => exact absurd ha (by simp [EpAnswers])

theorem active_eps_zero (x : Ctx) (ev : HostEvent) (cs : List EpCfg) (sts : List EpState) (hk : KindsOk cs sts)
    (hno : ∀ c ∈ cs, ¬ EpAnswers c x ev) : active ((epsStep x ev cs sts).map (·.2.1)) = 0 := by
  induction cs generalizing sts with
  | nil => cases sts <;> simp [epsStep, active]
  | cons c cs ih =>
    cases sts with
    | nil => simp [epsStep, active]
    | cons st sts =>
      have hnone : (epStep c st x ev).2.1 = .none := by
        apply Classical.byContradiction
        intro hne
        exact hno c (by simp) (epStep_answers c st x ev hk.1 hne)
      simp only [epsStep, List.map_cons]
      rw [active_cons, if_pos hnone]
      exact ih sts hk.2 (fun c' hc' => hno c' (by simp [hc']))

theorem active_eps_le_one (x : Ctx) (ev : HostEvent) (cs : List EpCfg) (sts : List EpState) (hk : KindsOk cs sts)
    (hp : cs.Pairwise (fun a b => a.num ≠ b.num ∨ a.isIn ≠ b.isIn)) :
    active ((epsStep x ev cs sts).map (·.2.1)) ≤ 1 := by
  induction cs generalizing sts with
  | nil => cases sts <;> simp [epsStep, active]
  | cons c cs ih =>
    cases sts with
    | nil => simp [epsStep, active]
    | cons st sts =>
      rw [List.pairwise_cons] at hp
      simp only [epsStep, List.map_cons]
      rw [active_cons]
      split
      · exact ih sts hk.2 hp.2
      · rename_i hr
        have ha := epStep_answers c st x ev hk.1 hr
        rw [active_eps_zero x ev cs sts hk.2 (fun c' hc' hb => epAnswers_excl c c' x ev (hp.1 c' hc') ha hb)]
        exact Nat.le_refl 1

/-- The control endpoint and an endpoint with another number do not both answer one event: when the control endpoint
answers, the token detector shows endpoint 0 after the event (token events), or the packet is a data packet for the SETUP
decoder / for endpoint 0, and `EpAnswers e` asks for `e.num` there. -/
theorem ctl_answers_excl (c : FullConfig) (s : DevState) (ev : HostEvent) (e : EpCfg) (he : e.num ≠ 0)
    (hc : ctlResp c s ev ≠ .none) (ha : EpAnswers e (ctxOf s ev) ev) : False := by
  unfold ctlResp at hc
  split at hc
  · rename_i hacm
    simp only [Bool.and_eq_true] at hacm
    obtain ⟨⟨pid, p, rfl⟩, h0, _⟩ := acmAcksData_spec s ev hacm.1.2
    have hep : s.tokEp = e.num := ha.2.2.2
    exact he (hep.symm.trans h0)
  · cases ev with
    | token pid addr ep =>
      unfold core at hc
      simp only [] at hc
      split at hc
      · exact he (ha.2.1.symm.trans (onToken_answers _ _ _ _ hc).1)
      · exact absurd rfl hc
    | data pid p ok =>
      have hout : s.tokPid = PID_OUT := ha.2.2.1
      have hep : s.tokEp = e.num := ha.2.2.2
      rcases (onData_answers c.dev s p ok hc).2 with h8 | ⟨h0, _⟩
      · rw [hout] at h8; exact absurd h8 (by decide)
      · exact he (hep.symm.trans h0)
    | _ => exact absurd ha (by simp [EpAnswers])

/-- **C20 (single transmitter).** For a well-formed endpoint configuration, in every state and for every
event, at most one part of the device — the control endpoint or one of the other endpoints — asks the
transmitters for a packet.  (A handshake goes through the handshake generator, a data packet through the data
packet generator: one response is one transmitter's packet.) -/
theorem at_most_one_transmitter_per_response (c : FullConfig) (s : FullState) (ev : HostEvent)
    (wf : WellFormedCfg c) (hk : KindsOk c.eps s.eps) : active (transmitters c s ev) ≤ 1 := by
  unfold transmitters
  rw [active_cons]
  split
  · exact active_eps_le_one (ctxOf s.ctl ev) ev c.eps s.eps hk wf.2
  · rename_i hc
    rw [active_eps_zero (ctxOf s.ctl ev) ev c.eps s.eps hk
      (fun e he ha => ctl_answers_excl c s.ctl ev e (wf.1 e he) hc ha)]
    exact Nat.le_refl 1

theorem core_tokEp_token (c : DevConfig) (s : DevState) (pid ep : Nat) :
    (core c s (.token pid s.address ep)).1.tokEp = ep := by
  unfold core
  simp only [↓reduceIte]
  rw [(onToken_ctl c s pid ep).tokEp]
  rfl

theorem core_tokEp_data (c : DevConfig) (s : DevState) (pid : Nat) (p : List Nat) (ok : Bool) :
    (core c s (.data pid p ok)).1.tokEp = s.tokEp := (onData_tok c s p ok).2

theorem foreign_none_of_ep0 (c : FullConfig) (s : FullState) (ev : HostEvent) (wf : WellFormedCfg c)
    (hk : KindsOk c.eps s.eps) (h0 : (core c.dev s.ctl ev).1.tokEp = 0) :
    firstResp ((epsStep (ctxOf s.ctl ev) ev c.eps s.eps).map (·.2.1)) = .none := by
  apply Classical.byContradiction
  intro hne
  obtain ⟨e, he, ha⟩ := foreign_solicited _ ev c.eps s.eps hk hne
  have hnum := wf.1 e he
  cases ev with
  | token pid addr ep =>
    have hm := ctxOf_mine s.ctl pid addr ep ha.1
    subst hm
    rw [core_tokEp_token] at h0
    exact hnum (ha.2.1.symm.trans h0)
  | data pid p ok =>
    rw [core_tokEp_data] at h0
    have hep : s.ctl.tokEp = e.num := ha.2.2.2
    exact hnum (hep.symm.trans h0)
  | _ => exact absurd ha (by simp [EpAnswers])

/-- … and what the device transmits is exactly that one part's packet. -/
theorem response_is_the_single_transmitters (c : FullConfig) (s : FullState) (ev : HostEvent)
    (wf : WellFormedCfg c) (hk : KindsOk c.eps s.eps) :
    (Full.step c s ev).2.resp = firstResp (transmitters c s ev) := by
  have hA : (c.acm && acmAcksData s.ctl ev) = true → (core c.dev s.ctl ev).1.tokEp = 0 := by
    intro h
    simp only [Bool.and_eq_true] at h
    obtain ⟨⟨pid, p, rfl⟩, h0, _⟩ := acmAcksData_spec s.ctl ev h.2
    rw [core_tokEp_data]; exact h0
  have hF := foreign_none_of_ep0 c s ev wf hk
  simp only [Full.step, Device.step, transmitters, ctlResp, firstResp]
  by_cases hR : (core c.dev s.ctl ev).2 = .none
  · by_cases hAc : (c.acm && acmAcksData s.ctl ev) = true
    · have h0 := hA hAc
      simp [hR, hAc, h0, Resp.isNone]
    · by_cases h0 : (core c.dev s.ctl ev).1.tokEp = 0
      · have := hF h0
        simp [hR, hAc, h0, this, Resp.isNone]
      · simp [hR, hAc, h0, Resp.isNone]
  · have hn : (core c.dev s.ctl ev).2.isNone = false := by
      cases h : (core c.dev s.ctl ev).2 <;> simp_all [Resp.isNone]
    simp [hn]

end LunaVerif.C20
