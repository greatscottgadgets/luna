import LunaVerif.Props.C48
import LunaVerif.Model.Usb3.SSDescriptor
/-!
# C48, part 2 — GET_DESCRIPTOR data (`GetDescriptorHandler` + 32-bit `ConstantStreamGenerator`)

"GET_DESCRIPTOR answers with the first min(wLength, length) bytes of the requested descriptor and
the matching length field, and unknown descriptors are STALLed."

Setting: a descriptor collection `c` (any number of descriptors), a request value `v` selecting
descriptor `d = c[k]` (non-empty, shorter than 65536 bytes, byte values < 256), any `wLength = L <
65536`, the handler in any quiescent state (selected generator idle, `tx` register empty — the reset
state is one), `start` strobed for one cycle with `v`, `L` held afterwards, and an ARBITRARY
`tx.ready` pattern.  `delivered` is the concatenation of the bytes taken from `tx` (cycles with
`tx.valid ≠ 0 ∧ tx.ready`, bytes selected by the valid mask).

* `ss_descriptor_prefix`: at every moment, delivered ++ (bytes still held in the tx register and the
  generator) = the first min(L, len) bytes of the descriptor; and `tx_length = min(L, len)` in
  every cycle in which `tx` is valid.
* `ss_descriptor_complete`: once the response has drained (generator not streaming, tx register empty),
  delivered is exactly that prefix.  This end condition is weaker than the start condition `Quiescent`,
  which asks for the generator to be `.idle`: `.done` meets it too.  (That it is reached after
  `words + 1` ready cycles is `ss_descriptor_finishes`, Props/C48Live.lean.)
* `ss_unknown_stalls`: with no matching descriptor, `stall = start` and the tx register is never loaded.

`step_inv` is the one case analysis of a cycle of the response (tx register loaded or held; generator idle, streaming
a word, streaming its last word, done).  Beside the bytes it follows the (first, last) flags of the words
(`fpending`) and the number of tx-register loads still needed (`mu`), on which Props/C48Live.lean builds.
-/
namespace LunaVerif.SSDesc
open LunaVerif.SSSetup (cnt wordBytes)

def BytesOK (bs : List Nat) : Prop := ∀ b ∈ bs, b < 256

theorem pack_length : ∀ bs : List Nat, (pack bs).length = (bs.length + 3) / 4
  | [] => rfl
  | [_] => by simp [pack]
  | [_, _] => by simp [pack]
  | [_, _, _] => by simp [pack]
  | _ :: _ :: _ :: _ :: rest => by
    simp only [pack, List.length_cons, pack_length rest]; omega

theorem wordBytes4 (a b c d : Nat) (ha : a < 256) (hb : b < 256) (hc : c < 256) (hd : d < 256) :
    wordBytes (a + 256 * b + 65536 * c + 16777216 * d) 4 = [a, b, c, d] := by
  simp only [wordBytes, List.take, List.cons.injEq, and_true]
  refine ⟨?_, ?_, ?_, ?_⟩ <;> omega

theorem pack_word : ∀ (bs : List Nat) (p : Nat), BytesOK bs → 4 * p < bs.length →
    wordBytes ((pack bs).getD p 0) 4 = (bs.drop (4 * p) ++ [0, 0, 0, 0]).take 4
  | [], p, _, h => by simp at h
  | [a], p, hb, h => by
    have : p = 0 := by simp at h; omega
    subst this
    have := wordBytes4 a 0 0 0 (hb a (by simp)) (by omega) (by omega) (by omega)
    simpa [pack] using this
  | [a, b], p, hb, h => by
    have : p = 0 := by simp at h; omega
    subst this
    have := wordBytes4 a b 0 0 (hb a (by simp)) (hb b (by simp)) (by omega) (by omega)
    simpa [pack] using this
  | [a, b, c], p, hb, h => by
    have : p = 0 := by simp at h; omega
    subst this
    have := wordBytes4 a b c 0 (hb a (by simp)) (hb b (by simp)) (hb c (by simp)) (by omega)
    simpa [pack] using this
  | a :: b :: c :: d :: rest, 0, hb, _ => by
    have := wordBytes4 a b c d (hb a (by simp)) (hb b (by simp)) (hb c (by simp)) (hb d (by simp))
    simpa [pack] using this
  | a :: b :: c :: d :: rest, p + 1, hb, h => by
    have hr : BytesOK rest := fun x hx => hb x (by simp [hx])
    have hl : 4 * p < rest.length := by simp at h; omega
    have := pack_word rest p hr hl
    have e : 4 * (p + 1) = 4 * p + 4 := by omega
    simpa [pack, e] using this

theorem wordBytes_take (w j : Nat) (hj : j ≤ 4) : wordBytes w j = (wordBytes w 4).take j := by
  simp only [wordBytes, List.take_take]
  congr 1; omega

theorem rom_bytes (d : Desc) (p j : Nat) (hb : BytesOK d.bytes) (hj : j ≤ 4)
    (h : 4 * p + j ≤ d.len) (hj1 : 1 ≤ j) :
    wordBytes (romAt d p) j = (d.bytes.drop (4 * p)).take j := by
  unfold Desc.len at h
  rw [wordBytes_take _ _ hj, romAt, Desc.rom, pack_word d.bytes p hb (by omega), List.take_take,
    Nat.min_eq_left hj, List.take_append_of_le_length (by simp; omega)]

/-- a byte-prefix mask of up to four lanes counts its lanes, and two of them intersect in the shorter one -/
theorem cnt_mask : ∀ k ≤ 4, cnt (mask k) = k := by decide

theorem mask_and : ∀ a ≤ 4, ∀ b ≤ 4, mask a &&& mask b = mask (min a b) := by decide

theorem validMask_cnt (ed em : Bool) (a b : Nat) (ha : ed = true → 1 ≤ a ∧ a ≤ 4)
    (hb : em = true → 1 ≤ b ∧ b ≤ 4) :
    cnt (validMask ed em a b) =
      (if ed then (if em then min a b else a) else if em then b else 4) := by
  cases ed <;> cases em <;> simp only [validMask, Bool.or_self, Bool.and_self, Bool.or_true,
    Bool.or_false, Bool.and_true, Bool.and_false, Bool.false_eq_true, if_false, if_true]
  · rfl
  · rw [if_pos (hb rfl), cnt_mask b (hb rfl).2]
  · exact cnt_mask a (ha rfl).2
  · rw [if_pos (hb rfl), mask_and a (ha rfl).2 b (hb rfl).2, cnt_mask _ (Nat.le_trans (Nat.min_le_left _ _) (ha rfl).2)]

theorem cnt_pos_ne_zero (m : Nat) (h : 1 ≤ cnt m) : m ≠ 0 := by
  intro h0; subst h0; simp [cnt] at h

/-- Facts about a streaming generator serving `min L len` bytes. -/
structure GInv (d : Desc) (L : Nat) (g : Gen) : Prop where
  maxLen : g.maxLen = L
  sent   : g.sent = 4 * g.pos
  pos    : 4 * g.pos < min L d.len
  rdata  : g.rdata = romAt d g.pos

/-! Word `p` of a response of `n` bytes (`4 p < n`) is the last one iff `n ≤ 4 p + 4`; it then carries the
`n - 4 p` bytes that are left, and both ways of computing that number in the source agree with it. -/

theorem lastWord_iff (n p : Nat) (h : 4 * p < n) : p = (n + 3) / 4 - 1 ↔ n ≤ 4 * p + 4 := by omega

theorem lastBytes_eq (n p : Nat) (h : 4 * p < n) (hl : n ≤ 4 * p + 4) :
    (if n % 4 = 0 then 4 else n % 4) + 4 * p = n := by split <;> omega

theorem leftOver_eq (L p : Nat) (h : 4 * p < L) (hl : L ≤ 4 * p + 4) :
    (L + 131072 - 4 * p) % 8 + 4 * p = L := by omega

theorem rom_length (d : Desc) : d.rom.length = (d.len + 3) / 4 := pack_length d.bytes

theorem onLast_iff (d : Desc) (L : Nat) (g : Gen) (h : GInv d L g) :
    onLast d g = true ↔ min L d.len ≤ 4 * g.pos + 4 := by
  obtain ⟨h1, h2, h3, _⟩ := h
  simp only [onLast, Bool.or_eq_true, beq_iff_eq, decide_eq_true_eq, rom_length, h1, h2,
    lastWord_iff d.len g.pos (by omega)]
  omega

/-- What a streaming generator offers: a byte-prefix mask that brings the bytes offered so far to
`min n (4·pos + 4)`, `output_length = n`, the ROM word at `pos`. -/
theorem genOut_streaming (d : Desc) (L : Nat) (g : Gen) (hs : g.fsm = .streaming) (h : GInv d L g) :
    cnt (genOut d g).valid + 4 * g.pos = min (min L d.len) (4 * g.pos + 4) ∧
      (genOut d g).outLen = min L d.len ∧ (genOut d g).payload = romAt d g.pos := by
  obtain ⟨h1, h2, h3, h4⟩ := h
  obtain ⟨hpL, hpn⟩ := Nat.lt_min.1 h3
  have hd := lastWord_iff d.len g.pos hpn
  simp only [genOut, hs, h1, h2, rom_length]
  refine ⟨?_, by split <;> omega, h4⟩
  have ha := lastBytes_eq d.len g.pos hpn
  have hb := leftOver_eq L g.pos hpL
  generalize (if d.len % 4 = 0 then 4 else d.len % 4) = a at ha ⊢
  generalize (L + 131072 - 4 * g.pos) % 8 = b at hb ⊢
  clear h1 h2 h3 h4 hs
  rw [validMask_cnt]
  · simp only [beq_iff_eq, decide_eq_true_eq, hd]
    clear hd
    by_cases hed : d.len ≤ 4 * g.pos + 4 <;> by_cases hem : L ≤ 4 * g.pos + 4
    · rw [if_pos hed, if_pos hem]; have := ha hed; have := hb hem; omega
    · rw [if_pos hed, if_neg hem]; have := ha hed; omega
    · rw [if_neg hed, if_pos hem]; have := hb hem; omega
    · rw [if_neg hed, if_neg hem]; omega
  · intro he
    have hed := hd.1 (by simpa using he)
    have := ha hed; omega
  · intro he
    have hem : L ≤ 4 * g.pos + 4 := by simpa using he
    have := hb hem; omega

theorem gensNext_get (sel : Option Nat) (i : In) (ld : Bool) :
    ∀ (c : List Desc) (gs : List Gen) (off k : Nat) (d : Desc) (g : Gen),
      c[k]? = some d → gs[k]? = some g →
      (gensNext sel i ld off c gs)[k]? =
        some (genNext d g ((sel == some (off + k)) && i.start)
          (if sel == some (off + k) then i.length else 0) ((sel == some (off + k)) && ld))
  | [], _, _, k, _, _, hc, _ => by simp at hc
  | _ :: _, [], _, k, _, _, _, hg => by simp at hg
  | d0 :: ds, g0 :: gs, off, 0, d, g, hc, hg => by
    simp at hc hg; subst hc; subst hg; simp [gensNext]
  | d0 :: ds, g0 :: gs, off, k + 1, d, g, hc, hg => by
    simp at hc hg
    have := gensNext_get sel i ld ds gs (off + 1) k d g hc hg
    simp only [gensNext, List.getElem?_cons_succ, this]
    have e : off + 1 + k = off + (k + 1) := by omega
    rw [e]

/-- One clock edge with generator `k` selected: the tx register is loaded from it or held, and it alone sees `start`,
`length` and the load. -/
theorem next_sel (c : List Desc) (s : State) (i : In) (k : Nat) (d : Desc) (g : Gen)
    (hsel : select c i.value = some k) (hd : c[k]? = some d) (hgen : s.gens[k]? = some g) :
    next c s i = (if load s i then ⟨gensNext (some k) i true 0 c s.gens, (genOut d g).valid, (genOut d g).first,
        (genOut d g).last, (genOut d g).payload, (genOut d g).outLen⟩
      else { s with gens := gensNext (some k) i false 0 c s.gens }) ∧
      (gensNext (some k) i (load s i) 0 c s.gens)[k]? = some (genNext d g i.start i.length (load s i)) := by
  have hg' := gensNext_get (some k) i (load s i) c s.gens 0 k d g hd hgen
  simp only [Nat.zero_add, beq_self_eq_true, Bool.true_and, if_true] at hg'
  exact ⟨by cases hld : load s i <;> simp [next, hsel, hld, hd, hgen], hg'⟩

/-- bytes still to come from the generator -/
def genBytes (d : Desc) (L : Nat) (g : Gen) : List Nat :=
  if g.fsm = .streaming then (d.bytes.take (min L d.len)).drop (4 * g.pos) else []

def txBytes (s : State) : List Nat := wordBytes s.txData (cnt s.txValid)

/-- bytes handed to the consumer in this cycle -/
def xfer (s : State) (i : In) : List Nat :=
  if s.txValid ≠ 0 ∧ i.ready = true then txBytes s else []

/-- Invariant of a response in progress (selected generator `k`, descriptor `d`, wLength `L`). -/
structure Inv (k : Nat) (d : Desc) (L : Nat) (s : State) (g : Gen) : Prop where
  gen   : s.gens[k]? = some g
  ginv  : g.fsm = .streaming → GInv d L g
  txlen : s.txValid ≠ 0 → s.txLen = min L d.len

def pending (d : Desc) (L : Nat) (s : State) (g : Gen) : List Nat := txBytes s ++ genBytes d L g

/-- number of 32-bit words of the response -/
def words (d : Desc) (L : Nat) : Nat := (min L d.len + 3) / 4

/-- tx-register loads (cycles with `~tx.valid | tx.ready`) still needed before the response has drained
(`mu_eq_zero`: generator not streaming, tx register empty) -/
def mu (d : Desc) (L : Nat) (s : State) (g : Gen) : Nat :=
  if g.fsm = .streaming then words d L - g.pos + 1 else if s.txValid ≠ 0 then 1 else 0

theorem mu_eq_zero (d : Desc) (L : Nat) (s : State) (g : Gen) :
    mu d L s g = 0 ↔ g.fsm ≠ .streaming ∧ s.txValid = 0 := by
  unfold mu
  by_cases hs : g.fsm = .streaming
  · simp [hs]
  · by_cases ht : s.txValid = 0 <;> simp [hs, ht]

def flagsOf (W q : Nat) : Bool × Bool := (q == 0, q + 1 == W)

/-- (first, last) of the word handed to the consumer in this cycle -/
def fxfer (s : State) (i : In) : List (Bool × Bool) :=
  if s.txValid ≠ 0 ∧ i.ready = true then [(s.txFirst, s.txLast)] else []

/-- (first, last) of the words still to come: the tx register, then the generator's remaining words -/
def fpending (d : Desc) (L : Nat) (s : State) (g : Gen) : List (Bool × Bool) :=
  (if s.txValid ≠ 0 then [(s.txFirst, s.txLast)] else []) ++
  (if g.fsm = .streaming then (List.range' g.pos (words d L - g.pos)).map (flagsOf (words d L)) else [])

theorem genOut_flags (d : Desc) (g : Gen) (hs : g.fsm = .streaming) :
    (genOut d g).first = (g.pos == 0) ∧ (genOut d g).last = onLast d g := by
  simp [genOut, hs, onLast]

theorem onLast_words (d : Desc) (L : Nat) (g : Gen) (h : GInv d L g) :
    (onLast d g = true ↔ g.pos + 1 = words d L) ∧ g.pos < words d L := by
  have h3 := h.pos
  constructor
  · rw [onLast_iff d L g h]; unfold words; omega
  · unfold words; omega

/-- One cycle of the response (value and length held, no new start).  The invariant is kept; the bytes and the
framing flags handed to the consumer in this cycle are exactly what leaves `pending` and `fpending`; the measure
drops by one in every ready cycle and never rises. -/
theorem step_inv (c : List Desc) (v k : Nat) (d : Desc) (L : Nat) (s : State) (g : Gen) (i : In)
    (hsel : select c v = some k) (hd : c[k]? = some d) (hb : BytesOK d.bytes)
    (hL : L < 65536)
    (hi : Inv k d L s g) (hv : i.value = v) (hl : i.length = L) (hst : i.start = false) :
    ∃ g', Inv k d L (next c s i) g' ∧ xfer s i ++ pending d L (next c s i) g' = pending d L s g ∧
      fxfer s i ++ fpending d L (next c s i) g' = fpending d L s g ∧
      mu d L (next c s i) g' ≤ mu d L s g - (if i.ready then 1 else 0) := by
  obtain ⟨hgen, hginv, htx⟩ := hi
  subst hv
  by_cases hld : load s i = true
  · -- the tx register is (re)loaded from the generator
    obtain ⟨hnext, hg'⟩ := next_sel c s i k d g hsel hd hgen
    rw [hld, if_pos rfl] at hnext
    rw [hld, hl] at hg'
    have hrdy : s.txValid ≠ 0 → i.ready = true := fun h0 => by simpa [load, h0] using hld
    have hx : xfer s i = txBytes s := by
      by_cases h0 : s.txValid = 0
      · simp [xfer, h0, txBytes, cnt, wordBytes]
      · simp [xfer, h0, hrdy h0]
    have hfx : fxfer s i = (if s.txValid ≠ 0 then [(s.txFirst, s.txLast)] else []) := by
      by_cases h0 : s.txValid = 0
      · simp [fxfer, h0]
      · simp [fxfer, h0, hrdy h0]
    rw [hnext, hx, hfx]
    cases hfsm : g.fsm
    · -- idle: stays idle, the tx register is emptied
      refine ⟨_, ⟨hg', ?_, ?_⟩, ?_, ?_, ?_⟩
      · intro h; simp [genNext, hfsm, hst] at h
      · simp [genOut, hfsm]
      · simp [pending, genBytes, genNext, hfsm, hst, txBytes, genOut, cnt, wordBytes]
      · simp [fpending, genNext, hfsm, hst, genOut]
      · simp [mu, genNext, hfsm, hst, genOut]
    · -- streaming: one word moves from the generator into the tx register
      have hG := hginv hfsm
      obtain ⟨hc, hol, hpay⟩ := genOut_streaming d L g hfsm hG
      obtain ⟨hf1, hf2⟩ := genOut_flags d g hfsm
      obtain ⟨hlw, hpw⟩ := onLast_words d L g hG
      have hon := onLast_iff d L g hG
      obtain ⟨g1, g2, g3, g4⟩ := hG
      have hj : 1 ≤ cnt (genOut d g).valid := by omega
      have hvne : (genOut d g).valid ≠ 0 := cnt_pos_ne_zero _ hj
      have hword : wordBytes (genOut d g).payload (cnt (genOut d g).valid)
          = ((d.bytes.take (min L d.len)).drop (4 * g.pos)).take (cnt (genOut d g).valid) := by
        rw [hpay, rom_bytes d g.pos _ hb (by omega) (by omega) hj, List.drop_take, List.take_take]
        congr 1; omega
      by_cases hlast : onLast d g = true
      · -- last word: the generator is done
        have hn := hon.1 hlast
        have hW := hlw.1 hlast
        refine ⟨_, ⟨hg', ?_, ?_⟩, ?_, ?_, ?_⟩
        · intro h; simp [genNext, hfsm, hlast] at h
        · intro _; exact hol
        · simp only [pending, genBytes, genNext, hfsm, hlast, txBytes, if_true, Bool.not_true,
            Bool.false_eq_true, if_false, List.append_nil, reduceCtorEq]
          rw [hword, List.take_of_length_le]
          simp only [List.length_drop, List.length_take]
          unfold Desc.len at *; omega
        · have hr : words d L - g.pos = 1 := by omega
          simp only [fpending, genNext, hfsm, hlast, Bool.not_true, Bool.false_eq_true, if_false, if_true,
            reduceCtorEq, hvne, ne_eq, not_false_eq_true, List.append_nil, hr, List.range'_one, List.map_cons,
            List.map_nil, hf1, hf2, flagsOf]
          simp [hW]
        · simp only [mu, genNext, hfsm, hlast, Bool.not_true, Bool.false_eq_true, if_false, if_true, reduceCtorEq,
            hvne, ne_eq, not_false_eq_true]
          split <;> omega
      · -- not the last word
        have hn : ¬ (min L d.len ≤ 4 * g.pos + 4) := fun h => hlast (hon.2 h)
        have hnl : onLast d g = false := by simpa using hlast
        have hW : ¬ (g.pos + 1 = words d L) := fun h => hlast (hlw.2 h)
        refine ⟨_, ⟨hg', ?_, ?_⟩, ?_, ?_, ?_⟩
        · intro _
          simp only [genNext, hfsm, hnl, Bool.not_false, if_true]
          exact ⟨g1, by simp only [g2]; omega, by simp only; omega, rfl⟩
        · intro _; exact hol
        · simp only [pending, genBytes, genNext, hfsm, hnl, txBytes, if_true, Bool.not_false]
          have e : cnt (genOut d g).valid = 4 := by omega
          rw [hword, e]
          congr 1
          have e2 : 4 * (g.pos + 1) = 4 * g.pos + 4 := by omega
          rw [e2, ← List.drop_drop, List.take_append_drop]
        · have hr : words d L - g.pos = (words d L - (g.pos + 1)) + 1 := by omega
          simp only [fpending, genNext, hfsm, hnl, Bool.not_false, if_true, hvne, ne_eq, not_false_eq_true,
            hf1, hf2]
          rw [hr, List.range'_succ]
          simp [flagsOf, hW]
        · simp only [mu, genNext, hfsm, hnl, Bool.not_false, if_true]
          split <;> omega
    · -- done: the generator returns to idle, the tx register is emptied
      refine ⟨_, ⟨hg', ?_, ?_⟩, ?_, ?_, ?_⟩
      · intro h; simp [genNext, hfsm] at h
      · simp [genOut, hfsm]
      · simp [pending, genBytes, genNext, hfsm, txBytes, genOut, cnt, wordBytes]
      · simp [fpending, genNext, hfsm, genOut]
      · simp [mu, genNext, hfsm, genOut]
  · -- the tx register is full and not taken: nothing moves (and this is not a ready cycle)
    have hldf : load s i = false := by simpa using hld
    obtain ⟨hnext, hg'⟩ := next_sel c s i k d g hsel hd hgen
    rw [hldf, if_neg Bool.false_ne_true] at hnext
    rw [hldf, hl] at hg'
    simp only [load, Bool.or_eq_false_iff] at hldf
    have hrf : i.ready = false := hldf.2
    have hx : xfer s i = [] := by simp [xfer, hrf]
    have hfx : fxfer s i = [] := by simp [fxfer, hrf]
    rw [hnext, hx, hfx]
    cases hfsm : g.fsm
    · refine ⟨_, ⟨hg', ?_, ?_⟩, ?_, ?_, ?_⟩
      · intro h; simp [genNext, hfsm, hst] at h
      · exact htx
      · simp [pending, genBytes, genNext, hfsm, hst, txBytes]
      · simp [fpending, genNext, hfsm, hst]
      · simp [mu, genNext, hfsm, hst, hrf]
    · have hG := hginv hfsm
      refine ⟨_, ⟨hg', ?_, ?_⟩, ?_, ?_, ?_⟩
      · intro _
        simp only [genNext, hfsm, Bool.false_eq_true, if_false]
        exact ⟨hG.1, hG.2, hG.3, rfl⟩
      · exact htx
      · simp [pending, genBytes, genNext, hfsm, txBytes]
      · simp [fpending, genNext, hfsm]
      · simp [mu, genNext, hfsm, hrf]
    · refine ⟨_, ⟨hg', ?_, ?_⟩, ?_, ?_, ?_⟩
      · intro h; simp [genNext, hfsm] at h
      · exact htx
      · simp [pending, genBytes, genNext, hfsm, txBytes]
      · simp [fpending, genNext, hfsm]
      · simp [mu, genNext, hfsm, hrf]

/-- `value` / `length` held, no further start, arbitrary `tx.ready` pattern -/
def heldIns (v L : Nat) (rs : List Bool) : List In := rs.map (fun r => ⟨v, L, false, r⟩)

/-- all bytes handed to the consumer during a run -/
def delivered (c : List Desc) : State → List In → List Nat
  | _, [] => []
  | s, i :: is => xfer s i ++ delivered c (next c s i) is

def fdelivered (c : List Desc) : State → List In → List (Bool × Bool)
  | _, [] => []
  | s, i :: is => fxfer s i ++ fdelivered c (next c s i) is

def runState (c : List Desc) : State → List In → State
  | s, [] => s
  | s, i :: is => runState c (next c s i) is

/-- the `tx_length` values shown in the cycles in which `tx` is valid -/
def lengthsShown (c : List Desc) : State → List In → List Nat
  | _, [] => []
  | s, i :: is => (if s.txValid ≠ 0 then [s.txLen] else []) ++ lengthsShown c (next c s i) is

def readyCount (rs : List Bool) : Nat := rs.count true

theorem run_inv (c : List Desc) (v k : Nat) (d : Desc) (L : Nat)
    (hsel : select c v = some k) (hd : c[k]? = some d) (hb : BytesOK d.bytes)
    (hL : L < 65536) :
    ∀ (rs : List Bool) (s : State) (g : Gen), Inv k d L s g →
      ∃ g', Inv k d L (runState c s (heldIns v L rs)) g' ∧
        delivered c s (heldIns v L rs) ++ pending d L (runState c s (heldIns v L rs)) g'
          = pending d L s g ∧
        (∀ x ∈ lengthsShown c s (heldIns v L rs), x = min L d.len) ∧
        fdelivered c s (heldIns v L rs) ++ fpending d L (runState c s (heldIns v L rs)) g' = fpending d L s g ∧
        mu d L (runState c s (heldIns v L rs)) g' ≤ mu d L s g - readyCount rs
  | [], s, g, hi =>
    ⟨g, hi, by simp [heldIns, delivered, runState], by simp [heldIns, lengthsShown],
      by simp [heldIns, fdelivered, runState], by simp [heldIns, runState, readyCount]⟩
  | r :: rs, s, g, hi => by
    obtain ⟨g1, hi1, he1, hf1, hm1⟩ := step_inv c v k d L s g ⟨v, L, false, r⟩ hsel hd hb hL hi rfl rfl rfl
    obtain ⟨g2, hi2, he2, hl2, hf2, hm2⟩ := run_inv c v k d L hsel hd hb hL rs _ g1 hi1
    refine ⟨g2, hi2, ?_, ?_, ?_, ?_⟩
    · simp only [heldIns, List.map_cons, delivered, runState] at he2 ⊢
      rw [List.append_assoc, he2, he1]
    · intro x hx
      simp only [heldIns, List.map_cons, lengthsShown, List.mem_append] at hx hl2
      rcases hx with hx | hx
      · by_cases h0 : s.txValid = 0
        · simp [h0] at hx
        · simp [h0] at hx; rw [hx]; exact hi.txlen h0
      · exact hl2 x hx
    · simp only [heldIns, List.map_cons, fdelivered, runState] at hf2 ⊢
      rw [List.append_assoc, hf2, hf1]
    · simp only [heldIns, List.map_cons, runState] at hm2 ⊢
      simp only [readyCount, List.count_cons] at hm1 ⊢
      cases r <;> simp at hm1 ⊢ <;> simp only [readyCount] at hm2 <;> omega

/-! ### What the hypotheses of the end results say: `select`, a state ready for a request -/

/-- `select c v = some k` (`hsel`): `c[k]` is a descriptor with key `v`. -/
theorem select_some (c : List Desc) (v k : Nat) (h : select c v = some k) :
    ∃ d, c[k]? = some d ∧ d.key = v := by
  unfold select at h
  rw [List.findIdx?_eq_some_iff_getElem] at h
  obtain ⟨hk, hkey, _⟩ := h
  exact ⟨c[k], by simp [hk], by simpa using hkey⟩

/-- `select c v = none` (the hypothesis of `ss_unknown_stalls`): no descriptor of the collection has key `v`. -/
theorem select_none (c : List Desc) (v : Nat) : select c v = none ↔ ∀ d ∈ c, d.key ≠ v := by
  unfold select
  rw [List.findIdx?_eq_none_iff]
  simp

/-- The handler is ready for a request on descriptor `k`: its generator idle, `tx` empty. -/
def Quiescent (k : Nat) (s : State) : Prop :=
  ∃ g, s.gens[k]? = some g ∧ g.fsm = .idle ∧ s.txValid = 0

/-- The reset state is ready for a request on every descriptor of the collection. -/
theorem init_quiescent (c : List Desc) (k : Nat) (d : Desc) (hd : c[k]? = some d) :
    Quiescent k (init c) := by
  refine ⟨Gen.init, ?_, rfl, rfl⟩
  simp only [init, List.getElem?_map, hd, Option.map_some]

theorem start_step (c : List Desc) (v k : Nat) (d : Desc) (L : Nat) (s : State) (r : Bool)
    (hsel : select c v = some k) (hd : c[k]? = some d) (hpos : 0 < d.len) (hq : Quiescent k s) :
    ∃ g', Inv k d L (next c s ⟨v, L, true, r⟩) g' ∧
      pending d L (next c s ⟨v, L, true, r⟩) g' = d.bytes.take (min L d.len) ∧
      xfer s ⟨v, L, true, r⟩ = [] ∧
      fpending d L (next c s ⟨v, L, true, r⟩) g' = (List.range' 0 (words d L)).map (flagsOf (words d L)) ∧
      fxfer s ⟨v, L, true, r⟩ = [] ∧
      mu d L (next c s ⟨v, L, true, r⟩) g' ≤ words d L + 1 := by
  obtain ⟨g, hgen, hidle, htx⟩ := hq
  obtain ⟨hnext, hg'⟩ := next_sel c s ⟨v, L, true, r⟩ k d g hsel hd hgen
  have hld : load s ⟨v, L, true, r⟩ = true := by simp [load, htx]
  rw [hld, if_pos rfl] at hnext
  rw [hld] at hg'
  have hL0 : L = 0 ∨ decide (L > 0) = true := by
    rcases Nat.eq_zero_or_pos L with h | h
    · exact Or.inl h
    · exact Or.inr (by simpa using h)
  refine ⟨_, ⟨by rw [hnext]; exact hg', ?_, ?_⟩, ?_, by simp [xfer, htx], ?_, by simp [fxfer, htx], ?_⟩
  · intro _
    rcases hL0 with h | h
    · simp_all [genNext]
    · have hLp : 0 < L := by simpa using h
      simp only [genNext, hidle]
      exact ⟨rfl, rfl, by simp only; omega, rfl⟩
  · rw [hnext]; simp [genOut, hidle]
  · rw [hnext]
    rcases hL0 with h | h <;> simp [pending, txBytes, genBytes, genOut, genNext, hidle, h, cnt, wordBytes]
  · rw [hnext]
    rcases hL0 with h | h <;> simp [fpending, genOut, genNext, hidle, h, words]
  · rw [hnext]
    rcases hL0 with h | h <;> simp [mu, genOut, genNext, hidle, h]

/-- **C48 (descriptor data, safety)**: from any quiescent state (e.g. reset), after `start` with
`value` selecting descriptor `d` and `length = L`, under EVERY `tx.ready` pattern `r0 :: rs`: the
bytes delivered so far followed by the bytes still pending in the tx register and the generator are
exactly the first `min L len` bytes of the descriptor (so what the host has received is always a
prefix, each byte once, in order), and `tx_length` reads `min L len` whenever `tx` is valid. -/
theorem ss_descriptor_prefix (c : List Desc) (v k : Nat) (d : Desc) (L : Nat) (s : State)
    (r0 : Bool) (rs : List Bool)
    (hsel : select c v = some k) (hd : c[k]? = some d) (hb : BytesOK d.bytes)
    (hpos : 0 < d.len) (hlen : d.len < 65536) (hL : L < 65536) (hq : Quiescent k s) :
    ∃ g', (runState c s (⟨v, L, true, r0⟩ :: heldIns v L rs)).gens[k]? = some g' ∧
      delivered c s (⟨v, L, true, r0⟩ :: heldIns v L rs)
          ++ pending d L (runState c s (⟨v, L, true, r0⟩ :: heldIns v L rs)) g'
        = d.bytes.take (min L d.len) ∧
      ∀ x ∈ lengthsShown c s (⟨v, L, true, r0⟩ :: heldIns v L rs), x = min L d.len := by
  have htx0 : s.txValid = 0 := by obtain ⟨_, _, _, h⟩ := hq; exact h
  obtain ⟨g1, hi1, hp1, hx1, -⟩ := start_step c v k d L s r0 hsel hd hpos hq
  obtain ⟨g2, hi2, he2, hl2, -⟩ := run_inv c v k d L hsel hd hb hL rs _ g1 hi1
  refine ⟨g2, hi2.gen, ?_, ?_⟩
  · simp only [delivered, runState, hx1, List.nil_append]
    rw [he2, hp1]
  · intro x hx
    simp only [lengthsShown, htx0, ne_eq, not_true_eq_false, if_false, List.nil_append] at hx
    exact hl2 x hx

/-- **C48 (descriptor data, exactness)**: when the response has drained (`hdone`, `hempty`: generator no
longer streaming, tx register empty — `.done` is allowed, so this is not yet the `Quiescent` of the next
request), the host has received exactly the first `min L len` bytes. -/
theorem ss_descriptor_complete (c : List Desc) (v k : Nat) (d : Desc) (L : Nat) (s : State)
    (r0 : Bool) (rs : List Bool)
    (hsel : select c v = some k) (hd : c[k]? = some d) (hb : BytesOK d.bytes)
    (hpos : 0 < d.len) (hlen : d.len < 65536) (hL : L < 65536) (hq : Quiescent k s)
    (hdone : ∀ g', (runState c s (⟨v, L, true, r0⟩ :: heldIns v L rs)).gens[k]? = some g' →
      g'.fsm ≠ .streaming)
    (hempty : (runState c s (⟨v, L, true, r0⟩ :: heldIns v L rs)).txValid = 0) :
    delivered c s (⟨v, L, true, r0⟩ :: heldIns v L rs) = d.bytes.take (min L d.len) := by
  obtain ⟨g', hg, he, _⟩ := ss_descriptor_prefix c v k d L s r0 rs hsel hd hb hpos hlen hL hq
  have h1 := hdone g' hg
  rw [← he]
  simp [pending, txBytes, genBytes, hempty, h1, cnt, wordBytes]

/-- **C48 (unknown descriptor)**: when no descriptor matches `value`, `stall` equals `start` in that
cycle and the tx register keeps its contents (nothing is ever loaded, so nothing is offered from an
empty register). -/
theorem ss_unknown_stalls (c : List Desc) (s : State) (i : In) (h : select c i.value = none) :
    (out c s i).stall = i.start ∧ (next c s i).txValid = s.txValid
      ∧ (next c s i).txData = s.txData ∧ (next c s i).txLen = s.txLen := by
  simp [out, next, h]

/- Non-vacuity: an 18-byte device descriptor and a 5-byte one; GET_DESCRIPTOR(0x0100, wLength 8)
with a stuttering consumer delivers bytes 0..7 and shows tx_length 8. -/
def demoC : List Desc :=
  [⟨0x0300, [4, 3, 9, 4, 0]⟩, ⟨0x0100, [18, 1, 0, 3, 0, 0, 0, 9, 0xd0, 0x16, 0x3b, 0x0f, 0, 0, 1, 2, 3, 1]⟩]

example : select demoC 0x0100 = some 1 := by decide +kernel
example : delivered demoC (init demoC) (⟨0x0100, 8, true, true⟩ :: heldIns 0x0100 8 [false, true, false, true, true, true])
    = [18, 1, 0, 3, 0, 0, 0, 9] := by decide +kernel
example : lengthsShown demoC (init demoC) (⟨0x0100, 8, true, true⟩ :: heldIns 0x0100 8 [false, true, false, true, true, true])
    = [8, 8, 8] := by decide +kernel
example : (out demoC (init demoC) ⟨0x0200, 8, true, true⟩).stall = true := by decide +kernel

end LunaVerif.SSDesc
