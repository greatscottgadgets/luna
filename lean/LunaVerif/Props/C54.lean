import LunaVerif.Model.Periph.PhyReset
/-!
# C54 — PHY reset controllers produce the configured pulses and always finish

"For any clock frequency and reset/stop durations, a triggered (or power-on) reset asserts the PHY
reset for exactly the configured number of cycles, keeps STP asserted during the reset and for
exactly the configured stop duration afterwards, and then returns to idle, ready for the next
trigger."

The durations enter the gateware as cycle counts (`reset_length_cycles`, `stop_length_cycles`,
computed by Python's float `ceil`); the theorems quantify over **all** counts `≥ 1`, both power-on
modes and **all** trigger histories.  The model is the code *after* the `fix:` commit (counter sized
for the longer interval); `unrepaired_counter_never_finishes` states the defect of the original
sizing (F23) as a theorem about the same step function with the original counter width.
-/
namespace LunaVerif.PhyReset

/-! ## Specification: a single timer
`none` = idle, `some k` = `k` cycles of the pulse have elapsed.  A pulse lasts `reset + stop` cycles;
`phy_reset` is high during the first `reset` of them, `phy_stop` during all of them; a trigger is
looked at only while idle. -/

def timerOut (c : Config) : Option Nat → Out
  | none => ⟨false, false⟩
  | some k => ⟨decide (k < c.resetCycles), true⟩

def timerNext (c : Config) : Option Nat → Bool → Option Nat
  | none, trig => if trig then some 0 else none
  | some k, _ => if k + 1 = c.resetCycles + c.stopCycles then none else some (k + 1)

def timerRun (c : Config) : Option Nat → List Bool → List Out
  | _, [] => []
  | t, x :: xs => timerOut c t :: timerRun c (timerNext c t x) xs

def timerInit (c : Config) : Option Nat := if c.powerOn then some 0 else none

def abs (c : Config) (s : State) : Option Nat :=
  match s.fsm with
  | .idle => none
  | .resetting => some s.cnt
  | .deferring => some (c.resetCycles + s.cnt)

def Inv (c : Config) (s : State) : Prop :=
  match s.fsm with
  | .idle => s.cnt = 0
  | .resetting => s.cnt < c.resetCycles
  | .deferring => s.cnt < c.stopCycles

theorem le_two_pow_rangeWidth (n : Nat) : n ≤ 2 ^ rangeWidth n := by
  unfold rangeWidth
  split
  · simp; omega
  · have := Nat.lt_log2_self (n := n - 1); omega

theorem reset_le_modulus (c : Config) : c.resetCycles ≤ modulus c :=
  Nat.le_trans (Nat.le_max_left _ _) (le_two_pow_rangeWidth _)

theorem stop_le_modulus (c : Config) : c.stopCycles ≤ modulus c :=
  Nat.le_trans (Nat.le_max_right _ _) (le_two_pow_rangeWidth _)

theorem inv_init (c : Config) (h1 : 1 ≤ c.resetCycles) : Inv c (init c) := by
  unfold init Inv; cases c.powerOn <;> simp <;> omega

theorem step_abs (c : Config) (h1 : 1 ≤ c.resetCycles) (h2 : 1 ≤ c.stopCycles) (s : State) (x : Bool) (hs : Inv c s) :
    abs c (step c s x).1 = timerNext c (abs c s) x ∧ (step c s x).2 = timerOut c (abs c s) ∧ Inv c (step c s x).1 := by
  have hr := reset_le_modulus c
  have hp := stop_le_modulus c
  obtain ⟨f, k⟩ := s
  cases f
  · cases x <;> simp [step, stepM, abs, timerNext, timerOut, outOf, Inv]; omega
  · have hs : k < c.resetCycles := hs
    have h' : ¬ (k + 1 = c.resetCycles + c.stopCycles) := by omega
    by_cases h : k + 1 = c.resetCycles
    · simp [step, stepM, abs, timerNext, timerOut, outOf, Inv, h, hs]; omega
    · simp only [step, stepM, h, if_false, abs, timerNext, h', timerOut, outOf, Inv]
      rw [Nat.mod_eq_of_lt (by omega)]; simp [hs]; omega
  · have hs : k < c.stopCycles := hs
    have hnr : ¬ (c.resetCycles + k < c.resetCycles) := by omega
    by_cases h : k + 1 = c.stopCycles
    · have h' : c.resetCycles + k + 1 = c.resetCycles + c.stopCycles := by omega
      simp [step, stepM, abs, timerNext, timerOut, outOf, Inv, h, h']
    · have h' : ¬ (c.resetCycles + k + 1 = c.resetCycles + c.stopCycles) := by omega
      simp only [step, stepM, h, if_false, abs, timerNext, h', timerOut, outOf, Inv]
      rw [Nat.mod_eq_of_lt (by omega)]; simp [Nat.add_assoc]; omega

/-- **C54, refinement.**  For all cycle counts `≥ 1`, from every reachable state and for every trigger
history, the port waveform of the controller is that of the timer specification. -/
theorem run_eq_timer_from (c : Config) (h1 : 1 ≤ c.resetCycles) (h2 : 1 ≤ c.stopCycles) (s : State) (hs : Inv c s)
    (hist : List Bool) : run c s hist = timerRun c (abs c s) hist := by
  induction hist generalizing s with
  | nil => rfl
  | cons x xs ih =>
    simp only [run, timerRun]
    obtain ⟨ha, ho, hi⟩ := step_abs c h1 h2 s x hs
    rw [ho, ih _ hi, ha]

theorem run_eq_timer (c : Config) (h1 : 1 ≤ c.resetCycles) (h2 : 1 ≤ c.stopCycles) (hist : List Bool) :
    run c (init c) hist = timerRun c (timerInit c) hist := by
  rw [run_eq_timer_from c h1 h2 _ (inv_init c h1)]
  congr 1
  unfold init abs timerInit; cases c.powerOn <;> rfl

/-! ## The three clauses of the property, stated directly on the controller -/

/-- a counting phase (RESETTING or DEFERRING_STARTUP): `n` cycles in FSM state `f` with the outputs `o`, left for `nxt` exactly
when the counter reaches the length `L` of the phase -/
theorem phase (c : Config) (f : Fsm) (L : Nat) (nxt : State) (o : Out) (hL : L ≤ modulus c)
    (hstep : ∀ k x, step c ⟨f, k⟩ x = (if k + 1 = L then nxt else ⟨f, (k + 1) % modulus c⟩, o))
    (n k : Nat) (hk : k + n = L) (hn : 0 < n) (hist rest : List Bool) (hl : hist.length = n) :
    run c ⟨f, k⟩ (hist ++ rest) = List.replicate n o ++ run c nxt rest ∧
    runState c ⟨f, k⟩ (hist ++ rest) = runState c nxt rest := by
  induction n generalizing k hist with
  | zero => omega
  | succ n ih =>
    obtain _ | ⟨x, xs⟩ := hist
    · simp at hl
    · simp only [List.length_cons, Nat.add_right_cancel_iff] at hl
      simp only [List.cons_append, run, runState, hstep]
      by_cases hlast : k + 1 = L
      · obtain rfl : n = 0 := by omega
        obtain rfl : xs = [] := List.eq_nil_of_length_eq_zero hl
        simp [hlast]
      · obtain ⟨i1, i2⟩ := ih (k + 1) (by omega) (by omega) xs hl
        rw [if_neg hlast, Nat.mod_eq_of_lt (by omega)]
        simp only [i1, i2, List.replicate_succ, List.cons_append, and_self]

/-- The complete pulse: whatever the trigger input does during it (`during`, any values, length
`reset + stop`), the controller drives `reset` cycles of (phy_reset, phy_stop) = (1, 1), then `stop`
cycles of (0, 1), and continues from the idle state with a cleared counter. -/
theorem power_on_pulse (c : Config) (h1 : 1 ≤ c.resetCycles) (h2 : 1 ≤ c.stopCycles)
    (during rest : List Bool) (hl : during.length = c.resetCycles + c.stopCycles) :
    run c ⟨.resetting, 0⟩ (during ++ rest) =
      List.replicate c.resetCycles ⟨true, true⟩ ++ List.replicate c.stopCycles ⟨false, true⟩
        ++ run c ⟨.idle, 0⟩ rest ∧
    runState c ⟨.resetting, 0⟩ (during ++ rest) = runState c ⟨.idle, 0⟩ rest := by
  have hsplit : during = during.take c.resetCycles ++ during.drop c.resetCycles :=
    (List.take_append_drop _ _).symm
  rw [hsplit, List.append_assoc]
  obtain ⟨a1, a2⟩ := phase c .resetting c.resetCycles ⟨.deferring, 0⟩ ⟨true, true⟩ (reset_le_modulus c)
    (fun k x => by simp only [step, stepM, outOf]; split <;> rfl) c.resetCycles 0 (by omega) (by omega)
    (during.take c.resetCycles) (during.drop c.resetCycles ++ rest) (by simp; omega)
  obtain ⟨b1, b2⟩ := phase c .deferring c.stopCycles ⟨.idle, 0⟩ ⟨false, true⟩ (stop_le_modulus c)
    (fun k x => by simp only [step, stepM, outOf]; split <;> rfl) c.stopCycles 0 (by omega) (by omega)
    (during.drop c.resetCycles) rest (by simp; omega)
  rw [a1, a2, b1, b2]; simp

theorem idle_waits (c : Config) (rest : List Bool) :
    run c ⟨.idle, 0⟩ (false :: rest) = ⟨false, false⟩ :: run c ⟨.idle, 0⟩ rest := by
  simp [run, step, stepM, outOf]

theorem trigger_starts (c : Config) (rest : List Bool) :
    run c ⟨.idle, 0⟩ (true :: rest) = ⟨false, false⟩ :: run c ⟨.resetting, 0⟩ rest ∧
    runState c ⟨.idle, 0⟩ (true :: rest) = runState c ⟨.resetting, 0⟩ rest := by
  simp [run, runState, step, stepM, outOf]

/-- **C54, reset pulse.**  After a trigger accepted in idle, `phy_reset` is high for exactly
`reset` cycles (then low for the `stop` cycles of the same pulse), for every trigger activity
`during` the pulse. -/
theorem reset_pulse_exact (c : Config) (h1 : 1 ≤ c.resetCycles) (h2 : 1 ≤ c.stopCycles)
    (during : List Bool) (hl : during.length = c.resetCycles + c.stopCycles) :
    (run c ⟨.idle, 0⟩ (true :: during)).map (·.phyReset) =
      false :: (List.replicate c.resetCycles true ++ List.replicate c.stopCycles false) := by
  have := (power_on_pulse c h1 h2 during [] hl).1
  rw [List.append_nil] at this
  rw [(trigger_starts c during).1, this]
  simp [run]

/-- **C54, stop.**  `phy_stop` is high during the reset and for exactly `stop` cycles
after it, i.e. for `reset + stop` cycles in all. -/
theorem stop_exact_after_reset (c : Config) (h1 : 1 ≤ c.resetCycles) (h2 : 1 ≤ c.stopCycles)
    (during : List Bool) (hl : during.length = c.resetCycles + c.stopCycles) :
    (run c ⟨.idle, 0⟩ (true :: during)).map (·.phyStop) =
      false :: List.replicate (c.resetCycles + c.stopCycles) true := by
  have := (power_on_pulse c h1 h2 during [] hl).1
  rw [List.append_nil] at this
  rw [(trigger_starts c during).1, this]
  simp [run, List.replicate_append_replicate]

/-- **C54, return to idle.**  After the `reset + stop` cycles of a pulse (triggered or power-on) the
controller is in exactly the state in which it accepted the trigger (IDLE, counter 0) — so the next
trigger produces the same pulse again, and everything after the pulse is as from a fresh idle. -/
theorem returns_to_idle (c : Config) (h1 : 1 ≤ c.resetCycles) (h2 : 1 ≤ c.stopCycles)
    (during rest : List Bool) (hl : during.length = c.resetCycles + c.stopCycles) :
    runState c ⟨.idle, 0⟩ (true :: during) = ⟨.idle, 0⟩ ∧
    runState c ⟨.resetting, 0⟩ during = ⟨.idle, 0⟩ ∧
    (run c ⟨.idle, 0⟩ (true :: (during ++ rest))).drop (1 + c.resetCycles + c.stopCycles)
      = run c ⟨.idle, 0⟩ rest := by
  have p0 := (power_on_pulse c h1 h2 during [] hl).2
  have p1 := (power_on_pulse c h1 h2 during rest hl).1
  rw [List.append_nil] at p0
  refine ⟨?_, ?_, ?_⟩
  · rw [(trigger_starts c during).2, p0]; rfl
  · rw [p0]; rfl
  · rw [(trigger_starts c (during ++ rest)).1, p1]
    rw [show 1 + c.resetCycles + c.stopCycles = (c.resetCycles + c.stopCycles) + 1 by omega,
      List.drop_succ_cons, List.drop_left']
    simp

/-- every reachable idle state is the one the clauses above start from -/
theorem reachable_idle (c : Config) (s : State) (hs : Inv c s) (hi : s.fsm = .idle) : s = ⟨.idle, 0⟩ := by
  obtain ⟨f, k⟩ := s
  simp only at hi; subst hi
  simp only [Inv] at hs; subst hs; rfl

/-! ## The defect of the original counter sizing (F23), as a theorem
With `cycles_in_reset = Signal(range(0, reset_length_cycles))`, reset = 3 and stop = 9 cycles
(1 MHz, 3 µs / 9 µs), the counter is 2 bits wide, `cycles_in_reset + 1` never reaches 9, and
`phy_stop` stays asserted for ever after power-on, whatever the trigger does. -/

def runUnrepaired (c : Config) : State → List Bool → List Out
  | _, [] => []
  | s, x :: xs => (stepUnrepaired c s x).2 :: runUnrepaired c (stepUnrepaired c s x).1 xs

theorem unrepaired_counter_never_finishes (hist : List Bool) :
    ∀ o ∈ runUnrepaired ⟨3, 9, true⟩ (init ⟨3, 9, true⟩) hist, o.phyStop = true := by
  suffices h : ∀ s : State, (s.fsm ≠ .idle ∧ s.cnt < 4) →
      ∀ o ∈ runUnrepaired ⟨3, 9, true⟩ s hist, o.phyStop = true from h _ (by simp [init])
  induction hist with
  | nil => intro s _ o ho; simp [runUnrepaired] at ho
  | cons x xs ih =>
    intro s hs o ho
    obtain ⟨f, k⟩ := s
    simp only [runUnrepaired, List.mem_cons] at ho
    have hm : (2 : Nat) ^ rangeWidth 3 = 4 := by decide
    rcases ho with ho | ho
    · subst ho
      cases f <;> simp_all [stepUnrepaired, stepM, outOf] <;> split <;> simp
    · refine ih _ ?_ o ho
      cases f
      · simp at hs
      · simp only [stepUnrepaired, stepM, hm]; split <;> simp <;> omega
      · simp only [stepUnrepaired, stepM, hm]
        have : k + 1 ≠ 9 := by simp at hs; omega
        simp [this]; omega

/-! ## Non-vacuity -/
example : run ⟨3, 9, true⟩ (init ⟨3, 9, true⟩) (List.replicate 14 false) =
    List.replicate 3 ⟨true, true⟩ ++ List.replicate 9 ⟨false, true⟩ ++ List.replicate 2 ⟨false, false⟩ := by
  decide
example : (run ⟨2, 5, false⟩ (init ⟨2, 5, false⟩) [false, true, true, false, true, false, true, false, true, true, false]).map
    (fun o => (o.phyReset, o.phyStop)) =
    [(false, false), (false, false), (true, true), (true, true), (false, true), (false, true), (false, true),
     (false, true), (false, true), (false, false), (true, true)] := by decide

end LunaVerif.PhyReset
