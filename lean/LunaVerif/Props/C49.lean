import LunaVerif.Model.Periph.Uart
/-!
# C49 — UART transmitters produce exact 8N1 frames

"For any divisor and any byte stream, the output line idles high and carries, for each accepted byte
in order, a start bit (0), the eight data bits LSB first and a stop bit (1), each held for exactly
'divisor' clock cycles; a byte is accepted only when it will be framed next, and the multi-byte
variant sends each word's bytes little-endian."

The specification is a *line schedule*: the list `rem` of line levels still owed to the wire, one
entry per clock cycle.  The line is high when nothing is owed; a byte can be accepted when at most
one cycle is still owed (idle, or the last cycle of a stop bit), and accepting byte `p` replaces the
schedule by `expand d (frame p)`: start, 8 data bits LSB first, stop, each repeated `d` times.
The theorems hold for every divisor `d ≥ 1`, every payload and every valid pattern.
-/
namespace LunaVerif.Uart

/-! ## Specification -/

def lsbBits : Nat → Nat → List Bool
  | 0, _ => []
  | k + 1, v => (v % 2 == 1) :: lsbBits k (v / 2)

/-- An 8N1 frame: start bit 0, data LSB first, stop bit 1. -/
def frame (p : Nat) : List Bool := false :: (lsbBits 8 p ++ [true])

def expand (d : Nat) (bits : List Bool) : List Bool := bits.flatMap (List.replicate d)

def lineOut : List Bool → Out
  | [] => ⟨true, true, true, false⟩                         -- line idles high, ready for a byte
  | [b] => ⟨b, true, false, true⟩                           -- last owed cycle: next byte may follow directly
  | b :: _ :: _ => ⟨b, false, false, true⟩

def lineNext (d : Nat) (rem : List Bool) (i : In) : List Bool :=
  if rem.length ≤ 1 ∧ i.valid = true then expand d (frame i.payload) else rem.tail

def lineRun (d : Nat) : List Bool → List In → List Out
  | _, [] => []
  | rem, x :: xs => lineOut rem :: lineRun d (lineNext d rem x) xs

def bytesLE : Nat → Nat → List Nat
  | 0, _ => []
  | k + 1, v => v % 256 :: bytesLE k (v / 256)

/-- Word transmitter: `pend` = bytes of the accepted word not yet handed to the byte transmitter
(little-endian order), `rem` = the byte transmitter's line schedule. -/
def mbSpecStep (d w : Nat) (q : List Nat × List Bool) (i : In) : (List Nat × List Bool) × MBOut :=
  let tx := (lineOut q.2).tx
  match q.1 with
  | [] =>            -- no word queued: ready for one; the byte transmitter is offered nothing
    ((if i.valid then bytesLE w i.payload else [], q.2.tail), ⟨tx, true, true⟩)
  | b :: rest =>
    if q.2.length ≤ 1 then         -- the byte transmitter takes `b` now; its frame follows
      match rest with
      | [] => ((if i.valid then bytesLE w i.payload else [], expand d (frame b)), ⟨tx, true, false⟩)
      | _ :: _ => ((rest, expand d (frame b)), ⟨tx, false, false⟩)
    else ((b :: rest, q.2.tail), ⟨tx, false, false⟩)

def mbSpecRun (d w : Nat) : List Nat × List Bool → List In → List MBOut
  | _, [] => []
  | q, x :: xs => (mbSpecStep d w q x).2 :: mbSpecRun d w (mbSpecStep d w q x).1 xs

/-! ## Abstraction and invariant -/

def abs (d : Nat) (s : State) : List Bool :=
  match s.fsm with
  | .idle => []
  | .transmit => List.replicate (s.baud + 1) (s.shift % 2 == 1) ++ expand d (lsbBits s.bits (s.shift / 2))

def Inv (d : Nat) (s : State) : Prop := s.fsm = .transmit → s.baud < d

def mbAbs (d : Nat) (s : MBState) : List Nat × List Bool :=
  (match s.fsm with
   | .idle => []
   | .transmit => bytesLE (s.bytes + 1) s.shift,
   abs d s.uart)

theorem expand_nil (d : Nat) : expand d [] = [] := rfl

theorem expand_cons (d : Nat) (b : Bool) (bs : List Bool) :
    expand d (b :: bs) = List.replicate d b ++ expand d bs := by
  simp [expand]

theorem expand_length (d : Nat) (bs : List Bool) : (expand d bs).length = d * bs.length := by
  induction bs with
  | nil => simp [expand]
  | cons b bs ih => rw [expand_cons, List.length_append, ih]; simp [Nat.mul_add]; omega

theorem lsbBits_length (k v : Nat) : (lsbBits k v).length = k := by
  induction k generalizing v with
  | zero => rfl
  | succ k ih => simp [lsbBits, ih]

theorem frame_length (p : Nat) : (frame p).length = 10 := by
  simp [frame, lsbBits_length]

theorem lsbBits_top (k p : Nat) (hp : p < 2 ^ k) : lsbBits (k + 1) (2 ^ k + p) = lsbBits k p ++ [true] := by
  induction k generalizing p with
  | zero =>
    have : p = 0 := by simpa using hp
    subst this; simp [lsbBits]
  | succ k ih =>
    have h2 : 2 ^ (k + 1) = 2 * 2 ^ k := by rw [Nat.pow_succ]; omega
    have e1 : (2 ^ (k + 1) + p) % 2 = p % 2 := by omega
    have e2 : (2 ^ (k + 1) + p) / 2 = 2 ^ k + p / 2 := by omega
    rw [lsbBits, e1, e2, ih (p / 2) (by omega)]
    simp [lsbBits]

theorem lsbBits_mod (k p : Nat) : lsbBits k (p % 2 ^ k) = lsbBits k p := by
  induction k generalizing p with
  | zero => rfl
  | succ k ih =>
    have h2 : 2 ^ (k + 1) = 2 * 2 ^ k := by rw [Nat.pow_succ]; omega
    have e1 : p % 2 ^ (k + 1) % 2 = p % 2 := by
      rw [h2]; exact Nat.mod_mul_right_mod p 2 (2 ^ k)
    have e2 : p % 2 ^ (k + 1) / 2 = (p / 2) % 2 ^ k := by
      rw [h2]; exact Nat.mod_mul_right_div_self p 2 (2 ^ k)
    rw [lsbBits, lsbBits, e1, e2, ih]

/-- The register loaded on accept (`Cat(0, payload, 1)`) holds exactly the 8N1 frame. -/
theorem framed_bits (p : Nat) :
    (framed p % 2 == 1) = false ∧ lsbBits 9 (framed p / 2) = lsbBits 8 p ++ [true] := by
  have e : framed p / 2 = 2 ^ 8 + p % 2 ^ 8 := by unfold framed; omega
  refine ⟨by unfold framed; simp, ?_⟩
  rw [e, lsbBits_top 8 _ (Nat.mod_lt _ (by decide)), lsbBits_mod]

theorem abs_load (d : Nat) (hd : 1 ≤ d) (p : Nat) :
    abs d ⟨.transmit, d - 1, framed p, 9⟩ = expand d (frame p) := by
  obtain ⟨h0, h9⟩ := framed_bits p
  simp only [abs, h0, h9, frame, expand_cons]
  rw [show d - 1 + 1 = d by omega]

theorem bytesLE_succ (k v : Nat) : bytesLE (k + 1) v = v % 256 :: bytesLE k (v / 256) := rfl

theorem bytesLE_length (k v : Nat) : (bytesLE k v).length = k := by
  induction k generalizing v with
  | zero => rfl
  | succ k ih => simp [bytesLE, ih]

theorem bytesLE_mod (k p : Nat) : bytesLE k (p % 2 ^ (8 * k)) = bytesLE k p := by
  induction k generalizing p with
  | zero => rfl
  | succ k ih =>
    have h2 : 2 ^ (8 * (k + 1)) = 256 * 2 ^ (8 * k) := by
      rw [show 8 * (k + 1) = 8 * k + 8 by omega, Nat.pow_add]; omega
    have e1 : p % 2 ^ (8 * (k + 1)) % 256 = p % 256 := by
      rw [h2]; exact Nat.mod_mul_right_mod p 256 _
    have e2 : p % 2 ^ (8 * (k + 1)) / 256 = (p / 256) % 2 ^ (8 * k) := by
      rw [h2]; exact Nat.mod_mul_right_div_self p 256 _
    rw [bytesLE, bytesLE, e1, e2, ih]

/-! ## The byte transmitter refines the line schedule -/

theorem lineNext_cons_long (d : Nat) (b : Bool) (t : List Bool) (i : In) (h : 1 ≤ t.length) :
    lineNext d (b :: t) i = t := by
  simp only [lineNext, List.length_cons, List.tail_cons]; rw [if_neg (by omega)]

theorem lineOut_cons_long (b : Bool) (t : List Bool) (h : 1 ≤ t.length) :
    lineOut (b :: t) = ⟨b, false, false, true⟩ := by
  cases t with
  | nil => simp at h
  | cons c cs => rfl

theorem step_abs (d : Nat) (hd : 1 ≤ d) (s : State) (i : In) (hs : Inv d s) :
    abs d (step d s i).1 = lineNext d (abs d s) i ∧ (step d s i).2 = lineOut (abs d s) ∧
    Inv d (step d s i).1 := by
  obtain ⟨f, baud, shift, bits⟩ := s
  cases f
  · -- IDLE
    cases hv : i.valid
    · simp [step, hv, abs, lineNext, lineOut, Inv]
    · simp only [step, hv, if_true, lineNext, lineOut, abs_load d hd, Inv]
      simp [abs]; omega
  · -- TRANSMIT
    have hb : baud < d := hs rfl
    cases baud with
    | zero =>
      cases bits with
      | succ k =>
        -- next bit
        have e : abs d ⟨.transmit, 0, shift, k + 1⟩ =
            (shift % 2 == 1) :: (List.replicate d (shift / 2 % 2 == 1) ++ expand d (lsbBits k (shift / 2 / 2))) := by
          simp [abs, lsbBits, expand_cons]
        have hl : 1 ≤ (List.replicate d (shift / 2 % 2 == 1) ++ expand d (lsbBits k (shift / 2 / 2))).length := by
          simp; omega
        have hst : step d ⟨.transmit, 0, shift, k + 1⟩ i =
            (⟨.transmit, d - 1, shift / 2, k⟩, ⟨shift % 2 == 1, false, false, true⟩) := by
          simp [step]
        rw [e, lineNext_cons_long d _ _ i hl, lineOut_cons_long _ _ hl, hst]
        refine ⟨?_, rfl, ?_⟩
        · simp only [abs]; rw [show d - 1 + 1 = d by omega]
        · simp [Inv]; omega
      | zero =>
        have e : abs d ⟨.transmit, 0, shift, 0⟩ = [shift % 2 == 1] := by simp [abs, lsbBits, expand]
        rw [e]
        cases hv : i.valid
        · simp [step, hv, lineNext, lineOut, abs, Inv]
        · have hst : step d ⟨.transmit, 0, shift, 0⟩ i =
              (⟨.transmit, d - 1, framed i.payload, 9⟩, ⟨shift % 2 == 1, true, false, true⟩) := by
            simp [step, hv]
          rw [hst]
          refine ⟨?_, rfl, ?_⟩
          · simp [abs_load d hd, lineNext, hv]
          · simp [Inv]; omega
    | succ m =>
      have e : abs d ⟨.transmit, m + 1, shift, bits⟩ =
          (shift % 2 == 1) :: ((shift % 2 == 1) :: (List.replicate m (shift % 2 == 1) ++ expand d (lsbBits bits (shift / 2)))) := by
        simp [abs, List.replicate_succ]
      have hst : step d ⟨.transmit, m + 1, shift, bits⟩ i =
          (⟨.transmit, m, shift, bits⟩, ⟨shift % 2 == 1, false, false, true⟩) := by
        simp [step]
      rw [e, lineNext_cons_long d _ _ i (by simp), lineOut_cons_long _ _ (by simp), hst]
      refine ⟨?_, rfl, ?_⟩
      · simp [abs, List.replicate_succ]
      · simp [Inv]; omega

theorem inv_init (d : Nat) : Inv d init := by simp [Inv, init]

theorem run_eq_line_from (d : Nat) (hd : 1 ≤ d) (s : State) (hs : Inv d s) (hist : List In) :
    run d s hist = lineRun d (abs d s) hist := by
  induction hist generalizing s with
  | nil => rfl
  | cons x xs ih =>
    obtain ⟨ha, ho, hi⟩ := step_abs d hd s x hs
    simp only [run, lineRun]
    rw [ho, ih _ hi, ha]

/-- **C49, byte transmitter.**  For every divisor `d ≥ 1`, every byte stream and every valid
pattern, the ports of the transmitter — the `tx` waveform, `ready`, `idle`, `driving` — are those of
the 8N1 line schedule: idle high, and for each accepted byte start(0) + 8 data bits LSB first +
stop(1), each bit exactly `d` cycles. -/
theorem line_is_8n1 (d : Nat) (hd : 1 ≤ d) (hist : List In) :
    run d init hist = lineRun d [] hist := by
  rw [run_eq_line_from d hd init (inv_init d)]; rfl

/-- What is owed to the line is what the line carries: a non-empty schedule `w` appears on `tx`,
cycle by cycle, whatever the inputs do meanwhile (requests made before its last cycle are not
accepted and cannot disturb it). -/
theorem frame_on_line (d : Nat) (w : List Bool) (hw : w ≠ []) (hist : List In) (hl : w.length ≤ hist.length) :
    ((lineRun d w hist).take w.length).map (·.tx) = w := by
  induction w generalizing hist with
  | nil => exact absurd rfl hw
  | cons b rest ih =>
    obtain _ | ⟨x, xs⟩ := hist
    · simp at hl
    · cases rest with
      | nil => simp [lineRun, lineOut]
      | cons b' rest' =>
        simp only [lineRun, lineNext_cons_long d b (b' :: rest') x (by simp), List.length_cons, List.take_succ_cons,
          List.map_cons, lineOut]
        congr 1
        exact ih (by simp) xs (by simp at hl ⊢; omega)

/-- **C49, acceptance.**  Whenever a byte is accepted (valid ∧ ready) in any reachable
state, the very next `10·d` cycles of the line are exactly that byte's frame — so a byte is accepted
only when it is the next thing to be framed; and `ready` is high only when at most one cycle is still
owed to the line (`step_abs` + `lineOut`). -/
theorem accept_only_when_framed_next (d : Nat) (hd : 1 ≤ d) (s : State) (hs : Inv d s) (x : In)
    (hv : x.valid = true) (hr : (step d s x).2.ready = true) (hist : List In) (hl : 10 * d ≤ hist.length) :
    ((run d (step d s x).1 hist).take (10 * d)).map (·.tx) = expand d (frame x.payload) := by
  obtain ⟨ha, ho, hi⟩ := step_abs d hd s x hs
  have hlen : (abs d s).length ≤ 1 := by
    rw [ho] at hr
    match h : abs d s with
    | [] => simp
    | [_] => simp
    | _ :: _ :: _ => rw [h] at hr; simp [lineOut] at hr
  have hnext : abs d (step d s x).1 = expand d (frame x.payload) := by
    rw [ha]; simp [lineNext, hlen, hv]
  have hL : (expand d (frame x.payload)).length = 10 * d := by rw [expand_length, frame_length]; omega
  have hne : expand d (frame x.payload) ≠ [] := by
    intro h; rw [h] at hL; simp at hL; omega
  rw [run_eq_line_from d hd _ hi, hnext]
  have := frame_on_line d _ hne hist (by omega)
  rwa [hL] at this

theorem mbStep_abs (d w : Nat) (hd : 1 ≤ d) (hw : 1 ≤ w) (s : MBState) (i : In) (hs : Inv d s.uart) :
    mbAbs d (mbStep d w s i).1 = (mbSpecStep d w (mbAbs d s) i).1 ∧
    (mbStep d w s i).2 = (mbSpecStep d w (mbAbs d s) i).2 ∧ Inv d (mbStep d w s i).1.uart := by
  obtain ⟨f, shift, bytes, u⟩ := s
  have hload : bytesLE (w - 1 + 1) (i.payload % 2 ^ (8 * w)) = bytesLE w i.payload := by
    rw [show w - 1 + 1 = w by omega, bytesLE_mod]
  cases f
  · -- IDLE: the byte transmitter is offered nothing
    obtain ⟨ha, ho, hi⟩ := step_abs d hd u ⟨false, shift % 256⟩ hs
    have hn : lineNext d (abs d u) ⟨false, shift % 256⟩ = (abs d u).tail := by simp [lineNext]
    cases hv : i.valid <;>
      simp [mbStep, mbAbs, mbSpecStep, hv, ha, ho, hi, hn, hload]
  · -- TRANSMIT: the byte transmitter is offered data_shift[0:8]
    obtain ⟨ha, ho, hi⟩ := step_abs d hd u ⟨true, shift % 256⟩ hs
    have hrdy : (lineOut (abs d u)).ready = decide ((abs d u).length ≤ 1) := by
      match abs d u with
      | [] => simp [lineOut]
      | [_] => simp [lineOut]
      | _ :: _ :: _ => simp [lineOut]
    by_cases hlen : (abs d u).length ≤ 1
    · have hn : lineNext d (abs d u) ⟨true, shift % 256⟩ = expand d (frame (shift % 256)) := by
        simp [lineNext, hlen]
      cases bytes with
      | zero =>
        have h1 : bytesLE (0 + 1) shift = [shift % 256] := rfl
        cases hv : i.valid <;>
          simp [mbStep, mbAbs, mbSpecStep, hv, ha, ho, hi, hn, hrdy, hlen, hload, h1]
      | succ k =>
        simp [mbStep, mbAbs, mbSpecStep, ha, ho, hi, hn, hrdy, hlen, bytesLE_succ]
    · have hn : lineNext d (abs d u) ⟨true, shift % 256⟩ = (abs d u).tail := by
        simp [lineNext, hlen]
      simp [mbStep, mbAbs, mbSpecStep, ha, ho, hi, hn, hrdy, hlen, bytesLE_succ]

/-- timing view of the word transmitter's specification (`P` = bytes queued, `L` = cycles owed to the line): `ready` iff
the queue is empty or its last byte is being taken; a byte is taken when at most one cycle is owed, which reloads the
schedule with a whole frame (`10·d` cycles); an accepted word queues `w` bytes -/
theorem mbSpec_timing (d w : Nat) (q : List Nat × List Bool) (i : In) :
    (mbSpecStep d w q i).2.ready =
      (decide (q.1.length = 0) || (decide (q.1.length = 1) && decide (q.2.length ≤ 1))) ∧
    (mbSpecStep d w q i).1.1.length =
      (if decide (1 ≤ q.1.length) && decide (q.2.length ≤ 1) then q.1.length - 1 else q.1.length) +
      (if i.valid && (decide (q.1.length = 0) || (decide (q.1.length = 1) && decide (q.2.length ≤ 1))) then w else 0) ∧
    (mbSpecStep d w q i).1.2.length =
      (if decide (1 ≤ q.1.length) && decide (q.2.length ≤ 1) then 10 * d else q.2.length - 1) := by
  obtain ⟨pend, rem⟩ := q
  have hF : ∀ b, (expand d (frame b)).length = 10 * d := fun b => by rw [expand_length, frame_length, Nat.mul_comm]
  rcases pend with _ | ⟨b, _ | ⟨b', rest⟩⟩ <;> by_cases hL : rem.length ≤ 1 <;> cases hv : i.valid <;>
    simp [mbSpecStep, hL, hv, hF, bytesLE_length]

theorem mbRun_eq_spec_from (d w : Nat) (hd : 1 ≤ d) (hw : 1 ≤ w) (s : MBState) (hs : Inv d s.uart)
    (hist : List In) : mbRun d w s hist = mbSpecRun d w (mbAbs d s) hist := by
  induction hist generalizing s with
  | nil => rfl
  | cons x xs ih =>
    obtain ⟨ha, ho, hi⟩ := mbStep_abs d w hd hw s x hs
    simp only [mbRun, mbSpecRun]
    rw [ho, ih _ hi, ha]

/-- **C49, word transmitter.**  For every divisor `d ≥ 1`, byte width `w ≥ 1`, word stream and valid
pattern, the word transmitter behaves as: an accepted word is queued as its `w` bytes least
significant first (`bytesLE`), the head of the queue is handed to the 8N1 line whenever the line can
take a byte, and a new word is accepted only when the queue is empty or its last byte is being taken. -/
theorem multibyte_little_endian (d w : Nat) (hd : 1 ≤ d) (hw : 1 ≤ w) (hist : List In) :
    mbRun d w mbInit hist = mbSpecRun d w ([], []) hist := by
  rw [mbRun_eq_spec_from d w hd hw mbInit (inv_init d)]; rfl

/-! ## Non-vacuity -/
example : frame 0x55 = [false, true, false, true, false, true, false, true, false, true] := by decide
example : bytesLE 4 0x11223344 = [0x44, 0x33, 0x22, 0x11] := by decide
example : (run 2 init ([⟨true, 0x01⟩] ++ List.replicate 21 ⟨false, 0⟩)).map (·.tx) =
    [true] ++ expand 2 (frame 0x01) ++ [true] := by decide
example : ((mbRun 1 2 mbInit ([⟨true, 0x0201⟩] ++ List.replicate 22 ⟨false, 0⟩)).map (·.tx)) =
    [true, true] ++ frame 0x01 ++ frame 0x02 ++ [true] := by decide

end LunaVerif.Uart
