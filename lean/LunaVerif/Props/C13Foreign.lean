import LunaVerif.Props.C13Space
/-!
# C13 — packets that are not for the endpoint may have any length

`LegalHost` (Lemmas/C13Host.lean, `Phase.step`) bounds a data packet by the endpoint's `max_packet_size` only when
the transaction is addressed to the endpoint (`lenOk`: the token registers name the endpoint, OUT).  Every other
packet on the bus — a packet for another endpoint, the 8-byte SETUP packet of a control transfer next to a 4-byte
OUT endpoint, a 512-byte packet of a high-speed neighbour — may have ANY length; all history-level theorems of C13
(`out_stream_exact`, `nak_iff_cannot_take`, `ack_implies_delivered_or_repeat`, `ack_when_space`,
`ping_ack_promise`, …) and the refinement lemmas built on the acceptor (Lemmas/C12OutRefine.lean,
Lemmas/C57CycBridge.lean) are proved for this acceptor.

This file has

* the strict acceptor (`Phase.stepStrict`, `LegalHostStrict`: every packet on the bus is bounded by this
  endpoint's `max_packet_size`), and `legalHostStrict_imp`: it implies `LegalHost`, so every theorem about
  `LegalHost` histories also holds for the histories of the strict hypothesis; `legalHost_not_strict` shows that
  `LegalHost` is strictly weaker;
* `foreign_cycle_ignored` / `foreign_cycles_ignored`: while the token registers do not name the endpoint as the target of an OUT
  transaction the endpoint ignores the receiver altogether, whatever it presents and for however many cycles: the
  FIFO's write side does not move (nothing written, committed or discarded), the data toggle, `rx_cnt`,
  `transfer_active`, `packet_is_full`, `overflow`, `packet_has_data` keep their values (but for a token strobe, which
  clears `overflow` / `packet_has_data`, and a ClearFeature(HALT) for the endpoint, which resets the toggle), and the
  only handshake the endpoint can ask for is the answer to a PING (`tokenizer.ready_for_response` of a PING token for
  the endpoint); by induction over the cycles, for every start state;
* `foreign_transaction_ignored`: the same for the cycles of a transaction of the acceptor whose token is not for the
  endpoint (the acceptor keeps the token fields stable, so every cycle of it is such a cycle).

A packet FOR the endpoint one byte of which meets a full FIFO takes the overflow path: the one-cycle lemmas
`lost_byte_sets_overflow`, `overflow_sticky`, `overflowed_packet_discarded`, `overflowed_packet_naked` of Props/C13.lean and
`nak_iff_cannot_take` (NAK ⇔ expected toggle and a lost byte).  That a packet longer than the free space does lose a byte is
`nak_when_no_room` (Props/C13NoRoom.lean), for a consumer that does not read while the packet is received.  A packet for
the endpoint longer than its own `max_packet_size` is outside `LegalHost` (the host never sends it, USB 2.0 §5.8.3).
-/
namespace LunaVerif.StreamOutEndpoint
open LunaVerif

/-- The strict acceptor: as `Phase.step`, but EVERY packet is bounded by `max_packet_size`. -/
def Phase.stepStrict (c : Config) : Phase → In → Option Phase
  | .idle, i =>
    if isByte i || i.rxReady then none
    else if i.tokNew then (if (Tok.of i).wf then some (.tok (Tok.of i)) else none)
    else some .idle
  | .tok t, i =>
    if i.rxReady then none
    else if i.tokNew then (if (Tok.of i).wf && !isByte i then some (.tok (Tok.of i)) else none)
    else if Tok.of i != t then none
    else if isByte i then
      (if !strobeAny i && decide (1 ≤ c.mps) then some (.rx t i.pidToggle [] none i.rx.payload) else none)
    else if strobeAny i then
      (if strobeOne i then some (.finByte t i.pidToggle [] none i.rx.completeIn) else none)
    else some (.tok t)
  | .rx t pid sent now buf, i =>
    if !stable c t pid i || i.rxReady then none
    else if isByte i then
      (if !strobeAny i && decide (sent.length + now.toList.length + 2 ≤ c.mps)
        then some (.rx t pid (sent ++ now.toList) (some buf) i.rx.payload) else none)
    else if i.rx.valid then
      (if !strobeAny i then some (.rx t pid (sent ++ now.toList) none buf) else none)
    else (if strobeOne i then some (.finByte t pid (sent ++ now.toList) (some buf) i.rx.completeIn) else none)
  | .finByte t pid sent now ok, i =>
    if !stable c t pid i || isByte i || (i.rxReady && !ok) then none
    else some (.finStrobe t pid (sent ++ now.toList) ok i.rxReady)
  | .finStrobe t pid bytes ok responded, i =>
    if !stable c t pid i || isByte i || (i.rxReady && (!ok || responded)) then none
    else if responded || i.rxReady || !ok then some .idle else some (.finWait t pid bytes)
  | .finWait t pid bytes, i =>
    if !stable c t pid i || isByte i then none
    else if i.rxReady then some .idle else some (.finWait t pid bytes)

def Phase.runStrict (c : Config) : Phase → List In → Option Phase
  | p, [] => some p
  | p, i :: is => match p.stepStrict c i with
    | some p' => Phase.runStrict c p' is
    | none => none

def LegalHostStrict (c : Config) (ins : List In) : Bool :=
  match Phase.runStrict c .idle ins with
  | some p => p.quiet
  | none => false

theorem lenOk_of_le {c : Config} {t : Tok} {n : Nat} (h : n ≤ c.mps) : lenOk c t n = true := by
  simp [lenOk, h]

/-- The two acceptors differ only in the length test of a data byte (`tok`, `rx`): where the strict one lets the
byte pass, `lenOk` does too. -/
theorem stepStrict_imp {c : Config} {p p' : Phase} {i : In} (h : p.stepStrict c i = some p') :
    p.step c i = some p' := by
  cases p with
  | idle => exact h
  | tok t =>
    cases hb : decide (1 ≤ c.mps)
    · cases hB : isByte i
      · simp only [Phase.stepStrict, hB, Bool.false_eq_true, if_false] at h
        simp only [Phase.step, hB, Bool.false_eq_true, if_false]
        exact h
      · simp [Phase.stepStrict, hb, hB] at h
    · rw [← h]
      simp only [Phase.step, Phase.stepStrict, hb, lenOk_of_le (of_decide_eq_true hb)]
  | rx t pid sent now buf =>
    cases hb : decide (sent.length + now.toList.length + 2 ≤ c.mps)
    · cases hB : isByte i
      · simp only [Phase.stepStrict, hB, Bool.false_eq_true, if_false] at h
        simp only [Phase.step, hB, Bool.false_eq_true, if_false]
        exact h
      · simp [Phase.stepStrict, hb, hB] at h
    · rw [← h]
      simp only [Phase.step, Phase.stepStrict, hb, lenOk_of_le (of_decide_eq_true hb)]
  | finByte t pid sent now ok => exact h
  | finStrobe t pid bytes ok responded => exact h
  | finWait t pid bytes => exact h

theorem runStrict_imp {c : Config} {ins : List In} : ∀ {p p' : Phase}, Phase.runStrict c p ins = some p' →
    Phase.run c p ins = some p' := by
  induction ins with
  | nil => intro p p' h; exact h
  | cons i is ih =>
    intro p p' h
    simp only [Phase.runStrict] at h
    cases hs : p.stepStrict c i with
    | none => simp [hs] at h
    | some p1 =>
      simp only [hs] at h
      simp only [Phase.run, stepStrict_imp hs]
      exact ih h

/-- **The strict hypothesis implies `LegalHost`**: a history in which every bus packet is bounded by the
endpoint's `max_packet_size` is a `LegalHost` history. -/
theorem legalHostStrict_imp {c : Config} {ins : List In} (h : LegalHostStrict c ins = true) :
    LegalHost c ins = true := by
  simp only [LegalHostStrict] at h
  cases hr : Phase.runStrict c .idle ins with
  | none => simp [hr] at h
  | some p =>
    simp only [hr] at h
    simp only [LegalHost, runStrict_imp hr]
    exact h

/-- `tokenizer.ready_for_response` of a PING token for the endpoint -/
def pingReq (c : Config) (i : In) : Bool := i.tokEp == c.epNum && i.tokIsPing && i.tokReady

/-- **One cycle not for the endpoint** (the token registers show another endpoint number or not an OUT token),
whatever the receiver presents, from every state: the FIFO's write side is not touched, the registers keep their
values (a token strobe clears `overflow` / `packet_has_data`, a ClearFeature(HALT) for the endpoint resets the
toggle), and a handshake is requested only as the answer to a PING. -/
theorem foreign_cycle_ignored (c : Config) (s : State) (i : In) (h : (Tok.of i).targets c = false) :
    ((fifoIn c s i).wen = false ∧ (fifoIn c s i).wcommit = false ∧ (fifoIn c s i).wdiscard = false) ∧
    (step c s i).1.regs = ⟨if i.clearHalt then false else s.expectedToggle, if i.tokNew then false else s.overflow,
      s.rxCnt, s.transferActive, s.packetIsFull, if i.tokNew then false else s.packetHasData⟩ ∧
    ((outOf c s i).ack = (pingReq c i && (comb c s i).sufficient) ∧
     (outOf c s i).nak = (pingReq c i && !(comb c s i).sufficient)) := by
  have h' : (i.tokEp == c.epNum && i.tokIsOut) = false := h
  refine ⟨?_, ?_, ?_⟩
  · simp [fifoIn, comb, h']
  · simp [step, comb, State.regs, h']
  · simp [outOf, comb, pingReq, h']

/-- the FIFO's write side (`committed_write_pointer`, `current_write_pointer`, memory) -/
def wside (s : State) : Nat × Nat × (Nat → Nat) := (s.fifo.cw, s.fifo.ww, s.fifo.mem)

theorem wside_step (c : Config) (s : State) (i : In)
    (h : (fifoIn c s i).wen = false ∧ (fifoIn c s i).wcommit = false ∧ (fifoIn c s i).wdiscard = false) :
    wside (step c s i).1 = wside s := by
  obtain ⟨h1, h2, h3⟩ := h
  simp [wside, step, TxnFifo.step, h1, h2, h3]

/-- a cycle that is not for the endpoint and carries neither a token strobe nor a ClearFeature(HALT) for it -/
def foreignCycle (c : Config) (i : In) : Bool := !(Tok.of i).targets c && !i.tokNew && !i.clearHalt

/-- every handshake of the run is the answer to a PING request -/
def onlyPingAnswers (c : Config) (ins : List In) (outs : List Out) : Bool :=
  (ins.zip outs).all (fun io => (!io.2.ack && !io.2.nak) || pingReq c io.1)

/-- **Any number of cycles not for the endpoint** (induction over the cycles; any packet length, any packet
shape): registers and the FIFO's write side are as before, no handshake but PING answers. -/
theorem foreign_cycles_ignored (c : Config) (ins : List In) (h : ∀ j ∈ ins, foreignCycle c j = true) : ∀ s : State,
    (runState c s ins).regs = s.regs ∧ wside (runState c s ins) = wside s ∧
    onlyPingAnswers c ins (runOuts c s ins) = true := by
  induction ins with
  | nil => intro s; exact ⟨rfl, rfl, rfl⟩
  | cons i is ih =>
    intro s
    have hi := h i (by simp)
    simp only [foreignCycle, Bool.and_eq_true, Bool.not_eq_true'] at hi
    obtain ⟨⟨hf, hn⟩, hc⟩ := hi
    obtain ⟨hw, hr, ha, hk⟩ := foreign_cycle_ignored c s i hf
    obtain ⟨i1, i2, i3⟩ := ih (fun j hj => h j (by simp [hj])) (step c s i).1
    refine ⟨?_, ?_, ?_⟩
    · simp only [runState]
      rw [i1, hr, hn, hc]; rfl
    · simp only [runState]
      rw [i2, wside_step c s i hw]
    · simp only [runOuts, onlyPingAnswers, List.zip_cons_cons, List.all_cons, Bool.and_eq_true]
      refine ⟨?_, i3⟩
      show ((!(outOf c s i).ack && !(outOf c s i).nak) || pingReq c i) = true
      rw [ha, hk]
      cases pingReq c i <;> simp

/-- **foreign_transaction_ignored**: a transaction of the acceptor whose token `t` is not for the endpoint
(`mid` = its cycles after the token up to a phase `pk` in which it is still running, `i` = one more accepted
cycle, e.g. the response request that ends it), with a data packet of ANY length, without a
ClearFeature(HALT) for the endpoint: from every state `s` the endpoint's registers (data toggle, `overflow`,
`rx_cnt`, `transfer_active`, `packet_is_full`, `packet_has_data`) and the FIFO's write side after the
transaction are what they were before it, and no handshake is requested but the answer to a PING. -/
theorem foreign_transaction_ignored (c : Config) (t : Tok) (ht : t.targets c = false) (mid : List In) (i : In)
    (pk p' : Phase) (h1 : Phase.run c (.tok t) mid = some pk) (hpk : pk ≠ .idle) (h2 : pk.step c i = some p')
    (hn : ∀ j ∈ mid ++ [i], j.tokNew = false) (hc : ∀ j ∈ mid ++ [i], j.clearHalt = false) (s : State) :
    (runState c s (mid ++ [i])).regs = s.regs ∧ wside (runState c s (mid ++ [i])) = wside s ∧
    onlyPingAnswers c (mid ++ [i]) (runOuts c s (mid ++ [i])) = true := by
  obtain ⟨htk, hall⟩ := token_run mid h1 rfl (fun j hj => hn j (by simp [hj])) hpk
  have hi := (token_step h2 htk (hn i (by simp))).1
  apply foreign_cycles_ignored
  intro j hj
  have hT : Tok.of j = t := by
    simp only [List.mem_append, List.mem_singleton] at hj
    rcases hj with hj | rfl
    · exact hall j hj
    · exact hi
  simp [foreignCycle, hT, ht, hn j hj, hc j hj]

/-! ## Non-vacuity -/

/-- a SETUP-like transaction (token registers: endpoint `ep`, neither OUT nor PING) with a CRC-valid data packet -/
def setupPacket (ep : Nat) (ready : Bool) (payload : List Nat) (d : Nat) : List In :=
  (outPacket ep 0 ready payload d).map (fun i => { i with tokIsOut := false })

/-- Next to a 4-byte OUT endpoint (number 2): an 8-byte SETUP packet for endpoint 0, a 70-byte packet for OUT
endpoint 3, an 8-byte SETUP-type packet under the endpoint's own number, between accepted packets of the endpoint
itself — a `LegalHost` history; the strict acceptor rejects it; the observer expects (and `out_stream_exact`
delivers) exactly the endpoint's own two packets. -/
theorem legalHost_not_strict :
    let ins := outPacket 2 0 true [11, 12, 13, 14] 2 ++ setupPacket 0 true [128, 6, 0, 1, 0, 0, 18, 0] 2 ++
                 outPacket 3 1 true (List.range 70) 2 ++ setupPacket 2 true [0, 5, 9, 0, 0, 0, 0, 0] 2 ++
                 outPacket 2 1 true [21, 22] 2 ++ List.replicate 6 (idleIn 2 0 true)
    LegalHost ⟨2, 4, 7⟩ ins = true ∧ LegalHostStrict ⟨2, 4, 7⟩ ins = false ∧
    expected ⟨2, 4, 7⟩ Acct.init .idle ins (runOuts ⟨2, 4, 7⟩ init ins)
      = [(11, true, false), (12, false, false), (13, false, false), (14, false, false),
         (21, false, false), (22, false, true)] ∧
    transfers ins (runOuts ⟨2, 4, 7⟩ init ins)
      = [(11, true, false), (12, false, false), (13, false, false), (14, false, false),
         (21, false, false), (22, false, true)] := by decide +kernel

/-- an instance of all hypotheses of `foreign_transaction_ignored`: a 70-byte packet for endpoint 3 seen by the
4-byte endpoint 2 -/
example :
    let c : Config := ⟨2, 4, 7⟩
    let t : Tok := ⟨3, true, false⟩
    let idl := idleIn 3 1 false
    let mid := [idl] ++ (List.range 70).map (fun b => { idl with rx := ⟨true, true, b, false, false⟩ }) ++
      [{ idl with rx := ⟨true, false, 0, false, false⟩ }, { idl with rx := ⟨false, false, 0, true, false⟩ }, idl]
    let i := { idl with rxReady := true }
    t.targets c = false ∧
    Phase.run c (.tok t) mid = some (.finStrobe t 1 (List.range 70) true false) ∧
    (Phase.finStrobe t 1 (List.range 70) true false).step c i = some .idle ∧
    (mid ++ [i]).all (fun j => !j.tokNew && !j.clearHalt) = true := by decide +kernel

end LunaVerif.StreamOutEndpoint
