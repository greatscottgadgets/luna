import LunaVerif.Model.Device.Frame
import LunaVerif.Props.C01
/-!
# C21 — Frame and microframe numbers track received SOFs

"After each well-formed SOF, the reported frame number equals the SOF's 11-bit frame number; the
microframe number is reset to 0 when the frame number changes and incremented when a SOF repeats the
current frame number, and a new-frame strobe is raised exactly when the frame number changes."

Quantified over all sequences of SOF frame numbers (repeats, skips, wrap-around) interleaved with
other packets — here: over all UTMI receive histories and all schedules of the device address.

`onSof` is the specification of one SOF; `frame_tracks_sof` says that the registers of the device
(token detector of C01 + the frame logic of `USBDevice`) after any history are the fold of `onSof`
over the well-formed SOFs among the received packets, whatever else was received in between.
-/
namespace LunaVerif.Frame
open LunaVerif.Utmi LunaVerif.TokenDetector

def onSof (s : State) (n : Nat) : State :=
  ⟨n, if n = s.frameNumber then (s.microframe + 1) % 8 else 0⟩

/-- Properties of `onSof` in the words of the property. -/
theorem onSof_spec (s : State) (n : Nat) :
    (onSof s n).frameNumber = n ∧
    (n ≠ s.frameNumber → (onSof s n).microframe = 0) ∧
    (n = s.frameNumber → (onSof s n).microframe = (s.microframe + 1) % 8) := by
  refine ⟨rfl, ?_, ?_⟩ <;> intro e <;> simp [onSof, e]

/-- Eight repeats of a new frame number (a high-speed frame) count the microframes 0 … 7, a ninth
wraps to 0; 0x7FF → 0 is an ordinary change. -/
example : ([5, 5, 5, 5, 5, 5, 5, 5].foldl onSof ⟨4, 3⟩, [5, 5, 5, 5, 5, 5, 5, 5, 5].foldl onSof ⟨4, 3⟩,
           [0x7FF, 0x7FF, 0].foldl onSof ⟨0x7FE, 0⟩)
    = (⟨5, 7⟩, ⟨5, 0⟩, ⟨0, 0⟩) := by decide

/-- The SOF announced by the token detector registers in a cycle. -/
def sofOf (r : Regs) : Option Nat := if r.newFrame then some r.frame else none

def sofNumber (pkt : List Nat) : Option Nat :=
  match tokenOf pkt with
  | some (.sof n) => some n
  | _ => none

/-! ## One clock of the frame logic -/

theorem step_state (s : State) (r : Regs) :
    (step s r).1 = match sofOf r with | some n => onSof s n | none => s := by
  cases h : r.newFrame <;> simp [step, sofOf, onSof, h]

/-- After a SOF the frame number is the SOF's; the microframe number is 0 if the number changed and
the previous one plus one (3 bits) if it repeated. -/
theorem microframe_reset_or_increment (s : State) (r : Regs) (h : r.newFrame = true) :
    (step s r).1.frameNumber = r.frame ∧
    (r.frame ≠ s.frameNumber → (step s r).1.microframe = 0) ∧
    (r.frame = s.frameNumber → (step s r).1.microframe = (s.microframe + 1) % 8) := by
  refine ⟨by simp [step, h], ?_, ?_⟩ <;> intro e <;> simp [step, h, e]

/-- `new_frame` is raised exactly in the cycle a SOF is announced whose number differs from the
current frame number; `sof_detected` for every announced SOF. -/
theorem new_frame_iff_changed (s : State) (r : Regs) :
    ((step s r).2.newFrame = true ↔ (r.newFrame = true ∧ r.frame ≠ s.frameNumber)) ∧
    (step s r).2.sofDetected = r.newFrame ∧
    (step s r).2.frameNumber = s.frameNumber ∧ (step s r).2.microframe = s.microframe := by
  simp [step]

theorem no_sof_no_change (s : State) (r : Regs) (h : r.newFrame = false) : (step s r).1 = s := by
  simp [step, h]

/-- Cycle-by-cycle specification of the four ports, given the SOF announcements. -/
def specOuts : State → List (Option Nat) → List Out
  | _, [] => []
  | s, none :: rest => ⟨s.frameNumber, s.microframe, false, false⟩ :: specOuts s rest
  | s, some n :: rest => ⟨s.frameNumber, s.microframe, n != s.frameNumber, true⟩ :: specOuts (onSof s n) rest

theorem frame_outputs_exact (s : State) (rs : List Regs) : run s rs = specOuts s (rs.map sofOf) := by
  induction rs generalizing s with
  | nil => rfl
  | cons r rs ih =>
    simp only [run, List.map_cons]
    rw [ih, step_state]
    cases h : r.newFrame <;> simp [sofOf, h, specOuts, step]

theorem finalState_eq_fold (s : State) (rs : List Regs) :
    finalState s rs = (rs.filterMap sofOf).foldl onSof s := by
  induction rs generalizing s with
  | nil => rfl
  | cons r rs ih =>
    simp only [finalState, List.filterMap_cons]
    rw [ih, step_state]
    cases sofOf r <;> rfl

/-! ## The device: composition with the token detector -/

theorem devRun_eq (s : DevState) (hist : List In) :
    devRun s hist = run s.frame (tokRun devConfig s.tok hist) := by
  induction hist generalizing s with
  | nil => rfl
  | cons i is ih => simp only [devRun, tokRun, run, devStep, ih]

theorem devFinal_eq (s : DevState) (hist : List In) :
    (devFinal s hist).frame = finalState s.frame (tokRun devConfig s.tok hist) := by
  induction hist generalizing s with
  | nil => rfl
  | cons i is ih => simp only [devFinal, tokRun, finalState, devStep, ih]

theorem sofOf_report (cfg : Config) (addr : Nat) (r : Regs) (e : Option TokenEvent) :
    sofOf (report cfg addr r e) = match e with | some (.sof n) => some n | _ => none := by
  match e with
  | none => simp [report, clearStrobes, sofOf]
  | some (.sof n) => simp [report, clearStrobes, sofOf]
  | some (.token pid a ep) =>
    simp only [report]
    split <;> simp [clearStrobes, sofOf]

theorem specRun_sofs (cfg : Config) (cur : Track) (r : Regs) (hist : List In) (x : In) :
    (specRun cfg cur r (hist ++ [x])).filterMap sofOf
      = (sofOf r).toList ++ (packetsOf cur (hist.map (·.rx))).filterMap sofNumber :=
  specRun_filterMap cfg sofOf (fun e => match e with | some (.sof n) => some n | _ => none)
    (fun r => by simp [clearStrobes, sofOf]) cur r hist x (fun i _ r e => sofOf_report cfg i.address r e)

/-- **C21.**  For every UTMI receive history (8-bit data), whatever the device address does, the
frame and microframe registers — observed one cycle beyond the end of the history — are the fold
of `onSof` over the well-formed SOFs among the received packets, in order: each sets the frame number,
and resets (number changed) or increments modulo 8 (number repeated) the microframe number.  Tokens,
handshakes, data packets, corrupted / truncated / over-long SOFs in between have no effect. -/
theorem frame_tracks_sof (hist : List In) (x : In) (hd : ∀ i ∈ hist ++ [x], i.rx.data < 256) :
    (devFinal devInit (hist ++ [x])).frame
      = ((packetsOf none (hist.map (·.rx))).filterMap sofNumber).foldl onSof init := by
  rw [devFinal_eq, finalState_eq_fold]
  show List.foldl onSof init (List.filterMap sofOf (tokRun devConfig TokenDetector.init (hist ++ [x]))) = _
  rw [token_events_exact devConfig _ hd, specRun_sofs]
  rfl

/-- The same for rendered well-formed packets with arbitrary byte timing: only the packet contents
matter. -/
theorem frame_tracks_sof_rendered (ps : List RxPacket) (hw : ∀ p ∈ ps, p.wf) (addr : Nat) (x : In)
    (hd : ∀ c ∈ renderAll ps, c.data < 256) (hx : x.rx.data < 256) :
    (devFinal devInit ((renderAll ps).map (fun c => ⟨c, addr⟩) ++ [x])).frame
      = (ps.filterMap (fun p => sofNumber p.bytes)).foldl onSof init := by
  rw [frame_tracks_sof _ x (heldAddress_data _ addr x hd hx), heldAddress_rx, (packetsOf_renderAll ps hw).1,
    List.filterMap_map]
  rfl

/-- Cycle level: the four ports of the device in every cycle, from the SOF announcements of C01's
specification of the token detector. -/
theorem device_outputs_exact (hist : List In) (hd : ∀ i ∈ hist, i.rx.data < 256) :
    devRun devInit hist = specOuts init ((specRun devConfig none initRegs hist).map sofOf) := by
  rw [devRun_eq, frame_outputs_exact]
  show specOuts init (List.map sofOf (tokRun devConfig TokenDetector.init hist)) = _
  rw [token_events_exact devConfig _ hd]

/-! ## Bus resets and address updates

`dStep` (model file) is the device with its address register: `busReset` (the `reset_detected` port =
`reset_sequencer.bus_reset`) and the endpoints' `address_changed` / `new_address` are inputs.  What
the code does on a bus reset: it clears the address (and the configuration) — the frame registers,
the strobes and the token detector's registers are not assigned.  The theorems below say so for
every history: the four frame ports in every cycle, and the registers at the end, are a function of
the UTMI receive columns alone. -/

def addrTrace : Nat → List DevIn → List Nat
  | _, [] => []
  | a, i :: is => a :: addrTrace (nextAddress a i) is

def addrEnd : Nat → List DevIn → Nat
  | a, [] => a
  | a, i :: is => addrEnd (nextAddress a i) is

def tokIns : Nat → List DevIn → List In
  | _, [] => []
  | a, i :: is => ⟨i.rx, a⟩ :: tokIns (nextAddress a i) is

theorem tokIns_rx (a : Nat) (hist : List DevIn) : (tokIns a hist).map (·.rx) = hist.map (·.rx) := by
  induction hist generalizing a with
  | nil => rfl
  | cons i is ih => simp only [tokIns, List.map_cons, ih]

theorem tokIns_data (a : Nat) (hist : List DevIn) (hd : ∀ i ∈ hist, i.rx.data < 256) :
    ∀ i ∈ tokIns a hist, i.rx.data < 256 := by
  intro i hi
  have : i.rx ∈ (tokIns a hist).map (·.rx) := List.mem_map_of_mem hi
  rw [tokIns_rx] at this
  obtain ⟨j, hj, e⟩ := List.mem_map.mp this
  exact e ▸ hd j hj

theorem tokIns_append (a : Nat) (hist : List DevIn) (x : DevIn) :
    tokIns a (hist ++ [x]) = tokIns a hist ++ [⟨x.rx, addrEnd a hist⟩] := by
  induction hist generalizing a with
  | nil => rfl
  | cons i is ih => simp only [List.cons_append, tokIns, addrEnd, ih]

theorem dRun_ports (s : DState) (hist : List DevIn) :
    (dRun s hist).map (·.ports) = devRun s.dev (tokIns s.address hist) := by
  induction hist generalizing s with
  | nil => rfl
  | cons i is ih => simp only [dRun, List.map_cons, tokIns, devRun, dStep, ih]

theorem dFinal_dev (s : DState) (hist : List DevIn) :
    (dFinal s hist).dev = devFinal s.dev (tokIns s.address hist) := by
  induction hist generalizing s with
  | nil => rfl
  | cons i is ih => simp only [dFinal, tokIns, devFinal, dStep, ih]

/-- The address register: cleared by a bus reset, otherwise loaded by an endpoint's address update
(the bus reset wins in the same cycle), otherwise kept. -/
theorem address_exact (s : DState) (hist : List DevIn) :
    (dRun s hist).map (·.activeAddress) = addrTrace s.address hist := by
  induction hist generalizing s with
  | nil => rfl
  | cons i is ih => simp only [dRun, List.map_cons, addrTrace, dStep, ih]

theorem bus_reset_clears_address (s : DState) (i : DevIn) (h : i.busReset = true) :
    (dStep s i).1.address = 0 := by
  simp [dStep, nextAddress, h]

/-- One clock: a bus reset (and an address update) leaves the frame registers after the clock and this cycle's four
frame ports (`frame_number`, `microframe_number`, the two strobes) exactly as without it — the code assigns none of
them.  The token detector's registers are not compared here: a changed address reaches its address filter from the
next cycle on. -/
theorem bus_reset_step_frame (s : DState) (i : DevIn) (b c : Bool) (n : Nat) :
    (dStep s { i with busReset := b, addressChanged := c, newAddress := n }).1.dev.frame = (dStep s i).1.dev.frame ∧
    (dStep s { i with busReset := b, addressChanged := c, newAddress := n }).2.ports = (dStep s i).2.ports := by
  exact ⟨rfl, rfl⟩

/-- **C21 with bus resets.**  For every history of the device inputs — UTMI receive columns (8-bit
data), bus resets in any cycles (also back to back, or held for many cycles as without VBUS), address
updates — the frame and microframe registers are the fold of `onSof` over the well-formed SOFs among
the received packets: the right-hand side does not mention the reset / address columns.  In
particular a bus reset does not clear or otherwise touch the frame registers (that is what the code
does; USB 2.0 does not ask for more: the next SOF sets them). -/
theorem frame_tracks_sof_through_resets (hist : List DevIn) (x : DevIn)
    (hd : ∀ i ∈ hist ++ [x], i.rx.data < 256) :
    (dFinal dInit (hist ++ [x])).dev.frame
      = ((packetsOf none (hist.map (·.rx))).filterMap sofNumber).foldl onSof init := by
  rw [dFinal_dev, tokIns_append]
  show (devFinal devInit _).frame = _
  rw [frame_tracks_sof, tokIns_rx]
  rw [← tokIns_append]
  exact tokIns_data _ _ hd

/-- The SOF announcement of every cycle, from the receive columns alone: `some n` exactly in the cycle
after the one in which a packet that is a well-formed SOF with number `n` ended. -/
def sofTrace : Track → Option Nat → List RxCycle → List (Option Nat)
  | _, _, [] => []
  | cur, a, c :: cs => a :: sofTrace (trackNext cur c) ((trackDone cur c).bind sofNumber) cs

theorem specRun_sofTrace (cfg : Config) (cur : Track) (r : Regs) (hist : List In) :
    (specRun cfg cur r hist).map sofOf = sofTrace cur (sofOf r) (hist.map (·.rx)) := by
  induction hist generalizing cur r with
  | nil => rfl
  | cons i is ih =>
    simp only [specRun, List.map_cons, sofTrace, ih]
    congr 2
    cases hdn : trackDone cur i.rx with
    | none => simp [specNextRegs, hdn, clearStrobes, sofOf]
    | some p => simp only [specNextRegs, hdn, sofOf_report, sofNumber, Option.bind_some]

/-- Cycle level, with bus resets: the four ports in **every** cycle of every history are `specOuts` of
the SOF announcements computed from the receive columns alone.  So in a cycle without an announced
SOF (whatever the reset input does in, before or after that cycle) `new_frame = sof_detected = 0`
and the registers keep their values. -/
theorem device_ports_exact (hist : List DevIn) (hd : ∀ i ∈ hist, i.rx.data < 256) :
    (dRun dInit hist).map (·.ports) = specOuts init (sofTrace none none (hist.map (·.rx))) := by
  rw [dRun_ports]
  show devRun devInit _ = _
  rw [device_outputs_exact _ (tokIns_data _ _ hd), specRun_sofTrace, tokIns_rx]
  rfl

/-- Two histories with the same receive columns — differing arbitrarily in where bus resets and
address updates happen — show the same four ports in every cycle. -/
theorem bus_reset_no_effect_on_frame_ports (h₁ h₂ : List DevIn) (hrx : h₁.map (·.rx) = h₂.map (·.rx))
    (hd : ∀ i ∈ h₁, i.rx.data < 256) :
    (dRun dInit h₁).map (·.ports) = (dRun dInit h₂).map (·.ports) := by
  rw [device_ports_exact h₁ hd, device_ports_exact h₂, hrx]
  intro i hi
  have : i.rx ∈ h₁.map (·.rx) := hrx ▸ List.mem_map_of_mem hi
  obtain ⟨j, hj, e⟩ := List.mem_map.mp this
  rw [← e]
  exact hd j hj

theorem specOuts_cons (s : State) (a : Option Nat) (rest : List (Option Nat)) :
    specOuts s (a :: rest) =
      ⟨s.frameNumber, s.microframe, a.any (· != s.frameNumber), a.isSome⟩ ::
        specOuts (a.elim s (onSof s)) rest := by
  cases a <;> rfl

theorem specOuts_strobes (s : State) (as : List (Option Nat)) :
    ∀ p ∈ (specOuts s as).zip as,
      (p.1.newFrame = true ↔ ∃ n, p.2 = some n ∧ n ≠ p.1.frameNumber) ∧
      (p.1.sofDetected = true ↔ p.2.isSome = true) := by
  induction as generalizing s with
  | nil => simp [specOuts]
  | cons a rest ih =>
    intro p hp
    rw [specOuts_cons, List.zip_cons_cons, List.mem_cons] at hp
    rcases hp with rfl | hp
    · cases a <;> simp
    · exact ih _ p hp

/-- `new_frame_iff_changed` for the device in every cycle of every history with bus resets. -/
theorem new_frame_iff_changed_every_cycle (hist : List DevIn) (hd : ∀ i ∈ hist, i.rx.data < 256) :
    ∀ p ∈ ((dRun dInit hist).map (·.ports)).zip (sofTrace none none (hist.map (·.rx))),
      (p.1.newFrame = true ↔ ∃ n, p.2 = some n ∧ n ≠ p.1.frameNumber) ∧
      (p.1.sofDetected = true ↔ p.2.isSome = true) := by
  rw [device_ports_exact hist hd]
  exact specOuts_strobes _ _

theorem specOuts_hold (s : State) (as : List (Option Nat)) :
    ∀ q ∈ ((specOuts s as).zip as).zip (specOuts s as).tail, q.1.2 = none →
      q.2.frameNumber = q.1.1.frameNumber ∧ q.2.microframe = q.1.1.microframe := by
  induction as generalizing s with
  | nil => simp [specOuts]
  | cons a rest ih =>
    cases rest with
    | nil => simp [specOuts_cons, specOuts]
    | cons b rest' =>
      intro q hq hn
      -- the pairs after the first are those of the history without its first cycle
      have ih' := ih (a.elim s (onSof s))
      rw [specOuts_cons, specOuts_cons] at hq
      rw [specOuts_cons] at ih'
      simp only [List.zip_cons_cons, List.tail_cons] at hq ih'
      rw [List.mem_cons] at hq
      rcases hq with rfl | hq
      · cases a
        · exact ⟨rfl, rfl⟩
        · cases hn
      · exact ih' q hq hn

/-- `frame_number` / `microframe_number` of the device change only from a cycle in which a SOF is
announced to the next one — never because of a bus reset. -/
theorem registers_change_only_on_sof (hist : List DevIn) (hd : ∀ i ∈ hist, i.rx.data < 256) :
    ∀ q ∈ (((dRun dInit hist).map (·.ports)).zip (sofTrace none none (hist.map (·.rx)))).zip
            ((dRun dInit hist).map (·.ports)).tail,
      q.1.2 = none → q.2.frameNumber = q.1.1.frameNumber ∧ q.2.microframe = q.1.1.microframe := by
  rw [device_ports_exact hist hd]
  exact specOuts_hold _ _

/-! ## Non-vacuity: histories evaluated on the model -/

/-- Non-vacuity of the device theorem: SOF 0x2AD twice with an OUT token in between, then a SOF whose
frame-number byte is altered (CRC5 mismatch, ignored). -/
example :
    (devFinal devInit (([waitC 0, byteC 0xA5, byteC 0xAD, byteC 0xCA, idleC 0]
        ++ [waitC 0, byteC 0xE1, byteC 0x00, byteC 0x10, idleC 0]
        ++ [waitC 0, byteC 0xA5, byteC 0xAD, waitC 3, byteC 0xCA, idleC 0]
        ++ [waitC 0, byteC 0xA5, byteC 0xAE, byteC 0xCA, idleC 0, idleC 0]).map (fun c => ⟨c, 0⟩))).frame
    = ⟨0x2AD, 1⟩ := by decide +kernel

/-- Non-vacuity with bus resets: SOF 0x2AD; a bus reset held for three cycles together with an address
update; the same SOF again (it is a *repeat*: microframe 1, no new frame — the reset did not clear
the frame number); a bus reset in the very cycle the second SOF is announced. -/
example :
    let rx := [waitC 0, byteC 0xA5, byteC 0xAD, byteC 0xCA, idleC 0, idleC 0, idleC 0, idleC 0,
               waitC 0, byteC 0xA5, byteC 0xAD, byteC 0xCA, idleC 0, idleC 0, idleC 0]
    let rst := [false, false, false, false, false, true, true, true,
                false, false, false, false, false, true, false]
    let hist := (rx.zip rst).map (fun p => (⟨p.1, p.2, p.2, 0x55⟩ : DevIn))
    (dFinal dInit hist).dev.frame = ⟨0x2AD, 1⟩ ∧ (dFinal dInit hist).address = 0 ∧
    (dRun dInit hist).map (fun o => (o.ports.newFrame, o.ports.sofDetected))
      = [(false, false), (false, false), (false, false), (false, false), (false, false), (true, true),
         (false, false), (false, false), (false, false), (false, false), (false, false), (false, false),
         (false, false), (false, true), (false, false)] ∧
    sofTrace none none rx = [none, none, none, none, none, some 0x2AD, none, none, none, none, none, none,
         none, some 0x2AD, none] := by decide +kernel

end LunaVerif.Frame
