import LunaVerif.Props.C46Once
/-!
# C46 — `ss_in_framing`: short-packet / ZLP transfer ends, host view, history level

Second half of the host view (the first is `ss_in_exactly_once`, Props/C46Once.lean; same observers, same
environment `EnvOK`, same configurations `CfgOK`, same run `runF` and induction `invAll_run`, which stand there).
`Frame.exp` is the output of a **reference packetizer** run on the words the endpoint takes from the producer
(`fProd`, Lemmas/C46Frame.lean): bytes are collected until a word carries `last` (→ the packet is closed: a short
packet, or a `max_packet_size` packet followed by a ZLP) or until the packet reaches `max_packet_size` (→ closed as a
full packet, no ZLP).  `Frame.pkts` is the list of packets the host observer accepts (expected sequence number, not
lost).

`ss_in_framing`: at every reachable cycle `pkts ++ pendingPkts = exp`, where `pendingPkts` are the packets held
in the endpoint (read buffer packet or owed ZLP not yet accepted, ZLP owed after a full packet that ended its
transfer, completed write buffer).  Hence `ss_in_packets_prefix`: what the host has received is a prefix of the
reference packetization, packet by packet, in order — every accepted data packet is `max_packet_size` long or ends a
transfer, a ZLP follows exactly the full packets that end a transfer, nothing is merged, split, lost or
duplicated.  `ss_in_packets_bytes` ties the packets to the byte streams of `ss_in_exactly_once`.
-/
namespace LunaVerif.SSStreamIn

/-- **ss_in_framing**: the packets the host has accepted, followed by the packets the endpoint holds, are
exactly the packets of the reference packetizer (short packet or full packet + ZLP at every transfer end, full
packets in between). -/
theorem ss_in_framing (c : Config) (hc : CfgOK c) (hist : List (In × Bool))
    (henv : envAll c (init c) Ghost.init hist = true) :
    (runF c (init c) Ghost.init Frame.init hist).2.2.pkts ++
        pendingPkts c (runF c (init c) Ghost.init Frame.init hist).1
          (runF c (init c) Ghost.init Frame.init hist).2.1 =
      (runF c (init c) Ghost.init Frame.init hist).2.2.exp :=
  (invAll_run c hc hist _ _ _ (invAll_init c hc) henv).invF.pk

/-- the host receives a prefix of the reference packetization, packet by packet -/
theorem ss_in_packets_prefix (c : Config) (hc : CfgOK c) (hist : List (In × Bool))
    (henv : envAll c (init c) Ghost.init hist = true) :
    (runF c (init c) Ghost.init Frame.init hist).2.2.pkts <+:
      (runF c (init c) Ghost.init Frame.init hist).2.2.exp :=
  ⟨_, ss_in_framing c hc hist henv⟩

/-- the packets are the byte streams of `ss_in_exactly_once`: accepted packets concatenate to `deliv`, the
reference packets and the current partial packet to `prod` -/
theorem ss_in_packets_bytes (c : Config) (hc : CfgOK c) (hist : List (In × Bool))
    (henv : envAll c (init c) Ghost.init hist = true) :
    (runF c (init c) Ghost.init Frame.init hist).2.2.pkts.flatten =
        (runG c (init c) Ghost.init hist).2.deliv ∧
      (runF c (init c) Ghost.init Frame.init hist).2.2.exp.flatten ++
          (runF c (init c) Ghost.init Frame.init hist).2.2.part =
        (runG c (init c) Ghost.init hist).2.prod := by
  have h := invAll_run c hc hist _ _ _ (invAll_init c hc) henv
  have e := runF_runG c hist (init c) Ghost.init Frame.init
  rw [← e]
  exact ⟨h.bytes, h.pbytes⟩

/-! ## Non-vacuity (max_packet_size 8): the histories of Props/C46Once.lean, packet by packet -/

example : (runF cfg8 (init cfg8) Ghost.init Frame.init hPlain).2.2.pkts =
    [[0x11, 0x11, 0x11, 0x11, 0x22, 0x22, 0x22, 0x22]] := by decide +kernel

/-- a full packet that ends its transfer: the host gets the packet and the ZLP (also when the ZLP is lost once) -/
example : ∀ h ∈ [hZlp, hZlpLost], (runF cfg8 (init cfg8) Ghost.init Frame.init h).2.2.pkts =
      [[0x11, 0x11, 0x11, 0x11, 0x22, 0x22, 0x22, 0x22], []] ∧
    (runF cfg8 (init cfg8) Ghost.init Frame.init h).2.2.exp =
      [[0x11, 0x11, 0x11, 0x11, 0x22, 0x22, 0x22, 0x22], []] := by decide +kernel

/-- two full packets of a continuing transfer: no ZLP -/
example : (runF cfg8 (init cfg8) Ghost.init Frame.init hSwap).2.2.pkts =
    [[1, 0, 0, 0, 2, 0, 0, 0], [3, 0, 0, 0, 4, 0, 0, 0]] := by decide +kernel

/-- a short packet -/
example : (runF cfg8 (init cfg8) Ghost.init Frame.init hShort).2.2.pkts = [[0xDD, 0xCC, 0xBB]] := by decide +kernel

end LunaVerif.SSStreamIn
