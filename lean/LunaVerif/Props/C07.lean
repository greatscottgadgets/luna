import LunaVerif.Lemmas.DeviceSteps
/-!
# C07 — Control transfers follow the setup/data/status stage protocol

"For any host sequence of control transactions on endpoint 0, the device answers data-stage IN tokens only
after a device-to-host SETUP with a non-zero length, answers the status stage in the direction opposite to
the data stage (IN when there is no data stage), and treats every new SETUP as the start of a fresh control
transfer, even if the previous transfer was abandoned mid-way. Tokens for other endpoints never advance or
disturb the control transfer."

Theorems about the event-level model `Device.step` (Model/Device/Control.lean; tied to the real `USBDevice`
event by event on every run).  `final c init h` is the state after ANY event history `h` from reset — the
stage theorems need no legality assumption at all (they rest on `inv_reachable`, an invariant proved by
induction over the history); `core c s e` is the control endpoint's own reaction to the event `e`
(registers, and what it transmits), `step` merges it with the other endpoints' transmissions.
-/
namespace LunaVerif.Device

/-- The control endpoint's stage always agrees with the latched SETUP packet: a data-IN stage (and the
status-OUT stage that follows it) exists only for a device-to-host request with `wLength ≠ 0`, a data-OUT
stage only for a host-to-device request with `wLength ≠ 0`, and the status-IN stage only when there is no
device-to-host data stage. -/
theorem stage_follows_setup (c : DevConfig) (h : List Stim) :
    let s := final c init h
    (s.stage = .dataIn → s.setup.isIn = true ∧ s.setup.length ≠ 0) ∧
    (s.stage = .dataOut → s.setup.isIn = false ∧ s.setup.length ≠ 0) ∧
    (s.stage = .statusOut → s.setup.isIn = true ∧ s.setup.length ≠ 0) ∧
    (s.stage = .statusIn → ¬ (s.setup.isIn = true ∧ s.setup.length ≠ 0)) :=
  have i := inv_reachable c h
  ⟨i.data_in, i.data_out, i.status_out, i.status_in⟩

theorem status_answer_has_no_payload (c : DevConfig) (s : DevState) (pid : Nat) (p : List Nat)
    (h : (request c s .status).2 = .data pid p) : p = [] := by
  unfold request at h
  cases ho : owner c s.setup <;> simp only [ho] at h
  · split at h
    · unfold stdRequest at h
      cases hs : s.hstate <;> simp [hs, toIdle] at h
      all_goals (first | exact h.2 | (split at h <;> simp at h; exact h.2))
    · cases h
  · simp at h; exact h.2
  · cases h

/-! The stage theorems come in two forms: `…_of_inv` for every state that satisfies the model's invariant, and the
property's own statement about `final c init h`.  The first form is what Lemmas/C07MpsTransfer.lean uses: the model that
advances `start_position` by `max_packet_size` (Model/Device/ControlM.lean) reaches other states. -/

theorem data_in_only_after_in_setup_of_inv (c : DevConfig) (s : DevState) (i : Inv s) (e : HostEvent) (pid : Nat)
    (p : List Nat) (hr : (core c s e).2 = .data pid p) (hp : p ≠ []) :
    e = .token PID_IN s.address 0 ∧ s.setup.isIn = true ∧ s.setup.length ≠ 0 ∧ (core c s e).1.stage = .dataIn := by
  cases e with
  | token tp addr ep =>
    unfold core at hr ⊢
    simp only [] at hr ⊢
    split at hr
    · rename_i ha
      subst ha
      simp only [if_true]
      revert hr
      refine onToken_elim (P := fun r => r.2 = .data pid p → _ ∧ _ ∧ _ ∧ r.1.stage = .dataIn) c s tp ep nofun nofun ?_
      rintro rfl rfl (_ | _) hst hr
      · have := (inv_afterToken s _ 0 i).data_in hst
        exact ⟨rfl, this.1, this.2, (sameCtl_request c _ _).stage.trans hst⟩
      · exact absurd (status_answer_has_no_payload c _ pid p hr) hp
    · cases hr
  | data dp payload ok =>
    exact onData_elim (P := fun r => r.2 = .data pid p → _) c s payload ok nofun (fun _ _ _ _ => nofun) (fun _ => nofun)
      (fun _ _ _ _ _ hr => absurd (status_answer_has_no_payload c _ pid p hr) hp) hr
  | _ => cases hr

/-- **C07 (data stage).** Whatever the history: if the control endpoint answers an event with a DATA packet
that carries payload bytes, the event is an IN token for endpoint 0 at the device's address, the latched
SETUP packet is device-to-host with `wLength ≠ 0`, and the endpoint is in its data-IN stage. -/
theorem data_in_only_after_in_setup (c : DevConfig) (h : List Stim) (e : HostEvent) (pid : Nat) (p : List Nat)
    (hr : (core c (final c init h) e).2 = .data pid p) (hp : p ≠ []) :
    e = .token PID_IN (final c init h).address 0 ∧
    (final c init h).setup.isIn = true ∧ (final c init h).setup.length ≠ 0 ∧
    (core c (final c init h) e).1.stage = .dataIn :=
  data_in_only_after_in_setup_of_inv c (final c init h) (inv_reachable c h) e pid p hr hp

theorem in_token_answered_only_in_data_or_status_in_of_inv (c : DevConfig) (s : DevState) (i : Inv s) (addr ep : Nat)
    (hr : (core c s (.token PID_IN addr ep)).2 ≠ .none) :
    addr = s.address ∧ ep = 0 ∧
    (((core c s (.token PID_IN addr ep)).1.stage = .dataIn ∧ s.setup.isIn = true ∧ s.setup.length ≠ 0) ∨
     ((core c s (.token PID_IN addr ep)).1.stage = .statusIn ∧ ¬ (s.setup.isIn = true ∧ s.setup.length ≠ 0))) := by
  unfold core at hr ⊢
  simp only [] at hr ⊢
  split at hr
  · rename_i ha
    subst ha
    simp only [if_true]
    have i1 := inv_afterToken s PID_IN ep i
    revert hr
    refine onToken_elim (P := fun r => r.2 ≠ .none → _ ∧ ep = 0 ∧ (r.1.stage = .dataIn ∧ _ ∨ r.1.stage = .statusIn ∧ _))
      c s PID_IN ep (fun h => absurd rfl h) (fun _ h => nomatch h) ?_
    intro h0 _ r hst _
    rw [(sameCtl_request c _ _).stage, hst]
    cases r with
    | data => exact ⟨trivial, h0, Or.inl ⟨rfl, i1.data_in hst⟩⟩
    | status => exact ⟨trivial, h0, Or.inr ⟨rfl, i1.status_in hst⟩⟩
  · exact absurd rfl hr

/-- **C07 (status direction, IN).** If the control endpoint answers an IN token (with anything), it does so
either in the data-IN stage of a device-to-host request with data, or in the status-IN stage — and the
status-IN stage exists only when the request has NO device-to-host data stage. -/
theorem in_token_answered_only_in_data_or_status_in (c : DevConfig) (h : List Stim) (addr ep : Nat)
    (hr : (core c (final c init h) (.token PID_IN addr ep)).2 ≠ .none) :
    addr = (final c init h).address ∧ ep = 0 ∧
    (((core c (final c init h) (.token PID_IN addr ep)).1.stage = .dataIn ∧
        (final c init h).setup.isIn = true ∧ (final c init h).setup.length ≠ 0) ∨
     ((core c (final c init h) (.token PID_IN addr ep)).1.stage = .statusIn ∧
        ¬ ((final c init h).setup.isIn = true ∧ (final c init h).setup.length ≠ 0))) :=
  in_token_answered_only_in_data_or_status_in_of_inv c (final c init h) (inv_reachable c h) addr ep hr

theorem out_data_answered_only_in_status_out_of_inv (c : DevConfig) (s : DevState) (i : Inv s) (pid : Nat) (p : List Nat)
    (ok : Bool) (hw : s.sdWait = false) (hr : (core c s (.data pid p ok)).2 ≠ .none) :
    s.stage = .statusOut ∧ s.tokEp = 0 ∧ s.tokPid = PID_OUT ∧ s.setup.isIn = true ∧ s.setup.length ≠ 0 ∧ ok = true :=
  onData_elim (P := fun r => r.2 ≠ .none → _) c s p ok (fun h => absurd rfl h) (fun _ w => absurd (hw ▸ w) nofun)
    (fun w => absurd (hw ▸ w) nofun) (fun hok _ g1 g2 g3 _ => ⟨g1, g2, g3, (i.status_out g1).1, (i.status_out g1).2, hok⟩) hr

/-- **C07 (status direction, OUT).** If the control endpoint answers a host data packet that is not the
SETUP packet itself, the packet is the status-OUT stage of a device-to-host request with `wLength ≠ 0`
(last token: OUT for endpoint 0). -/
theorem out_data_answered_only_in_status_out (c : DevConfig) (h : List Stim) (pid : Nat) (p : List Nat) (ok : Bool)
    (hw : (final c init h).sdWait = false)
    (hr : (core c (final c init h) (.data pid p ok)).2 ≠ .none) :
    (final c init h).stage = .statusOut ∧ (final c init h).tokEp = 0 ∧ (final c init h).tokPid = PID_OUT ∧
    (final c init h).setup.isIn = true ∧ (final c init h).setup.length ≠ 0 ∧ ok = true :=
  out_data_answered_only_in_status_out_of_inv c (final c init h) (inv_reachable c h) pid p ok hw hr

/-- **C07 (every SETUP starts a fresh transfer).** From ANY state whatsoever (abandoned transfer in any
stage, handler in any state), a SETUP transaction for the device is ACKed and leaves the stage, the latched
packet, the setup decoder, the token registers and — for a standard request — the handler's state,
`start_position` and data PID as the same SETUP does in the reset state carrying the device's current address
(`{ init with address := s.address }`).  (`expecting_ack` is not among them:
`handle_new_setup` does not clear it, in the gateware as in the model.) -/
theorem setup_always_restarts (c : DevConfig) (s : DevState) (bytes : List Nat) (f₁ f₂ : Resp)
    (hlen : bytes.length = 8) :
    let tx : List Stim := [⟨.token PID_SETUP s.address 0, f₁⟩, ⟨.data PID_DATA0 bytes true, f₂⟩]
    let s₂ := final c s tx
    let r₂ := final c { init with address := s.address } tx
    s₂.stage = r₂.stage ∧ s₂.setup = r₂.setup ∧ s₂.setup = parseSetup bytes ∧ s₂.sdWait = r₂.sdWait ∧
    s₂.tokPid = r₂.tokPid ∧ s₂.tokEp = r₂.tokEp ∧
    ((parseSetup bytes).type = TYPE_STANDARD →
        s₂.hstate = r₂.hstate ∧ s₂.startPos = r₂.startPos ∧ s₂.txPid = r₂.txPid) ∧
    (run c s tx).map (·.2) = [.none, .hs PID_ACK] := by
  simp only [final, run, step, core, if_true, onToken, afterToken, tokenStage, onData, onSetupData, hlen,
    Resp.isNone, Resp.isData, Resp.dataLen, init]
  by_cases hty : (parseSetup bytes).type = TYPE_STANDARD <;> simp [hty]

/-- **C07 (other endpoints are stutter), tokens.** A non-SETUP token for another endpoint of the device
changes nothing but the token detector's outputs (and makes the setup decoder drop a half-received SETUP):
stage, latched SETUP, handler state, descriptor position, toggle and both registers are untouched, and the
control endpoint transmits nothing. -/
theorem other_endpoint_tokens_are_stutter (c : DevConfig) (s : DevState) (pid ep : Nat)
    (hep : ep ≠ 0) (hpid : pid ≠ PID_SETUP) :
    core c s (.token pid s.address ep) = ({ s with tokPid := pid, tokEp := ep, sdWait := false }, .none) := by
  unfold core onToken afterToken tokenStage
  simp [hep, hpid]

/-- **C07 (other endpoints are stutter), rest of the transaction.** While the last token names another
endpoint (and was not a SETUP token: the setup decoder is not waiting), neither the data packet nor the handshake of
that transaction reaches the control endpoint: the state is unchanged and the control endpoint transmits nothing (the
bus carries the other endpoint's answer). -/
theorem other_endpoint_transactions_are_stutter (c : DevConfig) (s : DevState) (x : Stim)
    (hep : s.tokEp ≠ 0) (hw : s.sdWait = false)
    (hx : (∃ pid p ok, x.ev = .data pid p ok) ∨ (∃ pid, x.ev = .handshake pid)) :
    core c s x.ev = (s, .none) ∧ (step c s x).2 = x.foreign := by
  have key : core c s x.ev = (s, .none) := by
    rcases hx with ⟨pid, p, ok, hx⟩ | ⟨pid, hx⟩
    · rw [hx]; unfold core onData; simp [hw, hep]
    · rw [hx]; unfold core; simp only []
      rw [onHandshake_noreach]
      exact fun g => hep g.2.1
  refine ⟨key, ?_⟩
  rw [step_resp, key]
  simp [Resp.isNone, hep]

/-! ### Non-vacuity -/

def cfgOneDescriptor : DevConfig :=
  { descriptors := [(1, 0, [18, 1, 0, 2, 0, 0, 0, 64, 9, 18, 1, 0, 0, 1, 1, 2, 3, 1])], posBits := 5 }

/-- An abandoned SET_ADDRESS (the host never runs its status stage), then GET_DESCRIPTOR(device, 18) with its
data stage, and a bulk IN on endpoint 1 between the data and the status stage. -/
def abandonedThenGetDescriptor : List Stim :=
  [⟨.token PID_SETUP 0 0, .none⟩, ⟨.data PID_DATA0 [0x00, 5, 9, 0, 0, 0, 0, 0] true, .none⟩,
   ⟨.token PID_SETUP 0 0, .none⟩, ⟨.data PID_DATA0 [0x80, 6, 0, 1, 0, 0, 18, 0] true, .none⟩,
   ⟨.token PID_IN 0 0, .none⟩, ⟨.handshake PID_ACK, .none⟩,
   ⟨.token PID_IN 0 1, .data PID_DATA0 [7]⟩, ⟨.handshake PID_ACK, .none⟩,
   ⟨.token PID_OUT 0 0, .none⟩, ⟨.data PID_DATA1 [] true, .none⟩]

example : LegalHost cfgOneDescriptor abandonedThenGetDescriptor = true := by decide
example : (run cfgOneDescriptor init abandonedThenGetDescriptor).map (·.2) =
    [.none, .hs PID_ACK, .none, .hs PID_ACK,
     .data PID_DATA1 [18, 1, 0, 2, 0, 0, 0, 64, 9, 18, 1, 0, 0, 1, 1, 2, 3, 1], .none,
     .data PID_DATA0 [7], .none, .none, .hs PID_ACK] := by decide
example : (final cfgOneDescriptor init abandonedThenGetDescriptor).address = 0 := by decide

end LunaVerif.Device
