import LunaVerif.Lemmas.C25RxCdcCross
/-!
# C25 (receive direction, end to end, under CLOCK DRIFT) — bytes, framing and error as the 12 MHz side sees them

The receive chain with its clock-domain crossing on a drifting line: the drift + skew envelope of `Props/C25RxDrift.lean`
(`DriftOk`: 3, 4 or 5 samples per bit cell, two cells of length ≠ 4 at least 8 cells apart; `SkewOk`), more generally every
`trackable` cell stream (`rx_delivers_trackable`; nominal rate, `Props/C25RxUsb.lean`, is the instance "four clean samples in
every cell").  Model `FsRxCdc.step φ` (co-simulated against the `usb`-domain outputs of the real `RxPipeline`): the receive
chain `FsRx.step`, and the two `AsyncFIFOBuffered` modelled register by register (`FsRxCdc.Fifo`; that model of Amaranth's
FIFO is the abstraction the theorems rest on).

The bit strobes are 3, 4 or 5 `usb_io` cycles apart and the `usb` edge moves through the bit time, so there is no fixed
latency per bit time.  Instead: a write into an empty, settled FIFO followed by 16 cycles without a write is shown to the
`usb` side exactly once, at the 4th `usb`-edge cycle strictly after the write cycle, and leaves the FIFO empty and settled
(`fifo_write17`, all pointer values × 4 × 4 clock positions with tagged data, lifted by `runFifo_mapData`); so with its writes
at least 17 cycles apart a FIFO is a delay line (`fifo_bins`), and the two of them side by side show the 12 MHz side the
write-side events (`cdc_transfer`, Lemmas/C25RxCdcCross).  `rx_delivers_trackable` is therefore `rx_decodes_trackable`
(Props/C25RxDrift: what is written into the crossing) together with the spacing of a packet's writes (`packet_spacing`, for any
data bits): payload writes ≥ 8 strobes ≥ 24 cycles apart (`pays_spaced7_any`), the first one eight strobes after the start
flag; the only two writes ever in flight together are the last byte and the end flag, in that order.
-/
namespace LunaVerif.FsRxCdc
open LunaVerif.FsRx LunaVerif.FsCodec

/-! ### block lists -/

/-- block lists with the same block lengths (`blkP_fst`, `blkF_fst`) -/
theorem lens_of_fst {α β : Type} (X : List (Nat × α)) (l : List (Nat × β)) (h : X.map (·.1) = l.map (·.1))
    (hl : ∀ p ∈ l, 3 ≤ p.1) : ∀ x ∈ X, 3 ≤ x.1 := by
  intro x hx
  have hm : x.1 ∈ l.map (·.1) := h ▸ List.mem_map.mpr ⟨x, hx, rfl⟩
  obtain ⟨p, hp, he⟩ := List.mem_map.mp hm
  exact he ▸ hl p hp

theorem lenSum_of_fst (X : List (Nat × Option Nat)) : ∀ l : List (Nat × (Bool × Bool)),
    X.map (·.1) = l.map (·.1) → lenSum X = lsum l := by
  induction X with
  | nil => intro l h; cases l with | nil => rfl | cons _ _ => simp at h
  | cons x X ih =>
    intro l h
    match l, h with
    | (n, b) :: l, h =>
      obtain ⟨m, w⟩ := x
      simp only [List.map, List.cons.injEq] at h
      simp only [lenSum, lsum, h.1, ih l h.2]

/-! ### bit-level facts -/

theorem active_flgs (bits : List Bool) : ∀ (n : Nat) (sr : List Bool) (e : Bool),
    bitFlgs ⟨6, n, sr, e⟩ (fbits bits) = List.replicate bits.length none := by
  induction bits with
  | nil => intro n sr e; rfl
  | cons b bs ih =>
    intro n sr e
    have hs := active_step n sr e b
    simp only [fbits, List.map, bitFlgs, List.length_cons, List.replicate_succ]
    rw [hs]
    have := ih (bsStep n b) (bitStep ⟨6, n, sr, e⟩ (b, false)).sr (bitStep ⟨6, n, sr, e⟩ (b, false)).err
    simp only [fbits] at this
    rw [this]
    simp [bitFlg]

theorem eop_streams (n : Nat) (sr : List Bool) (x e : Bool) :
    bitPays ⟨6, n, sr, e⟩ [(x, true), (true, true), (false, false)] = [none, none, none] ∧
    bitFlgs ⟨6, n, sr, e⟩ [(x, true), (true, true), (false, false)] = [some 1, none, none] := by
  have hs := eop_step n sr x e
  constructor
  · simp only [bitPays, hs]
    simp [bitPay, bitStep, detStep]
  · simp only [bitFlgs, hs]
    simp [bitFlg, bitStep, detStep]

theorem idle_streams (k : Nat) : ∀ (det c : Nat) (sr : List Bool) (e : Bool), det ≤ 1 →
    bitPays ⟨det, c, sr, e⟩ (List.replicate k (true, false)) = List.replicate k none ∧
    bitFlgs ⟨det, c, sr, e⟩ (List.replicate k (true, false)) = List.replicate k none := by
  induction k with
  | zero => intro det c sr e _; exact ⟨rfl, rfl⟩
  | succ k ih =>
    intro det c sr e hd
    obtain ⟨h1, _, _⟩ := idle_step det c sr e hd
    obtain ⟨i1, i2⟩ := ih 0 (bsStep c true) sr e (by omega)
    have h6 : (det == 6) = false := by simp; omega
    have h5 : (det == 5) = false := by simp; omega
    rw [List.replicate_succ, List.replicate_succ]
    simp only [bitPays, bitFlgs, h1, i1, i2]
    simp [bitPay, bitFlg, h6, h5]

theorem stuff_length (bits : List Bool) : ∀ n, bits.length ≤ (stuff n bits).length := by
  induction bits with
  | nil => intro n; simp [stuff]
  | cons b bs ih =>
    intro n
    cases b with
    | false => simp only [stuff, List.length_cons]; have := ih 0; omega
    | true =>
      simp only [stuff]
      split
      · simp only [List.length_cons]; have := ih 0; omega
      · simp only [List.length_cons]; have := ih (n + 1); omega

theorem bitsOf_length (bytes : List Nat) : (bitsOf bytes).length = 8 * bytes.length := by
  induction bytes with
  | nil => rfl
  | cons b bs ih => simp only [bitsOf, byteBits_eq, List.length_append, List.length_cons, List.length_nil, ih]; omega

/-- the writes over SYNC alone: the start flag with the 1 of SYNC, no payload write -/
theorem sync_streams : ∀ (c : Fin 7) (e : Bool),
    bitFlgs ⟨0, c.val, srInit, e⟩ (fbits syncBits) = List.replicate 7 none ++ [some 2] ∧
    bitPays ⟨0, c.val, srInit, e⟩ (fbits syncBits) = List.replicate 8 none := by
  decide

/-! ### the write streams of a packet -/

/-- the flags of SYNC and the data bits: the start flag with the 1 of SYNC, nothing else -/
theorem sync_data_flgs (bits : List Bool) (c0 : Nat) (hc0 : c0 ≤ 6) (e : Bool) :
    bitFlgs ⟨0, c0, srInit, e⟩ (fbits syncBits ++ fbits bits) =
      List.replicate 7 none ++ some 2 :: List.replicate bits.length none := by
  rw [bitFlgs_append, (sync_streams ⟨c0, by omega⟩ e).1, (sync_run c0 hc0 e).1, active_flgs, List.append_assoc]
  rfl

/-- the per-bit write streams of a packet, whatever its data bits: the start flag with the 1 of SYNC, the end flag with the
first SE0, payload writes only in between -/
theorem packet_bitstreams (bits : List Bool) (m : Nat) (x : Bool) (c0 : Nat) (hc0 : c0 ≤ 6) (e : Bool) :
    bitFlgs ⟨0, c0, srInit, e⟩ (fbits syncBits ++ (fbits bits ++ ([(x, true), (true, true), (false, false)] ++
        List.replicate m (true, false)))) =
      List.replicate 7 none ++ (some 2 :: (List.replicate bits.length none ++ (some 1 :: List.replicate (m + 2) none))) ∧
    bitPays ⟨0, c0, srInit, e⟩ (fbits syncBits ++ (fbits bits ++ ([(x, true), (true, true), (false, false)] ++
        List.replicate m (true, false)))) =
      List.replicate 8 none ++ (bitPays ⟨6, 1, srInit, false⟩ (fbits bits) ++ List.replicate (m + 3) none) := by
  have s0 := (sync_run c0 hc0 e).1
  obtain ⟨n', sr', hn', p1⟩ := active_err bits 1 srInit false (by omega)
  generalize (false || (unstuff 1 bits).isNone) = e' at p1
  obtain ⟨⟨c1, hc1, q0⟩, _, _⟩ := eop_run n' sr' x e' hn'
  obtain ⟨q1, q2⟩ := eop_streams n' sr' x e'
  obtain ⟨r1, r2⟩ := idle_streams m 1 c1 srInit e' (by omega)
  constructor
  · rw [← List.append_assoc, bitFlgs_append, sync_data_flgs bits c0 hc0 e, bitRun_append, s0, p1,
      bitFlgs_append, q2, q0, r2]
    simp [List.replicate_succ]
  · rw [bitPays_append, (sync_streams ⟨c0, by omega⟩ e).2, s0, bitPays_append, p1, bitPays_append, q1, q0, r1]
    simp [List.replicate_succ]

/-- **the write streams of a packet are sparse and apart**: for blocks `l` of three cycles or more, one per bit strobe of SYNC,
at least seven data bits of any value, the EOP and `m + 4` idle bit times, the cycle-level payload writes are `Sparse 16` (16
quiet cycles or more before, between and after them), so are the flag writes, and the two streams are `Apart`.  From
`packet_bitstreams` (which strobes write) and `pays_spaced7_any` (payload writes at least eight strobes apart) by `sparse_flatV`
and `apart_blocks`. -/
theorem packet_spacing (bits : List Bool) (h7 : 7 ≤ bits.length) (m : Nat) (x : Bool) (c0 : Nat) (hc0 : c0 ≤ 6) (e : Bool)
    (l : List (Nat × (Bool × Bool))) (hl : ∀ p ∈ l, 3 ≤ p.1)
    (hbits : l.map (·.2) = fbits syncBits ++ (fbits bits ++ ([(x, true), (true, true), (false, false)] ++
        List.replicate (m + 4) (true, false)))) (G g : Nat) (hG : 16 ≤ G) (hg : 3 ≤ g) (lp : Bool) :
    Sparse 16 G (flatV 2 (blkP ⟨0, c0, srInit, e⟩ l)) = true ∧ Sparse 16 G (flatV 0 (blkF ⟨0, c0, srInit, e⟩ l)) = true ∧
    Apart g lp (flatV 2 (blkP ⟨0, c0, srInit, e⟩ l)) (flatV 0 (blkF ⟨0, c0, srInit, e⟩ l)) = true := by
  obtain ⟨hf, hp⟩ := packet_bitstreams bits (m + 4) x c0 hc0 e
  rw [← hbits] at hf hp
  have hsp := pays_spaced7_any bits 1 srInit false 0 14 rfl (by simp [need])
  have hXl : (bitPays ⟨6, 1, srInit, false⟩ (fbits bits)).length = bits.length := by rw [bitPays_length]; simp [fbits]
  refine ⟨?_, ?_, ?_⟩
  · refine sparse_flatV 2 (Or.inr rfl) _ 6 G (lens_of_fst _ l (blkP_fst l _) hl) ?_ (Or.inr hG)
    rw [blkP_snd, hp, sparse_quiet]
    exact sparse_spacedGt _ (fun g => sparse_nones 6 _ g (by omega)) _ _ hsp
  · refine sparse_flatV 0 (Or.inl rfl) _ 6 G (lens_of_fst _ l (blkF_fst l _) hl) ?_ (Or.inr hG)
    rw [blkF_snd, hf, sparse_quiet]
    simp only [Sparse, sparse_quiet, Bool.and_eq_true, decide_eq_true_eq]
    exact ⟨by omega, by omega, sparse_nones 6 _ 0 (by omega)⟩
  · refine apart_blocks l ⟨0, c0, srInit, e⟩ g lp false false hl ?_ (by simp) (by simp) (fun _ _ => hg)
    rw [hp, hf, show (8 : Nat) = 7 + 1 from rfl, ← List.replicate_append_replicate, List.append_assoc,
      show (7 : Nat) = 6 + 1 from rfl, apartB_quiet]
    have hne : bitPays ⟨6, 1, srInit, false⟩ (fbits bits) ≠ [] := by
      intro h; rw [h] at hXl; simp at hXl; omega
    have := apartB_pays (List.replicate (m + 4 + 3) none) (some 1 :: List.replicate (m + 4 + 2) none) ?_ _ 14 false true hne hsp
      (by simp)
    · simpa [ApartB, hXl, List.replicate_succ, oStart] using this
    · intro pp
      rw [List.replicate_succ]
      simp [ApartB, oStart, apartB_nones, show Nat.testBit 1 1 = false from rfl]

/-! ### the theorems -/

/-- a correctly encoded packet on any trackable cell stream, behind the clock-domain crossing -/
theorem rx_delivers_trackable (φ c0 : Nat) (hφ : φ < 4) (hc0 : c0 < 4)
    (bytes : List Nat) (hne : bytes ≠ []) (hb : ∀ b ∈ bytes, b < 256) (cells : List Cell) (m : Nat)
    (hs : cells.map (·.1) = (nrzi true (syncBits ++ stuff 1 (bitsOf bytes))).map lvl ++ [.SE0, .SE0])
    (ht : trackable (packetCells cells (m + 4)) = true)
    (c : Nat) (e : Bool) (hc : c ≤ 6) (pp pf : Nat) (hpp : pp < 8) (hpf : pf < 8) (memp memf : List Nat)
    (hmp : memp.length = 4) (hmf : memf.length = 4) (k : Nat) :
    evsU (runCdc φ (idleCdc c e pp memp pf memf c0) (rxInputD k cells (m + 4))).2 =
      [.start] ++ bytes.map EvU.byte ++ [.fin] ∧
    ∃ c' pp' memp' pf' memf' cyc', c' ≤ 6 ∧ pp' < 8 ∧ pf' < 8 ∧ memp'.length = 4 ∧ memf'.length = 4 ∧ cyc' < 4 ∧
      (runCdc φ (idleCdc c e pp memp pf memf c0) (rxInputD k cells (m + 4))).1 =
        idleCdc c' false pp' memp' pf' memf' cyc' := by
  obtain ⟨a0, pre, l, h0, hev, _, hl, hbits, hrun⟩ :=
    run_packetD_outs c e hc k (stuff 1 (bitsOf bytes)) (m + 4) cells hs ht
  obtain ⟨g1, g2, c', hc', hfin⟩ := rx_decodes_trackable bytes hb cells (m + 4) hs ht c e hc k
  obtain ⟨qp, qf⟩ := quiet_writes pre hev
  obtain ⟨os1, os2⟩ := outs_vstreams l hl ⟨0, a0, srInit, e⟩ true
  have h7 : 7 ≤ (stuff 1 (bitsOf bytes)).length := by
    have h1 := stuff_length (bitsOf bytes) 1
    have h2 := bitsOf_length bytes
    have h3 : 1 ≤ bytes.length := by
      cases bytes with
      | nil => exact absurd rfl hne
      | cons _ _ => simp
    omega
  obtain ⟨sP, sF, sA⟩ := packet_spacing (stuff 1 (bitsOf bytes)) h7 (m + 1) _ a0 h0 e l hl hbits (16 + pre.length)
    (3 + pre.length) (by omega) (by omega) false
  have hpayS : (FsRx.run (idleSt c e) (rxInputD k cells (m + 4))).2.map payW =
      List.replicate pre.length none ++ flatV 2 (blkP ⟨0, a0, srInit, e⟩ l) := by rw [hrun, List.map_append, qp, os1]
  have hflgS : (FsRx.run (idleSt c e) (rxInputD k cells (m + 4))).2.map flgW =
      List.replicate pre.length none ++ flatV 0 (blkF ⟨0, a0, srInit, e⟩ l) := by rw [hrun, List.map_append, qf, os2]
  obtain ⟨t1, pp', memp', pf', memf', x1, x2, x3, x4, t2⟩ := cdc_transfer φ hφ (idleSt c e) (rxInputD k cells (m + 4))
    (by rw [hpayS, sparse_quiet]; exact sP) (by rw [hflgS, sparse_quiet]; exact sF)
    (by rw [hpayS, hflgS, apart_quiet]; exact sA) g2 c0 pp pf memp memf hc0 hpp hpf hmp hmf
  rw [g1] at t1 t2
  rw [hfin, (gate_frame bytes false).2] at t2
  exact ⟨by rw [idleCdc, t1, (gate_frame bytes false).1],
    c', pp', memp', pf', memf', _, hc', x1, x2, x3, x4, Nat.mod_lt _ (by omega), by rw [idleCdc, t2]; rfl⟩

/-- **end to end under clock drift and skew**: for every phase `φ` of the `usb` clock and position `c0` of the stimulus
against it, every non-empty list of bytes < 256, every stream of bit cells whose symbols are those of `encode bytes` (the
final J merging with the idle line), whose lengths satisfy `DriftOk` (3, 4 or 5 samples per cell, two cells of length ≠ 4
at least 8 cells apart; ±0.25 % has them ≥ 100 apart, `floor_cells_driftOk`) and whose first samples satisfy `SkewOk`,
starting after any number `k` of idle samples, from any idle state of the receive path with its clock-domain crossing
(`idleCdc`: both FIFOs empty and settled with arbitrary pointers and memory contents): what the 12 MHz side sees at its
clock edges is exactly `o_pkt_start`; then each byte once, in order, on `o_data_payload` with `o_data_strobe` while
`o_pkt_in_progress` is high (`rx_valid` with `rx_active`); then `o_pkt_end`; `o_receive_error` is never high at a `usb`
edge while in progress; and `4 (m + 7) + 3` idle samples after the second SE0 the whole path is `idleCdc` again. -/
theorem rx_delivers_to_usb_drift (φ c0 : Nat) (hφ : φ < 4) (hc0 : c0 < 4)
    (bytes : List Nat) (hne : bytes ≠ []) (hb : ∀ b ∈ bytes, b < 256)
    (cells : List Cell) (hs : cells.map (·.1) ++ [.J] = encode bytes) (hd : DriftOk (cells.map (·.2.1)))
    (hk : SkewOk cells)
    (c : Nat) (e : Bool) (hc : c ≤ 6) (pp pf : Nat) (hpp : pp < 8) (hpf : pf < 8) (memp memf : List Nat)
    (hmp : memp.length = 4) (hmf : memf.length = 4) (k m : Nat) :
    evsU (runCdc φ (idleCdc c e pp memp pf memf c0) (rxInputD k cells (m + 4))).2 =
      [.start] ++ bytes.map EvU.byte ++ [.fin] ∧
    ∃ c' pp' memp' pf' memf' cyc', c' ≤ 6 ∧ pp' < 8 ∧ pf' < 8 ∧ memp'.length = 4 ∧ memf'.length = 4 ∧ cyc' < 4 ∧
      (runCdc φ (idleCdc c e pp memp pf memf c0) (rxInputD k cells (m + 4))).1 =
        idleCdc c' false pp' memp' pf' memf' cyc' := by
  obtain ⟨ht, hs'⟩ := trackable_encode bytes (m + 4) cells hs hd hk
  exact rx_delivers_trackable φ c0 hφ hc0 bytes hne hb cells m hs' ht c e hc pp pf hpp hpf memp memf hmp hmf k

/-! ### any number of packets -/

theorem runCdc_append (φ : Nat) (a b : List FsRx.In) : ∀ s : St,
    runCdc φ s (a ++ b) = ((runCdc φ (runCdc φ s a).1 b).1, (runCdc φ s a).2 ++ (runCdc φ (runCdc φ s a).1 b).2) := by
  induction a with
  | nil => intro s; rfl
  | cons i is ih => intro s; simp only [List.cons_append, runCdc, ih, List.append_assoc]

/-- the stimulus of a packet of `rx_delivers_to_usb_drift` -/
def DPkt.inputU (p : DPkt) : List FsRx.In := rxInputD p.k p.cells (p.m + 4)
def DPkt.eventsU (p : DPkt) : List EvU := [.start] ++ p.bytes.map EvU.byte ++ [.fin]

/-- **any number of packets, each with its own drift pattern, skew and sampling phase**: from an idle state of the receive
path with its clock-domain crossing, for every `usb` clock phase, the 12 MHz side sees, packet after packet, start, the
bytes (each once, in order, while in progress), end -- nothing else -- and the path ends idle. -/
theorem rx_packets_to_usb_drift (φ : Nat) (hφ : φ < 4) (ps : List DPkt) (h : ∀ p ∈ ps, p.Ok ∧ p.bytes ≠ []) :
    ∀ (c : Nat) (e : Bool) (pp pf : Nat) (memp memf : List Nat) (c0 : Nat), c ≤ 6 → pp < 8 → pf < 8 →
      memp.length = 4 → memf.length = 4 → c0 < 4 →
    evsU (runCdc φ (idleCdc c e pp memp pf memf c0) (ps.flatMap DPkt.inputU)).2 = ps.flatMap DPkt.eventsU ∧
    ∃ c' e' pp' memp' pf' memf' cyc', c' ≤ 6 ∧ pp' < 8 ∧ pf' < 8 ∧ memp'.length = 4 ∧ memf'.length = 4 ∧ cyc' < 4 ∧
      (runCdc φ (idleCdc c e pp memp pf memf c0) (ps.flatMap DPkt.inputU)).1 =
        idleCdc c' e' pp' memp' pf' memf' cyc' := by
  induction ps with
  | nil =>
    intro c e pp pf memp memf c0 hc hpp hpf hmp hmf hc0
    exact ⟨rfl, c, e, pp, memp, pf, memf, c0, hc, hpp, hpf, hmp, hmf, hc0, rfl⟩
  | cons p ps ih =>
    intro c e pp pf memp memf c0 hc hpp hpf hmp hmf hc0
    obtain ⟨⟨hb, hs, hd, hk⟩, hne⟩ := h p (by simp)
    obtain ⟨h1, c1, pp1, memp1, pf1, memf1, cyc1, y1, y2, y3, y4, y5, y6, h3⟩ :=
      rx_delivers_to_usb_drift φ c0 hφ hc0 p.bytes hne hb p.cells hs hd hk c e hc pp pf hpp hpf memp memf hmp hmf p.k p.m
    obtain ⟨i1, i2⟩ := ih (fun q hq => h q (by simp [hq])) c1 false pp1 pf1 memp1 memf1 cyc1 y1 y2 y3 y4 y5 y6
    simp only [List.flatMap_cons, runCdc_append, evsU_append, DPkt.inputU, DPkt.eventsU] at *
    rw [h3]
    exact ⟨by rw [h1, i1], i2⟩

/-! ### non-vacuity: runs of the model itself -/

/-- `[0xA5]` on a drifting line (cells 3 and 12 have five samples), from reset, every `usb` clock phase -/
example : ∀ φ : Fin 4, evsU (runCdc φ.val {} (jn 15 ++ rxInputD 2
    (cellsOf [0xA5] [4, 4, 4, 5, 4, 4, 4, 4, 4, 4, 4, 4, 5, 4, 4, 4, 4, 4]) 4)).2 = [.start, .byte 0xA5, .fin] := by
  decide +kernel

/-- `[0x0F, 0xFC]` (a stuffed 0 between the last data bit and the EOP) on a fast line with three-sample cells, `usb` phase 1 -/
example : evsU (runCdc 1 {} (jn 15 ++ rxInputD 3 (cellsOf [0x0F, 0xFC]
    [3, 4, 4, 4, 4, 4, 4, 4, 4, 4, 4, 4, 4, 4, 4, 4, 4, 4, 4, 4, 4, 4, 3, 4, 4, 4, 4]) 4)).2 =
    [.start, .byte 0x0F, .byte 0xFC, .fin] := by
  decide +kernel

/-- the hypotheses of `rx_packets_to_usb_drift` hold for such a packet -/
example : (⟨[0xA5], cellsOf [0xA5] [4, 4, 4, 5, 4, 4, 4, 4, 4, 4, 4, 4, 5, 4, 4, 4, 4, 4], 2, 0⟩ : DPkt).Ok ∧
    (⟨[0xA5], cellsOf [0xA5] [4, 4, 4, 5, 4, 4, 4, 4, 4, 4, 4, 4, 5, 4, 4, 4, 4, 4], 2, 0⟩ : DPkt).bytes ≠ [] := by
  refine ⟨⟨by decide, by decide, by decide, by decide⟩, by decide⟩

end LunaVerif.FsRxCdc
