import LunaVerif.Model.Usb3.LinkCommand
import LunaVerif.Lemmas.C36CrcBounds
/-!
# C35 — Link commands round-trip and corrupted commands are rejected

"A generated link command appears on the wire as the SLC-SLC-SLC-EPF start word followed by two
identical 16-bit command words with a valid CRC5; the detector reports exactly the command class,
type and subtype of such a word and reports nothing when the two copies differ, the CRC5 is wrong
or control symbols are present."
Quantifier: all 4-bit commands and subtypes, all corruptions of the command word, all ready/valid
stalls.

Spec (USB 3.2 §7.2.2.1): link command word = bits 3:0 subtype, 6:4 reserved (0), 10:7 class+type,
15:11 CRC-5 of bits 10:0; link command information = the word twice.
-/
namespace LunaVerif.LinkCommand

/-- The 16-bit link command word of the specification. -/
def specWord16 (cmd sub : Nat) : Nat :=
  let low11 := sub % 16 + 128 * (cmd % 16)
  low11 + 2048 * crc5 low11

/-- The 32-bit link command information: the word and its replica. -/
def specWord32 (cmd sub : Nat) : Nat := specWord16 cmd sub + 65536 * specWord16 cmd sub

/-- Acceptance condition of the specification for a received (data, ctrl) word. -/
def specAccepts (data ctrl : Nat) : Bool :=
  ctrl == 0 && data % 65536 == data / 65536 && (data % 65536) / 2048 == crc5 (data % 2048)

def frame (cmd sub : Nat) : List (Nat × Nat) := [(LCSTART_DATA, LCSTART_CTRL), (specWord32 cmd sub, 0)]

theorem filterMap_cons_append {α β : Type} (f : α → Option β) (x : α) (xs : List α) :
    (x :: xs).filterMap f = [x].filterMap f ++ xs.filterMap f :=
  List.filterMap_append (l := [x])

theorem balance_cons {β : Type} {p a1 b1 p' a b pf : List β} (h1 : p ++ a1 = b1 ++ p') (h2 : p' ++ a = b ++ pf) :
    p ++ (a1 ++ a) = (b1 ++ b) ++ pf := by
  rw [← List.append_assoc, h1, List.append_assoc, h2, List.append_assoc]

/-- Every field is read back by slicing, whatever the 5-bit check value `k`. -/
theorem pack_fields {cmd sub k : Nat} (hc : cmd < 16) (hs : sub < 16) (hk : k < 32) :
    let w := sub + 128 * cmd + 2048 * k
    let d := w + 65536 * w
    d < 2 ^ 32 ∧ d % 65536 = w ∧ d / 65536 = w ∧ w % 16 = sub ∧ (w / 16) % 8 = 0 ∧ (w / 128) % 16 = cmd ∧
      w / 2048 = k ∧ w % 2048 = sub + 128 * cmd ∧ d % 2048 = sub + 128 * cmd := by
  omega

/-- All 256 (command, subtype): the information word is two identical 16-bit copies `w`, with
`w[3:0] = subtype`, `w[6:4] = 0`, `w[10:7] = command`, `w[15:11] = crc5 (w[10:0])`; it fits in 32
bits; the specification's acceptance test passes on it and decodes the same command/subtype.
Nothing about the CRC is used but that it is a 5-bit value. -/
theorem word_format : ∀ cmd < 16, ∀ sub < 16,
    let d := specWord32 cmd sub
    let w := d % 65536
    d < 2 ^ 32 ∧ d / 65536 = w ∧ w % 16 = sub ∧ (w / 16) % 8 = 0 ∧ (w / 128) % 16 = cmd ∧
      w / 2048 = crc5 (w % 2048) ∧ specAccepts d 0 = true := by
  intro cmd hc sub hs
  obtain ⟨h1, h2, h3, h4, h5, h6, h7, h8, h9⟩ := pack_fields hc hs (Crc.usb3Crc5_lt (sub + 128 * cmd))
  simp only [specWord32, specWord16, specAccepts, crc5, Nat.mod_eq_of_lt hc, Nat.mod_eq_of_lt hs]
  simp only [h1, h2, h3, h4, h5, h6, h7, h8, h9, beq_self_eq_true, Bool.and_self, and_self]

/-- The start word is SLC SLC SLC EPF (symbol 0 first), all four flagged as control symbols. -/
theorem start_word : LCSTART_DATA = 0xFE + 256 * 0xFE + 65536 * 0xFE + 16777216 * 0xF7 ∧ LCSTART_CTRL = 15 := by
  decide

namespace Gen

/-- Words requested in a trace: `generate` in a cycle in which the generator is idle (= not
driving `valid`), with that cycle's command and subtype. -/
def accepted (tr : List (In × Out)) : List (Nat × Nat) :=
  tr.flatMap fun (i, o) => if !o.valid && i.generate then frame i.command i.subtype else []

/-- Words transferred: cycles with `valid ∧ ready`. -/
def emitted (tr : List (In × Out)) : List (Nat × Nat) :=
  tr.filterMap fun (i, o) => if o.valid && i.ready then some (o.data, o.ctrl) else none

def pending (s : State) : List (Nat × Nat) :=
  match s.fsm with
  | .idle => []
  | .txHeader => frame s.lcmd s.lsub
  | .txCommand => (frame s.lcmd s.lsub).drop 1

theorem specWord32_mod (c s : Nat) : specWord32 (c % 16) (s % 16) = specWord32 c s := by
  simp [specWord32, specWord16]

theorem linkCommand16_eq (c u : Nat) : linkCommand16 c u = specWord16 c u := rfl

theorem step_idle {s : State} (h : s.fsm = .idle) (i : In) :
    step s i = (if i.generate then ⟨.txHeader, i.command % 16, i.subtype % 16⟩ else s, ⟨false, 0, 0, false⟩) := by
  simp only [step, h]

theorem step_txHeader {s : State} (h : s.fsm = .txHeader) (i : In) :
    step s i = ({ s with fsm := if i.ready then .txCommand else .txHeader },
      ⟨true, LCSTART_DATA, LCSTART_CTRL, false⟩) := by
  simp only [step, h]

theorem step_txCommand {s : State} (h : s.fsm = .txCommand) (i : In) :
    step s i = ({ s with fsm := if i.ready then .idle else .txCommand },
      ⟨true, specWord32 s.lcmd s.lsub, 0, i.ready⟩) := by
  simp only [step, h, linkCommand16_eq]
  rfl

theorem step_conserves (s : State) (i : In) :
    pending s ++ accepted [(i, (step s i).2)] = emitted [(i, (step s i).2)] ++ pending (step s i).1 := by
  cases h : s.fsm
  · rw [step_idle h]
    cases hg : i.generate <;> simp [pending, accepted, emitted, h, hg, frame, specWord32_mod]
  · rw [step_txHeader h]
    cases hr : i.ready <;> simp [pending, accepted, emitted, h, hr, frame]
  · rw [step_txCommand h]
    cases hr : i.ready <;> simp [pending, accepted, emitted, h, hr, frame]

theorem accepted_cons (x : In × Out) (tr : List (In × Out)) : accepted (x :: tr) = accepted [x] ++ accepted tr :=
  List.flatMap_append (xs := [x])

theorem emitted_cons (x : In × Out) (tr : List (In × Out)) : emitted (x :: tr) = emitted [x] ++ emitted tr :=
  filterMap_cons_append _ x tr

end Gen

/-- **C35 (generator).**  For every start state, every generate/command/subtype history and every
ready pattern: the words the start state still owes (`Gen.pending s`: none when it is idle), followed by the frames
`SLC SLC SLC EPF ; w‖w` of the requests accepted, are exactly, in order and once each, the words transferred
followed by the words still waiting for `ready` at the end of the history. -/
theorem generated_word_format (s : Gen.State) (h : List Gen.In) :
    Gen.pending s ++ Gen.accepted (Gen.run s h) = Gen.emitted (Gen.run s h) ++ Gen.pending (Gen.final s h) := by
  induction h generalizing s with
  | nil => simp [Gen.run, Gen.final, Gen.accepted, Gen.emitted]
  | cons i is ih =>
    rw [Gen.run, Gen.final, Gen.accepted_cons, Gen.emitted_cons]
    exact balance_cons (Gen.step_conserves s i) (ih _)

/-- Held under stalls: in every cycle `valid` says whether a word is owed, the word presented *is*
the first owed word (so it does not change while `ready` is low), and `done` marks the transfer of
the last word. -/
theorem generator_holds_word (s : Gen.State) (i : Gen.In) :
    let o := (Gen.step s i).2
    o.valid = !(Gen.pending s).isEmpty ∧ (∀ w, (Gen.pending s).head? = some w → (o.data, o.ctrl) = w) ∧
      o.done = (i.ready && (Gen.pending s).length == 1) := by
  cases h : s.fsm
  · simp [Gen.step_idle h, Gen.pending, h]
  · simp [Gen.step_txHeader h, Gen.pending, h, frame]
  · simp [Gen.step_txCommand h, Gen.pending, h, frame]

theorem accepts_eq_spec (data ctrl : Nat) (hd : data < 2 ^ 32) (hc : ctrl < 16) :
    Det.accepts data ctrl = specAccepts data ctrl := by
  have h1 : ctrl % 16 = ctrl := Nat.mod_eq_of_lt hc
  have h2 : data / 2 ^ 16 % 2 ^ 16 = data / 65536 := by omega
  have h3 : data % 2 ^ 16 % 2 ^ 11 = data % 2048 := by omega
  simp only [Det.accepts, specAccepts, h1, h2, h3]

namespace Det

theorem step_out (s : State) (i : In) :
    (step s i).2 = ⟨s.command, (s.command / 4) % 4, s.command % 4, s.subtype, s.newCommand⟩ := by
  cases h : s.fsm
  · simp only [step, h]
  · simp only [step, h]
    split
    · split <;> rfl
    · rfl

theorem step_invalid (s : State) (d k : Nat) : (step s ⟨false, d, k⟩).1 = { s with newCommand := false } := by
  obtain ⟨f, c, u, n⟩ := s
  cases f <;> simp [step]

theorem step_wait {s : State} (h : s.fsm = .waitLcstart) (i : In) :
    (step s i).1 = { s with
      fsm := if i.valid && i.data % 2 ^ 32 == LCSTART_DATA && i.ctrl % 16 == LCSTART_CTRL then .parse else .waitLcstart,
      newCommand := false } := by
  simp only [step, h]

theorem step_parse {s : State} (h : s.fsm = .parse) {d k : Nat} (hd : d < 2 ^ 32) (hk : k < 16) :
    (step s ⟨true, d, k⟩).1 = if specAccepts d k then ⟨.waitLcstart, (d / 128) % 16, d % 16, true⟩
      else { s with fsm := .waitLcstart, newCommand := false } := by
  have hw : d % 2 ^ 16 / 2 ^ 7 % 16 = d / 128 % 16 ∧ d % 2 ^ 16 % 16 = d % 16 := by omega
  simp only [step, h, if_true, Nat.mod_eq_of_lt hd, accepts_eq_spec d k hd hk, hw.1, hw.2]
  split <;> rfl

end Det

/-- **C35 (rejection).**  For every 32-bit word and 4-bit ctrl presented (valid) after a start word:
a command is reported iff ctrl = 0, the two halves are equal and the CRC-5 matches; when it is, the
reported command and subtype are bits 10:7 and 3:0 of the word; when it is not, the previously
reported fields are untouched.  Either way the detector returns to waiting for a start word. -/
theorem reject_corrupted (s : Det.State) (hs : s.fsm = .parse) (data ctrl : Nat)
    (hd : data < 2 ^ 32) (hc : ctrl < 16) :
    let s' := (Det.step s ⟨true, data, ctrl⟩).1
    (s'.newCommand = specAccepts data ctrl) ∧ s'.fsm = .waitLcstart ∧
    (specAccepts data ctrl = true → s'.command = (data / 128) % 16 ∧ s'.subtype = data % 16) ∧
    (specAccepts data ctrl = false → s'.command = s.command ∧ s'.subtype = s.subtype) := by
  simp only [Det.step_parse hs hd hc]
  cases specAccepts data ctrl <;> simp

/-- Nothing is ever reported from the waiting state, whatever the word; and an invalid word in the
parse state is skipped (the detector keeps waiting for the command word). -/
theorem no_report_outside_command_word (s : Det.State) (i : Det.In) :
    (s.fsm = .waitLcstart → (Det.step s i).1.newCommand = false) ∧
    (s.fsm = .parse → i.valid = false → (Det.step s i).1 = { s with newCommand := false }) := by
  refine ⟨fun h => by rw [Det.step_wait h], fun _ hv => ?_⟩
  obtain ⟨v, d, k⟩ := i
  subst hv
  exact Det.step_invalid s d k

/-- The specification of the detector on the gap-free sequence of *valid* words: a start word makes
the next word a command word; a command word is reported iff `specAccepts`. -/
def parseWords : Bool → List (Nat × Nat) → List (Nat × Nat)
  | _, [] => []
  | false, w :: ws => parseWords (w.1 == LCSTART_DATA && w.2 == LCSTART_CTRL) ws
  | true, w :: ws =>
    (if specAccepts w.1 w.2 then [((w.1 / 128) % 16, w.1 % 16)] else []) ++ parseWords false ws

def Det.parsing (s : Det.State) : Bool := match s.fsm with | .parse => true | .waitLcstart => false

def validWords (h : List Det.In) : List (Nat × Nat) :=
  h.filterMap fun i => if i.valid then some (i.data, i.ctrl) else none

def Det.reported (tr : List (Det.In × Det.Out)) : List (Nat × Nat) :=
  tr.filterMap fun (_, o) => if o.newCommand then some (o.command, o.subtype) else none

def Det.owed (s : Det.State) : List (Nat × Nat) := if s.newCommand then [(s.command, s.subtype)] else []

def WellFormed (h : List Det.In) : Prop := ∀ i ∈ h, i.data < 2 ^ 32 ∧ i.ctrl < 16

theorem det_step_report (s : Det.State) (i : Det.In) (hd : i.data < 2 ^ 32) (hc : i.ctrl < 16) :
    Det.owed s = Det.reported [(i, (Det.step s i).2)] ∧
    (∀ ws, parseWords (Det.parsing s) (validWords [i] ++ ws)
        = Det.owed (Det.step s i).1 ++ parseWords (Det.parsing (Det.step s i).1) ws) := by
  refine ⟨by cases hn : s.newCommand <;> simp [Det.step_out, Det.reported, Det.owed, hn], fun ws => ?_⟩
  obtain ⟨v, d, k⟩ := i
  cases v
  · simp [Det.step_invalid, validWords, Det.owed, Det.parsing]
  · cases h : s.fsm
    · simp only [Det.step_wait h, Nat.mod_eq_of_lt hd, Nat.mod_eq_of_lt hc]
      cases hl : d == LCSTART_DATA && k == LCSTART_CTRL <;> simp [validWords, parseWords, Det.owed, Det.parsing, h, hl]
    · simp only [Det.step_parse h hd hc]
      cases hA : specAccepts d k <;> simp [validWords, parseWords, Det.owed, Det.parsing, h, hA]

/-- **C35 (detector, all histories).**  For every start state and every history of (valid, data,
ctrl) words (32-bit data, 4-bit ctrl: `WellFormed`) with arbitrary invalid gaps: the commands reported (including one
still in the output register at the end) are exactly the one the start state has in its output register, if any
(`Det.owed s`), and then what the specification parses from the sequence of valid words, starting where the start state
stands (`Det.parsing s`: after a start word or not) — in particular invalid words between the start word and the command
word change nothing. -/
theorem detector_reports_exactly (s : Det.State) (h : List Det.In) (hw : WellFormed h) :
    Det.reported (Det.run s h) ++ Det.owed (Det.final s h)
      = Det.owed s ++ parseWords (Det.parsing s) (validWords h) := by
  induction h generalizing s with
  | nil => simp [Det.run, Det.final, Det.reported, validWords, parseWords]
  | cons i is ih =>
    have ⟨hd, hc⟩ := hw i List.mem_cons_self
    have hstep := det_step_report s i hd hc
    have hrep : Det.reported (Det.run s (i :: is))
        = Det.reported [(i, (Det.step s i).2)] ++ Det.reported (Det.run (Det.step s i).1 is) :=
      filterMap_cons_append _ _ _
    have hvw : validWords (i :: is) = validWords [i] ++ validWords is := filterMap_cons_append _ _ _
    rw [hrep, Det.final, List.append_assoc, ih _ (fun j hj => hw j (List.mem_cons_of_mem _ hj)), hvw,
      hstep.2, ← hstep.1]

namespace Chain

def accepted (tr : List (Gen.In × Gen.Out × Det.Out)) : List (Nat × Nat) :=
  tr.filterMap fun (i, o, _) => if !o.valid && i.generate then some (i.command % 16, i.subtype % 16) else none

def reported (tr : List (Gen.In × Gen.Out × Det.Out)) : List (Nat × Nat) :=
  tr.filterMap fun (_, _, od) => if od.newCommand then some (od.command, od.subtype) else none

/-- Commands in flight: one in the detector's output register, one in the generator. -/
def inFlight (s : State) : List (Nat × Nat) :=
  (if s.2.newCommand then [(s.2.command, s.2.subtype)] else []) ++
  (if s.1.fsm = .idle then [] else [(s.1.lcmd, s.1.lsub)])

def Inv (s : State) : Prop :=
  (s.1.fsm = .txCommand ↔ s.2.fsm = .parse) ∧ s.1.lcmd < 16 ∧ s.1.lsub < 16

theorem word_decodes {c u : Nat} (hc : c < 16) (hu : u < 16) :
    specWord32 c u < 2 ^ 32 ∧ specAccepts (specWord32 c u) 0 = true ∧
      specWord32 c u / 128 % 16 = c ∧ specWord32 c u % 16 = u := by
  obtain ⟨h1, h2, h3, h4, h5, h6, h7⟩ := word_format c hc u hu
  have hd : specWord32 c u / 128 = 512 * (specWord32 c u / 65536) + specWord32 c u % 65536 / 128 := by omega
  exact ⟨h1, h7, by omega, by omega⟩

theorem step_eq (s : State) (i : Gen.In) :
    step s i =
      (((Gen.step s.1 i).1,
        (Det.step s.2 ⟨(Gen.step s.1 i).2.valid && i.ready, (Gen.step s.1 i).2.data, (Gen.step s.1 i).2.ctrl⟩).1),
       ((Gen.step s.1 i).2,
        (Det.step s.2 ⟨(Gen.step s.1 i).2.valid && i.ready, (Gen.step s.1 i).2.data, (Gen.step s.1 i).2.ctrl⟩).2)) :=
  rfl

/-- What the detector reports in a cycle is what its output register held. -/
theorem reported_one (i : Gen.In) (o : Gen.Out) (d : Det.State) (x : Det.In) :
    reported [(i, o, (Det.step d x).2)] = Det.owed d := by
  cases hn : d.newCommand <;> simp [reported, Det.owed, Det.step_out, hn]

theorem step_inv (s : State) (i : Gen.In) (hI : Inv s) :
    Inv (step s i).1 ∧
    inFlight s ++ accepted [(i, (step s i).2)] = reported [(i, (step s i).2)] ++ inFlight (step s i).1 := by
  obtain ⟨g, d⟩ := s
  obtain ⟨hfsm, hc, hu⟩ := hI
  simp only at hfsm hc hu
  have hl : LCSTART_DATA % 2 ^ 32 = LCSTART_DATA ∧ LCSTART_CTRL % 16 = LCSTART_CTRL := by decide
  have hlt : ∀ n, n % 16 < 16 := fun n => Nat.mod_lt _ (by decide)
  rw [step_eq, reported_one]
  cases h : g.fsm
  · have hd : d.fsm = .waitLcstart := by cases hd : d.fsm <;> simp_all
    simp only [Gen.step_idle h, Bool.false_and, Det.step_invalid]
    cases hg : i.generate <;> simp [Inv, inFlight, accepted, Det.owed, h, hd, hg, hc, hu, hlt]
  · have hd : d.fsm = .waitLcstart := by cases hd : d.fsm <;> simp_all
    simp only [Gen.step_txHeader h, Bool.true_and, Det.step_wait hd, hl.1, hl.2, beq_self_eq_true, Bool.and_true]
    cases hr : i.ready <;> simp [Inv, inFlight, accepted, Det.owed, h, hc, hu]
  · have hd : d.fsm = .parse := hfsm.1 h
    obtain ⟨w1, w2, w3, w4⟩ := word_decodes hc hu
    simp only [Gen.step_txCommand h, Bool.true_and]
    cases hr : i.ready
    · simp [Det.step_invalid, Inv, inFlight, accepted, Det.owed, h, hd, hc, hu]
    · simp [Det.step_parse hd w1 (by decide : 0 < 16), w2, w3, w4, Inv, inFlight, accepted, Det.owed, h, hc, hu]

end Chain

/-- **C35 (round trip).**  Generator feeding detector, from reset, every generate/command/subtype
history and every ready (stall) pattern: the detector reports exactly the commands and subtypes
the generator accepted, in order, once each — up to those still in flight at the end. -/
theorem detect_generate (h : List Gen.In) :
    Chain.accepted (Chain.run Chain.init h)
      = Chain.reported (Chain.run Chain.init h) ++ Chain.inFlight (Chain.final Chain.init h) := by
  have key : ∀ (s : Chain.State), Chain.Inv s →
      Chain.inFlight s ++ Chain.accepted (Chain.run s h)
        = Chain.reported (Chain.run s h) ++ Chain.inFlight (Chain.final s h) := by
    induction h with
    | nil => intro s _; simp [Chain.run, Chain.final, Chain.accepted, Chain.reported]
    | cons i is ih =>
      intro s hI
      have ⟨hI', hc⟩ := Chain.step_inv s i hI
      have ha : Chain.accepted (Chain.run s (i :: is))
          = Chain.accepted [(i, (Chain.step s i).2)] ++ Chain.accepted (Chain.run (Chain.step s i).1 is) :=
        filterMap_cons_append _ _ _
      have hr : Chain.reported (Chain.run s (i :: is))
          = Chain.reported [(i, (Chain.step s i).2)] ++ Chain.reported (Chain.run (Chain.step s i).1 is) :=
        filterMap_cons_append _ _ _
      rw [ha, hr, Chain.final]
      exact balance_cons hc (ih _ hI')
  have := key Chain.init (by simp [Chain.Inv, Chain.init, Gen.init, Det.init])
  simpa [Chain.inFlight, Chain.init, Gen.init, Det.init] using this

/-- Non-vacuity: LGOOD_3 (command 0, subtype 3) and LCRD_B (command 1, subtype 1) through a stalling
channel. -/
example :
    let g (c u : Nat) (gen rdy : Bool) : Gen.In := ⟨c, u, gen, rdy⟩
    Chain.reported (Chain.run Chain.init
      [g 0 3 true false, g 9 9 false false, g 9 9 true true, g 0 0 false false, g 0 0 false true,
       g 1 1 true true, g 0 0 false true, g 0 0 false true, g 0 0 false true])
      = [(0, 3), (1, 1)] := by decide +kernel

end LunaVerif.LinkCommand
