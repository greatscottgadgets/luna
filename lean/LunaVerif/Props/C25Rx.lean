import LunaVerif.Props.C25RxDrift
/-!
# C25 (receive direction) — the cycle-level RxPipeline decodes `encode bytes` and latches a bit-stuffing violation

"… conversely any correctly encoded full-speed packet on D+/D- is delivered as exactly its bytes with receive-active
framing, and a bit-stuffing violation is reported as an error."

The model is `FsRx.step` (Model/Phy/FsRx.lean): the two input synchronizers, the line-state FSM and clock recovery of
`RxClockDataRecovery`, `RxNRZIDecoder`, `RxPacketDetect`, `RxBitstuffRemover`, `RxShifter`, `past_o_pkt_active` and
the latched `receive_error` of `RxPipeline`, one step per 48 MHz `usb_io` cycle -- the same function the co-simulation
compares with the real `RxPipeline` cycle by cycle on 21 internal signals.  Its outputs are what `RxPipeline` writes into
the two `AsyncFIFOBuffered` that cross into the 12 MHz `usb` domain (`flags_fifo`: packet start / packet end,
`payload_fifo`: the bytes) and `o_receive_error`.  The FIFOs themselves are not part of this model (they are in
`Model/Phy/FsRxCdc.lean`, the theorems in `Props/C25RxUsb.lean`): the theorems here are about the write side.

Environment (explicit hypotheses): NOMINAL rate -- every line symbol is sampled exactly four times (`wave`); the packet
may start in any of the four sampling phases against the receiver's free-running idle bit clock (`k` arbitrary idle
samples before it); the path is in an idle state `idleSt c e` when the stimulus starts (`c ≤ 6` the free-running
bit-stuff counter, `e` the error latch left by the previous packet): true 15 cycles after reset on an idle bus
(`reset_idle`), kept by an idle bus over whole bit times (`idle_holds_error`; the samples left over are the `k` of the
packet theorems) and re-established `4 (m + 2) + 3` idle cycles after every
packet (`rx_pipeline_decodes_encode`), so the theorems compose over any number of packets separated by at least 11 idle
cycles.

Nominal rate is the drifting line of `Props/C25RxDrift.lean` with four clean samples in every bit cell
(`rx_drift_nominal`); such a stream is trackable with the recovered bit clock in its nominal position throughout
(`track_nominal`), so the theorems here are instances of `rx_decodes_trackable` and
`stuff_error_detected_cycle_drift`.
-/
namespace LunaVerif.FsRx
open LunaVerif.FsCodec

/-- 15 cycles after reset with the bus idle the path is in an idle state -/
theorem reset_idle : (run {} (jn 15)).1 = idleSt 1 false ∧ events (run {} (jn 15)).2 = [] ∧
    ∀ o ∈ (run {} (jn 15)).2, seOf o = (false, false) := by decide

/-- over a whole number of idle bit times (`4 q` samples of J) nothing is written, the error latch keeps its value and the
path is in an idle state again; after `4 q + r` samples it is between two idle states, and the packet theorems take the
`r` (their `k`) themselves -/
theorem idle_holds_error (c : Nat) (e : Bool) (hc : c ≤ 6) (q : Nat) :
    (∃ c', c' ≤ 6 ∧ (run (idleSt c e) (jn (4 * q))).1 = idleSt c' e) ∧
    events (run (idleSt c e) (jn (4 * q))).2 = [] ∧ ∀ o ∈ (run (idleSt c e) (jn (4 * q))).2, o.rxErr = e := by
  obtain ⟨f1, f2⟩ := front_idle q
  obtain ⟨⟨c', hc', b1⟩, b2, b3⟩ := idle_blocks (List.replicate q (4, (true, false)))
    (fun p hp => by rw [(List.mem_replicate.mp hp).2]; omega) q (by simp) c e hc
  rw [run_split]
  simp only [idleSt, f1, f2, b1]
  exact ⟨⟨c', hc', rfl⟩, b2, fun o ho => by have := b3 o ho; simp only [seOf, Prod.mk.injEq] at this; exact this.2⟩

/-! ### nominal rate as a cell stream -/

theorem trackable_nominal (W : List Sym) (hW : W ≠ []) (m : Nat) :
    trackable (packetCells (W.map (·, 4, none)) m) = true := by
  match W, hW with
  | d :: W, _ =>
    have : packetCells ((d :: W).map (·, 4, none)) m =
        (d, 4, none) :: (W ++ List.replicate (m + 3) Sym.J).map (·, 4, none) := by
      simp only [packetCells, List.map_cons, List.map_append, List.map_replicate, List.cons_append]
    rw [this]
    exact track_nominal _ .J d

theorem map_nominal_fst (W : List Sym) : (W.map (fun x => ((x, 4, none) : Cell))).map (·.1) = W := by
  induction W with
  | nil => rfl
  | cons x W ih => simp only [List.map, ih]

/-- **the receive chain decodes `encode`** (cycle level, nominal rate, any sampling phase).  From an idle state, for every
byte list: the waveform `encode bytes`, four samples per bit, starting after any number `k` of idle samples (so in
any phase against the idle bit clock), makes the receive chain write into the clock-domain crossing exactly: packet
start, the bytes in order, each once, packet end; the latched receive error is low from the cycle after the start
flag on; `4 (m + 2) + 3` idle cycles after the packet the path is in an idle state again, error latch clear. -/
theorem rx_pipeline_decodes_encode (bytes : List Nat) (hb : ∀ b ∈ bytes, b < 256)
    (c : Nat) (e : Bool) (hc : c ≤ 6) (k m : Nat) :
    events (run (idleSt c e) (rxInput k (encode bytes) m)).2 = [.start] ++ bytes.map Ev.byte ++ [.fin] ∧
    noErrorAfterStart (run (idleSt c e) (rxInput k (encode bytes) m)).2 ∧
    ∃ c', c' ≤ 6 ∧ (run (idleSt c e) (rxInput k (encode bytes) m)).1 = idleSt c' false := by
  have hW : encode bytes = ((nrzi true (syncBits ++ stuff 1 (bitsOf bytes))).map lvl ++ [.SE0, .SE0]) ++ [.J] := by
    simp [encode]
  rw [hW, ← rx_drift_nominal]
  exact rx_decodes_trackable bytes hb _ m (map_nominal_fst _) (trackable_nominal _ (by simp) m) c e hc k

/-- **a bit-stuffing violation latches the receive error** (cycle level, nominal rate, any sampling phase): a packet
whose bit stream after SYNC contains seven consecutive 1s anywhere (`pre`, `post` arbitrary) -- packet start and packet
end are written into the clock-domain crossing, and at the end of the run `o_receive_error` is set: it is held until the
next packet start (`idle_holds_error`, `rx_pipeline_decodes_encode`). -/
theorem stuff_error_detected_cycle (pre post : List Bool) (c : Nat) (e : Bool) (hc : c ≤ 6) (k m : Nat) :
    (∃ evs, events (run (idleSt c e) (rxInput k
        ((nrzi true (syncBits ++ (pre ++ List.replicate 7 true ++ post))).map lvl ++ [.SE0, .SE0, .J]) m)).2 =
          [.start] ++ evs ++ [.fin]) ∧
    ∃ c', c' ≤ 6 ∧ (run (idleSt c e) (rxInput k
        ((nrzi true (syncBits ++ (pre ++ List.replicate 7 true ++ post))).map lvl ++ [.SE0, .SE0, .J]) m)).1 =
          idleSt c' true := by
  have hW : (nrzi true (syncBits ++ (pre ++ List.replicate 7 true ++ post))).map lvl ++ [Sym.SE0, .SE0, .J] =
      ((nrzi true (syncBits ++ (pre ++ List.replicate 7 true ++ post))).map lvl ++ [.SE0, .SE0]) ++ [.J] := by simp
  rw [hW, ← rx_drift_nominal]
  exact stuff_error_detected_cycle_drift pre post _ m (map_nominal_fst _) (trackable_nominal _ (by simp) m) c e hc k

/-! ### non-vacuity: runs of the model itself -/

/-- from reset: 15 idle cycles, then `[0xA5]` in sampling phase 2 -/
example : events (run {} (jn 15 ++ rxInput 2 (encode [0xA5]) 0)).2 = [.start, .byte 0xA5, .fin] := by decide +kernel

/-- a packet whose data ends in six 1s and a stuffed 0, from an idle state with a stale error, phase 3 -/
example : events (run (idleSt 5 true) (rxInput 3 (encode [0x0F, 0xFC]) 1)).2 = [.start, .byte 0x0F, .byte 0xFC, .fin] ∧
    (run (idleSt 5 true) (rxInput 3 (encode [0x0F, 0xFC]) 1)).1 = idleSt 2 false := by decide +kernel

/-- seven 1s: the error is latched at the end -/
example : ((run (idleSt 0 false) (rxInput 1
    ((nrzi true (syncBits ++ ([false] ++ List.replicate 7 true ++ [false]))).map lvl ++ [.SE0, .SE0, .J]) 0)).1).b.rxErr = true := by
  decide +kernel

/-- the hypotheses of the theorems are satisfiable: the state reached from reset is an idle state -/
example : ∃ c e, c ≤ 6 ∧ (run {} (jn 15)).1 = idleSt c e := ⟨1, false, by omega, reset_idle.1⟩

end LunaVerif.FsRx
