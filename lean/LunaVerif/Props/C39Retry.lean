import LunaVerif.Lemmas.C39RoundRun
/-!
# C39 (4) — after an LBAD the unacknowledged headers are what is retransmitted: in order, with DL, before new ones

History-level statement for `PacketTx.step` (the model of the repaired `PacketTransmitter`, incl. the
FLUSH_PACKET state).  `latches c s ins` is the sequence of headers handed to the raw transmitter
(`packet_tx.header` in the cycles in which `RawPacketTransmitter` leaves IDLE) during the history `ins`
from state `s`; by `tx_word_carries_header` these are the headers whose words go on the wire.

**Theorem** `lbad_retransmits_all_unacked_in_order_with_dl`: take any history `pre` from reset after
which `retry_required` is asserted (an LBAD has been received — the first, or a further one in the middle
of a retransmission round, in any FSM state), the LBAD cycle `i0`, and any continuation `post` with
arbitrary waiting times (`source.ready`, `lrty_pending`, queue and link-command timing) in which the link
stays up and no further LBAD arrives *before the last cycle of `post`*.  Let `unacked` be the `m` headers
that are unacknowledged after the LBAD cycle (they sit in `buffers[ack_pointer ..]`).  Then the headers handed to
the raw transmitter after the LBAD cycle, up to the `m`-th, are the first of `unacked`, in their original order, each
with the delayed bit set and otherwise unchanged (`dl`): `(latches …).take m` is a prefix of `unacked.map dl` — as
many of them as the history has room for.  So no new header comes before them, and if a further LBAD cuts the round
short, what was sent of it is an initial segment (and the theorem applies again to that LBAD: the round restarts from
the first header unacknowledged then).  Every theorem of this file concludes this prefix; that all `m` are handed over
when no further LBAD arrives and the history has `20·m + 20` cycles with `source.ready` and without `lrty_pending` is
`lbad_round_completes` (Lemmas/C39Live.lean), and the same prefix for the headers completed on the wire is
`lbad_retransmits_on_the_wire` (Lemmas/C39Wire.lean).

Environment (`EnvOkR` / `RoundEnv`, decidable, per cycle): `EnvStep` of `Props/C39` (link up; LGOOD only
for outstanding headers; credits ≤ 4 + retired) and `ackSent`: the partner acknowledges a header only once
its (re)transmission has at least been started (in the current round).  Without the latter a header could
be retired — and its buffer reused — before it is retransmitted.

A header latched in the LBAD cycle itself or before (a packet in flight) is not part of `latches … post`;
the FLUSH_PACKET / WAIT_FOR_SEND logic guarantees it does not advance the reloaded read pointer
(that is part of what `Ctl.inv_step`/`Ctl.lbad_step` prove).
-/
namespace LunaVerif.PacketTx
open LunaVerif.HeaderRx (Hdr Bufs bufQ)

/-- **The retry round, from any state satisfying the invariants** (`InvR`) in which an LBAD is being received.  After the
LBAD cycle the unacknowledged headers are the `packets_awaiting_ack` buffers from the acknowledge pointer on, send
counter and read pointer are reloaded from there (`pts = paa`, `rp = ap`), `retry_pending` is set, and the headers
handed to the raw transmitter during `post`, up to the `m`-th, are a prefix of `unacked.map dl`. -/
theorem lbad_round (c : Config) (s : State) (g : Ghost) (i : In) (post : List In)
    (hi : InvR s g) (e : EnvStepR s g i) (hL : retryRequired s = true) :
    let s1 := (step c s i).1
    let g1 := ghostStep s i g
    let unacked := g1.taken.drop g1.retired
    RoundEnv c s1 g1 post →
    unacked = bufQ s1.bufs s1.ap s1.paa ∧ unacked.length = s1.paa ∧ s1.pts = s1.paa ∧ s1.rp = s1.ap ∧
    s1.retryPending = true ∧
    (latches c s1 post).take unacked.length <+: unacked.map dl := by
  intro s1 g1 unacked henv
  have hi1 : InvR s1 g1 := invR_step hi e
  have o := evOk_of hi.inv e
  obtain ⟨h1, h2, _, h4⟩ := Ctl.lbad_step hi.ctl o hL
  rw [← ctlOf_step c s i e.env.en] at h1 h2 h4
  have hw := hi1.inv.hwin
  have hlen : unacked.length = s1.paa := by
    have := hi1.inv.hpaa
    simp only [unacked, List.length_drop]; omega
  exact ⟨hw.symm, hlen, h1, h2, h4, round_run c post s1 g1 unacked hi1 (round_start hi e hL) henv⟩

/-- **C39 (4)** — see the module comment. -/
theorem lbad_retransmits_all_unacked_in_order_with_dl (c : Config) (pre : List In) (i0 : In) (post : List In)
    (henv : EnvOkR c init Ghost.init (pre ++ [i0]))
    (hL : retryRequired (runG c init Ghost.init pre).1 = true) :
    let r0 := runG c init Ghost.init pre
    let s1 := (step c r0.1 i0).1
    let g1 := ghostStep r0.1 i0 r0.2
    let unacked := g1.taken.drop g1.retired
    RoundEnv c s1 g1 post →
    unacked = bufQ s1.bufs s1.ap s1.paa ∧ unacked.length = s1.paa ∧
    (latches c s1 post).take unacked.length <+: unacked.map dl := by
  intro r0 s1 g1 unacked hpost
  obtain ⟨e1, e2⟩ := EnvOkR.append henv
  have hi : InvR r0.1 r0.2 := invR_run c pre _ _ invR_init e1
  obtain ⟨a, b, _, _, _, d⟩ := lbad_round c r0.1 r0.2 i0 post hi e2.1 hL hpost
  exact ⟨a, b, d⟩

/-- The same, header by header: the `k`-th header (k < m) handed to the raw transmitter after the LBAD
cycle — if the history is long enough for it — is the `k`-th unacknowledged one with the delayed bit set (`h = dl u`);
its words 0–2 and its sequence number are those stored at enqueue time.  (For the other link-control fields see
`dl_spec`, Props/C39.lean.) -/
theorem lbad_retransmission_kth (c : Config) (pre : List In) (i0 : In) (post : List In)
    (henv : EnvOkR c init Ghost.init (pre ++ [i0]))
    (hL : retryRequired (runG c init Ghost.init pre).1 = true) :
    let r0 := runG c init Ghost.init pre
    let s1 := (step c r0.1 i0).1
    let g1 := ghostStep r0.1 i0 r0.2
    let unacked := g1.taken.drop g1.retired
    RoundEnv c s1 g1 post →
    ∀ (k : Nat) (h : Hdr), k < unacked.length → (latches c s1 post)[k]? = some h →
      ∃ u, unacked[k]? = some u ∧ h = dl u ∧ h.delayed = true ∧ h.dw0 = u.dw0 ∧ h.dw1 = u.dw1 ∧
        h.dw2 = u.dw2 ∧ h.seq = u.seq := by
  intro r0 s1 g1 unacked hpost k h hk hget
  obtain ⟨_, _, ⟨t, ht⟩⟩ := lbad_retransmits_all_unacked_in_order_with_dl c pre i0 post henv hL hpost
  have h1 : ((latches c s1 post).take unacked.length)[k]? = some h := by
    rw [List.getElem?_take_of_lt hk]; exact hget
  have h2 : (unacked.map dl)[k]? = some h := by
    rw [← ht, List.getElem?_append_left (by
      have := (List.getElem?_eq_some_iff.1 h1).1; exact this)]
    exact h1
  rw [List.getElem?_map, List.getElem?_eq_getElem hk] at h2
  obtain rfl : dl unacked[k] = h := Option.some.inj h2
  obtain ⟨d1, d2, d3, d4, d5, _, _⟩ := dl_spec unacked[k]
  exact ⟨_, List.getElem?_eq_getElem hk, rfl, d1, d2, d3, d4, d5⟩

/-! ## Non-vacuity -/

instance (s : State) (g : Ghost) (i : In) : Decidable (EnvStepR s g i) :=
  decidable_of_iff (EnvStep s g i ∧ (retire s = true → s.pts < s.paa + (ctlOf s).nCur))
    ⟨fun ⟨a, b⟩ => ⟨a, b⟩, fun ⟨a, b⟩ => ⟨a, b⟩⟩

def decEnvOkR (c : Config) : (s : State) → (g : Ghost) → (ins : List In) → Decidable (EnvOkR c s g ins)
  | _, _, [] => isTrue trivial
  | s, g, i :: is =>
    have := decEnvOkR c (step c s i).1 (ghostStep s i g) is
    inferInstanceAs (Decidable (_ ∧ _))
instance (c : Config) (s : State) (g : Ghost) (ins : List In) : Decidable (EnvOkR c s g ins) := decEnvOkR c s g ins

def decRoundEnv (c : Config) : (s : State) → (g : Ghost) → (ins : List In) → Decidable (RoundEnv c s g ins)
  | _, _, [] => isTrue trivial
  | s, g, i :: is =>
    have := decRoundEnv c (step c s i).1 (ghostStep s i g) is
    inferInstanceAs (Decidable (_ ∧ _ ∧ _))
instance (c : Config) (s : State) (g : Ghost) (ins : List In) : Decidable (RoundEnv c s g ins) :=
  decRoundEnv c s g ins

/-- advertisement LGOOD_5, three credits, three headers (the third one a DATA header) taken and sent,
LGOOD_6 for the first, then an LBAD -/
def retryPre : List In :=
  lcIn LGOOD 5 ++ lcIn LCRD 0 ++ lcIn LCRD 1 ++ lcIn LCRD 2 ++
  [idleIn, qIn ⟨4, 1, 2, 0⟩, qIn ⟨4, 3, 4, 0⟩, qIn ⟨8, 5, 6, 0⟩] ++
  List.replicate 24 idleIn ++ lcIn LGOOD 6 ++ lcIn LBAD 0
/-- after the LBAD: `lrty_pending` for three cycles, a stalled source, a new header from the queue in the
middle of the round, then enough time to finish -/
def retryPost : List In :=
  List.replicate 3 { idleIn with lrtyPending := true } ++ List.replicate 4 idleIn ++
  List.replicate 2 { idleIn with srcReady := false } ++ lcIn LCRD 3 ++ [idleIn, qIn ⟨0, 7, 8, 0⟩] ++
  List.replicate 30 idleIn

example : EnvOkR ⟨201, 256⟩ init Ghost.init (retryPre ++ [idleIn]) := by decide +kernel
example : retryRequired (runG ⟨201, 256⟩ init Ghost.init retryPre).1 = true := by decide +kernel
example : let r0 := runG ⟨201, 256⟩ init Ghost.init retryPre
    RoundEnv ⟨201, 256⟩ (step ⟨201, 256⟩ r0.1 idleIn).1 (ghostStep r0.1 idleIn r0.2) retryPost := by
  decide +kernel
/-- two headers are unacknowledged at the LBAD; the round retransmits them with DL, the header enqueued
during the round comes after them -/
example : let r0 := runG ⟨201, 256⟩ init Ghost.init retryPre
    let s1 := (step ⟨201, 256⟩ r0.1 idleIn).1
    let g1 := ghostStep r0.1 idleIn r0.2
    (g1.taken.drop g1.retired).map (fun h => (h.dw0, h.dw1, h.seq, h.delayed)) = [(4, 3, 7, false), (8, 5, 0, false)] ∧
    (latches ⟨201, 256⟩ s1 retryPost).map (fun h => (h.dw0, h.dw1, h.seq, h.delayed)) =
      [(4, 3, 7, true), (8, 5, 0, true), (0, 7, 1, true)] := by
  decide +kernel

/-- a second LBAD in the middle of the round (while the first retransmission is on the wire): the history
up to it satisfies `RoundEnv`, and the theorem applies again from it -/
def retryPost2 : List In :=
  List.replicate 4 idleIn ++ lcIn LBAD 0
example : let r0 := runG ⟨201, 256⟩ init Ghost.init retryPre
    RoundEnv ⟨201, 256⟩ (step ⟨201, 256⟩ r0.1 idleIn).1 (ghostStep r0.1 idleIn r0.2) (retryPost2 ++ [idleIn]) ∧
    retryRequired (runG ⟨201, 256⟩ init Ghost.init (retryPre ++ [idleIn] ++ retryPost2)).1 = true ∧
    EnvOkR ⟨201, 256⟩ init Ghost.init ((retryPre ++ [idleIn] ++ retryPost2) ++ [idleIn]) := by
  decide +kernel
example : let r0 := runG ⟨201, 256⟩ init Ghost.init (retryPre ++ [idleIn] ++ retryPost2)
    let s1 := (step ⟨201, 256⟩ r0.1 idleIn).1
    let g1 := ghostStep r0.1 idleIn r0.2
    r0.1.fsm = .waitRetry ∧ r0.1.raw ≠ .idle ∧ s1.fsm = .flush ∧
    RoundEnv ⟨201, 256⟩ s1 g1 (List.replicate 30 idleIn) ∧
    (latches ⟨201, 256⟩ s1 (List.replicate 30 idleIn)).map (fun h => (h.dw0, h.dw1, h.seq, h.delayed)) =
      [(4, 3, 7, true), (8, 5, 0, true)] := by
  decide +kernel

/-! ## `ackSent` is needed

A partner that acknowledges a header *after* the LBAD but before its retransmission (acknowledgements are
sent in order and so precede the LBAD: a conforming partner cannot do this) and hands back the credit lets
a fifth header overwrite the buffer that is still to be retransmitted: with `EnvStep` alone the statement
fails.  (Replayed on the gateware: it agrees with the model on this history.) -/

def lateAckPre : List In :=
  lcIn LGOOD 5 ++ lcIn LCRD 0 ++ lcIn LCRD 1 ++ lcIn LCRD 2 ++ lcIn LCRD 3 ++
  [idleIn, qIn ⟨4, 10, 0, 0⟩, qIn ⟨4, 11, 0, 0⟩, qIn ⟨4, 12, 0, 0⟩, qIn ⟨4, 13, 0, 0⟩] ++
  List.replicate 30 idleIn ++ lcIn LBAD 0
/-- `lrty_pending` holds the round back while LGOOD_6 (first unacknowledged header), a credit and a fifth
header arrive -/
def lateAckPost : List In :=
  ([idleIn, idleIn] ++ lcIn LGOOD 6 ++ lcIn LCRD 0 ++ [idleIn, qIn ⟨4, 14, 0, 0⟩]).map
    (fun i => { i with lrtyPending := true }) ++ List.replicate 40 idleIn

example : let r0 := runG ⟨201, 256⟩ init Ghost.init lateAckPre
    let s1 := (step ⟨201, 256⟩ r0.1 idleIn).1
    let g1 := ghostStep r0.1 idleIn r0.2
    EnvOk ⟨201, 256⟩ init Ghost.init (lateAckPre ++ [idleIn] ++ lateAckPost) ∧
    ¬ EnvOkR ⟨201, 256⟩ init Ghost.init (lateAckPre ++ [idleIn] ++ lateAckPost) ∧
    retryRequired r0.1 = true ∧
    (g1.taken.drop g1.retired).map (fun h => (h.dw1, h.seq)) = [(10, 6), (11, 7), (12, 0), (13, 1)] ∧
    (latches ⟨201, 256⟩ s1 lateAckPost).map (fun h => (h.dw1, h.seq, h.delayed)) =
      [(14, 2, true), (11, 7, true), (12, 0, true), (13, 1, true), (14, 2, true)] := by
  decide +kernel

end LunaVerif.PacketTx
