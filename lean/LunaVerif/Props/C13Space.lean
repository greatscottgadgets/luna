import LunaVerif.Props.C13Handshake
/-!
# C13 — "cannot take a whole packet", arithmetically

`nak_iff_cannot_take` says NAK ⇔ the packet carries the expected data toggle and a byte of it met a full FIFO.  Here: if, when the OUT token has
arrived, `space_available` is at least the length of the packet that follows, no byte meets a full FIFO —
whatever the consumer does meanwhile — and the packet is ACKed (`ack_when_space`).  With
`ping_ack_iff_space` (`space_available ≥ max_packet_size`) this is the promise of a PING ACK.
-/
namespace LunaVerif.StreamOutEndpoint
open LunaVerif

/-- entries held by the FIFO (committed, uncommitted and un-finalised), from `space_available` -/
def used (c : Config) (s : State) : Nat := c.depth - TxnFifo.space c.depth s.fifo

theorem used_eq_held {c : Config} {s : State} {q : TxnFifo.Queue Nat} (h : TxnFifo.Rel c.depth s.fifo q) :
    used c s = q.held := by
  have := h.hlen
  simp only [used, TxnFifo.rel_space h]; omega

theorem used_add_space {c : Config} {s : State} {q : TxnFifo.Queue Nat} (h : TxnFifo.Rel c.depth s.fifo q) :
    used c s + TxnFifo.space c.depth s.fifo = c.depth := by
  have := h.hlen
  simp only [used, TxnFifo.rel_space h]; omega

theorem used_step {c : Config} {p : Phase} {s : State} {w : WState} {del : List Entry} (i : In)
    (hsim : Sim c p s w del) : ∃ q, TxnFifo.Rel c.depth s.fifo q ∧ used c s = q.held ∧
      used c (step c s i).1 = (q.step c.depth (fifoIn c s i)).held := by
  obtain ⟨q, hrel, _, _⟩ := hsim.fifo
  have hrel' := TxnFifo.rel_step hrel (fifo_inputs_legal c s i (view_not_both hsim.det.view))
  exact ⟨q, hrel, used_eq_held hrel, used_eq_held (c := c) (s := (step c s i).1) hrel'⟩

theorem used_step_le {c : Config} {p : Phase} {s : State} {w : WState} {del : List Entry} (i : In)
    (hsim : Sim c p s w del) :
    used c (step c s i).1 ≤ used c s + (if (comb c s i).writeEn = true then 1 else 0) := by
  obtain ⟨q, -, h0, h1⟩ := used_step i hsim
  rw [h0, h1]
  exact TxnFifo.Queue.held_step_le c.depth q (fifoIn c s i)

/-- the occupancy bound that keeps the running packet from meeting a full FIFO -/
def HeldInv (c : Config) (H0 : Nat) (p : Phase) (s : State) : Prop :=
  p.passing = true → used c s ≤ H0 + p.handled

theorem lost_imp {c : Config} {s : State} {i : In} (h : (comb c s i).dataIsLost = true) :
    s.det.out.next = true ∧ TxnFifo.full c.depth s.fifo = true ∧ (comb c s i).writeEn = false := by
  simp only [comb] at h ⊢
  grind

theorem writeEn_imp {c : Config} {s : State} {i : In} (h : (comb c s i).writeEn = true) :
    s.det.out.next = true := by
  simp only [comb] at h
  grind

theorem no_write_of_no_next {c : Config} {s : State} (i : In) (h : s.det.out.next = false) :
    (comb c s i).writeEn = false := by
  cases hw : (comb c s i).writeEn
  · rfl
  · exact absurd (writeEn_imp hw) (by simp [h])

theorem full_imp_used {c : Config} {p : Phase} {s : State} {w : WState} {del : List Entry}
    (hsim : Sim c p s w del) (h : TxnFifo.full c.depth s.fifo = true) : used c s = c.depth := by
  obtain ⟨q, hrel, _, _⟩ := hsim.fifo
  rw [used_eq_held hrel]
  rw [TxnFifo.rel_full hrel] at h
  simpa using h

/-- `N` = a bound on the packet's length, `H0` = the entries held when the token arrived -/
theorem no_loss_step {c : Config} {H0 N : Nat} {p p1 : Phase} {s : State} {w : WState} {del : List Entry} {m : In}
    (hfit : H0 + N ≤ c.depth) (hsim : Sim c p s w del) (hh : HeldInv c H0 p s) (hs : p.step c m = some p1)
    (hn : m.tokNew = false) (hle : p.handled + p.now.toList.length ≤ N) :
    (comb c s m).dataIsLost = false ∧ HeldInv c H0 p1 (step c s m).1 := by
  obtain ⟨hnx, -⟩ := hsim.det.view.next
  refine ⟨?_, fun hp1 => ?_⟩
  · -- a lost byte is presented in this cycle (so it is not yet handled) and meets a full FIFO
    cases hl : (comb c s m).dataIsLost
    · rfl
    · obtain ⟨h1, hfull, _⟩ := lost_imp hl
      rw [hnx] at h1
      cases hnow : p.now with
      | none => rw [hnow] at h1; cases h1
      | some x =>
        have := full_imp_used hsim hfull
        have := hh (now_some hnow).1
        rw [hnow] at hle
        simp only [Option.toList_some, List.length_singleton] at hle
        omega
  · rcases handled_step hs hn with rfl | ⟨hh', hpp, _⟩
    · cases hp1
    · have hp := hpp hp1
      have hu := used_step_le m hsim
      have hw : (if (comb c s m).writeEn = true then 1 else 0) ≤ p.now.toList.length := by
        split
        · rename_i hwe
          have := writeEn_imp hwe
          rw [hnx] at this
          cases hnow : p.now <;> simp_all
        · omega
      have := hh hp
      omega

theorem no_loss_run {c : Config} (hmps : 1 ≤ c.mps) {H0 N : Nat} (hfit : H0 + N ≤ c.depth) {pk p' : Phase} {i : In}
    {pid : Nat} {bytes : List Nat} (h3 : pk.step c i = some p') (h4 : pk.answered c i = some (pid, bytes))
    (hN : bytes.length ≤ N) (mid : List In) :
    ∀ {p : Phase} {s : State} {w : WState} {del : List Entry}, Sim c p s w del → HeldInv c H0 p s →
      Phase.run c p mid = some pk → (∀ j ∈ mid, j.tokNew = false) → anyLost c s (mid ++ [i]) = false := by
  induction mid with
  | nil =>
    intro p s w del hsim hh hrun _
    simp only [Phase.run, Option.some.injEq] at hrun; subst hrun
    have hle := Nat.le_trans (Nat.le_of_eq (answered_handled h4).2.symm) hN
    have := (no_loss_step hfit hsim hh h3 (answered_tokNew h3 h4) hle).1
    simp [anyLost, this]
  | cons m ms ih =>
    intro p s w del hsim hh hrun hn
    have hle := Nat.le_trans (handled_le_answered hn hrun h4) hN
    obtain ⟨p1, hs, hrun⟩ := Phase.run_cons hrun
    obtain ⟨hl, hh1⟩ := no_loss_step hfit hsim hh hs (hn m (by simp)) hle
    have := ih (sim_step hmps hsim hs) hh1 hrun (fun j hj => hn j (by simp [hj]))
    simp only [List.cons_append, anyLost, hl, Bool.false_or]
    exact this

/-- **ack_when_space** (the arithmetic half of `nak_iff_cannot_take`; with `ping_ack_iff_space` the promise of
a PING ACK).  In the setting of `nak_iff_cannot_take`: if `space_available`, when the token has arrived, is at
least the length of the data packet that follows, then — whatever the consumer does meanwhile — no byte of
the packet meets a full FIFO and the response is ACK, not NAK. -/
theorem ack_when_space (c : Config) (hmps : 1 ≤ c.mps) (pre mid : List In) (i : In) (t : Tok) (pk p' : Phase)
    (pid : Nat) (bytes : List Nat)
    (h1 : Phase.run c .idle pre = some (.tok t)) (h2 : Phase.run c (.tok t) mid = some pk)
    (hnt : ∀ j ∈ mid, j.tokNew = false) (h3 : pk.step c i = some p')
    (h4 : pk.answered c i = some (pid, bytes))
    (hspace : bytes.length ≤ TxnFifo.space c.depth (runState c init pre).fifo) :
    let s0 := runState c init pre
    let s := runState c s0 mid
    anyLost c s0 (mid ++ [i]) = false ∧ (outOf c s i).ack = true ∧ (outOf c s i).nak = false := by
  intro s0 s
  obtain ⟨w0, _, hsim0, _⟩ := sim_after hmps h1
  obtain ⟨q, hrel, _, _⟩ := hsim0.fifo
  have hfit : used c s0 + bytes.length ≤ c.depth := by
    have := used_add_space hrel
    show used c (runState c init pre) + bytes.length ≤ c.depth
    omega
  have hnl : anyLost c s0 (mid ++ [i]) = false :=
    no_loss_run hmps hfit h3 h4 (Nat.le_refl _) mid hsim0 (fun _ => Nat.le_refl _) h2 hnt
  obtain ⟨hnak, hack⟩ := nak_iff_cannot_take c hmps pre mid i t pk p' pid bytes h1 h2 hnt h3 h4
  refine ⟨hnl, ?_, ?_⟩
  · exact hack.mpr (by simp [s0, hnl])
  · cases hk : (outOf c s i).nak
    · rfl
    · have := (hnak.mp hk).2
      rw [hnl] at this; exact absurd this (by simp)

/-- **ping_ack_promise**: if `space_available ≥ max_packet_size` when the OUT token has arrived (the condition
under which a PING is ACKed, `ping_ack_iff_space`), the data packet that follows is ACKed. -/
theorem ping_ack_promise (c : Config) (hmps : 1 ≤ c.mps) (pre mid : List In) (i : In) (t : Tok) (pk p' : Phase)
    (pid : Nat) (bytes : List Nat)
    (h1 : Phase.run c .idle pre = some (.tok t)) (h2 : Phase.run c (.tok t) mid = some pk)
    (hnt : ∀ j ∈ mid, j.tokNew = false) (h3 : pk.step c i = some p')
    (h4 : pk.answered c i = some (pid, bytes))
    (hspace : c.mps ≤ TxnFifo.space c.depth (runState c init pre).fifo) :
    (outOf c (runState c (runState c init pre) mid) i).ack = true ∧
    (outOf c (runState c (runState c init pre) mid) i).nak = false := by
  exact (ack_when_space c hmps pre mid i t pk p' pid bytes h1 h2 hnt h3 h4
    (Nat.le_trans (answered_le_mps h2 h4) hspace)).2

/-! ### Non-vacuity: a 4-byte packet into an empty 7-entry FIFO with a stalled consumer -/
example :
    let c : Config := ⟨2, 4, 7⟩
    let idl := idleIn 2 0 false
    let pre := [idl, { idl with tokNew := true }]
    let mid := [idl] ++ [11, 12, 13, 14].map (fun b => { idl with rx := ⟨true, true, b, false, false⟩ }) ++
      [{ idl with rx := ⟨true, false, 0, false, false⟩ }, { idl with rx := ⟨false, false, 0, true, false⟩ }]
    let i := { idl with rxReady := true }
    Phase.run c .idle pre = some (.tok ⟨2, true, false⟩) ∧
    Phase.run c (.tok ⟨2, true, false⟩) mid = some (.finByte ⟨2, true, false⟩ 0 [11, 12, 13] (some 14) true) ∧
    mid.all (fun j => !j.tokNew) = true ∧
    (Phase.finByte ⟨2, true, false⟩ 0 [11, 12, 13] (some 14) true).step c i
      = some (.finStrobe ⟨2, true, false⟩ 0 [11, 12, 13, 14] true true) ∧
    (Phase.finByte ⟨2, true, false⟩ 0 [11, 12, 13] (some 14) true).answered c i = some (0, [11, 12, 13, 14]) ∧
    c.mps ≤ TxnFifo.space c.depth (runState c init pre).fifo := by decide +kernel

end LunaVerif.StreamOutEndpoint
