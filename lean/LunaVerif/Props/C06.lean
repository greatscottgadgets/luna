import LunaVerif.Model.Usb2.SetupDecoder
import LunaVerif.Core.UtmiTrack
/-!
# C06 — SETUP requests are decoded exactly and survive earlier corrupted packets

"The control endpoint reports a new setup request iff a SETUP token addressed to the device's
control endpoint is followed by a CRC-valid data packet of exactly 8 bytes, and the reported
request type, request, value, index and length equal those bytes (little-endian); the SETUP is
acknowledged once, no earlier than the inter-packet gap.  A preceding corrupted, aborted or
unrelated packet never causes a later valid SETUP transaction to be missed."

The model (`Model/Usb2/SetupDecoder.lean`) is the repaired gateware (F2, F2b, F24).  Histories are
rendered packet lists (`Core/Utmi.lean`): arbitrary bytes, lengths, wait cycles, don't-care data.

This file: the events (`trace`: what each cycle causes, the form every theorem is stated in; `observed`: what the
ports show; `observed_trace` ties the two), one cycle of each component, packet boundaries.  The packet-level theorems
(`nondata_packet_silent`, `garbage_keeps_boundary`, `packet_exact`, `setup_reported_iff`,
`earlier_garbage_is_harmless`, …) are in `Lemmas/C06Packet.lean`, `C06Exact.lean`, `C06History.lean`.

Environment assumptions, explicit in the theorems:
* `p.wf` for every packet (≥ 1 lead-in cycle, ≥ 1 idle cycle afterwards);
* `gapOk c p`: a packet that starts with a data PID is followed by ≥ delay + 3 idle cycles (the host
  waits for the handshake); every other packet may be followed by a single idle cycle;
* `c.delay ≤ c.counterMax + 1`; 8-bit byte values: of the SETUP data packet (`setup_transaction_exact`), behind a
  data PID (`packet_exact`), of every packet (the history theorems: `LegalFrom`).
-/
namespace LunaVerif.SetupDecoder
open LunaVerif.Utmi LunaVerif.DataCrc LunaVerif.Crc

inductive Event
  | received (requestType request value index length : Nat)   -- `packet.received` with the fields
  | ack                                                        -- `ack`
deriving Repr, DecidableEq

/-- the registered `received` strobe held in a state (on the port in the next cycle) -/
def latched (s : State) : List Event :=
  if s.dec.received then [.received s.dec.requestType s.dec.request s.dec.value s.dec.index s.dec.length] else []

def outEvents (o : Out) : List Event :=
  (if o.received then [.received o.requestType o.request o.value o.index o.length] else []) ++
  (if o.ack then [.ack] else [])

def observed (c : Config) (s : State) (h : List RxCycle) : List Event := (run c s h).flatMap outEvents

/-- Events caused by one cycle: its combinational `ack`, then the `received` strobe its clock edge latches. -/
def stepEvents (c : Config) (s : State) (i : RxCycle) : List Event :=
  (if (step c s i).2.ack then [.ack] else []) ++ latched (step c s i).1

def trace (c : Config) : State → List RxCycle → List Event
  | _, [] => []
  | s, i :: is => stepEvents c s i ++ trace c (step c s i).1 is

def gapOk (c : Config) (p : RxPacket) : Prop :=
  (∃ pid rest, p.bytes = pid :: rest ∧ isDataPid pid = true) → c.delay + 3 ≤ p.gap.length

theorem trace_append (c : Config) (s : State) (h1 h2 : List RxCycle) :
    trace c s (h1 ++ h2) = trace c s h1 ++ trace c (final c s h1) h2 := by
  induction h1 generalizing s with
  | nil => rfl
  | cons i is ih => simp [trace, final, ih]

theorem final_append (c : Config) (s : State) (h1 h2 : List RxCycle) :
    final c s (h1 ++ h2) = final c (final c s h1) h2 := by
  induction h1 generalizing s with
  | nil => rfl
  | cons i is ih => simp [final, ih]

theorem observed_trace (c : Config) (s : State) (h : List RxCycle) :
    observed c s h ++ latched (final c s h) = latched s ++ trace c s h := by
  induction h generalizing s with
  | nil => simp [observed, run, final, trace]
  | cons i is ih =>
    have := ih (step c s i).1
    simp only [observed] at this
    simp only [observed, run, final, trace, List.flatMap_cons, List.append_assoc, this]
    simp [outEvents, stepEvents, step, latched]
    rfl

/-! ## One cycle, one component at a time

`step` wires the components; each of the following speaks of one of them, with the others' outputs as
variables. -/

theorem step_tok (c : Config) (s : State) (i : RxCycle) : (step c s i).1.tok = tokStep c.addr s.tok i := rfl

theorem step_ds (c : Config) (s : State) (i : RxCycle) :
    (step c s i).1.ds = deserStep s.ds (output s.crc) i := rfl

theorem step_dec (c : Config) (s : State) (i : RxCycle) :
    ((step c s i).1.dec, (step c s i).2.ack) =
      decStep c s.dec s.tok.newToken s.tok.pid s.ds.newPacket s.ds.length s.ds.packet (s.counter == c.delay) := rfl

theorem step_counter (c : Config) (s : State) (i : RxCycle) :
    (step c s i).1.counter = counterNext c s.counter s.ds.newPacket := rfl

theorem decStep_calm (c : Config) (k : Dec) (tokNew : Bool) (tokPid : Nat) (dsNew : Bool) (dsLen : Nat)
    (p : List Nat) (tx : Bool) (hn : dsNew = false) (h : k.fsm ≠ .delay) :
    (decStep c k tokNew tokPid dsNew dsLen p tx).1.fsm ≠ .delay ∧
    (decStep c k tokNew tokPid dsNew dsLen p tx).1.received = false ∧
    (decStep c k tokNew tokPid dsNew dsLen p tx).2 = false := by
  subst hn
  cases hf : k.fsm with
  | delay => exact absurd hf h
  | idle => simp only [decStep, hf]; split <;> simp
  | readData => simp only [decStep, hf, Bool.false_eq_true, if_false]; split <;> simp

theorem decStep_armed (c : Config) (k : Dec) (tokNew : Bool) (tokPid : Nat) (dsNew : Bool) (dsLen : Nat)
    (p : List Nat) (tx : Bool) (hn : dsNew = false) (h : k.fsm ≠ .delay) :
    (tokPid == SETUP_PID && (decStep c k tokNew tokPid dsNew dsLen p tx).1.fsm == .readData)
      = (tokPid == SETUP_PID && (k.fsm == .readData || tokNew)) := by
  subst hn
  cases hf : k.fsm with
  | delay => exact absurd hf h
  | idle => cases hq : (tokPid == SETUP_PID) <;> cases tokNew <;> simp [decStep, hf, hq]
  | readData => cases hq : (tokPid == SETUP_PID) <;> cases tokNew <;> simp_all [decStep]

theorem decStep_strobe (c : Config) (k : Dec) (tokPid dsLen : Nat) (p : List Nat) (tx : Bool) (h : k.fsm ≠ .delay) :
    decStep c k false tokPid true dsLen p tx =
      if k.fsm == .readData && (dsLen == 8 && tokPid == SETUP_PID) then
        ({ k with requestType := pk p 0, request := pk p 1, value := pk p 2 + 256 * pk p 3,
                  index := pk p 4 + 256 * pk p 5, length := pk p 6 + 256 * pk p 7, received := true,
                  fsm := if tx || c.hs then .idle else .delay }, tx || c.hs)
      else ({ k with received := false, fsm := .idle }, false) := by
  cases hf : k.fsm with
  | delay => exact absurd hf h
  | idle => simp [decStep, hf]
  | readData =>
    cases hq : (dsLen == 8 && tokPid == SETUP_PID) <;> cases ht : (tx || c.hs) <;> simp [decStep, hf, hq, ht]

/-- **setup_reported_iff, "only if" direction at cycle level (partial)**: whatever the history,
a `received` strobe is only ever latched by a decoder in READ_DATA on a deserializer strobe of
length exactly 8 while the token detector's PID is SETUP (it is cleared by tokens for other
devices and replaced by any other token of ours) — and `ack` is only raised then or out of
INTERPACKET_DELAY. -/
theorem setup_reported_iff_partial (c : Config) (s : State) (i : RxCycle) :
    ((step c s i).1.dec.received = true →
      s.dec.fsm = .readData ∧ s.ds.newPacket = true ∧ s.ds.length = 8 ∧ s.tok.pid = SETUP_PID) ∧
    ((step c s i).2.ack = true →
      s.dec.fsm = .delay ∨ (s.dec.fsm = .readData ∧ s.ds.newPacket = true ∧ s.ds.length = 8 ∧
        s.tok.pid = SETUP_PID)) := by
  cases hn : s.ds.newPacket with
  | false =>
    by_cases hf : s.dec.fsm = .delay
    · constructor
      · simp only [step, decStep, hf]; split <;> simp
      · exact fun _ => Or.inl hf
    · obtain ⟨_, h2, h3⟩ := decStep_calm c s.dec s.tok.newToken s.tok.pid s.ds.newPacket s.ds.length s.ds.packet
        (s.counter == c.delay) hn hf
      simp only [← step_dec c s i] at h2 h3
      exact ⟨fun h => absurd h (by rw [h2]; simp), fun h => absurd h (by rw [h3]; simp)⟩
  | true =>
    cases hf : s.dec.fsm with
    | idle => simp [step, decStep, hf]
    | delay => exact ⟨by simp only [step, decStep, hf]; split <;> simp, fun _ => Or.inl rfl⟩
    | readData =>
      cases hq : (s.ds.length == 8 && s.tok.pid == SETUP_PID) with
      | true =>
        simp only [Bool.and_eq_true, beq_iff_eq] at hq
        exact ⟨fun _ => ⟨rfl, rfl, hq⟩, fun _ => Or.inr ⟨rfl, rfl, hq⟩⟩
      | false => constructor <;> simp [step, decStep, hf, hn, hq] <;> split <;> simp

theorem tokStep_idle {t : Tok} (h : t.fsm = .idle) (addr : Nat) (i : RxCycle) :
    tokStep addr t i = { t with newToken := false, fsm := if i.active then .readPid else .idle } := by
  simp only [tokStep, h]

theorem tokStep_inactive (addr : Nat) (t : Tok) (i : RxCycle) (hi : i.active = false) :
    (tokStep addr t i).fsm = .idle := by
  cases hf : t.fsm <;> simp only [tokStep, hf, hi, Bool.not_false, Bool.false_eq_true, if_false, if_true] <;>
    (repeat' split) <;> rfl

theorem tokStep_active (addr : Nat) (t : Tok) (i : RxCycle) (hi : i.active = true) :
    (tokStep addr t i).pid = t.pid ∧ (tokStep addr t i).newToken = false ∧ (tokStep addr t i).fsm ≠ .idle := by
  cases hf : t.fsm <;> simp [tokStep, hf, hi] <;> (repeat' split) <;> simp

theorem tokStep_wait (addr : Nat) (t : Tok) (d : Nat) (h : t.fsm ≠ .idle) (hn : t.newToken = false) :
    tokStep addr t (waitC d) = t := by
  obtain ⟨fsm, cp, td, pid, a, e, nt⟩ := t
  subst hn
  cases fsm <;> simp [tokStep, waitC] at h ⊢

/-- `rx_active` low sends the deserializer to IDLE from every state (from CAPTURE_DATA: the F2
repair); only out of CAPTURE_DATA can it strobe. -/
theorem deserStep_inactive (d : Deser) (crc : Nat) (i : RxCycle) (hi : i.active = false) :
    (deserStep d crc i).fsm = .idle ∧ (d.fsm ≠ .capture → (deserStep d crc i).newPacket = false) := by
  cases hf : d.fsm <;> simp [deserStep, hf, hi] <;> (repeat' split) <;> simp

theorem deserStep_active (d : Deser) (crc : Nat) (i : RxCycle) (hi : i.active = true) :
    (deserStep d crc i).newPacket = false := by
  cases hf : d.fsm <;> simp [deserStep, hf, hi] <;> (repeat' split) <;> simp

theorem deserStep_apLen (d : Deser) (crc : Nat) (i : RxCycle) :
    (deserStep d crc i).activePacket.length = d.activePacket.length := by
  obtain ⟨a, v, x⟩ := i
  cases hf : d.fsm <;> cases a <;> cases v <;> simp [deserStep, hf] <;> (repeat' split) <;> simp

/-- The three registers of the deserializer's end-of-packet CRC comparison.  They are NOT cleared at
the start of a packet, so for data packets with fewer than two bytes after the PID the comparison
is made on (partly) stale values. -/
structure Stale where
  lw  : Nat    -- last_word
  lwc : Nat    -- last_word_crc
  lbc : Nat    -- last_byte_crc
deriving Repr, DecidableEq

def staleOf (s : State) : Stale := ⟨s.ds.lastWord, s.ds.lastWordCrc, s.ds.lastByteCrc⟩

theorem stale_not_capture (c : Config) (s : State) (i : RxCycle) (h : s.ds.fsm ≠ .capture) :
    staleOf (step c s i).1 = staleOf s := by
  cases hf : s.ds.fsm with
  | capture => exact absurd hf h
  | readPid => simp only [step, deserStep, hf, staleOf]; (repeat' split) <;> rfl
  | idle => simp [step, deserStep, hf, staleOf]
  | irrelevant => simp [step, deserStep, hf, staleOf]

/-! ## Packet boundaries -/

/-- The state at a packet boundary of a legal history: token detector and deserializer in IDLE, no
deserializer strobe pending, decoder not waiting for the timer.  Everything else is arbitrary
(stale buffers and CRC snapshots, any CRC register, any timer count, a token strobe may still be
latched, the decoder may be in IDLE or READ_DATA); `apLen`: the capture buffer, a list in the model, has
its 10 entries. -/
structure Boundary (s : State) : Prop where
  tok   : s.tok.fsm = .idle
  ds    : s.ds.fsm = .idle
  noPkt : s.ds.newPacket = false
  dec   : s.dec.fsm ≠ .delay
  apLen : s.ds.activePacket.length = 10

def Calm (s : State) : Prop := s.ds.newPacket = false ∧ s.dec.fsm ≠ .delay

theorem Boundary.calm {s : State} (h : Boundary s) : Calm s := ⟨h.noPkt, h.dec⟩

theorem boundary_init : Boundary init := ⟨rfl, rfl, rfl, by simp [init], by simp [init]⟩

theorem calm_dec (c : Config) (s : State) (i : RxCycle) (h : Calm s) :
    (step c s i).1.dec.fsm ≠ .delay ∧ stepEvents c s i = [] := by
  obtain ⟨h1, h2, h3⟩ := decStep_calm c s.dec s.tok.newToken s.tok.pid s.ds.newPacket s.ds.length s.ds.packet
    (s.counter == c.delay) h.1 h.2
  simp only [← step_dec c s i] at h1 h2 h3
  exact ⟨h1, by simp [stepEvents, latched, h2, h3]⟩

theorem apLen_step (c : Config) (s : State) (i : RxCycle) (h : s.ds.activePacket.length = 10) :
    (step c s i).1.ds.activePacket.length = 10 :=
  (deserStep_apLen s.ds _ i).trans h

theorem invariant_run (c : Config) (P : State → Prop) (Q : RxCycle → Prop)
    (hstep : ∀ s i, Q i → P s → P (step c s i).1) (h : List RxCycle) (s : State) (hq : ∀ i ∈ h, Q i)
    (hs : P s) : P (final c s h) := by
  induction h generalizing s with
  | nil => exact hs
  | cons i is ih => exact ih _ (fun j hj => hq j (by simp [hj])) (hstep s i (hq i (by simp)) hs)

theorem silent_run (c : Config) (P : State → Prop) (Q : RxCycle → Prop)
    (hstep : ∀ s i, Q i → P s → P (step c s i).1 ∧ stepEvents c s i = []) (h : List RxCycle) (s : State)
    (hq : ∀ i ∈ h, Q i) (hs : P s) : trace c s h = [] ∧ P (final c s h) := by
  induction h generalizing s with
  | nil => exact ⟨rfl, hs⟩
  | cons i is ih =>
    obtain ⟨h1, h2⟩ := hstep s i (hq i (by simp)) hs
    obtain ⟨h3, h4⟩ := ih _ (fun j hj => hq j (by simp [hj])) h1
    exact ⟨by rw [trace, h2, h3]; rfl, h4⟩

theorem apLen_run (c : Config) (h : List RxCycle) (s : State) (hs : s.ds.activePacket.length = 10) :
    (final c s h).ds.activePacket.length = 10 :=
  invariant_run c (·.ds.activePacket.length = 10) (fun _ => True) (fun s i _ => apLen_step c s i) h s
    (fun _ _ => trivial) hs

theorem boundary_idle (c : Config) (s : State) (g : Nat) (h : Boundary s) :
    Boundary (step c s (idleC g)).1 ∧ stepEvents c s (idleC g) = [] := by
  obtain ⟨d1, d2⟩ := deserStep_inactive s.ds (output s.crc) (idleC g) rfl
  obtain ⟨k1, k2⟩ := calm_dec c s (idleC g) h.calm
  exact ⟨⟨tokStep_inactive c.addr s.tok _ rfl, d1, d2 (by rw [h.ds]; simp), k1, apLen_step c s _ h.apLen⟩, k2⟩

theorem boundary_idles (c : Config) (gs : List Nat) (s : State) (h : Boundary s) :
    trace c s (gs.map idleC) = [] ∧ Boundary (final c s (gs.map idleC)) :=
  silent_run c Boundary (∃ g, · = idleC g) (fun s _ ⟨g, e⟩ h => e ▸ boundary_idle c s g h) _ s (mem_idles gs) h

/-! ## A SETUP transaction: its token, its two packets, the event filters (used by `Lemmas/C06History`) -/

/-- the three bytes of a SETUP token this device accepts: valid token PID with nibble 0b1101,
CRC5 (bit-serial definition) over the 11 address/endpoint bits correct, address field = ours -/
def IsSetupTokenFor (addr tp b1 b2 : Nat) : Prop :=
  isTokenPid tp = true ∧ tp % 16 = SETUP_PID ∧
  (b2 / 8) % 32 = usb2Crc5 (b1 % 256 + 256 * (b2 % 8)) ∧ (b1 % 256 + 256 * (b2 % 8)) % 128 = addr

/-- State after the first idle cycle that follows a SETUP token addressed to this device. -/
structure TokDone (s : State) : Prop where
  tok    : s.tok.fsm = .idle
  strobe : s.tok.newToken = true
  pid    : s.tok.pid = SETUP_PID
  ds     : s.ds.fsm = .idle
  noPkt  : s.ds.newPacket = false
  dec    : s.dec.fsm ≠ .delay
  apLen  : s.ds.activePacket.length = 10

theorem token_pid_not_data (b : Nat) (h : isTokenPid b = true) : isDataPid b = false := by
  simp only [isTokenPid, isDataPid, Bool.and_eq_true, Bool.or_eq_true, beq_iff_eq] at h ⊢
  cases hd : (b % 4 == 3) with
  | false => simp
  | true => simp at hd; omega

theorem data_pid_not_token (b : Nat) (h : isDataPid b = true) : isTokenPid b = false := by
  cases ht : isTokenPid b with
  | false => rfl
  | true => rw [token_pid_not_data b ht] at h; exact absurd h (by simp)

def setupTokenPacket (lead : List Nat) (tp : Nat) (w0 : List Nat) (b1 : Nat) (w1 : List Nat) (b2 : Nat)
    (w2 : List Nat) (gap : List Nat) : RxPacket :=
  ⟨lead, [(tp, w0), (b1, w1), (b2, w2)], gap⟩

def dataPacket (lead : List Nat) (dpid : Nat) (v0 : List Nat) (body : List (Nat × List Nat)) (gap : List Nat) :
    RxPacket :=
  ⟨lead, (dpid, v0) :: body, gap⟩

def receivedOnly : List Event → List Event
  | [] => []
  | .ack :: es => receivedOnly es
  | e :: es => e :: receivedOnly es
def ackCount : List Event → Nat
  | [] => 0
  | .ack :: es => ackCount es + 1
  | _ :: es => ackCount es

/-! ## Non-vacuity: concrete histories satisfying the hypotheses, evaluated on the model -/

def demoCfg : Config := ⟨0, false, 10, 640⟩
/-- SETUP token to address 0, endpoint 0 -/
def demoToken : RxPacket := setupTokenPacket [0] 0x2D [] 0x00 [3] 0x10 [] [0]
/-- GET_DESCRIPTOR(device, 64): the eight payload bytes -/
def demoBody : List Nat := [0x80, 6, 0, 1, 0, 0, 0x40, 0]
/-- DATA0 with `demoBody` and its correct CRC16, followed by the handshake gap -/
def demoData : RxPacket :=
  dataPacket [0, 0] 0xC3 [] ((demoBody ++ [usb2Crc16 demoBody % 256, usb2Crc16 demoBody / 256]).map (fun b => (b, [])))
    (List.replicate 14 0)
/-- the F2 trigger: a short data packet with a corrupted CRC -/
def demoBadData : RxPacket := dataPacket [0] 0x4B [] [(1, []), (2, []), (3, [9]), (0xFF, []), (0xFF, [])] (List.replicate 13 0)
/-- the F24 trigger: a foreign OUT token (address 33, endpoint 1) -/
def demoForeignOut : RxPacket := ⟨[0], [(0xE1, []), (0xA1, []), (0xD0, [])], [0]⟩

example : IsSetupTokenFor 0 0x2D 0x00 0x10 := by unfold IsSetupTokenFor; decide +kernel
example : demoToken.wf ∧ demoData.wf ∧ demoBadData.wf ∧ demoForeignOut.wf := by decide
example : gapOk demoCfg demoBadData ∧ gapOk demoCfg demoData := ⟨fun _ => by decide, fun _ => by decide⟩
example : usb2Crc16 demoBody = usb2Crc16 demoBody % 256 + 256 * (usb2Crc16 demoBody / 256) ∧
    usb2Crc16 demoBody % 256 < 256 ∧ usb2Crc16 demoBody / 256 < 256 := by decide +kernel
/-- "corrupted DATA1 (F2), SETUP, corrupted DATA (the decoder stays armed), foreign OUT + its DATA0 (F24: the DATA0 is
not reported and takes the decoder to IDLE), SETUP, DATA0": only the last transaction is reported, once, and ACKed once. -/
example : trace demoCfg init (renderAll [demoBadData, demoToken, demoBadData, demoForeignOut, demoData,
      demoToken, demoData])
    = [.received 0x80 6 0x100 0 0x40, .ack] := by decide +kernel

end LunaVerif.SetupDecoder
