import LunaVerif.Model.Usb3.TrainingSets
/-!
# C43 — Training ordered sets are emitted and detected exactly

"An emitter asked for a burst produces exactly the configured number of consecutive ordered sets with
the correct symbols (and requested hot-reset/loopback/no-scrambling bits for TS2), and a detector
reports once for every configured number of consecutive, well-formed ordered sets (allowing idle
gaps), reports their configuration bits, and never reports on other data."

All theorems are for arbitrary set data, first-word ctrl, burst size (≥ 1 where stated) and config
flag, and for arbitrary input histories.  The emitter theorems and the closing `example`s take the history oldest
cycle first, as the model's `run` does; on the detector side `stateAfter`, `feed`, `Parse`, `track`, `pulseAfter` and
the `seg` of `detector_language` take it most recent cycle first (as in C55).

The language the detector accepts, AS CODED, is written down twice below: as the relation `Parse` (for "never reports on
other data") and as the function `track` (for "reports once per N sets"); no theorem relates the two.  Both say:
* a set is its L words in order, each with the right ctrl; invalid cycles may sit between the words
  of a set; a valid non-matching word inside a set ends the attempt and clears the count;
* the cycle after the last word of a set is either the first word of the next set, or an invalid
  cycle — after which ANY words, valid or not, are skipped (count kept) until the next valid first
  word — or a valid word that is not a first word, which clears the count;
* after a mismatch one further cycle is not looked at (`NONE_DETECTED`).
-/

namespace LunaVerif.TS.Emitter

/-- Specification: a flat word counter.  `none` = idle; `some p` = `p` words of the current burst
(of `L * burst` words) have been transferred. -/
def specStep (c : Config) (a : Option Nat) (i : In) : Option Nat × Out :=
  match a with
  | none => (if i.start then some 0 else none, quietOut)
  | some p =>
    let j := p % c.setData.length
    let fin := p + 1 == c.setData.length * c.burst
    (if i.ready then (if fin then (if i.start then some 0 else none) else some (p + 1)) else some p,
     ⟨true, wordData c j i, if j == 0 then c.firstCtrl else 0, j == 0, j + 1 == c.setData.length,
      i.ready && fin⟩)

def specRun (c : Config) : Option Nat → List In → List Out
  | _, [] => []
  | a, x :: xs => (specStep c a x).2 :: specRun c (specStep c a x).1 xs

def abs (c : Config) (s : State) : Option Nat :=
  match s.fsm with
  | .idle => none
  | .word k => some (s.sent * c.setData.length + k)

def Inv (c : Config) (s : State) : Prop :=
  match s.fsm with
  | .idle => s.sent = 0
  | .word k => k < c.setData.length ∧ s.sent < c.burst

/-- the flat counter is at its end when both counters of the emitter are -/
theorem fin_eq (L T k s : Nat) (hk : k < L) (hs : s < T) :
    (s * L + k + 1 == L * T) = (k + 1 == L && s + 1 == T) := by
  rw [Bool.eq_iff_iff]
  simp only [beq_iff_eq, Bool.and_eq_true]
  have hsm : (s + 1) * L = s * L + L := Nat.succ_mul s L
  have hle : (s + 1) * L ≤ T * L := Nat.mul_le_mul_right L (by omega)
  have hc : L * T = T * L := Nat.mul_comm L T
  constructor
  · intro h
    have hk1 : k + 1 = L := by omega
    refine ⟨hk1, ?_⟩
    have : (s + 1) * L = T * L := by omega
    exact Nat.eq_of_mul_eq_mul_right (by omega) this
  · rintro ⟨h1, h2⟩
    subst h2; omega

theorem step_refines (c : Config) (hL : 1 ≤ c.setData.length) (hT : 1 ≤ c.burst)
    (s : State) (i : In) (h : Inv c s) :
    Inv c (step c s i).1 ∧ abs c (step c s i).1 = (specStep c (abs c s) i).1 ∧
      (step c s i).2 = (specStep c (abs c s) i).2 := by
  obtain ⟨fsm, sent⟩ := s
  cases fsm with
  | idle =>
    simp only [Inv] at h
    subst h
    cases hs : i.start <;> simp [step, specStep, abs, Inv, hs] <;> omega
  | word k =>
    simp only [Inv] at h
    obtain ⟨hk, hs⟩ := h
    have hmod : (sent * c.setData.length + k) % c.setData.length = k := by
      rw [Nat.mul_add_mod_self_right, Nat.mod_eq_of_lt hk]
    simp only [step, specStep, abs, hmod, fin_eq c.setData.length c.burst k sent hk hs]
    cases hr : i.ready <;> cases hl : (k + 1 == c.setData.length) <;>
      cases hb : (sent + 1 == c.burst) <;> cases hst : i.start <;>
      simp [Inv, hk, hs] <;> (try simp only [beq_iff_eq, beq_eq_false_iff_ne, ne_eq] at hl hb) <;>
      (try omega)
    -- left: the last word of a set that does not end the burst (either value of `start`); the next set begins
    all_goals (refine ⟨⟨by omega, by omega⟩, ?_⟩; rw [Nat.add_mul, Nat.one_mul]; omega)

theorem run_refines (c : Config) (hL : 1 ≤ c.setData.length) (hT : 1 ≤ c.burst)
    (s : State) (h : Inv c s) (hist : List In) :
    run c s hist = specRun c (abs c s) hist := by
  induction hist generalizing s with
  | nil => rfl
  | cons x xs ih =>
    obtain ⟨h1, h2, h3⟩ := step_refines c hL hT s x h
    simp only [run, specRun, h3]
    rw [ih _ h1, h2]

/-- **C43 (emitter).**  For every set (L ≥ 1 words), burst length T ≥ 1, config flag and every
start/ready/request history, the emitter's ports from reset are those of the flat burst counter
`specStep`: silent until `start`; then word `p % L` of the set (first-word ctrl on word 0, `first`/
`last` framing) for `p = 0 … L·T-1`, advancing on `ready` only; `done` exactly with the transfer of
word `L·T-1`; then idle, or the next burst if `start` is still asserted. -/
theorem emitter_burst_exact (c : Config) (hL : 1 ≤ c.setData.length) (hT : 1 ≤ c.burst)
    (hist : List In) : run c init hist = specRun c none hist :=
  run_refines c hL hT init (by simp [Inv, init]) hist

def runState (c : Config) : State → List In → State
  | s, [] => s
  | s, x :: xs => runState c (step c s x).1 xs

/-- `Inv` in every reachable state: in a word state the word index is inside the set (the guard of `wordData`) and
`sent < burst`; in IDLE `sent = 0`. -/
theorem wordIdx_lt (c : Config) (hL : 1 ≤ c.setData.length) (hT : 1 ≤ c.burst) (hist : List In) :
    Inv c (runState c init hist) := by
  suffices h : ∀ s, Inv c s → Inv c (runState c s hist) from h init (by simp [Inv, init])
  induction hist with
  | nil => intro s h; exact h
  | cons x xs ih => intro s h; exact ih _ (step_refines c hL hT s x h).1

/-- A burst is exactly `L·T` transfers: while it is not finished, a transfer (a ready cycle, whatever
`start` is) leads from position `p` to `p + 1`, without `done` … -/
theorem spec_advance (c : Config) (p : Nat) (i : In) (hr : i.ready = true)
    (hp : p + 1 < c.setData.length * c.burst) :
    specStep c (some p) i = (some (p + 1),
      ⟨true, wordData c (p % c.setData.length) i, if p % c.setData.length == 0 then c.firstCtrl else 0,
       p % c.setData.length == 0, p % c.setData.length + 1 == c.setData.length, false⟩) := by
  have : (p + 1 == c.setData.length * c.burst) = false := by simp; omega
  simp [specStep, hr, this]

/-- … and the transfer of word `L·T - 1` carries `done` and ends the burst (idle unless `start`). -/
theorem spec_finish (c : Config) (p : Nat) (i : In) (hr : i.ready = true)
    (hp : p + 1 = c.setData.length * c.burst) :
    (specStep c (some p) i).1 = (if i.start then some 0 else none) ∧
    (specStep c (some p) i).2.done = true := by
  simp [specStep, hr, hp]

theorem spec_stall (c : Config) (p : Nat) (i : In) (hr : i.ready = false) :
    (specStep c (some p) i).1 = some p ∧ (specStep c (some p) i).2.done = false := by
  simp [specStep, hr]

/-- the real TS1 emitter with a burst of 2: eight words, `done` on the last -/
example : (run ⟨[0xBCBCBCBC, 0x4A4A0000, 0x4A4A4A4A, 0x4A4A4A4A], 15, 2, false⟩ init
    (⟨true, true, false, false, false⟩ :: List.replicate 9 ⟨false, true, false, false, false⟩)).map
      (fun o => (o.valid, o.data, o.ctrl, o.done))
    = [(false, 0, 0, false), (true, 0xBCBCBCBC, 15, false), (true, 0x4A4A0000, 0, false),
       (true, 0x4A4A4A4A, 0, false), (true, 0x4A4A4A4A, 0, false), (true, 0xBCBCBCBC, 15, false),
       (true, 0x4A4A0000, 0, false), (true, 0x4A4A4A4A, 0, false), (true, 0x4A4A4A4A, 0, true),
       (false, 0, 0, false)] := by decide

end LunaVerif.TS.Emitter

namespace LunaVerif.TS

/-- a request sets its bit, which adds the bit's weight where the bit was clear -/
theorem ite_setBit {x k : Nat} (b : Bool) (h : x % 2 ^ (k + 1) < 2 ^ k) :
    (if b then setBit x k else x) = x + (if b then 2 ^ k else 0) := by
  have : x / 2 ^ k % 2 = 0 := by
    rw [← Nat.mod_mul_right_div_self, ← Nat.pow_succ]; exact Nat.div_eq_of_lt h
  cases b <;> simp [setBit, bit, this]

/-- **C43 (TS2 bits, emitter side).**  With `include_config` and a word 1 whose low half is zero
(TS2: `0x45450000`), the emitted word 1 keeps the set's upper half and carries exactly the requested
bits: hot reset = bit 0, loopback = bit 2, no scrambling = bit 3 of symbol 5 (bits 8, 10, 11). -/
theorem ts2_config_bits (c : Config) (hc : c.includeConfig = true) (d1 : Nat)
    (h1 : c.setData[1]? = some d1) (hz : d1 % 65536 = 0) (i : Emitter.In) :
    Emitter.wordData c 1 i / 65536 * 65536 = d1 ∧
    bit (Emitter.wordData c 1 i) 8 = i.hr ∧ bit (Emitter.wordData c 1 i) 10 = i.lb ∧
    bit (Emitter.wordData c 1 i) 11 = i.ns := by
  have hg : c.setData.getD 1 0 = d1 := by simp [List.getD, h1]
  have hval : Emitter.wordData c 1 i
      = d1 + ((if i.hr then 256 else 0) + (if i.lb then 1024 else 0) + (if i.ns then 2048 else 0)) := by
    simp only [Emitter.wordData, hc, hg, beq_self_eq_true, Bool.and_self, if_true]
    rw [ite_setBit (k := 8) i.hr (by omega), ite_setBit (k := 10) i.lb (by split <;> omega),
      ite_setBit (k := 11) i.ns (by split <;> split <;> omega)]
    simp only [Nat.reducePow, Nat.add_assoc]
  have key : ∀ a, a < 65536 → (d1 + a) / 65536 * 65536 = d1 ∧ bit (d1 + a) 8 = bit a 8 ∧
      bit (d1 + a) 10 = bit a 10 ∧ bit (d1 + a) 11 = bit a 11 := by
    intro a ha
    simp only [bit, Nat.reducePow]
    refine ⟨by omega, ?_, ?_, ?_⟩ <;> congr 1 <;> omega
  rw [hval]
  cases i.hr <;> cases i.lb <;> cases i.ns <;> exact key _ (by decide)

/-- **C43 (TS2 bits, detector side and round trip).**  A detector of the same set, having matched
word 0, accepts the word 1 the emitter drives and latches exactly the requested bits. -/
theorem ts2_roundtrip (c : Config) (hc : c.includeConfig = true) (d1 : Nat)
    (h1 : c.setData[1]? = some d1) (hz : d1 % 65536 = 0) (i : Emitter.In) (s : Detector.State)
    (hs : s.fsm = .det 1) :
    let s' := (Detector.step c s ⟨true, Emitter.wordData c 1 i, 0⟩).1
    s'.fsm = .det 2 ∧ s'.hot = i.hr ∧ s'.loop = i.lb ∧ s'.scr = i.ns := by
  obtain ⟨hw, h8, h10, h11⟩ := ts2_config_bits c hc d1 h1 hz i
  have hlen : 1 < c.setData.length := (List.getElem?_eq_some_iff.1 h1).1
  have hm : Detector.matchK c 1 ⟨true, Emitter.wordData c 1 i, 0⟩ = true := by
    simp [Detector.matchK, hc, hw, h1]
  simp [Detector.step, hs, hlen, hm, hc, h8, h10, h11]

/-- the real TS2 word 1 with all three requests -/
example : Emitter.wordData ⟨[0xBCBCBCBC, 0x45450000, 0x45454545, 0x45454545], 15, 16, true⟩ 1
    ⟨true, true, true, true, true⟩ = 0x45450D00 := by decide

end LunaVerif.TS

namespace LunaVerif.TS.Detector

inductive Pos where
  | inSet (k : Nat)     -- k words of a set matched (k = L: the set is complete)
  | between             -- after a complete set and at least one invalid cycle: waiting for a first word
deriving DecidableEq, Repr

/-- The set grammar over cycle histories (most recent first).  `Parse c past pos n`: the history
`past` ends in position `pos` of a chain of well-formed sets of which `n` are complete and lie before
the current one; a chain may begin at any valid first word (`start`). -/
inductive Parse (c : Config) : List In → Pos → Nat → Prop
  | start {past x} : x.valid = true → matchK c 0 x = true → Parse c (x :: past) (.inSet 1) 0
  | gap {past k n x} : Parse c past (.inSet k) n → k < c.setData.length → x.valid = false →
      Parse c (x :: past) (.inSet k) n
  | word {past k n x} : Parse c past (.inSet k) n → k < c.setData.length → x.valid = true →
      matchK c k x = true → Parse c (x :: past) (.inSet (k + 1)) n
  | adj {past k n x} : Parse c past (.inSet k) n → ¬ k < c.setData.length → x.valid = true →
      matchK c 0 x = true → Parse c (x :: past) (.inSet 1) (n + 1)
  | brk {past k n x} : Parse c past (.inSet k) n → ¬ k < c.setData.length → x.valid = false →
      Parse c (x :: past) .between (n + 1)
  | junk {past n x} : Parse c past .between n → (x.valid && matchK c 0 x) = false →
      Parse c (x :: past) .between n
  | resume {past n x} : Parse c past .between n → x.valid = true → matchK c 0 x = true →
      Parse c (x :: past) (.inSet 1) n

theorem parse_pos (c : Config) {past : List In} {k n : Nat} (h : Parse c past (.inSet k) n) :
    1 ≤ k ∧ k ≤ c.setData.length := by
  have hL : ∀ x : In, matchK c 0 x = true → 1 ≤ c.setData.length := by
    intro x hx
    simp only [matchK, Bool.and_eq_true, beq_iff_eq] at hx
    exact (List.getElem?_eq_some_iff.1 hx.1).1
  generalize hp : Pos.inSet k = pos at h
  induction h generalizing k with
  | start _ hm => cases hp; exact ⟨Nat.le_refl _, hL _ hm⟩
  | gap hpar hk _ ih => cases hp; exact ih rfl
  | word hpar hk _ _ ih => cases hp; have := ih rfl; omega
  | adj _ _ _ hm => cases hp; exact ⟨Nat.le_refl _, hL _ hm⟩
  | brk => cases hp
  | junk => cases hp
  | resume _ _ hm => cases hp; exact ⟨Nat.le_refl _, hL _ hm⟩

def stateAfter (c : Config) : List In → State
  | [] => init
  | x :: past => (step c (stateAfter c past) x).1

def outsFrom (c : Config) : List In → List In → List Out
  | _, [] => []
  | past, x :: xs => (step c (stateAfter c past) x).2 :: outsFrom c (x :: past) xs

theorem run_eq_outsFrom (c : Config) (past hist : List In) :
    run c (stateAfter c past) hist = outsFrom c past hist := by
  induction hist generalizing past with
  | nil => rfl
  | cons x xs ih => simp only [run, outsFrom]; rw [← ih (x :: past)]; rfl

/-- the outputs of the model run from reset are the registered values of `stateAfter` -/
theorem run_init (c : Config) (hist : List In) : run c init hist = outsFrom c [] hist :=
  run_eq_outsFrom c [] hist

/-- soundness invariant: the FSM position and the count are backed by a parse of the history -/
def Inv (c : Config) (s : State) (past : List In) : Prop :=
  (match s.fsm with
   | .none => True
   | .wait => s.count = 0 ∨ Parse c past .between s.count
   | .det k => Parse c past (.inSet k) s.count) ∧
  (s.detected = true → ∃ x rest, past = x :: rest ∧ ∃ k n, ¬ k < c.setData.length ∧
      n + 1 = c.burst ∧ Parse c rest (.inSet k) n)

theorem inv_step (c : Config) (s : State) (past : List In) (x : In) (h : Inv c s past) :
    Inv c (step c s x).1 (x :: past) := by
  obtain ⟨fsm, count, det, hot, loop, scr⟩ := s
  obtain ⟨hf, _⟩ := h
  cases fsm with
  | none => simp [Inv, step]
  | wait =>
    simp only [Inv, step] at hf ⊢
    cases hx : x.valid && matchK c 0 x <;> simp
    · exact hf.imp id fun hp => Parse.junk hp hx
    · obtain ⟨hv, hm⟩ := Bool.and_eq_true_iff.1 hx
      rcases hf with h0 | hp
      · subst h0; exact Parse.start hv hm
      · exact Parse.resume hp hv hm
  | det k =>
    simp only at hf
    by_cases hk : k < c.setData.length
    · simp only [step, hk, if_true]
      cases hv : x.valid
      · simp [Inv]; exact Parse.gap hf hk hv
      · cases hm : matchK c k x
        · simp [Inv]
        · cases hcfg : c.includeConfig && k == 1 <;> simp [Inv] <;> exact Parse.word hf hk hv hm
    · simp only [step, hk, if_false]
      by_cases hb : (count + 1 == c.burst) = true
      · simp only [hb, if_true, Inv]
        refine ⟨?_, fun _ => ⟨x, past, rfl, k, count, hk, by simpa using hb, hf⟩⟩
        simp only [afterSet]
        cases hv : x.valid <;> simp
        cases hm : matchK c 0 x <;> simp
        exact Parse.start hv hm
      · simp only [hb, Inv]
        refine ⟨?_, by simp⟩
        simp only [afterSet]
        cases hv : x.valid <;> simp
        · exact Parse.brk hf hk hv
        · cases hm : matchK c 0 x <;> simp
          exact Parse.adj hf hk hv hm

theorem inv_stateAfter (c : Config) (past : List In) : Inv c (stateAfter c past) past := by
  induction past with
  | nil => simp [Inv, stateAfter, init]
  | cons x past ih => exact inv_step c _ past x ih

/-- **C43 (never reports on other data).**  For every configuration and every input history: if
`detected` is high in the cycle after the history `past`, then the history up to the cycle before
the last one (`rest`; the pulse is registered behind the one-cycle `L_DETECTED` state) ends with a
complete set (`k = L`) that is the `burst`-th of a chain of well-formed consecutive sets. -/
theorem no_detect_on_other_data (c : Config) (past : List In) (x : In)
    (h : (step c (stateAfter c past) x).2.detected = true) :
    ∃ y rest, past = y :: rest ∧ ∃ k n, k = c.setData.length ∧ n + 1 = c.burst ∧
      Parse c rest (.inSet k) n := by
  obtain ⟨y, rest, hp, k, n, hk, hn, hpar⟩ := (inv_stateAfter c past).2 (by simpa [step] using h)
  have := parse_pos c hpar
  exact ⟨y, rest, hp, k, n, by omega, hn, hpar⟩

/-! ### the grammar as a function, rooted at a synchronised detector -/

/-- Follow the grammar from a point where the detector waits for a first word with count 0
(`[]`); `none` = the stream left the language.  `n` counts the complete sets before the current one, without
restarting at a detection (`Parse`'s `n` restarts there; this one is read modulo `burst`). -/
def track (c : Config) : List In → Option (Pos × Nat)
  | [] => some (.between, 0)
  | x :: past =>
    match track c past with
    | none => none
    | some (.between, n) => if x.valid && matchK c 0 x then some (.inSet 1, n) else some (.between, n)
    | some (.inSet k, n) =>
      if k < c.setData.length then
        if !x.valid then some (.inSet k, n)
        else if matchK c k x then some (.inSet (k + 1), n) else none
      else
        if x.valid then (if matchK c 0 x then some (.inSet 1, n + 1) else none)
        else some (.between, n + 1)

/-- the most recent cycle directly follows a complete set which is a `burst`-th one -/
def pulseAfter (c : Config) : List In → Bool
  | [] => false
  | _ :: past =>
    match track c past with
    | some (.inSet k, m) => !decide (k < c.setData.length) && ((m + 1) % c.burst == 0)
    | _ => false

def fsmOf : Pos → Fsm
  | .between => .wait
  | .inSet k => .det k

/-- `stateAfter` from any start state `s` (`stateAfter c` is this recursion at `s = init`). -/
def feed (c : Config) (s : State) : List In → State
  | [] => s
  | x :: past => (step c (feed c s past) x).1

theorem count_next (n N : Nat) (hN : 1 ≤ N) :
    (if n % N + 1 = N then 0 else n % N + 1) = (n + 1) % N := by
  have hlt : n % N < N := Nat.mod_lt _ (by omega)
  have hadd : (n + 1) % N = (n % N + 1) % N := (Nat.mod_add_mod n N 1).symm
  rw [hadd]
  split
  · next h => rw [h, Nat.mod_self]
  · next h => exact (Nat.mod_eq_of_lt (by omega : n % N + 1 < N)).symm

/-- **C43 (detector language).**  For every configuration with burst size N ≥ 1: start from any
state in which the detector waits for a first word with count 0 (one cycle after reset; two cycles
after any mismatch).  For every continuation `seg` (most recent cycle first) that stays inside the set grammar (`track`),
the FSM follows the grammar position, the count is the number of complete sets modulo N, and the
`detected` register is set exactly by the cycle following a complete set that is an N-th one — so on
the output port the pulse appears exactly once per N consecutive well-formed sets, two cycles after
the last word of every N-th set. -/
theorem detector_language (c : Config) (hN : 1 ≤ c.burst) (s0 : State)
    (h0 : s0.fsm = .wait ∧ s0.count = 0) (seg : List In) (pos : Pos) (n : Nat)
    (ht : track c seg = some (pos, n)) :
    (feed c s0 seg).fsm = fsmOf pos ∧ (feed c s0 seg).count = n % c.burst ∧
    (seg ≠ [] → (feed c s0 seg).detected = pulseAfter c seg) := by
  induction seg generalizing pos n with
  | nil =>
    simp only [track, Option.some.injEq, Prod.mk.injEq] at ht
    obtain ⟨rfl, rfl⟩ := ht
    simp [feed, fsmOf, h0]
  | cons x past ih =>
    simp only [track] at ht
    cases htp : track c past with
    | none => simp [htp] at ht
    | some pn =>
      obtain ⟨p, m⟩ := pn
      obtain ⟨hf, hc, _⟩ := ih p m htp
      simp only [htp] at ht
      generalize hs : feed c s0 past = s at hf hc
      obtain ⟨fsm, count, det, hot, loop, scr⟩ := s
      simp only at hf hc
      subst hf; subst hc
      cases p with
      | between =>
        simp only at ht
        simp only [fsmOf] at hs
        simp only [feed, hs, pulseAfter, htp, step]
        cases hx : x.valid && matchK c 0 x <;> simp [hx] at ht <;> obtain ⟨rfl, rfl⟩ := ht <;> simp [fsmOf]
      | inSet k =>
        simp only at ht
        simp only [fsmOf] at hs
        simp only [feed, hs, pulseAfter, htp, step]
        by_cases hk : k < c.setData.length
        · simp only [hk, if_true] at ht ⊢
          cases hv : x.valid <;> cases hm : matchK c k x <;> simp [hv, hm] at ht <;> obtain ⟨rfl, rfl⟩ := ht <;>
            cases hcfg : c.includeConfig && k == 1 <;> simp [fsmOf]
        · simp only [hk, if_false] at ht ⊢
          have hpos : (afterSet c x = fsmOf pos) ∧ n = m + 1 := by
            cases hv : x.valid <;> cases hm : matchK c 0 x <;> simp [hv, hm] at ht <;> obtain ⟨rfl, rfl⟩ := ht <;>
              simp [afterSet, hv, hm, fsmOf]
          obtain ⟨hpos1, rfl⟩ := hpos
          rw [← count_next m c.burst hN]
          by_cases hb : m % c.burst + 1 = c.burst <;> simp [hb, hpos1]

/-- one cycle after reset the detector is synchronised (waits, count 0) … -/
theorem sync_after_reset (c : Config) (x : In) :
    (step c init x).1.fsm = .wait ∧ (step c init x).1.count = 0 := by
  simp [step, init]

/-- … and so it is two cycles after any departure from the grammar (a valid non-matching word
inside a set, or directly after a set): `NONE_DETECTED` clears the count and looks at nothing. -/
theorem sync_after_mismatch (c : Config) (s : State) (x : In) (hs : s.fsm = .none) :
    (step c s x).1.fsm = .wait ∧ (step c s x).1.count = 0 := by
  simp [step, hs]

theorem mismatch_in_set (c : Config) (s : State) (k : Nat) (x : In) (hs : s.fsm = .det k)
    (hk : k < c.setData.length) (hv : x.valid = true) (hm : matchK c k x = false) :
    (step c s x).1.fsm = .none := by
  simp [step, hs, hk, hv, hm]

theorem mismatch_after_set (c : Config) (s : State) (k : Nat) (x : In) (hs : s.fsm = .det k)
    (hk : ¬ k < c.setData.length) (hv : x.valid = true) (hm : matchK c 0 x = false) :
    (step c s x).1.fsm = .none := by
  simp only [step, hs, hk, if_false, afterSet, hv, hm]
  split <;> simp

/-- Non-vacuity: TS1 with a burst of 2 — two back-to-back sets after the reset cycle give one pulse,
two cycles after the last word; the pulse clears the count, so the one further set (after an invalid cycle and a
junk word) gives none. -/
example :
    let ts1 : Config := ⟨[0xBCBCBCBC, 0x4A4A0000, 0x4A4A4A4A, 0x4A4A4A4A], 15, 2, false⟩
    let set : List In := [⟨true, 0xBCBCBCBC, 15⟩, ⟨true, 0x4A4A0000, 0⟩, ⟨true, 0x4A4A4A4A, 0⟩, ⟨true, 0x4A4A4A4A, 0⟩]
    (run ts1 init ([⟨false, 0, 0⟩] ++ set ++ set ++ [⟨false, 0, 0⟩, ⟨true, 7, 0⟩] ++ set ++
        [⟨false, 0, 0⟩, ⟨false, 0, 0⟩, ⟨false, 0, 0⟩])).map (·.detected)
    = List.replicate 10 false ++ [true] ++ List.replicate 7 false := by decide

end LunaVerif.TS.Detector
