import LunaVerif.Model.Periph.Ila
/-!
# C56 — The ILA captures exactly the samples following a trigger

"After a trigger, the logic analyzer records exactly sample_depth consecutive samples of its inputs
(delayed by the configured pre-trigger count), raises 'complete', and reading back sample n returns the
n-th recorded sample; no trigger during capture disturbs it."

Cycle numbering in the theorems: cycle 0 is the cycle in which the trigger is seen while idle
(`x0`), the following `depth` cycles are `xs`.  `S = σ.dl ++ inputs(x0 :: xs)` is the input stream
including the `pre` values still in the delay line, so `S[t]` is `delayed_inputs` in cycle `t`.
All theorems hold for every depth ≥ 1, every pre-trigger count, all input waveforms, all read
addresses and all trigger activity during the capture.

`Rests M σ` — the core idle with write enable low and the buffer `M` in its memory — is the state between captures; the
invariants of the read-out wrappers (StreamILA: `IlaStream.Reading`, on which the UART wrapper's `IlaUart.Live` stands;
SyncSerialILA: `IlaSpi.WinInv`, `IlaSpi.Holds`) are built on it.
-/
namespace LunaVerif.Ila

def inputsOf (xs : List In) : List Nat := xs.map (·.inputs)

def IdleState (c : Config) (σ : State) : Prop :=
  σ.fsm = .idle ∧ σ.wen = false ∧ σ.mem.length = c.depth

theorem le_two_pow_rangeWidth (n : Nat) : n ≤ 2 ^ rangeWidth n := by
  unfold rangeWidth
  split
  · simp; omega
  · have := Nat.lt_log2_self (n := n - 1); omega

theorem set_take (l : List Nat) (j d : Nat) (h : j < l.length) : (l.set j d).take (j + 1) = l.take j ++ [d] := by
  induction l generalizing j with
  | nil => simp at h
  | cons a l ih =>
    cases j with
    | zero => simp
    | succ j => simp at h; simp [ih j (by omega)]

theorem set_last (l : List Nat) (j d : Nat) (h : j + 1 = l.length) : l.set j d = l.take j ++ [d] := by
  rw [← set_take l j d (by omega), List.take_of_length_le (by simp; omega)]

theorem shift_spec (dl : List Nat) (x : Nat) (rest : List Nat) :
    dl ++ x :: rest = (shift dl x).1 :: ((shift dl x).2 ++ rest) := by
  cases dl <;> simp [shift]

theorem sample_phase (c : Config) (xs : List In) :
    ∀ (j : Nat) (mem dl : List Nat) (cpl : Bool) (rd : Nat), j + xs.length = c.depth → xs ≠ [] →
      mem.length = c.depth →
      (runState c ⟨.sample, j, true, cpl, mem, rd, dl⟩ xs).fsm = .idle ∧
      (runState c ⟨.sample, j, true, cpl, mem, rd, dl⟩ xs).wen = false ∧
      (runState c ⟨.sample, j, true, cpl, mem, rd, dl⟩ xs).complete = true ∧
      (runState c ⟨.sample, j, true, cpl, mem, rd, dl⟩ xs).mem = mem.take j ++ (dl ++ inputsOf xs).take xs.length ∧
      (run c ⟨.sample, j, true, cpl, mem, rd, dl⟩ xs).map (fun o => (o.sampling, o.complete))
        = List.replicate xs.length (true, cpl) := by
  induction xs with
  | nil => intro j mem dl cpl rd _ h; exact absurd rfl h
  | cons x xs ih =>
    intro j mem dl cpl rd hj _ hmem
    have hsp := shift_spec dl x.inputs (inputsOf xs)
    simp only [List.length_cons] at hj
    have hI : inputsOf (x :: xs) = x.inputs :: inputsOf xs := rfl
    by_cases hlast : j + 1 = c.depth
    · have hxs : xs = [] := List.eq_nil_of_length_eq_zero (by omega)
      subst hxs
      have hst : step c ⟨.sample, j, true, cpl, mem, rd, dl⟩ x =
          (⟨.idle, (j + 1) % 2 ^ rangeWidth c.depth, false, true, mem.set j (shift dl x.inputs).1,
            memRead mem x.rdaddr, (shift dl x.inputs).2⟩, ⟨true, cpl, rd⟩) := by
        simp [step, hlast]
      simp only [runState, run, hst, List.length_cons, List.length_nil, List.map_cons, List.map_nil,
        List.replicate, true_and, and_true]
      rw [set_last mem j _ (by omega), hI, hsp]
      simp
    · have hst : step c ⟨.sample, j, true, cpl, mem, rd, dl⟩ x =
          (⟨.sample, j + 1, true, cpl, mem.set j (shift dl x.inputs).1,
            memRead mem x.rdaddr, (shift dl x.inputs).2⟩, ⟨true, cpl, rd⟩) := by
        have hP := le_two_pow_rangeWidth c.depth
        simp only [step, hlast, if_false]
        rw [Nat.mod_eq_of_lt (by omega)]
        simp
      have hne : xs ≠ [] := by intro h; subst h; simp at hj; omega
      obtain ⟨i1, i2, i3, i4, i5⟩ := ih (j + 1) (mem.set j (shift dl x.inputs).1) (shift dl x.inputs).2 cpl
        (memRead mem x.rdaddr) (by omega) hne (by simpa using hmem)
      simp only [runState, run, hst, i1, i2, i3, i4, i5, List.length_cons, List.map_cons, List.replicate_succ,
        true_and, and_true]
      rw [set_take mem j _ (by omega), hI, hsp, List.take_succ_cons]
      simp

/-- **captures_depth_consecutive_samples**: a trigger seen while idle is followed by exactly `depth` cycles of
`sampling` (with `complete` low), after which the analyzer is idle again with `complete` high and the memory holds
the `depth` consecutive values `delayed_inputs` had in those cycles (`S[1 .. depth]`) — for every input
waveform, read address pattern and trigger activity in `xs`. -/
theorem captures_depth_consecutive_samples (c : Config) (hd : 1 ≤ c.depth) (σ : State) (hσ : IdleState c σ)
    (x0 : In) (ht : x0.trigger = true) (xs : List In) (hl : xs.length = c.depth) :
    let fin := runState c σ (x0 :: xs)
    fin.fsm = .idle ∧ fin.wen = false ∧ fin.complete = true ∧
    fin.mem = ((σ.dl ++ inputsOf (x0 :: xs)).drop 1).take c.depth ∧
    (run c σ (x0 :: xs)).map (fun o => (o.sampling, o.complete))
      = (false, σ.complete) :: List.replicate c.depth (true, false) := by
  obtain ⟨f, wpos, wen, cpl, mem, rd, dl⟩ := σ
  obtain ⟨hf, hw, hm⟩ := hσ
  simp only at hf hw hm; subst hf hw
  have hsp := shift_spec dl x0.inputs (inputsOf xs)
  have hst : step c ⟨.idle, wpos, false, cpl, mem, rd, dl⟩ x0 =
      (⟨.sample, 0, true, false, mem, memRead mem x0.rdaddr, (shift dl x0.inputs).2⟩, ⟨false, cpl, rd⟩) := by
    simp [step, ht]
  have hne : xs ≠ [] := by intro h; subst h; simp at hl; omega
  obtain ⟨i1, i2, i3, i4, i5⟩ := sample_phase c xs 0 mem (shift dl x0.inputs).2 false (memRead mem x0.rdaddr)
    (by omega) hne hm
  have hI : inputsOf (x0 :: xs) = x0.inputs :: inputsOf xs := rfl
  simp only [runState, run, hst, i1, i2, i3, i4, i5, List.map_cons, hl, true_and]
  rw [hI, hsp]
  simp

/-- **pretrigger_delay**: sample `n` of a capture is the input value of cycle `1 + n - pre` (cycle 0 = the trigger
cycle): with `pre = 1` sample 0 is the value in the trigger cycle itself, with `pre = 0` the value one cycle later,
with `pre = k` the value `k - 1` cycles *before* the trigger.  (For `1 + n < pre` it is the value the delay line held,
i.e. an input from before cycle 0.) -/
theorem pretrigger_delay (c : Config) (hd : 1 ≤ c.depth) (σ : State) (hσ : IdleState c σ)
    (hdl : σ.dl.length = c.pre) (x0 : In) (ht : x0.trigger = true) (xs : List In) (hl : xs.length = c.depth)
    (n : Nat) (hn : n < c.depth) :
    (runState c σ (x0 :: xs)).mem[n]? =
      if c.pre ≤ 1 + n then (inputsOf (x0 :: xs))[1 + n - c.pre]? else σ.dl[1 + n]? := by
  have h := (captures_depth_consecutive_samples c hd σ hσ x0 ht xs hl).2.2.2.1
  rw [h, List.getElem?_take_of_lt hn, List.getElem?_drop]
  split
  · rw [List.getElem?_append_right (by omega), hdl]
  · rw [List.getElem?_append_left (by omega)]

/-- **trigger_during_capture_ignored**: while sampling, the next state and the outputs do not depend on the
trigger input at all. -/
theorem trigger_during_capture_ignored (c : Config) (σ : State) (hσ : σ.fsm = .sample) (t t' : Bool) (v a : Nat) :
    step c σ ⟨t, v, a⟩ = step c σ ⟨t', v, a⟩ := by
  obtain ⟨f, wpos, wen, cpl, mem, rd, dl⟩ := σ
  simp only at hσ; subst hσ
  simp [step]

/-- the memory ports and `captured_sample` do not look at the FSM -/
theorem step_ports (c : Config) (σ : State) (i : In) :
    (step c σ i).2.captured = σ.rdata ∧ (step c σ i).1.rdata = memRead σ.mem i.rdaddr ∧
    (step c σ i).1.mem = if σ.wen then σ.mem.set σ.wpos (shift σ.dl i.inputs).1 else σ.mem := by
  obtain ⟨f, wpos, wen, cpl, mem, rd, dl⟩ := σ
  cases f <;> simp only [step] <;> split <;> exact ⟨rfl, rfl, rfl⟩

/-- **readback_nth**: two consecutive cycles from ANY state: `captured_sample` is the register loaded, in the previous cycle,
with the memory word at `captured_sample_number`; and if the write enable is low the memory does not change in that cycle.  (That
the write enable IS low between captures is a clause of `IdleState` / `Rests`; "after a capture, address `n` returns recorded
sample `n` one cycle later, until a new capture writes" is `Rests.cycle`, which the wrappers use.) -/
theorem readback_nth (c : Config) (σ : State) (i i' : In) :
    (step c σ i).2.captured = σ.rdata ∧
    (step c σ i).1.rdata = memRead σ.mem i.rdaddr ∧
    (σ.wen = false → (step c σ i).1.mem = σ.mem) ∧
    (step c (step c σ i).1 i').2.captured = memRead σ.mem i.rdaddr := by
  obtain ⟨h1, h2, h3⟩ := step_ports c σ i
  exact ⟨h1, h2, fun hw => by rw [h3, hw]; rfl, by rw [(step_ports c _ i').1, h2]⟩

def Rests (M : List Nat) (σ : State) : Prop := σ.fsm = .idle ∧ σ.wen = false ∧ σ.mem = M

theorem Rests.cycle {M : List Nat} {σ : State} (h : Rests M σ) (c : Config) (inp a : Nat) :
    Rests M (Ila.step c σ ⟨false, inp, a⟩).1 ∧ (Ila.step c σ ⟨false, inp, a⟩).1.rdata = memRead M a ∧
    (Ila.step c σ ⟨false, inp, a⟩).1.complete = σ.complete := by
  obtain ⟨f, wpos, wen, cpl, mem, rd, dl⟩ := σ
  obtain ⟨hf, hw, rfl⟩ := h
  simp only at hf hw; subst hf hw
  simp [Ila.step, Rests]

theorem Rests.idle {c : Config} {M : List Nat} {σ : State} (h : Rests M σ) (hm : M.length = c.depth) : IdleState c σ :=
  ⟨h.1, h.2.1, by rw [h.2.2, hm]⟩

/-! ## A list fact: a history cut at its first trigger (used by Props/C56StreamChain.lean and C56SpiChain.lean) -/

theorem split_first {α : Type} (p : α → Bool) (xs : List α) :
    ∃ a b, xs = a ++ b ∧ (∀ x ∈ a, p x = false) ∧ (b = [] ∨ ∃ x rest, b = x :: rest ∧ p x = true) := by
  induction xs with
  | nil => exact ⟨[], [], rfl, nofun, Or.inl rfl⟩
  | cons x xs ih =>
    cases hx : p x
    · obtain ⟨a, b, e, ha, hb⟩ := ih
      refine ⟨x :: a, b, by rw [e]; rfl, fun y hy => ?_, hb⟩
      rcases List.mem_cons.mp hy with rfl | h
      · exact hx
      · exact ha y h
    · exact ⟨[], x :: xs, rfl, nofun, Or.inr ⟨x, xs, rfl, hx⟩⟩

/-! ## Non-vacuity: depth 3, pre-trigger 1: the sample of the trigger cycle is recorded first; depth 2, pre-trigger 0: the output
run of a capture (`sampling`, `complete`, `captured_sample`) with the read-back of samples 6, 6, 7 -/
example : (runState ⟨3, 1⟩ (init ⟨3, 1⟩)
    [⟨false, 9, 0⟩, ⟨true, 10, 0⟩, ⟨true, 11, 0⟩, ⟨false, 12, 0⟩, ⟨true, 13, 0⟩]).mem = [10, 11, 12] := by decide
example : (run ⟨2, 0⟩ (init ⟨2, 0⟩)
    [⟨true, 5, 0⟩, ⟨false, 6, 0⟩, ⟨true, 7, 0⟩, ⟨false, 8, 0⟩, ⟨false, 9, 1⟩, ⟨false, 9, 0⟩]) =
    [⟨false, false, 0⟩, ⟨true, false, 0⟩, ⟨true, false, 0⟩, ⟨false, true, 6⟩, ⟨false, true, 6⟩, ⟨false, true, 7⟩] := by
  decide

end LunaVerif.Ila
