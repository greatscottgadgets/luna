import LunaVerif.Props.C56Uart
/-!
# C56 — AsyncSerialILA: the duration of the UART read-out, and the read-out theorem without end-of-history assumptions

The read-out of `AsyncSerialILA` has no back-pressure: the transmitter's `ready` is a function of its own state.  The *exact*
number of cycles the composite (StreamILA read-out FSM + word transmitter + byte transmitter) needs to become quiescent is a
ranking function `rankOf` on its states that decreases by exactly one per clock cycle (`live_step`, `rank_tstep`) and is zero
exactly in the quiescent states (`rank_zero_iff`) — for every depth, byte width and divisor, by a one-step argument, not by
unrolling.

The timing view of a state is `TS`: `R` = words the wrapper still has to hand over (`IlaStream.rem`; 0 = wrapper idle), `dv` =
`data_valid`, `P` = bytes pending in the word transmitter's shift register, `L` = cycles still owed to the line by the byte
transmitter (C49's line schedule `Uart.abs`).  One cycle moves it by `tstep` (`live_step`: the wrapper half is
`IlaStream.readout_step`, the transmitter half `step_spec` of Props/C56Uart.lean with the lengths of C49's specification step,
`mbSpec_timing`).  With `F = 10·divisor` (one 8N1 frame) and `B = P + w·R` the bytes still to be framed:

    rank = L                      if B = 0
    rank = a + F·B + 1            otherwise, `a` = cycles until the next byte is handed to the line:
                                  `L - 1` if a byte is pending, else `max (L-1) 1` / `max (L-1) 2` (`data_valid` high / low)

`uart_readout_complete` (Props/C56Uart.lean) assumes a history at whose end wrapper and transmitter are idle again.  By the
ranking function the read-out takes **exactly** `rankOf` of the state after the hand-over cycle, whatever the transmitter was doing
(`uart_readout_duration_any`); from a quiescent transmitter that is `readoutCycles = 10·divisor·bytes_per_sample·depth + 3 -
data_valid` cycles (`handover_rank`, `uart_readout_duration`; `data_valid` is 1 only for the very first read-out after reset),
which discharges that assumption:
`uart_readout_total` / `uart_readout_total_decoded`: every history that extends that far past `complete` carries all `depth`
samples, each once, in order, on the `tx` waveform.
-/
namespace LunaVerif.IlaUart
open LunaVerif.Uart LunaVerif.Ila

structure TS where
  R : Nat
  dv : Bool
  P : Nat
  L : Nat
deriving DecidableEq, Repr

/-- The word transmitter accepts a word: nothing pending, or the last byte pending with at most one cycle owed to the line. -/
def TS.ready (t : TS) : Bool := decide (t.P = 0) || (decide (t.P = 1) && decide (t.L ≤ 1))
/-- A pending byte is handed to the line: at most one cycle is still owed. -/
def TS.load (t : TS) : Bool := decide (1 ≤ t.P) && decide (t.L ≤ 1)
/-- The wrapper hands a word over: one is left, `data_valid` is high and the transmitter is ready. -/
def TS.accept (t : TS) : Bool := decide (1 ≤ t.R) && t.dv && t.ready

/-- One clock cycle in the timing view (`live_step`: what the composite's step does to `tsOf`). -/
def tstep (F w : Nat) (t : TS) : TS :=
  ⟨t.R - t.accept.toNat,
   if decide (1 ≤ t.R) && t.ready then !t.dv else t.dv,
   (if t.load then t.P - 1 else t.P) + (if t.accept then w else 0),
   if t.load then F else t.L - 1⟩

def rank (F w : Nat) (t : TS) : Nat :=
  if t.P + w * t.R = 0 then t.L
  else (if 1 ≤ t.P then t.L - 1 else if t.dv then max (t.L - 1) 1 else max (t.L - 1) 2) + F * (t.P + w * t.R) + 1

theorem rank_tstep (F w : Nat) (hF : 3 ≤ F) (hw : 1 ≤ w) (t : TS) :
    rank F w (tstep F w t) = rank F w t - 1 := by
  obtain ⟨R, dv, P, L⟩ := t
  rcases R with _ | R
  · rcases P with _ | _ | P
    · simp [rank, tstep, TS.ready, TS.load, TS.accept]
    · by_cases hL : L ≤ 1 <;> simp [rank, tstep, TS.ready, TS.load, TS.accept, hL] <;> omega
    · by_cases hL : L ≤ 1 <;> simp [rank, tstep, TS.ready, TS.load, TS.accept, hL, Nat.mul_add] <;> omega
  · have hw0 : w ≠ 0 := by omega
    rcases P with _ | _ | P
    · cases dv <;> simp [rank, tstep, TS.ready, TS.load, TS.accept, hw0, hw, Nat.mul_succ, Nat.mul_add] <;> omega
    · by_cases hL : L ≤ 1 <;> cases dv <;>
        simp [rank, tstep, TS.ready, TS.load, TS.accept, hw0, hw, Nat.mul_succ, Nat.mul_add, hL] <;> omega
    · by_cases hL : L ≤ 1 <;> cases dv <;>
        simp [rank, tstep, TS.ready, TS.load, TS.accept, hw0, Nat.mul_succ, Nat.mul_add, hL] <;> omega

def tsOf (c : Config) (s : State) : TS :=
  ⟨IlaStream.rem c.ila s.ila, s.ila.dv, (pend s.uart).length, (Uart.abs c.d s.uart.uart).length⟩

def Live (c : Config) (M : List Nat) (s : State) : Prop :=
  IlaStream.Reading c.ila M s.ila ∧ Uart.Inv c.d s.uart.uart

theorem live_step (c : Config) (hd : 1 ≤ c.d) (hw : 1 ≤ c.w) (M : List Nat) (s : State) (hs : Live c M s) (i : In)
    (hi : s.ila.fsm = .idle → i.trigger = false) :
    tsOf c (step c s i).1 = tstep (10 * c.d) c.w (tsOf c s) ∧ Live c M (step c s i).1 := by
  obtain ⟨hR, hu⟩ := hs
  obtain ⟨ha, _, hr, mI⟩ := step_spec c hd hw s i hu
  obtain ⟨mR, mP, mL⟩ := mbSpec_timing c.d c.w (mbAbs c.d s.uart) (uartIn c s i)
  obtain ⟨r1, _, r3, r4, r5, _⟩ := IlaStream.readout_step c.ila M s.ila hR (ilaIn c s i) hi
  have hval : (uartIn c s i).valid = (IlaStream.step c.ila s.ila (ilaIn c s i)).2.valid := rfl
  rw [← ha, hval, r5] at mP
  rw [← ha] at mL
  rw [hr, mR] at r3 r4
  refine ⟨?_, r1, mI⟩
  simp only [tsOf, tstep, TS.ready, TS.load, TS.accept, TS.mk.injEq]
  exact ⟨r3, r4, mP, mL⟩

def rankOf (c : Config) (s : State) : Nat := rank (10 * c.d) c.w (tsOf c s)

theorem rank_run (c : Config) (hd : 1 ≤ c.d) (hw : 1 ≤ c.w) (M : List Nat) (ys : List In) : ∀ s, Live c M s → noRetrigger c s ys →
    rankOf c (runState c s ys) = rankOf c s - ys.length ∧ Live c M (runState c s ys) := by
  induction ys with
  | nil => intro s hs _; exact ⟨(Nat.sub_zero _).symm, hs⟩
  | cons y ys ih =>
    intro s hs hq
    obtain ⟨h1, h2⟩ := live_step c hd hw M s hs y hq.1
    obtain ⟨i1, i2⟩ := ih _ h2 hq.2
    refine ⟨?_, i2⟩
    simp only [runState, List.length_cons]
    rw [i1, rankOf, h1, rank_tstep _ _ (by omega) hw]
    simp only [rankOf]; omega

theorem rank_zero_iff (c : Config) (hw : 1 ≤ c.w) (M : List Nat) (s : State) (hs : Live c M s) :
    rankOf c s = 0 ↔ (s.ila.fsm = .idle ∧ UartQuiet s) := by
  have hP := pend_length s.uart
  have hL : (Uart.abs c.d s.uart.uart).length = 0 ↔ s.uart.uart.fsm = .idle := by
    constructor
    · intro h
      cases hf : s.uart.uart.fsm
      · rfl
      · exact absurd (List.eq_nil_of_length_eq_zero h) (abs_transmit_ne _ _ hf)
    · intro h; rw [abs_idle _ _ h]; rfl
  have hidle := (IlaStream.reading_idle c.ila M s.ila hs.1).1
  simp only [rankOf, rank, tsOf, UartQuiet, hP, ← hidle]
  rcases Nat.eq_zero_or_pos (IlaStream.rem c.ila s.ila) with h0 | h1
  · cases hm : s.uart.fsm <;> simp [h0, hL]
  · have hR : c.w * IlaStream.rem c.ila s.ila ≠ 0 := Nat.mul_ne_zero (by omega) (by omega)
    simp [hR]; omega

/-- the exact duration of a read-out that finds the transmitter quiescent at the trigger (`uart_readout_duration`; from a busy
transmitter it is `rankOf`, `uart_readout_duration_any`), counted from the cycle after the hand-over cycle (the cycle in which the
wrapper sees `complete`) -/
def readoutCycles (c : Config) (dv : Bool) : Nat := 10 * c.d * c.w * c.ila.depth + 3 - dv.toNat

/-- "Quiet" here and in `quiet_run`: `UartQuiet`, the transmitter idle.  Such a cycle is ready, drives `tx` high, and stays
quiet unless the wrapper hands a word over. -/
theorem quiet_cycle (c : Config) (s : State) (i : In) (hq : UartQuiet s) :
    uartReady c s.uart = true ∧ (step c s i).2.tx = true ∧
    ((IlaStream.step c.ila s.ila (ilaIn c s i)).2.valid = false → UartQuiet (step c s i).1) := by
  obtain ⟨ila, ⟨f, shift, bytes, ⟨uf, baud, ush, bits⟩⟩⟩ := s
  obtain ⟨h1, h2⟩ := hq
  simp only at h1 h2; subst h1 h2
  refine ⟨by simp [uartReady, mbStep], by simp [step, mbStep, Uart.step]; split <;> rfl, fun hv => ?_⟩
  have hv' : (uartIn c ⟨ila, ⟨.idle, shift, bytes, ⟨.idle, baud, ush, bits⟩⟩⟩ i).valid = false := hv
  simp [UartQuiet, step, mbStep, Uart.step, hv']

theorem quiet_run (c : Config) (h : List In) : ∀ s, UartQuiet s →
    IlaStream.transfers c.ila s.ila (ilaHist c s h) = [] → UartQuiet (runState c s h) := by
  induction h with
  | nil => intro s hq _; exact hq
  | cons x h ih =>
    intro s hq ht
    simp only [ilaHist, IlaStream.transfers, List.append_eq_nil_iff] at ht
    have hr : (ilaIn c s x).ready = true := (quiet_cycle c s x hq).1
    have hv : (IlaStream.step c.ila s.ila (ilaIn c s x)).2.valid = false := by
      have := ht.1
      simp only [IlaStream.xferOf, hr, Bool.and_true] at this
      cases hvv : (IlaStream.step c.ila s.ila (ilaIn c s x)).2.valid
      · rfl
      · simp [hvv] at this
    exact ih _ ((quiet_cycle c s x hq).2.2 hv) ht.2

theorem inv_run (c : Config) (hd : 1 ≤ c.d) (hw : 1 ≤ c.w) (h : List In) (σ : State) (hu : Uart.Inv c.d σ.uart.uart) :
    Uart.Inv c.d (runState c σ h).uart.uart :=
  (mb_line c hd hw h σ hu).2

theorem handover_live (c : Config) (hD : 1 ≤ c.ila.depth) (hd : 1 ≤ c.d) (hw : 1 ≤ c.w) (σ : State)
    (hσ : IlaStream.WIdle c.ila σ.ila) (hu : Uart.Inv c.d σ.uart.uart)
    (x0 : In) (ht : x0.trigger = true) (xs : List In) (hl : xs.length = c.ila.depth) (xl : In) :
    Live c (samples c σ x0 xs) (runState c σ (x0 :: xs ++ [xl])) :=
  ⟨(ila_handover c hD σ hσ x0 ht xs hl xl).2.1, inv_run c hd hw _ σ hu⟩

/-- **uart_readout_duration_any**: the duration of a read-out that starts while the transmitter is still busy (any reachable
transmitter state): wrapper idle and transmitter quiescent at the end iff the continuation after the hand-over cycle has at
least `rankOf` (the ranking function, evaluated in the state after the hand-over cycle) cycles. -/
theorem uart_readout_duration_any (c : Config) (hD : 1 ≤ c.ila.depth) (hd : 1 ≤ c.d) (hw : 1 ≤ c.w) (σ : State)
    (hσ : IlaStream.WIdle c.ila σ.ila) (hu : Uart.Inv c.d σ.uart.uart)
    (x0 : In) (ht : x0.trigger = true) (xs : List In) (hl : xs.length = c.ila.depth) (xl : In) (ys : List In)
    (hq : noRetrigger c (runState c σ (x0 :: xs ++ [xl])) ys) :
    ((runState c σ (x0 :: xs ++ xl :: ys)).ila.fsm = .idle ∧ UartQuiet (runState c σ (x0 :: xs ++ xl :: ys))) ↔
      rankOf c (runState c σ (x0 :: xs ++ [xl])) ≤ ys.length := by
  have hL := handover_live c hD hd hw σ hσ hu x0 ht xs hl xl
  obtain ⟨r1, r2⟩ := rank_run c hd hw _ ys _ hL hq
  have hsplit : x0 :: xs ++ xl :: ys = (x0 :: xs ++ [xl]) ++ ys := by simp
  rw [hsplit, runState_append, ← rank_zero_iff c hw _ _ r2, r1]
  omega

/-- nothing is transferred up to the hand-over cycle, so a transmitter quiescent at the trigger still is (`quiet_run`): `rank` at
`R = depth`, `P = L = 0` is the closed form `readoutCycles` -/
theorem handover_rank (c : Config) (hD : 1 ≤ c.ila.depth) (hw : 1 ≤ c.w) (σ : State)
    (hσ : IlaStream.WIdle c.ila σ.ila) (hu : UartQuiet σ)
    (x0 : In) (ht : x0.trigger = true) (xs : List In) (hl : xs.length = c.ila.depth) (xl : In) :
    rankOf c (runState c σ (x0 :: xs ++ [xl])) = readoutCycles c σ.ila.dv := by
  obtain ⟨t0, _, hrem, hdv⟩ := ila_handover c hD σ hσ x0 ht xs hl xl
  obtain ⟨q1, q2⟩ := quiet_run c (x0 :: xs ++ [xl]) σ hu t0
  have hP : (pend (runState c σ (x0 :: xs ++ [xl])).uart).length = 0 := by rw [pend_length, q1]
  have hL : (Uart.abs c.d (runState c σ (x0 :: xs ++ [xl])).uart.uart).length = 0 := by rw [abs_idle _ _ q2]; rfl
  have hw0 : c.w * c.ila.depth ≠ 0 := Nat.mul_ne_zero (by omega) (by omega)
  simp only [rankOf, rank, tsOf, hP, hL, hrem, hdv, readoutCycles, Nat.zero_add, hw0, if_false]
  rw [Nat.mul_assoc (10 * c.d)]
  cases σ.ila.dv <;> simp <;> omega

/-- **uart_readout_duration** (liveness, exact): a trigger seen while the wrapper is idle and the transmitter quiescent
(`x0`), the `depth` capture cycles `xs`, the hand-over cycle `xl` (the wrapper sees `complete`), then ANY continuation `ys`
that starts no new capture.  At the end of the history the wrapper is idle again and the transmitter quiescent **if and only
if** `ys` has at least `readoutCycles = 10·divisor·bytes_per_sample·depth + 3 - data_valid` cycles — for every depth ≥ 1,
divisor ≥ 1, byte width ≥ 1, pre-trigger count, waveform and trigger activity while the wrapper is busy (the UART exerts
no back-pressure beyond its own timing: there is no environment input that could stall the read-out). -/
theorem uart_readout_duration (c : Config) (hD : 1 ≤ c.ila.depth) (hd : 1 ≤ c.d) (hw : 1 ≤ c.w) (σ : State)
    (hσ : IlaStream.WIdle c.ila σ.ila) (hu : UartQuiet σ)
    (x0 : In) (ht : x0.trigger = true) (xs : List In) (hl : xs.length = c.ila.depth) (xl : In) (ys : List In)
    (hq : noRetrigger c (runState c σ (x0 :: xs ++ [xl])) ys) :
    ((runState c σ (x0 :: xs ++ xl :: ys)).ila.fsm = .idle ∧ UartQuiet (runState c σ (x0 :: xs ++ xl :: ys))) ↔
      readoutCycles c σ.ila.dv ≤ ys.length := by
  rw [uart_readout_duration_any c hD hd hw σ hσ hu.inv x0 ht xs hl xl ys hq, handover_rank c hD hw σ hσ hu x0 ht xs hl xl]

/-- **uart_readout_within** (the upper bound alone): `10·divisor·bytes_per_sample·depth + 3` cycles after the hand-over cycle
wrapper and transmitter are idle again -/
theorem uart_readout_within (c : Config) (hD : 1 ≤ c.ila.depth) (hd : 1 ≤ c.d) (hw : 1 ≤ c.w) (σ : State)
    (hσ : IlaStream.WIdle c.ila σ.ila) (hu : UartQuiet σ)
    (x0 : In) (ht : x0.trigger = true) (xs : List In) (hl : xs.length = c.ila.depth) (xl : In) (ys : List In)
    (hq : noRetrigger c (runState c σ (x0 :: xs ++ [xl])) ys)
    (hn : 10 * c.d * c.w * c.ila.depth + 3 ≤ ys.length) :
    (runState c σ (x0 :: xs ++ xl :: ys)).ila.fsm = .idle ∧ UartQuiet (runState c σ (x0 :: xs ++ xl :: ys)) :=
  (uart_readout_duration c hD hd hw σ hσ hu x0 ht xs hl xl ys hq).mpr (by simp only [readoutCycles]; omega)

/-- **uart_readout_total**: `uart_readout_complete` without any assumption on the end of the history.  Every history that
extends at least `10·divisor·bytes_per_sample·depth + 3` cycles past the hand-over cycle (and starts no new capture): the
`tx` waveform of the whole history consists of idle-high cycles and complete 8N1 frames, and the bytes of the frames are exactly
the little-endian bytes of all `depth` captured samples, in order, each once. -/
theorem uart_readout_total (c : Config) (hD : 1 ≤ c.ila.depth) (hd : 1 ≤ c.d) (hw : 1 ≤ c.w) (σ : State)
    (hσ : IlaStream.WIdle c.ila σ.ila) (hu : UartQuiet σ)
    (x0 : In) (ht : x0.trigger = true) (xs : List In) (hl : xs.length = c.ila.depth) (xl : In) (ys : List In)
    (hq : noRetrigger c (runState c σ (x0 :: xs ++ [xl])) ys)
    (hn : 10 * c.d * c.w * c.ila.depth + 3 ≤ ys.length) :
    ∃ segs, (run c σ (x0 :: xs ++ xl :: ys)).map (·.tx) = wave c.d segs ∧
      segBytes segs = (samples c σ x0 xs).flatMap (bytesLE c.w) := by
  obtain ⟨h1, h2⟩ := uart_readout_within c hD hd hw σ hσ hu x0 ht xs hl xl ys hq hn
  exact uart_readout_complete c hD hd hw σ hσ hu x0 ht xs hl xl ys hq h1 h2

/-- **uart_readout_total_decoded**: under the same hypotheses an independent 8N1 receiver listening to `tx` over the whole
history receives exactly the little-endian bytes of the `depth` captured samples, in order, each once. -/
theorem uart_readout_total_decoded (c : Config) (hD : 1 ≤ c.ila.depth) (hd : 1 ≤ c.d) (hw : 1 ≤ c.w) (σ : State)
    (hσ : IlaStream.WIdle c.ila σ.ila) (hu : UartQuiet σ)
    (x0 : In) (ht : x0.trigger = true) (xs : List In) (hl : xs.length = c.ila.depth) (xl : In) (ys : List In)
    (hq : noRetrigger c (runState c σ (x0 :: xs ++ [xl])) ys)
    (hn : 10 * c.d * c.w * c.ila.depth + 3 ≤ ys.length) :
    decode c.d ((run c σ (x0 :: xs ++ xl :: ys)).map (·.tx)) = (samples c σ x0 xs).flatMap (bytesLE c.w) := by
  obtain ⟨h1, h2⟩ := uart_readout_within c hD hd hw σ hσ hu x0 ht xs hl xl ys hq hn
  exact uart_readout_decoded c hD hd hw σ hσ hu x0 ht xs hl xl ys hq h1 h2

/-! ## Non-vacuity (the example of `Props/C56Uart.lean`: depth 2, divisor 1, 2 bytes per sample, first read-out after reset):
the read-out takes exactly `10·1·2·2 + 3 - 1 = 42` cycles after the hand-over cycle -/
example : readoutCycles exCfg (init exCfg).ila.dv = 42 := by decide
example : noRetrigger exCfg (runState exCfg (init exCfg) exHead) (exTail.take 43) := by decide +kernel
example : 10 * exCfg.d * exCfg.w * exCfg.ila.depth + 3 ≤ (exTail.take 43).length := by decide
example : ¬ UartQuiet (runState exCfg (init exCfg) (exHead ++ exTail.take 41)) := by decide +kernel
example : (runState exCfg (init exCfg) (exHead ++ exTail.take 42)).ila.fsm = .idle ∧
    UartQuiet (runState exCfg (init exCfg) (exHead ++ exTail.take 42)) := by decide +kernel

end LunaVerif.IlaUart
