import LunaVerif.Model.Usb3.IdleHandshake
import LunaVerif.Model.Usb3.LinkTimers
/-!
# C44 — Idle handshake and U0 link timers meet their timing rules

"The idle handshake completes only after at least eight consecutive valid logical-idle symbols were
received while at least sixteen symbols have been sent since it started. In U0 a keepalive is
scheduled whenever no link command has been sent for the keepalive interval (never later than
10 ms), and recovery is requested within one cycle of 1 ms without any received link command or
header packet, and never earlier."

Histories are presented most-recent-first (`past[0]` = previous cycle), as in C55; the `…_exact`
theorems tie the cycle model run from reset over an arbitrary input history to closed-form
specifications of that history, and the named property theorems are statements about those
specifications for an arbitrary history.

`IdleHandshakeHandler` is modelled as repaired for defect F19 (see the model file).
-/

namespace LunaVerif.IdleHandshake

def isIdle (i : In) : Bool := i.valid && wordIdle i.data i.ctrl

def lastValid : List In → Option In
  | [] => none
  | x :: past => if x.valid then some x else lastValid past

def prevIdle (past : List In) : Bool :=
  match lastValid past with
  | some y => wordIdle y.data y.ctrl
  | none => false

/-- Eight consecutive valid logical-idle symbols end with the word of the current cycle: the
current word is valid idle and the previous *valid* word (invalid cycles carry no symbols) was idle. -/
def det (past : List In) (x : In) : Bool := prevIdle past && isIdle x

/-- number of most recent consecutive enabled cycles (4 symbols are sent in each) -/
def runLen : List In → Nat
  | [] => 0
  | x :: past => if x.enable then runLen past + 1 else 0

/-- in some cycle of the current (uninterrupted) enable run an 8-symbol idle sequence ended -/
def seenSpec : List In → Bool
  | [] => false
  | x :: past => x.enable && (seenSpec past || det past x)

def outSpec (past : List In) (x : In) : Out :=
  ⟨det past x, x.enable && (seenSpec past && decide (cyclesRequired ≤ runLen past))⟩

def specRun : List In → List In → List Out
  | _, [] => []
  | past, x :: xs => outSpec past x :: specRun (x :: past) xs

def stateAfter (past : List In) : State :=
  match lastValid past with
  | some y => ⟨y.data, y.ctrl, seenSpec past, min cyclesRequired (runLen past)⟩
  | none => ⟨0, 15, seenSpec past, min cyclesRequired (runLen past)⟩

theorem stateAfter_nil : stateAfter [] = init := rfl

theorem lastIdle_stateAfter (past : List In) :
    wordIdle (stateAfter past).lastWord (stateAfter past).lastCtrl = prevIdle past := by
  unfold stateAfter prevIdle
  cases lastValid past <;> simp [wordIdle]

theorem cnt_next (r : Nat) : (if min 4 r < 4 then min 4 r + 1 else min 4 r) = min 4 (r + 1) := by
  split <;> omega

theorem cnt_full (r : Nat) : (min 4 r == 4) = decide (4 ≤ r) := by
  by_cases h : 4 ≤ r <;> simp [h] <;> omega

theorem step_state (past : List In) (x : In) :
    (step (stateAfter past) x).1 = stateAfter (x :: past) := by
  have hl := lastIdle_stateAfter past
  unfold step
  simp only [hl]
  unfold stateAfter at *
  cases hv : x.valid <;> cases he : x.enable <;> cases hlv : lastValid past <;>
    simp [lastValid, hv, he, hlv, seenSpec, runLen, det, isIdle, cyclesRequired] <;>
    exact cnt_next _

theorem step_out (past : List In) (x : In) :
    (step (stateAfter past) x).2 = outSpec past x := by
  have hl := lastIdle_stateAfter past
  unfold step
  simp only [hl]
  unfold stateAfter outSpec det isIdle
  cases hlv : lastValid past <;> simp [cyclesRequired, cnt_full] <;> rfl

theorem run_eq_spec_from (past hist : List In) :
    run (stateAfter past) hist = specRun past hist := by
  induction hist generalizing past with
  | nil => rfl
  | cons x xs ih => simp only [run, specRun, step_out, step_state, ih]

/-- The model run from reset over ANY input history produces exactly the specified outputs:
`idle_detected` = "the last two valid words are logical idle, the second being the current one";
`idle_handshake_complete` = enabled now ∧ an 8-idle-symbol sequence ended in an earlier cycle of
this enable run ∧ at least 4 full cycles (16 symbols) of this run have passed. -/
theorem handshake_exact (hist : List In) : run init hist = specRun [] hist := by
  rw [← stateAfter_nil]; exact run_eq_spec_from [] hist

theorem seenSpec_iff (past : List In) :
    seenSpec past = true ↔
      ∃ k y, k < runLen past ∧ past[k]? = some y ∧ det (past.drop (k + 1)) y = true := by
  induction past with
  | nil => simp [seenSpec, runLen]
  | cons x past ih =>
    cases he : x.enable
    · simp [seenSpec, runLen, he]
    · simp only [seenSpec, runLen, he, Bool.true_and, if_true, Bool.or_eq_true, ih]
      constructor
      · rintro (⟨k, y, hk, hy, hd⟩ | hd)
        · exact ⟨k + 1, y, by omega, by simpa using hy, by simpa using hd⟩
        · exact ⟨0, x, by omega, by simp, by simpa using hd⟩
      · rintro ⟨k, y, hk, hy, hd⟩
        cases k with
        | zero =>
          right
          simp at hy
          subst hy
          simpa using hd
        | succ k => exact Or.inl ⟨k, y, by omega, by simpa using hy, by simpa using hd⟩

theorem runLen_enabled (past : List In) (k : Nat) (hk : k < runLen past) :
    ∃ y, past[k]? = some y ∧ y.enable = true := by
  induction past generalizing k with
  | nil => simp [runLen] at hk
  | cons x past ih =>
    cases he : x.enable
    · simp [runLen, he] at hk
    · cases k with
      | zero => exact ⟨x, by simp, he⟩
      | succ k =>
        simp only [runLen, he, if_true] at hk
        simpa using ih k (by omega)

/-- **C44 (idle handshake).**  For every input history: if `idle_handshake_complete` is asserted in
the cycle with input `x` after the history `past`, then
* the handler is enabled now and was enabled in (at least) the 4 preceding cycles — 16 symbols
  have been sent since the handshake started — and
* in some earlier cycle `k+1` cycles ago, inside this handshake (this uninterrupted enable run),
  the received word was a VALID logical-idle word and the valid word received before it was
  logical idle too: eight consecutive valid logical-idle symbols (see `det_iff_eight_idle_symbols`). -/
theorem handshake_needs_8_idle_and_16_sent (past : List In) (x : In)
    (h : (outSpec past x).complete = true) :
    x.enable = true ∧ 4 ≤ runLen past ∧
    (∀ j, j < 4 → ∃ y, past[j]? = some y ∧ y.enable = true) ∧
    ∃ k y, k < runLen past ∧ past[k]? = some y ∧ y.enable = true ∧ y.valid = true ∧
      det (past.drop (k + 1)) y = true := by
  simp only [outSpec, Bool.and_eq_true, cyclesRequired] at h
  obtain ⟨he, hs, hr⟩ := h
  have hr := of_decide_eq_true hr
  refine ⟨he, hr, fun j hj => runLen_enabled past j (by omega), ?_⟩
  obtain ⟨k, y, hk, hy, hd⟩ := (seenSpec_iff past).1 hs
  obtain ⟨y', hy', hye⟩ := runLen_enabled past k hk
  have : y' = y := by simpa [hy] using hy'.symm
  subst this
  refine ⟨k, y', hk, hy, hye, ?_, hd⟩
  simp only [det, isIdle, Bool.and_eq_true] at hd
  exact hd.2.1

/-- … and conversely the handshake does complete as soon as both conditions hold. -/
theorem handshake_completes (past : List In) (x : In) (he : x.enable = true)
    (hr : 4 ≤ runLen past)
    (hs : ∃ k y, k < runLen past ∧ past[k]? = some y ∧ det (past.drop (k + 1)) y = true) :
    (outSpec past x).complete = true := by
  simp only [outSpec, Bool.and_eq_true, cyclesRequired]
  exact ⟨he, (seenSpec_iff past).2 hs, decide_eq_true hr⟩

/-! ### `det` at symbol level -/

/-- the four symbols of a word, first received (least significant byte) first: (value, is-K) -/
def symbols (i : In) : List (Nat × Bool) :=
  [(i.data % 256, i.ctrl % 2 == 1), (i.data / 256 % 256, i.ctrl / 2 % 2 == 1),
   (i.data / 65536 % 256, i.ctrl / 4 % 2 == 1), (i.data / 16777216 % 256, i.ctrl / 8 % 2 == 1)]

/-- the received symbol stream, most recent symbol first (invalid cycles carry no symbols) -/
def rxSymbols : List In → List (Nat × Bool)
  | [] => []
  | x :: past => if x.valid then (symbols x).reverse ++ rxSymbols past else rxSymbols past

def idleSym : Nat × Bool := (0, false)

theorem wordIdle_iff_symbols (i : In) (hd : i.data < 2 ^ 32) (hc : i.ctrl < 16) :
    wordIdle i.data i.ctrl = true ↔ symbols i = List.replicate 4 idleSym := by
  simp only [wordIdle, symbols, idleSym, List.replicate, Bool.and_eq_true, beq_iff_eq,
    List.cons.injEq, Prod.mk.injEq, and_true, beq_eq_false_iff_ne, ne_eq]
  constructor
  · rintro ⟨h1, h2⟩; omega
  · intro h; omega

theorem lastValid_mem {past : List In} {y : In} (h : lastValid past = some y) : y ∈ past := by
  induction past with
  | nil => simp [lastValid] at h
  | cons z past ih =>
    by_cases hz : z.valid = true
    · simp [lastValid, hz] at h; subst h; simp
    · simp only [lastValid, hz] at h
      exact List.mem_cons_of_mem _ (ih h)

theorem rxSymbols_take4 (past : List In) :
    (rxSymbols past).take 4 =
      match lastValid past with
      | some y => (symbols y).reverse
      | none => [] := by
  induction past with
  | nil => rfl
  | cons x past ih =>
    cases hv : x.valid
    · simpa [rxSymbols, lastValid, hv] using ih
    · simp [rxSymbols, lastValid, hv, symbols]

/-- For 32-bit data and 4-bit ctrl in the current word and in every word of `past` (`hx`, `hp`): `det` holds exactly
when the current word is valid and the eight most recently received symbols (those of the current word included)
exist and are all logical idle (D0.0, not K). -/
theorem det_iff_eight_idle_symbols (past : List In) (x : In)
    (hx : x.data < 2 ^ 32 ∧ x.ctrl < 16)
    (hp : ∀ y ∈ past, y.data < 2 ^ 32 ∧ y.ctrl < 16) :
    det past x = true ↔
      x.valid = true ∧ (rxSymbols (x :: past)).take 8 = List.replicate 8 idleSym := by
  cases hv : x.valid
  · simp [det, isIdle, hv]
  · have h8 : (rxSymbols (x :: past)).take 8 = (symbols x).reverse ++ (rxSymbols past).take 4 := by
      simp [rxSymbols, hv, symbols]
    rw [h8, rxSymbols_take4]
    have hxi := wordIdle_iff_symbols x hx.1 hx.2
    have hlen : ∀ i : In, (symbols i).length = 4 := fun _ => rfl
    simp only [det, isIdle, prevIdle, hv, Bool.true_and, Bool.and_eq_true, true_and]
    -- two blocks of four make eight equal symbols iff each block is four of them (`replicate` kept folded)
    cases hlv : lastValid past with
    | none => simp [-List.reduceReplicate, List.eq_replicate_iff, hlen]
    | some y =>
      obtain ⟨hyd, hyc⟩ := hp y (lastValid_mem hlv)
      simp [-List.reduceReplicate, wordIdle_iff_symbols y hyd hyc, hxi, List.append_eq_replicate_iff, hlen,
        List.reverse_eq_iff, and_comm]

/-- Non-vacuity: two valid idle words during a handshake complete it in the fifth enabled cycle;
an invalid all-zero word between non-idle words does not. -/
example : run init [⟨true, true, 0, 0⟩, ⟨true, true, 0, 0⟩, ⟨true, true, 5, 0⟩, ⟨true, false, 0, 0⟩,
                    ⟨true, true, 7, 0⟩, ⟨true, true, 7, 0⟩]
    = [⟨false, false⟩, ⟨true, false⟩, ⟨false, false⟩, ⟨false, false⟩, ⟨false, true⟩, ⟨false, true⟩] := by
  decide
/-- The F19 scenario: `enable` high and no valid word at all (eight invalid all-zero words) — idle is not detected and
the handshake does not complete. -/
example : (run init (List.replicate 8 ⟨true, false, 0, 0⟩)).all (fun o => !o.complete && !o.idleDetected) := by
  decide

end LunaVerif.IdleHandshake

namespace LunaVerif.LinkTimers

/-- clearing strobe of the keepalive timer / of the recovery timer -/
def txClr (i : In) : Bool := i.lcTx
def rxClr (i : In) : Bool := i.lcRx || i.pktRx

/-- Number of most recent consecutive cycles in which the link was enabled (U0) and the clearing
strobe was absent: with `quiet … past = q`, the current cycle is the `(q+1)`-th cycle since the
last strobe (or since U0 was entered / reset). -/
def quiet (clr : In → Bool) : List In → Nat
  | [] => 0
  | x :: past => if clr x || !x.enable then 0 else quiet clr past + 1

/-- strobe of a timer with threshold `n` cycles when the silence so far is `q` cycles -/
def fireSpec (n q : Nat) : Bool := q % 2 ^ rangeWidth n + 1 == n

def outSpec (c : Config) (past : List In) : Out :=
  ⟨fireSpec c.keepalive (quiet txClr past), fireSpec c.recovery (quiet rxClr past)⟩

def specRun (c : Config) : List In → List In → List Out
  | _, [] => []
  | past, x :: xs => outSpec c past :: specRun c (x :: past) xs

def stateAfter (c : Config) (past : List In) : State :=
  ⟨quiet txClr past % 2 ^ rangeWidth c.keepalive, quiet rxClr past % 2 ^ rangeWidth c.recovery⟩

theorem timerNext_quiet (n : Nat) (clr : In → Bool) (past : List In) (x : In) :
    timerNext n (quiet clr past % 2 ^ rangeWidth n) (clr x) x.enable
      = quiet clr (x :: past) % 2 ^ rangeWidth n := by
  unfold timerNext
  cases hc : clr x <;> cases he : x.enable <;> simp [quiet, hc, he, Nat.mod_add_mod]

theorem step_state (c : Config) (past : List In) (x : In) :
    (step c (stateAfter c past) x).1 = stateAfter c (x :: past) := by
  simp only [step, stateAfter]
  have h1 := timerNext_quiet c.keepalive txClr past x
  have h2 := timerNext_quiet c.recovery rxClr past x
  simp only [txClr, rxClr] at h1 h2
  simp only [h1, h2]

theorem step_out (c : Config) (past : List In) (x : In) :
    (step c (stateAfter c past) x).2 = outSpec c past := rfl

theorem run_eq_spec_from (c : Config) (past hist : List In) :
    run c (stateAfter c past) hist = specRun c past hist := by
  induction hist generalizing past with
  | nil => rfl
  | cons x xs ih => simp only [run, specRun, step_out, step_state, ih]

/-- For every pair of cycle counts and every input history, the strobes of the model run from reset
are `silence mod 2^w + 1 = count`, `silence` being the number of cycles since the last clearing
strobe (or since the link was (re-)enabled). -/
theorem timers_exact (c : Config) (hist : List In) : run c init hist = specRun c [] hist := by
  have : stateAfter c [] = init := by simp [stateAfter, quiet, init]
  rw [← this]; exact run_eq_spec_from c [] hist

/-- the timer register can hold `n - 1` -/
theorem lt_two_pow_rangeWidth (n : Nat) : n - 1 < 2 ^ rangeWidth n := by
  unfold rangeWidth
  split
  · simp; omega
  · exact Nat.lt_log2_self

/-- … and wraps before twice the count -/
theorem two_pow_rangeWidth_lt (n : Nat) (hn : 1 ≤ n) : 2 ^ rangeWidth n < 2 * n := by
  unfold rangeWidth
  split
  · have : n = 1 := by omega
    subst this; simp
  · have := Nat.log2_self_le (n := n - 1) (by omega)
    rw [Nat.pow_succ]; omega

theorem fireSpec_not_early (n q : Nat) (h : fireSpec n q = true) : n ≤ q + 1 := by
  simp only [fireSpec, beq_iff_eq] at h
  have := Nat.mod_le q (2 ^ rangeWidth n)
  omega

theorem fireSpec_at (n q : Nat) (h : q + 1 = n) : fireSpec n q = true := by
  have := lt_two_pow_rangeWidth n
  simp only [fireSpec, beq_iff_eq]
  rw [Nat.mod_eq_of_lt (by omega)]; exact h

/-- The strobe repeats with every full wrap of the timer register, `2^w` cycles later in the same silence (the
comment in the source calls this roll-over harmless). -/
theorem fire_period (n q : Nat) (h : fireSpec n q = true) : fireSpec n (q + 2 ^ rangeWidth n) = true := by
  simpa [fireSpec] using h

/-- once the silence has reached the count, one of its last `2^w < 2n` cycles carried a strobe -/
theorem fireSpec_recent (n q : Nat) (hn : 1 ≤ n) (h : n ≤ q + 1) :
    ∃ j, j < 2 ^ rangeWidth n ∧ j + 1 < 2 * n ∧ j ≤ q ∧ fireSpec n (q - j) = true := by
  have hw := lt_two_pow_rangeWidth n
  have hw2 := two_pow_rangeWidth_lt n hn
  simp only [fireSpec, beq_iff_eq]
  generalize 2 ^ rangeWidth n = M at *
  -- `q - j = n - 1 + M * (d / M)` for `j = d % M`, where `d = q - (n - 1)` is the time since the first strobe
  let d := q - (n - 1)
  have hj : d % M < M := Nat.mod_lt _ (by omega)
  have hdm := Nat.div_add_mod d M
  refine ⟨d % M, hj, by omega, by omega, ?_⟩
  have : q - d % M = (n - 1) + M * (d / M) := by omega
  rw [this, Nat.add_mul_mod_self_left, Nat.mod_eq_of_lt (by omega)]; omega

theorem quiet_drop (clr : In → Bool) (past : List In) (j : Nat) (hj : j ≤ quiet clr past) :
    quiet clr (past.drop j) = quiet clr past - j := by
  induction past generalizing j with
  | nil => simp [quiet] at *
  | cons x past ih =>
    cases j with
    | zero => simp
    | succ j =>
      by_cases h : (clr x || !x.enable) = true
      · simp [quiet, h] at hj
      · simp only [quiet, h, Bool.false_eq_true, if_false] at hj ⊢
        rw [List.drop_succ_cons, ih j (by omega)]; omega

theorem quiet_silent (clr : In → Bool) (past : List In) (k : Nat) (hk : k < quiet clr past) :
    ∃ y, past[k]? = some y ∧ clr y = false ∧ y.enable = true := by
  induction past generalizing k with
  | nil => simp [quiet] at hk
  | cons x past ih =>
    by_cases h : (clr x || !x.enable) = true
    · simp [quiet, h] at hk
    · simp only [quiet, h, Bool.false_eq_true, if_false] at hk
      cases k with
      | zero => exact ⟨x, rfl, by simpa using h⟩
      | succ k => simpa using ih k (by omega)

set_option linter.unusedVariables false in -- `hR` is used by neither half: the second's premise gives it, the first needs no bound
/-- **C44 (recovery).**  For every recovery cycle count `R` (the statement carries `R ≥ 1`, `hR`, and uses it in neither
half) and every history:
* *never earlier*: `transition_to_recovery` in the current cycle implies that the `R - 1` preceding
  cycles were all in U0 without a received link command or packet, i.e. the current cycle is at
  least the `R`-th since the last one;
* *exactly at the time-out*: when the current cycle is the `R`-th, the strobe is asserted.
With `R = ⌊1 ms · f⌋` (`floor_within_one_cycle`) that is within one cycle of 1 ms. -/
theorem recovery_exactly_at_timeout (c : Config) (hR : 1 ≤ c.recovery) (past : List In) :
    ((outSpec c past).transitionToRecovery = true →
        c.recovery ≤ quiet rxClr past + 1 ∧
        ∀ k, k + 1 < c.recovery → ∃ y, past[k]? = some y ∧ rxClr y = false ∧ y.enable = true) ∧
    (quiet rxClr past + 1 = c.recovery → (outSpec c past).transitionToRecovery = true) := by
  refine ⟨fun h => ?_, fireSpec_at _ _⟩
  have hle := fireSpec_not_early _ _ h
  exact ⟨hle, fun k hk => quiet_silent rxClr past k (by omega)⟩

/-- **C44 (keepalive).**  For every keepalive cycle count `K ≥ 1` and every history:
* when the current cycle is the `K`-th since the last transmitted link command (in U0),
  `schedule_keepalive` is asserted;
* whenever no link command has been sent for at least that long, `schedule_keepalive` was asserted in
  the current cycle or one of the `2^w - 1 < 2K - 1` cycles before it (`j` cycles ago), so while the link
  stays silent a keepalive is scheduled at least every `2K` cycles = 20 µs ≤ 10 ms. -/
theorem keepalive_within_interval (c : Config) (hK : 1 ≤ c.keepalive) (past : List In) :
    (quiet txClr past + 1 = c.keepalive → (outSpec c past).scheduleKeepalive = true) ∧
    (c.keepalive ≤ quiet txClr past + 1 →
      ∃ j, j < 2 ^ rangeWidth c.keepalive ∧ j + 1 < 2 * c.keepalive ∧ j ≤ quiet txClr past ∧
        (outSpec c (past.drop j)).scheduleKeepalive = true) := by
  refine ⟨fireSpec_at _ _, fun h => ?_⟩
  obtain ⟨j, hj, hj2, hjq, hf⟩ := fireSpec_recent _ _ hK h
  exact ⟨j, hj, hj2, hjq, by rw [← quiet_drop txClr past j hjq] at hf; exact hf⟩

/-- keepalives are never scheduled early either: a strobe implies `K - 1` silent cycles before it -/
theorem keepalive_not_early (c : Config) (past : List In)
    (h : (outSpec c past).scheduleKeepalive = true) : c.keepalive ≤ quiet txClr past + 1 :=
  fireSpec_not_early _ _ h

/-- The cycle counts are floors (`int(t·f)` for `t·f ≥ 0`; the harness checks that the float product
the class computes equals the exact floor for every frequency it uses): with `f` in Hz,
`R = ⌊f / 1000⌋` cycles last at most 1 ms and `R + 1` cycles last longer; `K = ⌊f / 100000⌋` cycles last
at most 10 µs. -/
theorem floor_within_one_cycle (f d : Nat) (hd : 0 < d) :
    (f / d) * d ≤ f ∧ f < (f / d + 1) * d := by
  constructor
  · exact Nat.div_mul_le_self f d
  · have := Nat.div_add_mod f d
    have := Nat.mod_lt f hd
    rw [Nat.add_mul, Nat.mul_comm]; omega

/-- the values at the real 125 MHz `ss` clock: 1250 and 125000 cycles, registers of 11 and 17 bits -/
example : (125000000 / 100000, 125000000 / 1000) = (1250, 125000) := by decide
example : (rangeWidth 1250, rangeWidth 125000) = (11, 17) := by decide +kernel

/-- Non-vacuity: K = 3, R = 6; silence from reset, a received packet in cycle 4, a transmission in
cycle 2. -/
example : run ⟨3, 6⟩ init
    [⟨true, false, false, false⟩, ⟨true, false, false, false⟩, ⟨true, false, false, true⟩,
     ⟨true, false, false, false⟩, ⟨true, false, true, false⟩, ⟨true, false, false, false⟩,
     ⟨true, false, false, false⟩, ⟨true, false, false, false⟩, ⟨true, false, false, false⟩,
     ⟨true, false, false, false⟩, ⟨true, false, false, false⟩]
    = [⟨false, false⟩, ⟨false, false⟩, ⟨true, false⟩, ⟨false, false⟩, ⟨false, false⟩, ⟨true, false⟩,
       ⟨false, false⟩, ⟨false, false⟩, ⟨false, false⟩, ⟨true, false⟩, ⟨false, true⟩] := by decide

end LunaVerif.LinkTimers
