import LunaVerif.Props.C27AllStarts
/-!
# C27 — Constant-stream generators emit exactly the requested slice

"For any constant data, payload width, start position within the data and maximum length, a started
generator emits the data from the start position onward, limited to the maximum length in bytes, with
'first' on the first word, 'last' on the final word, per-byte valid bits covering exactly the bytes
sent in a partial final word, and then pulses 'done'; it emits nothing when the length limit is zero.
The serializer variant behaves the same for its runtime data array."

The specification (`Lemmas/StreamGenSpec.lean`) is a *player* `Spec` of the words `xfer c s M k`, `k < N`, computed
directly from the constant bytes (`budget` = min(max_length, bytes from the start position), `N = ⌈budget / wb⌉`).

`Props/C27AllStarts.lean` proves that the gateware model is the player `SpecA` of the words it emits as coded,
for every value of `start_position`.  While the requested start position is within the data the two players are
in the same phase and show the same ports (`within_data_is_slice`), which gives `emits_slice`; the serializer
likewise.  Both main theorems are about the histories of their environment predicate (`EnvRun`, `SerEnvRun`):
`max_length` fits its port, a request starts within the data, and `start_position` (for the serializer also the live
length limit) is held during an emission.
-/
namespace LunaVerif.StreamGen

/-- the same phase of the as-coded player -/
def Spec.toA : Spec → SpecA
  | .idle m => .idle m
  | .play s M k => .play s M k
  | .done m => .done m

def Spec.Within (c : Config) : Spec → Prop
  | .play s _ _ => s < nWords c
  | _ => True

theorem spec_step_within (c : Config) (hc : c.Valid) (q : Spec) (i : In) (hW : q.Within c) (hE : Env c q i) :
    specOutA c q.toA = specOut c q ∧ specNextA c q.toA i = (specNext c q i).toA ∧
    (specNext c q i).Within c ∧ EnvA c q.toA i := by
  cases q with
  | idle m =>
    refine ⟨rfl, ?_, ?_, hE.1⟩
    · simp only [specNext, apply_ite Spec.toA]; rfl
    · simp only [specNext]
      split
      · rename_i h; exact hE.2 h.1 h.2
      · trivial
  | done m => exact ⟨rfl, rfl, trivial, trivial⟩
  | play s M k =>
    obtain ⟨hN, _, hx⟩ := within_data_is_slice c hc s M hW
    refine ⟨?_, ?_, ?_, hE⟩
    · simp only [Spec.toA, specOutA, specOut, hx]
    · simp only [specNext, ← hN, apply_ite Spec.toA]; rfl
    · simp only [specNext]
      split
      · split
        · trivial
        · exact hW
      · exact hW

theorem specRun_within (c : Config) (hc : c.Valid) (q : Spec) (hW : q.Within c) (hist : List In)
    (hE : EnvRun c q hist) : specRunA c q.toA hist = specRun c q hist ∧ EnvRunA c q.toA hist := by
  induction hist generalizing q with
  | nil => exact ⟨rfl, trivial⟩
  | cons x xs ih =>
    obtain ⟨h1, h2, h3, h4⟩ := spec_step_within c hc q x hW hE.1
    obtain ⟨i1, i2⟩ := ih _ h3 hE.2
    simp only [specRunA, specRun, EnvRunA, h1, h2, i1]
    exact ⟨trivial, h4, i2⟩

/-- **emits_slice** (main theorem): for every valid configuration and every input history satisfying `EnvRun`
(`Env`, Lemmas/StreamGenSpec.lean): in idle cycles `max_length` fits its port and a request names a start position
within the data (in words); during an emission the `start_position` port is HELD at the requested value (`first` is
computed from the live input) — that is any sequence of such requests with any max_length the port can carry, any
ready pattern including stalls on the last word, starts while busy: the ports of the generator (valid mask, payload,
first, last, done, output_length) are, cycle by cycle, those of the player of the requested slices. -/
theorem emits_slice (c : Config) (hc : c.Valid) (hist : List In) (hE : EnvRun c (.idle 0) hist) :
    run c (init c) hist = specRun c (.idle 0) hist := by
  obtain ⟨h1, h2⟩ := specRun_within c hc (.idle 0) trivial hist hE
  rw [← h1]
  exact emits_all_starts c hc hist h2

/-! ## The clauses of the property, read off the player -/

/-- **first_last_flags**: word `k` of an emission carries `first` iff it is word 0 and `last` iff it is the
final word `N-1`; its payload is the `wb` bytes of the constant at word offset `s + k`. -/
theorem first_last_flags (c : Config) (s M k : Nat) :
    (xfer c s M k).first = (k == 0) ∧ (xfer c s M k).last = (k + 1 == nXfers c s M) ∧
    (xfer c s M k).payload = wordOf c.big ((c.data.drop ((s + k) * c.wb)).take c.wb) := ⟨rfl, rfl, rfl⟩

/-- **valid_mask_partial_word**: with per-byte valid bits, every word before the final one has all `wb`
bits set, and the final word has exactly as many (low) bits set as bytes of the budget remain — between
1 and `wb`; over the whole emission exactly `budget = min(max_length, bytes from the start position)`
bytes are marked valid. -/
theorem valid_mask_partial_word (c : Config) (hc : c.Valid) (hv : c.vw ≠ 1) (s M k : Nat)
    (hk : k < nXfers c s M) :
    (k + 1 < nXfers c s M → (xfer c s M k).valid = ones c.wb) ∧
    (k + 1 = nXfers c s M → (xfer c s M k).valid = ones (budget c s M - k * c.wb) ∧
      1 ≤ budget c s M - k * c.wb ∧ budget c s M - k * c.wb ≤ c.wb ∧
      k * c.wb + (budget c s M - k * c.wb) = budget c s M) := by
  simp only [xfer, hv, if_false]
  exact partial_word c.wb _ k _ (lt_nXfers_iff c hc s M) hk

/-- **done_once**: `done` is high exactly in the player's `done` phase, which lasts one cycle, is entered
only by taking the final word of an emission, and is followed by idle. -/
theorem done_once (c : Config) (q : Spec) (i : In) :
    ((specOut c q).done = true ↔ ∃ m, q = .done m) ∧
    (∀ m, q = .done m → specNext c q i = .idle m) ∧
    (∀ m, specNext c q i = .done m ↔ ∃ s k, q = .play s m k ∧ i.ready = true ∧ k + 1 = nXfers c s m) := by
  refine ⟨?_, ?_, ?_⟩
  · cases q <;> simp [specOut]
  · rintro m rfl; rfl
  · intro m
    cases q with
    | idle m' => simp only [specNext]; split <;> simp
    | done m' => simp [specNext]
    | play s M k =>
      constructor
      · intro h
        simp only [specNext] at h
        by_cases hr : i.ready = true
        · by_cases hl : k + 1 = nXfers c s M
          · simp [hr, hl] at h; subst h; exact ⟨s, k, rfl, hr, hl⟩
          · simp [hr, hl] at h
        · simp [hr] at h
      · rintro ⟨s', k', hq, hr, hl⟩
        injection hq with h1 h2 h3
        subst h1 h2 h3
        simp [specNext, hr, hl]

theorem word_held_until_taken (c : Config) (s M k : Nat) (i : In) (h : i.ready = false) :
    specNext c (.play s M k) i = .play s M k := by simp [specNext, h]

/-- **nothing_when_len_zero**: while the length limit is zero an idle generator emits nothing and never
reports `done`, whatever `start` does. -/
theorem nothing_when_len_zero (c : Config) (σ : State) (hσ : σ.fsm = .idle) (hist : List In)
    (h0 : ∀ x ∈ hist, x.maxLength = 0) :
    ∀ o ∈ run c σ hist, o.valid = 0 ∧ o.first = false ∧ o.last = false ∧ o.done = false := by
  induction hist generalizing σ with
  | nil => intro o ho; simp [run] at ho
  | cons x xs ih =>
    have hx := h0 x (List.mem_cons_self ..)
    obtain ⟨f, pos, bs, ml, rd⟩ := σ
    simp only at hσ; subst hσ
    intro o ho
    simp only [run, List.mem_cons] at ho
    rcases ho with rfl | ho
    · simp [step]
    · refine ih _ ?_ (fun y hy => h0 y (List.mem_cons_of_mem _ hy)) o ho
      simp [step, hx]

/-! ## StreamSerializer -/

/-- the same phase of the as-coded player -/
def SerSpec.toA : SerSpec → SerSpecA
  | .idle => .idle
  | .play s M k => .play s M k
  | .done => .done

def SerSpec.Within (c : SerConfig) : SerSpec → Prop
  | .play s _ _ => s < c.n
  | _ => True

theorem ser_spec_step_within (c : SerConfig) (q : SerSpec) (i : SerIn) (hW : q.Within c) (hE : SerEnv c q i) :
    serSpecOutA c q.toA i = serSpecOut c q i ∧ serSpecNextA c q.toA i = (serSpecNext c q i).toA ∧
    (serSpecNext c q i).Within c ∧ SerEnvA c q.toA i := by
  cases q with
  | idle =>
    refine ⟨rfl, ?_, ?_, hE.1⟩
    · simp only [serSpecNext, apply_ite SerSpec.toA]; rfl
    · simp only [serSpecNext]
      split
      · rename_i h; exact hE.2 h.1 h.2
      · trivial
  | done => exact ⟨rfl, rfl, trivial, trivial⟩
  | play s M k =>
    obtain ⟨hN, hx⟩ := ser_within_is_slice c s M k hW i
    refine ⟨hx, ?_, ?_, hE⟩
    · simp only [serSpecNext, ← hN, apply_ite SerSpec.toA]; rfl
    · simp only [serSpecNext]
      split
      · split
        · trivial
        · exact hW
      · exact hW

theorem serSpecRun_within (c : SerConfig) (q : SerSpec) (hW : q.Within c) (hist : List SerIn)
    (hE : SerEnvRun c q hist) : serSpecRunA c q.toA hist = serSpecRun c q hist ∧ SerEnvRunA c q.toA hist := by
  induction hist generalizing q with
  | nil => exact ⟨rfl, trivial⟩
  | cons x xs ih =>
    obtain ⟨h1, h2, h3, h4⟩ := ser_spec_step_within c q x hW hE.1
    obtain ⟨i1, i2⟩ := ih _ h3 hE.2
    simp only [serSpecRunA, serSpecRun, SerEnvRunA, h1, h2, i1]
    exact ⟨trivial, h4, i2⟩

def SerR (c : SerConfig) (σ : SerState) : SerSpec → Prop
  | .idle => σ.fsm = .idle
  | .done => σ.fsm = .done
  | .play s M k => σ.fsm = .streaming ∧ σ.pos = s + k ∧ σ.bytesSent = k ∧ k < serCount c s M ∧ s < c.n ∧
      M < 2 ^ serCountWidth c

theorem SerR.toA (c : SerConfig) (σ : SerState) (q : SerSpec) (hR : SerR c σ q) :
    SerRA c σ q.toA ∧ q.Within c := by
  cases q with
  | idle => exact ⟨hR, trivial⟩
  | done => exact ⟨hR, trivial⟩
  | play s M k =>
    obtain ⟨hf, hp, hb, hk, hs, hM⟩ := hR
    have he : serEff c s = s := if_neg (by omega)
    refine ⟨⟨hf, ?_, hb, ?_, hM⟩, hs⟩
    · rw [he]; exact hp
    · rw [serCountA, he]; exact hk

theorem ser_run_sim (c : SerConfig) (hn : 1 ≤ c.n) (σ : SerState) (q : SerSpec) (hR : SerR c σ q)
    (hist : List SerIn) (hE : SerEnvRun c q hist) : serRun c σ hist = serSpecRun c q hist := by
  obtain ⟨hRA, hW⟩ := hR.toA
  obtain ⟨h1, h2⟩ := serSpecRun_within c q hW hist hE
  rw [← h1]
  exact ser_run_simA c hn σ _ hRA hist h2

/-- **serializer_emits_slice**: the same statement for the serializer — for every array length `n ≥ 1`, with or
without a max_length port, and every input history in which a request names a position within the array
and `start_position`/`max_length` are held during the emission, the ports are those of the player of
`data[s], data[s+1], …` (`min(max_length, n - s)` words, `first` on the first, `last` on the final one,
then one cycle of `done`). -/
theorem serializer_emits_slice (c : SerConfig) (hn : 1 ≤ c.n) (hist : List SerIn)
    (hE : SerEnvRun c .idle hist) : serRun c serInit hist = serSpecRun c .idle hist :=
  ser_run_sim c hn _ _ (by simp [SerR, serInit]) hist hE

/-! ## Non-vacuity -/
example : xfers ⟨[1, 2, 3, 4, 5, 6, 7], 4, false, 8, 4⟩ 0 6 =
    [⟨0x04030201, 0xF, true, false⟩, ⟨0x00070605, 0x3, false, true⟩] := by decide
example : xfers ⟨[1, 2, 3, 4, 5, 6, 7], 4, true, 8, 4⟩ 1 200 = [⟨0x050607, 0x7, true, true⟩] := by decide
example : EnvRun ⟨[1, 2, 3], 1, false, 8, 1⟩ (.idle 0)
    [⟨true, 1, 5, false⟩, ⟨false, 1, 0, false⟩, ⟨false, 1, 0, true⟩, ⟨false, 1, 0, true⟩, ⟨false, 0, 0, true⟩] := by
  simp [EnvRun, Env, specNext, nWords, nXfers, budget]
example : (run ⟨[1, 2, 3], 1, false, 8, 1⟩ (init ⟨[1, 2, 3], 1, false, 8, 1⟩)
    [⟨true, 1, 5, false⟩, ⟨false, 1, 0, false⟩, ⟨false, 1, 0, true⟩, ⟨false, 1, 0, true⟩, ⟨false, 0, 0, true⟩]).map
      (fun o => (o.valid, o.payload, o.first, o.last, o.done)) =
    [(0, 0, false, false, false), (1, 2, true, false, false), (1, 2, true, false, false),
     (1, 3, false, true, false), (0, 0, false, false, true)] := by decide

end LunaVerif.StreamGen
