import LunaVerif.Lemmas.C31PhyRxStream
import LunaVerif.Lemmas.C36CrcBounds

/-!
# C31 in the physical layer: the receive wiring of `USB3PhysicalLayer`

"... descrambling inverts it ... The keystream advances only when a word is actually transferred ... so
descrambling a scrambled stream from the same starting state returns the original stream."

`Props/C31Phy.lean` proves the transmit half (Scrambler -> CTCSkipInserter, hold = sending_skip).  Here the
receive half: PHY pins -> CTCSkipRemover -> RxWordAligner -> Descrambler -> RxPacketAligner -> `source`, the
composed model `Model/Usb3/PhyRx.lean` (co-simulated against the real `USB3PhysicalLayer` on every run, driver
model 4, case kind `phyrxm`).  The stage lemmas are in `Lemmas/C31PhyRxStream.lean`; here the end-to-end
statements against the reference LFSR (`refPass`: serial LFSR x^16+x^5+x^4+x^3+1 of `Props/C31.lean`, one key
byte per symbol, data symbols XORed, control symbols untouched, restart after COM in symbol 0).
-/
namespace LunaVerif.PhyRx
open LunaVerif.Crc LunaVerif.Scrambler LunaVerif.Ss
open LunaVerif.PhyTx (toSs headIsCom refKeys SKP4s IDLE4s farEnd txWords linkView)

/-! ## A word stream that is quiet for an aligner: no re-alignment, stated on the valid words alone -/

/-- The word stream `ws` is quiet for an aligner at offset `e`: starting with history word `prev`, what the aligner
detects on a word of it (`detect`: the last matching window) is nothing or `e`, so the aligner does not re-align
(C34's `NoRealign`, stated on the valid words). -/
def QuietW (kd : RxAligner.Kind) (e : Nat) : Word → List Word → Prop
  | _, [] => True
  | prev, w :: ws =>
    (RxAligner.detect kd (prev ++ w) = none ∨ RxAligner.detect kd (prev ++ w) = some e) ∧ QuietW kd e w ws

def QuietW.dec (kd : RxAligner.Kind) (e : Nat) : (prev : Word) → (ws : List Word) → Decidable (QuietW kd e prev ws)
  | _, [] => isTrue trivial
  | prev, w :: ws =>
    have := QuietW.dec kd e w ws
    by unfold QuietW; exact inferInstance

instance (kd : RxAligner.Kind) (e : Nat) (prev : Word) (ws : List Word) : Decidable (QuietW kd e prev ws) :=
  QuietW.dec kd e prev ws

theorem noRealign_iff (kd : RxAligner.Kind) (e : Nat) (prev : Word) (I : List RxAligner.In) :
    RxAligner.NoRealign kd e prev I ↔ QuietW kd e prev (inWords I) := by
  induction I generalizing prev with
  | nil => simp [RxAligner.NoRealign, inWords, QuietW]
  | cons i is ih =>
    cases hv : i.valid <;> simp [RxAligner.NoRealign, inWords, QuietW, hv, ih]

theorem quietW_take (kd : RxAligner.Kind) (e : Nat) (prev : Word) (ws : List Word) (k : Nat)
    (h : QuietW kd e prev ws) : QuietW kd e prev (ws.take k) := by
  induction ws generalizing prev k with
  | nil => rw [List.take_nil]; trivial
  | cons w ws ih =>
    cases k with
    | zero => trivial
    | succ k => exact ⟨h.1, ih w k h.2⟩

/-! ## The reference LFSR pass over a word stream (USB 3.2 Appendix B) -/

/-- One pass of the serial-LFSR scrambler over a word stream: data symbols XORed with the reference key bytes
(`refKeys`, one byte per symbol), control symbols untouched, the register moved by four bytes per word and
restarted at FFFFh after a word whose symbol 0 is COM.  Scrambling and descrambling are the same pass. -/
def refPass (en : Bool) : Reg → List (List Symbol) → List (List Symbol)
  | _, [] => []
  | r, w :: ws => scrWord en w (refKeys r) :: refPass en (if headIsCom w then initReg 0xFFFF else skip 4 r) ws

def refReg : Reg → List (List Symbol) → Reg
  | r, [] => r
  | r, w :: ws => refReg (if headIsCom w then initReg 0xFFFF else skip 4 r) ws

theorem refPass_involutive (en : Bool) (r : Reg) (ws : List (List Symbol)) :
    refPass en r (refPass en r ws) = ws := by
  induction ws generalizing r with
  | nil => rfl
  | cons w ws ih => simp [refPass, PhyTx.headIsCom_scrWord, scrWord_involutive, ih]

theorem refReg_refPass (en : Bool) (r : Reg) (ws : List (List Symbol)) :
    refReg r (refPass en r ws) = refReg r ws := by
  induction ws generalizing r with
  | nil => rfl
  | cons w ws ih => simp [refPass, refReg, PhyTx.headIsCom_scrWord, ih]

theorem length_refPass (en : Bool) (r : Reg) (ws : List (List Symbol)) : (refPass en r ws).length = ws.length := by
  induction ws generalizing r with
  | nil => rfl
  | cons w ws ih => simp [refPass, ih]

theorem refPass_take (en : Bool) (r : Reg) (ws : List (List Symbol)) (k : Nat) :
    (refPass en r ws).take k = refPass en r (ws.take k) := by
  induction ws generalizing r k with
  | nil => simp [refPass]
  | cons w ws ih => cases k <;> simp [refPass, ih]

theorem refPass_drop (en : Bool) (r : Reg) (ws : List (List Symbol)) (k : Nat) :
    (refPass en r ws).drop k = refPass en (refReg r (ws.take k)) (ws.drop k) := by
  induction ws generalizing r k with
  | nil => simp [refPass, refReg]
  | cons w ws ih => cases k <;> simp [refPass, refReg, ih]

theorem refPass_append (en : Bool) (r : Reg) (u v : List (List Symbol)) :
    refPass en r (u ++ v) = refPass en r u ++ refPass en (refReg r u) v := by
  induction u generalizing r with
  | nil => rfl
  | cons w ws ih => simp [refPass, refReg, ih]

theorem refReg_append (r : Reg) (u v : List (List Symbol)) : refReg r (u ++ v) = refReg (refReg r u) v := by
  induction u generalizing r with
  | nil => rfl
  | cons w ws ih => simp [refReg, ih]

theorem length_refReg (r : Reg) (hr : r.length = 16) (ws : List (List Symbol)) : (refReg r ws).length = 16 := by
  induction ws generalizing r with
  | nil => exact hr
  | cons w ws ih =>
    simp only [refReg]
    apply ih
    split
    · exact length_initReg _
    · exact length_skip 4 r hr

/-! ## The model's descrambler pass is the reference pass -/

/-- a word of the scrambler model on the `Ss.Sym` bus -/
def toW (w : List Symbol) : Word := w.map toSs

def Sym8 (w : List Symbol) : Prop := ∀ x ∈ w, x.d.length = 8

theorem ofSs_toSs (x : Symbol) (h : x.d.length = 8) : ofSs (toSs x) = x := by
  cases x with
  | mk k d => simp only [ofSs, toSs]; rw [← h, lsbBits_ofLsbBits d]

theorem map_ofSs_toW (w : List Symbol) (h : Sym8 w) : (toW w).map ofSs = w := by
  induction w with
  | nil => rfl
  | cons x xs ih =>
    simp only [toW, List.map_cons, List.map_map] at ih ⊢
    rw [ofSs_toSs x (h x (by simp))]
    congr 1
    exact ih (fun y hy => h y (by simp [hy]))

theorem scrWord_forall (en : Bool) (P : Symbol → Prop) (hP : ∀ x key, P x → P (scrSymbol en x key))
    (w : List Symbol) (ks : List (List Bool)) (h : ∀ x ∈ w, P x) : ∀ y ∈ scrWord en w ks, P y := by
  induction w generalizing ks with
  | nil => cases ks <;> simp [scrWord]
  | cons x xs ih =>
    cases ks with
    | nil => simpa [scrWord] using h
    | cons k ks =>
      intro y hy
      simp only [scrWord, List.mem_cons] at hy
      rcases hy with rfl | hy
      · exact hP _ _ (h x (by simp))
      · exact ih ks (fun z hz => h z (by simp [hz])) y hy

theorem refPass_forall (en : Bool) (P : List Symbol → Prop) (hP : ∀ w ks, P w → P (scrWord en w ks))
    (r : Reg) (ws : List (List Symbol)) (h : ∀ w ∈ ws, P w) : ∀ w ∈ refPass en r ws, P w := by
  induction ws generalizing r with
  | nil => simp [refPass]
  | cons x xs ih =>
    intro w hw
    simp only [refPass, List.mem_cons] at hw
    rcases hw with rfl | hw
    · exact hP _ _ (h x (by simp))
    · exact ih _ (fun y hy => h y (by simp [hy])) w hw

theorem sym8_scrWord (en : Bool) (w : List Symbol) (ks : List (List Bool)) (h : Sym8 w) : Sym8 (scrWord en w ks) :=
  scrWord_forall en (·.d.length = 8)
    (fun x key hx => by unfold scrSymbol; split <;> simp [length_xorBits, hx]) w ks h

theorem descrInit_eq : descrInit = 0xFFFF := by decide

theorem descr_toW (en : Bool) (r : Reg) (hr : r.length = 16) (T : List (List Symbol)) (hT : ∀ w ∈ T, Sym8 w) :
    descr en r (T.map toW) = (refPass en r T).map toW ∧ regAfterW r (T.map toW) = refReg r T := by
  induction T generalizing r with
  | nil => exact ⟨rfl, rfl⟩
  | cons w ws ih =>
    have hw := map_ofSs_toW w (hT w (by simp))
    have hn : nextReg r (toW w) = if headIsCom w then initReg 0xFFFF else skip 4 r := by
      simp only [nextReg, hw, descrInit_eq, lfsrNext_eq_skip4 r hr]
    have hl : (nextReg r (toW w)).length = 16 := by rw [hn]; exact length_refReg r hr [w]
    have := ih (nextReg r (toW w)) hl (fun x hx => hT x (by simp [hx]))
    simp only [List.map_cons, descr, regAfterW, refPass, refReg]
    rw [this.1, this.2, hn]
    refine ⟨?_, rfl⟩
    have hw' : List.map ofSs (List.map toSs w) = w := hw
    simp only [dW, PhyTx.keyBytes_eq_refKeys r hr, toW, hw']


theorem sym8_refPass (en : Bool) (r : Reg) (ws : List (List Symbol)) (h : ∀ w ∈ ws, Sym8 w) :
    ∀ w ∈ refPass en r ws, Sym8 w :=
  refPass_forall en Sym8 (sym8_scrWord en) r ws h

theorem len4_refPass (en : Bool) (r : Reg) (ws : List (List Symbol)) (h : ∀ w ∈ ws, w.length = 4) :
    ∀ w ∈ (refPass en r ws).map toW, w.length = 4 := by
  intro w hw
  obtain ⟨x, hx, rfl⟩ := List.mem_map.1 hw
  rw [toW, List.length_map]
  exact refPass_forall en (·.length = 4) (fun w ks hw => by rw [length_scrWord]; exact hw) r ws h x hx

theorem descr_refPass (en : Bool) (r : Reg) (hr : r.length = 16) (ws : List (List Symbol)) (h : ∀ w ∈ ws, Sym8 w) :
    descr en r ((refPass en r ws).map toW) = ws.map toW ∧
    regAfterW r ((refPass en r ws).map toW) = refReg r ws := by
  have := descr_toW en r hr (refPass en r ws) (sym8_refPass en r ws h)
  rw [refPass_involutive, refReg_refPass] at this
  exact this

/-! ## The receive path, locked at any offset: `phy_rx_descrambles` -/

/-- 15 = 4 (the word aligner's registered beat) + 4 (its history word) + 7 (the remover, C32) -/
theorem inflightS_le (e : Nat) (s : State) (hc : CtcRemover.Inv s.ctc) (hp : s.wal.prev.length = 4)
    (hs : s.wal.srcValid = true → s.wal.src.length = 4) : (inflightS e s).length ≤ 15 := by
  have h1 := (CtcRemover.buf_split s.ctc hc).2.2
  have h2 : (srcS s.wal).length ≤ 4 := by
    unfold srcS; cases hv : s.wal.srcValid
    · simp
    · simp [hs hv]
  simp only [inflightS, tailS, List.length_append, List.length_drop, hp, h1]
  have := hc.2
  omega

/-- **C31 on the receive side (`phy_rx_descrambles`).**  For every locked state of the receive path (word
aligner at any offset `e`, packet aligner at 0), every link-layer word stream `ws` (any data/control mix, COM
anywhere), every pin history whose symbols - together with those already in flight in front of the descrambler -
are `ws` scrambled by the reference LFSR pass from the descrambler's register value, with SKP symbols inserted
ANYWHERE in ANY number (whole SKP words in place of idle words as LUNA's transmitter sends them, ordered sets at
any symbol offset, ...), `rest` being a trailing incomplete word: the words leaving `source`, followed by the
packet aligner's registers, are the packet aligner's registers at the start followed by `ws.take k` - the link
layer's words themselves, in order, none lost, none duplicated - where at most three words of `ws` are still in
flight (`inflightS`: scrambled, in sync with the register reached).  Hence the descrambler's keystream moved
exactly once per delivered word and not at all over the removed SKP symbols.
Side conditions: `enable_scrambling` constant over the history (`hen`); no COM COM COM COM detected at an offset
other than `e` in the SKP-free pin stream (`hqw`), no SHP SHP SHP EPF / SLC SLC SLC EPF detected at a non-zero offset
in the link words (`hqp`; else an aligner re-aligns: C34; detection is the last matching window, `QuietW`).
Shapes: the PHY hands over four symbols per word (`hrx`), a link word is four symbols of eight data bits (`hws`),
the descrambler's register has sixteen bits (`hr`). -/
theorem phy_rx_descrambles (en : Bool) (e : Nat) (s : State) (ins : List In) (ws : List (List Symbol))
    (rest : List Ss.Sym) (hl : Locked e s) (hr : s.reg.length = 16)
    (hrx : ∀ i ∈ ins, i.rx.length = 4) (hen : ∀ i ∈ ins, i.enable = en)
    (hws : ∀ w ∈ ws, w.length = 4 ∧ Sym8 w)
    (hstream : inflightS e s ++ (pinSyms ins).filter (fun x => !isSkp x)
      = ((refPass en s.reg ws).map toW).flatten ++ rest)
    (hrest : rest.length < 4)
    (hqw : QuietW .word e s.wal.prev
      (chunks4 (CtcRemover.pending s.ctc ++ (pinSyms ins).filter (fun x => !isSkp x))))
    (hqp : QuietW .packet 0 s.pal.prev (ws.map toW)) :
    ∃ k, k ≤ ws.length ∧ ws.length ≤ k + 3 ∧
      srcWords (run s ins).1 ++ tailW (run s ins).2.pal = tailW s.pal ++ (ws.take k).map toW ∧
      inflightS e (run s ins).2 = ((refPass en (run s ins).2.reg (ws.drop k)).map toW).flatten ++ rest ∧
      (run s ins).2.reg = refReg s.reg (ws.take k) ∧ (run s ins).2.reg.length = 16 ∧ Locked e (run s ins).2 := by
  have hq1 : RxAligner.NoRealign .word e s.wal.prev ((ctcTrace s ins).map walIn) := by
    rw [noRealign_iff, inWords_walIn]
    obtain ⟨-, h1, hlen⟩ := remover_stream s ins hl.ctc hrx
    rw [← h1, chunks4_append _ hlen] at hqw
    have := quietW_take _ _ _ _ (CtcRemover.outWords (ctcTrace s ins)).length hqw
    rwa [List.take_left' rfl] at this
  obtain ⟨hf1, hf2, hf3, hf4, hf5, hf6⟩ := front_stream en e s ins hl hrx hen hq1
  -- `hf1` and `hstream` group one symbol stream into four-symbol words in two ways, so the consumed words are the
  -- first `k` scrambled link words
  have hYlen := len4_refPass en s.reg ws (fun w hw => (hws w hw).1)
  have hu := chunks_unique _ _ _ _ hf2 hYlen (hf1.trans hstream) hrest
  generalize hk : (consumed s ins).length = k at hu
  have hkle : k ≤ ws.length := by
    have := hu.2.1; rwa [List.length_map, length_refPass] at this
  have hD : consumed s ins = (refPass en s.reg (ws.take k)).map toW := by
    rw [hu.1, ← List.map_take, refPass_take]
  have hsym : ∀ w ∈ ws.take k, Sym8 w := fun w hw => (hws w (List.mem_of_mem_take hw)).2
  have hdes := descr_refPass en s.reg hr (ws.take k) hsym
  rw [← hD] at hdes
  have hq2 : RxAligner.NoRealign .packet 0 s.pal.prev (palInTrace en s ins) := by
    rw [noRealign_iff]
    show QuietW .packet 0 s.pal.prev (inWords (dTrace en s.reg (walTrace s ins)))
    rw [(descrambler_on_valid_words en s.reg (walTrace s ins)).1]
    show QuietW .packet 0 s.pal.prev (descr en s.reg (consumed s ins))
    rw [hdes.1, List.map_take]
    exact quietW_take _ _ _ _ _ hqp
  obtain ⟨hb1, hb2, hb3, hb4, hb5⟩ := back_stream en s ins hl.psh hl.ppv hl.psrc hen hf2 hq2
  have hreg : (run s ins).2.reg = refReg s.reg (ws.take k) := by rw [hb2, hdes.2]
  have hinf : inflightS e (run s ins).2
      = ((refPass en (run s ins).2.reg (ws.drop k)).map toW).flatten ++ rest := by
    rw [hu.2.2, ← List.map_drop, refPass_drop, hreg]
  refine ⟨k, hkle, ?_, by rw [hb1, hdes.1], hinf, hreg, by rw [hreg]; exact length_refReg _ hr _,
    ⟨hf3, hl.he, hf4, hf5, hf6, hb3, hb4, hb5⟩⟩
  have hle := inflightS_le e (run s ins).2 hf3 hf5 hf6
  rw [hinf, List.length_append,
    length_flatten4 _ (len4_refPass en _ (ws.drop k) (fun w hw => (hws w (List.mem_of_mem_drop hw)).1)),
    List.length_map, length_refPass, List.length_drop] at hle
  omega


/-! ## From reset -/

theorem locked_init : Locked 0 init := by
  refine ⟨CtcRemover.inv_init, by omega, rfl, rfl, ?_, rfl, rfl, ?_⟩ <;> intro h <;> cases h

theorem init_reg : init.reg = initReg 0xFFFF := by
  show initReg descrInit = _
  rw [descrInit_eq]

/-- after reset the only symbols in flight are the four zero symbols of the word aligner's history register -/
theorem inflightS_init : inflightS 0 init = toW IDLE4s := by decide

/-- **From reset (`phy_rx_descrambles_from_reset`): the documented start-up behaviour.**  After reset the word
aligner's zero history word is handed to the descrambler as a valid word, so the register has left FFFFh before
the first received word arrives; what is received first (`junk`, any number of words) is descrambled out of step
until a word `c` with COM in symbol 0 restarts the register.  From the word after `c` on, the words leaving `source`
are the far end's link words `ws` (reference-scrambled from FFFFh on the wire, SKP symbols anywhere): exactly
`junk.length + 3` start-up words (the packet aligner's zero word, the descrambled zero word, the descrambled junk
and `c`) precede them.
Side conditions, on `junk`, `c` and `ws` alike: neither aligner re-aligns - no COM COM COM COM detected at a
non-zero offset in the SKP-free pin stream (`hqw`: the word aligner stays at its reset offset 0), no SHP SHP SHP EPF /
SLC SLC SLC EPF detected at a non-zero offset in the words the packet aligner is handed, start-up words included (`hqp`);
`enable_scrambling` constant (`hen`); four symbols per PHY word (`hrx`), four symbols of eight data bits per word of
`junk`, `c`, `ws` (`hjunk`, `hc`, `hws`).  `k` counts the words that have left `source` or stand in the packet
aligner's registers: all but at most three. -/
theorem phy_rx_descrambles_from_reset (en : Bool) (ins : List In) (junk : List (List Symbol)) (c : List Symbol)
    (ws : List (List Symbol)) (rest : List Ss.Sym)
    (hrx : ∀ i ∈ ins, i.rx.length = 4) (hen : ∀ i ∈ ins, i.enable = en)
    (hjunk : ∀ w ∈ junk, w.length = 4 ∧ Sym8 w) (hc : c.length = 4 ∧ Sym8 c) (hcom : headIsCom c = true)
    (hws : ∀ w ∈ ws, w.length = 4 ∧ Sym8 w)
    (hstream : (pinSyms ins).filter (fun x => !isSkp x)
      = ((junk ++ [c] ++ refPass en (initReg 0xFFFF) ws).map toW).flatten ++ rest)
    (hrest : rest.length < 4)
    (hqw : QuietW .word 0 RxAligner.zeros (chunks4 ((pinSyms ins).filter (fun x => !isSkp x))))
    (hqp : QuietW .packet 0 RxAligner.zeros
      ((refPass en (initReg 0xFFFF) (IDLE4s :: junk ++ [c]) ++ ws).map toW)) :
    ∃ k, k ≤ junk.length + 2 + ws.length ∧ junk.length + 2 + ws.length ≤ k + 3 ∧
      srcWords (run init ins).1 ++ tailW (run init ins).2.pal
        = RxAligner.zeros :: ((refPass en (initReg 0xFFFF) (IDLE4s :: junk ++ [c]) ++ ws).take k).map toW := by
  have hpre : ∀ w ∈ IDLE4s :: junk ++ [c], w.length = 4 ∧ Sym8 w := by
    intro w hw
    simp only [List.cons_append, List.mem_cons, List.mem_append, List.not_mem_nil, or_false] at hw
    rcases hw with rfl | hw | rfl
    · exact ⟨rfl, by unfold Sym8; decide⟩
    · exact hjunk w hw
    · exact hc
  have hregc : refReg (initReg 0xFFFF) (IDLE4s :: junk ++ [c]) = initReg 0xFFFF := by
    rw [show IDLE4s :: junk ++ [c] = (IDLE4s :: junk) ++ [c] by simp, refReg_append]
    simp [refReg, hcom]
  have hall : ∀ w ∈ refPass en (initReg 0xFFFF) (IDLE4s :: junk ++ [c]) ++ ws, w.length = 4 ∧ Sym8 w := by
    intro w hw
    rcases List.mem_append.1 hw with h | h
    · exact refPass_forall en (fun w => w.length = 4 ∧ Sym8 w)
        (fun w ks hw => ⟨by rw [length_scrWord]; exact hw.1, sym8_scrWord en w ks hw.2⟩) _ _ hpre w h
    · exact hws w h
  have hst : inflightS 0 init ++ (pinSyms ins).filter (fun x => !isSkp x)
      = ((refPass en init.reg (refPass en (initReg 0xFFFF) (IDLE4s :: junk ++ [c]) ++ ws)).map toW).flatten
        ++ rest := by
    rw [init_reg, refPass_append, refPass_involutive, refReg_refPass, hregc, hstream, inflightS_init]
    simp [List.append_assoc]
  obtain ⟨k, hk1, hk2, hk3, -⟩ := phy_rx_descrambles en 0 init ins _ rest locked_init
    (by rw [init_reg]; exact length_initReg _) hrx hen hall hst hrest
    (by show QuietW .word 0 RxAligner.zeros (chunks4 (CtcRemover.pending CtcRemover.init ++ _))
        rw [CtcRemover.pending_init]; exact hqw) hqp
  refine ⟨k, ?_, ?_, ?_⟩
  · simpa [length_refPass, Nat.add_comm, Nat.add_left_comm, Nat.add_assoc] using hk1
  · simpa [length_refPass, Nat.add_comm, Nat.add_left_comm, Nat.add_assoc] using hk2
  · rw [hk3]; rfl


/-! ## rx(tx(ws)) = ws: composition with the transmit half (`phy_tx_descrambles`) -/

def NotSkp (x : Symbol) : Prop := isSkp (toSs x) = false

theorem notSkp_scrSymbol (en : Bool) (x : Symbol) (key : List Bool) (h : NotSkp x) : NotSkp (scrSymbol en x key) := by
  unfold scrSymbol
  split
  · rename_i hc
    have hk : x.k = false := by
      cases hxk : x.k
      · rfl
      · simp [hxk] at hc
    simp [NotSkp, isSkp, toSs, hk]
  · exact h

theorem filter_toW_notSkp (w : List Symbol) (h : ∀ x ∈ w, NotSkp x) :
    (toW w).filter (fun x => !isSkp x) = toW w := by
  rw [List.filter_eq_self]
  intro y hy
  obtain ⟨x, hx, rfl⟩ := List.mem_map.1 hy
  have := h x hx
  unfold NotSkp at this
  simp [this]

theorem filter_toW_SKP4s : (toW SKP4s).filter (fun x => !isSkp x) = [] := by decide

/-- the reference receiver of `Props/C31Phy.lean` read backwards: with the SKP symbols deleted, the wire symbols are
the reference pass over the words that receiver recovers -/
theorem wire_refPass (en : Bool) (r : Reg) (tx : List (Bool × List Symbol)) (hen : ∀ x ∈ tx, x.1 = en)
    (h : ∀ w ∈ (farEnd r tx).filterMap id, ∀ x ∈ w, NotSkp x) :
    (tx.flatMap (fun x => toW x.2)).filter (fun x => !isSkp x)
      = ((refPass en r ((farEnd r tx).filterMap id)).map toW).flatten := by
  induction tx generalizing r with
  | nil => rfl
  | cons x xs ih =>
    obtain ⟨b, w⟩ := x
    have hb : b = en := hen (b, w) (by simp)
    have hen' : ∀ y ∈ xs, y.1 = en := fun y hy => hen y (by simp [hy])
    by_cases hw : w = SKP4s
    · simp only [farEnd, hw, if_true, List.filterMap_cons, id] at h ⊢
      simp only [List.flatMap_cons, List.filter_append, filter_toW_SKP4s, List.nil_append]
      exact ih r hen' h
    · simp only [farEnd, hw, if_false, List.filterMap_cons, id, hb] at h ⊢
      have hns : ∀ x ∈ w, NotSkp x := by
        have := scrWord_forall en NotSkp (notSkp_scrSymbol en) _ (refKeys r) (h _ (List.mem_cons_self ..))
        rwa [scrWord_involutive] at this
      simp only [refPass, scrWord_involutive, PhyTx.headIsCom_scrWord, List.flatMap_cons, List.filter_append,
        List.map_cons, List.flatten_cons]
      rw [filter_toW_notSkp w hns, ih _ hen' (fun y hy => h y (List.mem_cons_of_mem _ hy))]

/-- the link layer's words that actually went onto the wire (those not replaced by a SKP word) -/
def linkWords (st : PhyTx.State) (tins : List PhyTx.In) : List (List Symbol) := (linkView st tins).filterMap id

theorem linkWords_mem (st : PhyTx.State) (tins : List PhyTx.In) :
    ∀ w ∈ linkWords st tins, ∃ i ∈ tins, w = i.syms := by
  induction tins generalizing st with
  | nil => simp [linkWords, linkView]
  | cons i is ih =>
    intro w hw
    simp only [linkWords, linkView, List.filterMap_cons] at hw
    cases hs : PhyTx.sendingSkip st i
    · simp only [hs, Bool.false_eq_true, if_false, id, List.mem_cons] at hw
      rcases hw with rfl | hw
      · exact ⟨i, by simp, rfl⟩
      · obtain ⟨j, hj, rfl⟩ := ih _ w hw
        exact ⟨j, by simp [hj], rfl⟩
    · simp only [hs, if_true, id] at hw
      obtain ⟨j, hj, rfl⟩ := ih _ w hw
      exact ⟨j, by simp [hj], rfl⟩

/-- **The transmit half's wire stream is the reference-scrambled link word stream with SKP words in between**
(from `phy_tx_descrambles`): with the SKP symbols deleted, the symbols the transmitter of
`Model/Usb3/PhyTx.lean` puts on the wire are the link layer's transferred words scrambled by the reference pass
from the transmitter's register value. -/
theorem tx_wire_is_refPass (en : Bool) (st : PhyTx.State) (tins : List PhyTx.In) (hr : st.reg.length = 16)
    (hrdy : st.ctc.sinkReady = true) (hidle : ∀ i ∈ tins, i.eidle = false) (henv : PhyTx.Env tins)
    (hten : ∀ i ∈ tins, i.enable = en) (hsym : ∀ i ∈ tins, ∀ x ∈ i.syms, NotSkp x) :
    ((txWords st tins).flatMap (fun x => toW x.2)).filter (fun x => !isSkp x)
      = ((refPass en st.reg (linkWords st tins)).map toW).flatten := by
  have hnoskp : ∀ i ∈ tins, i.syms ≠ SKP4s := by
    intro i hi h
    have := hsym i hi PhyTx.skpSym (by rw [h]; simp [SKP4s])
    unfold NotSkp at this
    revert this; decide
  have htx := PhyTx.phy_tx_descrambles st tins hr hrdy hidle henv hnoskp
  have hen' : ∀ x ∈ txWords st tins, x.1 = en := by
    clear htx hnoskp hsym henv hidle hrdy hr
    induction tins generalizing st with
    | nil => simp [txWords]
    | cons i is ih =>
      intro x hx
      simp only [txWords, List.mem_cons] at hx
      rcases hx with rfl | hx
      · exact hten i (by simp)
      · exact ih _ (fun j hj => hten j (by simp [hj])) x hx
  have hlw : ∀ w ∈ linkWords st tins, ∀ x ∈ w, NotSkp x := by
    intro w hw
    obtain ⟨i, hi, rfl⟩ := linkWords_mem st tins w hw
    exact hsym i hi
  have := wire_refPass en st.reg (txWords st tins) hen' (by rw [htx]; exact hlw)
  rwa [htx] at this


/-- **rx(tx(ws)) = ws (`phy_rx_of_phy_tx`).**  The transmit half of one `USB3PhysicalLayer` (`Model/Usb3/PhyTx.lean`:
Scrambler -> CTCSkipInserter, any history of `can_send_skp` and hence any SKP insertion pattern the inserter
produces, under the hypotheses `htr`, `hrdy`, `hidle`, `henv` of `phy_tx_descrambles`) feeding the pins of the
receive half of another one (`Model/Usb3/PhyRx.lean`, locked at any word-aligner offset `e`, holding the scrambled
words `ws0` in flight, its descrambler register in step with the transmitter: `refReg s.reg ws0 = st.reg`): the words
leaving the receiver's `source`, followed by the packet aligner's registers (`tailW`: its output word if valid, then
its history word), are those registers at the start, the in-flight words and then the transmitting link layer's words
`linkWords` (those it was allowed to transfer, i.e. all but the logical-idle words replaced by SKP words) - in order,
nothing lost or duplicated, at most three still in flight.  On the link layer's words `hsym` asks more than
`phy_tx_descrambles` does (which excludes the SKP word only): four symbols of eight data bits (`hws0` the same of the
words in flight), and no SKP symbol in any position - the remover would delete it.  The other side conditions are
those of `phy_rx_descrambles`: `enable_scrambling` constant and equal on both sides (`hen`, `hten`), neither aligner
re-aligns (`hqw` on the SKP-free pin stream, `hqp` on the in-flight and link words), four symbols per PHY word
(`hrx`), sixteen-bit registers (`hr`, `htr`). -/
theorem phy_rx_of_phy_tx (en : Bool) (e : Nat) (s : State) (ins : List In) (st : PhyTx.State)
    (tins : List PhyTx.In) (ws0 : List (List Symbol))
    (hl : Locked e s) (hr : s.reg.length = 16)
    (hrx : ∀ i ∈ ins, i.rx.length = 4) (hen : ∀ i ∈ ins, i.enable = en)
    (htr : st.reg.length = 16) (hrdy : st.ctc.sinkReady = true) (hidle : ∀ i ∈ tins, i.eidle = false)
    (henv : PhyTx.Env tins) (hten : ∀ i ∈ tins, i.enable = en)
    (hsym : ∀ i ∈ tins, i.syms.length = 4 ∧ Sym8 i.syms ∧ ∀ x ∈ i.syms, NotSkp x)
    (hpins : pinSyms ins = (txWords st tins).flatMap (fun x => toW x.2))
    (hws0 : ∀ w ∈ ws0, w.length = 4 ∧ Sym8 w)
    (hfl : inflightS e s = ((refPass en s.reg ws0).map toW).flatten)
    (hsync : refReg s.reg ws0 = st.reg)
    (hqw : QuietW .word e s.wal.prev
      (chunks4 (CtcRemover.pending s.ctc ++ (pinSyms ins).filter (fun x => !isSkp x))))
    (hqp : QuietW .packet 0 s.pal.prev ((ws0 ++ linkWords st tins).map toW)) :
    ∃ k, k ≤ (ws0 ++ linkWords st tins).length ∧ (ws0 ++ linkWords st tins).length ≤ k + 3 ∧
      srcWords (run s ins).1 ++ tailW (run s ins).2.pal
        = tailW s.pal ++ ((ws0 ++ linkWords st tins).take k).map toW ∧
      (run s ins).2.reg = refReg s.reg ((ws0 ++ linkWords st tins).take k) ∧ Locked e (run s ins).2 := by
  have hwire := tx_wire_is_refPass en st tins htr hrdy hidle henv hten (fun i hi => (hsym i hi).2.2)
  have hall : ∀ w ∈ ws0 ++ linkWords st tins, w.length = 4 ∧ Sym8 w := by
    intro w hw
    rcases List.mem_append.1 hw with h | h
    · exact hws0 w h
    · obtain ⟨i, hi, rfl⟩ := linkWords_mem st tins w h
      exact ⟨(hsym i hi).1, (hsym i hi).2.1⟩
  have hst : inflightS e s ++ (pinSyms ins).filter (fun x => !isSkp x)
      = ((refPass en s.reg (ws0 ++ linkWords st tins)).map toW).flatten ++ [] := by
    rw [hfl, hpins, hwire, refPass_append, hsync]
    simp
  obtain ⟨k, h1, h2, h3, -, h5, -, h7⟩ :=
    phy_rx_descrambles en e s ins _ [] hl hr hrx hen hall hst (by simp) hqw hqp
  exact ⟨k, h1, h2, h3, h5, h7⟩


/-! ## Every word alignment offset: locking onto COM COM COM COM -/

/-- COM COM COM COM as symbols of the scrambler model -/
def COM4s : List Symbol := [⟨true, lsbBits 0xBC 8⟩, ⟨true, lsbBits 0xBC 8⟩, ⟨true, lsbBits 0xBC 8⟩, ⟨true, lsbBits 0xBC 8⟩]

theorem toW_COM4s : toW COM4s = RxAligner.COM4 := by decide

theorem run_single (s : State) (i : In) : (run s [i]).2 = (step s i).1 := rfl

/-- **Locking (`lock_on_com4`).**  In whatever alignment the receive path is (`Locked e0`), when the SKP remover
delivers the word that completes COM COM COM COM at symbol offset `k` of the word aligner's window (k = 0 … 3,
the last matching window as in C34) and the packet aligner does not re-align in that cycle, the path is `Locked k`
after it and the word aligner's output register holds the COM word, valid: the hypotheses `hl`, `hsv`, `hsrc` of
`phy_rx_descrambles_after_com4`.  Its `hr` (the descrambler's register has sixteen bits) is neither assumed nor
concluded here. -/
theorem lock_on_com4 (en : Bool) (e0 k : Nat) (s : State) (i : In) (hl : Locked e0 s) (hrx : i.rx.length = 4)
    (hen : i.enable = en)
    (hv : (CtcRemover.step s.ctc (ctcIn i)).2.srcValid = true)
    (hdet : RxAligner.detect .word (s.wal.prev ++ (CtcRemover.step s.ctc (ctcIn i)).2.srcWord) = some k)
    (hq2 : RxAligner.NoRealign .packet 0 s.pal.prev (palInTrace en s [i])) :
    Locked k (run s [i]).2 ∧ (run s [i]).2.wal.srcValid = true ∧ (run s [i]).2.wal.src = toW COM4s := by
  have hc := CtcRemover.step_refines s.ctc (ctcIn i) hl.ctc rfl hrx
  have hwl := hc.2.2 hv
  have hD : ∀ w ∈ consumed s [i], w.length = 4 := by
    intro w hw
    simp only [consumed, walTrace, ctcTrace, List.map_cons, List.map_nil, CtcRemover.run, RxAligner.run,
      alWords, RxAligner.outOf] at hw
    cases hsv : s.wal.srcValid <;> simp [hsv] at hw
    rw [hw]; exact hl.wsrc hsv
  obtain ⟨-, -, hb3, hb4, hb5⟩ := back_stream en s [i] hl.psh hl.ppv hl.psrc (by simpa using hen) hD hq2
  obtain ⟨hk4, hck, -⟩ := RxAligner.detect_some .word _ k hdet
  have hwal : (run s [i]).2.wal = ⟨_, k, RxAligner.window k _, true, k⟩ :=
    RxAligner.next_on_detect .word s.wal (walIn (CtcRemover.step s.ctc (ctcIn i)).2) k hv hdet
  have hcom : (run s [i]).2.wal.src = toW COM4s := by
    rw [hwal, toW_COM4s]
    exact (RxAligner.crit_word _).1 hck
  refine ⟨⟨hc.1, hk4, by rw [hwal], by rw [hwal]; exact hwl, ?_, hb3, hb4, hb5⟩, by rw [hwal], hcom⟩
  intro _
  rw [hcom]; rfl

/-- **After locking (`phy_rx_descrambles_after_com4`).**  Locked at any offset `e`, the COM COM COM COM word in
the word aligner's output register (whatever the descrambler's register is - the COM word restarts it), the
symbols behind it - aligner history, remover, pins with SKP symbols anywhere - being the link words `ws`
reference-scrambled from FFFFh: `source` delivers the COM word and then the link words. -/
theorem phy_rx_descrambles_after_com4 (en : Bool) (e : Nat) (s : State) (ins : List In) (ws : List (List Symbol))
    (rest : List Ss.Sym) (hl : Locked e s) (hr : s.reg.length = 16)
    (hrx : ∀ i ∈ ins, i.rx.length = 4) (hen : ∀ i ∈ ins, i.enable = en)
    (hws : ∀ w ∈ ws, w.length = 4 ∧ Sym8 w)
    (hsv : s.wal.srcValid = true) (hsrc : s.wal.src = toW COM4s)
    (hstream : s.wal.prev.drop e ++ CtcRemover.pending s.ctc ++ (pinSyms ins).filter (fun x => !isSkp x)
      = ((refPass en (initReg 0xFFFF) ws).map toW).flatten ++ rest)
    (hrest : rest.length < 4)
    (hqw : QuietW .word e s.wal.prev
      (chunks4 (CtcRemover.pending s.ctc ++ (pinSyms ins).filter (fun x => !isSkp x))))
    (hqp : QuietW .packet 0 s.pal.prev ((COM4s :: ws).map toW)) :
    ∃ k, k ≤ ws.length + 1 ∧ ws.length + 1 ≤ k + 3 ∧
      srcWords (run s ins).1 ++ tailW (run s ins).2.pal = tailW s.pal ++ ((COM4s :: ws).take k).map toW ∧
      (run s ins).2.reg = refReg s.reg ((COM4s :: ws).take k) ∧ Locked e (run s ins).2 := by
  have hall : ∀ w ∈ COM4s :: ws, w.length = 4 ∧ Sym8 w := by
    intro w hw
    rcases List.mem_cons.1 hw with rfl | hw
    · exact ⟨rfl, by unfold Sym8; decide⟩
    · exact hws w hw
  have hpass : refPass en s.reg (COM4s :: ws) = COM4s :: refPass en (initReg 0xFFFF) ws := by
    have hk : scrWord en COM4s (refKeys s.reg) = COM4s :=
      PhyTx.scrWord_allK en COM4s _ (by decide)
    have hc : headIsCom COM4s = true := by decide
    simp only [refPass, hk, hc, if_true]
  have hst : inflightS e s ++ (pinSyms ins).filter (fun x => !isSkp x)
      = ((refPass en s.reg (COM4s :: ws)).map toW).flatten ++ rest := by
    rw [hpass]
    simp only [inflightS, tailS, srcS, hsv, if_true, hsrc, List.map_cons, List.flatten_cons, List.append_assoc]
    rw [← hstream]
    simp [List.append_assoc]
  obtain ⟨k, h1, h2, h3, -, h5, -, h7⟩ :=
    phy_rx_descrambles en e s ins _ rest hl hr hrx hen hall hst hrest hqw hqp
  exact ⟨k, by simpa using h1, by simpa using h2, h3, h5, h7⟩


/-! ## Non-vacuity -/

instance (c : CtcRemover.State) : Decidable (CtcRemover.Inv c) := by unfold CtcRemover.Inv; exact inferInstance

theorem locked_iff (e : Nat) (s : State) : Locked e s ↔
    (CtcRemover.Inv s.ctc ∧ e < 4 ∧ s.wal.shift = e ∧ s.wal.prev.length = 4 ∧
     (s.wal.srcValid = true → s.wal.src.length = 4) ∧ s.pal.shift = 0 ∧ s.pal.prev.length = 4 ∧
     (s.pal.srcValid = true → s.pal.src.length = 4)) :=
  ⟨fun h => ⟨h.1, h.2, h.3, h.4, h.5, h.6, h.7, h.8⟩, fun h => ⟨h.1, h.2.1, h.2.2.1, h.2.2.2.1, h.2.2.2.2.1,
    h.2.2.2.2.2.1, h.2.2.2.2.2.2.1, h.2.2.2.2.2.2.2⟩⟩

instance (e : Nat) (s : State) : Decidable (Locked e s) := decidable_of_iff _ (locked_iff e s).symm

instance (w : List Symbol) : Decidable (Sym8 w) := by unfold Sym8; exact inferInstance
instance (x : Symbol) : Decidable (NotSkp x) := by unfold NotSkp; exact inferInstance

private def dsym (n : Nat) : Symbol := ⟨false, lsbBits n 8⟩
private def comSym : Symbol := ⟨true, lsbBits 0xBC 8⟩
private def exC : List Symbol := [comSym, dsym 1, dsym 2, dsym 3]
private def exW3 : List Symbol := [⟨true, lsbBits 0xFB 8⟩, dsym 0x3C, dsym 0xBC, dsym 0]
private def exWs : List (List Symbol) := [[dsym 0x11, dsym 0x22, dsym 0x33, dsym 0x44], IDLE4s, exW3]
private def exWire : List Ss.Sym := (([exC] ++ refPass true (initReg 0xFFFF) exWs).map toW).flatten
/-- the wire symbols with a SKP ordered set at symbol offset 2, a whole SKP word, and SKP symbols behind -/
private def exPinSyms : List Ss.Sym :=
  exWire.take 2 ++ [SKP, SKP] ++ (exWire.drop 2).take 6 ++ [SKP, SKP, SKP, SKP] ++ exWire.drop 8
    ++ List.replicate 10 SKP
private def exIns : List In := (chunks4 exPinSyms).map (fun w => ⟨w, true⟩)

/-- From reset, a COM-first word and three link words (data; logical idle; a word mixing SHP, 0x3C and 0xBC as
DATA, and D0.0) reference-scrambled from FFFFh, SKP symbols inserted at a non-word offset, as a whole word and
behind: every hypothesis of `phy_rx_descrambles_from_reset` holds (no junk), and the model's `source` delivers
the zero word, the two unsynchronised start-up words, then the link words (k = 4: one still in flight). -/
example :
    (∀ i ∈ exIns, i.rx.length = 4) ∧ (∀ i ∈ exIns, i.enable = true) ∧
    (exC.length = 4 ∧ Sym8 exC) ∧ headIsCom exC = true ∧ (∀ w ∈ exWs, w.length = 4 ∧ Sym8 w) ∧
    (pinSyms exIns).filter (fun x => !isSkp x)
      = ((([] : List (List Symbol)) ++ [exC] ++ refPass true (initReg 0xFFFF) exWs).map toW).flatten ++ [] ∧
    QuietW .word 0 RxAligner.zeros (chunks4 ((pinSyms exIns).filter (fun x => !isSkp x))) ∧
    QuietW .packet 0 RxAligner.zeros ((refPass true (initReg 0xFFFF) (IDLE4s :: [] ++ [exC]) ++ exWs).map toW) ∧
    srcWords (run init exIns).1 ++ tailW (run init exIns).2.pal
      = RxAligner.zeros :: ((refPass true (initReg 0xFFFF) (IDLE4s :: [] ++ [exC]) ++ exWs).take 4).map toW ∧
    (run init exIns).1.map (·.skipRemoved) = [true, false, true, true, false, true, true, true] := by
  decide +kernel

private def exWs2 : List (List Symbol) :=
  [[dsym 0x4A, dsym 0x4A, dsym 0, dsym 0], [dsym 0xA1, dsym 0xA2, dsym 0xA3, dsym 0xA4], IDLE4s,
   [⟨true, lsbBits 0xFE 8⟩, ⟨true, lsbBits 0xFE 8⟩, ⟨true, lsbBits 0xFE 8⟩, ⟨true, lsbBits 0xF7 8⟩]]
private def exWire2 : List Ss.Sym := ((refPass true (initReg 0xFFFF) exWs2).map toW).flatten
/-- two data symbols, COM COM COM COM at symbol offset 2, then the start of the scrambled stream -/
private def exInsA : List In :=
  [⟨[⟨0x55, false⟩, ⟨0x66, false⟩, COM, COM], true⟩, ⟨[COM, COM] ++ exWire2.take 2, true⟩,
   ⟨(exWire2.drop 2).take 4, true⟩]
private def exS1 : State := (run init exInsA).2
private def exPin2 : List Ss.Sym :=
  (exWire2.drop 6).take 3 ++ [SKP] ++ (exWire2.drop 9).take 4 ++ [SKP, SKP, SKP, SKP] ++ exWire2.drop 13 ++ [SKP]
    ++ List.replicate 8 SKP
private def exInsB : List In := (chunks4 exPin2).map (fun w => ⟨w, true⟩)

private def exS0 : State := (run init (exInsA.take 2)).2
private def exI : In := ⟨(exWire2.drop 2).take 4, true⟩

/-- `lock_on_com4`: two cycles after reset the remover hands over the word that completes COM COM COM COM at
symbol offset 2; the hypotheses hold and the path is locked at offset 2 afterwards. -/
example :
    Locked 0 exS0 ∧ exI.rx.length = 4 ∧ (CtcRemover.step exS0.ctc (ctcIn exI)).2.srcValid = true ∧
    RxAligner.detect .word (exS0.wal.prev ++ (CtcRemover.step exS0.ctc (ctcIn exI)).2.srcWord) = some 2 ∧
    RxAligner.NoRealign .packet 0 exS0.pal.prev (palInTrace true exS0 [exI]) ∧
    (run exS0 [exI]).2.wal.shift = 2 ∧ (run exS0 [exI]).2.wal.src = toW COM4s := by
  decide +kernel

/-- Word aligner at offset 2 (`phy_rx_descrambles`, `phy_rx_descrambles_after_com4`): the state reached from
reset after COM COM COM COM arrived at symbol offset 2 is `Locked 2` (the COM word and two stream symbols in the
aligner, four in the remover), the hypotheses of
`phy_rx_descrambles` hold for the stream COM×4, TS-like data, data, logical idle, SLC SLC SLC EPF with single SKP
symbols and a SKP word inserted, and `source` delivers the words (k = 4, the link command word still in flight). -/
example :
    Locked 2 exS1 ∧ exS1.wal.srcValid = true ∧ exS1.wal.src = toW COM4s ∧ exS1.reg.length = 16 ∧ (∀ i ∈ exInsB, i.rx.length = 4) ∧ (∀ i ∈ exInsB, i.enable = true) ∧
    (∀ w ∈ COM4s :: exWs2, w.length = 4 ∧ Sym8 w) ∧
    inflightS 2 exS1 ++ (pinSyms exInsB).filter (fun x => !isSkp x)
      = ((refPass true exS1.reg (COM4s :: exWs2)).map toW).flatten ++ [] ∧
    QuietW .word 2 exS1.wal.prev
      (chunks4 (CtcRemover.pending exS1.ctc ++ (pinSyms exInsB).filter (fun x => !isSkp x))) ∧
    QuietW .packet 0 exS1.pal.prev ((COM4s :: exWs2).map toW) ∧
    srcWords (run exS1 exInsB).1 ++ tailW (run exS1 exInsB).2.pal
      = tailW exS1.pal ++ ((COM4s :: exWs2).take 4).map toW ∧
    (run exS1 exInsB).1.map (·.offset) = [2, 2, 2, 2, 2, 2] := by
  decide +kernel

private def exS2 : State := (run exS1 exInsB).2
/-- a transmitter with two SKP ordered sets owed (the inserter state of the example in `Props/C31Phy.lean`), its
register where the receiver's will be after the word in flight -/
private def exSt : PhyTx.State :=
  ⟨refReg exS2.reg ((COM4s :: exWs2).drop 4), ⟨2, 100, ⟨true, [], false, false⟩, true⟩⟩
private def exTins : List PhyTx.In :=
  [⟨IDLE4s, true, true, false⟩, ⟨IDLE4s, true, true, false⟩,
   ⟨[dsym 0x11, dsym 0x22, dsym 0x33, dsym 0x44], false, true, false⟩,
   ⟨IDLE4s, false, true, false⟩, ⟨IDLE4s, false, true, false⟩, ⟨IDLE4s, false, true, false⟩]
private def exInsC : List In := (txWords exSt exTins).map (fun x => ⟨toW x.2, true⟩)

/-- The transmit model feeding the receive model (still at aligner offset 2): the hypotheses of
`phy_rx_of_phy_tx` hold; the transmitter replaces the first logical-idle word by a SKP word, the receiver
delivers the word that was in flight and then the link words idle, data, ... (k = 3 of 6, three in flight). -/
example :
    Locked 2 exS2 ∧ exS2.reg.length = 16 ∧ (∀ i ∈ exInsC, i.rx.length = 4) ∧ (∀ i ∈ exInsC, i.enable = true) ∧
    exSt.reg.length = 16 ∧ exSt.ctc.sinkReady = true ∧ (∀ i ∈ exTins, i.eidle = false) ∧
    (∀ i ∈ exTins, i.canSkp = true → i.syms = IDLE4s) ∧ (∀ i ∈ exTins, i.enable = true) ∧
    (∀ i ∈ exTins, i.syms.length = 4 ∧ Sym8 i.syms ∧ ∀ x ∈ i.syms, NotSkp x) ∧
    pinSyms exInsC = (txWords exSt exTins).flatMap (fun x => toW x.2) ∧
    inflightS 2 exS2 = ((refPass true exS2.reg ((COM4s :: exWs2).drop 4)).map toW).flatten ∧
    QuietW .word 2 exS2.wal.prev
      (chunks4 (CtcRemover.pending exS2.ctc ++ (pinSyms exInsC).filter (fun x => !isSkp x))) ∧
    QuietW .packet 0 exS2.pal.prev (((COM4s :: exWs2).drop 4 ++ linkWords exSt exTins).map toW) ∧
    (linkView exSt exTins).map Option.isSome = [false, true, true, true, true, true] ∧
    srcWords (run exS2 exInsC).1 ++ tailW (run exS2 exInsC).2.pal
      = tailW exS2.pal ++ (((COM4s :: exWs2).drop 4 ++ linkWords exSt exTins).take 3).map toW := by
  decide +kernel

end LunaVerif.PhyRx
