import LunaVerif.Props.C56UartLive
/-!
# C56 — AsyncSerialILA: several captures in one history

`uart_capture_chain` is `mb_line` / `mb_bytes` (Props/C56Uart.lean: over any history of the composite, from any transmitter
state satisfying C49's `Uart.Inv`, `tx` is accounted for by the words the StreamILA transferred) with `ila_chain`: over any number of captures in one history
the StreamILA transfers the samples of capture 1, capture 2, ..., the only link condition being that the wrapper is idle when the
next trigger is accepted — which is how the gateware accepts triggers; the transmitter may still be busy with the previous
buffer.  `tx` carries the bytes of capture 1, then of capture 2, ..., each capture's samples in order, each once.
`uart_readout_within_any` bounds the duration of a read-out from any reachable transmitter state (`Bounded`: counters within
their ranges; the ranking function of `Props/C56UartLive.lean`), and `uart_capture_chain_total` combines the two: no assumption on
the end of the history.

`uart_multi_capture` / `uart_multi_capture_decoded` are the special case in which one read-out time lies between a hand-over and
the next accepted trigger: by `uart_readout_returns_idle` such a history is a chain that ends with a quiescent transmitter
(`capturesOK_chain`).  `idle_prefix`: trigger-free cycles before the first capture change nothing.
-/
namespace LunaVerif.IlaUart
open LunaVerif.Uart LunaVerif.Ila

/-- **uart_readout_returns_idle**: `10·divisor·bytes_per_sample·depth + 3` cycles after the hand-over cycle (or later, as
long as no new capture is started) the composite is back in a state that satisfies the start hypotheses of the read-out
theorems (`WIdle`, `UartQuiet`), with `data_valid` low: the next trigger starts the next capture and the theorems apply
again. -/
theorem uart_readout_returns_idle (c : Config) (hD : 1 ≤ c.ila.depth) (hd : 1 ≤ c.d) (hw : 1 ≤ c.w) (σ : State)
    (hσ : IlaStream.WIdle c.ila σ.ila) (hu : UartQuiet σ)
    (x0 : In) (ht : x0.trigger = true) (xs : List In) (hl : xs.length = c.ila.depth) (xl : In) (ys : List In)
    (hq : noRetrigger c (runState c σ (x0 :: xs ++ [xl])) ys)
    (hn : 10 * c.d * c.w * c.ila.depth + 3 ≤ ys.length) :
    IlaStream.WIdle c.ila (runState c σ (x0 :: xs ++ xl :: ys)).ila ∧ UartQuiet (runState c σ (x0 :: xs ++ xl :: ys)) ∧
    (runState c σ (x0 :: xs ++ xl :: ys)).ila.dv = false := by
  obtain ⟨h1, h2⟩ := uart_readout_within c hD hd hw σ hσ hu x0 ht xs hl xl ys hq hn
  obtain ⟨_, _, hR⟩ := ila_capture c hD σ hσ x0 ht xs hl xl ys hq
  obtain ⟨w1, w2⟩ := hR h1
  exact ⟨w1, h2, w2⟩

/-- one capture with its read-out: trigger cycle, `depth` capture cycles, hand-over cycle, continuation -/
structure Capture where
  x0 : In
  xs : List In
  xl : In
  ys : List In

def Capture.hist (b : Capture) : List In := b.x0 :: b.xs ++ b.xl :: b.ys

/-- every capture of the list starts with a trigger, and its continuation starts no new capture and lasts at least one
read-out time (`10·divisor·bytes_per_sample·depth + 3` cycles: `uart_readout_within`) -/
def CapturesOK (c : Config) : State → List Capture → Prop
  | _, [] => True
  | σ, b :: bs => b.x0.trigger = true ∧ b.xs.length = c.ila.depth ∧
      noRetrigger c (runState c σ (b.x0 :: b.xs ++ [b.xl])) b.ys ∧
      10 * c.d * c.w * c.ila.depth + 3 ≤ b.ys.length ∧ CapturesOK c (runState c σ b.hist) bs

instance (c : Config) : ∀ σ bs, Decidable (CapturesOK c σ bs)
  | _, [] => isTrue trivial
  | σ, b :: bs =>
    have := instDecidableCapturesOK c (runState c σ b.hist) bs
    inferInstanceAs (Decidable (_ ∧ _ ∧ _ ∧ _ ∧ _))

def capturedBytes (c : Config) : State → List Capture → List Nat
  | _, [] => []
  | σ, b :: bs => (samples c σ b.x0 b.xs).flatMap (bytesLE c.w) ++ capturedBytes c (runState c σ b.hist) bs

theorem capturedBytes_lt (c : Config) (bs : List Capture) : ∀ σ, ∀ v ∈ capturedBytes c σ bs, v < 256 := by
  induction bs with
  | nil => intro σ v h; simp [capturedBytes] at h
  | cons b bs ih =>
    intro σ v h
    simp only [capturedBytes, List.mem_append] at h
    rcases h with h | h
    · exact flatMap_bytesLE_lt _ _ v h
    · exact ih _ v h

theorem idle_prefix (c : Config) (pre : List In) : ∀ (σ : State), (∀ x ∈ pre, x.trigger = false) →
    IlaStream.WIdle c.ila σ.ila → UartQuiet σ →
    IlaStream.WIdle c.ila (runState c σ pre).ila ∧ UartQuiet (runState c σ pre) ∧
      (run c σ pre).map (·.tx) = List.replicate pre.length true := by
  induction pre with
  | nil => intro σ _ hσ hu; exact ⟨hσ, hu, rfl⟩
  | cons x pre ih =>
    intro σ hp hσ hu
    have hx : x.trigger = false := hp x (by simp)
    obtain ⟨w1, _, wv, _⟩ := IlaStream.idle_step c.ila σ.ila hσ (ilaIn c σ x) hx
    obtain ⟨_, htx, hq⟩ := quiet_cycle c σ x hu
    obtain ⟨i1, i2, i3⟩ := ih (step c σ x).1 (fun y hy => hp y (by simp [hy])) w1 (hq wv)
    refine ⟨i1, i2, ?_⟩
    simp only [run, List.map_cons, htx, i3, List.length_cons, List.replicate_succ]

/-- `IlaStream.ChainOK` on the composite: no condition on the transmitter, which may still be busy with the previous buffer when
the next capture starts -/
def ChainOK (c : Config) : State → List Capture → Prop
  | _, [] => True
  | σ, b :: bs => b.x0.trigger = true ∧ b.xs.length = c.ila.depth ∧
      noRetrigger c (runState c σ (b.x0 :: b.xs ++ [b.xl])) b.ys ∧
      (runState c σ b.hist).ila.fsm = .idle ∧ ChainOK c (runState c σ b.hist) bs

instance (c : Config) : ∀ σ bs, Decidable (ChainOK c σ bs)
  | _, [] => isTrue trivial
  | σ, b :: bs =>
    have := instDecidableChainOK c (runState c σ b.hist) bs
    inferInstanceAs (Decidable (_ ∧ _ ∧ _ ∧ _ ∧ _))

theorem ila_chain (c : Config) (hD : 1 ≤ c.ila.depth) (bs : List Capture) : ∀ (σ : State),
    IlaStream.WIdle c.ila σ.ila → ChainOK c σ bs →
    ((IlaStream.transfers c.ila σ.ila (ilaHist c σ (bs.flatMap Capture.hist))).map (·.1)).flatMap (bytesLE c.w) =
      capturedBytes c σ bs ∧
    IlaStream.WIdle c.ila (runState c σ (bs.flatMap Capture.hist)).ila := by
  induction bs with
  | nil => intro σ hσ _; exact ⟨rfl, hσ⟩
  | cons b bs ih =>
    intro σ hσ ⟨ht, hl, hq, hi, hrest⟩
    obtain ⟨a1, a2, a3⟩ := ila_capture c hD σ hσ b.x0 ht b.xs hl b.xl b.ys hq
    obtain ⟨b1, b2⟩ := ih _ (a3 hi).1 hrest
    have hk := a2.mp hi
    rw [List.take_of_length_le (by
      rw [IlaStream.frame, IlaStream.frameFrom_length]; have := samples_length_le c σ b.x0 b.xs; omega)] at a1
    simp only [List.flatMap_cons, ilaHist_append, IlaStream.transfers_append, runState_append, ← ila_view,
      List.map_append, List.flatMap_append, capturedBytes]
    exact ⟨by rw [show b.hist = b.x0 :: b.xs ++ b.xl :: b.ys from rfl, a1, b1, IlaStream.frame, IlaStream.frameFrom_payloads], b2⟩

/-- **uart_capture_chain**: any number of captures in one history with NO minimum distance between them (the next trigger may be
accepted as soon as the wrapper is idle, while the transmitter is still sending the previous buffer), from any transmitter
state satisfying C49's `Inv`: the `tx` waveform of the whole history, followed by the rest of the frame in progress at the end, is what was owed at the
start followed by idle-high cycles and complete 8N1 frames; the bytes of those frames, followed by the bytes still pending in
the word transmitter at the end, are the bytes pending at the start followed by the little-endian bytes of the samples of
capture 1, capture 2, ... — in order, each once, nothing else. -/
theorem uart_capture_chain (c : Config) (hD : 1 ≤ c.ila.depth) (hd : 1 ≤ c.d) (hw : 1 ≤ c.w) (bs : List Capture) :
    ∀ (σ : State), IlaStream.WIdle c.ila σ.ila → Uart.Inv c.d σ.uart.uart → ChainOK c σ bs →
    (∃ segs, (run c σ (bs.flatMap Capture.hist)).map (·.tx) ++ Uart.abs c.d (runState c σ (bs.flatMap Capture.hist)).uart.uart =
        Uart.abs c.d σ.uart.uart ++ wave c.d segs ∧
      segBytes segs ++ pend (runState c σ (bs.flatMap Capture.hist)).uart = pend σ.uart ++ capturedBytes c σ bs) ∧
    IlaStream.WIdle c.ila (runState c σ (bs.flatMap Capture.hist)).ila ∧
    Uart.Inv c.d (runState c σ (bs.flatMap Capture.hist)).uart.uart := by
  intro σ hσ hu hok
  obtain ⟨h1, h3⟩ := mb_line c hd hw (bs.flatMap Capture.hist) σ hu
  have h2 := mb_bytes c hd hw (bs.flatMap Capture.hist) σ hu
  obtain ⟨c1, c2⟩ := ila_chain c hD bs σ hσ hok
  rw [c1] at h2
  exact ⟨⟨_, h1, h2⟩, c2, h3⟩

/-- **uart_capture_chain_quiet**: a chain of captures that starts and ends with a quiescent transmitter: `tx` over the whole history
= idle-high cycles and complete 8N1 frames carrying exactly the bytes of all captures, in order, each once. -/
theorem uart_capture_chain_quiet (c : Config) (hD : 1 ≤ c.ila.depth) (hd : 1 ≤ c.d) (hw : 1 ≤ c.w) (bs : List Capture)
    (σ : State) (hσ : IlaStream.WIdle c.ila σ.ila) (hu : UartQuiet σ) (hok : ChainOK c σ bs)
    (hfu : UartQuiet (runState c σ (bs.flatMap Capture.hist))) :
    ∃ segs, (run c σ (bs.flatMap Capture.hist)).map (·.tx) = wave c.d segs ∧ segBytes segs = capturedBytes c σ bs := by
  obtain ⟨⟨segs, h1, h2⟩, _, _⟩ := uart_capture_chain c hD hd hw bs σ hσ hu.inv hok
  exact ⟨segs, quiet_ends c hu hfu h1 h2⟩

/-- **uart_capture_chain_decoded**: an independent 8N1 receiver listening to `tx` over such a history receives exactly those bytes -/
theorem uart_capture_chain_decoded (c : Config) (hD : 1 ≤ c.ila.depth) (hd : 1 ≤ c.d) (hw : 1 ≤ c.w) (bs : List Capture)
    (σ : State) (hσ : IlaStream.WIdle c.ila σ.ila) (hu : UartQuiet σ) (hok : ChainOK c σ bs)
    (hfu : UartQuiet (runState c σ (bs.flatMap Capture.hist))) :
    decode c.d ((run c σ (bs.flatMap Capture.hist)).map (·.tx)) = capturedBytes c σ bs := by
  obtain ⟨segs, h1, h2⟩ := uart_capture_chain_quiet c hD hd hw bs σ hσ hu hok hfu
  rw [h1, decode_bytes c.d hd segs (by rw [h2]; exact capturedBytes_lt c bs σ), h2]

theorem capturesOK_chain (c : Config) (hD : 1 ≤ c.ila.depth) (hd : 1 ≤ c.d) (hw : 1 ≤ c.w) (bs : List Capture) :
    ∀ (σ : State), IlaStream.WIdle c.ila σ.ila → UartQuiet σ → CapturesOK c σ bs →
    ChainOK c σ bs ∧ UartQuiet (runState c σ (bs.flatMap Capture.hist)) := by
  induction bs with
  | nil => intro σ _ hu _; exact ⟨trivial, hu⟩
  | cons b bs ih =>
    intro σ hσ hu ⟨ht, hl, hq, hn, hrest⟩
    obtain ⟨w1, w2, _⟩ := uart_readout_returns_idle c hD hd hw σ hσ hu b.x0 ht b.xs hl b.xl b.ys hq hn
    obtain ⟨i1, i2⟩ := ih _ w1 w2 hrest
    exact ⟨⟨ht, hl, hq, w1.1, i1⟩, by rw [List.flatMap_cons, runState_append]; exact i2⟩

/-- **uart_multi_capture**: any number of captures in one history, each followed by at least one read-out time without a
new trigger being accepted: the `tx` waveform of the whole history consists of idle-high cycles and complete 8N1 frames whose
bytes are the little-endian bytes of the samples of capture 1, then of capture 2, ... — each capture's `depth` samples in
order, each once, nothing else. -/
theorem uart_multi_capture (c : Config) (hD : 1 ≤ c.ila.depth) (hd : 1 ≤ c.d) (hw : 1 ≤ c.w) (bs : List Capture) :
    ∀ (σ : State), IlaStream.WIdle c.ila σ.ila → UartQuiet σ → CapturesOK c σ bs →
    ∃ segs, (run c σ (bs.flatMap Capture.hist)).map (·.tx) = wave c.d segs ∧ segBytes segs = capturedBytes c σ bs := by
  intro σ hσ hu hok
  obtain ⟨h1, h2⟩ := capturesOK_chain c hD hd hw bs σ hσ hu hok
  exact uart_capture_chain_quiet c hD hd hw bs σ hσ hu h1 h2

/-- **uart_multi_capture_decoded**: an independent 8N1 receiver listening to `tx` over the whole multi-capture history
receives exactly those bytes. -/
theorem uart_multi_capture_decoded (c : Config) (hD : 1 ≤ c.ila.depth) (hd : 1 ≤ c.d) (hw : 1 ≤ c.w) (bs : List Capture)
    (σ : State) (hσ : IlaStream.WIdle c.ila σ.ila) (hu : UartQuiet σ) (hok : CapturesOK c σ bs) :
    decode c.d ((run c σ (bs.flatMap Capture.hist)).map (·.tx)) = capturedBytes c σ bs := by
  obtain ⟨h1, h2⟩ := capturesOK_chain c hD hd hw bs σ hσ hu hok
  exact uart_capture_chain_decoded c hD hd hw bs σ hσ hu h1 h2

/-- counters of the transmitter within their ranges (holds at reset, kept by every cycle): at most 9 bits of a frame and at
most `bytes_per_sample - 1` bytes of a word are still to come -/
def Bounded (c : Config) (u : MBState) : Prop :=
  Uart.Inv c.d u.uart ∧ (u.uart.fsm = .transmit → u.uart.bits ≤ 9) ∧ (u.fsm = .transmit → u.bytes + 1 ≤ c.w)

theorem bounded_init (c : Config) : Bounded c Uart.mbInit := by
  refine ⟨inv_init c.d, ?_, ?_⟩ <;> intro h <;> cases h

theorem uart_bits_step (d : Nat) (s : Uart.State) (x : Uart.In) (h : s.fsm = .transmit → s.bits ≤ 9) :
    (Uart.step d s x).1.fsm = .transmit → (Uart.step d s x).1.bits ≤ 9 := by
  obtain ⟨f, baud, shift, bits⟩ := s
  cases f
  · cases hv : x.valid <;> simp [Uart.step, hv]
  · have hb : bits ≤ 9 := h rfl
    simp only [Uart.step]
    split
    · split
      · simp; omega
      · split <;> simp
    · simp; exact hb

theorem bounded_step (c : Config) (hd : 1 ≤ c.d) (hw : 1 ≤ c.w) (u : MBState) (x : Uart.In) (h : Bounded c u) :
    Bounded c (mbStep c.d c.w u x).1 := by
  obtain ⟨h1, h2, h3⟩ := h
  have hi := (mbStep_abs c.d c.w hd hw u x h1).2.2
  refine ⟨hi, ?_, ?_⟩
  · rw [(mbStep_uart c.d c.w u x).1]; exact uart_bits_step c.d u.uart _ h2
  · obtain ⟨f, shift, bytes, uu⟩ := u
    cases f
    · cases hv : x.valid <;> simp [mbStep, hv]; omega
    · have hb : bytes + 1 ≤ c.w := h3 rfl
      simp only [mbStep]
      split
      · split
        · simp; omega
        · split <;> simp; omega
      · simp; exact hb

theorem bounded_run (c : Config) (hd : 1 ≤ c.d) (hw : 1 ≤ c.w) (h : List In) : ∀ σ, Bounded c σ.uart →
    Bounded c (runState c σ h).uart := by
  induction h with
  | nil => intro σ hb; exact hb
  | cons x h ih => intro σ hb; exact ih _ (bounded_step c hd hw σ.uart _ hb)

theorem abs_length_le (c : Config) (u : Uart.State) (hi : Uart.Inv c.d u) (hb : u.fsm = .transmit → u.bits ≤ 9) :
    (Uart.abs c.d u).length ≤ 10 * c.d := by
  obtain ⟨f, baud, shift, bits⟩ := u
  cases f
  · simp [Uart.abs]
  · have h1 : baud < c.d := hi rfl
    have h2 : bits ≤ 9 := hb rfl
    have h3 : c.d * bits ≤ c.d * 9 := Nat.mul_le_mul_left _ h2
    simp only [Uart.abs, List.length_append, List.length_replicate, expand_length, lsbBits_length]
    omega

theorem rank_le (F w R P L : Nat) (dv : Bool) (hF : 3 ≤ F) (hP : P ≤ w) (hL : L ≤ F) :
    rank F w ⟨R, dv, P, L⟩ ≤ F * (w * (R + 1) + 1) := by
  have h1 : F * (P + w * R) ≤ F * (w * (R + 1)) := Nat.mul_le_mul_left _ (by rw [Nat.mul_succ]; omega)
  have h2 : F * (w * (R + 1) + 1) = F * (w * (R + 1)) + F := Nat.mul_succ _ _
  simp only [rank]
  split
  · omega
  · split
    · omega
    · split <;> omega

theorem handover_rank_le (c : Config) (hd : 1 ≤ c.d) (hw : 1 ≤ c.w) (σ : State) (hb : Bounded c σ.uart)
    (x0 : In) (xs : List In) (xl : In) :
    rankOf c (runState c σ (x0 :: xs ++ [xl])) ≤ 10 * c.d * (c.w * (c.ila.depth + 1) + 1) := by
  obtain ⟨b1, b2, b3⟩ := bounded_run c hd hw (x0 :: xs ++ [xl]) σ hb
  have hP : (pend (runState c σ (x0 :: xs ++ [xl])).uart).length ≤ c.w := by
    rw [pend_length]
    cases hf : (runState c σ (x0 :: xs ++ [xl])).uart.fsm
    · simp
    · exact b3 hf
  have hL := abs_length_le c _ b1 b2
  have hR : (tsOf c (runState c σ (x0 :: xs ++ [xl]))).R ≤ c.ila.depth := IlaStream.rem_le _ _
  have hmono : c.w * ((tsOf c (runState c σ (x0 :: xs ++ [xl]))).R + 1) + 1 ≤ c.w * (c.ila.depth + 1) + 1 :=
    Nat.add_le_add_right (Nat.mul_le_mul_left _ (by omega)) 1
  exact Nat.le_trans (rank_le (10 * c.d) c.w _ _ _ _ (by omega) hP hL) (Nat.mul_le_mul_left _ hmono)

/-- **uart_readout_within_any**: a read-out that starts from ANY reachable transmitter state (e.g. while the previous buffer is
still being sent): `10·divisor·(bytes_per_sample·(depth + 1) + 1)` cycles after the hand-over cycle — the time for `depth + 1`
words and one frame — wrapper and transmitter are idle again. -/
theorem uart_readout_within_any (c : Config) (hD : 1 ≤ c.ila.depth) (hd : 1 ≤ c.d) (hw : 1 ≤ c.w) (σ : State)
    (hσ : IlaStream.WIdle c.ila σ.ila) (hb : Bounded c σ.uart)
    (x0 : In) (ht : x0.trigger = true) (xs : List In) (hl : xs.length = c.ila.depth) (xl : In) (ys : List In)
    (hq : noRetrigger c (runState c σ (x0 :: xs ++ [xl])) ys)
    (hn : 10 * c.d * (c.w * (c.ila.depth + 1) + 1) ≤ ys.length) :
    (runState c σ (x0 :: xs ++ xl :: ys)).ila.fsm = .idle ∧ UartQuiet (runState c σ (x0 :: xs ++ xl :: ys)) :=
  (uart_readout_duration_any c hD hd hw σ hσ hb.1 x0 ht xs hl xl ys hq).mpr
    (Nat.le_trans (handover_rank_le c hd hw σ hb x0 xs xl) hn)

theorem chainOK_append (c : Config) (as bs : List Capture) : ∀ σ,
    ChainOK c σ (as ++ bs) ↔ ChainOK c σ as ∧ ChainOK c (runState c σ (as.flatMap Capture.hist)) bs := by
  induction as with
  | nil => intro σ; simp [ChainOK, runState]
  | cons a as ih =>
    intro σ
    simp only [List.cons_append, ChainOK, List.flatMap_cons, runState_append, ih]
    constructor
    · rintro ⟨h1, h2, h3, h4, h5, h6⟩; exact ⟨⟨h1, h2, h3, h4, h5⟩, h6⟩
    · rintro ⟨⟨h1, h2, h3, h4, h5⟩, h6⟩; exact ⟨h1, h2, h3, h4, h5, h6⟩

/-- **uart_capture_chain_total**: a chain of captures with no minimum distance between them, starting with a quiescent
transmitter, the last capture followed by at least `10·divisor·(bytes_per_sample·(depth + 1) + 1)` cycles without a new capture:
`tx` over the whole history = idle-high cycles and complete 8N1 frames carrying exactly the little-endian bytes of the samples of
all captures, capture after capture, in order, each once — and an 8N1 receiver decodes exactly them.  No assumption on the end
of the history, none on the distance between the captures. -/
theorem uart_capture_chain_total (c : Config) (hD : 1 ≤ c.ila.depth) (hd : 1 ≤ c.d) (hw : 1 ≤ c.w) (bs : List Capture)
    (b : Capture) (σ : State) (hσ : IlaStream.WIdle c.ila σ.ila) (hu : UartQuiet σ) (hok : ChainOK c σ (bs ++ [b]))
    (hn : 10 * c.d * (c.w * (c.ila.depth + 1) + 1) ≤ b.ys.length) :
    (∃ segs, (run c σ ((bs ++ [b]).flatMap Capture.hist)).map (·.tx) = wave c.d segs ∧
      segBytes segs = capturedBytes c σ (bs ++ [b])) ∧
    decode c.d ((run c σ ((bs ++ [b]).flatMap Capture.hist)).map (·.tx)) = capturedBytes c σ (bs ++ [b]) := by
  have hB : Bounded c σ.uart := by
    refine ⟨?_, ?_, ?_⟩ <;> intro h
    · rw [hu.2] at h; cases h
    · rw [hu.2] at h; cases h
    · rw [hu.1] at h; cases h
  obtain ⟨ok1, ok2⟩ := (chainOK_append c bs [b] σ).mp hok
  obtain ⟨ht, hl, hq, _, _⟩ := ok2
  obtain ⟨_, w1, _⟩ := uart_capture_chain c hD hd hw bs σ hσ hB.1 ok1
  have hB1 := bounded_run c hd hw (bs.flatMap Capture.hist) σ hB
  obtain ⟨_, hfu⟩ := uart_readout_within_any c hD hd hw _ w1 hB1 b.x0 ht b.xs hl b.xl b.ys hq hn
  have hend : runState c σ ((bs ++ [b]).flatMap Capture.hist) =
      runState c (runState c σ (bs.flatMap Capture.hist)) (b.x0 :: b.xs ++ b.xl :: b.ys) := by
    simp [List.flatMap_append, runState_append, Capture.hist]
  rw [← hend] at hfu
  exact ⟨uart_capture_chain_quiet c hD hd hw _ σ hσ hu hok hfu, uart_capture_chain_decoded c hD hd hw _ σ hσ hu hok hfu⟩

/-! ## Non-vacuity: two captures in one history (depth 2, divisor 1, 2 bytes per sample), the second trigger 45 cycles after
the first hand-over; a blocked trigger during the first read-out -/
def exCap1 : Capture := ⟨⟨true, 0x0102⟩, [⟨false, 0x0304⟩, ⟨false, 7⟩], ⟨false, 8⟩, ⟨true, 9⟩ :: List.replicate 44 ⟨false, 9⟩⟩
def exCap2 : Capture := ⟨⟨true, 0x0506⟩, [⟨false, 0x0708⟩, ⟨false, 7⟩], ⟨false, 8⟩, List.replicate 43 ⟨false, 9⟩⟩

example : CapturesOK exCfg (init exCfg) [exCap1, exCap2] := by decide +kernel
example : capturedBytes exCfg (init exCfg) [exCap1, exCap2] = [0x02, 0x01, 0x04, 0x03, 0x06, 0x05, 0x08, 0x07] := by
  decide +kernel
example : decode 1 ((run exCfg (init exCfg) ([exCap1, exCap2].flatMap Capture.hist)).map (·.tx)) =
    [0x02, 0x01, 0x04, 0x03, 0x06, 0x05, 0x08, 0x07] := by decide +kernel

/-! ## Non-vacuity: depth 2, divisor 1, 2 bytes per sample: the second trigger is accepted 13 cycles after the first hand-over,
when the wrapper is idle again but the transmitter has sent only one of the four bytes of the first buffer -/
def exChain1 : Capture := ⟨⟨true, 0x0102⟩, [⟨false, 0x0304⟩, ⟨false, 7⟩], ⟨false, 8⟩, ⟨true, 9⟩ :: List.replicate 12 ⟨false, 9⟩⟩
def exChain2 : Capture := ⟨⟨true, 0x0506⟩, [⟨false, 0x0708⟩, ⟨false, 7⟩], ⟨false, 8⟩, List.replicate 80 ⟨false, 9⟩⟩

example : ChainOK exCfg (init exCfg) [exChain1, exChain2] := by decide +kernel
example : ¬ UartQuiet (runState exCfg (init exCfg) exChain1.hist) := by decide +kernel
example : UartQuiet (runState exCfg (init exCfg) ([exChain1, exChain2].flatMap Capture.hist)) := by decide +kernel
example : decode 1 ((run exCfg (init exCfg) ([exChain1, exChain2].flatMap Capture.hist)).map (·.tx)) =
    [0x02, 0x01, 0x04, 0x03, 0x06, 0x05, 0x08, 0x07] := by decide +kernel
example : 10 * exCfg.d * (exCfg.w * (exCfg.ila.depth + 1) + 1) ≤ exChain2.ys.length := by decide

end LunaVerif.IlaUart
