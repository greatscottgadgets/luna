import LunaVerif.Model.Usb3.CtcSkipRemover
/-!
# C32 — Receive CTC removes exactly the SKP symbols and nothing else

"With the downstream always ready, as it is wired in the physical layer, the output of the receive
clock-tolerance-compensation stage is the input symbol sequence with every SKP symbol removed, in the
same order, without loss or duplication, regrouped into 4-symbol words."

Quantifier: all input word sequences with SKPs at any byte positions and any number of consecutive
SKP words (and any `sink.valid` gaps).

Environment (`Env`): `source.ready = 1` in every cycle (physical/layer.py: `aligner.sink.stream_eq(
rx_ctc.source)` and `RxWordAligner` drives `sink.ready = 1`), and every input word has 4 symbols.

Shape: refinement of the 8-symbol shift buffer to a list.  Abstraction `pending s` = the top
`bytes_in_buffer` symbols of the buffer; invariant `Inv` = buffer length 8 ∧ `bytes_in_buffer ≤ 7`;
one commuting lemma for the clock step (`step_refines`); induction over the input history.

Regrouping: `PhyRx.chunks4` cuts a symbol stream into 4-symbol words and returns a given grouping as it is
(`chunks4_append`); applied to both sides of the main theorem it gives `output_words_are_consecutive_chunks`.  It
stands first, under the name the receive path of C31 (`Lemmas/C31PhyRxStream`, `Props/C31PhyRx`) states its side
conditions with.
-/

/-! ## Regrouping: a symbol stream cut into 4-symbol words -/
namespace LunaVerif.PhyRx

def chunks4 {α : Type} : List α → List (List α)
  | a :: b :: c :: d :: rest => [a, b, c, d] :: chunks4 rest
  | _ => []

theorem chunks4_short {α : Type} (R : List α) (h : R.length < 4) : chunks4 R = [] := by
  match R, h with
  | [], _ | [_], _ | [_, _], _ | [_, _, _], _ => rfl
  | _ :: _ :: _ :: _ :: _, h => simp at h; omega

theorem chunks4_append {α : Type} (ws : List (List α)) (h : ∀ w ∈ ws, w.length = 4) (R : List α) :
    chunks4 (ws.flatten ++ R) = ws ++ chunks4 R := by
  induction ws with
  | nil => rfl
  | cons w ws ih =>
    match w, h w (by simp) with
    | [a, b, c, d], _ =>
      simp only [List.flatten_cons, List.cons_append, List.nil_append, chunks4]
      rw [ih (fun x hx => h x (by simp [hx]))]

/-- The `k`-th word of the regrouping is symbols `4k … 4k+3` of the stream. -/
theorem getElem_chunks4 {α : Type} (S : List α) (k : Nat) (hk : k < (chunks4 S).length) :
    (chunks4 S)[k] = (S.drop (4 * k)).take 4 := by
  fun_induction chunks4 S generalizing k with
  | case1 a b c d rest ih =>
    cases k with
    | zero => rfl
    | succ k => exact ih k (Nat.lt_of_succ_lt_succ hk)
  | case2 S h => cases hk

/-- A stream has one grouping into 4-symbol words. -/
theorem flatten_inj4 {α : Type} (D Y : List (List α)) (hD : ∀ w ∈ D, w.length = 4) (hY : ∀ w ∈ Y, w.length = 4)
    (h : D.flatten = Y.flatten) : D = Y := by
  have := chunks4_append D hD []
  rw [h, chunks4_append Y hY, List.append_cancel_right_eq] at this
  exact this.symm

/-- Two groupings of one stream, the second up to an incomplete word `R2`: the first is a prefix of the second, and
what follows it (`R`) is the rest of the second. -/
theorem chunks_unique {α : Type} (D Y : List (List α)) (R R2 : List α)
    (hD : ∀ w ∈ D, w.length = 4) (hY : ∀ w ∈ Y, w.length = 4)
    (h : D.flatten ++ R = Y.flatten ++ R2) (hR2 : R2.length < 4) :
    D = Y.take D.length ∧ D.length ≤ Y.length ∧ R = (Y.drop D.length).flatten ++ R2 := by
  have hc := congrArg chunks4 h
  rw [chunks4_append D hD, chunks4_append Y hY, chunks4_short R2 hR2, List.append_nil] at hc
  subst hc
  rw [List.flatten_append, List.append_assoc] at h
  exact ⟨by simp, by simp, by simpa using List.append_cancel_left h⟩

theorem length_flatten4 {α : Type} (W : List (List α)) (h : ∀ w ∈ W, w.length = 4) :
    W.flatten.length = 4 * W.length := by
  induction W with
  | nil => rfl
  | cons w ws ih =>
    simp only [List.flatten_cons, List.length_append, List.length_cons]
    rw [ih (fun x hx => h x (by simp [hx])), h w (by simp)]; omega

end LunaVerif.PhyRx

namespace LunaVerif.CtcRemover
open LunaVerif.Ss

/-! ## Specification -/

def inSyms : List In → List Sym
  | [] => []
  | i :: is => (if i.valid then i.word else []) ++ inSyms is

def spec (ins : List In) : List Sym := (inSyms ins).filter (fun x => !isSkp x)

/-- The symbols that left the module; `source.ready` is not looked at, it is 1 under `Env`. -/
def outSyms : List Out → List Sym
  | [] => []
  | o :: os => (if o.srcValid then o.srcWord else []) ++ outSyms os

def outWords : List Out → List (List Sym)
  | [] => []
  | o :: os => if o.srcValid then o.srcWord :: outWords os else outWords os

/-- Abstraction: the symbols the module still holds (oldest first). -/
def pending (s : State) : List Sym := s.buf.drop (8 - s.bib)

def Inv (s : State) : Prop := s.buf.length = 8 ∧ s.bib ≤ 7

def Env (ins : List In) : Prop := ∀ i ∈ ins, i.ready = true ∧ i.word.length = 4

theorem inv_init : Inv init := by simp [Inv, init]
theorem pending_init : pending init = [] := by simp [pending, init]

/-! ## The 16-way compaction is "delete the masked positions" -/

theorem compact_map (p : Sym → Bool) (w : List Sym) :
    compact (w.map p) w = w.filter (fun x => !p x) := by
  induction w with
  | nil => rfl
  | cons x xs ih => cases h : p x <;> simp [compact, h, ih]

/-- All 16 `Case(skip_mask)` bodies, spelled out as the Python generator produces them. -/
example (a b c d : Sym) :
    [compact [false, false, false, false] [a, b, c, d], compact [true, false, false, false] [a, b, c, d],
     compact [false, true, false, false] [a, b, c, d], compact [true, true, false, false] [a, b, c, d],
     compact [false, false, true, false] [a, b, c, d], compact [true, false, true, false] [a, b, c, d],
     compact [false, true, true, false] [a, b, c, d], compact [true, true, true, false] [a, b, c, d],
     compact [false, false, false, true] [a, b, c, d], compact [true, false, false, true] [a, b, c, d],
     compact [false, true, false, true] [a, b, c, d], compact [true, true, false, true] [a, b, c, d],
     compact [false, false, true, true] [a, b, c, d], compact [true, false, true, true] [a, b, c, d],
     compact [false, true, true, true] [a, b, c, d], compact [true, true, true, true] [a, b, c, d]]
    = [[a, b, c, d], [b, c, d], [a, c, d], [c, d], [a, b, d], [b, d], [a, d], [d],
       [a, b, c], [b, c], [a, c], [c], [a, b], [b], [a], []] := rfl

theorem filter_length_le_four (w : List Sym) (h : w.length = 4) (p : Sym → Bool) :
    (w.filter p).length ≤ 4 := h ▸ List.length_filter_le p w

/-! ## List facts about the shift buffer -/

theorem take_pad {α : Type} (f : List α) (k : Nat) (z : α) :
    (f ++ List.replicate k z).take f.length = f := by simp

/-- The shift buffer over a cycle that pushes `v` and pops the `k` oldest held symbols: with junk `J` in
front of the held symbols `P`, the held symbols become `P.drop k ++ v` (what is pushed overwrites junk only). -/
theorem held_after {α : Type} (J P v : List α) (k : Nat) (hJP : J.length + P.length = 8)
    (hk : k ≤ P.length) (hv : v.length ≤ J.length + k) :
    ((J ++ P).drop v.length ++ v).drop (8 - (P.length + v.length - k)) = P.drop k ++ v := by
  have h1 : (J ++ P).drop v.length = (J ++ P.take k).drop v.length ++ P.drop k := by
    conv => lhs; rw [← List.take_append_drop k P, ← List.append_assoc]
    exact List.drop_append_of_le_length (by simp; omega)
  rw [h1, List.append_assoc]
  exact List.drop_left' (by simp; omega)

/-- The buffer as junk ++ held symbols. -/
theorem buf_split (s : State) (h : Inv s) :
    s.buf = s.buf.take (8 - s.bib) ++ pending s ∧
    (s.buf.take (8 - s.bib)).length + (pending s).length = 8 ∧ (pending s).length = s.bib := by
  obtain ⟨hl, hb⟩ := h
  refine ⟨(List.take_append_drop _ _).symm, ?_, ?_⟩ <;> simp [pending, hl] <;> omega

/-! ## The commuting lemma for one clock cycle -/

def accepted (i : In) : List Sym := if i.valid then i.word.filter (fun x => !isSkp x) else []

def emitted (o : Out) : List Sym := if o.srcValid then o.srcWord else []

/-- The register update of one cycle, with the 4-bit wrap and the `sink.ready` gate discharged by
`bib ≤ 7`. -/
theorem step_state (s : State) (i : In) (hb : s.bib ≤ 7) (hr : i.ready = true)
    (hw : i.word.length = 4) :
    (step s i).1 = ⟨s.buf.drop (accepted i).length ++ accepted i,
      s.bib + (accepted i).length - (if 4 ≤ s.bib then 4 else 0)⟩ := by
  have hsr : decide (s.bib ≤ 8) = true := by simp; omega
  cases hv : i.valid
  · have hacc : accepted i = [] := by simp [accepted, hv]
    by_cases h4 : 4 ≤ s.bib
    · have hb' : (s.bib - 4) % 16 = s.bib - 4 := by omega
      simp [step, hv, hr, h4, hb', hacc]
    · simp [step, hv, h4, hacc]
  · have hfr : compact (i.word.map isSkp) i.word = i.word.filter (fun x => !isSkp x) := compact_map _ _
    have hacc : accepted i = i.word.filter (fun x => !isSkp x) := by simp [accepted, hv]
    have hvl : (i.word.filter (fun x => !isSkp x)).length ≤ 4 := filter_length_le_four _ hw _
    generalize i.word.filter (fun x => !isSkp x) = v at hfr hacc hvl
    by_cases h4 : 4 ≤ s.bib
    · have hb' : (s.bib + v.length - 4) % 16 = s.bib + v.length - 4 := by omega
      simp [step, hv, hr, hsr, h4, hfr, hacc, hb']
    · have hb' : (s.bib + v.length) % 16 = s.bib + v.length := by omega
      simp [step, hv, hsr, h4, hfr, hacc, hb']

/-- The ports in every cycle: `sink.ready` is high, the `bytes_in_buffer` port (3 bits) shows the
true fill level, `source.valid` is high exactly when at least four symbols are held, and then the output word
is the oldest four. -/
theorem ports_from_invariant (s : State) (i : In) (hs : Inv s) :
    (step s i).2.sinkReady = true ∧ (step s i).2.bytesInBuffer = (pending s).length ∧
    (step s i).2.srcValid = decide (4 ≤ (pending s).length) ∧
    ((step s i).2.srcValid = true → (step s i).2.srcWord = (pending s).take 4) := by
  have hPl := (buf_split s hs).2.2
  obtain ⟨hl, hb⟩ := hs
  refine ⟨by simp [step]; omega, by simp only [step, hPl]; omega, by simp [step, hPl], ?_⟩
  intro h
  have h4 : 4 ≤ s.bib := by simpa [step] using h
  have : 4 ≤ s.bib ∧ s.bib < 8 := ⟨h4, by omega⟩
  simp [step, this, pending]

theorem step_refines (s : State) (i : In) (hs : Inv s) (hr : i.ready = true) (hw : i.word.length = 4) :
    Inv (step s i).1 ∧
    emitted (step s i).2 ++ pending (step s i).1 = pending s ++ accepted i ∧
    ((step s i).2.srcValid = true → (step s i).2.srcWord.length = 4) := by
  obtain ⟨hsplit, hJP, hPl⟩ := buf_split s hs
  obtain ⟨hl, hb⟩ := hs
  obtain ⟨-, -, pValid, pWord⟩ := ports_from_invariant s i ⟨hl, hb⟩
  have eEmit : emitted (step s i).2 = (pending s).take (if 4 ≤ s.bib then 4 else 0) := by
    unfold emitted
    by_cases h4 : 4 ≤ s.bib
    · have hv : (step s i).2.srcValid = true := by rw [pValid, hPl]; exact decide_eq_true h4
      rw [hv, if_pos rfl, pWord hv, if_pos h4]
    · have hv : (step s i).2.srcValid = false := by rw [pValid, hPl]; exact decide_eq_false h4
      rw [hv, if_neg Bool.false_ne_true, if_neg h4, List.take_zero]
  have hvl : (accepted i).length ≤ 4 := by
    unfold accepted; split
    · exact filter_length_le_four _ hw _
    · simp
  rw [eEmit, step_state s i hb hr hw]
  refine ⟨⟨by simp [hl]; omega, by show _ - _ ≤ 7; split <;> omega⟩, ?_, fun h => by
    have := of_decide_eq_true (pValid ▸ h)
    rw [pWord h, List.length_take]; omega⟩
  -- `k` symbols are popped: 4 when four are held, else none (then at most 3 are held)
  have hk : (if 4 ≤ s.bib then 4 else 0) ≤ s.bib := by split <;> omega
  have hk4 : s.bib ≤ 3 + (if 4 ≤ s.bib then 4 else 0) := by split <;> omega
  generalize accepted i = v at hvl
  generalize (if 4 ≤ s.bib then 4 else 0) = k at hk hk4
  generalize s.buf.take (8 - s.bib) = J at hsplit hJP
  generalize pending s = P at hsplit hJP hPl
  show _ ++ (s.buf.drop v.length ++ v).drop (8 - (s.bib + v.length - k)) = _
  rw [hsplit, ← hPl, held_after J P v k hJP (by omega) (by omega), ← List.append_assoc, List.take_append_drop]

/-! ## Whole histories -/

theorem run_refines (s : State) (ins : List In) (hs : Inv s) (he : Env ins) :
    Inv (run s ins).2 ∧
    outSyms (run s ins).1 ++ pending (run s ins).2 = pending s ++ spec ins ∧
    ∀ w ∈ outWords (run s ins).1, w.length = 4 := by
  induction ins generalizing s with
  | nil => simp [run, outSyms, outWords, spec, inSyms, hs]
  | cons i is ih =>
    have hi := he i (List.mem_cons_self ..)
    have hst := step_refines s i hs hi.1 hi.2
    have hrest := ih (step s i).1 hst.1 (fun j hj => he j (List.mem_cons_of_mem _ hj))
    refine ⟨hrest.1, ?_, ?_⟩
    · have hspec : spec (i :: is) = accepted i ++ spec is := by
        simp only [spec, accepted, inSyms]
        cases i.valid <;> simp [List.filter_append]
      show (emitted (step s i).2 ++ outSyms (run (step s i).1 is).1) ++ pending (run (step s i).1 is).2 = _
      rw [List.append_assoc, hrest.2.1, ← List.append_assoc, hst.2.1, hspec, List.append_assoc]
    · intro w hwm
      simp only [run, outWords] at hwm
      split at hwm
      · rename_i hv
        rcases List.mem_cons.1 hwm with rfl | hm
        · exact hst.2.2 hv
        · exact hrest.2.2 w hm
      · exact hrest.2.2 w hwm

/-- **C32, main theorem.**  For every input history (any SKP positions, any number of SKP-only
words, any `sink.valid` gaps) with the downstream always ready: the symbols output so far followed
by the symbols still held are exactly the input symbols with the SKPs deleted — nothing lost,
nothing duplicated, order kept.  As it holds for every history it holds at every cycle. -/
theorem skp_removal_exact (ins : List In) (he : Env ins) :
    outSyms (run init ins).1 ++ pending (run init ins).2 = spec ins := by
  have h := (run_refines init ins inv_init he).2.1
  rwa [pending_init, List.nil_append] at h

/-- The module never holds more than 7 symbols, the counter is the number of held symbols, and
hence (with the main theorem) at most 7 input symbols are ever waiting to be output. -/
theorem bytes_in_buffer_le_seven (ins : List In) (he : Env ins) :
    (run init ins).2.bib ≤ 7 ∧ (pending (run init ins).2).length = (run init ins).2.bib ∧
    (run init ins).2.buf.length = 8 := by
  have h := (run_refines init ins inv_init he).1
  exact ⟨h.2, (buf_split _ h).2.2, h.1⟩

/-- `skip_removed` strobes in exactly the cycles whose (valid) input word contains an SKP. -/
theorem skip_removed_iff_word_has_skp (s : State) (i : In) (hs : Inv s) :
    (step s i).2.skipRemoved = (i.valid && i.word.any isSkp) := by
  have hsr : decide (s.bib ≤ 8) = true := by simp; have := hs.2; omega
  cases hv : i.valid <;> simp [step, hv, hsr, List.any_map]

/-- … and over a whole history from reset. -/
theorem skip_removed_history (ins : List In) (he : Env ins) :
    (run init ins).1.map (·.skipRemoved) = ins.map (fun i => i.valid && i.word.any isSkp) := by
  suffices h : ∀ s, Inv s → ∀ ins, Env ins →
      (run s ins).1.map (·.skipRemoved) = ins.map (fun i => i.valid && i.word.any isSkp) from
    h init inv_init ins he
  intro s hs ins
  induction ins generalizing s with
  | nil => intro _; rfl
  | cons i is ih =>
    intro he
    have hi := he i (List.mem_cons_self ..)
    simp only [run, List.map_cons]
    rw [skip_removed_iff_word_has_skp s i hs,
      ih _ (step_refines s i hs hi.1 hi.2).1 (fun j hj => he j (List.mem_cons_of_mem _ hj))]

/-! ## Regrouping into 4-symbol words -/

theorem outSyms_eq_flatten (os : List Out) : outSyms os = (outWords os).flatten := by
  induction os with
  | nil => rfl
  | cons o os ih => cases h : o.srcValid <;> simp [outSyms, outWords, h, ih]

/-- "Regrouped into 4-symbol words": the k-th word that leaves the module is symbols
`4k … 4k+3` of the SKP-free input symbol stream. -/
theorem output_words_are_consecutive_chunks (ins : List In) (he : Env ins) (k : Nat)
    (hk : k < (outWords (run init ins).1).length) :
    (outWords (run init ins).1)[k] = ((spec ins).drop (4 * k)).take 4 ∧
    (outWords (run init ins).1)[k].length = 4 := by
  have hlen := (run_refines init ins inv_init he).2.2
  have hmain := congrArg PhyRx.chunks4 (skp_removal_exact ins he)
  rw [outSyms_eq_flatten, PhyRx.chunks4_append _ hlen] at hmain
  refine ⟨?_, hlen _ (List.getElem_mem hk)⟩
  rw [← PhyRx.getElem_chunks4 (spec ins) k (by rw [← hmain, List.length_append]; omega)]
  simp only [← hmain, List.getElem_append_left hk]

/-! ## Non-vacuity: `test_dual_skip_removal` of tests/test_usb3_ctc.py; a run with two all-SKP words, a
`sink.valid` gap, 0x3C as data and a single SKP -/

private def w (d c : Nat) : In := ⟨true, unpack 4 d c, true⟩

example : Env [w 0xAABBCCDD 0, w 0x71BA3C3C 3, w 0x11223344 12, w 0 0, w 0 0] := by
  intro i hi; simp [w] at hi; rcases hi with rfl | rfl | rfl | rfl <;> decide

example : (outWords (run init [w 0xAABBCCDD 0, w 0x71BA3C3C 3, w 0x11223344 12, w 0 0, w 0 0]).1).map
    (fun x => (packData x, packCtrl x)) = [(0xAABBCCDD, 0), (0x334471BA, 0), (0x00001122, 3)] := by decide

example : (outWords (run init [w 0xAABBCCDD 0, w 0x3C3C3C3C 15, w 0x3C3C3C3C 15, ⟨false, unpack 4 1 0, true⟩,
    w 0x3C3C3C3C 0, w 0x3C556677 8, w 0 0, w 0 0]).1).map (fun x => (packData x, packCtrl x))
    = [(0xAABBCCDD, 0), (0x3C3C3C3C, 0), (0x00556677, 0)] := by decide

end LunaVerif.CtcRemover
