import LunaVerif.Model.Usb2.IsoStreamIn
/-!
# C15 — Isochronous IN endpoints send exactly the requested bytes per frame

"In every frame, the endpoint sends exactly the number of bytes requested for that frame, taken in
order from its stream (zero-filled while the stream has no data), split into packets of at most the
max packet size and labelled DATA2/DATA1/DATA0, DATA1/DATA0 or DATA0 according to how many packets
the frame needs; an IN token in a frame with nothing (left) to send gets a zero-length packet."

The property is written as an assume/guarantee *acceptor* `Spec` reading the endpoint's ports cycle by
cycle.  Its state is what the property talks about: `n` = bytes requested for the current frame
(latched at the SOF, 0 before the first), `done` = how many of them have gone out, `pkts` = data packets
completed in this frame, and the phase (idle / inside a data packet after `k` bytes / ZLP).  In a data
packet every cycle must show `valid`, `first` on byte 0, `last` exactly on the byte that fills the
packet (`k+1 = mps`) or the frame (`done+1 = n`), the stream's byte or zero, `stream.ready = tx.ready`
(a stream byte is consumed exactly when it is sent), fewer than `mps` bytes so far, `done < n`, and
the PID `packetsNeeded n - 1 - pkts`.  A request with `done = n` must be answered by a ZLP.
Environment violations (SOF inside a data packet or together with a request, `bytes_in_frame` above
3·mps or outside the 12-bit port) move the acceptor to `chaos`, which accepts everything.
-/
namespace LunaVerif.IsoIn

/-- Number of packets a frame of `n ≤ 3·mps` bytes needs (`= ⌈n / mps⌉`, see `packetsNeeded_eq_ceil`); the class
documents `bytes_in_frame ≤ N · max_packet_size` for `N ≤ 3` transfers per microframe. -/
def packetsNeeded (mps n : Nat) : Nat :=
  if n > 2 * mps then 3 else if n > mps then 2 else if n > 0 then 1 else 0

inductive Phase
  | idle
  | data (k : Nat)    -- inside a data packet, `k` bytes of it handed over
  | zlp
  | chaos             -- the environment left the assumptions
deriving Repr, DecidableEq

structure Spec where
  n     : Nat
  done  : Nat
  pkts  : Nat
  phase : Phase
deriving Repr, DecidableEq

def Spec.init : Spec := ⟨0, 0, 0, .idle⟩

/-- What a SOF does between packets. -/
def Spec.sof (c : Config) (sp : Spec) (i : In) : Spec :=
  if i.bytesInFrame > 3 * c.mps || i.bytesInFrame ≥ 4096 then { sp with phase := .chaos }
  else ⟨i.bytesInFrame, 0, 0, .idle⟩

def Spec.ok (c : Config) (sp : Spec) (i : In) (o : Out) : Bool :=
  match sp.phase with
  | .chaos => true
  | .idle =>
    !o.valid && !o.first && !o.last && o.payload == 0 && !o.sReady
      && o.dataRequested == dataRequested c i
  | .data k =>
    o.valid && o.first == (k == 0) && o.last == ((k + 1 == c.mps) || (sp.done + 1 == sp.n))
      && o.payload == (if i.sValid then i.sPayload else 0) && o.sReady == i.txReady
      && !o.dataRequested && o.pid + 1 + sp.pkts == packetsNeeded c.mps sp.n
      && decide (k < c.mps) && decide (sp.done < sp.n)
  | .zlp =>
    o.valid && !o.first && o.last && o.payload == 0 && !o.sReady && !o.dataRequested
      && decide (sp.done = sp.n)

def Spec.next (c : Config) (sp : Spec) (i : In) : Spec :=
  match sp.phase with
  | .chaos => sp
  | .idle =>
    if i.newFrame then (if dataRequested c i then { sp with phase := .chaos } else sp.sof c i)
    else if dataRequested c i then
      (if sp.done < sp.n then { sp with phase := .data 0 } else { sp with phase := .zlp })
    else sp
  | .data k =>
    if i.newFrame then { sp with phase := .chaos }
    else if i.txReady then
      (if (k + 1 == c.mps) || (sp.done + 1 == sp.n) then ⟨sp.n, sp.done + 1, sp.pkts + 1, .idle⟩
       else ⟨sp.n, sp.done + 1, sp.pkts, .data (k + 1)⟩)
    else sp
  | .zlp => if i.newFrame then sp.sof c i else { sp with phase := .idle }

def accepts (c : Config) : Spec → List (In × Out) → Bool
  | _, [] => true
  | sp, (i, o) :: rest => sp.ok c i o && accepts c (sp.next c i) rest

theorem packetsNeeded_eq_ceil (mps n : Nat) (hm : 1 ≤ mps) (hn : n ≤ 3 * mps) :
    packetsNeeded mps n = (n + mps - 1) / mps := by
  unfold packetsNeeded
  symm
  split
  · exact Nat.div_eq_of_lt_le (by omega) (by omega)
  · split
    · exact Nat.div_eq_of_lt_le (by omega) (by omega)
    · split
      · exact Nat.div_eq_of_lt_le (by omega) (by omega)
      · exact Nat.div_eq_of_lt (by omega)

theorem lt_needed (mps n p : Nat) (hn : n ≤ 3 * mps) (hp : p * mps < n) :
    p < packetsNeeded mps n := by
  have hm : 1 ≤ mps := by
    rcases Nat.eq_zero_or_pos mps with rfl | h
    · omega
    · exact h
  rw [packetsNeeded_eq_ceil mps n hm hn, Nat.lt_div_iff_mul_lt hm]
  omega

theorem needed_le (mps n : Nat) : packetsNeeded mps n ≤ 3 := by
  unfold packetsNeeded; split <;> (try split) <;> (try split) <;> omega

theorem startPid_needed (c : Config) (n : Nat) (h : 0 < n) :
    startPid c n + 1 = packetsNeeded c.mps n := by
  unfold startPid packetsNeeded; split <;> (try split) <;> (try split) <;> omega

/-- What idle and ZLP phases know about the registers. -/
def RelRest (c : Config) (s : State) (sp : Spec) : Prop :=
  s.first = false ∧ s.blf = sp.n - sp.done ∧ sp.done ≤ sp.n ∧ sp.n ≤ 3 * c.mps ∧ sp.n < 4096 ∧
  (0 < sp.n → s.blp = c.mps) ∧ (sp.done = sp.n ∨ sp.done = sp.pkts * c.mps) ∧
  (sp.done < sp.n → s.pid + 1 + sp.pkts = packetsNeeded c.mps sp.n)

def Rel (c : Config) (s : State) (sp : Spec) : Prop :=
  match sp.phase with
  | .chaos => True
  | .idle => s.fsm = .idle ∧ RelRest c s sp
  | .zlp => s.fsm = .sendZlp ∧ sp.done = sp.n ∧ RelRest c s sp
  | .data k =>
    s.fsm = .sendData ∧ s.first = (k == 0) ∧ k < c.mps ∧ s.blp = c.mps - k ∧ sp.done < sp.n ∧
    sp.done = sp.pkts * c.mps + k ∧ s.pid + 1 + sp.pkts = packetsNeeded c.mps sp.n ∧
    s.blf = sp.n - sp.done ∧ sp.n ≤ 3 * c.mps ∧ sp.n < 4096


theorem rel_sof (c : Config) (sp : Spec) (i : In) (s' : State)
    (h1 : s'.fsm = .idle) (h2 : s'.first = false) (h3 : s'.blf = i.bytesInFrame)
    (h4 : s'.blp = c.mps) (h5 : s'.pid = startPid c i.bytesInFrame) :
    Rel c s' (sp.sof c i) := by
  unfold Spec.sof
  split
  · simp [Rel]
  · rename_i hb
    simp only [Bool.or_eq_true, decide_eq_true_eq, not_or, Nat.not_lt, Nat.not_le] at hb
    refine ⟨h1, h2, by simp [h3], by simp, by simp; omega, by simp; omega, fun _ => h4, by simp, ?_⟩
    intro hlt
    have := startPid_needed c i.bytesInFrame (by simpa using hlt)
    simp only [h5]; omega

theorem refines_idle (c : Config) (hm : 1 ≤ c.mps) (s : State) (sp : Spec) (i : In)
    (hp : sp.phase = .idle) (hr : Rel c s sp) :
    sp.ok c i (step c s i).2 = true ∧ Rel c (step c s i).1 (sp.next c i) := by
  rcases sp with ⟨n, done, pkts, phase⟩
  rcases s with ⟨fsm, blf, blp, pid, first, ff⟩
  simp only at hp; subst hp
  obtain ⟨hf, hfirst, hblf, hdn, hn3, hn4, hblp, hdone, hpid⟩ := hr
  simp only at hf hfirst hblf hdn hn3 hn4 hblp hdone hpid
  subst hf hfirst
  refine ⟨by simp [Spec.ok, step], ?_⟩
  by_cases hnf : i.newFrame = true
  · by_cases hq : dataRequested c i = true
    · simp [Spec.next, hnf, hq, Rel]
    · simp only [Spec.next, hnf, hq, if_true]
      apply rel_sof <;> simp [step, hnf, hq]
  · by_cases hq : dataRequested c i = true
    · by_cases hlt : done < n
      · have hb : blf ≠ 0 := by omega
        simp only [Spec.next, hnf, hq, hlt, if_true]
        simp [Rel, step, hnf, hq, hb]
        refine ⟨hm, by rw [hblp (by omega)], hlt, ?_, hpid hlt, hblf, hn3, hn4⟩
        rcases hdone with h | h <;> omega
      · have hb : blf = 0 := by omega
        simp only [Spec.next, hnf, hq, hlt, if_true]
        simp [Rel, RelRest, step, hnf, hq, hb]
        exact ⟨by omega, by omega, hdn, hn3, hn4, hblp, hdone, fun h => absurd h hlt⟩
    · simp only [Spec.next, hnf, hq]
      simp [Rel, RelRest, step, hnf, hq]
      exact ⟨hblf, hdn, hn3, hn4, hblp, hdone, hpid⟩

theorem refines_zlp (c : Config) (s : State) (sp : Spec) (i : In)
    (hp : sp.phase = .zlp) (hr : Rel c s sp) :
    sp.ok c i (step c s i).2 = true ∧ Rel c (step c s i).1 (sp.next c i) := by
  rcases sp with ⟨n, done, pkts, phase⟩
  rcases s with ⟨fsm, blf, blp, pid, first, ff⟩
  simp only at hp; subst hp
  obtain ⟨hf, hdz, hfirst, hblf, hdn, hn3, hn4, hblp, hdone, hpid⟩ := hr
  simp only at hf hdz hfirst hblf hdn hn3 hn4 hblp hdone hpid
  subst hf hfirst
  refine ⟨by simp [Spec.ok, step, hdz], ?_⟩
  by_cases hnf : i.newFrame = true
  · simp only [Spec.next, hnf, if_true]
    apply rel_sof <;> simp [step, hnf]
  · simp only [Spec.next, hnf]
    simp [Rel, RelRest, step, hnf]
    exact ⟨hblf, hdn, hn3, hn4, hblp, hdone, hpid⟩

/-- The 12-bit decrement of `bytes_left_in_frame` does not wrap while bytes of the frame are left. -/
theorem blf_dec (blf n done : Nat) (hblf : blf = n - done) (hlt : done < n) (hn4 : n < 4096) :
    (blf + 4095) % 4096 = n - (done + 1) := by
  omega

theorem refines_data (c : Config) (s : State) (sp : Spec) (i : In) (k : Nat)
    (hp : sp.phase = .data k) (hr : Rel c s sp) :
    sp.ok c i (step c s i).2 = true ∧ Rel c (step c s i).1 (sp.next c i) := by
  rcases sp with ⟨n, done, pkts, phase⟩
  rcases s with ⟨fsm, blf, blp, pid, first, ff⟩
  simp only at hp; subst hp
  obtain ⟨hf, hfirst, hk, hblp, hlt, hdone, hpid, hblf, hn3, hn4⟩ := hr
  simp only at hf hfirst hk hblp hlt hdone hpid hblf hn3 hn4
  subst hf
  have hlp : (decide (blp ≤ 1)) = (k + 1 == c.mps) := by
    rw [hblp, Bool.eq_iff_iff]; simp only [decide_eq_true_eq, beq_iff_eq]; omega
  have hlf : (decide (blf ≤ 1)) = (done + 1 == n) := by
    rw [hblf, Bool.eq_iff_iff]; simp only [decide_eq_true_eq, beq_iff_eq]; omega
  constructor
  · by_cases hrd : i.txReady = true <;> simp [Spec.ok, step, hrd, hlp, hlf, hfirst, hpid, hk, hlt]
  · by_cases hnf : i.newFrame = true
    · simp [Spec.next, hnf, Rel]
    · by_cases hrd : i.txReady = true
      · by_cases hlast : ((k + 1 == c.mps) || (done + 1 == n)) = true
        · have hmul : (pkts + 1) * c.mps = pkts * c.mps + c.mps := Nat.succ_mul _ _
          have hpl : pkts < packetsNeeded c.mps n := lt_needed _ _ _ hn3 (by omega)
          have hle := needed_le c.mps n
          simp only [Spec.next, hnf, hrd, hlast, if_true]
          simp only [Bool.or_eq_true, beq_iff_eq] at hlast
          simp [Rel, RelRest, step, hrd, hlp, hlf, hlast]
          refine ⟨blf_dec blf n done hblf hlt hn4, by omega, hn3, hn4, ?_, ?_⟩
          · rw [hmul]; omega
          · intro h
            have h2 : k + 1 = c.mps := by omega
            have := lt_needed c.mps n (pkts + 1) hn3 (by rw [hmul]; omega)
            omega
        · simp only [Spec.next, hnf, hrd, hlast, if_true]
          simp only [Bool.or_eq_true, beq_iff_eq, not_or] at hlast
          simp [Rel, step, hrd, hlp, hlf, hlast, hnf]
          exact ⟨by omega, by omega, by omega, by omega, hpid, blf_dec blf n done hblf hlt hn4, hn3, hn4⟩
      · simp only [Spec.next, hnf, hrd]
        simp [Rel, step, hrd, hnf]
        exact ⟨hfirst, hk, hblp, hlt, hdone, hpid, hblf, hn3, hn4⟩

theorem step_refines (c : Config) (hm : 1 ≤ c.mps) (s : State) (sp : Spec) (i : In)
    (hr : Rel c s sp) :
    sp.ok c i (step c s i).2 = true ∧ Rel c (step c s i).1 (sp.next c i) := by
  cases hp : sp.phase with
  | chaos => simp [Spec.ok, Spec.next, hp, Rel]
  | idle => exact refines_idle c hm s sp i hp hr
  | zlp => exact refines_zlp c s sp i hp hr
  | data k => exact refines_data c s sp i k hp hr

theorem rel_init (c : Config) : Rel c (init c) Spec.init := by
  simp [Rel, RelRest, init, Spec.init]

theorem accepts_from (c : Config) (hm : 1 ≤ c.mps) (s : State) (sp : Spec) (hr : Rel c s sp)
    (ins : List In) : accepts c sp (trace c s ins) = true := by
  induction ins generalizing s sp with
  | nil => rfl
  | cons i is ih =>
    obtain ⟨h1, h2⟩ := step_refines c hm s sp i hr
    simp only [trace, accepts, h1, Bool.true_and]
    exact ih _ _ h2

/-- **C15** (main theorem).  For every max packet size ≥ 1, every endpoint number and every input
history (SOFs with any `bytes_in_frame`, IN tokens at any time — also before the first SOF —,
`tx.ready` stalls, any `stream.valid` pattern), the endpoint's trace from reset is accepted, that is, up to
the first environment violation (after which the acceptor accepts everything): in each
frame the bytes go out in order (stream byte or zero, `stream.ready` exactly when a byte is handed
over), a data packet is only ever started/continued while fewer than `n` bytes of the frame are out
and ends exactly when the packet or the frame is full, so a frame never sends more than requested
and sends all of it when enough IN tokens arrive; further tokens get ZLPs. -/
theorem frame_sends_exactly_requested (c : Config) (hm : 1 ≤ c.mps) (ins : List In) :
    accepts c Spec.init (trace c (init c) ins) = true :=
  accepts_from c hm (init c) Spec.init (rel_init c) ins

/-- What acceptance of a data-phase cycle says about packet size: a byte is on the interface only
while fewer than `mps` bytes of this packet (and fewer than `n` of the frame) have been handed over,
and `last` is raised on the `mps`-th byte. -/
theorem packets_le_mps (c : Config) (sp : Spec) (k : Nat) (i : In) (o : Out)
    (hp : sp.phase = .data k) (h : sp.ok c i o = true) :
    k < c.mps ∧ sp.done < sp.n ∧ (k + 1 = c.mps → o.last = true) := by
  simp only [Spec.ok, hp, Bool.and_eq_true, decide_eq_true_eq, beq_iff_eq] at h
  refine ⟨h.1.2, h.2, fun hk => ?_⟩
  have := h.1.1.1.1.1.1.2
  simp [hk] at this; exact this

/-- What acceptance of a data-phase cycle says about the PID: packet number `pkts` (0-based) of a
frame needing `packetsNeeded n = ⌈n/mps⌉` packets is sent with PID `⌈n/mps⌉ - 1 - pkts`, i.e.
DATA2-DATA1-DATA0, DATA1-DATA0 or DATA0. -/
theorem pid_sequence (c : Config) (sp : Spec) (k : Nat) (i : In) (o : Out)
    (hp : sp.phase = .data k) (h : sp.ok c i o = true) :
    o.pid + 1 + sp.pkts = packetsNeeded c.mps sp.n := by
  simp only [Spec.ok, hp, Bool.and_eq_true, decide_eq_true_eq, beq_iff_eq] at h
  exact h.1.1.2

/-- A request in a frame with nothing (left) to send — before the first SOF, in a frame of 0 bytes,
or after all of the frame's bytes have gone out — is answered in the next cycle by a zero-length
packet (`valid`, `last`, no `first`, nothing taken from the stream). -/
theorem zlp_when_nothing_left (c : Config) (s : State) (sp : Spec) (i j : In)
    (hr : Rel c s sp) (hp : sp.phase = .idle) (hd : sp.done = sp.n)
    (hq : dataRequested c i = true) :
    (step c (step c s i).1 j).2.valid = true ∧ (step c (step c s i).1 j).2.last = true ∧
    (step c (step c s i).1 j).2.first = false ∧ (step c (step c s i).1 j).2.sReady = false := by
  rcases sp with ⟨n, done, pkts, phase⟩
  rcases s with ⟨fsm, blf, blp, pid, first, ff⟩
  simp only at hp hd; subst hp hd
  obtain ⟨hf, hfirst, hblf, -⟩ := hr
  simp only at hf hfirst hblf; subst hf hfirst
  have : blf = 0 := by omega
  simp [step, hq, this]

/-! ## Non-vacuity: mps = 2, a frame of 5 bytes (DATA2, DATA1, DATA0 of 2+2+1 bytes), then a ZLP -/

def exI (rfr nf rdy sv : Bool) (sp n : Nat) : In := ⟨1, true, rfr, nf, rdy, sv, sp, n⟩

def exHist : List In :=
  [exI true false true true 9 0, exI false false true true 9 0,      -- IN before the first SOF: ZLP
   exI false true false true 9 5,                                    -- SOF, 5 bytes
   exI true false true true 9 0, exI false false true true 11 0, exI false false false true 12 0,
   exI false false true false 12 0,                                  -- packet 1: 11, stall, 0 (no data)
   exI true false true true 9 0, exI false false true true 13 0, exI false false true true 14 0,
   exI true false true true 9 0, exI false false true true 15 0,     -- packet 3: 15
   exI true false true true 9 0, exI false false true true 16 0]     -- nothing left: ZLP

example : (trace ⟨2, 1⟩ (init ⟨2, 1⟩) exHist).map
    (fun io => (io.2.valid, io.2.first, io.2.last, io.2.payload, io.2.pid)) =
    [(false, false, false, 0, 0), (true, false, true, 0, 0), (false, false, false, 0, 0),
     (false, false, false, 0, 2), (true, true, false, 11, 2), (true, false, true, 12, 2),
     (true, false, true, 0, 2),
     (false, false, false, 0, 1), (true, true, false, 13, 1), (true, false, true, 14, 1),
     (false, false, false, 0, 0), (true, true, true, 15, 0),
     (false, false, false, 0, 3), (true, false, true, 0, 3)] := by decide
example : accepts ⟨2, 1⟩ Spec.init (trace ⟨2, 1⟩ (init ⟨2, 1⟩) exHist) = true := by decide
/-- The acceptor is not vacuous: it rejects a trace whose second packet is mislabelled. -/
example : accepts ⟨2, 1⟩ ⟨5, 2, 1, .data 0⟩
    [(exI false false true true 13 0, ⟨true, true, false, 13, 2, true, false, false⟩)] = false := by decide

end LunaVerif.IsoIn
