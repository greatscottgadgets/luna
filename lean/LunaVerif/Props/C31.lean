import LunaVerif.Model.Usb3.Scrambler
/-!
# C31 — SuperSpeed scrambling uses the USB3 LFSR and descrambling inverts it

"The scrambling keystream is the x^16+x^5+x^4+x^3+1 LFSR sequence, one byte per symbol; data
symbols are XORed with it and control symbols pass unchanged. The keystream advances only when a
word is actually transferred (not while held for SKP insertion) and restarts after a COM in a
word's first symbol, so descrambling a scrambled stream from the same starting state returns the
original stream."

The reference LFSR (USB 3.2 Appendix B) is the bit-serial Galois register `XorAlg.serialStep` with
polynomial 0039h fed with zeros; its output bit is the MSB before each advance; a symbol consumes
eight output bits, first bit = bit 0 of the key byte.  The two XOR networks of `ScramblerLFSR` are
compared with it symbolically (`*_table`, kernel evaluation of coefficient tables regenerated from
/repo) and the comparison is lifted to all 2^16 register values by `XorAlg.transfer_*`.
-/
namespace LunaVerif.Scrambler
open LunaVerif.Crc LunaVerif.XorAlg LunaVerif.Generated

/-- x^16 + x^5 + x^4 + x^3 + 1 (top term implicit) -/
def polyL : List Bool := lsbBits 0x0039 16

/-- the key byte of the next symbol: 8 output bits of the serial LFSR -/
def keyByte (r : Reg) : List Bool := keystream polyL 8 r
/-- the register after `n` symbols: `8 n` serial advances -/
def skip (n : Nat) (r : Reg) : Reg := advance polyL (8 * n) r

/-! ## 1. The LFSR networks -/

theorem lfsr_tables_wellFormed :
    wellFormed 16 AffineLfsr.lfsrNext ∧ wellFormed 16 AffineLfsr.lfsrValue ∧
    AffineLfsr.lfsrNext.length = 16 ∧ AffineLfsr.lfsrValue.length = 32 ∧ AffineLfsr.lfsrWidth = 16 ∧
    AffineLfsr.lfsrClearIsInit = 1 := by decide +kernel

/-- the defaults of `ScramblerLFSR` and `Descrambler` are the specification's restart value FFFFh -/
theorem lfsr_default_init_is_spec :
    AffineLfsr.lfsrDefaultInit = 0xFFFF ∧ AffineLfsr.descramblerDefaultInit = 0xFFFF := by decide

theorem lfsr_next_table :
    net symOne (symIn 16) AffineLfsr.lfsrNext = advance polyL 32 (symIn 16) := by decide +kernel

theorem lfsr_value_table :
    net symOne (symIn 16) AffineLfsr.lfsrValue = keystream polyL 32 (symIn 16) := by decide +kernel

/-- **One gateware advance = 32 serial steps**, for every register value. -/
theorem lfsr_next_generated_eq_serial32 (r : Reg) (hr : r.length = 16) :
    lfsrNext r = advance polyL 32 r :=
  transfer_advance _ polyL 32 lfsr_next_table r hr

/-- **The 32-bit `value` = the next 32 keystream bits**, for every register value. -/
theorem lfsr_value_generated_eq_keystream (r : Reg) (hr : r.length = 16) :
    lfsrValue r = keystream polyL 32 r :=
  transfer_keystream _ polyL 32 lfsr_value_table r hr

theorem length_polyL : polyL.length = 16 := by simp [polyL, lsbBits]

/-! ### Any LFSR: `XorAlg.keystream` and `XorAlg.advance` (Core/XorAlg.lean) for every polynomial and every carrier -/

theorem length_keystream {α : Type} [XorAlg α] (poly : List Bool) (k : Nat) (r : List α) :
    (keystream poly k r).length = k := by
  induction k generalizing r with
  | zero => rfl
  | succ k ih => simp [keystream, ih]

theorem advance_add {α : Type} [XorAlg α] (poly : List Bool) (a b : Nat) (r : List α) :
    advance poly (a + b) r = advance poly b (advance poly a r) := by
  rw [advance, advance, advance, ← serial_append, List.replicate_append_replicate]

theorem advance_succ {α : Type} [XorAlg α] (poly : List Bool) (a : Nat) (r : List α) :
    advance poly (a + 1) r = advance poly a (serialStep poly r XorAlg.zero) := by
  simp [advance, List.replicate_succ, XorAlg.serial]

theorem keystream_add {α : Type} [XorAlg α] (poly : List Bool) (a b : Nat) (r : List α) :
    keystream poly (a + b) r = keystream poly a r ++ keystream poly b (advance poly a r) := by
  induction a generalizing r with
  | zero => simp [keystream, advance, XorAlg.serial]
  | succ a ih =>
    have : a + 1 + b = (a + b) + 1 := by omega
    rw [this]
    simp only [keystream, List.cons_append, ih, advance_succ]

theorem keystream_take {α : Type} [XorAlg α] (poly : List Bool) (a b : Nat) (r : List α) :
    (keystream poly (a + b) r).take a = keystream poly a r := by
  rw [keystream_add, List.take_left' (length_keystream ..)]

theorem keystream_window {α : Type} [XorAlg α] (poly : List Bool) (a b c : Nat) (r : List α) :
    ((keystream poly (a + (b + c)) r).drop a).take b = keystream poly b (advance poly a r) := by
  rw [keystream_add, List.drop_left' (length_keystream ..), keystream_take]

/-! ### The scrambler's LFSR: `skip` and the key bytes -/

theorem length_skip (n : Nat) (r : Reg) (hr : r.length = 16) : (skip n r).length = 16 := by
  have := length_serial polyL r (List.replicate (8 * n) XorAlg.zero) (by rw [hr, length_polyL]) (by rw [length_polyL]; decide)
  rw [length_polyL] at this
  exact this

theorem skip_add (a b : Nat) (r : Reg) : skip (a + b) r = skip b (skip a r) := by
  simp only [skip, Nat.mul_add, advance_add]

theorem lfsrNext_eq_skip4 (r : Reg) (hr : r.length = 16) : lfsrNext r = skip 4 r :=
  lfsr_next_generated_eq_serial32 r hr

/-- **The four key bytes of a word are the next four keystream bytes**: byte `i` is the
eight LFSR output bits after `i` symbols. -/
theorem keyBytes_eq_keystream (r : Reg) (hr : r.length = 16) :
    keyBytes r = [keyByte r, keyByte (skip 1 r), keyByte (skip 2 r), keyByte (skip 3 r)] := by
  rw [keyBytes, lfsr_value_generated_eq_keystream r hr]
  show [(keystream polyL (8 + 24) r).take 8, ((keystream polyL (8 + (8 + 16)) r).drop 8).take 8,
    ((keystream polyL (16 + (8 + 8)) r).drop 16).take 8, ((keystream polyL (24 + (8 + 0)) r).drop 24).take 8] = _
  rw [keystream_take, keystream_window, keystream_window, keystream_window]
  rfl

/-! ## 2. What happens to the symbols -/

theorem length_xorBits (d k : List Bool) : (xorBits d k).length = d.length := by
  induction d generalizing k with
  | nil => cases k <;> rfl
  | cons x xs ih => cases k <;> simp [xorBits, ih]

theorem xorBits_xorBits (d k : List Bool) : xorBits (xorBits d k) k = d := by
  induction d generalizing k with
  | nil => cases k <;> rfl
  | cons x xs ih => cases k with
    | nil => rfl
    | cons y ys => simp only [xorBits, ih]; cases x <;> cases y <;> rfl

theorem scrSymbol_k (enable : Bool) (s : Symbol) (key : List Bool) : (scrSymbol enable s key).k = s.k := by
  unfold scrSymbol; split <;> rfl

/-- **Control symbols pass unchanged** (whatever the key, whether or not scrambling is enabled). -/
theorem scrSymbol_ctrl (enable : Bool) (s : Symbol) (key : List Bool) (hk : s.k = true) :
    scrSymbol enable s key = s := by
  simp [scrSymbol, hk]

/-- with `enable` low every symbol passes -/
theorem scrSymbol_disabled (s : Symbol) (key : List Bool) : scrSymbol false s key = s := by
  simp [scrSymbol]

/-- **Data symbols are XORed with their key byte.** -/
theorem scrSymbol_data (s : Symbol) (key : List Bool) (hk : s.k = false) :
    scrSymbol true s key = { k := false, d := xorBits s.d key } := by
  simp [scrSymbol, hk]

theorem scrSymbol_involutive (enable : Bool) (s : Symbol) (key : List Bool) :
    scrSymbol enable (scrSymbol enable s key) key = s := by
  cases enable
  · simp [scrSymbol]
  · cases hk : s.k
    · cases s; simp_all [scrSymbol, xorBits_xorBits]
    · simp [scrSymbol, hk]

theorem length_scrWord (enable : Bool) (ss : List Symbol) (ks : List (List Bool)) :
    (scrWord enable ss ks).length = ss.length := by
  induction ss generalizing ks with
  | nil => cases ks <;> rfl
  | cons x xs ih => cases ks <;> simp [scrWord, ih]

theorem scrWord_getElem? (enable : Bool) (ss : List Symbol) (ks : List (List Bool)) (i : Nat)
    (s : Symbol) (key : List Bool) (hs : ss[i]? = some s) (hkey : ks[i]? = some key) :
    (scrWord enable ss ks)[i]? = some (scrSymbol enable s key) := by
  induction ss generalizing ks i with
  | nil => simp at hs
  | cons x xs ih =>
    cases ks with
    | nil => simp at hkey
    | cons y ys =>
      cases i with
      | zero => simp at hs hkey; simp [scrWord, hs, hkey]
      | succ i => simp at hs hkey; simpa [scrWord] using ih ys i hs hkey

/-- `source.ctrl = sink.ctrl` -/
theorem scrWord_ctrl (enable : Bool) (ss : List Symbol) (ks : List (List Bool)) :
    (scrWord enable ss ks).map (·.k) = ss.map (·.k) := by
  induction ss generalizing ks with
  | nil => cases ks <;> rfl
  | cons x xs ih => cases ks <;> simp [scrWord, ih, scrSymbol_k]

theorem scrWord_involutive (enable : Bool) (ss : List Symbol) (ks : List (List Bool)) :
    scrWord enable (scrWord enable ss ks) ks = ss := by
  induction ss generalizing ks with
  | nil => cases ks <;> rfl
  | cons x xs ih => cases ks <;> simp [scrWord, ih, scrSymbol_involutive]

theorem keyBytes_getElem? (r : Reg) (hr : r.length = 16) (i : Nat) (hi : i < 4) :
    (keyBytes r)[i]? = some (keyByte (skip i r)) := by
  rw [keyBytes_eq_keystream r hr]
  have h0 : skip 0 r = r := by simp [skip, advance, XorAlg.serial]
  match i, hi with
  | 0, _ => simp [h0]
  | 1, _ => simp
  | 2, _ => simp
  | 3, _ => simp

/-- **C31, the output of one cycle**: in a word of four symbols, for every register value, a data
symbol in position `i` leaves XORed with the keystream byte `i` symbols ahead of the register
(when scrambling is enabled), and a control symbol leaves unchanged; `valid`, `ctrl` and `ready`
pass through. -/
theorem step_output (iv : Nat) (r : Reg) (hr : r.length = 16) (i : In) (n : Nat) (hn : n < 4)
    (s : Symbol) (hs : i.syms[n]? = some s) :
    (step iv r i).2.syms[n]? =
      some (if i.enable && !s.k then { s with d := xorBits s.d (keyByte (skip n r)) } else s)
    ∧ (step iv r i).2.valid = i.valid ∧ (step iv r i).2.sinkReady = i.ready
    ∧ (step iv r i).2.syms.map (·.k) = i.syms.map (·.k) := by
  refine ⟨?_, rfl, rfl, scrWord_ctrl _ _ _⟩
  simp only [step]
  rw [scrWord_getElem? i.enable i.syms (keyBytes r) n s _ hs (keyBytes_getElem? r hr n hn)]
  rfl

/-- **Control symbols pass through** (stated on the module's output). -/
theorem ctrl_symbols_pass (iv : Nat) (r : Reg) (hr : r.length = 16) (i : In) (n : Nat) (hn : n < 4)
    (s : Symbol) (hs : i.syms[n]? = some s) (hk : s.k = true) :
    (step iv r i).2.syms[n]? = some s := by
  rw [(step_output iv r hr i n hn s hs).1]; simp [hk]

/-! ## 3. When the LFSR moves -/

theorem length_initReg (iv : Nat) : (initReg iv).length = 16 := by simp [initReg, lsbBits]

theorem length_lfsrNext (r : Reg) : (lfsrNext r).length = 16 := by
  simp [lfsrNext, net, lfsr_tables_wellFormed.2.2.1]

theorem length_step (iv : Nat) (r : Reg) (hr : r.length = 16) (i : In) : (step iv r i).1.length = 16 := by
  simp only [step, lfsrStep]
  split
  · exact length_initReg iv
  · split
    · exact length_lfsrNext r
    · exact hr

/-- **The LFSR advances only on a transfer, by exactly four symbols**; a held word (SKP insertion),
a stalled word (`ready` low) or an idle cycle (`valid` low) leaves it where it is — unless the
register is restarted. -/
theorem advance_only_on_transfer (iv : Nat) (r : Reg) (hr : r.length = 16) (i : In)
    (hc : lfsrClear i = false) :
    (step iv r i).1 = if i.valid && i.ready && !i.hold then skip 4 r else r := by
  simp only [step, lfsrStep, hc, lfsrAdvance, lfsrNext_eq_skip4 r hr]
  rfl

/-- **Restart**: a valid word whose first symbol is COM puts the register back to its initial
value, whatever `hold` / `ready` are (the `clear` strobe does the same: `restart_on_clear`). -/
theorem restart_after_com (iv : Nat) (r : Reg) (i : In) (s : Symbol) (rest : List Symbol)
    (hv : i.valid = true) (hs : i.syms = s :: rest) (hcom : isCom s = true) :
    (step iv r i).1 = initReg iv := by
  simp [step, lfsrStep, lfsrClear, commaPresent, hv, hs, hcom]

theorem restart_on_clear (iv : Nat) (r : Reg) (i : In) (hc : i.clear = true) :
    (step iv r i).1 = initReg iv := by
  simp [step, lfsrStep, lfsrClear, hc]

def transfers (h : List In) : Nat := (h.filter lfsrAdvance).length

def regAfter (iv : Nat) (r : Reg) (h : List In) : Reg := h.foldl (fun r i => (step iv r i).1) r

/-- **The keystream position is the number of symbols transferred since the restart**: over any
history without restart, with arbitrary hold / stall / idle cycles interleaved, the register is
`4 × transfers` symbols ahead — so the `n`-th transferred word is scrambled with keystream bytes
`4n … 4n+3` of the serial LFSR started at the restart value (`step_output`). -/
theorem lfsr_position (iv : Nat) (r : Reg) (hr : r.length = 16) (h : List In)
    (hc : ∀ i ∈ h, lfsrClear i = false) :
    regAfter iv r h = skip (4 * transfers h) r := by
  induction h generalizing r with
  | nil => simp [regAfter, transfers, skip, advance, XorAlg.serial]
  | cons i is ih =>
    have hci : lfsrClear i = false := hc i (by simp)
    have hcs : ∀ j ∈ is, lfsrClear j = false := fun j hj => hc j (by simp [hj])
    simp only [regAfter, List.foldl_cons]
    have := ih (step iv r i).1 (length_step iv r hr i) hcs
    simp only [regAfter] at this
    rw [this, advance_only_on_transfer iv r hr i hci]
    have hA : (i.valid && i.ready && !i.hold) = lfsrAdvance i := rfl
    rw [hA]
    cases ha : lfsrAdvance i
    · have ht : transfers (i :: is) = transfers is := by simp [transfers, ha]
      rw [ht]; rfl
    · have ht : transfers (i :: is) = 1 + transfers is := by
        simp [transfers, ha, Nat.add_comm]
      rw [ht, Nat.mul_add, skip_add]; rfl

/-! ## 4. Descrambling inverts scrambling -/

theorem isCom_scrSymbol (enable : Bool) (s : Symbol) (key : List Bool) :
    isCom (scrSymbol enable s key) = isCom s := by
  cases hk : s.k
  · simp [isCom, scrSymbol_k, hk]
  · rw [scrSymbol_ctrl enable s key hk]

theorem commaPresent_scr (i : In) (ks : List (List Bool)) :
    commaPresent { i with syms := scrWord i.enable i.syms ks } = commaPresent i := by
  unfold commaPresent
  cases hs : i.syms with
  | nil => cases ks <;> simp [scrWord]
  | cons s rest => cases ks with
    | nil => simp [scrWord]
    | cons k ks => simp [scrWord, isCom_scrSymbol]

theorem pair_step (iv : Nat) (r : Reg) (i : In) :
    let res := pairStep iv iv (r, r) i
    res.2.2.syms = i.syms ∧ res.2.2.valid = i.valid ∧ res.1.1 = res.1.2 := by
  simp only [pairStep, step]
  refine ⟨scrWord_involutive _ _ _, trivial, ?_⟩
  have hc : lfsrClear { i with valid := i.valid, syms := scrWord i.enable i.syms (keyBytes r) } = lfsrClear i := by
    simp only [lfsrClear]
    rw [commaPresent_scr i (keyBytes r)]
  simp only [hc, lfsrAdvance]

/-- outputs of the descrambler over a whole history of the pair -/
def pairRun (iv : Nat) : Reg × Reg → List In → List Out
  | _, [] => []
  | rs, i :: is => (pairStep iv iv rs i).2.2 :: pairRun iv (pairStep iv iv rs i).1 is

/-- **Descrambling a scrambled stream from the same starting state returns the original stream**:
for every starting register value, every mix of data and control symbols, COM in any position,
every hold / stall / idle / enable / clear pattern (common to both sides), every history length. -/
theorem descramble_scramble_id (iv : Nat) (r : Reg) (h : List In) :
    (pairRun iv (r, r) h).map (fun o => (o.valid, o.syms)) = h.map (fun i => (i.valid, i.syms)) := by
  induction h generalizing r with
  | nil => rfl
  | cons i is ih =>
    have hp := pair_step iv r i
    simp only at hp
    simp only [pairRun, List.map_cons, hp.1, hp.2.1]
    congr 1
    have : (pairStep iv iv (r, r) i).1 = ((pairStep iv iv (r, r) i).1.1, (pairStep iv iv (r, r) i).1.1) := by
      rw [Prod.ext_iff]; exact ⟨rfl, hp.2.2.symm⟩
    rw [this]
    exact ih _

/-! ## Non-vacuity and the specification's table -/

/-- USB 3.2 Appendix B: the first sixteen scrambler output bytes after a restart at FFFFh are
FF 17 C0 14 B2 E7 02 82 72 6E 28 A6 BE 6D BF 8D. -/
example : (List.range 16).map (fun n => ofLsbBits (keyByte (skip n (initReg 0xFFFF))))
    = [0xFF, 0x17, 0xC0, 0x14, 0xB2, 0xE7, 0x02, 0x82, 0x72, 0x6E, 0x28, 0xA6, 0xBE, 0x6D, 0xBF, 0x8D] := by
  decide +kernel

/-- the gateware's `value` at reset and after one advance (tests/test_usb3_scrambling.py) -/
example : ofLsbBits (lfsrValue (initReg 0xFFFF)) = 0x14C017FF
    ∧ ofLsbBits (lfsrValue (lfsrNext (initReg 0xFFFF))) = 0x8202E7B2 := by decide +kernel

/-- a word COM D5A D00 K(SKP): COM restarts, the data symbols are scrambled, K symbols pass -/
example :
    let w : List Symbol := [⟨true, lsbBits 0xBC 8⟩, ⟨false, lsbBits 0x5A 8⟩, ⟨false, lsbBits 0x00 8⟩, ⟨true, lsbBits 0x3C 8⟩]
    let res := step 0xFFFF (lfsrNext (initReg 0xFFFF)) ⟨false, true, false, true, w, true⟩
    res.1 = initReg 0xFFFF ∧
    res.2.syms.map (fun s => (s.k, ofLsbBits s.d)) = [(true, 0xBC), (false, 0x5A ^^^ 0xE7), (false, 0x02), (true, 0x3C)] := by
  decide +kernel

end LunaVerif.Scrambler
