import LunaVerif.Props.C56StreamChain
import LunaVerif.Model.Periph.IlaCdc
/-!
# C56 — read-out of the captured samples through `StreamILA` into another clock domain

"The ILA captures exactly the samples following a trigger" — for the stream wrapper with `o_domain != domain`: the words
transferred on the output stream *in the output clock domain* are exactly the `depth` consecutive (delayed) samples that
followed the trigger, in order, each once, framed by `first` / `last` — for every interleaving of the clock edges of the two
domains (any frequency ratio and phase, even varying), every `ready` pattern of the consumer, and every behaviour of the
FIFO that respects the contract of an in-order queue (`w_rdy` / `r_rdy` arbitrary, `r_rdy` only when a word is there:
`Legal`): no assumption on its depth or on the delay through its synchronizers.

`cdc_readout_counted` replaces the assumptions "wrapper idle and FIFO empty at the end" of `cdc_readout_complete` by the
observable "the consumer has received `depth` words"; `cdc_readout_fair` by "`w_rdy` was high often enough".  `cdc_capture_chain*`
are the chain theorems of `Props/C56StreamChain.lean` on the output-domain stream behind the FIFO; `cdc_output_prefix`: at EVERY
moment of a legal two-clock history the words received so far are a prefix of (FIFO contents at the start ++) the words the
read-out FSM transfers over the whole history (`Legal` alone); `cdc_chain_output_prefix`: for a chain of captures from an idle
wrapper those are the frames of the captures in order; `cdc_history_frames`: the frames for any legal history from an idle wrapper.

What is not proved: that Amaranth's `AsyncFIFOBuffered` implements that contract for all histories (library code; the
check validates it on every simulated two-clock trace of the real gateware), and liveness (that `w_rdy` / `r_rdy` eventually
rise).
-/
namespace LunaVerif.IlaCdc
open LunaVerif.Ila

/-- the capture-domain cycles of a history, as the read-out FSM's input history (`ready` = the `w_rdy` oracle) -/
def wHist : List Ev → List IlaStream.In
  | [] => []
  | .w t x rdy :: es => ⟨t, x, rdy⟩ :: wHist es
  | .r _ _ :: es => wHist es

/-- the FIFO oracle respects the contract of a queue: `r_rdy` only when the queue is non-empty -/
def Legal (c : Config) : State → List Ev → Prop
  | _, [] => True
  | s, e :: es => (step c s e).2.ok = true ∧ Legal c (step c s e).1 es

instance (c : Config) : ∀ s es, Decidable (Legal c s es)
  | _, [] => isTrue trivial
  | s, e :: es =>
    have := instDecidableLegal c (step c s e).1 es
    inferInstanceAs (Decidable ((step c s e).2.ok = true ∧ Legal c (step c s e).1 es))

/-- the words transferred on the output stream: cycles of the output domain with `valid` (= `r_rdy`) and `ready` -/
def outWords (c : Config) : State → List Ev → List Word
  | _, [] => []
  | s, .w t x rdy :: es => outWords c (step c s (.w t x rdy)).1 es
  | s, .r en rdy :: es =>
    (if en && rdy then [((step c s (.r en rdy)).2.payload, (step c s (.r en rdy)).2.first, (step c s (.r en rdy)).2.last)]
     else []) ++ outWords c (step c s (.r en rdy)).1 es

/-- **queue_conservation**: over any legal history, the words that came out of the output stream followed by the words
still in the FIFO are the words that were in the FIFO at the start followed by the words the read-out FSM transferred
into it — nothing lost, duplicated or reordered; and the read-out FSM runs on the capture-domain cycles alone. -/
theorem queue_conservation (c : Config) (es : List Ev) : ∀ s, Legal c s es →
    outWords c s es ++ (runState c s es).q = s.q ++ IlaStream.transfers c s.ila (wHist es) ∧
    (runState c s es).ila = IlaStream.runState c s.ila (wHist es) := by
  induction es with
  | nil => intro s _; simp [outWords, runState, wHist, IlaStream.transfers, IlaStream.runState]
  | cons e es ih =>
    intro s hL
    obtain ⟨h0, hL⟩ := hL
    obtain ⟨i1, i2⟩ := ih _ hL
    cases e with
    | w t x rdy =>
      simp only [outWords, runState, wHist, IlaStream.transfers, IlaStream.runState]
      rw [i1, i2]
      simp [step, IlaStream.xferOf]
    | r en rdy =>
      obtain ⟨ila, q⟩ := s
      simp only [outWords, runState, wHist]
      rw [List.append_assoc, i1, i2]
      cases q with
      | nil =>
        have hr : rdy = false := by simpa [step] using h0
        simp [step, hr]
      | cons h t =>
        cases hc : (en && rdy) <;> simp [step, hc]

/-- **cdc_readout_in_order**: a legal two-clock history `es` whose capture-domain cycles are: a trigger seen while the
wrapper is idle (`x0`), the `depth` capture cycles `xs`, the hand-over cycle `xl`, then any continuation `ys` that starts
no new capture — interleaved in any way with any number of output-domain cycles.  Then the words transferred on the output
stream, followed by the words still in the FIFO at the end, are the words in the FIFO at the start followed by the first
`k` of the `depth` captured samples, framed (`first` on sample 0, `last` on sample `depth - 1`), with `k ≥ depth` if the
wrapper is idle again at the end. -/
theorem cdc_readout_in_order (c : Config) (hd : 1 ≤ c.depth) (σ : State) (hσ : IlaStream.WIdle c σ.ila) (es : List Ev)
    (x0 : IlaStream.In) (xs : List IlaStream.In) (xl : IlaStream.In) (ys : List IlaStream.In)
    (hw : wHist es = x0 :: xs ++ xl :: ys) (ht : x0.trigger = true) (hl : xs.length = c.depth)
    (hq : IlaStream.noRetrigger c (IlaStream.runState c σ.ila (x0 :: xs ++ [xl])) ys) (hL : Legal c σ es) :
    ∃ k, outWords c σ es ++ (runState c σ es).q =
        σ.q ++ (IlaStream.frame (((σ.ila.core.dl ++ IlaStream.inputsOfW (x0 :: xs)).drop 1).take c.depth)).take k ∧
      ((runState c σ es).ila.fsm = .idle → c.depth ≤ k) := by
  obtain ⟨h1, h2⟩ := queue_conservation c es σ hL
  obtain ⟨k, hk1, hk2⟩ := IlaStream.stream_readout_any c hd σ.ila hσ x0 ht xs hl xl ys hq
  rw [hw] at h1 h2
  exact ⟨k, by rw [h1, hk1], fun h => hk2 (by rw [← h2]; exact h)⟩

/-- **cdc_readout_complete**: if moreover the FIFO is empty at the start and at the end and the wrapper is idle again at
the end, the output stream carried exactly the `depth` captured samples, in order, each once, framed. -/
theorem cdc_readout_complete (c : Config) (hd : 1 ≤ c.depth) (σ : State) (hσ : IlaStream.WIdle c σ.ila) (es : List Ev)
    (x0 : IlaStream.In) (xs : List IlaStream.In) (xl : IlaStream.In) (ys : List IlaStream.In)
    (hw : wHist es = x0 :: xs ++ xl :: ys) (ht : x0.trigger = true) (hl : xs.length = c.depth)
    (hq : IlaStream.noRetrigger c (IlaStream.runState c σ.ila (x0 :: xs ++ [xl])) ys) (hL : Legal c σ es)
    (hq0 : σ.q = []) (hq1 : (runState c σ es).q = []) (hi : (runState c σ es).ila.fsm = .idle) :
    outWords c σ es = IlaStream.frame (((σ.ila.core.dl ++ IlaStream.inputsOfW (x0 :: xs)).drop 1).take c.depth) := by
  obtain ⟨k, h1, h2⟩ := cdc_readout_in_order c hd σ hσ es x0 xs xl ys hw ht hl hq hL
  rw [hq0, hq1, List.append_nil, List.nil_append] at h1
  rw [h1, IlaStream.frame_take c σ.ila x0 xs hl k (h2 hi)]

/-- **cdc_readout_counted**: `cdc_readout_complete` with the assumptions on the end of the history replaced by an observable
one: as soon as the consumer has received `depth` words on the output-domain stream (FIFO empty at the start, any legal
two-clock history, no new capture started), those words are exactly the `depth` captured samples, framed, in order, each
once, and the FIFO is empty again — the FIFO cannot hold back, duplicate or invent a word. -/
theorem cdc_readout_counted (c : Config) (hd : 1 ≤ c.depth) (σ : State) (hσ : IlaStream.WIdle c σ.ila) (es : List Ev)
    (x0 : IlaStream.In) (xs : List IlaStream.In) (xl : IlaStream.In) (ys : List IlaStream.In)
    (hw : wHist es = x0 :: xs ++ xl :: ys) (ht : x0.trigger = true) (hl : xs.length = c.depth)
    (hq : IlaStream.noRetrigger c (IlaStream.runState c σ.ila (x0 :: xs ++ [xl])) ys) (hL : Legal c σ es)
    (hq0 : σ.q = []) (hcnt : c.depth ≤ (outWords c σ es).length) :
    outWords c σ es = IlaStream.frame (((σ.ila.core.dl ++ IlaStream.inputsOfW (x0 :: xs)).drop 1).take c.depth) ∧
    (runState c σ es).q = [] := by
  obtain ⟨k, h1, _⟩ := cdc_readout_in_order c hd σ hσ es x0 xs xl ys hw ht hl hq hL
  rw [hq0, List.nil_append] at h1
  have hlen : (IlaStream.frame (((σ.ila.core.dl ++ IlaStream.inputsOfW (x0 :: xs)).drop 1).take c.depth)).length
      = c.depth := by
    rw [IlaStream.frame, IlaStream.frameFrom_length, IlaStream.samples_length c σ.ila x0 xs hl]
  have hL2 := congrArg List.length h1
  simp only [List.length_append, List.length_take, hlen] at hL2
  have hqe : (runState c σ es).q = [] := List.eq_nil_of_length_eq_zero (by omega)
  refine ⟨?_, hqe⟩
  rw [hqe, List.length_nil] at hL2
  rw [hqe, List.append_nil] at h1
  rw [h1, IlaStream.frame_take c σ.ila x0 xs hl k (by omega)]

/-- **cdc_readout_fair**: a hypothesis on the FIFO oracle instead: FIFO empty at the start and `w_rdy` high in at least
`2·depth - data_valid` capture-domain cycles after the hand-over cycle (no new capture started); then the read-out FSM is idle again
and has handed all `depth` words to the FIFO: what came out followed by what is still queued is the whole frame. -/
theorem cdc_readout_fair (c : Config) (hd : 1 ≤ c.depth) (σ : State) (hσ : IlaStream.WIdle c σ.ila) (es : List Ev)
    (x0 : IlaStream.In) (xs : List IlaStream.In) (xl : IlaStream.In) (ys : List IlaStream.In)
    (hw : wHist es = x0 :: xs ++ xl :: ys) (ht : x0.trigger = true) (hl : xs.length = c.depth)
    (hq : IlaStream.noRetrigger c (IlaStream.runState c σ.ila (x0 :: xs ++ [xl])) ys) (hL : Legal c σ es)
    (hq0 : σ.q = []) (hn : 2 * c.depth - σ.ila.dv.toNat ≤ IlaStream.readyCount ys) :
    outWords c σ es ++ (runState c σ es).q =
      IlaStream.frame (((σ.ila.core.dl ++ IlaStream.inputsOfW (x0 :: xs)).drop 1).take c.depth) ∧
    (runState c σ es).ila.fsm = .idle := by
  obtain ⟨h1, h2⟩ := queue_conservation c es σ hL
  obtain ⟨t1, t2⟩ := IlaStream.stream_readout_total c hd σ.ila hσ x0 ht xs hl xl ys hq hn
  rw [hw] at h1 h2
  rw [h1, hq0, List.nil_append, h2]
  exact ⟨t1, t2⟩

theorem wHist_append (a b : List Ev) : wHist (a ++ b) = wHist a ++ wHist b := by
  induction a with
  | nil => rfl
  | cons e a ih => cases e <;> simp [wHist, ih]

theorem runState_append (c : Config) (a b : List Ev) : ∀ s,
    runState c s (a ++ b) = runState c (runState c s a) b := by
  induction a with
  | nil => intro s; rfl
  | cons x a ih => intro s; simp [runState, ih]

theorem legal_prefix (c : Config) (a b : List Ev) : ∀ s, Legal c s (a ++ b) → Legal c s a := by
  induction a with
  | nil => intro s _; trivial
  | cons e a ih => intro s h; exact ⟨h.1, ih _ h.2⟩

/-- **cdc_capture_chain**: StreamILA with `o_domain != domain`, any legal two-clock history `es` whose capture-domain cycles
form a chain of captures cut at the accepted triggers (`ChainOK`), interleaved in any way with any number of output-domain
cycles: the words transferred on the output-domain stream, followed by the words still in the FIFO at the end, are the words in
the FIFO at the start followed by the framed buffer of capture 1, then that of capture 2, ... — each capture's samples in
order, each once. -/
theorem cdc_capture_chain (c : Config) (hd : 1 ≤ c.depth) (σ : State) (hσ : IlaStream.WIdle c σ.ila) (es : List Ev)
    (bs : List IlaStream.Capture) (hw : wHist es = bs.flatMap IlaStream.Capture.hist)
    (hok : IlaStream.ChainOK c σ.ila bs) (hL : Legal c σ es) :
    outWords c σ es ++ (runState c σ es).q = σ.q ++ IlaStream.capturedFrames c σ.ila bs ∧
    IlaStream.WIdle c (runState c σ es).ila := by
  obtain ⟨h1, h2⟩ := queue_conservation c es σ hL
  obtain ⟨a1, a2⟩ := IlaStream.stream_capture_chain c hd bs σ.ila hσ hok
  rw [hw] at h1 h2
  exact ⟨by rw [h1, a1], by rw [h2]; exact a2⟩

/-- **cdc_capture_chain_complete**: FIFO empty at the start and at the end: the output-domain stream carried exactly the framed
buffers of all captures, in order, each once. -/
theorem cdc_capture_chain_complete (c : Config) (hd : 1 ≤ c.depth) (σ : State) (hσ : IlaStream.WIdle c σ.ila) (es : List Ev)
    (bs : List IlaStream.Capture) (hw : wHist es = bs.flatMap IlaStream.Capture.hist)
    (hok : IlaStream.ChainOK c σ.ila bs) (hL : Legal c σ es) (hq0 : σ.q = []) (hq1 : (runState c σ es).q = []) :
    outWords c σ es = IlaStream.capturedFrames c σ.ila bs := by
  have h := (cdc_capture_chain c hd σ hσ es bs hw hok hL).1
  rwa [hq0, hq1, List.append_nil, List.nil_append] at h

/-- **cdc_capture_chain_open**: the last capture `b` possibly still being read out (or still queued in the FIFO) at the end. -/
theorem cdc_capture_chain_open (c : Config) (hd : 1 ≤ c.depth) (σ : State) (hσ : IlaStream.WIdle c σ.ila) (es : List Ev)
    (bs : List IlaStream.Capture) (b : IlaStream.Capture)
    (hw : wHist es = (bs ++ [b]).flatMap IlaStream.Capture.hist)
    (hok : IlaStream.ChainOK c σ.ila bs) (ht : b.x0.trigger = true) (hl : b.xs.length = c.depth)
    (hq : IlaStream.noRetrigger c (IlaStream.runState c (IlaStream.runState c σ.ila (bs.flatMap IlaStream.Capture.hist))
      (b.x0 :: b.xs ++ [b.xl])) b.ys) (hL : Legal c σ es) :
    ∃ k, outWords c σ es ++ (runState c σ es).q = σ.q ++ (IlaStream.capturedFrames c σ.ila bs ++
        (IlaStream.frame (IlaStream.capSamples c (IlaStream.runState c σ.ila (bs.flatMap IlaStream.Capture.hist)) b)).take k) ∧
      ((runState c σ es).ila.fsm = .idle → c.depth ≤ k) := by
  obtain ⟨h1, h2⟩ := queue_conservation c es σ hL
  obtain ⟨k, a1, a2⟩ := IlaStream.stream_capture_chain_open c hd bs b σ.ila hσ hok ht hl hq
  rw [hw] at h1 h2
  exact ⟨k, by rw [h1, a1], fun h => a2 (by rw [← h2]; exact h)⟩

theorem transfers_prefix (c : Config) (a b : List IlaStream.In) (s : IlaStream.State) :
    IlaStream.transfers c s a <+: IlaStream.transfers c s (a ++ b) := by
  rw [IlaStream.transfers_append]; exact List.prefix_append _ _

/-- **cdc_output_prefix**: at EVERY moment of a legal two-clock history (every prefix `es1` of it) the words the consumer has
received so far are a prefix of: the FIFO contents at the start followed by the words the read-out FSM transfers over the
whole history.  (`cdc_chain_output_prefix` below: for a chain of captures, a prefix of the frames of capture 1, capture 2, ... in
order — nothing delivered out of order, twice, or from an older capture after a newer one.) -/
theorem cdc_output_prefix (c : Config) (σ : State) (es1 es2 : List Ev) (hL : Legal c σ (es1 ++ es2)) :
    outWords c σ es1 <+: σ.q ++ IlaStream.transfers c σ.ila (wHist (es1 ++ es2)) := by
  obtain ⟨h1, _⟩ := queue_conservation c es1 σ (legal_prefix c es1 es2 σ hL)
  rw [wHist_append, IlaStream.transfers_append, ← List.append_assoc, ← h1, List.append_assoc]
  exact List.prefix_append _ _

/-- `cdc_output_prefix` when the capture-domain cycles are a chain of captures from an idle wrapper: the words received so far
are a prefix of the FIFO contents at the start followed by the frames of the captures in order. -/
theorem cdc_chain_output_prefix (c : Config) (hd : 1 ≤ c.depth) (σ : State) (hσ : IlaStream.WIdle c σ.ila)
    (es1 es2 : List Ev) (bs : List IlaStream.Capture) (hw : wHist (es1 ++ es2) = bs.flatMap IlaStream.Capture.hist)
    (hok : IlaStream.ChainOK c σ.ila bs) (hL : Legal c σ (es1 ++ es2)) :
    outWords c σ es1 <+: σ.q ++ IlaStream.capturedFrames c σ.ila bs := by
  have h := cdc_output_prefix c σ es1 es2 hL
  rw [hw, (IlaStream.stream_capture_chain c hd bs σ.ila hσ hok).1] at h
  exact h

/-- **cdc_history_frames**: StreamILA with `o_domain != domain`, ANY legal two-clock history from an idle wrapper: with the
capture-domain cycles decomposed as in `stream_history_decomposes`, the words received on the output-domain stream followed by the
words still in the FIFO are the FIFO contents at the start followed by the complete frames of the captures of the chain, in
order, and a prefix of the frame of the capture whose read-out is in progress at the end. -/
theorem cdc_history_frames (c : Config) (hd : 1 ≤ c.depth) (σ : State) (hσ : IlaStream.WIdle c σ.ila) (es : List Ev)
    (hL : Legal c σ es) :
    ∃ pre bs tail, wHist es = pre ++ bs.flatMap IlaStream.Capture.hist ++ tail ∧ (∀ x ∈ pre, x.trigger = false) ∧
      IlaStream.ChainOK c (IlaStream.runState c σ.ila pre) bs ∧
      ((tail = [] ∨ (∃ x0 rest, tail = x0 :: rest ∧ x0.trigger = true ∧ rest.length ≤ c.depth)) ∧
          outWords c σ es ++ (runState c σ es).q =
            σ.q ++ IlaStream.capturedFrames c (IlaStream.runState c σ.ila pre) bs ∨
       ∃ (b : IlaStream.Capture) (k : Nat), tail = b.hist ∧ b.x0.trigger = true ∧ b.xs.length = c.depth ∧
          outWords c σ es ++ (runState c σ es).q =
            σ.q ++ (IlaStream.capturedFrames c (IlaStream.runState c σ.ila pre) bs ++
              (IlaStream.frame (IlaStream.capSamples c
                (IlaStream.runState c σ.ila (pre ++ bs.flatMap IlaStream.Capture.hist)) b)).take k) ∧
          ((runState c σ es).ila.fsm = .idle → c.depth ≤ k)) := by
  obtain ⟨h1, h2⟩ := queue_conservation c es σ hL
  obtain ⟨pre, bs, tail, e, hp, hok, hcase⟩ := IlaStream.stream_history_frames c hd (wHist es) σ.ila hσ
  refine ⟨pre, bs, tail, e, hp, hok, ?_⟩
  rcases hcase with ⟨ht, hx⟩ | ⟨b, k, eb, ht, hl, hx, hi⟩
  · exact Or.inl ⟨ht, by rw [h1, hx]⟩
  · exact Or.inr ⟨b, k, eb, ht, hl, by rw [h1, hx], fun h => hi (by rw [← h2]; exact h)⟩

/-! ## Non-vacuity: depth 2, pre-trigger 1; output-domain cycles interleaved irregularly, `w_rdy` low for a while
(FIFO "full"), `r_rdy` rising late; at the end the wrapper is idle and the FIFO empty -/
def exEvents : List Ev :=
  [.w true 10 true, .r true false, .w false 11 true, .w false 12 true, .r true false, .w false 13 false, .w true 14 true,
   .r false true, .w false 15 false, .w false 15 true, .r true true, .w false 15 true, .r true false, .r true true, .r true false]

example : wHist exEvents = ⟨true, 10, true⟩ :: [⟨false, 11, true⟩, ⟨false, 12, true⟩] ++ ⟨false, 13, false⟩ ::
    [⟨true, 14, true⟩, ⟨false, 15, false⟩, ⟨false, 15, true⟩, ⟨false, 15, true⟩] := rfl
example : Legal ⟨2, 1⟩ (init ⟨2, 1⟩) exEvents := by decide
example : IlaStream.noRetrigger ⟨2, 1⟩ (IlaStream.runState ⟨2, 1⟩ (init ⟨2, 1⟩).ila
      (⟨true, 10, true⟩ :: [⟨false, 11, true⟩, ⟨false, 12, true⟩] ++ [⟨false, 13, false⟩]))
    [⟨true, 14, true⟩, ⟨false, 15, false⟩, ⟨false, 15, true⟩, ⟨false, 15, true⟩] := by decide
example : outWords ⟨2, 1⟩ (init ⟨2, 1⟩) exEvents = [(10, true, false), (11, false, true)] ∧
    (runState ⟨2, 1⟩ (init ⟨2, 1⟩) exEvents).q = [] ∧ (runState ⟨2, 1⟩ (init ⟨2, 1⟩) exEvents).ila.fsm = .idle := by decide
/-- an oracle that claims `r_rdy` on an empty queue is not legal -/
example : ¬ Legal ⟨2, 1⟩ (init ⟨2, 1⟩) [.r true true] := by decide

/-! Non-vacuity (the history `exEvents`): the consumer receives `depth = 2` words; `w_rdy` is high in 3 =
2·2 - 1 capture-domain cycles after the hand-over cycle -/
example : 2 ≤ (outWords ⟨2, 1⟩ (init ⟨2, 1⟩) exEvents).length := by decide
example : 2 * 2 - (init ⟨2, 1⟩).ila.dv.toNat ≤ IlaStream.readyCount
    [⟨true, 14, true⟩, ⟨false, 15, false⟩, ⟨false, 15, true⟩, ⟨false, 15, true⟩] := by decide

/-! ## Non-vacuity: the two captures `exC1`, `exC2` of `Props/C56StreamChain.lean` as the capture-domain cycles of a two-clock history (`w_rdy` = the
ready column), output-domain cycles interleaved irregularly; at the end the FIFO is empty -/
def exChainEvents : List Ev :=
  [.w true 10 true, .r true false, .w true 11 true, .w false 12 false, .w false 13 true, .r true false, .w false 14 true,
   .w true 15 false, .r true true, .w true 16 true, .w true 17 true, .r false true, .w false 18 true, .w true 20 true, .w false 21 true,
   .r true true, .w false 22 true, .w false 23 true, .w false 24 true, .r true false, .w false 25 true, .w false 26 false,
   .w false 27 true, .r true true, .w false 28 true, .w false 29 true, .r true true, .r true false]

example : wHist exChainEvents = [IlaStream.exC1, IlaStream.exC2].flatMap IlaStream.Capture.hist := rfl
example : Legal ⟨2, 1⟩ (init ⟨2, 1⟩) exChainEvents := by decide
example : outWords ⟨2, 1⟩ (init ⟨2, 1⟩) exChainEvents =
    [(10, true, false), (11, false, true), (20, true, false), (21, false, true)] ∧
    (runState ⟨2, 1⟩ (init ⟨2, 1⟩) exChainEvents).q = [] := by decide

end LunaVerif.IlaCdc
