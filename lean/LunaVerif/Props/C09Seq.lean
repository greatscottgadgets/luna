import LunaVerif.Props.C09Mux
/-!
# C09 — return to idle between requests, and sequences of requests

Every per-request theorem of `Props/C09.lean` / `Props/C09Mux.lean` starts from an arbitrary idle
(quiescent) state.  Here: when the response is over within the request's window of cycles
(`Complete`: the window is longer than the handler's latency and — for a data packet — every byte has
been accepted by `tx.ready`), the handler is idle (quiescent) again at the end of the window; hence
(`*_requests_exact`) **any sequence** of such requests is answered request by request with the
specified responses (`AnswersAll`), from the first idle state on.

The distributed handler needs one more cycle (its generator passes through DONE): its window must
contain a further cycle after the response is over (`Complete … rs.dropLast`).
-/
namespace LunaVerif.Desc

/-- **block_returns_idle**: under the hypotheses of `block_packet_exact`, if the response is over
within the window `rs`, the block handler model is in IDLE at the end of `rs`. -/
theorem block_returns_idle (coll : Collection) (mps : Nat) (s0 : Block.State)
    (ty idx l p : Nat) (rs : List Bool)
    (hwf : wellFormed coll = true)
    (hm : mps = 8 ∨ mps = 16 ∨ mps = 32 ∨ mps = 64)
    (hpw : 2 ≤ (Rom.layout coll).maxLen)
    (hty : ty < 256) (hidx : idx < 256) (hl : l < 65536)
    (h0 : s0.fsm = .idle)
    (hp : ∀ d, descrBytes coll ty idx = some d → p ≤ min l d.length)
    (hc : Complete 4 (specResponse (descrBytes coll ty idx) l mps p) rs) :
    (Block.final (blockOf coll mps) s0 (Block.reqInputs (ty * 256 + idx) l p rs)).fsm = .idle := by
  obtain ⟨lat, _, hlat, htr⟩ :=
    block_packet_exact coll mps s0 ty idx l p (rs ++ [false]) hwf hm hpw hty hidx hl h0 hp
  exact Block.final_idle_of_trace _ s0 _ l p lat _ rs h0 (by have := hc.1; omega) (hc.mono 4 lat _ _ hlat) htr

theorem window_split (rs : List Bool) (h : 3 ≤ rs.length) :
    ∃ r0 mid y x, rs = r0 :: (mid ++ [y]) ++ [x] := by
  rcases List.eq_nil_or_concat rs with rfl | ⟨dl, x, rfl⟩
  · simp at h
  · cases dl with
    | nil => simp at h
    | cons r0 t =>
      rcases List.eq_nil_or_concat t with rfl | ⟨mid, y, rfl⟩
      · simp at h
      · exact ⟨r0, mid, y, x, by simp [List.concat_eq_append]⟩

/-- generic form of the two `dist_*_returns_quiescent` theorems. -/
theorem dist_returns_quiescent_of (coll : Collection) (F : Descr → Dist.Entry) (hF : ∀ d, (F d).key = key d)
    (mps : Nat) (s0 : Dist.State) (ty idx l p lat : Nat) (r : Response) (rs : List Bool)
    (hwf : ∀ d ∈ coll, d.idx < 256) (hn : (coll.map key).Nodup) (hidx : idx < 256)
    (h0 : Dist.Quiescent ⟨coll.map F, mps⟩ s0)
    (htr : Dist.run ⟨coll.map F, mps⟩ s0 (Dist.reqInputs (ty * 256 + idx) l p rs) = respTrace lat r rs)
    (hc : Complete lat r rs.dropLast) (h3 : 3 ≤ rs.length) :
    Dist.Quiescent ⟨coll.map F, mps⟩ (Dist.final ⟨coll.map F, mps⟩ s0 (Dist.reqInputs (ty * 256 + idx) l p rs)) := by
  obtain ⟨r0, mid, y, x, rfl⟩ := window_split rs h3
  cases hf : find? coll ty idx with
  | some d =>
    obtain ⟨j, hj, hkey, hs⟩ := dist_selects coll F hF mps ty idx hidx hwf d hf
    rw [List.dropLast_concat] at hc
    exact Dist.final_quiet_sel _ s0 _ l p lat j (F d) r r0 y x mid h0 hs
      (hkey ▸ dist_unique coll F hF hn j d hj) hc htr
  | none =>
    exact Dist.final_quiet_none _ s0 _ l p r0 _ h0 (dist_selects_none coll F hF ty idx hidx hwf hf)

/-- **dist_returns_quiescent**: under the hypotheses of `dist_packet_exact` (+ distinct keys), if the
response is over one cycle before the end of the window `rs`, the distributed handler model is
quiescent at the end of `rs`. -/
theorem dist_returns_quiescent (coll : Collection) (mps : Nat) (s0 : Dist.State)
    (ty idx l p : Nat) (rs : List Bool)
    (hm : mps = 8 ∨ mps = 16 ∨ mps = 32 ∨ mps = 64)
    (hwf : ∀ d ∈ coll, d.idx < 256) (hn : (coll.map key).Nodup)
    (hidx : idx < 256) (hl : l < 65536)
    (h0 : Dist.Quiescent (distOf coll mps) s0)
    (hp : ∀ d, descrBytes coll ty idx = some d → p ≤ min l d.length ∧ p < l)
    (hc : Complete 2 (specResponse (descrBytes coll ty idx) l mps p) rs.dropLast) :
    Dist.Quiescent (distOf coll mps) (Dist.final (distOf coll mps) s0 (Dist.reqInputs (ty * 256 + idx) l p rs)) := by
  obtain ⟨lat, hlat, htr⟩ := dist_packet_exact coll mps s0 ty idx l p rs hm hwf hidx hl h0 hp
  have h3 : 3 ≤ rs.length := by have := hc.1; simp at this; omega
  exact dist_returns_quiescent_of coll _ (fun _ => rfl) mps s0 ty idx l p lat _ rs hwf hn hidx h0 htr
    (hc.mono 2 lat _ _ hlat) h3

/-- **dist_runtime_returns_quiescent**: the same for the distributed handler over runtime descriptors. -/
theorem dist_runtime_returns_quiescent (coll : Collection) (mps : Nat) (s0 : Dist.State)
    (ty idx l p : Nat) (rs : List Bool)
    (hm : mps = 8 ∨ mps = 16 ∨ mps = 32 ∨ mps = 64)
    (hwf : ∀ d ∈ coll, d.idx < 256) (hn : (coll.map key).Nodup)
    (hidx : idx < 256) (hl : l < 65536)
    (h0 : Dist.Quiescent (distRuntimeOf coll mps) s0)
    (hp : ∀ d, descrBytes coll ty idx = some d → p < min l d.length)
    (hc : Complete 2 (specResponse (descrBytes coll ty idx) l mps p) rs.dropLast) :
    Dist.Quiescent (distRuntimeOf coll mps)
      (Dist.final (distRuntimeOf coll mps) s0 (Dist.reqInputs (ty * 256 + idx) l p rs)) := by
  have htr := dist_runtime_packet_exact coll mps s0 ty idx l p rs hm hwf hidx hl h0 hp
  have h3 : 3 ≤ rs.length := by have := hc.1; simp at this; omega
  exact dist_returns_quiescent_of coll _ (fun _ => rfl) mps s0 ty idx l p _ _ rs hwf hn hidx h0 htr
    (hc.mono 2 _ _ _ (by split <;> omega)) h3

/-- both handlers of the mux at rest (the stall latches may hold anything). -/
def Mux.Idle (c : Mux.Config) (s : Mux.State) : Prop := s.b.fsm = .idle ∧ Dist.Quiescent c.dist s.d

/-- **mux_returns_idle**: under the hypotheses of `mux_packet_exact` (+ distinct runtime keys), if the
response is over one cycle before the end of the window `rs`, both handlers are at rest at the end of `rs`. -/
theorem mux_returns_idle (fixed runtime : Collection) (mps : Nat) (s0 : Mux.State)
    (ty idx l p : Nat) (rs : List Bool)
    (hwf : wellFormed fixed = true)
    (hm : mps = 8 ∨ mps = 16 ∨ mps = 32 ∨ mps = 64)
    (hpw : 2 ≤ (Rom.layout fixed).maxLen)
    (hty : ty < 256) (hidx : idx < 256) (hl : l < 65536)
    (hrt : ∀ d ∈ runtime, d.idx < 256) (hrn : (runtime.map key).Nodup)
    (hdisj : descrBytes fixed ty idx = none ∨ descrBytes runtime ty idx = none)
    (h0 : Mux.Idle (muxOf fixed runtime mps) s0)
    (hpf : ∀ d, descrBytes fixed ty idx = some d → p ≤ min l d.length)
    (hpr : ∀ d, descrBytes runtime ty idx = some d → p < min l d.length)
    (hc : Complete 4 (specResponse (descrBytes (fixed ++ runtime) ty idx) l mps p) rs.dropLast) :
    Mux.Idle (muxOf fixed runtime mps)
      (Mux.final (muxOf fixed runtime mps) s0 (Block.reqInputs (ty * 256 + idx) l p rs)) := by
  obtain ⟨hb, hd⟩ := Mux.final_parts (muxOf fixed runtime mps) (Block.reqInputs (ty * 256 + idx) l p rs) s0
  rw [descrBytes_append] at hc
  refine ⟨?_, ?_⟩
  · rw [hb]
    apply block_returns_idle fixed mps s0.b ty idx l p rs hwf hm hpw hty hidx hl h0.1 hpf
    apply Complete.of_dropLast
    cases hf : descrBytes fixed ty idx with
    | some d => rw [hf] at hc; exact hc
    | none => exact hc.stall
  · rw [hd, Mux.toDist_reqInputs]
    apply dist_runtime_returns_quiescent runtime mps s0.d ty idx l p rs hm hrt hrn hidx hl h0.2 hpr
    apply Complete.mono 4 2 _ _ _ (by omega)
    cases hr : descrBytes runtime ty idx with
    | none => exact hc.stall
    | some d =>
      rw [hdisj.resolve_right (by rw [hr]; exact Option.some_ne_none _), hr] at hc
      exact hc

/-- the environment hypotheses of one request on the block handler, and its window. -/
def BlockOk (coll : Collection) (mps : Nat) (q : Req) : Prop :=
  q.ty < 256 ∧ q.idx < 256 ∧ q.l < 65536
  ∧ (∀ d, descrBytes coll q.ty q.idx = some d → q.p ≤ min q.l d.length)
  ∧ Complete 4 (specResponse (descrBytes coll q.ty q.idx) q.l mps q.p) q.rs

/-- **block_requests_exact**: any sequence of in-order requests, each with a window in which its
response is over, is answered request by request with the specified responses, and the handler is
idle at the end — return-to-idle between requests is a theorem, not an assumption. -/
theorem block_requests_exact (coll : Collection) (mps : Nat)
    (hwf : wellFormed coll = true)
    (hm : mps = 8 ∨ mps = 16 ∨ mps = 32 ∨ mps = 64)
    (hpw : 2 ≤ (Rom.layout coll).maxLen)
    (qs : List Req) (s0 : Block.State) (h0 : s0.fsm = .idle) (hq : ∀ q ∈ qs, BlockOk coll mps q) :
    AnswersAll (fun q => specResponse (descrBytes coll q.ty q.idx) q.l mps q.p) 4 qs
      (Block.run (blockOf coll mps) s0 (qs.flatMap (fun q => Block.reqInputs (q.ty * 256 + q.idx) q.l q.p q.rs)))
    ∧ (Block.final (blockOf coll mps) s0
        (qs.flatMap (fun q => Block.reqInputs (q.ty * 256 + q.idx) q.l q.p q.rs))).fsm = .idle := by
  apply answersAll_of (Block.isRun (blockOf coll mps))
    (fun s => s.fsm = .idle) _ _ 4 (BlockOk coll mps) ?_ ?_ qs s0 h0 hq
  · intro s q hs ⟨h1, h2, h3, h4, _⟩
    obtain ⟨lat, _, hlat, h⟩ := block_packet_exact coll mps s q.ty q.idx q.l q.p q.rs hwf hm hpw h1 h2 h3 hs h4
    exact ⟨lat, hlat, h⟩
  · intro s q hs ⟨h1, h2, h3, h4, h5⟩
    exact block_returns_idle coll mps s q.ty q.idx q.l q.p q.rs hwf hm hpw h1 h2 h3 hs h4 h5

/-- the environment hypotheses of one request on the distributed handler, and its window. -/
def DistOk (coll : Collection) (mps : Nat) (q : Req) : Prop :=
  q.idx < 256 ∧ q.l < 65536
  ∧ (∀ d, descrBytes coll q.ty q.idx = some d → q.p ≤ min q.l d.length ∧ q.p < q.l)
  ∧ Complete 2 (specResponse (descrBytes coll q.ty q.idx) q.l mps q.p) q.rs.dropLast

/-- **dist_requests_exact**: the same for the distributed handler (fixed descriptors). -/
theorem dist_requests_exact (coll : Collection) (mps : Nat)
    (hm : mps = 8 ∨ mps = 16 ∨ mps = 32 ∨ mps = 64)
    (hwf : ∀ d ∈ coll, d.idx < 256) (hn : (coll.map key).Nodup)
    (qs : List Req) (s0 : Dist.State) (h0 : Dist.Quiescent (distOf coll mps) s0)
    (hq : ∀ q ∈ qs, DistOk coll mps q) :
    AnswersAll (fun q => specResponse (descrBytes coll q.ty q.idx) q.l mps q.p) 2 qs
      (Dist.run (distOf coll mps) s0 (qs.flatMap (fun q => Dist.reqInputs (q.ty * 256 + q.idx) q.l q.p q.rs)))
    ∧ Dist.Quiescent (distOf coll mps) (Dist.final (distOf coll mps) s0
        (qs.flatMap (fun q => Dist.reqInputs (q.ty * 256 + q.idx) q.l q.p q.rs))) := by
  apply answersAll_of (Dist.isRun (distOf coll mps))
    (Dist.Quiescent (distOf coll mps)) _ _ 2 (DistOk coll mps) ?_ ?_ qs s0 h0 hq
  · intro s q hs ⟨h2, h3, h4, _⟩
    exact dist_packet_exact coll mps s q.ty q.idx q.l q.p q.rs hm hwf h2 h3 hs h4
  · intro s q hs ⟨h2, h3, h4, h5⟩
    exact dist_returns_quiescent coll mps s q.ty q.idx q.l q.p q.rs hm hwf hn h2 h3 hs h4 h5

/-- the environment hypotheses of one request on the mux, and its window. -/
def MuxOk (fixed runtime : Collection) (mps : Nat) (q : Req) : Prop :=
  q.ty < 256 ∧ q.idx < 256 ∧ q.l < 65536
  ∧ (descrBytes fixed q.ty q.idx = none ∨ descrBytes runtime q.ty q.idx = none)
  ∧ (∀ d, descrBytes fixed q.ty q.idx = some d → q.p ≤ min q.l d.length)
  ∧ (∀ d, descrBytes runtime q.ty q.idx = some d → q.p < min q.l d.length)
  ∧ Complete 4 (specResponse (descrBytes (fixed ++ runtime) q.ty q.idx) q.l mps q.p) q.rs.dropLast

/-- **mux_requests_exact**: any sequence of requests on the mux — fixed and runtime descriptors and
absent ones in any order — is answered request by request with the specified responses; the stall
latches left by one request do not disturb the next. -/
theorem mux_requests_exact (fixed runtime : Collection) (mps : Nat)
    (hwf : wellFormed fixed = true)
    (hm : mps = 8 ∨ mps = 16 ∨ mps = 32 ∨ mps = 64)
    (hpw : 2 ≤ (Rom.layout fixed).maxLen)
    (hrt : ∀ d ∈ runtime, d.idx < 256) (hrn : (runtime.map key).Nodup)
    (qs : List Req) (s0 : Mux.State) (h0 : Mux.Idle (muxOf fixed runtime mps) s0)
    (hq : ∀ q ∈ qs, MuxOk fixed runtime mps q) :
    AnswersAll (fun q => specResponse (descrBytes (fixed ++ runtime) q.ty q.idx) q.l mps q.p) 4 qs
      (Mux.run (muxOf fixed runtime mps) s0
        (qs.flatMap (fun q => Block.reqInputs (q.ty * 256 + q.idx) q.l q.p q.rs)))
    ∧ Mux.Idle (muxOf fixed runtime mps) (Mux.final (muxOf fixed runtime mps) s0
        (qs.flatMap (fun q => Block.reqInputs (q.ty * 256 + q.idx) q.l q.p q.rs))) := by
  apply answersAll_of (Mux.isRun (muxOf fixed runtime mps))
    (Mux.Idle (muxOf fixed runtime mps)) _ _ 4 (MuxOk fixed runtime mps) ?_ ?_ qs s0 h0 hq
  · intro s q hs ⟨h1, h2, h3, h4, h5, h6, _⟩
    obtain ⟨lat, _, hlat, h⟩ := mux_packet_exact fixed runtime mps s q.ty q.idx q.l q.p q.rs hwf hm hpw h1 h2 h3
      hrt h4 hs.1 hs.2 h5 h6
    exact ⟨lat, hlat, h⟩
  · intro s q hs ⟨h1, h2, h3, h4, h5, h6, h7⟩
    exact mux_returns_idle fixed runtime mps s q.ty q.idx q.l q.p q.rs hwf hm hpw h1 h2 h3 hrt hrn h4 hs h5 h6 h7

/-! ## Non-vacuity: three requests in a row on the mux of `sample` (fixed) and `sampleRuntime` -/

/-- runtime string 0xEE (5 bytes), then the fixed language string with wLength 2, then an absent string. -/
def sampleReqs : List Req :=
  [⟨3, 0xEE, 255, 0, [true, true, true, false, true, true, true, true, true, true, true]⟩,
   ⟨3, 0, 2, 0, [true, true, true, true, true, true, true, true]⟩,
   ⟨3, 7, 255, 0, [true, true, true, true, true, true]⟩]

instance (fixed runtime : Collection) (mps : Nat) (q : Req) : Decidable (MuxOk fixed runtime mps q) := by
  unfold MuxOk
  exact inferInstanceAs (Decidable (_ ∧ _ ∧ _ ∧ _ ∧ (∀ d ∈ descrBytes fixed q.ty q.idx, _)
    ∧ (∀ d ∈ descrBytes runtime q.ty q.idx, _) ∧ _))

theorem sampleReqs_ok : ∀ q ∈ sampleReqs, MuxOk sample sampleRuntime 8 q := by decide +kernel

-- the remaining hypotheses of `mux_requests_exact`
example : (∀ d ∈ sampleRuntime, d.idx < 256) ∧ (sampleRuntime.map key).Nodup := by decide
-- … and what it yields here, evaluated: the three answers back to back (latencies 2, 4, 2)
set_option maxRecDepth 100000 in
example : Mux.run (muxOf sample sampleRuntime 8) (Mux.init (muxOf sample sampleRuntime 8))
      (sampleReqs.flatMap (fun q => Block.reqInputs (q.ty * 256 + q.idx) q.l q.p q.rs))
    = respTrace 2 (.data [5, 3, 88, 0, 89]) [true, true, true, false, true, true, true, true, true, true, true]
      ++ respTrace 4 (.data [4, 3]) [true, true, true, true, true, true, true, true]
      ++ respTrace 2 .stall [true, true, true, true, true, true] := by decide +kernel
-- a window that is too short is rejected by `Complete` (the last byte is accepted in its last cycle)
example : ¬ Complete 4 (.data [5, 3, 88, 0, 89]) [true, true, true, true, true, true, true, true, true].dropLast := by
  decide

end LunaVerif.Desc
