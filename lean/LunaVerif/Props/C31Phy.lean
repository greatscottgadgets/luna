import LunaVerif.Props.C31
import LunaVerif.Model.Usb3.PhyTx
/-!
# C31 in the physical layer: the transmit wiring of `USB3PhysicalLayer`

"... The keystream advances only when a word is actually transferred (not while held for SKP
insertion) ... so descrambling a scrambled stream from the same starting state returns the original
stream."

`Props/C31.lean` proves this for `Scrambler` with `hold` as a free input.  Here `hold` is what
physical/layer.py connects to it: `tx_ctc.sending_skip` of the `CTCSkipInserter` that sits behind the
scrambler, in the same cycle.  The composed model is `Model/Usb3/PhyTx.lean` (co-simulated against
the real `USB3PhysicalLayer` on every run, driver model 3).

The far end is the *reference* receiver: serial LFSR x^16+x^5+x^4+x^3+1 (`keyByte`, `skip` of
`Props/C31.lean`), one key byte per symbol, data symbols XORed, control symbols untouched, register
restarted after a word whose symbol 0 is COM, **not advanced over a SKP word** (SKP words are dropped).
-/
namespace LunaVerif.PhyTx
open LunaVerif.Crc LunaVerif.XorAlg LunaVerif.Scrambler LunaVerif.Ss

def skpSym : Symbol := ⟨true, lsbBits 0x3C 8⟩
/-- SKP SKP SKP SKP as symbols of the scrambler model -/
def SKP4s : List Symbol := [skpSym, skpSym, skpSym, skpSym]
def idleSym : Symbol := ⟨false, lsbBits 0 8⟩
/-- logical idle: four D0.0 -/
def IDLE4s : List Symbol := [idleSym, idleSym, idleSym, idleSym]

def headIsCom : List Symbol → Bool
  | s :: _ => isCom s
  | [] => false

/-- the word loaded into the inserter's output register in this cycle (on the PHY pins in the next) -/
def txWord (s : State) (i : In) : List Symbol :=
  if sendingSkip s i then SKP4s else scrWord i.enable i.syms (keyBytes s.reg)

def txWords : State → List In → List (Bool × List Symbol)
  | _, [] => []
  | s, i :: is => (i.enable, txWord s i) :: txWords (step s i).1 is

/-- per cycle: the link layer's word, or `none` where a SKP word was transmitted in its place -/
def linkView : State → List In → List (Option (List Symbol))
  | _, [] => []
  | s, i :: is => (if sendingSkip s i then none else some i.syms) :: linkView (step s i).1 is

def refKeys (r : Reg) : List (List Bool) :=
  [keyByte r, keyByte (skip 1 r), keyByte (skip 2 r), keyByte (skip 3 r)]

/-- The reference receiver at the far end of the link (`none` = a SKP word, dropped). -/
def farEnd (r : Reg) : List (Bool × List Symbol) → List (Option (List Symbol))
  | [] => []
  | (en, w) :: rest =>
    if w = SKP4s then none :: farEnd r rest
    else some (scrWord en w (refKeys r))
      :: farEnd (if headIsCom w then initReg 0xFFFF else skip 4 r) rest

/-- environment (C33, `link_layer_idle_mux_guarantees_env`): `can_send_skp` only together with logical idle -/
def Env (ins : List In) : Prop := ∀ i ∈ ins, i.canSkp = true → i.syms = IDLE4s

/-! ## The wiring, one cycle -/

theorem SKP4s_toSs : SKP4s.map toSs = CtcInserter.SKP4 := by decide

/-- `scrambler.hold = tx_ctc.sending_skip` of the same cycle -/
theorem hold_is_sending_skip (s : State) (i : In) :
    (scrIn s i).hold = CtcInserter.sending s.ctc (ctcIn s i) := rfl

theorem step_ctc_src (s : State) (i : In) :
    (step s i).1.ctc.src.syms = (txWord s i).map toSs := by
  simp only [step, CtcInserter.step, CtcInserter.next, txWord]
  have h : CtcInserter.sending s.ctc (ctcIn s i) = sendingSkip s i := rfl
  rw [h]
  cases sendingSkip s i
  · simp [ctcIn, Scrambler.step, scrIn]
  · simp [SKP4s_toSs]

/-- **The PHY pins in the next cycle carry the word loaded in this one** (outside electrical idle). -/
theorem pins_next_cycle (s : State) (i j : In) (hj : j.eidle = false) :
    (step (step s i).1 j).2.tx = (txWord s i).map toSs := by
  rw [← step_ctc_src]
  simp [step, CtcInserter.step, CtcInserter.outOf, hj]

/-- `sink.ready` is the inserter's registered ready -/
theorem step_sinkReady (s : State) (i : In) : (step s i).2.sinkReady = s.ctc.sinkReady := rfl

theorem step_ready_next (s : State) (i : In) :
    (step s i).1.ctc.sinkReady = if sendingSkip s i then s.ctc.sinkReady else !i.eidle := by
  simp only [step, CtcInserter.step, CtcInserter.next]
  have h : CtcInserter.sending s.ctc (ctcIn s i) = sendingSkip s i := rfl
  rw [h]; rfl

theorem sending_needs_can_send_skp (s : State) (i : In) (h : sendingSkip s i = true) : i.canSkp = true := by
  simp only [sendingSkip, CtcInserter.sending, Bool.and_eq_true] at h
  exact h.1

/-- **Held over the SKP word**: while a SKP word replaces a logical-idle word the register stays. -/
theorem reg_held_over_skp (s : State) (i : In) (h : sendingSkip s i = true) (hidle : i.syms = IDLE4s) :
    (step s i).1.reg = s.reg := by
  have hc : isCom idleSym = false := by decide
  simp [step, Scrambler.step, lfsrStep, lfsrClear, lfsrAdvance, commaPresent, scrIn, h, hidle, IDLE4s, hc]

/-- **Moved over every other transferred word**: restart after COM in symbol 0, else one word on. -/
theorem reg_moves_with_word (s : State) (i : In) (h : sendingSkip s i = false) (hrdy : s.ctc.sinkReady = true) :
    (step s i).1.reg = if headIsCom i.syms then initReg 0xFFFF else lfsrNext s.reg := by
  have hcp : commaPresent (scrIn s i) = headIsCom i.syms := by
    simp only [commaPresent, scrIn, Bool.true_and]
    cases i.syms <;> rfl
  simp only [step, Scrambler.step, lfsrStep, lfsrClear, lfsrAdvance, hcp]
  simp [scrIn, h, hrdy, scrInit]

/-! ## What the far end sees -/

theorem scrWord_allK (enable : Bool) (ss : List Symbol) (ks : List (List Bool))
    (h : ∀ x ∈ ss, x.k = true) : scrWord enable ss ks = ss := by
  induction ss generalizing ks with
  | nil => cases ks <;> rfl
  | cons x xs ih =>
    cases ks with
    | nil => rfl
    | cons k ks =>
      simp only [scrWord]
      rw [scrSymbol_ctrl enable x k (h x (by simp)), ih ks (fun y hy => h y (by simp [hy]))]

theorem scrWord_eq_SKP4s (enable : Bool) (ss : List Symbol) (ks : List (List Bool))
    (h : scrWord enable ss ks = SKP4s) : ss = SKP4s := by
  have hk := scrWord_ctrl enable ss ks
  rw [h] at hk
  have hall : ∀ x ∈ ss, x.k = true := by
    intro x hx
    have : x.k ∈ ss.map (·.k) := List.mem_map_of_mem hx
    rw [← hk] at this
    simpa [SKP4s, skpSym] using this
  rw [scrWord_allK enable ss ks hall] at h
  exact h

theorem headIsCom_scrWord (enable : Bool) (ss : List Symbol) (ks : List (List Bool)) :
    headIsCom (scrWord enable ss ks) = headIsCom ss := by
  cases ss with
  | nil => cases ks <;> rfl
  | cons x xs =>
    cases ks with
    | nil => rfl
    | cons k ks => simp [scrWord, headIsCom, isCom_scrSymbol]

theorem keyBytes_eq_refKeys (r : Reg) (hr : r.length = 16) : keyBytes r = refKeys r :=
  keyBytes_eq_keystream r hr

/-- **C31 on the wire (`phy_tx_descrambles`).**  From every state with `sink.ready` high, for every
history of link-layer words, `can_send_skp` and `enable_scrambling` values — outside electrical idle,
the link layer asking for SKPs only over logical idle (C33's environment) and not sending SKP words
of its own — the reference receiver, started from the transmitter's register value, whose keystream
does **not** advance on SKP words, recovers from the transmitted words exactly the link layer's
words, with `none` exactly in the cycles in which the inserter replaced a (logical idle) word by a
SKP word. -/
theorem phy_tx_descrambles (s : State) (ins : List In) (hr : s.reg.length = 16)
    (hrdy : s.ctc.sinkReady = true) (hidle : ∀ i ∈ ins, i.eidle = false) (henv : Env ins)
    (hnoskp : ∀ i ∈ ins, i.syms ≠ SKP4s) :
    farEnd s.reg (txWords s ins) = linkView s ins := by
  induction ins generalizing s with
  | nil => rfl
  | cons i is ih =>
    have hidle' : ∀ j ∈ is, j.eidle = false := fun j hj => hidle j (by simp [hj])
    have henv' : Env is := fun j hj => henv j (by simp [hj])
    have hnoskp' : ∀ j ∈ is, j.syms ≠ SKP4s := fun j hj => hnoskp j (by simp [hj])
    have hei : i.eidle = false := hidle i (by simp)
    have hlen : (step s i).1.reg.length = 16 := length_step _ _ hr _
    simp only [txWords, linkView, farEnd]
    cases hs : sendingSkip s i
    · have hne : txWord s i ≠ SKP4s := by
        simp only [txWord, hs]
        intro h
        exact hnoskp i (by simp) (scrWord_eq_SKP4s _ _ _ h)
      have hrn : (step s i).1.ctc.sinkReady = true := by rw [step_ready_next, hs, hei]; rfl
      have hreg := reg_moves_with_word s i hs hrdy
      rw [if_neg hne]
      have hw : txWord s i = scrWord i.enable i.syms (keyBytes s.reg) := by simp [txWord, hs]
      have hcom : headIsCom (txWord s i) = headIsCom i.syms := by rw [hw, headIsCom_scrWord]
      have hnext : (if headIsCom (txWord s i) then initReg 0xFFFF else skip 4 s.reg) = (step s i).1.reg := by
        rw [hreg, hcom, lfsrNext_eq_skip4 s.reg hr]
      rw [hnext, ih (step s i).1 hlen hrn hidle' henv' hnoskp']
      rw [hw, ← keyBytes_eq_refKeys s.reg hr, scrWord_involutive]
      simp
    · -- a SKP word goes out in place of logical idle: both registers stay
      have hcan := sending_needs_can_send_skp s i hs
      have hsy : i.syms = IDLE4s := henv i (by simp) hcan
      have hw : txWord s i = SKP4s := by simp [txWord, hs]
      have hreg := reg_held_over_skp s i hs hsy
      have hrn : (step s i).1.ctc.sinkReady = true := by rw [step_ready_next, hs]; exact hrdy
      rw [if_pos hw]
      have := ih (step s i).1 hlen hrn hidle' henv' hnoskp'
      rw [hreg] at this
      rw [this]
      simp

/-- the SKP words stand only where the link layer offered logical idle with `can_send_skp` -/
theorem skp_only_over_idle (s : State) (i : In) (henv : Env [i]) (h : sendingSkip s i = true) :
    i.canSkp = true ∧ i.syms = IDLE4s :=
  ⟨sending_needs_can_send_skp s i h, henv i (by simp) (sending_needs_can_send_skp s i h)⟩

/-- from reset: register FFFFh; `sink.ready` is low in the very first cycle only (reset value of the
inserter's registered ready), so `phy_tx_descrambles` applies from the second cycle on -/
theorem ready_after_first_cycle (i : In) (h : i.eidle = false) :
    (step init i).1.ctc.sinkReady = true ∧ (step init i).1.reg.length = 16 := by
  constructor
  · rw [step_ready_next]; simp [sendingSkip, CtcInserter.sending, init, CtcInserter.init, h]
  · exact length_step _ _ (length_initReg _) _

/-! ## Non-vacuity -/

/-- A state with two SKP ordered sets owed (written down, not run from reset; Props/C33's `example` has two sets
owed after a burst of 178 data words), then logical
idle with `can_send_skp`, idle, a data word: the hypotheses of `phy_tx_descrambles` hold; the first idle word is
replaced by a SKP word, the register is held over it, the idle word after it is scrambled with the key bytes
the replaced word would have had, and the far end recovers `none, idle, data`. -/
example :
    let dw : In := ⟨[⟨false, lsbBits 0x11 8⟩, ⟨false, lsbBits 0x22 8⟩, ⟨false, lsbBits 0x33 8⟩, ⟨false, lsbBits 0x44 8⟩], false, true, false⟩
    let iw : In := ⟨IDLE4s, true, true, false⟩
    let s : State := ⟨lfsrNext (initReg 0xFFFF), ⟨2, 100, ⟨true, [], false, false⟩, true⟩⟩
    s.reg.length = 16 ∧ s.ctc.sinkReady = true
      ∧ sendingSkip s iw = true ∧ txWord s iw = SKP4s ∧ (step s iw).1.reg = s.reg
      ∧ sendingSkip (step s iw).1 iw = false
      ∧ txWord (step s iw).1 iw = scrWord true IDLE4s (keyBytes s.reg)
      ∧ farEnd s.reg (txWords s [iw, iw, dw]) = [none, some IDLE4s, some dw.syms] := by
  decide +kernel

end LunaVerif.PhyTx
