import LunaVerif.Model.Device.Endpoints
import LunaVerif.Model.Usb2.InTransferGate
import LunaVerif.Model.Usb2.EndpointMux
import LunaVerif.Model.Usb2.StreamOutEndpoint
import LunaVerif.Model.Usb2.SignalInEndpoint
import LunaVerif.Lemmas.DeviceSteps
/-!
# C12 — Endpoints only act on tokens for their own endpoint number

"A non-control endpoint transmits data or requests a handshake only in response to a token carrying its
own endpoint number and direction (IN endpoints: IN; OUT endpoints: OUT/PING); tokens, data and
handshakes exchanged with other endpoints never change what it sends next, its data toggle, or the data
it delivers."  Quantifier: all interleavings of traffic to several endpoints (same and different
numbers/directions) sharing one device.

Three layers:

1. `USBEndpointMultiplexer` / `OneHotMultiplexer` (`EpMux`): `mux_passes_selected` and companions — the
   shared transmit stream, PID select and halt-clear strobe are those of the single driving interface.
2. per-cycle non-interference of each endpoint kind, on the cycle-level models (`InGate` = control path of
   `USBInTransferManager` + `USBStreamInEndpoint`; `StreamOutEndpoint`; `SignalIn`):
   `*_step_foreign_is_silent` — in a cycle in which the token register does not show the endpoint's own
   number and direction it requests no handshake and does not start a transmission.  Beyond that, per kind: the
   stream IN endpoint does what it does with `ready_for_response` masked (nothing is said of its toggle or buffers
   here); the stream OUT endpoint moves its expected toggle only by a halt-clear and neither writes to nor
   commits/discards its FIFO; the status endpoint's toggle moves only by a halt-clear or in WAIT_FOR_ACK with `ack`
   high (the statement keeps that case, which the model's ACK gate excludes in such a cycle).
3. transaction level (`EpDev`): the branch of `epStep` for each endpoint kind as a function on that kind's
   state (`inEv`, `outEv`, `sigEv`: the halt-clear / `new_token` pre-step, then the event; Lemmas/C12*Refine state
   `sig_` / `in_` / `out_cycle_refines_event` about these); `foreign_transaction_invisible` — deleting a complete transaction that
   is addressed to another non-control endpoint from a host history does not change anything the
   endpoint puts out afterwards; `at_most_one_answers`.

Section 4 states what those branches assume of the shared front end (`C12Sig.ShOk`, true of the device's own:
`shOk_sharedOf`), for the three refinement files.
-/

namespace LunaVerif.C12
open LunaVerif

/-! ## 1. The multiplexer -/
section Mux
open EpMux

/-- Entry `k` of a list with what stands before it, where `q` holds of every earlier entry. -/
theorem split_before {α : Type} {l : List α} {k : Nat} {d : α} {q : α → Prop} (hk : l[k]? = some d)
    (ho : ∀ j x, j < k → l[j]? = some x → q x) :
    ∃ pre post, l = pre ++ d :: post ∧ pre.length = k ∧ ∀ x ∈ pre, q x := by
  obtain ⟨hlt, rfl⟩ := List.getElem?_eq_some_iff.mp hk
  refine ⟨l.take k, l.drop (k + 1), by rw [← List.drop_eq_getElem_cons hlt, List.take_append_drop],
    by simp; omega, fun x hx => ?_⟩
  obtain ⟨j, hj, rfl⟩ := List.mem_take_iff_getElem.mp hx
  exact ho j _ (by omega) (List.getElem?_eq_getElem _)

/-- … and where `q` holds of every other entry. -/
theorem split_others {α : Type} {l : List α} {k : Nat} {d : α} {q : α → Prop} (hk : l[k]? = some d)
    (ho : ∀ j x, j ≠ k → l[j]? = some x → q x) :
    ∃ pre post, l = pre ++ d :: post ∧ pre.length = k ∧ (∀ x ∈ pre, q x) ∧ ∀ x ∈ post, q x := by
  obtain ⟨pre, post, rfl, hl, h1⟩ := split_before hk fun j x hj => ho j x (by omega)
  refine ⟨pre, post, rfl, hl, h1, fun x hx => ?_⟩
  obtain ⟨j, hj⟩ := List.getElem?_of_mem hx
  -- entry `j` of `post` is entry `k + 1 + j` of the list
  refine ho (k + 1 + j) x (by omega) ?_
  rw [← hl, List.getElem?_append_right (by omega), show pre.length + 1 + j - pre.length = j + 1 by omega,
    List.getElem?_cons_succ]
  exact hj

theorem countTrue_low (bs : List Bool) (h : ∀ b ∈ bs, b = false) : countTrue bs = 0 := by
  simp only [countTrue, List.length_eq_zero_iff, List.filter_eq_nil_iff]
  intro b hb; simp [h b hb]

theorem firstIdx_split (pre post : List Bool) (h : ∀ b ∈ pre, b = false) :
    firstIdx (pre ++ true :: post) = pre.length := by
  induction pre with
  | nil => rfl
  | cons b bs ih => simp [firstIdx, h b (by simp), ih (fun x hx => h x (by simp [hx]))]

theorem prio_split (pre post : List (Bool × Nat)) (v : Nat) (h : ∀ x ∈ pre, x.1 = false) :
    prio (pre ++ (true, v) :: post) = v := by
  induction pre with
  | nil => rfl
  | cons a as ih =>
    obtain ⟨c, w⟩ := a
    obtain rfl : c = false := h (c, w) (by simp)
    exact ih (fun x hx => h x (by simp [hx]))

theorem foldr_bitOr_split (pre post : List Nat) (v : Nat) (h1 : ∀ n ∈ pre, n = 0) (h2 : ∀ n ∈ post, n = 0) :
    (pre ++ v :: post).foldr bitOr 0 = v := by
  have hz : ∀ ns : List Nat, (∀ n ∈ ns, n = 0) → ∀ a, ns.foldr bitOr a = a := by
    intro ns h a
    induction ns with
    | nil => rfl
    | cons b bs ih => simp [List.foldr, bitOr, h b (by simp), ih (fun x hx => h x (by simp [hx]))]
  rw [List.foldr_append, hz pre h1, List.foldr_cons, hz post h2]; simp [bitOr]

theorem any_eq_of_others_low {ds : List Drv} {k : Nat} {d : Drv} (p : Drv → Bool) (hk : ds[k]? = some d)
    (ho : ∀ j d', j ≠ k → ds[j]? = some d' → p d' = false) : ds.any p = p d := by
  obtain ⟨pre, post, rfl, -, h1, h2⟩ := split_others hk ho
  rw [List.any_append, List.any_cons, List.any_eq_false.mpr (by simpa using h1),
    List.any_eq_false.mpr (by simpa using h2), Bool.false_or, Bool.or_false]

theorem encoder_of_only {ds : List Drv} {k : Nat} {d : Drv} (hk : ds[k]? = some d) (hv : d.valid = true)
    (ho : ∀ j d', j ≠ k → ds[j]? = some d' → d'.valid = false) : encoderO (ds.map (·.valid)) = k := by
  obtain ⟨pre, post, rfl, rfl, h1, h2⟩ := split_others hk ho
  have h1' : ∀ b ∈ pre.map (·.valid), b = false := by simpa using h1
  have h2' : ∀ b ∈ post.map (·.valid), b = false := by simpa using h2
  have hc : countTrue ((pre ++ d :: post).map (·.valid)) = 1 := by
    have := countTrue_low _ h1'; have := countTrue_low _ h2'
    simp only [countTrue, List.map_append, List.map_cons, hv, List.filter_append, List.filter_cons, id, if_true,
      List.length_append, List.length_cons] at *
    omega
  rw [encoderO, if_pos hc, List.map_append, List.map_cons, hv, firstIdx_split _ _ h1', List.length_map]

/-- **mux_passes_selected**: when exactly one interface asserts `tx.valid`, the shared transmit stream is
valid and carries that interface's payload; its `first`/`last` are that interface's whenever the other
interfaces keep theirs low (which every endpoint does while it is not valid). -/
theorem mux_passes_selected (past : State) (ds : List Drv) (k : Nat) (d : Drv) (hk : ds[k]? = some d)
    (hv : d.valid = true) (ho : ∀ j d', j ≠ k → ds[j]? = some d' → d'.valid = false) :
    (outOf past ds).valid = true ∧ (outOf past ds).payload = d.payload ∧
    ((∀ j d', j ≠ k → ds[j]? = some d' → d'.first = false) → (outOf past ds).first = d.first) ∧
    ((∀ j d', j ≠ k → ds[j]? = some d' → d'.last = false) → (outOf past ds).last = d.last) := by
  refine ⟨(any_eq_of_others_low _ hk ho).trans hv, ?_, any_eq_of_others_low _ hk, any_eq_of_others_low _ hk⟩
  simp only [outOf, encoder_of_only hk hv ho, hk]

theorem mux_idle (past : State) (ds : List Drv) (h : ∀ d ∈ ds, d.valid = false) :
    (outOf past ds).valid = false := by
  simp only [outOf]
  apply Bool.eq_false_iff.mpr
  intro hv
  obtain ⟨x, hx, hpx⟩ := List.any_eq_true.mp hv
  simp [h x hx] at hpx

/-- Two or more valid interfaces (outside the documented one-hot contract): `Encoder` reports index 0,
so the payload of interface 0 is passed — modelled as coded. -/
theorem mux_collision_takes_index0 (past : State) (ds : List Drv) (h : 2 ≤ countTrue (ds.map (·.valid))) :
    (outOf past ds).payload = (match ds[0]? with | some d => d.payload | none => 0) := by
  have : encoderO (ds.map (·.valid)) = 0 := by simp only [encoderO]; split <;> omega
  simp only [outOf, this]; rfl

/-- The PID toggle handed to the packet generator is that of the interface that is (or in the previous
cycle was) transmitting, provided no interface listed before it is. -/
theorem mux_pid_of_transmitter (past : State) (ds : List Drv) (k : Nat) (d : Drv) (p : Bool)
    (hk : ds[k]? = some d) (hp : past[k]? = some p) (hv : (d.valid || p) = true)
    (ho : ∀ j d' p', j < k → ds[j]? = some d' → past[j]? = some p' → (d'.valid || p') = false) :
    (outOf past ds).pid = d.pid := by
  have hz : (List.zipWith (fun d p => (d.valid || p, d.pid)) ds past)[k]? = some (true, d.pid) := by
    simp [List.getElem?_zipWith, hk, hp, hv]
  obtain ⟨pre, post, hs, -, h1⟩ := split_before (q := (·.1 = false)) hz fun j x hj hx => by
    simp only [List.getElem?_zipWith] at hx
    cases hd : ds[j]? with
    | none => simp [hd] at hx
    | some d' =>
      cases hq : past[j]? with
      | none => simp [hd, hq] at hx
      | some p' => simp [hd, hq] at hx; subst hx; exact ho j d' p' hj hd hq
  simp only [outOf]
  rw [hs]
  exact prio_split _ _ _ h1

/-- The halt-clear strobe seen by every endpoint (`clear_endpoint_halt_in` = the OR-join of all
`clear_endpoint_halt_out`) is exactly what the single driving interface (the control endpoint) puts out:
enable, direction and the 4-bit endpoint number. -/
theorem halt_clear_single_driver (past : State) (ds : List Drv) (k : Nat) (d : Drv) (hk : ds[k]? = some d)
    (ho : ∀ j d', j ≠ k → ds[j]? = some d' → d'.chEnable = false ∧ d'.chDir = false ∧ d'.chNum = 0) :
    (outOf past ds).chEnable = d.chEnable ∧ (outOf past ds).chDir = d.chDir ∧ (outOf past ds).chNum = d.chNum := by
  refine ⟨any_eq_of_others_low _ hk (fun j d' hj hd => (ho j d' hj hd).1),
          any_eq_of_others_low _ hk (fun j d' hj hd => (ho j d' hj hd).2.1), ?_⟩
  obtain ⟨pre, post, rfl, -, h1, h2⟩ := split_others hk fun j d' hj hd => (ho j d' hj hd).2.2
  simp only [outOf, List.map_append, List.map_cons]
  exact foldr_bitOr_split _ _ _ (by simpa using h1) (by simpa using h2)

/-- Handshake requests are OR-joined: the shared request equals that of the only requesting endpoint. -/
theorem mux_handshakes (past : State) (ds : List Drv) (k : Nat) (d : Drv) (hk : ds[k]? = some d)
    (ho : ∀ j d', j ≠ k → ds[j]? = some d' → d'.ack = false ∧ d'.nak = false ∧ d'.stall = false) :
    (outOf past ds).ack = d.ack ∧ (outOf past ds).nak = d.nak ∧ (outOf past ds).stall = d.stall :=
  ⟨any_eq_of_others_low _ hk (fun j d' hj hd => (ho j d' hj hd).1),
   any_eq_of_others_low _ hk (fun j d' hj hd => (ho j d' hj hd).2.1),
   any_eq_of_others_low _ hk (fun j d' hj hd => (ho j d' hj hd).2.2)⟩

example : (outOf [false, false, false] [{}, { valid := true, payload := 0x5A, last := true, pid := 1 }, {}]).payload = 0x5A := by decide
example : (outOf [false, true] [{ pid := 2 }, { pid := 1 }]).pid = 1 := by decide
example : (outOf [false, false] [{ valid := true, payload := 1 }, { valid := true, payload := 2 }]).payload = 1 := by decide

end Mux

/-! ## 2. Per-cycle non-interference of the endpoint kinds -/

namespace InGateLemmas
open InGate
@[simp] theorem setWFill_fsm (s : State) (v) : (setWFill s v).fsm = s.fsm := by unfold setWFill; split <;> rfl
@[simp] theorem setWEnded_fsm (s : State) (v) : (setWEnded s v).fsm = s.fsm := by unfold setWEnded; split <;> rfl
@[simp] theorem setRFill_fsm (s : State) (v) : (setRFill s v).fsm = s.fsm := by unfold setRFill; split <;> rfl
@[simp] theorem setREnded_fsm (s : State) (v) : (setREnded s v).fsm = s.fsm := by unfold setREnded; split <;> rfl
@[simp] theorem setWFill_pid0 (s : State) (v) : (setWFill s v).pid0 = s.pid0 := by unfold setWFill; split <;> rfl
@[simp] theorem setWEnded_pid0 (s : State) (v) : (setWEnded s v).pid0 = s.pid0 := by unfold setWEnded; split <;> rfl
@[simp] theorem setRFill_pid0 (s : State) (v) : (setRFill s v).pid0 = s.pid0 := by unfold setRFill; split <;> rfl
@[simp] theorem setREnded_pid0 (s : State) (v) : (setREnded s v).pid0 = s.pid0 := by unfold setREnded; split <;> rfl
@[simp] theorem setWFill_pid1 (s : State) (v) : (setWFill s v).pid1 = s.pid1 := by unfold setWFill; split <;> rfl
@[simp] theorem setWEnded_pid1 (s : State) (v) : (setWEnded s v).pid1 = s.pid1 := by unfold setWEnded; split <;> rfl
@[simp] theorem setRFill_pid1 (s : State) (v) : (setRFill s v).pid1 = s.pid1 := by unfold setRFill; split <;> rfl
@[simp] theorem setREnded_pid1 (s : State) (v) : (setREnded s v).pid1 = s.pid1 := by unfold setREnded; split <;> rfl

theorem next_fsm (c : Config) (s : State) (i : In) :
    (next c s i).fsm =
      match s.fsm with
      | .waitData => if packetReady c s i then .waitSend else .waitData
      | .waitSend =>
        if i.discard then .waitData else if i.resetSeq then .waitSend
        else if inTokenReceived i then (if rFill s != 0 then .send else .waitAck) else .waitSend
      | .send => if i.txReady then (if s.sendPos + 1 == rFill s then .waitAck else .send) else .send
      | .waitAck =>
        if i.newToken && !i.discard then .waitSend
        else if i.discard then .waitData
        else if i.ack && i.active && i.isIn then
          (if i.genZlp && rFill s == c.mps && rEnded s then .waitSend
           else if !sReady c s || packetReady c s i then .waitSend else .waitData)
        else .waitAck := by
  unfold next
  cases hf : s.fsm <;>
    simp only [apply_ite State.fsm, setWFill_fsm, setWEnded_fsm, setRFill_fsm, setREnded_fsm, hf, ite_self]

theorem next_pid0 (c : Config) (s : State) (i : In) :
    (next c s i).pid0 =
      match s.fsm with
      | .waitData =>
        if packetReady c s i then (if c.f8Repaired && i.resetSeq then i.start1 else !s.pid0)
        else (if i.resetSeq then !i.start1 else s.pid0)
      | .waitSend =>
        if i.discard then !s.pid0 else if i.resetSeq then i.start1 else s.pid0
      | .send => if i.resetSeq then !i.start1 else s.pid0
      | .waitAck =>
        if i.discard then (if i.resetSeq then !i.start1 else s.pid0)
        else if i.ack && i.active && i.isIn then
          (if i.genZlp && rFill s == c.mps && rEnded s then !s.pid0
           else if !sReady c s || packetReady c s i then !s.pid0
           else (if i.resetSeq then !i.start1 else s.pid0))
        else (if i.resetSeq then !i.start1 else s.pid0) := by
  unfold next
  cases hf : s.fsm <;>
    simp only [apply_ite State.pid0, setWFill_pid0, setWEnded_pid0, setRFill_pid0, setREnded_pid0, ite_self]
  cases i.resetSeq <;> rfl

theorem next_pid1_of_reset (c : Config) (s : State) (i : In) (hr : i.resetSeq = true) :
    (next c s i).pid1 = false := by
  unfold next
  cases hf : s.fsm <;>
    simp only [apply_ite State.pid1, setWFill_pid1, setWEnded_pid1, setRFill_pid1, setREnded_pid1, hr, ite_self, if_true]
end InGateLemmas

section PerCycle
open InGateLemmas

/-- `USBStreamInEndpoint` / `USBInTransferManager`: the token register does not show an IN token for
this endpoint number. -/
def InForeign (c : InGate.Config) (i : InGate.EpIn) : Prop := i.tokEp ≠ c.epNum ∨ i.isIn = false

/-- **step_foreign_is_silent (stream IN)**.  In a cycle whose token register shows another endpoint
number, or a token that is not IN:
 * no NAK is requested, and `tx.valid` can only be high because a packet started earlier is still being
   sent (FSM already in SEND_PACKET) — in particular no transmission *starts* (the FSM does not enter
   SEND_PACKET, and no zero-length packet is emitted);
 * the `ready_for_response` strobe of that token is ignored altogether: registers and outputs are the
   same as without it (so the data toggle, the buffers and the stream handshake are untouched by it). -/
theorem in_step_foreign_is_silent (c : InGate.Config) (s : InGate.State) (i : InGate.EpIn) (h : InForeign c i) :
    (InGate.epStep c s i).2.nak = false ∧
    ((InGate.epStep c s i).2.valid = true → s.fsm = .send) ∧
    ((InGate.epStep c s i).1.fsm = .send → s.fsm = .send) ∧
    InGate.epStep c s i = InGate.epStep c s { i with rfr := false } := by
  have htok : InGate.inTokenReceived (InGate.wire c i) = false := by
    rcases h with h | h <;> simp [InGate.inTokenReceived, InGate.wire, h]
  have htok' : InGate.inTokenReceived (InGate.wire c { i with rfr := false }) = false := by
    simp [InGate.inTokenReceived, InGate.wire]
  refine ⟨?_, ?_, ?_, ?_⟩
  · simp [InGate.epStep, InGate.step, InGate.outOf, htok]
  · simp only [InGate.epStep, InGate.step, InGate.outOf, htok]
    cases s.fsm <;> simp
  · simp only [InGate.epStep, InGate.step, next_fsm, htok]
    cases hf : s.fsm <;> simp <;> (repeat' split) <;> simp_all
  · simp only [InGate.epStep, InGate.step, Prod.mk.injEq]
    constructor
    · simp only [InGate.next, htok, htok']
      rfl
    · simp only [InGate.outOf, htok, htok']
      rfl

/-- The producer-side handshake of a stream IN endpoint never looks at the token register at all. -/
theorem in_stream_ready_ignores_tokens (c : InGate.Config) (s : InGate.State) (i : InGate.EpIn) :
    (InGate.epStep c s i).2.sReady = InGate.sReady c s := rfl

theorem step_expectedToggle (c : StreamOutEndpoint.Config) (s : StreamOutEndpoint.State) (i : StreamOutEndpoint.In) :
    (StreamOutEndpoint.step c s i).1.expectedToggle =
      if i.clearHalt then false
      else if (StreamOutEndpoint.comb c s i).dataRequested && (StreamOutEndpoint.comb c s i).dataAccepted then
        !s.expectedToggle
      else s.expectedToggle := rfl

/-- `USBStreamOutEndpoint`: the token register shows another endpoint number, or neither OUT nor PING. -/
def OutForeign (c : StreamOutEndpoint.Config) (i : StreamOutEndpoint.In) : Prop :=
  i.tokEp ≠ c.epNum ∨ (i.tokIsOut = false ∧ i.tokIsPing = false)

/-- **step_foreign_is_silent (stream OUT)**: no handshake is requested, the expected data toggle only
moves by a halt-clear, and the FIFO sees no write, commit or discard (so the delivered stream is that of
the consumer side alone).  (Stated on the ports and on the FIFO command only, so that it is independent of
how the model's packet bookkeeping — `transfer_active`, `overflow` — is organised.) -/
theorem out_step_foreign_is_silent (c : StreamOutEndpoint.Config) (s : StreamOutEndpoint.State)
    (i : StreamOutEndpoint.In) (h : OutForeign c i) :
    (StreamOutEndpoint.step c s i).2.ack = false ∧ (StreamOutEndpoint.step c s i).2.nak = false ∧
    (StreamOutEndpoint.step c s i).1.expectedToggle = (if i.clearHalt then false else s.expectedToggle) ∧
    (StreamOutEndpoint.fifoIn c s i).wen = false ∧ (StreamOutEndpoint.fifoIn c s i).wcommit = false ∧
    (StreamOutEndpoint.fifoIn c s i).wdiscard = false := by
  rcases h with h | ⟨h1, h2⟩
  · have : (i.tokEp == c.epNum) = false := by simpa using h
    simp [StreamOutEndpoint.step, StreamOutEndpoint.outOf, StreamOutEndpoint.comb, StreamOutEndpoint.fifoIn, this]
  · simp [StreamOutEndpoint.step, StreamOutEndpoint.outOf, StreamOutEndpoint.comb, StreamOutEndpoint.fifoIn, h1, h2]

/-- Under a token that is not OUT — a PING for the endpoint itself included — the toggle only moves by a
halt-clear and the FIFO sees no write, commit or discard. -/
theorem out_ping_changes_nothing (c : StreamOutEndpoint.Config) (s : StreamOutEndpoint.State)
    (i : StreamOutEndpoint.In) (h : i.tokIsOut = false) :
    (StreamOutEndpoint.step c s i).1.expectedToggle = (if i.clearHalt then false else s.expectedToggle) ∧
    (StreamOutEndpoint.fifoIn c s i).wen = false ∧ (StreamOutEndpoint.fifoIn c s i).wcommit = false ∧
    (StreamOutEndpoint.fifoIn c s i).wdiscard = false := by
  simp [StreamOutEndpoint.step, StreamOutEndpoint.comb, StreamOutEndpoint.fifoIn, h]

/-- `USBSignalInEndpoint`: the token register does not show an IN token for this endpoint number. -/
def SigForeign (c : SignalIn.Config) (i : SignalIn.In) : Prop := i.endpoint ≠ c.epNum ∨ i.isIn = false

/-- **step_foreign_is_silent (status IN)**: a waiting endpoint (IDLE / RETRANSMIT) keeps its FSM state and
`tx.valid` low; in no state does a transmission start; the toggle moves only by a halt-clear or in WAIT_FOR_ACK
with `ack` high.  (In such a cycle the model's ACK gate `ackTaken` is closed, so only the halt-clear can in fact move
it; the fourth conjunct keeps the weaker disjunction.) -/
theorem sig_step_foreign_is_silent (c : SignalIn.Config) (s : SignalIn.State) (i : SignalIn.In)
    (h : SigForeign c i) :
    ((s.fsm = .idle ∨ s.fsm = .retransmit) →
        (SignalIn.step c s i).1.fsm = s.fsm ∧ (SignalIn.step c s i).2.valid = false) ∧
    ((SignalIn.step c s i).2.valid = true → s.fsm = .transmit) ∧
    ((SignalIn.step c s i).1.fsm = .transmit → s.fsm = .transmit) ∧
    ((SignalIn.step c s i).1.toggle ≠ s.toggle → (s.fsm = .waitAck ∧ i.ack = true) ∨ i.clearHalt = true) := by
  have hp : SignalIn.packetRequested c i = false := by
    rcases h with h | h <;> simp [SignalIn.packetRequested, h]
  obtain ⟨fsm, latched, sent, toggle⟩ := s
  cases hc : i.clearHalt <;> cases fsm <;> simp [SignalIn.step, SignalIn.stepCore, hp, hc] <;>
    (repeat' split) <;> simp_all [SignalIn.ackTaken]

end PerCycle

end LunaVerif.C12

/-! ## 3. Transaction level

### The branch of `epStep` for each endpoint kind, as a function on that kind's state -/

namespace LunaVerif.C12Sig
open LunaVerif LunaVerif.Device LunaVerif.EpDev

def sigPre (ec : EpCfg) (sh : Shared) (e : SigState) : SigState :=
  let s := if sh.newTok then sigNewToken e else e
  if haltHits ec true sh then { s with toggle := false } else s

def sigEv (ec : EpCfg) (sh : Shared) (e : SigState) (ev : HostEvent) : SigState × Resp :=
  let s := sigPre ec sh e
  match ev with
  | .token _ _ _ =>
    if sh.newTok ∧ sh.tokEp = ec.num ∧ sh.tokPid = PID_IN then sigToken ec.size s else (s, .none)
  | .handshake pid =>
    if pid = PID_ACK ∧ sh.tokEp = ec.num ∧ sh.tokPid = PID_IN then (sigAck s, .none) else (s, .none)
  | .setSignal ep v => if ep = ec.num then ({ s with signal := v }, .none) else (s, .none)
  | _ => (s, .none)

theorem epStep_sig (ec : EpCfg) (sh : Shared) (e : SigState) (ev : HostEvent) :
    epStep ec sh (.sig e) ev = (.sig (sigEv ec sh e ev).1, { resp := (sigEv ec sh e ev).2 }) := by
  cases ev <;> simp only [epStep, sigEv, sigPre] <;> (try split) <;> rfl

theorem haltHits_none (ec : EpCfg) (d : Bool) (sh : Shared) (h : sh.halt = none) : haltHits ec d sh = false := by
  simp [haltHits, h]

theorem sigPre_quiet (ec : EpCfg) (sh : Shared) (e : SigState) (hn : sh.newTok = false) (hh : sh.halt = none) :
    sigPre ec sh e = e := by
  simp [sigPre, hn, haltHits_none ec true sh hh]

theorem sigEv_silent {ec : EpCfg} {sh : Shared} (e : SigState) (ev : HostEvent)
    (h : ¬(sh.tokEp = ec.num ∧ sh.tokPid = PID_IN)) : (sigEv ec sh e ev).2 = .none := by
  cases ev with
  | token _ _ _ => simp only [sigEv, if_neg (fun g : _ ∧ _ => h g.2)]
  | handshake _ => simp only [sigEv]; split <;> rfl
  | setSignal _ _ => simp only [sigEv]; split <;> rfl
  | _ => rfl

end LunaVerif.C12Sig

namespace LunaVerif.C12In
open LunaVerif LunaVerif.Device LunaVerif.EpDev

def inPre (ec : EpCfg) (sh : Shared) (e : InState) : InState :=
  let s := if sh.newTok then inNewToken e else e
  if haltHits ec true sh then inClearHalt s else s

def inEv (ec : EpCfg) (sh : Shared) (e : InState) (ev : HostEvent) : InState × EpOut :=
  let s := inPre ec sh e
  match ev with
  | .token _ _ _ =>
    if sh.newTok ∧ sh.tokEp = ec.num ∧ sh.tokPid = PID_IN then ((inToken s).1, { resp := (inToken s).2 }) else (s, {})
  | .handshake pid =>
    if pid = PID_ACK ∧ sh.tokEp = ec.num ∧ sh.tokPid = PID_IN then (inAck ec.size s, {}) else (s, {})
  | .produce ep bytes last =>
    if ep = ec.num then ((inProduce ec.size s bytes last).1, { app := [(inProduce ec.size s bytes last).2] }) else (s, {})
  | _ => (s, {})

theorem epStep_sin (ec : EpCfg) (sh : Shared) (e : InState) (ev : HostEvent) :
    epStep ec sh (.sin e) ev = (.sin (inEv ec sh e ev).1, (inEv ec sh e ev).2) := by
  cases ev <;> simp only [epStep, inEv, inPre] <;> (try split) <;> rfl

theorem inPre_quiet (ec : EpCfg) (sh : Shared) (e : InState) (hn : sh.newTok = false) (hh : sh.halt = none) :
    inPre ec sh e = e := by
  simp [inPre, hn, C12Sig.haltHits_none ec true sh hh]

theorem inEv_silent {ec : EpCfg} {sh : Shared} (e : InState) (ev : HostEvent)
    (h : ¬(sh.tokEp = ec.num ∧ sh.tokPid = PID_IN)) : (inEv ec sh e ev).2.resp = .none := by
  cases ev with
  | token _ _ _ => simp only [inEv, if_neg (fun g : _ ∧ _ => h g.2)]
  | handshake _ => simp only [inEv]; split <;> rfl
  | produce _ _ _ => simp only [inEv]; split <;> rfl
  | _ => rfl

end LunaVerif.C12In

namespace LunaVerif.C12Out
open LunaVerif LunaVerif.Device LunaVerif.EpDev

def outPre (ec : EpCfg) (sh : Shared) (e : OutState) : OutState :=
  if haltHits ec false sh then { e with toggle := false } else e

def outEv (ec : EpCfg) (sh : Shared) (e : OutState) (ev : HostEvent) : OutState × EpOut :=
  let s := outPre ec sh e
  match ev with
  | .token _ _ _ =>
    if sh.newTok ∧ sh.tokEp = ec.num ∧ sh.tokPid = PID_PING then (s, { resp := outPing ec s }) else (s, {})
  | .data pid p crcOk =>
    if sh.tokEp = ec.num ∧ sh.tokPid = PID_OUT then
      ((outData ec.size s pid p crcOk).1, { resp := (outData ec.size s pid p crcOk).2 })
    else (s, {})
  | .consume ep n => if ep = ec.num then ({ s with fifo := s.fifo.drop n }, { app := s.fifo.take n }) else (s, {})
  | _ => (s, {})

theorem epStep_sout (ec : EpCfg) (sh : Shared) (e : OutState) (ev : HostEvent) :
    epStep ec sh (.sout e) ev = (.sout (outEv ec sh e ev).1, (outEv ec sh e ev).2) := by
  cases ev <;> simp only [epStep, outEv, outPre] <;> (try split) <;> rfl

theorem outPre_quiet (ec : EpCfg) (sh : Shared) (e : OutState) (h : sh.halt = none) : outPre ec sh e = e := by
  simp [outPre, C12Sig.haltHits_none ec false sh h]

theorem outEv_silent {ec : EpCfg} {sh : Shared} (e : OutState) (ev : HostEvent)
    (h : ¬(sh.tokEp = ec.num ∧ (sh.tokPid = PID_OUT ∨ sh.tokPid = PID_PING))) : (outEv ec sh e ev).2.resp = .none := by
  cases ev with
  | token _ _ _ => simp only [outEv, if_neg (fun g : _ ∧ _ ∧ _ => h ⟨g.2.1, .inr g.2.2⟩)]
  | data _ _ _ => simp only [outEv, if_neg (fun g : _ ∧ _ => h ⟨g.1, .inl g.2⟩)]
  | consume _ _ => simp only [outEv]; split <;> rfl
  | _ => rfl

end LunaVerif.C12Out

namespace LunaVerif.C12
open LunaVerif
section Events
open EpDev
open LunaVerif.Device hiding step run final init LegalHost legalEvent legalFrom

/-! ### One endpoint inside the whole device: the slice control endpoint × endpoint -/

/-- The part of the device endpoint `ec` can be influenced by: the control endpoint (token registers,
halt-clear strobe) and the endpoint itself.  `slice_of_history` shows that the endpoint's outputs inside the
whole device are those of this two-component machine, whatever the other endpoints do. -/
def sliceStep (c : DevConfig) (ec : EpCfg) (s : DevState × EpState) (e : HostEvent) :
    (DevState × EpState) × EpOut :=
  let r := epStep ec (sharedOf c s.1 e) s.2 e
  (((core c s.1 e).1, r.1), r.2)

def sliceRun (c : DevConfig) (ec : EpCfg) : DevState × EpState → List HostEvent → List EpOut
  | _, [] => []
  | s, e :: es => (sliceStep c ec s e).2 :: sliceRun c ec (sliceStep c ec s e).1 es

def sliceFinal (c : DevConfig) (ec : EpCfg) : DevState × EpState → List HostEvent → DevState × EpState
  | s, [] => s
  | s, e :: es => sliceFinal c ec (sliceStep c ec s e).1 es

theorem slice_of_step (c : Config) (k : Nat) (ec : EpCfg) (hk : c.eps[k]? = some ec) (s : State) (ek : EpState)
    (hek : s.eps[k]? = some ek) (e : HostEvent) :
    (step c s e).2.eps[k]? = some (sliceStep c.dev ec (s.ctl, ek) e).2 ∧
    (step c s e).1.eps[k]? = some (sliceStep c.dev ec (s.ctl, ek) e).1.2 ∧
    (step c s e).1.ctl = (sliceStep c.dev ec (s.ctl, ek) e).1.1 := by
  simp [step, stepEps, sliceStep, List.getElem?_zipWith, hk, hek]

/-- Endpoint `k` inside the whole device is the slice, over a whole history: its outputs, and at the end the control
state and its own state. -/
theorem slice_of_history (c : Config) (k : Nat) (ec : EpCfg) (hk : c.eps[k]? = some ec) (h : List HostEvent) :
    ∀ (s : State) (ek : EpState), s.eps[k]? = some ek →
      (run c s h).map (fun o => o.eps[k]?) = (sliceRun c.dev ec (s.ctl, ek) h).map some ∧
      (EpDev.final c s h).ctl = (sliceFinal c.dev ec (s.ctl, ek) h).1 ∧
      (EpDev.final c s h).eps[k]? = some (sliceFinal c.dev ec (s.ctl, ek) h).2 := by
  induction h with
  | nil => intro s ek hek; exact ⟨rfl, rfl, hek⟩
  | cons e es ih =>
    intro s ek hek
    obtain ⟨hstep, hst, hctl⟩ := slice_of_step c k ec hk s ek hek e
    have := ih (step c s e).1 _ hst
    rw [hctl] at this
    simpa [run, sliceRun, EpDev.final, sliceFinal, hstep] using this

/-! ### Which endpoint answers a token -/

/-- The token `(pid, ep)` is one endpoint `ec` answers: its number, and IN for an IN endpoint, OUT or PING for an OUT
endpoint. -/
def owns (ec : EpCfg) (pid ep : Nat) : Bool :=
  ep == ec.num && (if dirIn ec.kind then pid == PID_IN else (pid == PID_OUT || pid == PID_PING))

/-- The state constructor matches the configured kind.  `kindOk_init` and `kindOk_step` give it for every state reached
from reset, by induction over the history; the theorems about the whole device take it as a hypothesis. -/
def kindOk (ec : EpCfg) : EpState → Bool
  | .sin _ => ec.kind == .streamIn
  | .sout _ => ec.kind == .streamOut
  | .sig _ => ec.kind == .signalIn

theorem kindOk_init (ec : EpCfg) : kindOk ec (initEp ec) = true := by
  cases hk : ec.kind <;> simp [initEp, kindOk, hk]

theorem kindOk_step (ec : EpCfg) (sh : Shared) (st : EpState) (e : HostEvent) (h : kindOk ec st = true) :
    kindOk ec (epStep ec sh st e).1 = true := by
  cases st with
  | sin x => rw [C12In.epStep_sin]; exact h
  | sout x => rw [C12Out.epStep_sout]; exact h
  | sig x => rw [C12Sig.epStep_sig]; exact h

theorem not_owned_sin {ec : EpCfg} {x : InState} (hk : kindOk ec (.sin x) = true) {pid ep : Nat}
    (h : owns ec pid ep = false) : ¬(ep = ec.num ∧ pid = PID_IN) := fun g => by
  have hkind : ec.kind = .streamIn := by simpa [kindOk] using hk
  simp [owns, dirIn, hkind, g.1, g.2] at h

theorem not_owned_sig {ec : EpCfg} {x : SigState} (hk : kindOk ec (.sig x) = true) {pid ep : Nat}
    (h : owns ec pid ep = false) : ¬(ep = ec.num ∧ pid = PID_IN) := fun g => by
  have hkind : ec.kind = .signalIn := by simpa [kindOk] using hk
  simp [owns, dirIn, hkind, g.1, g.2] at h

theorem not_owned_sout {ec : EpCfg} {x : OutState} (hk : kindOk ec (.sout x) = true) {pid ep : Nat}
    (h : owns ec pid ep = false) : ¬(ep = ec.num ∧ (pid = PID_OUT ∨ pid = PID_PING)) := fun g => by
  have hkind : ec.kind = .streamOut := by simpa [kindOk] using hk
  rcases g.2 with h2 | h2 <;> simp [owns, dirIn, hkind, g.1, h2] at h

/-- An endpoint stays silent in every event whose token register does not show a token it owns. -/
theorem silent_of_not_owned (ec : EpCfg) (sh : Shared) (st : EpState) (e : HostEvent) (hk : kindOk ec st = true)
    (h : owns ec sh.tokPid sh.tokEp = false) : (epStep ec sh st e).2.resp = .none := by
  cases st with
  | sin s =>
    rw [C12In.epStep_sin]
    exact C12In.inEv_silent s e (not_owned_sin hk h)
  | sout s =>
    rw [C12Out.epStep_sout]
    exact C12Out.outEv_silent s e (not_owned_sout hk h)
  | sig s =>
    rw [C12Sig.epStep_sig]
    exact C12Sig.sigEv_silent s e (not_owned_sig hk h)

theorem answers_only_own (ec : EpCfg) (sh : Shared) (st : EpState) (e : HostEvent) (hk : kindOk ec st = true)
    (h : (epStep ec sh st e).2.resp ≠ .none) : owns ec sh.tokPid sh.tokEp = true := by
  cases ho : owns ec sh.tokPid sh.tokEp with
  | true => rfl
  | false => exact absurd (silent_of_not_owned ec sh st e hk ho) h

theorem owns_exclusive (a b : EpCfg) (pid ep : Nat)
    (hab : (a.num == b.num && dirIn a.kind == dirIn b.kind) = false)
    (ha : owns a pid ep = true) (hb : owns b pid ep = true) : False := by
  simp only [owns, Bool.and_eq_true, beq_iff_eq] at ha hb
  have hn : a.num = b.num := by rw [← ha.1, ← hb.1]
  have hd : dirIn a.kind = dirIn b.kind := by
    cases hda : dirIn a.kind <;> cases hdb : dirIn b.kind <;> simp_all [PID_IN, PID_OUT, PID_PING]
  simp [hn, hd] at hab

/-- **at_most_one_answers**: in a device whose endpoints have distinct (number, direction), at most one
non-control endpoint transmits in any event — the OR-merge of the multiplexer never mixes two answers. -/
theorem at_most_one_answers (cs : List EpCfg) (hw : wellFormed cs = true) (sh : Shared) (e : HostEvent)
    (i j : Nat) (hij : i < j) (ci cj : EpCfg) (si sj : EpState)
    (hci : cs[i]? = some ci) (hcj : cs[j]? = some cj)
    (hki : kindOk ci si = true) (hkj : kindOk cj sj = true)
    (hi : (epStep ci sh si e).2.resp ≠ .none) : (epStep cj sh sj e).2.resp = .none := by
  apply Classical.byContradiction
  intro hj
  have hoi := answers_only_own ci sh si e hki hi
  have hoj := answers_only_own cj sh sj e hkj hj
  have hpw : cs.Pairwise (fun a b => (!(a.num == b.num && dirIn a.kind == dirIn b.kind)) = true) := by
    simp only [wellFormed, Bool.and_eq_true, decide_eq_true_eq] at hw
    exact hw.2
  have hi' : i < cs.length := (List.getElem?_eq_some_iff.mp hci).1
  have hj' : j < cs.length := (List.getElem?_eq_some_iff.mp hcj).1
  have := List.pairwise_iff_getElem.mp hpw i j hi' hj' hij
  rw [(List.getElem?_eq_some_iff.mp hci).2, (List.getElem?_eq_some_iff.mp hcj).2] at this
  exact owns_exclusive ci cj _ _ (by simpa using Bool.not_eq_true' _ |>.mp this) hoi hoj

/-! ### foreign_transaction_invisible -/

/-- What `new_token` does to an endpoint that waits for an ACK: it will retransmit. -/
def settle : EpState → EpState
  | .sin s => .sin (inNewToken s)
  | .sout s => .sout s
  | .sig s => .sig (sigNewToken s)

/-- Events outside any transaction: application-side stream events, idle time, start of frame. -/
def isIdleEvent : HostEvent → Bool
  | .produce .. => true
  | .consume .. => true
  | .setSignal .. => true
  | .quiet => true
  | .sof _ => true
  | _ => false

/-- What follows the token inside a transaction: a data packet, a handshake, or silence. -/
def isFollowUp : HostEvent → Bool
  | .data .. => true
  | .handshake _ => true
  | .quiet => true
  | _ => false

/-- A token the device accepts for another non-control endpoint: the control state takes it (`afterToken`), the
endpoint sees `new_token` (`settle`) and puts out nothing. -/
theorem foreign_token_step (c : DevConfig) (ec : EpCfg) (s : DevState × EpState) (pid ep : Nat)
    (hk : kindOk ec s.2 = true) (hep : ep ≠ 0) (hown : owns ec pid ep = false) :
    sliceStep c ec s (.token pid s.1.address ep) = ((afterToken s.1 pid ep, settle s.2), {}) := by
  obtain ⟨ctl, st⟩ := s
  have hcore : core c ctl (.token pid ctl.address ep) = (afterToken ctl pid ep, .none) := by
    simp [core, onToken, hep]
  have hsh : sharedOf c ctl (.token pid ctl.address ep) =
      { tokPid := pid, tokEp := ep, newTok := true, halt := none } := by
    simp [sharedOf, hcore, acceptedToken, haltStrobe, afterToken]
  simp only [sliceStep, hcore, hsh]
  cases st with
  | sin x =>
    simp [epStep, haltHits, settle, not_owned_sin hk hown]
  | sout x =>
    have h' : ¬(ep = ec.num ∧ pid = PID_PING) := fun g => not_owned_sout hk hown ⟨g.1, .inr g.2⟩
    simp [epStep, haltHits, settle, h']
  | sig x =>
    simp [epStep, haltHits, settle, not_owned_sig hk hown]

/-- Under such a token a data packet, a handshake or silence changes nothing in the slice and draws nothing from it. -/
theorem foreign_followup_step (c : DevConfig) (ec : EpCfg) (t : DevState × EpState) (e : HostEvent)
    (hk : kindOk ec t.2 = true) (hep : t.1.tokEp ≠ 0) (hsd : t.1.sdWait = false)
    (hown : owns ec t.1.tokPid t.1.tokEp = false) (he : isFollowUp e = true) :
    sliceStep c ec t e = (t, {}) := by
  obtain ⟨ctl, st⟩ := t
  simp only at hep hsd hown
  have hcore : core c ctl e = (ctl, .none) := by
    cases e <;> simp [isFollowUp] at he <;> simp [core, onData, onHandshake, hep, hsd]
  have hsh : sharedOf c ctl e = { tokPid := ctl.tokPid, tokEp := ctl.tokEp, newTok := false, halt := none } := by
    cases e <;> simp [isFollowUp] at he <;> simp [sharedOf, hcore, acceptedToken, haltStrobe, hep]
  simp only [sliceStep, hcore, hsh]
  cases st with
  | sin x =>
    cases e <;> simp [isFollowUp] at he <;> simp [epStep, haltHits, not_owned_sin hk hown]
  | sout x =>
    have h' : ¬(ctl.tokEp = ec.num ∧ ctl.tokPid = PID_OUT) := fun g => not_owned_sout hk hown ⟨g.1, .inl g.2⟩
    cases e <;> simp [isFollowUp] at he <;> simp [epStep, haltHits, h']
  | sig x =>
    cases e <;> simp [isFollowUp] at he <;> simp [epStep, haltHits, not_owned_sig hk hown]

theorem foreign_followups (c : DevConfig) (ec : EpCfg) (t : DevState × EpState) (rest : List HostEvent)
    (hk : kindOk ec t.2 = true) (hep : t.1.tokEp ≠ 0) (hsd : t.1.sdWait = false)
    (hown : owns ec t.1.tokPid t.1.tokEp = false) (hrest : ∀ e ∈ rest, isFollowUp e = true) :
    sliceFinal c ec t rest = t ∧ ∀ o ∈ sliceRun c ec t rest, o = {} := by
  induction rest with
  | nil => simp [sliceFinal, sliceRun]
  | cons e es ih =>
    have h1 := foreign_followup_step c ec t e hk hep hsd hown (hrest e (by simp))
    have := ih (fun x hx => hrest x (by simp [hx]))
    simp only [sliceFinal, sliceRun, h1, List.mem_cons]
    exact ⟨this.1, fun o ho => ho.elim (fun h => h) (this.2 o)⟩

theorem inFeed_settle (mps : Nat) (s : InState) (b : Nat) (last : Bool) :
    inFeed mps (inNewToken s) b last = (inNewToken (inFeed mps s b last).1, (inFeed mps s b last).2) := by
  obtain ⟨fsm, pid, wbuf, wended, rbuf, rended⟩ := s
  by_cases hfull : wbuf.length = mps ∨ wended = true
  · cases fsm <;> simp [inFeed, inNewToken, hfull]
  · cases fsm <;> simp [inFeed, inNewToken, hfull]
    split <;> simp

theorem inProduce_settle (mps : Nat) (bytes : List Nat) (last : Bool) (s : InState) :
    inProduce mps (inNewToken s) bytes last = (inNewToken (inProduce mps s bytes last).1, (inProduce mps s bytes last).2) := by
  induction bytes generalizing s with
  | nil => rfl
  | cons b bs ih =>
    simp only [inProduce, inFeed_settle]
    split
    · simp only [ih]
    · rfl

theorem inNewToken_idem (s : InState) : inNewToken (inNewToken s) = inNewToken s := by
  obtain ⟨fsm, pid, wbuf, wended, rbuf, rended⟩ := s
  cases fsm <;> simp [inNewToken]

theorem sigNewToken_idem (s : SigState) : sigNewToken (sigNewToken s) = sigNewToken s := by
  obtain ⟨fsm, latched, toggle, signal⟩ := s
  cases fsm <;> simp [sigNewToken]

theorem idle_step_settle (ec : EpCfg) (sh sh' : Shared) (st : EpState) (e : HostEvent)
    (hn : sh.newTok = false) (hh : sh.halt = none) (hn' : sh'.newTok = false) (hh' : sh'.halt = none)
    (he : isIdleEvent e = true) :
    (epStep ec sh' (settle st) e).1 = settle (epStep ec sh st e).1 ∧ (epStep ec sh' (settle st) e).2 = (epStep ec sh st e).2 := by
  cases st with
  | sin x =>
    cases e <;> simp [isIdleEvent] at he <;>
      simp [epStep, settle, haltHits, hn, hh, hn', hh'] <;> split <;> simp [inProduce_settle]
  | sout x =>
    cases e <;> simp [isIdleEvent] at he <;>
      simp [epStep, settle, haltHits, hh, hh'] <;> split <;> simp
  | sig x =>
    cases e <;> simp [isIdleEvent] at he <;>
      simp [epStep, settle, haltHits, hn, hh, hn', hh'] <;> split <;> simp [sigNewToken] <;> (try (split <;> rfl))

theorem core_idle (c : DevConfig) (s : DevState) (e : HostEvent) (he : isIdleEvent e = true) :
    core c s e = (s, .none) := by
  cases e <;> simp [isIdleEvent] at he <;> rfl

theorem shared_idle (c : DevConfig) (s : DevState) (e : HostEvent) (he : isIdleEvent e = true) :
    (sharedOf c s e).newTok = false ∧ (sharedOf c s e).halt = none := by
  cases e <;> simp [isIdleEvent] at he <;> simp [sharedOf, acceptedToken, haltStrobe]

/-- The next token overwrites everything a token for another non-control endpoint wrote to the control state. -/
theorem afterToken_absorb (s : DevState) (pid ep p' e' : Nat) (hpid : pid ≠ PID_SETUP) (hep : ep ≠ 0) :
    afterToken (afterToken s pid ep) p' e' = afterToken s p' e' := by
  simp [afterToken, tokenStage, hpid, hep]

/-- With `new_token` an endpoint forgets whether it was waiting for an ACK. -/
theorem epStep_settle (ec : EpCfg) (sh : Shared) (st : EpState) (e : HostEvent) (hn : sh.newTok = true) :
    epStep ec sh (settle st) e = epStep ec sh st e := by
  cases st <;> simp [epStep, settle, hn, inNewToken_idem, sigNewToken_idem]

/-- An idle event finds the slice behind a foreign token as it finds the slice without it. -/
theorem behind_idle_step (c : DevConfig) (ec : EpCfg) (pid ep : Nat) (a : DevState × EpState) (e : HostEvent)
    (he : isIdleEvent e = true) :
    sliceStep c ec (afterToken a.1 pid ep, settle a.2) e =
      ((afterToken a.1 pid ep, settle (sliceStep c ec a e).1.2), (sliceStep c ec a e).2) ∧
    (sliceStep c ec a e).1.1 = a.1 := by
  obtain ⟨ha, hb⟩ := shared_idle c a.1 e he, shared_idle c (afterToken a.1 pid ep) e he
  have h := idle_step_settle ec (sharedOf c a.1 e) (sharedOf c (afterToken a.1 pid ep) e) a.2 e ha.1 ha.2 hb.1 hb.2 he
  simp only [sliceStep, core_idle c _ e he, h.1, h.2, and_self]

/-- The next accepted token does not see the foreign one. -/
theorem behind_token_step (c : DevConfig) (ec : EpCfg) (pid ep : Nat) (hpid : pid ≠ PID_SETUP) (hep : ep ≠ 0)
    (a : DevState × EpState) (p e' : Nat) :
    sliceStep c ec (afterToken a.1 pid ep, settle a.2) (.token p a.1.address e') =
      sliceStep c ec a (.token p a.1.address e') := by
  have hcore : core c (afterToken a.1 pid ep) (.token p a.1.address e') = core c a.1 (.token p a.1.address e') := by
    simp only [core, onToken, afterToken_absorb _ _ _ _ _ hpid hep]; simp [afterToken]
  have hsh : sharedOf c (afterToken a.1 pid ep) (.token p a.1.address e') = sharedOf c a.1 (.token p a.1.address e') := by
    simp only [sharedOf, hcore, acceptedToken, haltStrobe]; simp [afterToken]
  simp only [sliceStep, hcore, hsh]
  rw [epStep_settle ec _ a.2 _ (by simp [sharedOf, acceptedToken])]

/-- So behind a foreign token the slice puts out what it puts out without it: over idle events and, if one follows, from
the next accepted token on. -/
theorem behind_run (c : DevConfig) (ec : EpCfg) (pid ep : Nat) (hpid : pid ≠ PID_SETUP) (hep : ep ≠ 0)
    (idle : List HostEvent) (hidle : ∀ e ∈ idle, isIdleEvent e = true) :
    ∀ (a : DevState × EpState) (post : List HostEvent),
      (post = [] ∨ ∃ p e' tl, post = .token p a.1.address e' :: tl) →
      sliceRun c ec (afterToken a.1 pid ep, settle a.2) (idle ++ post) = sliceRun c ec a (idle ++ post) := by
  induction idle with
  | nil =>
    intro a post hp
    rcases hp with rfl | ⟨p, e', tl, rfl⟩
    · rfl
    · simp only [List.nil_append, sliceRun, behind_token_step c ec pid ep hpid hep a p e']
  | cons e es ih =>
    intro a post hp
    obtain ⟨h1, h2⟩ := behind_idle_step c ec pid ep a e (hidle e (by simp))
    simp only [List.cons_append, sliceRun, h1]
    congr 1
    have := ih (fun x hx => hidle x (by simp [hx])) (sliceStep c ec a e).1 post (by rw [h2]; exact hp)
    rw [h2] at this
    exact this

theorem kindOk_settle (ec : EpCfg) {st : EpState} (hk : kindOk ec st = true) : kindOk ec (settle st) = true := by
  cases st <;> exact hk

/-- **foreign_transaction_invisible** (slice form).  `s` is the state of the control endpoint and of
endpoint `ec` at some point of a host history.  A transaction `token pid addr ep :: rest` follows whose
token the device accepts (`addr` = its address) and which is addressed to another non-control endpoint
(`ep ≠ 0`, not a SETUP, and `ec` does not own `(pid, ep)`: other number, or same number in the other
direction); `rest` are its data / handshake packets or the host's silence.  Then

 * during the transaction `ec` puts out nothing (no response, no application-side activity), and
 * whatever follows — stream events and idle time (`idle`), then the next transaction (`post` is empty or
   begins with a token the device accepts; a token for another device's address, which `LegalHost` allows
   there too, is not covered) — draws exactly the outputs from `ec` that it would have drawn had the
   foreign transaction not happened. -/
theorem foreign_transaction_invisible (c : DevConfig) (ec : EpCfg) (s : DevState × EpState)
    (pid ep : Nat) (rest idle post : List HostEvent)
    (hk : kindOk ec s.2 = true) (hpid : pid ≠ PID_SETUP) (hep : ep ≠ 0) (hown : owns ec pid ep = false)
    (hrest : ∀ e ∈ rest, isFollowUp e = true) (hidle : ∀ e ∈ idle, isIdleEvent e = true)
    (hpost : post = [] ∨ ∃ p e' tl, post = .token p s.1.address e' :: tl) :
    (∀ o ∈ sliceRun c ec s (.token pid s.1.address ep :: rest), o = {}) ∧
    sliceRun c ec (sliceFinal c ec s (.token pid s.1.address ep :: rest)) (idle ++ post)
      = sliceRun c ec s (idle ++ post) := by
  have h1 := foreign_token_step c ec s pid ep hk hep hown
  have h2 := foreign_followups c ec (afterToken s.1 pid ep, settle s.2) rest (kindOk_settle ec hk)
    (by simpa [afterToken] using hep) (by simp [afterToken, hpid])
    (by simpa [afterToken] using hown) hrest
  constructor
  · intro o ho
    simp only [sliceRun, h1, List.mem_cons] at ho
    exact ho.elim (fun h => h) (h2.2 o)
  · simp only [sliceFinal, h1, h2.1]
    exact behind_run c ec pid ep hpid hep idle hidle s post hpost

/-- **foreign_transaction_invisible** on the whole device: for endpoint `k` of any configuration, in any
device state `s` whose endpoint `k` is of its configured kind (a hypothesis, `kindOk`; `kindOk_init` and
`kindOk_step` give it along any history from reset), the outputs of endpoint `k` after a complete transaction addressed to another
non-control endpoint are those it would have produced without that transaction — whatever the other endpoints
are and do. -/
theorem foreign_transaction_invisible_device (c : Config) (k : Nat) (ec : EpCfg) (hc : c.eps[k]? = some ec)
    (s : State) (ek : EpState) (hek : s.eps[k]? = some ek) (hk : kindOk ec ek = true)
    (pid ep : Nat) (rest idle post : List HostEvent)
    (hpid : pid ≠ PID_SETUP) (hep : ep ≠ 0) (hown : owns ec pid ep = false)
    (hrest : ∀ e ∈ rest, isFollowUp e = true) (hidle : ∀ e ∈ idle, isIdleEvent e = true)
    (hpost : post = [] ∨ ∃ p e' tl, post = .token p s.ctl.address e' :: tl) :
    (EpDev.run c (EpDev.final c s (.token pid s.ctl.address ep :: rest)) (idle ++ post)).map (fun o => o.eps[k]?)
      = (EpDev.run c s (idle ++ post)).map (fun o => o.eps[k]?) := by
  have hf := (slice_of_history c k ec hc (.token pid s.ctl.address ep :: rest) s ek hek).2
  rw [(slice_of_history c k ec hc _ _ _ hf.2).1, (slice_of_history c k ec hc _ s ek hek).1, hf.1]
  congr 1
  exact (foreign_transaction_invisible c.dev ec (s.ctl, ek) pid ep rest idle post hk hpid hep hown hrest hidle hpost).2

/-! ### Non-vacuity: a concrete instance (IN 1 and OUT 1 share their number; IN 2 is a third endpoint) -/

def exCfg : Config :=
  { eps := [⟨.streamIn, 1, 4, 0⟩, ⟨.streamOut, 1, 4, 7⟩, ⟨.streamIn, 2, 4, 0⟩] }

/-- endpoint IN 1 sent DATA0 `[1,2]` and got no ACK -/
def exPre : List HostEvent := [.produce 1 [1, 2] true, .token PID_IN 0 1]
/-- a complete OUT transaction for the OUT endpoint with the same number -/
def exForeign : List HostEvent := [.token PID_OUT 0 1, .data PID_DATA0 [9] true]
/-- the producer adds a packet, the host asks again and ACKs, then asks for the next packet -/
def exPost : List HostEvent :=
  [.produce 1 [7] true, .token PID_IN 0 1, .handshake PID_ACK, .token PID_IN 0 1]

/-- with and without the foreign transaction endpoint IN 1 retransmits DATA0 `[1,2]`, then sends DATA1 `[7]` -/
example : ((run exCfg (EpDev.final exCfg (EpDev.init exCfg) (exPre ++ exForeign)) exPost).map (fun o => o.eps[0]?))
    = [some { app := [1] }, some { resp := .data PID_DATA0 [1, 2] }, some ({} : EpOut), some { resp := .data PID_DATA1 [7] }] := by
  decide
example : ((run exCfg (EpDev.final exCfg (EpDev.init exCfg) exPre) exPost).map (fun o => o.eps[0]?))
    = [some { app := [1] }, some { resp := .data PID_DATA0 [1, 2] }, some ({} : EpOut), some { resp := .data PID_DATA1 [7] }] := by
  decide
/-- the hypotheses of `foreign_transaction_invisible` hold for this instance -/
example : owns ⟨.streamIn, 1, 4, 0⟩ PID_OUT 1 = false ∧ (∀ e ∈ exForeign.tail, isFollowUp e = true) ∧
    (∀ e ∈ [HostEvent.produce 1 [7] true], isIdleEvent e = true) := by decide
/-- … and history before `exPost` can matter: from reset, without `exPre`, the outputs differ.  (What makes the
difference is `exPre`'s `produce` event; its IN token, never ACKed, leaves no trace of its own.) -/
example : ((run exCfg (EpDev.init exCfg) exPost).map (fun o => o.eps[0]?))
    ≠ ((run exCfg (EpDev.final exCfg (EpDev.init exCfg) exPre) exPost).map (fun o => o.eps[0]?)) := by
  decide

end Events

end LunaVerif.C12

/-! ## 4. The shared front end as the endpoints see it

`Tk`: the token registers; `ShOk`: what the branches of `epStep` assume of the front-end record `Shared` that
accompanies an event, and `shOk_sharedOf`: the device's own front end (`sharedOf`) provides it to every endpoint
with a number ≠ 0.  `sig_cycle_refines_event`, `in_cycle_refines_event` and `out_cycle_refines_event` (Lemmas/C12SigRefine,
C12InRefine, C12OutRefine) are all stated under `ShOk`, with the cycle-level token inputs taken from `Tk`.  Last,
`pid_dec`, which is about no front end: how they and C57 read an IN endpoint's toggle off the data PID it sends. -/

namespace LunaVerif.C12Sig
open LunaVerif LunaVerif.Device LunaVerif.EpDev

/-- The token registers as the endpoint sees them. -/
structure Tk where
  pid : Nat
  ep  : Nat
deriving DecidableEq, Repr

def tkOf (sh : Shared) : Tk := ⟨sh.tokPid, sh.tokEp⟩

/-- What the event-level model assumes of the shared front end (true of `sharedOf`, see `shOk_sharedOf`): the
halt-clear strobe accompanies a host handshake that belongs to a control transfer (so not to this endpoint),
`new_token` a token. -/
def ShOk (ec : EpCfg) (sh : Shared) (ev : HostEvent) : Prop :=
  match ev with
  | .token _ _ _ => sh.halt = none
  | .handshake _ => sh.newTok = false ∧ (haltHits ec true sh = true → ¬(sh.tokEp = ec.num ∧ sh.tokPid = PID_IN))
  | _ => sh.newTok = false ∧ sh.halt = none

/-- The halt-clear strobe comes with a host handshake under a token for endpoint 0. -/
theorem haltStrobe_tokEp (c : DevConfig) (d : DevState) (ev : HostEvent) (x : Bool × Nat)
    (h : haltStrobe c d ev = some x) : d.tokEp = 0 ∧ ∃ pid, ev = .handshake pid := by
  cases ev with
  | handshake pid =>
    simp only [haltStrobe] at h
    split at h
    · rename_i hc; exact ⟨hc.2.1, pid, rfl⟩
    · simp at h
  | _ => simp [haltStrobe] at h

/-- The device's shared front end (`sharedOf`: token registers of `Device.core`, `new_token` for accepted tokens,
the standard request handler's halt-clear strobe) satisfies `ShOk` for every endpoint with a number ≠ 0. -/
theorem shOk_sharedOf (c : DevConfig) (ec : EpCfg) (hn : 0 < ec.num) (d : DevState) (ev : HostEvent) :
    ShOk ec (sharedOf c d ev) ev := by
  cases ev with
  | token pid addr ep => simp [ShOk, sharedOf, haltStrobe]
  | handshake pid =>
    refine ⟨by simp [sharedOf, acceptedToken], fun hh hown => ?_⟩
    have hsome : ∃ x, haltStrobe c d (.handshake pid) = some x := by
      simp only [haltHits, sharedOf] at hh
      cases hs : haltStrobe c d (.handshake pid) with
      | none => simp [hs] at hh
      | some x => exact ⟨x, rfl⟩
    obtain ⟨x, hx⟩ := hsome
    have h0 := (haltStrobe_tokEp c d _ x hx).1
    have : (sharedOf c d (.handshake pid)).tokEp = d.tokEp := by
      simp only [sharedOf, core]; exact (onHandshake_tok d pid).2
    omega
  | _ => simp [ShOk, sharedOf, acceptedToken, haltStrobe]

/-- The data PID sent under toggle `t` is DATA1 exactly if `t` is set. -/
theorem pid_dec (t : Bool) : ((if t then PID_DATA1 else PID_DATA0) == PID_DATA1) = t := by cases t <;> decide

end LunaVerif.C12Sig
