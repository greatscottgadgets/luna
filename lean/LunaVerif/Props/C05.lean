import LunaVerif.Model.Usb2.InterpacketTimer
/-!
# C05 — Inter-packet response timing matches the selected bus speed

"Measured from the most recent timer start (or reset), the 'response allowed' indication occurs
exactly at the minimum inter-packet gap for the currently selected speed (one 60 MHz cycle at high
speed, 2 bit times at full speed, 2 low-speed bit times at low speed), the 'response deadline' at
the documented maximum (6.5 bit times, or 24 cycles at high speed), and the receive timeout at 16
bit times (FS/LS) or 736 bit times (HS).  In full-speed-only configurations this holds for full
speed, the only speed such a device uses."

Quantified over all speeds, all timer-start schedules (and arbitrary speed changes), and the
supported configurations (60 MHz with or without `fs_only`, 12 MHz `fs_only`).

Time base.  `sinceStart past` is the number of cycles that have passed since the counter was last
zeroed: `past` holds the inputs of all earlier cycles, most recent first; a start strobe in the
previous cycle gives 0, no start strobe at all since reset gives the cycle number (reset acts like a
start strobe in the cycle before cycle 0).  This is the convention of the repository's own test
(`advance_cycles(10)` counted from the cycle after the start strobe).

The model is of the repaired code (`fix:` low-speed branch uses the low-speed table); on the
unrepaired code the low-speed column of `specTable` is violated (1/24/92 instead of 80/260/640).
-/
namespace LunaVerif.InterpacketTimer

/-- The three times of the property, in clock cycles. -/
structure Spec where
  minGap    : Nat
  deadline  : Nat
  rxTimeout : Nat
deriving Repr, DecidableEq

/-- Specification table, written from the numbers of the property text / USB 2.0 §7.1.18 /
ULPI 1.1 figure 18: speed 0 = high, 1 = full, 2 = low; `none` = combination not supported. -/
def specTable (clk12 : Bool) (speed : Nat) : Option Spec :=
  match clk12, speed with
  | false, 0 => some ⟨1, 24, 92⟩
  | false, 1 => some ⟨10, 32, 80⟩
  | false, 2 => some ⟨80, 260, 640⟩
  | true,  1 => some ⟨2, 7, 16⟩
  | _,     _ => none

def cyclesPerBit (clk12 : Bool) (speed : Nat) : Nat :=
  match clk12, speed with
  | false, 1 => 5      -- 60 MHz / 12 Mbit/s
  | false, 2 => 40     -- 60 MHz / 1.5 Mbit/s
  | true,  1 => 1      -- 12 MHz / 12 Mbit/s
  | _,     _ => 0

/-- The table is what the property's bit times give: FS/LS 2 and 16 bit times exactly, 6.5 bit times
rounded to a whole cycle (`|2·deadline − 13·cyclesPerBit| ≤ 1`); HS one cycle (8 HS bit times at
60 MHz), 24 cycles, and 736 HS bit times at 8 bits per cycle. -/
theorem specTable_from_bit_times :
    (∀ clk12 speed s, (speed = 1 ∨ speed = 2) → specTable clk12 speed = some s →
        s.minGap = 2 * cyclesPerBit clk12 speed ∧ s.rxTimeout = 16 * cyclesPerBit clk12 speed ∧
        2 * s.deadline ≤ 13 * cyclesPerBit clk12 speed + 1 ∧
        13 * cyclesPerBit clk12 speed ≤ 2 * s.deadline + 1) ∧
    (∀ s, specTable false 0 = some s → s.minGap = 1 ∧ s.deadline = 24 ∧ 8 * s.rxTimeout = 736) := by
  refine ⟨?_, ?_⟩
  · intro clk12 speed s hs h
    rcases hs with rfl | rfl <;> cases clk12 <;> simp [specTable] at h <;> subst h <;>
      simp [cyclesPerBit]
  · intro s h; simp [specTable] at h; subst h; simp

/-- Speeds a device built with configuration `c` can be operated at. -/
def speedValid (c : Config) (speed : Nat) : Bool :=
  if c.fsOnly then speed == 1 else decide (speed ≤ 2)

def sinceStart : List In → Nat
  | [] => 0
  | i :: past => if i.start then 0 else sinceStart past + 1

/-- a start strobe `pre.length` cycles back, none since: that many cycles have passed (0 for one in the previous cycle) -/
theorem sinceStart_last_start (pre rest : List In) (i : In) (hi : i.start = true)
    (hpre : ∀ j ∈ pre, j.start = false) : sinceStart (pre ++ i :: rest) = pre.length := by
  induction pre with
  | nil => simp [sinceStart, hi]
  | cons p ps ih =>
    have hp : p.start = false := hpre p (by simp)
    simp only [List.cons_append, sinceStart, hp, List.length_cons]
    rw [ih (fun j hj => hpre j (by simp [hj]))]
    simp

/-- no start strobe at all since reset: the cycle number -/
theorem sinceStart_no_start (past : List In) (h : ∀ j ∈ past, j.start = false) :
    sinceStart past = past.length := by
  induction past with
  | nil => rfl
  | cons p ps ih =>
    have hp : p.start = false := h p (by simp)
    simp only [sinceStart, hp, List.length_cons]
    rw [ih (fun j hj => h j (by simp [hj]))]
    simp

def strobesAt (e : Nat) : Option Spec → Out
  | some s => ⟨e == s.minGap, e == s.deadline, e == s.rxTimeout⟩
  | none => noStrobe

def specOut (c : Config) (past : List In) (x : In) : Out :=
  strobesAt (sinceStart past) (specTable c.clk12 x.speed)

def specRun (c : Config) : List In → List In → List Out
  | _, [] => []
  | past, x :: xs => specOut c past x :: specRun c (x :: past) xs

/-- What the code selects for *every* 2-bit speed value, including those outside the property
(`fs_only` builds drive no strobe for speeds other than FULL; the unused encoding 3 is treated as
LOW). -/
def codeTable (c : Config) (speed : Nat) : Option Spec :=
  if c.fsOnly then (if speed = 1 then specTable c.clk12 1 else none)
  else if speed = 0 then specTable false 0
  else if speed = 1 then specTable false 1
  else specTable false 2

def codeRun (c : Config) : List In → List In → List Out
  | _, [] => []
  | past, x :: xs => strobesAt (sinceStart past) (codeTable c x.speed) :: codeRun c (x :: past) xs

/-- The counter is the elapsed time, saturated one above `counter_max`. -/
def counterAfter (c : Config) (past : List In) : Nat := min (sinceStart past) (counterMax c + 1)

theorem counterAfter_nil (c : Config) : counterAfter c [] = init := by
  simp [counterAfter, sinceStart, init]

theorem next_no_start (c : Config) (n : Nat) :
    next c (min n (counterMax c + 1)) false = min (n + 1) (counterMax c + 1) := by
  unfold next
  simp only [Bool.false_eq_true, if_false]
  by_cases h : min n (counterMax c + 1) < counterMax c + 1
  · rw [if_pos h]; omega
  · rw [if_neg h]; omega

theorem next_counter (c : Config) (past : List In) (x : In) :
    next c (counterAfter c past) x.start = counterAfter c (x :: past) := by
  cases hx : x.start
  · have e : sinceStart (x :: past) = sinceStart past + 1 := by simp [sinceStart, hx]
    unfold counterAfter
    rw [e]; exact next_no_start c _
  · have e : sinceStart (x :: past) = 0 := by simp [sinceStart, hx]
    simp [next, counterAfter, e]

/-- For a value `v` below the saturation point `k`, comparing the saturated count with `v` is comparing the count
itself: saturation never hides or fakes a strobe.  (That the table values lie below it is `codeTable_le_counterMax`.) -/
theorem beq_min (e v k : Nat) (h : v < k) : (min e k == v) = (e == v) := by
  by_cases h1 : e < k
  · rw [Nat.min_eq_left (by omega)]
  · rw [Nat.min_eq_right (by omega)]
    rw [show (k == v) = false from by rw [beq_eq_false_iff_ne]; omega,
        show (e == v) = false from by rw [beq_eq_false_iff_ne]; omega]

theorem outputs_counter (c : Config) (hc : c.valid = true) (past : List In) (speed : Nat) :
    outputs c (counterAfter c past) speed = strobesAt (sinceStart past) (codeTable c speed) := by
  obtain ⟨clk12, fsOnly⟩ := c
  by_cases h0 : speed = 0
  · subst h0
    cases clk12 <;> cases fsOnly <;> simp [Config.valid] at hc <;>
      simp [outputs, codeTable, specTable, strobesAt, noStrobe, counterAfter, counterMax,
        hsRxToTxDelay, hsTxToRxTimeout, lsTxToRxTimeout, beq_min]
  · by_cases h1 : speed = 1
    · subst h1
      cases clk12 <;> cases fsOnly <;> simp [Config.valid] at hc <;>
        simp [outputs, codeTable, specTable, strobesAt, counterAfter, counterMax,
          fsRxToTxDelay, fsTxToRxTimeout, lsTxToRxTimeout, beq_min]
    · cases clk12 <;> cases fsOnly <;> simp [Config.valid] at hc <;>
        simp [outputs, codeTable, specTable, strobesAt, noStrobe, counterAfter, counterMax, h0, h1,
          lsRxToTxDelay, lsTxToRxTimeout, beq_min]

theorem run_eq_codeRun_from (c : Config) (hc : c.valid = true) (past hist : List In) :
    run c (counterAfter c past) hist = codeRun c past hist := by
  induction hist generalizing past with
  | nil => rfl
  | cons x xs ih =>
    simp only [run, codeRun, step]
    rw [outputs_counter c hc, next_counter]
    congr 1
    exact ih (x :: past)

theorem timer_run_all_speeds (c : Config) (hc : c.valid = true) (hist : List In) :
    run c init hist = codeRun c [] hist := by
  rw [← counterAfter_nil c]; exact run_eq_codeRun_from c hc [] hist

theorem codeTable_eq_specTable (c : Config) (hc : c.valid = true) (speed : Nat)
    (hs : speedValid c speed = true) : codeTable c speed = specTable c.clk12 speed := by
  obtain ⟨clk12, fsOnly⟩ := c
  cases clk12 <;> cases fsOnly <;> simp [Config.valid] at hc <;>
    simp [speedValid] at hs <;> simp [codeTable, hs]
  · have : speed = 0 ∨ speed = 1 ∨ speed = 2 := by omega
    rcases this with rfl | rfl | rfl <;> simp

theorem codeRun_eq_specRun (c : Config) (hc : c.valid = true) (past hist : List In)
    (hs : ∀ i ∈ hist, speedValid c i.speed = true) : codeRun c past hist = specRun c past hist := by
  induction hist generalizing past with
  | nil => rfl
  | cons x xs ih =>
    simp only [codeRun, specRun, specOut]
    rw [codeTable_eq_specTable c hc x.speed (hs x (by simp))]
    congr 1
    exact ih (x :: past) (fun i hi => hs i (by simp [hi]))

/-- **C05.**  For every supported configuration, every start schedule and every schedule of speeds
valid for the configuration, the strobes produced from reset are, cycle by cycle, exactly: high iff
the time since the most recent start (or reset) equals the specification value for the speed
selected in that cycle. -/
theorem timer_strobes_exact (c : Config) (hc : c.valid = true) (hist : List In)
    (hs : ∀ i ∈ hist, speedValid c i.speed = true) :
    run c init hist = specRun c [] hist := by
  rw [timer_run_all_speeds c hc]; exact codeRun_eq_specRun c hc [] hist hs

/-- For valid speeds the table entry exists (the specification is never vacuous). -/
theorem specTable_some_of_valid (c : Config) (hc : c.valid = true) (speed : Nat)
    (hs : speedValid c speed = true) : ∃ s, specTable c.clk12 speed = some s := by
  obtain ⟨clk12, fsOnly⟩ := c
  cases clk12 <;> cases fsOnly <;> simp [Config.valid] at hc <;> simp [speedValid] at hs
  · have : speed = 0 ∨ speed = 1 ∨ speed = 2 := by omega
    rcases this with rfl | rfl | rfl <;> simp [specTable]
  · subst hs; simp [specTable]
  · subst hs; simp [specTable]

theorem specRun_length (c : Config) (past hist : List In) :
    (specRun c past hist).length = hist.length := by
  induction hist generalizing past with
  | nil => rfl
  | cons x xs ih => simp [specRun, ih]

theorem specRun_getElem (c : Config) (past hist : List In) (t : Nat) (ht : t < hist.length) :
    (specRun c past hist)[t]'(by rw [specRun_length]; exact ht)
      = specOut c ((hist.take t).reverse ++ past) hist[t] := by
  induction hist generalizing past t with
  | nil => simp at ht
  | cons x xs ih =>
    cases t with
    | zero => simp [specRun]
    | succ t =>
      simp only [specRun, List.getElem_cons_succ, List.take_succ_cons, List.reverse_cons,
        List.append_assoc, List.singleton_append]
      exact ih (x :: past) t (by simpa using ht)

/-- `timer_strobes_exact`, cycle-indexed. -/
theorem timer_strobe_at_cycle (c : Config) (hc : c.valid = true) (hist : List In)
    (hs : ∀ i ∈ hist, speedValid c i.speed = true) (t : Nat) (ht : t < hist.length) :
    (run c init hist)[t]? = some (specOut c (hist.take t).reverse hist[t]) := by
  rw [timer_strobes_exact c hc hist hs]
  rw [List.getElem?_eq_getElem (by rw [specRun_length]; exact ht), specRun_getElem c [] hist t ht]
  simp

/-- A full-speed-only build consults only the full-speed table: for any other speed value it
drives no strobe at all, whatever the counter. -/
theorem fs_only_never_uses_other_tables (c : Config) (hf : c.fsOnly = true) (counter speed : Nat)
    (hs : speed ≠ 1) : outputs c counter speed = noStrobe := by
  unfold outputs
  simp [hf, hs]

theorem codeTable_le_counterMax (c : Config) (hc : c.valid = true) (speed : Nat) (s : Spec)
    (h : codeTable c speed = some s) :
    s.minGap ≤ counterMax c ∧ s.deadline ≤ counterMax c ∧ s.rxTimeout ≤ counterMax c := by
  obtain ⟨clk12, fsOnly⟩ := c
  cases clk12 <;> cases fsOnly <;> simp [Config.valid] at hc <;>
    simp only [codeTable, specTable] at h <;> (repeat' split at h) <;> simp at h <;> subst h <;> decide

/-- The strobes are single-cycle pulses: after the counter saturates nothing fires until the next
start. -/
theorem no_strobe_after_saturation (c : Config) (hc : c.valid = true) (past : List In) (speed : Nat)
    (h : counterMax c < sinceStart past) :
    outputs c (counterAfter c past) speed = noStrobe := by
  rw [outputs_counter c hc]
  cases ht : codeTable c speed with
  | none => rfl
  | some s =>
    obtain ⟨h1, h2, h3⟩ := codeTable_le_counterMax c hc speed s ht
    simp only [strobesAt, noStrobe, Out.mk.injEq, beq_eq_false_iff_ne]
    omega

/-! ## Non-vacuity: concrete runs -/

/-- Low speed at 60 MHz from reset: the three strobes at cycles 80, 260 and 640 and nowhere else in
700 cycles. -/
example :
    ((run ⟨false, false⟩ init (List.replicate 700 ⟨false, 2⟩)).zipIdx.filterMap
      (fun (o, t) => if o = noStrobe then none else some (t, o)))
    = [(80, ⟨true, false, false⟩), (260, ⟨false, true, false⟩), (640, ⟨false, false, true⟩)] := by
  decide +kernel

/-- 12 MHz full-speed-only build, restarted in cycle 3 and again in cycle 9. -/
example :
    ((run ⟨true, true⟩ init
      (List.replicate 3 (In.mk false 1) ++ [In.mk true 1] ++ List.replicate 5 (In.mk false 1)
        ++ [In.mk true 1] ++ List.replicate 20 (In.mk false 1))).map (·.txAllowed)).zipIdx.filterMap
      (fun (o, t) => if o then some t else none)
    = [2, 6, 12] := by
  decide +kernel

example : ∀ i ∈ (List.replicate 700 (⟨false, 2⟩ : In)), speedValid ⟨false, false⟩ i.speed = true := by
  intro i hi; rw [List.eq_of_mem_replicate hi]; rfl

/-! ## A start strobe and a reset of the clock domain are the same event for the timer

The counter is the timer's only register and a start strobe loads its reset value, so the state after a start is the
power-on state.  The co-simulation's `domreset` cases (a `ResetInserter` around the gateware timer, reset pulse in the
middle of a count) hand the domain reset to the model as a start; these two lemmas are why that is the right reading
of "from the most recent timer start (or reset)". -/

theorem start_is_reset (c : Config) (s : State) (sp : Nat) : (step c s ⟨true, sp⟩).1 = init := by
  simp [step, next, init]

theorem run_after_start_eq_run_from_reset (c : Config) (s : State) (sp : Nat) (is : List In) :
    run c (step c s ⟨true, sp⟩).1 is = run c init is := by
  rw [start_is_reset]

end LunaVerif.InterpacketTimer
