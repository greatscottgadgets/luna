import LunaVerif.Lemmas.HeaderRx
/-!
# C38 — Link re-entry always re-advertises sequence number and credits

"Every time the link layer is re-enabled after leaving U0, or after a USB reset, the header receiver
begins by sending one LGOOD advertising the last received sequence number followed by LCRD credits for
all of its buffers, and its receive state is fresh, regardless of which link command it was sending
when the link went down or the reset arrived."

Quantifier: all points in time at which the link can be disabled or reset (including in the middle of
sending an LGOOD, LCRD, LBAD, LRTY or keepalive).

**Defect F14 (confirmed on the gateware).**  In the code as found (`Config.fix = false`) the
reset-on-disable block is evaluated only in DISPATCH_COMMAND; a falling edge of `enable` (a one-cycle
condition) or a `usb_reset` that arrives while a link command is being sent is lost
(`reenable_fails`).  The theorems below are about the repaired code (`Config.fix = true`, `fix:`
commits ad039b3 and 8838381 of /repo): the block is evaluated in every state, returns the dispatch FSM to
DISPATCH_COMMAND, and re-arms the advertisement with `expected_sequence_number - 1`.

`reenable_readvertises` quantifies over **every** model state `s` in which the raw receiver is not in
its two-cycle CHECK_PACKET / `new_packet` window (`RxQuiet`, i.e. no header is being taken over in the
very cycle the link goes down) and every input `i0` with `(last_enable & ~enable) | usb_reset` and no
valid word on the sink.
Environment afterwards: while the link is down and until the advertisement is complete the sink is
silent and the transmitter requests no LRTY (`DisIn`, `EnIn`: a partner cannot send headers or LBADs
before it has been given credits again), and the link command that was in flight when the link went
down has left the generator by the time `enable` rises (`hidle`; it is needed of a generator without
abort input, `Config.abort = false`, and discharged for the one reset by `link_reset`, see the section
on the second defect below).
-/
namespace LunaVerif.HeaderRx

def fixed : Config := { fix := true, downstream := false }

/-- raw receiver outside its two-cycle check / new_packet window -/
def RxQuiet (r : RawRx.State) : Prop := r.newPkt = false ∧ r.st ≠ .check

theorem rxQuiet_step (r : RawRx.State) (i : RawRx.In) (e : Nat) (hq : RxQuiet r) (hv : i.valid = false) :
    RxQuiet (RawRx.step r i e) := by
  rw [RawRx.step_invalid hq.2 hv]; exact ⟨rfl, hq.2⟩

/-- The receive bookkeeping right after a link-down / reset event, as long as nothing has been
dispatched yet. -/
structure Fresh (s : State) : Prop where
  bf : s.bf = 0
  rp : s.rp = 0
  wp : s.wp = 0
  acks : s.acks = 1
  cti : s.cti = 4
  nc : s.nextCredit = 0
  na : s.nextAck = (s.expSeq + 7) % 8
  lrty : s.lrty = false
  lbad : s.lbad = false
  ka : s.keepalive = false
  ign : s.ignore = false
  fsm : s.fsm = .dispatch
  rx : RxQuiet s.rx

/-- **C38 (a)** with the repair, a falling edge of `enable` or a `usb_reset` makes the receive state
fresh in the next cycle from *every* state (whatever command was being sent), provided no header is
being taken over in that very cycle (`RxQuiet`) and the sink is silent in it. -/
theorem reset_makes_fresh (c : Config) (hc : c.fix = true) (s : State) (i : In) (hr : resetCond s i = true)
    (hq : RxQuiet s.rx) (hv : i.sink.valid = false) :
    Fresh (step c s i).1 ∧ (step c s i).1.expSeq = (if i.usbReset then 0 else s.expSeq) := by
  have hrn : resetNow c s i = true := by simp [resetNow, hr, hc]
  have hacc : accept s = false := by simp [accept, hq.1]
  refine ⟨⟨?_, ?_, ?_, ?_, ?_, ?_, ?_, ?_, ?_, ?_, ?_, ?_, rxQuiet_step _ _ _ hq hv⟩, ?_⟩ <;>
    (simp only [step_bf, step_rp, step_wp, step_acks, step_cti, step_nextCredit, step_nextAck, step_lrty,
      step_lbad, step_keepalive, step_ignore, step_fsm, step_expSeq, fsmNext, hrn, hr, hc, hacc]
     cases i.usbReset <;> simp)

/-- What is needed for a correct advertisement once the link comes up again (preserved while the link
is down). -/
structure Armed (s : State) : Prop where
  bf : s.bf = 0
  acks : s.acks = 1
  cti : s.cti = 4
  nc : s.nextCredit = 0
  na : s.nextAck = (s.expSeq + 7) % 8
  lrty : s.lrty = false
  fsm : s.fsm = .dispatch
  rx : RxQuiet s.rx

theorem Fresh.armed {s : State} (h : Fresh s) : Armed s :=
  ⟨h.bf, h.acks, h.cti, h.nc, h.na, h.lrty, h.fsm, h.rx⟩

/-- inputs while the link is down: no sink traffic, no retry request from the transmitter -/
def DisIn (i : In) : Prop := i.enable = false ∧ i.sink.valid = false ∧ i.retryRequired = false
/-- inputs after the link came up, until the advertisement is complete -/
def EnIn (i : In) : Prop := i.enable = true ∧ i.usbReset = false ∧ i.sink.valid = false ∧ i.retryRequired = false

def run (c : Config) : State → List In → State
  | s, [] => s
  | s, i :: is => run c (step c s i).1 is

theorem dis_step (c : Config) (hc : c.fix = true) (s : State) (i : In) (h : Armed s) (hi : DisIn i) :
    Armed (step c s i).1 ∧ (s.gen = .idle → (step c s i).1.gen = .idle) := by
  obtain ⟨hen, hv, hrr⟩ := hi
  have hacc : accept s = false := by simp [accept, h.rx.1]
  have hpop : pop s i = false := by simp [pop, qValid, h.bf]
  have hlg : lgoodDone s i = false := by simp [lgoodDone, h.fsm]
  have hlc : lcrdDone s i = false := by simp [lcrdDone, h.fsm]
  have hgen : generate s = false := by simp [generate, h.fsm]
  refine ⟨⟨?_, ?_, ?_, ?_, ?_, ?_, ?_, ?_⟩, ?_⟩
  · simp [step_bf, hacc, hpop, updown, h.bf]
  · simp [step_acks, hacc, hlg, updown, h.acks]
  · simp [step_cti, hpop, hlc, updown, h.cti]
  · simp [step_nextCredit, hlc, h.nc]
  · simp only [step_nextAck, step_expSeq, hacc, hlg, hc, resetNow, h.fsm, h.na]
    cases resetCond s i <;> cases i.usbReset <;> simp
  · simp [step_lrty, hrr, h.lrty, h.fsm]
  · simp [step_fsm, fsmNext, h.fsm, hen]
  · exact rxQuiet_step _ _ _ h.rx hv
  · intro hg; rw [step_gen]; split
    · rfl
    · simp [genNext, hg, hgen]

theorem dis_run (c : Config) (hc : c.fix = true) (dis : List In) : ∀ (s : State), Armed s →
    (∀ i ∈ dis, DisIn i) → Armed (run c s dis) ∧ (s.gen = .idle → (run c s dis).gen = .idle) := by
  induction dis with
  | nil => intro s h _; exact ⟨h, id⟩
  | cons i is ih =>
    intro s h hd
    obtain ⟨a, b⟩ := dis_step c hc s i h (hd i (by simp))
    obtain ⟨a', b'⟩ := ih _ a (fun j hj => hd j (by simp [hj]))
    exact ⟨a', fun hg => b' (b hg)⟩

/-- the commands the receiver must start with: LGOOD_a, LCRD_A, LCRD_B, LCRD_C, LCRD_D -/
def expectedCmds (a : Nat) : List (Nat × Nat) := [(LGOOD, a), (LCRD, 0), (LCRD, 1), (LCRD, 2), (LCRD, 3)]

/-- the link commands completed on the wire, in order: (command, subtype) -/
def cmdStep (s : State) (i : In) (log : List (Nat × Nat)) : List (Nat × Nat) :=
  if done s i then log ++ [(s.gCmd, s.gSub)] else log

def runLog (c : Config) : State → List (Nat × Nat) → List In → List (Nat × Nat)
  | _, log, [] => log
  | s, log, i :: is => runLog c (step c s i).1 (cmdStep s i log) is

/-- What the receiver still owes when `n` of the five advertisements have completed on the wire: the LGOOD while
`n = 0`, then the credits `n - 1 … 3`; the dispatch FSM is choosing, or driving the command that is due.
The reset arms one LGOOD and four LCRDs (`acks = 1`, `cti = 4`); the LGOOD is the first to go, so once it is out
`5 - n` of the four LCRDs remain. -/
structure Owes (c : Config) (a n : Nat) (s : State) : Prop where
  bf   : s.bf = 0
  rx   : RxQuiet s.rx
  lrty : s.lrty = false
  gen  : GenOk c s
  acks : s.acks = if n = 0 then 1 else 0
  cti  : s.cti = if n = 0 then 4 else 5 - n
  nc   : s.nextCredit = n - 1
  na   : n = 0 → s.nextAck = a
  fsm  : s.fsm = .dispatch ∨ s.fsm = if n = 0 then .sendAcks else .issueCredits

/-- The advertisement after `enable` has risen, `log` = the commands completed so far: they agree with the expected five
as far as both go, and while fewer than five are out the receiver owes the rest. -/
structure AdvInv (c : Config) (a : Nat) (s : State) (log : List (Nat × Nat)) : Prop where
  pre : ∀ k, k < log.length → k < 5 → log[k]? = (expectedCmds a)[k]?
  st  : log.length < 5 → Owes c a log.length s

theorem pre_snoc {α : Type} {log exp : List α} {x : α} (h : ∀ k, k < log.length → k < 5 → log[k]? = exp[k]?)
    (hx : log.length < 5 → exp[log.length]? = some x) :
    ∀ k, k < (log ++ [x]).length → k < 5 → (log ++ [x])[k]? = exp[k]? := by
  intro k hk h5
  rw [List.length_append, List.length_singleton] at hk
  by_cases hkl : k < log.length
  · rw [List.getElem?_append_left hkl]; exact h k hkl h5
  · obtain rfl : k = log.length := by omega
    rw [List.getElem?_append_right (Nat.le_refl _), hx h5]; simp

section owes
variable {c : Config} {a n : Nat} {s : State} {i : In}

/-- the registers every cycle of the advertisement leaves alone, and the generator relation -/
theorem Owes.keep (h : Owes c a n s) (ha : a < 8) (hn : n < 5) (hi : EnIn i) :
    (step c s i).1.bf = 0 ∧ RxQuiet (step c s i).1.rx ∧ (step c s i).1.lrty = false ∧ GenOk c (step c s i).1 := by
  obtain ⟨hen, hrst, hv, hrr⟩ := hi
  have u : Up i := ⟨hen, hrst⟩
  have hnr := u.no_reset (c := c) (s := s)
  refine ⟨by simp [step_bf, hnr, accept, h.rx.1, pop, qValid, updown, h.bf], rxQuiet_step _ _ _ h.rx hv,
    by simp [step_lrty, hnr, hrr, h.lrty], genOk_step h.gen u ?_⟩
  have := h.nc
  rcases h.fsm with q | q
  · simp only [genSub, q]; omega
  · by_cases h0 : n = 0
    · have := h.na h0; simp only [genSub, q, h0, if_true]; omega
    · simp only [genSub, q, h0, if_false]; omega

/-- a cycle in which no command completes: the dispatch FSM may choose — the command that is due — nothing else
moves -/
theorem Owes.wait (h : Owes c a n s) (ha : a < 8) (hn : n < 5) (hi : EnIn i) (hd : done s i = false) :
    Owes c a n (step c s i).1 := by
  obtain ⟨k1, k2, k3, k4⟩ := h.keep ha hn hi
  obtain ⟨hen, hrst, hv, hrr⟩ := hi
  have u : Up i := ⟨hen, hrst⟩
  have hnr := u.no_reset (c := c) (s := s)
  have hacc : accept s = false := by simp [accept, h.rx.1]
  have hpop : pop s i = false := by simp [pop, qValid, h.bf]
  have hlg : lgoodDone s i = false := by simp [lgoodDone, hd]
  have hlc : lcrdDone s i = false := by simp [lcrdDone, hd]
  refine ⟨k1, k2, k3, k4, ?_, ?_, ?_, ?_, ?_⟩
  · rw [← h.acks]; simp [step_acks, hnr, hacc, hlg, updown]
  · rw [← h.cti]; simp [step_cti, hnr, hpop, hlc, updown]
  · rw [← h.nc]; simp [step_nextCredit, hnr, hlc]
  · intro h0; rw [← h.na h0]; simp [step_nextAck, hnr, hlg]
  · rw [step_fsm, fsmNext, u.no_fixreset]
    rcases h.fsm with q | q
    · right
      by_cases h0 : n = 0
      · simp [q, hen, dispatchNext, h.lrty, h.acks, h0]
      · have : 5 - n ≠ 0 := by omega
        simp [q, hen, dispatchNext, h.lrty, h.acks, h.cti, h0, this]
    · right
      by_cases h0 : n = 0 <;> simp [q, h0, hd]

/-- a cycle in which a command completes: it is the one that is due, and the next one is owed -/
theorem Owes.pay (h : Owes c a n s) (ha : a < 8) (hn : n < 5) (hi : EnIn i) (hd : done s i = true) :
    (expectedCmds a)[n]? = some (s.gCmd, s.gSub) ∧ (n + 1 < 5 → Owes c a (n + 1) (step c s i).1) := by
  obtain ⟨k1, k2, k3, k4⟩ := h.keep ha hn hi
  obtain ⟨hen, hrst, hv, hrr⟩ := hi
  have u : Up i := ⟨hen, hrst⟩
  have hnr := u.no_reset (c := c) (s := s)
  have hnf := u.no_fixreset (c := c) (s := s)
  have hacc : accept s = false := by simp [accept, h.rx.1]
  have hpop : pop s i = false := by simp [pop, qValid, h.bf]
  obtain ⟨hfd, hcmd, hsub⟩ := genOk_done h.gen hd
  have hf := h.fsm.resolve_left hfd
  by_cases h0 : n = 0
  · subst h0
    simp only [if_true] at hf
    refine ⟨by simp [expectedCmds, hcmd, hsub, genCmd, genSub, hf, h.na rfl],
      fun _ => ⟨k1, k2, k3, k4, ?_, ?_, ?_, ?_, ?_⟩⟩
    · simp [step_acks, hnr, hacc, lgoodDone, hf, hd, updown, h.acks]
    · simp [step_cti, hnr, hpop, lcrdDone, hf, updown, h.cti]
    · simp [step_nextCredit, hnr, lcrdDone, hf, h.nc]
    · intro h1; cases h1
    · left; simp [step_fsm, fsmNext, hnf, hf, hd, h.acks]
  · simp only [h0, if_false] at hf
    have hlen : n = 1 ∨ n = 2 ∨ n = 3 ∨ n = 4 := by omega
    refine ⟨?_, fun h5 => ⟨k1, k2, k3, k4, ?_, ?_, ?_, ?_, ?_⟩⟩
    · simp only [hcmd, hsub, genCmd, genSub, hf, h.nc]
      rcases hlen with e | e | e | e <;> simp [e, expectedCmds]
    · simp [step_acks, hnr, hacc, lgoodDone, hf, updown, h.acks, h0]
    · simp only [step_cti, hnr, hpop, lcrdDone, hf, hd, updown, h.cti, h0]; simp; omega
    · simp only [step_nextCredit, hnr, lcrdDone, hf, hd, h.nc]; simp; omega
    · intro h1; omega
    · right; simp only [step_fsm, fsmNext, hnf, hf, hd, h.cti, h0]
      have : (5 - n == 1) = false := by simp; omega
      simp [this]
end owes

theorem adv_step (c : Config) (a : Nat) (ha : a < 8) (s : State) (log : List (Nat × Nat)) (i : In)
    (h : AdvInv c a s log) (hi : EnIn i) : AdvInv c a (step c s i).1 (cmdStep s i log) := by
  unfold cmdStep
  by_cases hL : log.length < 5
  · cases hd : done s i
    · rw [if_neg Bool.false_ne_true]
      exact ⟨h.pre, fun _ => (h.st hL).wait ha hL hi hd⟩
    · obtain ⟨p1, p2⟩ := (h.st hL).pay ha hL hi hd
      rw [if_pos rfl]
      exact ⟨pre_snoc h.pre fun _ => p1, fun h5 => by
        rw [List.length_append, List.length_singleton] at h5 ⊢; exact p2 h5⟩
  · -- the advertisement is complete: later commands do not touch the first five
    split
    · exact ⟨pre_snoc h.pre (by omega), fun h5 => by simp at h5; omega⟩
    · exact ⟨h.pre, fun h5 => by omega⟩

theorem adv_run (c : Config) (a : Nat) (ha : a < 8) (en : List In) : ∀ (s : State) (log : List (Nat × Nat)),
    AdvInv c a s log → (∀ i ∈ en, EnIn i) → AdvInv c a (run c s en) (runLog c s log en) := by
  induction en with
  | nil => intro s log h _; exact h
  | cons i is ih =>
    intro s log h he
    exact ih _ _ (adv_step c a ha s log i h (he i (by simp))) (fun j hj => he j (by simp [hj]))

theorem armed_adv (c : Config) (s : State) (h : Armed s) (hg : s.gen = .idle) :
    AdvInv c ((s.expSeq + 7) % 8) s [] :=
  ⟨fun k hk => by simp at hk, fun _ => ⟨h.bf, h.rx, h.lrty, ⟨fun _ => hg, fun hb => absurd hg hb⟩, h.acks, h.cti,
    h.nc, fun _ => h.na, Or.inl h.fsm⟩⟩

/-- **C38** (repaired code; hypotheses as described at the head of the file).  From every state with
the raw receiver quiet, when `enable` falls or `usb_reset` is asserted:
(1) the receive state is fresh in the next cycle; (2) it stays armed while the link is down; (3) after
`enable` rises the first five link commands completed on the wire are LGOOD_(n-1), LCRD_A, LCRD_B,
LCRD_C, LCRD_D, where n is the expected sequence number (0 after a USB reset) — stated for every prefix,
so it holds however long the generator is kept waiting. -/
theorem reenable_readvertises (c : Config) (hc : c.fix = true) (s : State) (i0 : In)
    (hr : resetCond s i0 = true) (hq : RxQuiet s.rx) (hv : i0.sink.valid = false)
    (dis en : List In) (hdis : ∀ i ∈ dis, DisIn i) (hen : ∀ i ∈ en, EnIn i)
    (hidle : (run c (step c s i0).1 dis).gen = .idle) :
    Fresh (step c s i0).1 ∧
    (step c s i0).1.expSeq = (if i0.usbReset then 0 else s.expSeq) ∧
    Armed (run c (step c s i0).1 dis) ∧
    ∀ k, k < (runLog c (run c (step c s i0).1 dis) [] en).length → k < 5 →
      (runLog c (run c (step c s i0).1 dis) [] en)[k]? =
        (expectedCmds (((run c (step c s i0).1 dis).expSeq + 7) % 8))[k]? := by
  obtain ⟨hf, he⟩ := reset_makes_fresh c hc s i0 hr hq hv
  obtain ⟨ha, _⟩ := dis_run c hc dis _ hf.armed hdis
  refine ⟨hf, he, ha, ?_⟩
  exact (adv_run c _ (Nat.mod_lt _ (by decide)) en _ _ (armed_adv c _ ha hidle) hen).pre

/-- While the link is down (`DisIn`, from a quiet raw receiver) and no USB reset is signalled the expected sequence
number stays: the `expSeq` after `dis` in the last clause of `reenable_readvertises` is then the one its second clause gives for the cycle after `i0`. -/
theorem dis_expSeq (c : Config) (dis : List In) : ∀ (s : State), RxQuiet s.rx →
    (∀ i ∈ dis, DisIn i ∧ i.usbReset = false) → (run c s dis).expSeq = s.expSeq := by
  induction dis with
  | nil => intro s _ _; rfl
  | cons i is ih =>
    intro s hq hd
    obtain ⟨⟨_, hv, _⟩, hu⟩ := hd i (by simp)
    have h1 : (step c s i).1.expSeq = s.expSeq := by simp [step_expSeq, hu, accept, hq.1]
    have := ih (step c s i).1 (rxQuiet_step _ _ _ hq hv) (fun j hj => hd j (by simp [hj]))
    simp only [run]; rw [this, h1]

/-! ## The generator has no abort input (second defect) and its repair

As coded the `LinkCommandGenerator` completes a command it has started whenever `source.ready` allows — also
after the link has gone down and come up again (in the link layer its stream is stalled by the training-set
stream while the link retrains, so this is the normal course of events when the link goes down mid-command).
The dispatch FSM cannot tell whose completion it sees: a `done` in SEND_ACKS is taken for the LGOOD
(`stale_completion_taken_for_lgood`).  So when `enable` rises while the stale command is still in the
generator, the wire shows the stale command followed by LCRD_A..D and **no sequence number advertisement**
(`reenable_stale_fails`, confirmed on the gateware).  Repair (`Config.abort`, `fix:` commit 79c2d91 of
/repo): the generator is reset by `link_reset`; then `hidle` of `reenable_readvertises` always holds (`reenable_readvertises_abort`). -/

/-- As coded the dispatch FSM takes *any* completion while it is in SEND_ACKS for the LGOOD: whatever command
the generator has latched is what goes out, and `acks_to_send` / `next_header_to_ack` advance. -/
theorem stale_completion_taken_for_lgood (c : Config) (s : State) (i : In) (log : List (Nat × Nat))
    (hf : s.fsm = .sendAcks) (hg : s.gen = .command) (hr : i.srcReady = true)
    (hn : resetNow c s i = false) (ha : accept s = false) :
    cmdStep s i log = log ++ [(s.gCmd, s.gSub)] ∧ (step c s i).1.acks = (s.acks + 7) % 8 ∧
    (step c s i).1.nextAck = (s.nextAck + 1) % 8 := by
  have hd : done s i = true := by simp [done, hg, hr]
  refine ⟨by simp [cmdStep, hd], ?_, ?_⟩
  · simp [step_acks, hn, ha, lgoodDone, hf, hd, updown]
  · simp [step_nextAck, hn, lgoodDone, hf, hd]

/-- with the repair the generator is idle in the cycle after every `link_reset` -/
theorem reset_aborts_generator (c : Config) (ha : c.abort = true) (s : State) (i : In)
    (hr : resetCond s i = true) : (step c s i).1.gen = .idle := by
  simp [step_gen, ha, hr]

/-- **C38** (both repairs): `reenable_readvertises` without the hypothesis that the generator has drained —
whatever command was in flight when the link went down, and however `source.ready` behaves while the link is
down, the first five commands after the rise of `enable` are LGOOD_(n-1), LCRD_A..D. -/
theorem reenable_readvertises_abort (c : Config) (hc : c.fix = true) (ha : c.abort = true) (s : State) (i0 : In)
    (hr : resetCond s i0 = true) (hq : RxQuiet s.rx) (hv : i0.sink.valid = false)
    (dis en : List In) (hdis : ∀ i ∈ dis, DisIn i) (hen : ∀ i ∈ en, EnIn i) :
    Fresh (step c s i0).1 ∧
    (step c s i0).1.expSeq = (if i0.usbReset then 0 else s.expSeq) ∧
    Armed (run c (step c s i0).1 dis) ∧
    (run c (step c s i0).1 dis).gen = .idle ∧
    ∀ k, k < (runLog c (run c (step c s i0).1 dis) [] en).length → k < 5 →
      (runLog c (run c (step c s i0).1 dis) [] en)[k]? =
        (expectedCmds (((run c (step c s i0).1 dis).expSeq + 7) % 8))[k]? := by
  have hidle : (run c (step c s i0).1 dis).gen = .idle :=
    (dis_run c hc dis _ (reset_makes_fresh c hc s i0 hr hq hv).1.armed hdis).2
      (reset_aborts_generator c ha s i0 hr)
  obtain ⟨h1, h2, h3, h4⟩ := reenable_readvertises c hc s i0 hr hq hv dis en hdis hen hidle
  exact ⟨h1, h2, h3, hidle, h4⟩

/-! ## The defect in the code as found, and non-vacuity -/

def offCyc : In :=
  { sink := ⟨false, 0, 0⟩, srcReady := true, enable := false, usbReset := false, qReady := false,
    retryReceived := false, retryRequired := false, keepaliveRequired := false, rejectPower := false }
def onCyc : In := { offCyc with enable := true }

/-- The reset state three cycles after `enable` rose (`run c init [onCyc, onCyc, onCyc]`, either `fix`): SEND_ACKS, the
generator in its last state with the first LGOOD (subtype 7) latched, so that it finishes with the next
`source.ready`. -/
def midLgood : State :=
  { init with fsm := .sendAcks, gen := .command, gCmd := LGOOD, gSub := 7, lastEnable := true }

/-- **F14**: in the code as found the falling edge of `enable` during SEND_ACKS is lost: after the link
comes up again the first command is LCRD_A — no sequence-number advertisement. -/
theorem reenable_fails :
    let c : Config := { fix := false }
    let s1 := run c (step c midLgood offCyc).1 [offCyc, offCyc]
    resetCond midLgood offCyc = true ∧ RxQuiet midLgood.rx ∧ s1.gen = .idle ∧
    (runLog c s1 [] (List.replicate 8 onCyc))[0]? = some (LCRD, 0) ∧
    (expectedCmds ((s1.expSeq + 7) % 8))[0]? = some (LGOOD, 7) := by
  refine ⟨by decide, ⟨by decide, by decide⟩, by decide, by decide +kernel, by decide⟩

/-- the same scenario on the repaired code: all five commands, in order -/
example :
    let c : Config := { fix := true }
    let s1 := run c (step c midLgood offCyc).1 [offCyc, offCyc]
    s1.gen = .idle ∧ runLog c s1 [] (List.replicate 20 onCyc) = expectedCmds 7 := by
  refine ⟨by decide, by decide +kernel⟩


/-- after the advertisement, a keepalive requested, the generator stalled in its header word -/
def midKeepalive : State :=
  { init with acks := 0, cti := 0, nextAck := 0, fsm := .sendKeepalive, gen := .header, gCmd := LUP, gSub := 0,
              lastEnable := true }
def stallOff : In := { offCyc with srcReady := false }
def stallOn : In := { onCyc with srcReady := false }

/-- **Second defect** (first repair only): `enable` falls while the LUP is stalled in the generator and rises
again before it has been sent: the wire shows LUP, LCRD_A..D — the stale command is taken for the
advertisement, no LGOOD is sent. -/
theorem reenable_stale_fails :
    let c : Config := { fix := true }
    let s1 := run c (step c midKeepalive stallOff).1 [stallOff, stallOff]
    resetCond midKeepalive stallOff = true ∧ RxQuiet midKeepalive.rx ∧ s1.gen = .header ∧
    runLog c s1 [] ([stallOn, stallOn] ++ List.replicate 20 onCyc) =
      [(LUP, 0), (LCRD, 0), (LCRD, 1), (LCRD, 2), (LCRD, 3)] := by
  refine ⟨by decide, ⟨by decide, by decide⟩, by decide, by decide +kernel⟩

/-- the same scenario with the generator abort: the stale LUP is dropped, all five commands in order -/
example :
    let c : Config := { fix := true, abort := true }
    let s1 := run c (step c midKeepalive stallOff).1 [stallOff, stallOff]
    s1.gen = .idle ∧
    runLog c s1 [] ([stallOn, stallOn] ++ List.replicate 20 onCyc) = expectedCmds 7 := by
  refine ⟨by decide, by decide +kernel⟩

end LunaVerif.HeaderRx
