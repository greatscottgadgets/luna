import LunaVerif.Lemmas.C24Converge
/-!
# C24 — ULPI control registers always converge to the requested UTMI settings

"Whenever the UTMI control inputs (speed, termination, operating mode, suspend, pull-downs, VBUS
controls) change, the link eventually writes the new values to the PHY's Function Control and OTG
Control registers, each write carrying the value for the register it addresses; once no change is
pending and the bus is idle, the PHY's registers equal the requested settings. Register writes and
packet transmissions never block each other indefinitely."

The model is the code after the `fix:` commits 566e33b (F11: latched address/data and credit by latched
address) and 3fe3d98 (cross gating of `bus_idle`) of /repo.  On the unfixed code `write_carries_own_value`,
`converges_partial` and `no_mutual_blocking` fail on the real gateware (replays in notes/C24.md).

Theorems of this file, first part (components): `write_carries_own_value`, the translator's
one-cycle facts `settled_no_request`, `accept_latches`, `credit`, `no_credit` (no `done`: both shadows stay),
`converges_partial` (one request / latch / commit / credit round), `no_mutual_blocking` (exclusion invariant of
`Utmi.run`), `deadlock_unreachable`, start conditions.

Second part (closed system `World` = translator + PHY-side observer on its pins + environment
monitor, `Lemmas/C24World.lean`; what one cycle does to each component in `Lemmas/C24Step.lean`; proofs
in `Lemmas/C24Coh.lean`, `C24RankStep.lean`, `C24Converge.lean`):

* `phy_tracks_window` — for every PHY obeying `safeCycle` (E1 no NXT in the turnaround cycle, E2 no
  abort of an accepted link transmission, E3 NXT with an idle parser only when a byte is on the bus)
  the observer on the pins commits exactly the register window's completed writes, its registers
  equal the shadow registers (or the latched pair while `done` is shown);
* `write_carries_requested_value` — whenever the window reports `done`, the PHY register it addressed
  holds the value the control inputs requested for that register in the cycle the write was accepted
  (whatever the inputs did during the write), `settled_regs_equal_requested` — nothing pending ⇒ PHY
  registers = requested settings; both for all histories and every such PHY;
* `converges` / `converges_from_reset` — control inputs constant, bounded fairness `liveCycle K T`
  (`K`, `T` universally quantified), `N` DIR-high cycles in the history: after
  `convergeBound K T N = 3(2K+6) + T + (2K+5)·N` cycles PHY registers = shadows = requested settings,
  nothing pending;
* `tx_delay_bounded`, `write_delay_bounded` — `no_mutual_blocking` at history level;
* `dir_low_often_is_not_enough` — why the DIR hypothesis is a budget `N` of DIR-high cycles and not
  "DIR is low at least once every D cycles": a PHY that raises DIR every third cycle satisfies every
  other hypothesis, and no register write ever completes (true of any ULPI link: a register write
  needs four consecutive DIR-low cycles at the very least).
-/
namespace LunaVerif.Ulpi

/-! ## One register write, seen from the PHY -/

/-- The register window and the PHY-side observer on the window's pins (`ulpi_data_out`,
`ulpi_stop` are registers, so the PHY sees the values from before the edge). -/
def joint (x : Window × PhyRegs) (i : WindowIn) : Window × PhyRegs :=
  (x.1.step i, x.2.step i.dir i.nxt x.1.dataOut x.1.stop)

def jointRun : Window × PhyRegs → List WindowIn → Window × PhyRegs
  | x, [] => x
  | x, i :: is => jointRun (joint x i) is

theorem jointRun_append (x : Window × PhyRegs) (a b : List WindowIn) :
    jointRun x (a ++ b) = jointRun (jointRun x a) b := by
  induction a generalizing x with
  | nil => rfl
  | cons i is ih => simp [jointRun, ih]

/-- A cycle with DIR low and the given NXT; every other input of the window (address, write_data,
read/write requests, data lines) is arbitrary — in particular the *live* `address`/`write_data` may
change at every cycle of the write. -/
def lowDir (i : WindowIn) (nxt : Bool) : WindowIn := { i with dir := false, nxt := nxt }

/-- The cycles of one uninterrupted write after its acceptance: START_WRITE, `ws1.length` waits for
the command, its acceptance, `ws2.length` waits for the data, its acceptance, STOPPING. -/
def writeSchedule (x0 : WindowIn) (ws1 : List WindowIn) (x1 : WindowIn) (ws2 : List WindowIn)
    (x2 x3 : WindowIn) : List WindowIn :=
  [lowDir x0 false] ++ ws1.map (lowDir · false) ++ [lowDir x1 true] ++ ws2.map (lowDir · false)
    ++ [lowDir x2 true] ++ [lowDir x3 false]

theorem jointRun_fix (x : Window × PhyRegs) (f : WindowIn → WindowIn) (ws : List WindowIn)
    (h : ∀ i, joint x (f i) = x) : jointRun x (ws.map f) = x := by
  induction ws with
  | nil => rfl
  | cons i is ih => rw [List.map, jointRun, h, ih]

/-- **write_carries_own_value.**  Take the window in START_WRITE holding the latched pair
`(a, v)` (a one of the two control-register addresses) and the PHY's bus parser idle.  For all NXT
waits (`ws1`, `ws2`) and *whatever the live address / write_data / request inputs do in every cycle
of the write*: the window finishes in IDLE with `done`, still holding `(a, v)`, and the PHY has
committed exactly the write `a := v` — the value latched for `a` when the request was accepted —
`ws1.length + ws2.length + 4` cycles later. -/
theorem write_carries_own_value (w : Window) (p : PhyRegs) (a v : Nat)
    (x0 : WindowIn) (ws1 : List WindowIn) (x1 : WindowIn) (ws2 : List WindowIn) (x2 x3 : WindowIn)
    (ha : a = ADDR_FUNCTION_CONTROL ∨ a = ADDR_OTG_CONTROL)
    (hs : w.st = .startWrite) (h1 : w.curAddr = a) (h2 : w.curWrite = v) (hp : p.bus = .idle) :
    let r := jointRun (w, p) (writeSchedule x0 ws1 x1 ws2 x2 x3)
    r.1.st = .idle ∧ r.1.done = true ∧ r.1.curAddr = a ∧ r.1.curWrite = v ∧ r.1.dataOut = 0 ∧
    r.1.outReq = false ∧ r.1.stop = false ∧ r.2 = p.commit a v := by
  obtain ⟨st, ca, cw, d, oq, sp, dn, rd⟩ := w
  obtain ⟨b, r4, rA, o, n⟩ := p
  simp only at hs h1 h2 hp
  subst hs h1 h2 hp
  obtain ⟨hdiv, hmod⟩ := regWrite_cmd ha
  -- the two machines are run over the schedule: each wait cycle leaves the pair as it is
  -- (`jointRun_fix`), the four others are single steps; `hdiv`, `hmod` parse the command byte
  simp [writeSchedule, jointRun_append, jointRun, joint, Window.step, lowDir, PhyRegs.step, jointRun_fix,
    PhyRegs.commit, COMMAND_REG_WRITE, hdiv, hmod]

/-- Non-vacuity: a write of 0x45 to Function Control with waits 2 and 1 while the live inputs point
elsewhere. -/
example : (jointRun (⟨.startWrite, 4, 0x45, 0, false, false, false, 0⟩, {})
      (writeSchedule ⟨0, true, true, 0x0A, 0x99, true, true⟩ [⟨0, false, false, 0, 0, false, false⟩, ⟨1, false, true, 9, 9, true, false⟩]
        ⟨0, false, false, 0x0A, 0, false, false⟩ [⟨0, false, false, 0, 0, false, false⟩] ⟨0, false, false, 0, 0, false, false⟩
        ⟨0, false, false, 0, 0, false, false⟩)).2.r04 = 0x45 := by decide

/-! ## The control translator: request, latch, credit -/

theorem settled_no_request (k : Ctl) (v04 v0A : Nat) (bi dn : Bool) (h4 : k.cur04 = v04) (hA : k.cur0A = v0A) :
    (k.comb v04 v0A bi dn).writeReq = false ∧ (k.comb v04 v0A bi dn).address = 0 := by
  simp [Ctl.comb, h4, hA]

theorem accept_latches (w : Window) (i : WindowIn) (hs : w.st = .idle) (hw : i.writeReq = true) :
    (w.step i).st = .startWrite ∧ (w.step i).curAddr = i.address ∧ (w.step i).curWrite = i.writeData := by
  simp [Window.step, hs, hw]; split <;> simp

/-- The credit goes by the latched address and value, whatever the control inputs are at that moment (F11). -/
theorem credit (k : Ctl) (v04 v0A : Nat) (bi : Bool) (w : Window) (hd : w.done = true) :
    (w.curAddr = ADDR_FUNCTION_CONTROL → (k.step v04 v0A bi w).cur04 = w.curWrite ∧ (k.step v04 v0A bi w).cur0A = k.cur0A) ∧
    (w.curAddr = ADDR_OTG_CONTROL → (k.step v04 v0A bi w).cur0A = w.curWrite ∧ (k.step v04 v0A bi w).cur04 = k.cur04) := by
  simp [Ctl.step, hd, ADDR_FUNCTION_CONTROL, ADDR_OTG_CONTROL]
  constructor <;> intro h <;> simp [h]

theorem no_credit (k : Ctl) (v04 v0A : Nat) (bi : Bool) (w : Window) (hd : w.done = false) :
    (k.step v04 v0A bi w).cur04 = k.cur04 ∧ (k.step v04 v0A bi w).cur0A = k.cur0A := by
  simp [Ctl.step, hd]

/-- **converges_partial.**  One round of convergence, end to end over the components: shadows `k`,
requested values `(v04, v0A)` with a mismatch, bus granted, window idle and not `done`, PHY parser
idle.  Then (1) the request is accepted and the window latches the requested value of the register
the If/Elif selects; (2) for all NXT waits and all behaviours of the control inputs during the write
the PHY commits that very pair after `ws1.length + ws2.length + 4` further cycles; (3) at `done`
the shadow of that register — and only that one — becomes the committed value, for any control
inputs `(u04, u0A)` present then.  So after the round PHY register = shadow = value requested at
acceptance for the selected register, and a register whose shadow already agreed is not touched. -/
theorem converges_partial (k : Ctl) (v04 v0A : Nat) (w : Window) (p : PhyRegs) (xa : WindowIn)
    (x0 : WindowIn) (ws1 : List WindowIn) (x1 : WindowIn) (ws2 : List WindowIn) (x2 x3 : WindowIn)
    (u04 u0A : Nat) (ub : Bool)
    (hm : k.cur04 ≠ v04 ∨ k.cur0A ≠ v0A) (hw : w.st = .idle) (hd : w.done = false) (hp : p.bus = .idle) :
    let o := k.comb v04 v0A true w.done
    let a := if k.cur04 != v04 then ADDR_FUNCTION_CONTROL else ADDR_OTG_CONTROL
    let v := if k.cur04 != v04 then v04 else v0A
    let w1 := w.step { xa with address := o.address, writeData := o.writeData, readReq := false, writeReq := o.writeReq }
    let r := jointRun (w1, p) (writeSchedule x0 ws1 x1 ws2 x2 x3)
    let k' := k.step u04 u0A ub r.1
    o.writeReq = true ∧ o.address = a ∧ o.writeData = v ∧
    w1.st = .startWrite ∧ r.1.done = true ∧ r.2 = p.commit a v ∧
    (if k.cur04 != v04 then k'.cur04 = v04 ∧ k'.cur0A = k.cur0A else k'.cur0A = v0A ∧ k'.cur04 = k.cur04) := by
  intro o a v w1 r k'
  have hreq : o.writeReq = true := by
    simp only [o, request_iff_mismatch, hd]
    rcases hm with h | h <;> simp [h]
  -- the If/Elif selection (`request_pair`): `(a, v)` is the pair presented
  have hsel : o.address = a ∧ o.writeData = v := by
    rcases request_pair k v04 v0A true w.done hreq with ⟨ea, ev, hne⟩ | ⟨ea, ev, -, heq⟩
    · have hb : (k.cur04 != v04) = true := bne_iff_ne.mpr hne
      exact ⟨ea.trans (if_pos hb).symm, ev.trans (if_pos hb).symm⟩
    · have hb : ¬(k.cur04 != v04) = true := by simp [heq]
      exact ⟨ea.trans (if_neg hb).symm, ev.trans (if_neg hb).symm⟩
  have haa : a = ADDR_FUNCTION_CONTROL ∨ a = ADDR_OTG_CONTROL := by
    simp only [a]; split <;> simp
  obtain ⟨hst, hla, hlw⟩ : w1.st = .startWrite ∧ w1.curAddr = o.address ∧ w1.curWrite = o.writeData :=
    accept_latches w _ hw hreq
  obtain ⟨-, hdone, hca, hcw, -, -, -, hcommit⟩ := write_carries_own_value w1 p a v x0 ws1 x1 ws2 x2 x3 haa hst
    (hla.trans hsel.1) (hlw.trans hsel.2) hp
  have hr : jointRun (w1, p) (writeSchedule x0 ws1 x1 ws2 x2 x3) = r := rfl
  rw [hr] at hdone hca hcw hcommit
  refine ⟨hreq, hsel.1, hsel.2, hst, hdone, hcommit, ?_⟩
  have hc := credit k u04 u0A ub r.1 hdone
  rw [hca, hcw] at hc
  by_cases h : k.cur04 = v04
  · simpa [a, v, h] using hc.2 (by simp [a, h])
  · simpa [a, v, h] using hc.1 (by simp [a, h])

/-! ## Register writes and transmissions exclude each other and cannot dead-lock -/

/-- The exclusion invariant of the repaired cross gating: while the register window is busy the
control translator reports busy, the transmit translator is idle and has not claimed the bus (so the
pins show the window); and the window is never in a read state. -/
def Excl (s : Utmi) : Prop :=
  (s.win.busy = true → s.ctl.busy = true ∧ s.tx.st = .idle ∧ s.tx.outReq = false) ∧
  (s.win.st = .idle ∨ s.win.st = .startWrite ∨ s.win.st = .sendWriteAddress ∨ s.win.st = .holdWrite ∨
    s.win.st = .stopping)

/-- `Excl` is kept by a cycle of the closed system, whatever the PHY does: a busy window holds the
transmitter off through `ctl.busy`, and an idle window becomes busy only through a write request,
which is raised only of an idle, unclaimed transmitter and holds it off in the same cycle. -/
theorem excl_world (cfg : Config) (x : World) (i : UtmiIn) (h : Excl x.u) : Excl (x.step cfg i).u := by
  obtain ⟨h1, h2⟩ := h
  have ew := step_win cfg x i
  have held : x.u.ctl.busy = true ∨ (x.u.ctlOut i.ctrl).writeReq = true → x.u.tx.st = .idle →
      x.u.tx.outReq = false → ((x.u.ctlOut i.ctrl).writeReq || x.u.win.busy) = true →
      (x.step cfg i).u.ctl.busy = true ∧ (x.step cfg i).u.tx.st = .idle ∧ (x.step cfg i).u.tx.outReq = false := by
    intro hq hst hoq hb
    obtain ⟨et, -⟩ := step_tx_blocked cfg i (x := x) (by rw [← hst, ← hoq]) hq
    exact ⟨by rw [step_ctl]; exact hb, by rw [et], by rw [et]⟩
  by_cases hw : x.u.win.st = .idle
  · rw [Window.step_idle _ hw rfl] at ew
    cases hq : (x.u.ctlOut i.ctrl).writeReq
    · have hst : (x.step cfg i).u.win.st = .idle := by rw [ew]; simp only [Utmi.winIn, hq, Bool.false_eq_true, if_false]
      exact ⟨fun hb => by rw [Window.busy, hst] at hb; exact absurd hb (by decide), .inl hst⟩
    · obtain ⟨hst, hoq, -⟩ := writeReq_free hq
      refine ⟨fun _ => held (.inr hq) hst hoq (by rw [hq]; rfl), .inr (.inl ?_)⟩
      rw [ew]; simp only [Utmi.winIn, hq, if_true]
  · have hbz : x.u.win.busy = true := by simpa [Window.busy] using hw
    obtain ⟨hb, hst, hoq⟩ := h1 hbz
    refine ⟨fun _ => held (.inl hb) hst hoq (by rw [hbz, Bool.or_true]), ?_⟩
    rcases h2 with g | g | g | g | g
    · exact absurd g hw
    · rw [Window.step_startWrite _ g] at ew; rw [ew]; cases hd : i.phy.dir <;> simp [Utmi.winIn, hd]
    · rw [Window.step_sendWriteAddress _ g] at ew; rw [ew]; cases hd : i.phy.dir <;> cases hn : i.phy.nxt <;> simp [Utmi.winIn, hd, hn]
    · rw [Window.step_holdWrite _ g] at ew; rw [ew]; cases hd : i.phy.dir <;> cases hn : i.phy.nxt <;> simp [Utmi.winIn, hd, hn]
    · rw [Window.step_stopping _ g] at ew; rw [ew]; cases hd : i.phy.dir <;> simp [Utmi.winIn, hd]

theorem excl_step (cfg : Config) (s : Utmi) (i : UtmiIn) (h : Excl s) : Excl (s.step cfg i).1 :=
  excl_world cfg ⟨s, {}, {}⟩ i h

/-- **no_mutual_blocking** (safety half).  For every configuration and every history of PHY, UTMI
and control inputs from reset: the register window and the transmit translator never hold the bus
together.  In particular the dead-lock state of the unrepaired code — transmitter stalled in IDLE
with `ulpi_out_req` stuck high while the register window waits for an NXT the PHY cannot give,
because the mux hides the window — is unreachable. -/
theorem no_mutual_blocking (cfg : Config) (h : List UtmiIn) : Excl (Utmi.run cfg (Utmi.init cfg) h) := by
  suffices ∀ s, Excl s → Excl (Utmi.run cfg s h) from this _ (by simp [Excl, Utmi.init, Window.busy])
  induction h with
  | nil => intro s hs; exact hs
  | cons i is ih => intro s hs; exact ih _ (excl_step cfg s i hs)

theorem deadlock_unreachable (cfg : Config) (h : List UtmiIn) :
    ¬ ((Utmi.run cfg (Utmi.init cfg) h).win.busy = true ∧ (Utmi.run cfg (Utmi.init cfg) h).tx.outReq = true) := by
  intro ⟨a, b⟩
  have := (no_mutual_blocking cfg h).1 a
  simp [this.2.2] at b

/-- (progress, transmitter) Nothing pending, control translator not busy, DIR low, start-up over:
a transmission request claims the bus in that very cycle — a settled control translator never
delays a packet. -/
theorem tx_starts_when_settled (cfg : Config) (s : Utmi) (i : UtmiIn)
    (h4 : s.ctl.cur04 = functionControl i.ctrl) (hA : s.ctl.cur0A = otgControl i.ctrl)
    (hb : s.ctl.busy = false) (hd : i.phy.dir = false) (hr : s.phyReady = true) (hv : i.txValid = true)
    (ht : s.tx.st = .idle) :
    (s.step cfg i).1.tx.outReq = true := by
  simp [Utmi.step, Utmi.txBusIdle, Utmi.ctlOut, Ctl.comb, h4, hA, hb, hd, hr, hv, Tx.step, ht]

/-- (progress, register write) A pending change with the transmitter idle and unclaimed, start-up
over and the window idle: the write is accepted in that very cycle, and the transmitter does not
claim the bus in it — a write waits for at most the packet in progress. -/
theorem write_starts_when_tx_idle (cfg : Config) (s : Utmi) (i : UtmiIn)
    (hm : s.ctl.cur04 ≠ functionControl i.ctrl ∨ s.ctl.cur0A ≠ otgControl i.ctrl)
    (ht : s.tx.st = .idle) (hq : s.tx.outReq = false) (hr : s.phyReady = true)
    (hw : s.win.st = .idle) (hd : s.win.done = false) :
    (s.step cfg i).1.win.st = .startWrite ∧ (s.step cfg i).1.tx.outReq = false := by
  have hreq : (s.ctlOut i.ctrl).writeReq = true := by
    simp only [Utmi.ctlOut, request_iff_mismatch, Utmi.ctlBusIdle, Tx.busy, ht, hq, hr, hd]
    rcases hm with h | h <;> simp [h]
  constructor
  · simp only [Utmi.step]
    exact (accept_latches s.win _ hw hreq).1
  · simp [Utmi.step, Utmi.txBusIdle, hreq, Tx.step, ht, hq]

/-- (no pre-emption) Once the transmitter has claimed the bus no write is requested until it lets go. -/
theorem claimed_tx_not_preempted (s : Utmi) (c : Controls) (h : s.tx.outReq = true) :
    (s.ctlOut c).writeReq = false := by
  simp [Utmi.ctlOut, request_iff_mismatch, Utmi.ctlBusIdle, h]


/-! ## The PHY-side observer and the register window, for every legal PHY -/

def doneCount (cfg : Config) : Utmi → List UtmiIn → Nat
  | _, [] => 0
  | s, i :: is => (if s.win.done then 1 else 0) + doneCount cfg (s.step cfg i).1 is

theorem dones_run (cfg : Config) (x : World) (h : List UtmiIn) :
    (World.run cfg x h).e.dones = x.e.dones + doneCount cfg x.u h := by
  induction h generalizing x with
  | nil => rfl
  | cons i is ih =>
    simp only [World.run, doneCount, ih]
    simp only [step_u, step_e, Env.step]
    omega

/-- **phy_tracks_window.**  For every configuration and every history from reset whose PHY obeys
`safeCycle` in every cycle (E1 no NXT in the turnaround cycle, E2 no abort of an accepted link
transmission, E3 NXT with an idle parser only when a byte is on the bus) — whatever the UTMI
transmitter and the control inputs do: the observer attached to the translator's pins has committed
exactly the register window's completed writes.  Precisely, with `y` the state after the history:

* the number of writes the PHY committed equals the number of `done` pulses of the window (the one
  being shown included), and no write went to an address other than 0x04 / 0x0A;
* while `done` is low (window idle or in the middle of a write, transmissions included) the PHY's
  registers equal the shadow registers;
* while `done` is shown the register the window latched holds the latched value — which is the
  value the control inputs requested for that register in the cycle the write was accepted (ghost
  `acc04` / `acc0A` of the monitor), and which the control translator credits to that register's
  shadow at this clock edge (`credit`) — and the other one equals its shadow;
* the PHY's bus parser is inside a transmission exactly when the transmit translator is. -/
theorem phy_tracks_window (cfg : Config) (h : List UtmiIn)
    (hl : SafeOk cfg (World.init cfg) h = true) :
    let y := World.run cfg (World.init cfg) h
    y.p.writes = doneCount cfg (Utmi.init cfg) h + (if y.u.win.done then 1 else 0) ∧ y.p.other = 0 ∧
    (y.u.win.done = false → y.p.r04 = y.u.ctl.cur04 ∧ y.p.r0A = y.u.ctl.cur0A) ∧
    (y.u.win.done = true →
      (y.u.win.curAddr = ADDR_FUNCTION_CONTROL ∧ y.p.r04 = y.u.win.curWrite ∧ y.u.win.curWrite = y.e.acc04 ∧
        y.p.r0A = y.u.ctl.cur0A) ∨
      (y.u.win.curAddr = ADDR_OTG_CONTROL ∧ y.p.r0A = y.u.win.curWrite ∧ y.u.win.curWrite = y.e.acc0A ∧
        y.p.r04 = y.u.ctl.cur04)) ∧
    (y.p.bus = .transmitting ↔ y.u.tx.st = .transmit) := by
  intro y
  have hc : Coh y := coh_run cfg _ h (coh_init cfg) hl
  have hd : y.e.dones = doneCount cfg (Utmi.init cfg) h := by
    have := dones_run cfg (World.init cfg) h
    simp only [World.init, Nat.zero_add] at this
    exact this
  obtain ⟨h1, h2, h3⟩ := hc
  refine ⟨by rw [h2, hd], h1, ?_⟩
  cases hw : y.u.win.st <;> simp only [hw] at h3
  case idle =>
    obtain ⟨_, _, h4⟩ := h3
    rcases h4 with ⟨g1, _, gt, gb, ga, g4, gA⟩ | ⟨g1, _, g4, gA, gt⟩
    · rcases ga with ⟨ga, gv⟩ | ⟨ga, gv⟩ <;> simp_all [ADDR_FUNCTION_CONTROL, ADDR_OTG_CONTROL]
    · rcases gt with ⟨gt, gb⟩ | ⟨gt, gb⟩ | ⟨gt, gb⟩ <;> simp_all
  -- busy: `BusyCommon`; the read states are excluded by `Coh`
  all_goals obtain ⟨⟨_, gt, _, gd, g4, gA⟩, gb, _⟩ := h3 <;> simp_all

/-- **settled_regs_equal_requested** — the second clause of the property, for every history from reset
whose PHY obeys `safeCycle` and whatever the control inputs did: whenever no change is pending for the
control inputs `c` (both shadow registers equal the requested values, nothing being credited), the
PHY's registers equal the requested settings. -/
theorem settled_regs_equal_requested (cfg : Config) (h : List UtmiIn) (c : Controls)
    (hl : SafeOk cfg (World.init cfg) h = true) :
    let y := World.run cfg (World.init cfg) h
    y.u.win.done = false → y.u.ctl.cur04 = functionControl c → y.u.ctl.cur0A = otgControl c →
    y.p.r04 = functionControl c ∧ y.p.r0A = otgControl c := by
  intro y hd h4 hA
  obtain ⟨_, _, h3, _⟩ := phy_tracks_window cfg h hl
  obtain ⟨g4, gA⟩ := h3 hd
  exact ⟨g4.trans h4, gA.trans hA⟩

/-! ## Each write carries the value requested for the register it addresses -/

/-- The control inputs of the most recent cycle of the history in which the register window accepted
a write request (`r` if there is none), computed on the translator alone. -/
def lastAccepted (cfg : Config) : Utmi → List UtmiIn → Option Controls → Option Controls
  | _, [], r => r
  | s, i :: is, r =>
    lastAccepted cfg (s.step cfg i).1 is
      (if s.win.st == .idle && (s.ctlOut i.ctrl).writeReq then some i.ctrl else r)

/-- The monitor's ghosts `acc04` / `acc0A` are the requested values of that cycle, and there has been
such a cycle whenever the window is busy or shows `done`. -/
def AccRel (x : World) (r : Option Controls) : Prop :=
  (∀ c, r = some c → x.e.acc04 = functionControl c ∧ x.e.acc0A = otgControl c) ∧
  ((x.u.win.st ≠ .idle ∨ x.u.win.done = true) → r ≠ none)

theorem accRel_step (cfg : Config) (x : World) (i : UtmiIn) (r : Option Controls) (h : AccRel x r) :
    AccRel (x.step cfg i)
      (if x.u.win.st == .idle && (x.u.ctlOut i.ctrl).writeReq then some i.ctrl else r) := by
  obtain ⟨h1, h2⟩ := h
  by_cases hw : x.u.win.st = .idle
  · have ew := step_win cfg x i
    rw [Window.step_idle _ hw rfl] at ew
    cases hq : (x.u.ctlOut i.ctrl).writeReq
    · -- nothing accepted: the window stays idle and `done` falls
      refine ⟨by simpa [step_e, Env.step, hw, hq] using h1, fun h => ?_⟩
      simp [ew, Utmi.winIn, hq] at h
    · exact ⟨fun c hc => by simp [hw] at hc; subst hc; simp [step_e, Env.step, hw, hq], by simp [hw]⟩
  · -- a busy window accepts nothing; there has been an acceptance already
    have hb : (x.u.win.st == .idle) = false := by simpa using hw
    simp only [hb, Bool.false_and, Bool.false_eq_true, if_false]
    exact ⟨by simpa [step_e, Env.step, hb] using h1, fun _ => h2 (.inl hw)⟩

theorem accRel_run (cfg : Config) (x : World) (h : List UtmiIn) (r : Option Controls) (hr : AccRel x r) :
    AccRel (World.run cfg x h) (lastAccepted cfg x.u h r) := by
  induction h generalizing x r with
  | nil => exact hr
  | cons i is ih =>
    simp only [World.run, lastAccepted]
    have := ih (x.step cfg i) _ (accRel_step cfg x i r hr)
    simpa [step_u] using this

/-- **write_carries_requested_value** — the first clause of the property at history level.  For every
history from reset whose PHY obeys `safeCycle`, whatever the control inputs do (changes while the
write is in flight, reverts, changes of the other register included): whenever the register window
reports a write `done`, there was a cycle in which it accepted that write, and the PHY register it
addressed now holds the value that the control inputs `c` *of that cycle* requested for *that*
register; the other PHY register still equals its shadow. -/
theorem write_carries_requested_value (cfg : Config) (h : List UtmiIn)
    (hl : SafeOk cfg (World.init cfg) h = true) :
    let y := World.run cfg (World.init cfg) h
    y.u.win.done = true →
    ∃ c, lastAccepted cfg (Utmi.init cfg) h none = some c ∧
      ((y.u.win.curAddr = ADDR_FUNCTION_CONTROL ∧ y.p.r04 = functionControl c ∧ y.p.r0A = y.u.ctl.cur0A) ∨
       (y.u.win.curAddr = ADDR_OTG_CONTROL ∧ y.p.r0A = otgControl c ∧ y.p.r04 = y.u.ctl.cur04)) := by
  intro y hd
  have h0 : AccRel (World.init cfg) none := by
    refine ⟨(fun c hc => nomatch hc), ?_⟩
    simp [World.init, Utmi.init]
  obtain ⟨a1, a2⟩ := accRel_run cfg (World.init cfg) h none h0
  have hne := a2 (Or.inr hd)
  obtain ⟨c, hc⟩ := Option.ne_none_iff_exists'.mp hne
  have hc' : lastAccepted cfg (Utmi.init cfg) h none = some c := hc
  obtain ⟨e4, eA⟩ := a1 c hc
  obtain ⟨_, _, _, h4, _⟩ := phy_tracks_window cfg h hl
  refine ⟨c, hc', ?_⟩
  rcases h4 hd with ⟨g1, g2, g3, g4⟩ | ⟨g1, g2, g3, g4⟩
  · left; exact ⟨g1, by rw [g2, g3]; exact e4, g4⟩
  · right; exact ⟨g1, by rw [g2, g3]; exact eA, g4⟩


/-! ## Convergence -/

/-- The explicit bound: three register writes of at most `2K+6` cycles each (one possibly in flight
with a stale value when the inputs settle, then one per register), one transmission of at most `T`
cycles in between, and `2K+5` cycles per DIR-high cycle `N` (the cycle itself plus the restart of the
register write it aborts). -/
def convergeBound (K T N : Nat) : Nat := 3 * (2 * K + 6) + T + (2 * K + 5) * N

/-- **converges.**  From any coherent state (`Coh`, with the monitor facts `Live K`) with the start-up
timer expired: if the UTMI control inputs are constant `= c` throughout the history `h`, the PHY and
the UTMI transmitter satisfy the bounded-fairness hypotheses `liveCycle K T` in every cycle (for
arbitrary `K`, `T`), and `h` is at least `convergeBound K T N` cycles long, `N` the number of DIR-high
cycles in `h`, then after `h` the PHY registers 0x04 / 0x0A equal the requested settings, so do the
shadow registers, the register window is idle, nothing is credited, requested or pending.  (Every
longer history satisfying the hypotheses ends settled too, so the registers *stay* equal.) -/
theorem converges (cfg : Config) (K T : Nat) (c : Controls) (x : World) (h : List UtmiIn)
    (hc : Coh x) (hl : Live K x) (hr : x.u.phyReady = true)
    (hcc : ctrlConst c h = true) (ho : LiveOk cfg K T x h = true)
    (hn : convergeBound K T (dirHigh h) ≤ h.length) :
    let y := World.run cfg x h
    y.p.r04 = functionControl c ∧ y.p.r0A = otgControl c ∧
    y.u.ctl.cur04 = functionControl c ∧ y.u.ctl.cur0A = otgControl c ∧
    y.u.win.st = .idle ∧ y.u.win.done = false ∧ y.u.ctl.busy = false ∧ (y.u.ctlOut c).writeReq = false := by
  intro y
  have hrk := rank_le K T (functionControl c) (otgControl c) x
  have hz := rank_reaches_zero ⟨hc, hl, hr, hcc, ho⟩ (by unfold convergeBound at hn; omega)
  obtain ⟨hc', hl'⟩ := inv_run cfg K T x h hc hl ho
  obtain ⟨s1, s2, s3, s4, s5, s6, s7⟩ := rank_zero_settled K T _ _ _ hc' hl' hz
  refine ⟨s6, s7, s4, s5, s1, s2, s3, ?_⟩
  exact (settled_no_request _ _ _ _ _ s4 s5).1

/-- **converges**, from reset: `h0` is an arbitrary prefix (control inputs changing at will) after
which the start-up timer has expired; the hypotheses are required of the whole history. -/
theorem converges_from_reset (cfg : Config) (K T : Nat) (c : Controls) (h0 h : List UtmiIn)
    (hr : (Utmi.run cfg (Utmi.init cfg) h0).phyReady = true)
    (hcc : ctrlConst c h = true) (ho : LiveOk cfg K T (World.init cfg) (h0 ++ h) = true)
    (hn : convergeBound K T (dirHigh h) ≤ h.length) :
    let y := World.run cfg (World.init cfg) (h0 ++ h)
    y.p.r04 = functionControl c ∧ y.p.r0A = otgControl c ∧
    y.u.ctl.cur04 = functionControl c ∧ y.u.ctl.cur0A = otgControl c ∧
    y.u.win.st = .idle ∧ y.u.win.done = false ∧ y.u.ctl.busy = false ∧ (y.u.ctlOut c).writeReq = false := by
  rw [LiveOk_append, Bool.and_eq_true] at ho
  have hl0 : Live K (World.init cfg) := by simp [Live, World.init, Utmi.init]
  obtain ⟨hc1, hl1⟩ := inv_run cfg K T _ h0 (coh_init cfg) hl0 ho.1
  have hr1 : (World.run cfg (World.init cfg) h0).u.phyReady = true := by
    rw [World.run_u]; exact hr
  rw [World.run_append]
  exact converges cfg K T c _ h hc1 hl1 hr1 hcc ho.2 hn


/-- Without a `rst` member in the ULPI record the start-up timer is bypassed: `phy_ready` holds after
the first cycle, so `converges_from_reset` applies with any non-empty prefix `h0`. -/
theorem ready_after_first_cycle (cfg : Config) (hc : cfg.hasRst = false) (i : UtmiIn) (is : List UtmiIn) :
    (Utmi.run cfg (Utmi.init cfg) (i :: is)).phyReady = true := by
  exact ready_run cfg _ is (by simp [Utmi.step, hc])

/-! ## `no_mutual_blocking` at history level: how long a transmission and a register write wait for each other -/

/-- `P` holds in the start state and after every prefix of the history (the whole history included). -/
def Along (cfg : Config) (P : World → Bool) : World → List UtmiIn → Bool
  | x, [] => P x
  | x, i :: is => P x && Along cfg P (x.step cfg i) is

theorem Along_head (cfg : Config) (P : World → Bool) (x : World) (h : List UtmiIn)
    (ha : Along cfg P x h = true) : P x = true := by
  cases h with
  | nil => exact ha
  | cons i is => simp only [Along, Bool.and_eq_true] at ha; exact ha.1

/-- A change of a control register is pending, but the register window has not accepted the write. -/
def writeUnstarted (c : Controls) (y : World) : Bool :=
  y.u.win.st == .idle && !y.u.win.done &&
    (y.u.ctl.cur04 != functionControl c || y.u.ctl.cur0A != otgControl c)

/-- The transmit translator has not claimed the bus. -/
def txUnstarted (y : World) : Bool := !y.u.tx.outReq

def allTxValid : List UtmiIn → Bool
  | [] => true
  | i :: is => i.txValid && allTxValid is

theorem coh_tx_free (x : World) (hc : Coh x) (h : x.u.tx.outReq = false) : x.u.tx = ⟨.idle, false⟩ := by
  obtain ⟨_, _, h3⟩ := hc
  cases hw : x.u.win.st <;> simp only [hw] at h3
  case idle =>
    obtain ⟨_, _, h4⟩ := h3
    rcases h4 with ⟨_, _, gt, _⟩ | ⟨_, _, _, _, gt⟩
    · exact gt
    · rcases gt with ⟨gt, _⟩ | ⟨gt, _⟩ | ⟨gt, _⟩
      · exact gt
      · rw [gt] at h; simp at h
      · rw [gt] at h; simp at h
  all_goals exact h3.1.2.1

/-- A waiting transmission: the rank pays for the cycles. -/
theorem tx_wait_le_rank {cfg : Config} {K T : Nat} {c : Controls} {x : World} {h : List UtmiIn}
    (hh : Hyps cfg K T c x h) (hv : allTxValid h = true) (hw : Along cfg txUnstarted x h = true) :
    h.length ≤ rank K T (functionControl c) (otgControl c) x + (2 * K + 5) * dirHigh h := by
  induction h generalizing x with
  | nil => simp
  | cons i is ih =>
    obtain ⟨hi, hh1, -, hstep⟩ := hh.step
    simp only [allTxValid, Along, Bool.and_eq_true] at hv hw
    have ih' := ih hh1 hv.2 hw.2
    have hx1 := Along_head cfg _ _ _ hw.2
    simp only [dirHigh, List.length_cons]
    cases hd : i.phy.dir <;> simp only [hd, if_true, if_false, Bool.false_eq_true, Nat.zero_add] at hstep ⊢
    · by_cases hr0 : rank K T (functionControl c) (otgControl c) x = 0
      · -- settled, DIR low, tx_valid: the transmitter claims the bus in this cycle
        exfalso
        subst hi
        obtain ⟨s1, s2, s3, s4, s5, _, _⟩ := rank_zero_settled K T _ _ _ hh.coh hh.live hr0
        have hfree := coh_tx_free x hh.coh (by simpa [txUnstarted] using hw.1)
        have := tx_starts_when_settled cfg x.u i s4 s5 s3 hd hh.ready hv.1 (by rw [hfree])
        simp only [txUnstarted, step_u, this] at hx1
        exact absurd hx1 (by decide)
      · omega
    · rw [Nat.mul_add, Nat.mul_one]; omega

/-- **no_mutual_blocking, transmissions** (history level).  Start state as in `converges`, control
inputs constant, hypotheses `liveCycle K T` satisfied, `tx_valid` high in every cycle of `h`, and the transmit translator has not
claimed the bus in the start state nor after any prefix of `h` (all of `h` included): then `h` is
no longer than three register writes (one possibly in flight, one per register) plus `2K+5` cycles per
DIR-high cycle.  Pending register writes delay a transmission by at most that. -/
theorem tx_delay_bounded (cfg : Config) (K T : Nat) (c : Controls) (x : World) (h : List UtmiIn)
    (hc : Coh x) (hl : Live K x) (hr : x.u.phyReady = true) (hcc : ctrlConst c h = true)
    (ho : LiveOk cfg K T x h = true) (hv : allTxValid h = true)
    (hw : Along cfg txUnstarted x h = true) :
    h.length ≤ 3 * (2 * K + 6) + (2 * K + 5) * dirHigh h := by
  have h1 := tx_wait_le_rank ⟨hc, hl, hr, hcc, ho⟩ hv hw
  -- the transmitter is free in the start state, so its share of the rank is 0
  have h2 : txRank K T x = 0 := by
    simp only [txRank, coh_tx_free x hc (by simpa [txUnstarted] using Along_head cfg _ _ _ hw)]
  have h3 := rank_le_tx K T (functionControl c) (otgControl c) x
  omega

theorem unstarted_rank (K T : Nat) (c : Controls) (x : World) (hu : writeUnstarted c x = true) :
    x.u.win.done = false ∧
    rank K T (functionControl c) (otgControl c) x
      = pendNow K (functionControl c) (otgControl c) x.u + txRank K T x ∧
    1 ≤ pendNow K (functionControl c) (otgControl c) x.u := by
  simp only [writeUnstarted, Bool.and_eq_true, Bool.or_eq_true, beq_iff_eq, Bool.not_eq_true', bne_iff_ne] at hu
  obtain ⟨⟨hs, hd⟩, hm⟩ := hu
  have hp : 1 ≤ pendNow K (functionControl c) (otgControl c) x.u := by
    simp only [pendNow, wcost]
    rcases hm with g | g <;> simp only [g, if_false] <;> omega
  refine ⟨hd, ?_, hp⟩
  simp only [rank, hs, hd, Bool.false_eq_true, if_false]
  split
  · omega
  · rfl

/-- A pending write that is not accepted: the transmitter's rank pays for the cycles. -/
theorem write_wait_le_txRank {cfg : Config} {K T : Nat} {c : Controls} {x : World} {h : List UtmiIn}
    (hh : Hyps cfg K T c x h) (hw : Along cfg (writeUnstarted c) x h = true) :
    h.length ≤ txRank K T x + (2 * K + 5) * dirHigh h := by
  induction h generalizing x with
  | nil => simp
  | cons i is ih =>
    obtain ⟨-, hh1, -, hstep⟩ := hh.step
    simp only [Along, Bool.and_eq_true] at hw
    have ih' := ih hh1 hw.2
    obtain ⟨hd0, e0, p0⟩ := unstarted_rank K T c x hw.1
    obtain ⟨-, e1, p1⟩ := unstarted_rank K T c _ (Along_head cfg _ _ _ hw.2)
    rw [e0, e1, pendNow_step cfg K _ _ i hd0] at hstep
    simp only [dirHigh, List.length_cons]
    cases hd : i.phy.dir <;> simp only [hd, if_true, if_false, Bool.false_eq_true, Nat.zero_add] at hstep ⊢
    · omega
    · rw [Nat.mul_add, Nat.mul_one]; omega

/-- **no_mutual_blocking, register writes** (history level).  Start state as in `converges`, control
inputs constant, hypotheses `liveCycle K T` satisfied, and in the start state and after every prefix of `h` a change of a control
register is pending without the register window having accepted the write: then `h` is no longer than
one transmission (`K + 2` cycles for the command plus `T`) plus `2K+5` cycles per DIR-high cycle.
A transmission delays a pending register write by at most that. -/
theorem write_delay_bounded (cfg : Config) (K T : Nat) (c : Controls) (x : World) (h : List UtmiIn)
    (hc : Coh x) (hl : Live K x) (hr : x.u.phyReady = true) (hcc : ctrlConst c h = true)
    (ho : LiveOk cfg K T x h = true) (hw : Along cfg (writeUnstarted c) x h = true) :
    h.length ≤ K + 2 + T + (2 * K + 5) * dirHigh h := by
  have h1 := write_wait_le_txRank ⟨hc, hl, hr, hcc, ho⟩ hw
  have h2 := txRank_le K T x
  omega


/-! ## Non-vacuity of the hypotheses, and the counterexample to "DIR low once every D cycles" -/

def cyc (dir nxt : Bool) (txd : Nat) (txv : Bool) (c : Controls) : UtmiIn := ⟨⟨dir, nxt, 0⟩, txd, txv, c⟩

/-- `term_select` raised, everything else 0: Function Control 0x44, OTG Control 0x00. -/
def exCtrl : Controls := { termSelect := true }

def exH0 : List UtmiIn := [cyc false false 0 false {}]

/-- From the cycle after reset the control inputs are `exCtrl` (both PHY registers differ) and the
UTMI side wants to send C3 11: write of 0x04 with one NXT wait, aborted once by DIR and restarted,
write of 0x0A, then the packet, then idle cycles. -/
def exH : List UtmiIn :=
  [ cyc false false 0xC3 true exCtrl,   -- write 0x04 accepted (transmitter held off)
    cyc false false 0xC3 true exCtrl,   -- START_WRITE
    cyc false false 0xC3 true exCtrl,   -- command on the bus, PHY waits
    cyc true  false 0xC3 true exCtrl,   -- DIR high: abort
    cyc false false 0xC3 true exCtrl,   -- turnaround, START_WRITE again
    cyc false true  0xC3 true exCtrl,   -- command accepted
    cyc false false 0xC3 true exCtrl,   -- data, PHY waits
    cyc false true  0xC3 true exCtrl,   -- data accepted
    cyc false false 0xC3 true exCtrl,   -- STOPPING
    cyc false false 0xC3 true exCtrl,   -- done
    cyc false false 0xC3 true exCtrl,   -- write 0x0A accepted
    cyc false false 0xC3 true exCtrl,
    cyc false true  0xC3 true exCtrl,
    cyc false true  0xC3 true exCtrl,
    cyc false false 0xC3 true exCtrl,
    cyc false false 0xC3 true exCtrl,   -- done
    cyc false false 0xC3 true exCtrl,   -- transmitter claims the bus
    cyc false true  0xC3 true exCtrl,   -- transmit command accepted
    cyc false true  0x11 true exCtrl,
    cyc false false 0 false exCtrl ]    -- STP
  ++ List.replicate 20 (cyc false false 0 false exCtrl)

/-- Non-vacuity of `converges_from_reset` (K = 1, T = 3, one DIR-high cycle, bound 34 ≤ 40 cycles) and
of `phy_tracks_window`; the conclusion computed directly. -/
example : LiveOk {} 1 3 (World.init {}) (exH0 ++ exH) = true ∧ ctrlConst exCtrl exH = true ∧
    (Utmi.run {} (Utmi.init {}) exH0).phyReady = true ∧ convergeBound 1 3 (dirHigh exH) ≤ exH.length ∧
    (World.run {} (World.init {}) (exH0 ++ exH)).p.r04 = 0x44 ∧
    (World.run {} (World.init {}) (exH0 ++ exH)).p.r0A = 0 ∧
    (World.run {} (World.init {}) (exH0 ++ exH)).p.writes = 2 := by decide +kernel

/-- Non-vacuity of `write_carries_requested_value`: after ten cycles the first write is `done`. -/
example : SafeOk {} (World.init {}) (exH0 ++ exH.take 9) = true ∧
    (World.run {} (World.init {}) (exH0 ++ exH.take 9)).u.win.done = true ∧
    lastAccepted {} (Utmi.init {}) (exH0 ++ exH.take 9) none = some exCtrl := by decide +kernel

/-- Non-vacuity of `tx_delay_bounded`: during the first 16 cycles of `exH` the transmitter waits. -/
example : Along {} txUnstarted (World.run {} (World.init {}) exH0) (exH.take 16) = true ∧
    allTxValid (exH.take 16) = true ∧ LiveOk {} 1 3 (World.init {}) (exH0 ++ exH.take 16) = true := by
  decide +kernel

/-- Both registers settled at their values for all-zero control inputs, then a packet is started. -/
def exPre : List UtmiIn :=
  [ cyc false false 0 false {}, cyc false false 0 false {}, cyc false false 0 false {},
    cyc false true 0 false {}, cyc false true 0 false {}, cyc false false 0 false {}, cyc false false 0 false {},
    cyc false false 0 false {}, cyc false false 0 false {},
    cyc false true 0 false {}, cyc false true 0 false {}, cyc false false 0 false {}, cyc false false 0 false {},
    cyc false false 0 false {},
    cyc false false 0xC3 true {}, cyc false true 0xC3 true {} ]

/-- The control inputs change while the packet is on the bus: the write waits for the STP. -/
def exW : List UtmiIn :=
  [ cyc false true 0x11 true exCtrl, cyc false false 0x22 true exCtrl, cyc false true 0x22 true exCtrl,
    cyc false false 0 false exCtrl ]

/-- Non-vacuity of `write_delay_bounded` (K = 1, T = 5). -/
example : LiveOk {} 1 5 (World.init {}) (exPre ++ exW) = true ∧ ctrlConst exCtrl exW = true ∧
    (World.run {} (World.init {}) exPre).u.phyReady = true ∧
    Along {} (writeUnstarted exCtrl) (World.run {} (World.init {}) exPre) exW = true := by decide +kernel

/-- The run-in to `exPattern`: four cycles with DIR low, then one with DIR high. -/
def exAbortPre : List UtmiIn :=
  [ cyc false false 0 false exCtrl, cyc false false 0 false exCtrl, cyc false false 0 false exCtrl,
    cyc false false 0 false exCtrl, cyc true false 0 false exCtrl ]

/-- A PHY that raises DIR in every third cycle: one period. -/
def exPattern : List UtmiIn :=
  [ cyc false false 0 false exCtrl, cyc false false 0 false exCtrl, cyc true false 0 false exCtrl ]

/-- `n` periods of `exPattern`. -/
def exRepeat : Nat → List UtmiIn
  | 0 => []
  | n + 1 => exPattern ++ exRepeat n

/-- The state the system keeps coming back to: START_WRITE for `0x04 := 0x44` just after an abort. -/
def exLoop : World := World.run {} (World.init {}) (exAbortPre ++ exPattern)

/-- **dir_low_often_is_not_enough.**  DIR low in two cycles out of every three, every other hypothesis
of `converges` satisfied (`K = 1`: the command is never on the bus for more than one cycle without an
answer, because DIR cuts in; constant control inputs; start-up over; coherent start state reached from
reset under the same hypotheses) — and for every number `n` of repetitions the system is back in the
same state, the PHY's Function Control register still at its reset value.  Hence a convergence bound
cannot be a function of "DIR is low at least once every D cycles"; the bound of `converges` counts the
DIR-high cycles instead. -/
theorem dir_low_often_is_not_enough (n : Nat) :
    LiveOk {} 1 0 exLoop (exRepeat n) = true ∧ ctrlConst exCtrl (exRepeat n) = true ∧
    exLoop.u.phyReady = true ∧ World.run {} exLoop (exRepeat n) = exLoop ∧
    exLoop.p.r04 ≠ functionControl exCtrl ∧
    LiveOk {} 1 0 (World.init {}) (exAbortPre ++ exPattern) = true := by
  have hp : World.run {} exLoop exPattern = exLoop := by decide +kernel
  have hl : LiveOk {} 1 0 exLoop exPattern = true := by decide +kernel
  have hc : ctrlConst exCtrl exPattern = true := by decide +kernel
  refine ⟨?_, ?_, by decide +kernel, ?_, by decide +kernel, by decide +kernel⟩
  -- `rw` with the equations of `exRepeat`, `World.run`: a `rfl` here would evaluate `exLoop`
  · induction n with
    | zero => rw [exRepeat, LiveOk]
    | succ n ih => rw [exRepeat, LiveOk_append, hl, hp, ih]; rfl
  · induction n with
    | zero => rw [exRepeat, ctrlConst]
    | succ n ih => rw [exRepeat, ctrlConst_append, hc, ih]; rfl
  · induction n with
    | zero => rw [exRepeat, World.run]
    | succ n ih => rw [exRepeat, World.run_append, hp, ih]

end LunaVerif.Ulpi
