import LunaVerif.Model.Usb3.PacketTx
import LunaVerif.Lemmas.HeaderRx
/-!
# C39 — Header transmission respects credits and retransmits unacknowledged headers

"The link transmits a new header packet only while the partner has advertised an unused credit,
numbers headers consecutively from the partner's advertised sequence, retires a header only on an
LGOOD carrying its sequence number, and after an LBAD retransmits every unacknowledged header in order
with the delayed flag set before sending new ones."

Quantifier: all partner link-command histories (LCRD/LGOOD/LBAD/LRTY orderings and mismatches) and all
header-queue timings.

The theorems are about `PacketTx.step`, the model of the **repaired** transmitter (see the model file
and notes/C39.md: four one-cycle races around LBAD were found in the code as found and repaired by the
`fix:` commit 1908059 of /repo), and the observer's record `Ghost`.

Environment (`EnvStep`): the link stays up (`en`); the partner acknowledges only outstanding headers
(`ack`) and hands out a credit only for a buffer it has — four at first, one more per acknowledged
header (`cred`).  Credit-letter and sequence *mismatches* are not excluded: they simply do not count
(`creditReceived`, `retire` are false) and raise `recovery_required` (`mismatch_requests_recovery`).

Part (4) of the property (retransmission after LBAD) is proved at history level in `Props/C39Retry.lean`
(`lbad_retransmits_all_unacked_in_order_with_dl`, built on `Lemmas/C39Round.lean` — control invariant
of the dispatch FSM — and `Lemmas/C39RoundRun.lean` — the ghost retry round and the
induction over the history).  This file keeps the one-step facts (`lbad_retry_one_step_facts`) and the
invariant `Win.hwin`: the buffers between the acknowledge pointer and the write pointer hold exactly the
unacknowledged headers in order.
-/
namespace LunaVerif.PacketTx
open LunaVerif.HeaderRx (Hdr Bufs bufQ bufQ_pop bufQ_push bufQ_both bufQ_getElem?)

section proj
variable (c : Config) (s : State) (i : In)
theorem step_credits : (step c s i).1.credits = if !i.enable then 0
    else if creditReceived s && !enq s i then (s.credits + 1) % 8
    else if enq s i && !creditReceived s then (s.credits + 7) % 8 else s.credits := rfl
theorem step_paa : (step c s i).1.paa = if !i.enable then 0
    else if enq s i && !retire s then (s.paa + 1) % 8
    else if retire s && !enq s i && s.paa != 0 then (s.paa + 7) % 8 else s.paa := rfl
theorem step_pts : (step c s i).1.pts = if !i.enable then 0
    else if retryRequired s then (if enq s i then (s.paa + 1) % 8 else s.paa)
    else if enq s i && !deq s i then (s.pts + 1) % 8
    else if deq s i && !enq s i then (s.pts + 7) % 8 else s.pts := rfl
theorem step_rp : (step c s i).1.rp = if !i.enable then 0 else if retryRequired s then s.ap
    else if deq s i then (s.rp + 1) % 4 else s.rp := rfl
theorem step_wp : (step c s i).1.wp = if !i.enable then 0 else if enq s i then (s.wp + 1) % 4 else s.wp := rfl
theorem step_ap : (step c s i).1.ap = if !i.enable then 0 else if retire s then (s.ap + 1) % 4 else s.ap := rfl
theorem step_bufs : (step c s i).1.bufs =
    if enq s i then s.bufs.set s.wp { i.qHdr with dw3 := setSeq i.qHdr.dw3 s.txSeq } else s.bufs := rfl
theorem step_txSeq : (step c s i).1.txSeq =
    if advert s then (s.dSub + 1) % 8 else if enq s i then (s.txSeq + 1) % 8 else s.txSeq := rfl
theorem step_nextAck : (step c s i).1.nextAck =
    if advert s then (s.dSub + 1) % 8 else if retire s then (s.nextAck + 1) % 8 else s.nextAck := rfl
theorem step_bringup : (step c s i).1.bringup =
    if !i.enable then false else if advert s then true else s.bringup := rfl
theorem step_retryPending : (step c s i).1.retryPending = if !i.enable then false
    else if s.fsm == .waitRetry && rawDone s i && s.pts == 1 && !retryRequired s then false
    else if retryRequired s then true else s.retryPending := rfl
theorem step_fsm : (step c s i).1.fsm = fsmNext s i := rfl
theorem step_rHdr : (step c s i).1.rHdr = if latch s i then txHeader s else s.rHdr := rfl
end proj

theorem seq_setSeq (h : Hdr) (n : Nat) : ({ h with dw3 := setSeq h.dw3 n } : Hdr).seq = n % 8 := by
  simp only [Hdr.seq, setSeq]
  generalize h.dw3 = d
  omega

/-- What an observer has seen since the link came up. -/
structure Ghost where
  adv     : Nat          -- subtype of the sequence advertisement (first LGOOD)
  taken   : List Hdr     -- headers taken from the queue, as stored (with their assigned sequence number)
  lcrds   : Nat          -- credits accepted (LCRDs carrying the expected letter)
  retired : Nat          -- headers retired
deriving Repr

def Ghost.init : Ghost := ⟨0, [], 0, 0⟩

def ghostStep (s : State) (i : In) (g : Ghost) : Ghost :=
  { adv := if advert s then s.dSub else g.adv
    taken := if enq s i then g.taken ++ [{ i.qHdr with dw3 := setSeq i.qHdr.dw3 s.txSeq }] else g.taken
    lcrds := if creditReceived s then g.lcrds + 1 else g.lcrds
    retired := if retire s then g.retired + 1 else g.retired }

def runG (c : Config) : State → Ghost → List In → State × Ghost
  | s, g, [] => (s, g)
  | s, g, i :: is => runG c (step c s i).1 (ghostStep s i g) is

/-- Environment: the link stays up; the partner acknowledges only headers that are outstanding, and
hands out a credit only for a buffer it has (four initially, one more per acknowledged header). -/
structure EnvStep (s : State) (g : Ghost) (i : In) : Prop where
  en   : i.enable = true
  ack  : retire s = true → s.paa ≠ 0
  cred : creditReceived s = true → g.lcrds < 4 + g.retired

def EnvOk (c : Config) : State → Ghost → List In → Prop
  | _, _, [] => True
  | s, g, i :: is => EnvStep s g i ∧ EnvOk c (step c s i).1 (ghostStep s i g) is

/-- the counters: credits, headers taken, headers retired -/
structure Counts (s : State) (g : Ghost) : Prop where
  hcred : s.credits + g.taken.length = g.lcrds
  hlim  : g.lcrds ≤ 4 + g.retired
  hpaa  : s.paa + g.retired = g.taken.length

/-- the sequence numbers: nothing is taken before the advertisement, and from it on they run consecutively -/
structure Seqs (s : State) (g : Ghost) : Prop where
  hnob  : s.bringup = false → g.taken = [] ∧ g.retired = 0
  hseq  : s.bringup = true → s.txSeq = (g.adv + 1 + g.taken.length) % 8
  hseqs : g.taken.map Hdr.seq = (List.range g.taken.length).map (fun k => (g.adv + 1 + k) % 8)
  hack  : s.bringup = true → s.nextAck = (g.adv + 1 + g.retired) % 8

/-- the window: the buffers from the acknowledge pointer on hold the headers taken and not yet retired -/
structure Win (s : State) (g : Ghost) : Prop where
  hap   : s.ap < 4
  hwp   : s.wp = (s.ap + s.paa) % 4
  hwin  : bufQ s.bufs s.ap s.paa = g.taken.drop g.retired

structure Inv (s : State) (g : Ghost) : Prop extends Counts s g, Seqs s g, Win s g

theorem inv_init : Inv init Ghost.init := by
  refine ⟨⟨?_, ?_, ?_⟩, ⟨?_, ?_, ?_, ?_⟩, ⟨?_, ?_, ?_⟩⟩ <;> simp [init, Ghost.init, bufQ]

/-- The events of one cycle: the advertisement excludes the other three, an acknowledgement excludes a credit (one link
command per cycle), and a header is taken only after bring-up with a credit left. -/
theorem excl (s : State) (i : In) : (advert s = true → enq s i = false ∧ retire s = false ∧ creditReceived s = false) ∧
    (retire s = true → creditReceived s = false) ∧ (enq s i = true → s.bringup = true ∧ 1 ≤ s.credits) := by
  simp only [advert, enq, qReady, retire, creditReceived, LGOOD, LCRD, Bool.and_eq_true, beq_iff_eq, bne_iff_ne,
    Bool.not_eq_true', Bool.and_eq_false_iff]
  refine ⟨?_, ?_, ?_⟩
  · rintro ⟨⟨_, hc⟩, hb⟩; simp [hb, hc]
  · rintro ⟨⟨⟨_, hc⟩, _⟩, _⟩; simp [hc]
  · rintro ⟨_, hb, hc⟩; exact ⟨hb, by omega⟩

section stepinv
variable {c : Config} {s : State} {g : Ghost} {i : In}

theorem counts_step (h : Counts s g) (e : EnvStep s g i) : Counts (step c s i).1 (ghostStep s i g) := by
  -- the three fields as one goal: they share the case split
  suffices w : _ ∧ _ ∧ _ from ⟨w.1, w.2.1, w.2.2⟩
  obtain ⟨x1, x2, x3⟩ := excl s i
  have := h.hcred; have := h.hlim; have := h.hpaa
  have ea := e.ack; have ec := e.cred
  simp only [step_credits, step_paa, ghostStep, e.en, Bool.not_true, Bool.false_eq_true, if_false]
  rcases Bool.eq_false_or_eq_true (enq s i) with he | he <;>
  rcases Bool.eq_false_or_eq_true (retire s) with hr | hr <;>
  rcases Bool.eq_false_or_eq_true (creditReceived s) with hc | hc <;>
    simp_all <;> omega

theorem nob_step (h : Seqs s g) (e : EnvStep s g i) : (step c s i).1.bringup = false →
    (ghostStep s i g).taken = [] ∧ (ghostStep s i g).retired = 0 := by
  obtain ⟨x1, x2, x3⟩ := excl s i
  have hn := h.hnob
  simp only [step_bringup, ghostStep, e.en, Bool.not_true, Bool.false_eq_true, if_false]
  intro hb
  have ha : advert s = false := by cases hx : advert s <;> simp_all
  have hb' : s.bringup = false := by simpa [ha] using hb
  have he : enq s i = false := by cases hx : enq s i <;> simp_all
  have hr : retire s = false := by simp [retire, hb']
  simp [he, hr, hn hb']

theorem seq_step (h : Seqs s g) (e : EnvStep s g i) : Seqs (step c s i).1 (ghostStep s i g) := by
  -- `hnob` is `nob_step`; the other three fields as one goal: they share the case split
  suffices w : _ ∧ _ ∧ _ from ⟨nob_step h e, w.1, w.2.1, w.2.2⟩
  obtain ⟨x1, x2, x3⟩ := excl s i
  have hn := h.hnob; have hs := h.hseq; have hl := h.hseqs; have hk := h.hack
  simp only [step_bringup, step_txSeq, step_nextAck, ghostStep, e.en, Bool.not_true, Bool.false_eq_true, if_false]
  rcases Bool.eq_false_or_eq_true (advert s) with ha | ha
  · -- the advertisement: nothing taken yet
    obtain ⟨y1, y2, y3⟩ := x1 ha
    have hb : s.bringup = false := by simp [advert] at ha; exact ha.2
    obtain ⟨t0, r0⟩ := hn hb
    simp [ha, y1, y2, t0, r0]
  · simp only [ha, Bool.false_eq_true, if_false]
    rcases Bool.eq_false_or_eq_true (enq s i) with he | he
    · obtain ⟨hb, _⟩ := x3 he
      have hts := hs hb
      simp only [he, if_true, hb, forall_const]
      refine ⟨by simp [hts]; omega, ?_, ?_⟩
      · rw [List.map_append, List.length_append, List.length_singleton, List.range_succ, List.map_append, ← hl]
        simp [seq_setSeq, hts]
      · rcases Bool.eq_false_or_eq_true (retire s) with hr | hr <;> simp [hr, hk hb] <;> omega
    · simp only [he, Bool.false_eq_true, if_false]
      refine ⟨hs, hl, ?_⟩
      intro hb
      rcases Bool.eq_false_or_eq_true (retire s) with hr | hr <;> simp [hr, hk hb] <;> omega

theorem win_step (hc : Counts s g) (h : Win s g) (e : EnvStep s g i) : Win (step c s i).1 (ghostStep s i g) := by
  -- the three fields as one goal: they share the case split
  suffices w : _ ∧ _ ∧ _ from ⟨w.1, w.2.1, w.2.2⟩
  obtain ⟨x1, x2, x3⟩ := excl s i
  have hap := h.hap; have hwp := h.hwp; have hw := h.hwin; have hp := hc.hpaa
  have := hc.hcred; have hl := hc.hlim; have ea := e.ack
  -- what the window needs of `Counts`: the headers outstanding and the credits left fit in the partner's four buffers
  have hp4 : s.paa + s.credits ≤ 4 := by omega
  simp only [step_ap, step_wp, step_paa, step_bufs, ghostStep, e.en, Bool.not_true, Bool.false_eq_true, if_false]
  rcases Bool.eq_false_or_eq_true (enq s i) with he | he <;>
  rcases Bool.eq_false_or_eq_true (retire s) with hr | hr <;>
    simp only [he, hr, if_true, if_false, Bool.false_eq_true, Bool.not_true, Bool.not_false, Bool.and_true,
      Bool.and_false, Bool.true_and, Bool.false_and]
  · -- enqueue and retire
    have h1 := (x3 he).2; have h2 := ea hr
    refine ⟨Nat.mod_lt _ (by decide), by omega, ?_⟩
    have hb := bufQ_both s.bufs s.ap s.paa { i.qHdr with dw3 := setSeq i.qHdr.dw3 s.txSeq } (by omega) (by omega)
    rw [hw, ← List.drop_append_of_le_length (by omega), ← hwp] at hb
    rw [← List.drop_drop, ← hb, List.drop_one, List.tail_cons]
  · -- enqueue only
    have h1 := (x3 he).2
    have e1 : (s.paa + 1) % 8 = s.paa + 1 := by omega
    refine ⟨hap, by omega, ?_⟩
    rw [e1, hwp, bufQ_push _ _ _ _ (by omega), hw, List.drop_append_of_le_length (by omega)]
  · -- retire only
    have h2 := ea hr
    have e1 : (s.paa + 7) % 8 = s.paa - 1 := by omega
    have hne : (s.paa != 0) = true := by simp [h2]
    simp only [hne, if_true]
    refine ⟨Nat.mod_lt _ (by decide), by omega, ?_⟩
    rw [e1, ← List.drop_drop, ← hw, bufQ_pop s.bufs s.ap s.paa (by omega), List.drop_one, List.tail_cons]
  · exact ⟨hap, hwp, hw⟩

theorem inv_step (h : Inv s g) (e : EnvStep s g i) : Inv (step c s i).1 (ghostStep s i g) :=
  ⟨counts_step h.toCounts e, seq_step h.toSeqs e, win_step h.toCounts h.toWin e⟩
end stepinv

theorem inv_run (c : Config) (ins : List In) : ∀ (s : State) (g : Ghost), Inv s g → EnvOk c s g ins →
    Inv (runG c s g ins).1 (runG c s g ins).2 := by
  induction ins with
  | nil => intro s g h _; exact h
  | cons i is ih => intro s g h e; exact ih _ _ (inv_step h e.1) e.2

theorem inv_reachable (c : Config) (ins : List In) (e : EnvOk c init Ghost.init ins) :
    Inv (runG c init Ghost.init ins).1 (runG c init Ghost.init ins).2 :=
  inv_run c ins _ _ inv_init e

/-- **C39 (1)**: a header is taken from the queue only after bring-up and while an advertised credit is
unused: `credits_available` is exactly credits received minus headers taken, `queue.ready` needs it to
be non-zero, so the headers taken never exceed the credits received. -/
theorem send_only_with_credit (c : Config) (ins : List In) (e : EnvOk c init Ghost.init ins) :
    let r := runG c init Ghost.init ins
    r.1.credits + r.2.taken.length = r.2.lcrds ∧ r.1.credits ≤ 4 ∧
    (∀ i, (step c r.1 i).2.qReady = true → r.1.bringup = true ∧ r.2.taken.length < r.2.lcrds) := by
  have h := inv_reachable c ins e
  refine ⟨h.hcred, ?_, fun i hq => ?_⟩
  · have := h.hcred; have := h.hlim; have := h.hpaa; omega
  · have hq' : qReady (runG c init Ghost.init ins).1 = true := hq
    simp only [qReady, Bool.and_eq_true, bne_iff_ne] at hq'
    have := h.hcred
    exact ⟨hq'.1, by omega⟩

/-- **C39 (2)**: the k-th header taken after the sequence advertisement LGOOD_n is stored (and, by
`tx_word_carries_header`, transmitted and retransmitted) with sequence number n + 1 + k (mod 8). -/
theorem sequence_numbers_consecutive_from_advertised (c : Config) (ins : List In)
    (e : EnvOk c init Ghost.init ins) :
    let r := runG c init Ghost.init ins
    ∀ k (hk : k < r.2.taken.length), (r.2.taken[k]).seq = (r.2.adv + 1 + k) % 8 := by
  intro r k hk
  have h := inv_reachable c ins e
  have hs := List.getElem_of_eq h.hseqs (i := k) (by simpa using hk)
  simpa using hs

/-- The raw transmitter sends the latched header's words unchanged and composes DW3 from the latched
link control word (sequence number, delayed flag, …) with freshly computed CRCs (`txDw3`). -/
theorem tx_word_carries_header (c : Config) (s : State) (i : In) :
    (s.raw = .dw0 → (step c s i).2.srcData = s.rHdr.dw0) ∧ (s.raw = .dw1 → (step c s i).2.srcData = s.rHdr.dw1) ∧
    (s.raw = .dw2 → (step c s i).2.srcData = s.rHdr.dw2) ∧
    (s.raw = .dw3 → (step c s i).2.srcData =
        HeaderRx.hdrCrc16 s.rHdr + s.rHdr.lcw * 65536 + Crc.usb3Crc5 s.rHdr.lcw * 134217728) := by
  cases s
  refine ⟨?_, ?_, ?_, ?_⟩ <;> rintro ⟨⟩ <;> rfl

/-- **C39 (3)**: a header is retired exactly when an LGOOD arrives after bring-up whose number is the
expected acknowledgement number — and, if a header is outstanding (`paa ≠ 0`: the partner acknowledges only what it
was sent, `EnvStep.ack` for the cycle that follows the history), that number is the sequence number of the oldest
unacknowledged header, which sits at the acknowledge pointer.  Any other LGOOD after bring-up raises
`recovery_required` (`mismatch_requests_recovery`). -/
theorem retire_only_on_matching_lgood (c : Config) (ins : List In) (e : EnvOk c init Ghost.init ins) :
    let r := runG c init Ghost.init ins
    (retire r.1 = true ↔ (r.1.dNew = true ∧ r.1.dCmd = LGOOD ∧ r.1.bringup = true ∧ r.1.dSub = r.1.nextAck)) ∧
    (retire r.1 = true → r.1.paa ≠ 0 →
      ∃ hk : r.2.retired < r.2.taken.length,
        (r.2.taken[r.2.retired]).seq = r.1.dSub ∧ r.1.bufs.get r.1.ap = r.2.taken[r.2.retired]) := by
  intro r
  have h : Inv r.1 r.2 := inv_reachable c ins e
  refine ⟨?_, fun hr hp => ?_⟩
  · simp only [retire, Bool.and_eq_true, beq_iff_eq]
    constructor
    · rintro ⟨⟨⟨a, b⟩, c'⟩, d⟩; exact ⟨a, b, c', d.symm⟩
    · rintro ⟨a, b, c', d⟩; exact ⟨⟨⟨a, b⟩, c'⟩, d.symm⟩
  · have hk : r.2.retired < r.2.taken.length := by have := h.hpaa; omega
    refine ⟨hk, ?_, ?_⟩
    · have hs := List.getElem_of_eq h.hseqs (i := r.2.retired) (by simpa using hk)
      simp only [List.getElem_map, List.getElem_range] at hs
      simp only [retire, Bool.and_eq_true, beq_iff_eq] at hr
      rw [hs, ← hr.2, h.hack hr.1.2]
    · have h0 := bufQ_getElem? r.1.bufs r.1.ap (n := r.1.paa) (k := 0) (by omega)
      rw [h.hwin, List.getElem?_drop, Nat.add_zero, Nat.add_zero, List.getElem?_eq_getElem hk] at h0
      exact (Option.some.inj h0).symm

/-- A credit with the wrong letter or an acknowledgement with the wrong number (after bring-up) is not
counted and requests recovery. -/
theorem mismatch_requests_recovery (c : Config) (s : State) (i : In) :
    (s.dNew = true → s.dCmd = LCRD → s.dSub ≠ s.nextCredit →
        creditReceived s = false ∧ (step c s i).2.recoveryRequired = true) ∧
    (s.dNew = true → s.dCmd = LGOOD → s.bringup = true → s.dSub ≠ s.nextAck →
        retire s = false ∧ (step c s i).2.recoveryRequired = true) := by
  rw [show (step c s i).2.recoveryRequired = recovery c s from rfl]
  constructor
  · intro a b d
    simp [creditReceived, recovery, a, b, Ne.symm d]
  · intro a b b2 d
    simp [retire, recovery, a, b, b2, Ne.symm d]

/-- a header with the delayed bit forced, as WAIT_FOR_RETRY hands it to the raw transmitter -/
def dl (h : Hdr) : Hdr := { h with dw3 := setDelayed h.dw3 }

/-- `dl` sets the delayed bit and changes nothing else: words 0-2, sequence number, reserved field, hub
depth and deferred bit are kept (the CRCs are recomputed by the raw transmitter, `tx_word_carries_header`). -/
theorem dl_spec (h : Hdr) : (dl h).delayed = true ∧ (dl h).dw0 = h.dw0 ∧ (dl h).dw1 = h.dw1 ∧ (dl h).dw2 = h.dw2 ∧
    (dl h).seq = h.seq ∧ (dl h).dw3 % 33554432 = h.dw3 % 33554432 ∧ (dl h).dw3 / 67108864 = h.dw3 / 67108864 := by
  simp only [dl, HeaderRx.Hdr.delayed, HeaderRx.Hdr.seq, setDelayed, beq_iff_eq, true_and]
  refine ⟨?_, ?_, ?_, ?_⟩ <;> split <;> omega

/-- **C39 (4), one-step facts** (the history-level theorem is in `Props/C39Retry.lean`).
(i) an LBAD (while the link is up) reloads read pointer and send counter from the acknowledge pointer /
the number of unacknowledged headers and sets `retry_pending`, in every state, and WAIT_FOR_SEND is not entered in
that cycle; (ii) FLUSH_PACKET and a WAIT_FOR_SEND with a pending retry never dequeue, so a packet in flight cannot
advance the reloaded pointer; (iii) in WAIT_FOR_RETRY the header offered to the raw transmitter is
`buffers[read pointer]` with the delayed bit set, nothing is generated while `lrty_pending`, and in a cycle without
LBAD a completion advances the pointer by one and the state is left for DISPATCH_PACKET only on the last completion;
(iv) DISPATCH_PACKET with a retry pending does not go to WAIT_FOR_SEND. -/
theorem lbad_retry_one_step_facts (c : Config) (s : State) (i : In)
    (hen : i.enable = true) :
    (retryRequired s = true →
        (step c s i).1.rp = s.ap ∧ (step c s i).1.retryPending = true ∧
        (step c s i).1.pts = (if enq s i then (s.paa + 1) % 8 else s.paa) ∧
        (s.fsm ≠ .waitSend → (step c s i).1.fsm ≠ .waitSend)) ∧
    (s.fsm = .flush → deq s i = false ∧ generate s i = false) ∧
    (s.fsm = .waitSend → s.retryPending = true → deq s i = false) ∧
    (s.fsm = .waitRetry →
        (txHeader s).delayed = true ∧ (txHeader s).dw0 = (s.bufs.get s.rp).dw0 ∧
        (txHeader s).dw1 = (s.bufs.get s.rp).dw1 ∧ (txHeader s).dw2 = (s.bufs.get s.rp).dw2 ∧
        (txHeader s).seq = (s.bufs.get s.rp).seq ∧
        (i.lrtyPending = true → latch s i = false) ∧
        (retryRequired s = false → deq s i = true → (step c s i).1.rp = (s.rp + 1) % 4) ∧
        (retryRequired s = false → (step c s i).1.fsm = .dispatch → (rawDone s i = true ∧ s.pts = 1))) ∧
    (s.fsm = .dispatch → s.retryPending = true → (step c s i).1.fsm ≠ .waitSend) := by
  refine ⟨fun hr => ?_, fun hf => ?_, fun hf hp => ?_, fun hf => ?_, fun hf hp => ?_⟩
  · refine ⟨by simp [step_rp, hen, hr], by simp [step_retryPending, hen, hr], by simp [step_pts, hen, hr], ?_⟩
    intro hs
    simp only [step_fsm, fsmNext, hr]
    cases hx : s.fsm <;> simp_all <;> split <;> simp
  · simp [deq, generate, hf]
  · simp [deq, hf, hp]
  · obtain ⟨d1, d2, d3, d4, d5, _, _⟩ := dl_spec (s.bufs.get s.rp)
    rw [show txHeader s = dl (s.bufs.get s.rp) by simp [txHeader, hf, dl]]
    refine ⟨d1, d2, d3, d4, d5, ?_, ?_, ?_⟩
    · intro hl; simp [latch, generate, hf, hl]
    · intro hr hd; simp [step_rp, hen, hr, hd]
    · intro hr hd
      simp only [step_fsm, fsmNext, hf, hr, Bool.false_eq_true, if_false] at hd
      split at hd
      · rename_i hc; simpa using hc
      · cases hd
  · simp only [step_fsm, fsmNext, hf, hp]
    split <;> simp

/-! ## Non-vacuity -/

def idleIn : In :=
  { sinkValid := false, sinkData := 0, sinkCtrl := 0, srcReady := true, enable := true, qValid := false,
    qHdr := .zero, lrtyPending := false }
/-- a link command on the sink: LCSTART, then the command word -/
def lcIn (cmd sub : Nat) : List In :=
  [{ idleIn with sinkValid := true, sinkData := HeaderRx.lcStart, sinkCtrl := 15 },
   { idleIn with sinkValid := true, sinkData := HeaderRx.lcWord cmd sub }]
def qIn (h : Hdr) : In := { idleIn with qValid := true, qHdr := h }

instance (s : State) (g : Ghost) (i : In) : Decidable (EnvStep s g i) :=
  decidable_of_iff (i.enable = true ∧ (retire s = true → s.paa ≠ 0) ∧
      (creditReceived s = true → g.lcrds < 4 + g.retired))
    ⟨fun ⟨a, b, c⟩ => ⟨a, b, c⟩, fun ⟨a, b, c⟩ => ⟨a, b, c⟩⟩

def decEnvOk (c : Config) : (s : State) → (g : Ghost) → (ins : List In) → Decidable (EnvOk c s g ins)
  | _, _, [] => isTrue trivial
  | s, g, i :: is =>
    have := decEnvOk c (step c s i).1 (ghostStep s i g) is
    inferInstanceAs (Decidable (_ ∧ _))
instance (c : Config) (s : State) (g : Ghost) (ins : List In) : Decidable (EnvOk c s g ins) := decEnvOk c s g ins

/-- advertisement LGOOD_5, two credits, two headers from the queue, their transmission, LGOOD_6, then an
LBAD while the second header is still unacknowledged.  The examples check that the environment allows this
history and what the observer has counted at its end. -/
def demo : List In :=
  lcIn LGOOD 5 ++ lcIn LCRD 0 ++ lcIn LCRD 1 ++ [idleIn, qIn ⟨4, 1, 2, 0⟩, qIn ⟨4, 3, 4, 0⟩] ++
  List.replicate 16 idleIn ++ lcIn LGOOD 6 ++ lcIn LBAD 0 ++ List.replicate 10 idleIn

example : EnvOk ⟨201, 256⟩ init Ghost.init demo := by decide +kernel
example : let r := runG ⟨201, 256⟩ init Ghost.init demo
    r.2.adv = 5 ∧ r.2.taken.map Hdr.seq = [6, 7] ∧ r.2.lcrds = 2 ∧ r.2.retired = 1 ∧ r.1.paa = 1 ∧
    r.1.credits = 0 := by decide +kernel

end LunaVerif.PacketTx
