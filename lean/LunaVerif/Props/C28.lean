import LunaVerif.Model.Usb.BoundaryDetector
/-!
# C28 — OUT boundary detection marks first/last bytes and delays completion

"The processed receive stream carries the same bytes as the raw receive stream, in order, with
'first' on the first byte and 'last' on the final byte of every packet, and the completion/invalid
strobes seen during a packet are reported only after that packet's last byte has been output."

A *byte* of the raw stream is a cycle with `valid ∧ next`; a *packet* is the run of bytes from a first
byte up to the cycle in which `valid` falls; the strobes *seen during a packet* are those asserted
after the cycle of its first byte, up to and including the cycle in which `valid` falls.

Environment assumption `Env`: the cycle immediately after the cycle in which `valid` fell at the end of
a packet carries no byte (on the bus an EOP, the inter-packet gap, SYNC and a PID separate two
packets).  Without it the byte arriving in the detector's OUTPUT_STROBES cycle is dropped
(`byte_in_strobe_cycle_is_dropped`).

All outputs are registered, so the last input becomes visible one cycle later and a strobe event two
cycles later: the theorems speak about the outputs for the history followed by one neutral `hold`
cycle (`valid = 1`, no byte, no strobes — the specification's state does not move on it).
-/
namespace LunaVerif.BoundaryDetector

/-! ## What is observed on the processed stream -/

inductive Event where
  | byte (payload : Nat) (first last : Bool)
  | strobe (complete invalid : Bool)
deriving DecidableEq, Repr

def strobeEv (c i : Bool) : List Event := if c || i then [.strobe c i] else []

/-- The events visible in one cycle: a byte when `next` is high, then the strobes. -/
def eventsOf (o : Out) : List Event :=
  (if o.next then [.byte o.payload o.first o.last] else []) ++ strobeEv o.completeOut o.invalidOut

def events (os : List Out) : List Event := os.flatMap eventsOf

def isByte (i : In) : Bool := i.valid && i.next

/-- A neutral cycle: active, no byte, no strobes. -/
def hold : In := ⟨true, false, 0, false, false⟩

/-! ## Specification, packet level -/

structure Pkt where
  bytes    : List Nat    -- in arrival order (never empty)
  complete : Bool        -- OR of complete_in seen during the packet
  invalid  : Bool
deriving DecidableEq, Repr

/-- bytes of a packet with their marks: `first` on the first, `last` on the final one -/
def marked : Bool → List Nat → List Event
  | _, [] => []
  | f, [b] => [.byte b f true]
  | f, b :: b' :: bs => .byte b f false :: marked false (b' :: bs)

/-- all but the final byte (what can be output while the packet is still running) -/
def markedPrefix : Bool → List Nat → List Event
  | _, [] => []
  | _, [_] => []
  | f, b :: b' :: bs => .byte b f false :: markedPrefix false (b' :: bs)

/-- a finished packet: its bytes with marks, then its strobes -/
def pktEvents (p : Pkt) : List Event := marked true p.bytes ++ strobeEv p.complete p.invalid

/-- Split a raw history into finished packets and the packet still running (if any). -/
def parse : Option Pkt → List In → List Pkt × Option Pkt
  | cur, [] => ([], cur)
  | none, i :: is => if isByte i then parse (some ⟨[i.payload], false, false⟩) is else parse none is
  | some p, i :: is =>
    let p' : Pkt := ⟨p.bytes, p.complete || i.completeIn, p.invalid || i.invalidIn⟩
    if isByte i then parse (some { p' with bytes := p.bytes ++ [i.payload] }) is
    else if !i.valid then ((parse none is).1.cons p', (parse none is).2)
    else parse (some p') is

/-! ## Specification, streaming form (the same thing without latency) -/

/-- The streaming specification is a transducer: a state (`Spec`) that reads the raw stream one cycle at a time and
puts out that cycle's events (`Spec.step`; `Spec.run` over a history).  It holds back one byte, the last one seen, until
it knows whether that byte was the packet's last. -/
inductive Spec where
  | idle
  | inPkt (pending : Nat) (isFirst complete invalid : Bool)
deriving DecidableEq, Repr

def Spec.step : Spec → In → Spec × List Event
  | .idle, i => if isByte i then (.inPkt i.payload true false false, []) else (.idle, [])
  | .inPkt b f c iv, i =>
    let c' := c || i.completeIn
    let iv' := iv || i.invalidIn
    if isByte i then (.inPkt i.payload false c' iv', [.byte b f false])
    else if !i.valid then (.idle, .byte b f true :: strobeEv c' iv')
    else (.inPkt b f c' iv', [])

def Spec.run : Spec → List In → List Event
  | _, [] => []
  | σ, i :: is => (σ.step i).2 ++ Spec.run (σ.step i).1 is

/-- The input ends a running packet (`valid` falls while a packet is running). -/
def Spec.ends : Spec → In → Bool
  | .inPkt .., i => !i.valid
  | .idle, _ => false

/-- Environment: no byte in the cycle immediately after the cycle that ended a packet (`e` = the
previous cycle ended a packet; `σ` = where the raw stream stands). -/
def Env : Bool → Spec → List In → Bool
  | _, _, [] => true
  | e, σ, i :: is => (!e || !isByte i) && Env (σ.ends i) (σ.step i).1 is

/-! ## Stage A: the detector is the streaming specification, one cycle late -/

/-- Relation between detector state, streaming spec state and the events the spec has already
produced but the detector will show only in the next cycle. -/
def Rel (s : State) (σ : Spec) (pend : List Event) (pv : Bool) : Prop :=
  match s.fsm with
  | .waitFirst => σ = .idle ∧ pend = []
  | .receive   => σ = .inPkt s.bufferedByte s.isFirstByte s.bufferedComplete s.bufferedInvalid ∧ pend = [] ∧
                  s.out.last = false ∧ s.out.completeOut = false ∧ s.out.invalidOut = false
  | .strobes   => σ = .idle ∧ pend = strobeEv s.bufferedComplete s.bufferedInvalid ∧ pv = true ∧
                  s.out.completeOut = false ∧ s.out.invalidOut = false

theorem rel_step {s : State} {σ : Spec} {pend : List Event} {pv : Bool} {i : In}
    (h : Rel s σ pend pv) (he : (!pv || !isByte i) = true) :
    ∃ pend', Rel (step s i) (σ.step i).1 pend' (σ.ends i) ∧
      eventsOf (step s i).out ++ pend' = pend ++ (σ.step i).2 := by
  obtain ⟨fsm, out, bb, fb, bc, bi⟩ := s
  obtain ⟨v, n, p, ci, ii⟩ := i
  cases fsm
  · -- WAIT_FOR_FIRST_BYTE
    obtain ⟨rfl, rfl⟩ := h
    cases v <;> cases n <;> simp [step, Spec.step, isByte, Rel, eventsOf, strobeEv]
  · -- RECEIVE_AND_TRANSMIT
    obtain ⟨rfl, rfl, h1, h2, h3⟩ := h
    simp only at h1 h2 h3
    cases v <;> cases n <;>
      simp [step, Spec.step, Spec.ends, isByte, Rel, eventsOf, strobeEv, h1, h2, h3]
  · -- OUTPUT_STROBES
    obtain ⟨rfl, rfl, rfl, h2, h3⟩ := h
    simp only at h2 h3
    cases v <;> cases n <;> simp_all [step, Spec.step, isByte, Rel, eventsOf, strobeEv]

theorem events_cons (o : Out) (os : List Out) : events (o :: os) = eventsOf o ++ events os := by
  simp [events]

theorem run_head (s : State) (l : List In) : run s l = s.out :: (run s l).tail := by
  cases l <;> rfl

/-- The events after the current cycle, for a history followed by one `hold` cycle. -/
theorem run_refines {s : State} {σ : Spec} {pend : List Event} {pv : Bool} (ins : List In)
    (h : Rel s σ pend pv) (he : Env pv σ ins = true) :
    events ((run s (ins ++ [hold])).tail) = pend ++ Spec.run σ ins := by
  induction ins generalizing s σ pend pv with
  | nil =>
    obtain ⟨pend', hr, hev⟩ := rel_step (i := hold) h (by simp [isByte, hold])
    have hs : (σ.step hold).2 = [] := by cases σ <;> simp [Spec.step, isByte, hold]
    have hp : pend' = [] := by
      obtain ⟨fsm, out, bb, fb, bc, bi⟩ := s
      cases fsm <;> simp_all [Rel, step, hold]
    simp only [List.nil_append, run, List.tail_cons, events_cons, Spec.run, List.append_nil]
    rw [hs, hp] at hev
    simpa [events] using hev
  | cons i is ih =>
    simp only [Env, Bool.and_eq_true] at he
    obtain ⟨pend', hr, hev⟩ := rel_step (i := i) h he.1
    simp only [List.cons_append, run, List.tail_cons, Spec.run]
    rw [run_head, events_cons, ih hr he.2, ← List.append_assoc, hev, List.append_assoc]

theorem rel_init : Rel init .idle [] false := by simp [Rel, init]

/-- **Stage A**: for every history satisfying `Env`, the events on the processed stream (outputs of all
cycles up to one `hold` cycle after the history) are exactly the events of the streaming
specification, the transducer `Spec.run`. -/
theorem detector_refines_transducer (ins : List In) (he : Env false .idle ins = true) :
    events (run init (ins ++ [hold])) = Spec.run .idle ins := by
  rw [run_head, events_cons, run_refines ins rel_init he]
  simp [eventsOf, init, strobeEv]

/-- whatever the state and the input, the outputs registered in a cycle show `next` only with `valid` -/
theorem step_next_valid (s : State) (i : In) : (step s i).out.next = true → (step s i).out.valid = true := by
  obtain ⟨fsm, out, bb, fb, bc, bi⟩ := s
  obtain ⟨v, n, p, ci, ii⟩ := i
  cases fsm <;> cases v <;> cases n <;> simp [step]

theorem next_valid_from {s : State} (h : s.out.next = true → s.out.valid = true) (ins : List In) :
    ∀ o ∈ run s ins, o.next = true → o.valid = true := by
  induction ins generalizing s with
  | nil => simpa [run] using h
  | cons i is ih =>
    simp only [run, List.mem_cons, forall_eq_or_imp]
    exact ⟨h, ih (step_next_valid s i)⟩

/-- Every byte event is output with `valid` high (the endpoints gate on `next ∧ valid`). -/
theorem next_implies_valid (ins : List In) : ∀ o ∈ run init ins, o.next = true → o.valid = true :=
  next_valid_from (by simp [init]) ins

/-- Why `Env` is needed: a byte in the cycle right after `valid` fell (the OUTPUT_STROBES cycle) is
dropped — here the second packet `[7, 8]` comes out as `[8]` marked first and last. -/
theorem byte_in_strobe_cycle_is_dropped :
    events (run init [⟨true, true, 5, false, false⟩, ⟨false, false, 0, false, false⟩,
                      ⟨true, true, 7, false, false⟩, ⟨true, true, 8, false, false⟩,
                      ⟨false, false, 0, false, false⟩, hold])
      = [.byte 5 true true, .byte 8 true true] := by decide

/-! ## Stage B: the streaming specification is the packet-level specification -/

theorem markedPrefix_snoc (f : Bool) (pre : List Nat) (b b' : Nat) :
    markedPrefix f (pre ++ [b] ++ [b']) = markedPrefix f (pre ++ [b]) ++ [.byte b (f && pre.isEmpty) false] := by
  induction pre generalizing f with
  | nil => simp [markedPrefix]
  | cons x pre ih =>
    cases pre with
    | nil => simp [markedPrefix]
    | cons y pre =>
      have := ih false
      simp only [List.cons_append, markedPrefix, List.isEmpty_cons, Bool.and_false] at this ⊢
      rw [this]

theorem marked_snoc (f : Bool) (pre : List Nat) (b : Nat) :
    marked f (pre ++ [b]) = markedPrefix f (pre ++ [b]) ++ [.byte b (f && pre.isEmpty) true] := by
  induction pre generalizing f with
  | nil => simp [marked, markedPrefix]
  | cons x pre ih =>
    cases pre with
    | nil => simp [marked, markedPrefix]
    | cons y pre =>
      have := ih false
      simp only [List.cons_append, marked, markedPrefix, List.isEmpty_cons, Bool.and_false] at this ⊢
      rw [this]

/-- the events of the packet still running that can already be out -/
def prefixEv : Option Pkt → List Event
  | none => []
  | some p => markedPrefix true p.bytes

/-- streaming state ↔ running packet -/
inductive Match : Spec → Option Pkt → Prop
  | idle : Match .idle none
  | inPkt (pre : List Nat) (b : Nat) (c i : Bool) : Match (.inPkt b pre.isEmpty c i) (some ⟨pre ++ [b], c, i⟩)

theorem spec_eq_packets {σ : Spec} {cur : Option Pkt} (hm : Match σ cur) (ins : List In) :
    prefixEv cur ++ Spec.run σ ins
      = (parse cur ins).1.flatMap pktEvents ++ prefixEv (parse cur ins).2 := by
  induction ins generalizing σ cur with
  | nil => cases hm <;> simp [Spec.run, parse]
  | cons i is ih =>
    cases hm with
    | idle =>
      by_cases hb : isByte i = true
      · have := ih (Match.inPkt [] i.payload false false)
        simpa [Spec.run, Spec.step, parse, hb, prefixEv, markedPrefix] using this
      · have := ih Match.idle
        simpa [Spec.run, Spec.step, parse, hb, prefixEv] using this
    | inPkt pre b c iv =>
      by_cases hb : isByte i = true
      · have := ih (Match.inPkt (pre ++ [b]) i.payload (c || i.completeIn) (iv || i.invalidIn))
        simp only [Spec.run, Spec.step, parse, hb, if_true, prefixEv] at this ⊢
        rw [← List.append_assoc, ← this, markedPrefix_snoc]
        have he : (pre ++ [b]).isEmpty = false := by cases pre <;> rfl
        simp [he]
      · by_cases hv : i.valid = true
        · have := ih (Match.inPkt pre b (c || i.completeIn) (iv || i.invalidIn))
          simpa [Spec.run, Spec.step, parse, hb, hv, prefixEv] using this
        · have := ih Match.idle
          simp only [Bool.not_eq_true] at hv hb
          simp only [Spec.run, Spec.step, parse, hb, hv, prefixEv, Bool.false_eq_true, if_false, Bool.not_false,
            if_true, List.nil_append, List.flatMap_cons, pktEvents] at this ⊢
          rw [marked_snoc, this]
          simp

/-! ## The three statements of the property -/

/-- **strobes_after_last_byte** (the full event order): the processed stream shows, packet by packet,
the packet's bytes with their marks and *then* one strobe event carrying the OR of the strobes seen
during that packet (none when there was none) — before any byte of the next packet; the packet still
running has shown all its bytes but the final one, and no strobe. -/
theorem strobes_after_last_byte (ins : List In) (he : Env false .idle ins = true) :
    events (run init (ins ++ [hold]))
      = (parse none ins).1.flatMap pktEvents ++ prefixEv (parse none ins).2 := by
  rw [detector_refines_transducer ins he]
  simpa [prefixEv] using spec_eq_packets Match.idle ins

def Event.isByte : Event → Bool
  | .byte .. => true
  | .strobe .. => false

theorem filter_marked (f : Bool) (bs : List Nat) : (marked f bs).filter Event.isByte = marked f bs := by
  induction bs generalizing f with
  | nil => rfl
  | cons b bs ih => cases bs <;> simp_all [marked, Event.isByte]

theorem filter_markedPrefix (f : Bool) (bs : List Nat) :
    (markedPrefix f bs).filter Event.isByte = markedPrefix f bs := by
  induction bs generalizing f with
  | nil => rfl
  | cons b bs ih => cases bs <;> simp_all [markedPrefix, Event.isByte]

theorem filter_strobeEv (c i : Bool) : (strobeEv c i).filter Event.isByte = [] := by
  cases c <;> cases i <;> simp [strobeEv, Event.isByte]

theorem filter_flatMap_pktEvents (ps : List Pkt) :
    (ps.flatMap pktEvents).filter Event.isByte = ps.flatMap (fun p => marked true p.bytes) := by
  induction ps with
  | nil => rfl
  | cons p ps ih =>
    simp only [List.flatMap_cons, List.filter_append, ih, pktEvents, filter_marked, filter_strobeEv,
      List.append_nil]

/-- **first_on_first_last_on_last**: the byte events of the processed stream are, packet by packet,
the packet's bytes with `first` exactly on its first and `last` exactly on its final byte (a one-byte
packet carries both). -/
theorem first_on_first_last_on_last (ins : List In) (he : Env false .idle ins = true) :
    (events (run init (ins ++ [hold]))).filter Event.isByte
      = (parse none ins).1.flatMap (fun p => marked true p.bytes) ++ prefixEv (parse none ins).2 := by
  rw [strobes_after_last_byte ins he, List.filter_append, filter_flatMap_pktEvents]
  congr 1
  cases (parse none ins).2 <;> simp [prefixEv, filter_markedPrefix]

def Event.payload? : Event → Option Nat
  | .byte p _ _ => some p
  | .strobe .. => none

/-- the bytes of the raw stream -/
def inBytes (ins : List In) : List Nat := ins.filterMap (fun i => if isByte i then some i.payload else none)

def Spec.pending : Spec → List Nat
  | .idle => []
  | .inPkt b _ _ _ => [b]

def Spec.final : Spec → List In → Spec
  | σ, [] => σ
  | σ, i :: is => Spec.final (σ.step i).1 is

theorem strobeEv_payloads (c i : Bool) : (strobeEv c i).filterMap Event.payload? = [] := by
  cases c <;> cases i <;> simp [strobeEv, Event.payload?]

theorem spec_bytes (σ : Spec) (ins : List In) :
    (Spec.run σ ins).filterMap Event.payload? ++ (Spec.final σ ins).pending = σ.pending ++ inBytes ins := by
  induction ins generalizing σ with
  | nil => simp [Spec.run, Spec.final, inBytes]
  | cons i is ih =>
    simp only [Spec.run, Spec.final, List.filterMap_append, List.append_assoc, ih]
    cases σ with
    | idle => by_cases hb : isByte i = true <;> simp [Spec.step, hb, Spec.pending, inBytes]
    | inPkt b f c iv =>
      by_cases hb : isByte i = true
      · simp [Spec.step, hb, Spec.pending, inBytes, Event.payload?]
      · by_cases hv : i.valid = true <;>
          simp [Spec.step, hb, hv, Spec.pending, inBytes, Event.payload?, strobeEv_payloads]

/-- **same_bytes_in_order**: the payloads on the processed stream, followed by the one byte the
detector still holds back while a packet is running, are exactly the bytes of the raw stream, in
order (nothing lost, added or reordered). -/
theorem same_bytes_in_order (ins : List In) (he : Env false .idle ins = true) :
    (events (run init (ins ++ [hold]))).filterMap Event.payload? ++ (Spec.final .idle ins).pending
      = inBytes ins := by
  rw [detector_refines_transducer ins he]
  simpa [Spec.pending] using spec_bytes .idle ins

/-! ## Non-vacuity: two packets (3 bytes with a wait cycle and a completion strobe; 1 byte, invalid) -/
example :
    let h : List In := [⟨false, false, 0, false, false⟩, ⟨true, false, 0, false, false⟩,
      ⟨true, true, 1, false, false⟩, ⟨true, true, 2, false, false⟩, ⟨true, false, 9, false, false⟩,
      ⟨true, true, 3, false, false⟩, ⟨true, false, 0, true, false⟩, ⟨false, false, 0, false, false⟩,
      ⟨true, false, 0, false, false⟩, ⟨true, true, 4, false, false⟩, ⟨false, false, 0, false, true⟩,
      ⟨false, false, 0, false, false⟩]
    Env false .idle h = true ∧
    events (run init (h ++ [hold])) = [.byte 1 true false, .byte 2 false false, .byte 3 false true,
      .strobe true false, .byte 4 true true, .strobe false true] := by decide

end LunaVerif.BoundaryDetector
