import LunaVerif.Model.Usb3.CtcSkipInserter
/-!
# C33 — Transmit CTC inserts SKPs only in place of idle and often enough

"The transmitted symbol stream equals the link layer's stream except that some logical-idle filler
words are replaced by SKP words; packet and command data are never replaced, dropped or delayed out
of order, the scrambler does not advance over inserted SKPs, and SKP symbols are scheduled at the
rate of one SKP ordered set per 354 transmitted symbols whenever idle time permits."

Quantifier: all link-layer streams (bursts of data interleaved with idle filler of any length).

Environment assumption (`Env`): in every cycle with `can_send_skip = 1` the word offered on the sink is
logical idle (valid, four D0.0 symbols).  link/layer.py guarantees it structurally: the only assignment
of `can_send_skp` sits in the `If(arbiter.idle)` block that also drives the sink with IDL
(`link_layer_idle_mux_guarantees_env` on the model `linkIdleMux`; the harness re-checks the source text
on every run), physical/layer.py forwards the flag unchanged and the scrambler in between is
combinational (no skew between flag and word).

What "transmitted stream" means here: the source of `CTCSkipInserter` is a register, so the word the
PHY sees in cycle t+1 is `(next s i).src` for the input `i` of cycle t.  As coded, every sink word is
forwarded whether or not `sink.ready` was high (there is no back-pressure besides the registered
ready); in the physical layer `source.ready` is constant 1 outside electrical idle.

Debt counter: `skips_to_send` is 3 bits wide; `skp_debt_accounting` holds while it does not wrap
(`NoWrap`), `no_wrap_below_2832_bytes` shows that takes 8·354 bytes of unpaid debt, and
`debt_counter_overflow_boundary` exhibits the wrap 7 → 0 (eight owed ordered sets forgotten).
-/
namespace LunaVerif.CtcInserter
open LunaVerif.Ss

/-! ## Specification vocabulary -/

def isIdle (b : Beat) : Prop := b.valid = true ∧ b.syms = IDLE4

/-- The environment assumption, for a given shape `idle` of the logical-idle beat at the sink of the
inserter: `isIdle` as the link layer offers it; inside the physical layer the (combinational)
scrambler sits in between, so there `idle` is "the scrambled image of the idle word of this cycle" —
the inserter never looks at the data, hence the theorems hold for any `idle`. -/
def Env (idle : Beat → Prop) (ins : List In) : Prop := ∀ i ∈ ins, i.canSend = true → idle i.sink

/-- The beats in the source register after each input = what is transmitted one cycle later. -/
def txBeats (s : State) (ins : List In) : List Beat := (states s ins).map (·.src)

/-- The specification of the transmitted stream: the link layer's beat, or the SKP word where one is
inserted (`first`/`last` of the register are left as they were — the PHY does not use them). -/
def specBeat (s : State) (i : In) (inserted : Bool) : Beat :=
  if inserted then ⟨true, SKP4, s.src.first, s.src.last⟩ else i.sink

/-- Number of SKP words inserted. -/
def sentWords : State → List In → Nat
  | _, [] => 0
  | s, i :: is => (if sending s i then 1 else 0) + sentWords (next s i) is

/-- The 3-bit debt counter does not wrap: it is below 7 whenever it is incremented. -/
def NoWrap : State → List In → Prop
  | _, [] => True
  | s, i :: is => (skipNeeded s i = true → sending s i = false → s.skips < 7) ∧ NoWrap (next s i) is

/-! ## The environment is what link/layer.py provides -/

theorem link_layer_idle_mux_guarantees_env (arbiterIdle : Bool) (arb : Beat) (srcReady : Bool) :
    Env isIdle [⟨(linkIdleMux arbiterIdle arb).1, srcReady, (linkIdleMux arbiterIdle arb).2⟩] := by
  intro i hi hc
  simp only [List.mem_singleton] at hi
  subst hi
  cases arbiterIdle <;> simp_all [linkIdleMux, isIdle]

/-! ## The transmitted stream -/

theorem next_src (s : State) (i : In) : (next s i).src = specBeat s i (sending s i) := rfl

theorem sending_needs_permission (s : State) (i : In) (h : sending s i = true) :
    i.canSend = true ∧ 2 ≤ s.skips := by
  simpa [sending] using h

/-- "Whenever idle time permits": a SKP word is inserted in EVERY cycle in which the link layer allows
it and two ordered sets are owed — no further condition. -/
theorem skp_sent_as_soon_as_allowed (s : State) (i : In) :
    sending s i = (i.canSend && decide (2 ≤ s.skips)) := rfl

/-- **C33 (a).**  For every history: the word transmitted after each cycle is the link layer's word of
that cycle, except in the cycles flagged by `sending_skip`, where it is SKP SKP SKP SKP; flagged
cycles have `can_send_skip = 1`, and under `Env` the word they replace is logical idle.  One output
per input, same order, latency one cycle: nothing else is replaced, dropped, delayed or reordered. -/
theorem tx_stream_is_input_with_idle_replaced (idle : Beat → Prop) (s : State) (ins : List In)
    (he : Env idle ins) :
    (txBeats s ins).map (fun b => (b.valid, b.syms)) =
      List.zipWith (fun (i : In) (f : Bool) => if f then (true, SKP4) else (i.sink.valid, i.sink.syms))
        ins (sendFlags s ins) ∧
    (sendFlags s ins).length = ins.length ∧
    (∀ p ∈ List.zip ins (sendFlags s ins), p.2 = true → p.1.canSend = true ∧ idle p.1.sink) := by
  induction ins generalizing s with
  | nil => simp [txBeats, states, sendFlags]
  | cons i is ih =>
    have hi := he i (List.mem_cons_self ..)
    obtain ⟨h1, h2, h3⟩ := ih (next s i) (fun j hj => he j (List.mem_cons_of_mem _ hj))
    refine ⟨?_, by simp [sendFlags, h2], ?_⟩
    · simp only [txBeats, states, sendFlags, List.map_cons, List.zipWith_cons_cons]
      rw [show (states (next s i) is).map (·.src) = txBeats (next s i) is from rfl, h1, next_src]
      cases sending s i <;> simp [specBeat]
    · intro p hp hf
      simp only [sendFlags, List.zip_cons_cons, List.mem_cons] at hp
      rcases hp with rfl | hp
      · have := (sending_needs_permission s i hf).1
        exact ⟨this, hi this⟩
      · exact h3 p hp hf

/-- Packet and command words: every beat that is not logical idle is transmitted unchanged (all
fields), in its own slot. -/
theorem non_idle_words_pass_unchanged (idle : Beat → Prop) (s : State) (ins : List In)
    (he : Env idle ins) :
    ∀ p ∈ List.zip ins (txBeats s ins), ¬ idle p.1.sink → p.2 = p.1.sink := by
  induction ins generalizing s with
  | nil => simp [txBeats, states]
  | cons i is ih =>
    intro p hp hn
    simp only [txBeats, states, List.map_cons, List.zip_cons_cons, List.mem_cons] at hp
    rcases hp with rfl | hp
    · show (next s i).src = i.sink
      rw [next_src]
      cases hs : sending s i
      · rfl
      · exact absurd (he i (List.mem_cons_self ..) (sending_needs_permission s i hs).1) hn
    · exact ih (next s i) (fun j hj => he j (List.mem_cons_of_mem _ hj)) p hp hn

/-! ## Scrambler hold -/

/-- **C33 (b).**  physical/layer.py wires `scrambler.hold = tx_ctc.sending_skip`.  The flag is high
exactly in the cycles in which the output register is loaded with the SKP word (valid); in every other
cycle it is loaded with the link layer's beat as it is.  So the scrambler is held precisely over inserted
SKP words (the link layer itself never offers a SKP word: `hnoskp`).  That the beat replaced is a
logical-idle one is `Env` and stands in `tx_stream_is_input_with_idle_replaced`, not here. -/
theorem scrambler_hold_iff_skp_word (s : State) (i : In) (hnoskp : i.sink.syms ≠ SKP4) :
    ((outOf s i).sendingSkip = true ↔ (next s i).src.syms = SKP4) ∧
    ((outOf s i).sendingSkip = true → (next s i).src.valid = true) ∧
    ((outOf s i).sendingSkip = false → (next s i).src = i.sink) := by
  rw [next_src]
  show (sending s i = true ↔ _) ∧ (sending s i = true → _) ∧ (sending s i = false → _)
  cases sending s i <;> simp [specBeat, hnoskp]

/-! ## SKP scheduling: the debt accounting -/

theorem next_elapsed (s : State) (i : In) (he : s.elapsed < 354) :
    (next s i).elapsed + 354 * (if skipNeeded s i then 1 else 0) =
      s.elapsed + 4 * (if xfer s i then 1 else 0) ∧ (next s i).elapsed < 354 := by
  unfold next skipNeeded
  simp only [SKIP_BYTE_LIMIT]
  cases xfer s i <;> by_cases hl : s.elapsed + 4 ≥ 354 <;> simp [hl] <;> omega

theorem next_skips (s : State) (i : In) (hk : s.skips < 8) :
    (next s i).skips = (s.skips + (if skipNeeded s i then 1 else 0)
                          - 2 * (if sending s i then 1 else 0)) % 8 ∧
    2 * (if sending s i then 1 else 0) ≤ s.skips := by
  have hs := sending_needs_permission s i
  unfold next
  cases skipNeeded s i <;> cases hd : sending s i <;> simp [hd] at hs ⊢ <;> omega

theorem step_accounting (s : State) (i : In) (he : s.elapsed < 354) (hk : s.skips < 8)
    (hnw : skipNeeded s i = true → sending s i = false → s.skips < 7) :
    354 * (next s i).skips + (next s i).elapsed + 708 * (if sending s i then 1 else 0) =
      354 * s.skips + s.elapsed + 4 * (if xfer s i then 1 else 0) ∧
    (next s i).elapsed < 354 ∧ (next s i).skips < 8 := by
  obtain ⟨e1, e2⟩ := next_elapsed s i he
  obtain ⟨k1, k2⟩ := next_skips s i hk
  -- not incrementing at 7 is what keeps the reduction modulo 8 from doing anything
  have hlt : s.skips + (if skipNeeded s i then 1 else 0) - 2 * (if sending s i then 1 else 0) < 8 := by
    revert hnw
    cases skipNeeded s i <;> cases sending s i <;>
      simp only [if_true, if_false, Bool.false_eq_true, forall_const] <;> omega
  rw [k1, Nat.mod_eq_of_lt hlt]
  omega

/-- **C33 (c).**  While the 3-bit counter does not wrap, for every history from any legal state: the
bytes accepted from the link layer are accounted for exactly — 354 per owed ordered set
(`skips_to_send`), 2·354 per inserted SKP word (two ordered sets), plus the remainder kept in
`data_bytes_elapsed` (never discarded, as USB 3.2 §6.4.3 requires). -/
theorem skp_debt_accounting (s : State) (ins : List In) (he : s.elapsed < 354) (hk : s.skips < 8)
    (hnw : NoWrap s ins) :
    354 * (final s ins).skips + (final s ins).elapsed + 708 * sentWords s ins =
      354 * s.skips + s.elapsed + 4 * transfers s ins ∧
    (final s ins).elapsed < 354 ∧ (final s ins).skips < 8 := by
  induction ins generalizing s with
  | nil => simp [final, sentWords, transfers, he, hk]
  | cons i is ih =>
    obtain ⟨hn1, hn2⟩ := hnw
    obtain ⟨h1, h2, h3⟩ := step_accounting s i he hk hn1
    obtain ⟨g1, g2, g3⟩ := ih (next s i) h2 h3 hn2
    refine ⟨?_, g2, g3⟩
    simp only [final, sentWords, transfers]
    omega

/-- From reset, while the counter does not wrap: the debt is ⌊bytes/354⌋ − 2·(SKP words sent) and the
remainder is bytes mod 354, i.e. one SKP ordered set is scheduled per 354 symbols taken from the link layer. -/
theorem debt_from_reset (ins : List In) (hnw : NoWrap init ins) :
    (final init ins).skips + 2 * sentWords init ins = 4 * transfers init ins / 354 ∧
    (final init ins).elapsed = 4 * transfers init ins % 354 := by
  obtain ⟨h1, h2, _⟩ := skp_debt_accounting init ins (by decide) (by decide) hnw
  have e1 : init.skips = 0 := rfl
  have e2 : init.elapsed = 0 := rfl
  rw [e1, e2] at h1
  omega

/-- The wrap cannot happen before 8·354 = 2832 bytes of debt (owed sets, remainder and bytes still to
come) have accumulated without being paid. -/
theorem no_wrap_below_2832_bytes (s : State) (ins : List In) (he : s.elapsed < 354) (hk : s.skips < 8)
    (hb : 354 * s.skips + s.elapsed + 4 * transfers s ins < 2832) : NoWrap s ins := by
  induction ins generalizing s with
  | nil => trivial
  | cons i is ih =>
    simp only [transfers] at hb
    have hstep : skipNeeded s i = true → sending s i = false → s.skips < 7 := by
      intro hn _
      have h := (next_elapsed s i he).1
      rw [hn, if_pos rfl] at h
      omega
    obtain ⟨h1, h2, h3⟩ := step_accounting s i he hk hstep
    exact ⟨hstep, ih (next s i) h2 h3 (by omega)⟩

/-- **The overflow boundary as coded.**  With seven ordered sets owed, one more 354-byte boundary
crossed in a cycle without insertion wraps the counter to 0: eight owed sets are forgotten.  (The
source comments expect at most 4 owed sets; the link layer allows insertion only while its arbiter is
idle, so any transmission longer than 8·354 bytes without an idle word — e.g. training sets — gets
here.) -/
theorem debt_counter_overflow_boundary (s : State) (i : In) (h7 : s.skips = 7)
    (hn : skipNeeded s i = true) (hs : sending s i = false) : (next s i).skips = 0 := by
  simp [next, hn, hs, h7]

/-! ## Non-vacuity -/

private def idleIn : In := ⟨⟨true, IDLE4, false, false⟩, true, true⟩
private def dataIn (d : Nat) : In := ⟨⟨true, unpack 4 d 0, false, false⟩, true, false⟩

example : Env isIdle (List.replicate 3 idleIn ++ [dataIn 0x11223344, idleIn]) := by
  intro i hi; simp [idleIn, dataIn] at hi; rcases hi with rfl | rfl | rfl <;> simp [isIdle]

/-- 178 data words (712 bytes) then idle: two ordered sets are owed, the first idle word after the
burst is replaced by a SKP word, the second is not. -/
example : sendFlags init (idleIn :: (List.replicate 178 (dataIn 0xA5A5A5A5) ++ [idleIn, idleIn, idleIn])) =
    List.replicate 179 false ++ [true, false, false] := by decide +kernel

example : NoWrap init (idleIn :: (List.replicate 178 (dataIn 0xA5A5A5A5) ++ [idleIn, idleIn, idleIn])) :=
  no_wrap_below_2832_bytes _ _ (by decide) (by decide) (by decide +kernel)

/-- One step from a state written down by hand - 7 owed sets, the limit reached, no permission - takes the count
to 0.  That such a state is reached from reset: `no_idle_debt_counter_wraps_from_reset` (Lemmas/C33NoIdle). -/
example : (next ⟨7, 352, ⟨false, IDLE4, false, false⟩, true⟩ (dataIn 1)).skips = 0 := by decide

end LunaVerif.CtcInserter
