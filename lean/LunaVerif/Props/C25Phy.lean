/-
C25 — the whole `GatewarePHY` transmit side with the operating mode changing at ANY `usb_io` cycle, in particular
while a transmission is in flight (`Model/Phy/FsPhy.lean` = `FsTx.step` inside the op-mode switch `FsCodec.glue`,
co-simulated against the real `GatewarePHY` cycle by cycle by the harness cases of kind "phy").

Property clause: *the PHY never drives D+/D- in the UTMI non-driving operating mode* — here over every history:
whatever state the transmit pipeline is in (any `FsTx.St`, reachable or not: mid-SYNC, mid-byte, in a stuffed bit,
draining its last byte, in the EOP), in every `usb_io` cycle whose `op_mode` is non-driving (or the reserved value 3)
both output enables are low IN THAT SAME CYCLE (latency 0: the switch is combinational), and `tx_ready` is low.
-/
import LunaVerif.Model.Phy.FsPhy
import LunaVerif.Props.C25

namespace LunaVerif.FsPhy
open LunaVerif.FsCodec

theorem step_nondriving (phase : Nat) (s : FsTx.St) (i : In) (h : i.opMode = OP_NONDRIVING ∨ i.opMode = 3) :
    (step phase s i).2.oe = false ∧ (step phase s i).2.ready = false := by
  rcases h with h | h <;> simp [step, out, glue, glueIn, h, OP_NONDRIVING, OP_NORMAL, OP_NO_ENCODING]

theorem run_forall (phase : Nat) (P : In → Out → Prop) (hP : ∀ s i, P i (step phase s i).2) (is : List In) :
    ∀ s, ∀ p ∈ is.zip (run phase s is), P p.1 p.2 := by
  induction is with
  | nil => intro s p hp; simp [run] at hp
  | cons i is ih =>
    intro s p hp
    simp only [run, List.zip_cons_cons, List.mem_cons] at hp
    rcases hp with rfl | hp
    · exact hP s i
    · exact ih _ p hp

/-- **never drives in non-driving mode**, over every history of inputs (the mode may change in any cycle) from
every state of the transmit chain: each cycle with `op_mode` ∈ {non-driving, reserved} has `oe = 0` in that cycle. -/
theorem phy_never_drives_in_nondriving (phase : Nat) (s : FsTx.St) (is : List In) :
    ∀ p ∈ is.zip (run phase s is), (p.1.opMode = OP_NONDRIVING ∨ p.1.opMode = 3) → p.2.oe = false ∧ p.2.ready = false :=
  run_forall phase (fun i o => (i.opMode = OP_NONDRIVING ∨ i.opMode = 3) → o.oe = false ∧ o.ready = false)
    (step_nondriving phase) is s

/-- **pull-up / pull-down follow the requests** in every cycle of every history, whatever is being transmitted. -/
theorem phy_pulls_follow_requests (phase : Nat) (s : FsTx.St) (is : List In) :
    ∀ p ∈ is.zip (run phase s is), p.2.pullup = p.1.termSelect ∧ p.2.pulldown = (p.1.dmPulldown || p.1.dpPulldown) :=
  run_forall phase (fun i o => o.pullup = i.termSelect ∧ o.pulldown = (i.dmPulldown || i.dpPulldown))
    (fun s i => pulls_follow_requests (glueIn s i)) is s

/-- in normal mode the PHY *is* the transmit chain the `C25Tx` theorems are about (same next state, same pins) -/
theorem phy_normal_is_tx (phase : Nat) (s : FsTx.St) (i : In) (h : i.opMode = OP_NORMAL) :
    (step phase s i).1 = (FsTx.step phase s ⟨i.txValid, i.txData⟩).1 ∧
    (step phase s i).2 = (let o := (FsTx.step phase s ⟨i.txValid, i.txData⟩).2
                          ⟨o.ready, o.dP, o.dN, o.oe, i.termSelect, i.dmPulldown || i.dpPulldown⟩) := by
  simp [step, out, glue, glueIn, txIn, h, FsTx.step, FsTx.St.out, OP_NORMAL]

/-- outside normal mode the transmit chain runs on with `tx_valid` = 0 and `tx_data` = 0 at its inputs -/
theorem phy_other_modes_idle_tx (phase : Nat) (s : FsTx.St) (i : In) (h : i.opMode ≠ OP_NORMAL) :
    (step phase s i).1 = (FsTx.step phase s ⟨false, 0⟩).1 ∧ (step phase s i).2.ready = false := by
  simp [step, out, txIn, h, FsTx.step]

/-- op_mode = 2 (no bit-stuffing / NRZI): `tx_data[0]` raw on D+, its complement on D-, driven while `tx_valid` -/
theorem phy_raw_drive (phase : Nat) (s : FsTx.St) (i : In) (h : i.opMode = OP_NO_ENCODING) :
    (step phase s i).2.oe = i.txValid ∧ (step phase s i).2.dP = i.txData.testBit 0 ∧
    (step phase s i).2.dN = !i.txData.testBit 0 := by
  simp [step, out, glue, glueIn, h, OP_NORMAL, OP_NO_ENCODING]

/-! Non-vacuity: a packet [0xA5] is started in normal mode (φ = 0); from cycle 40 (SYNC is over, the first data bits of 0xA5
are on the wire) the mode is non-driving for 8 cycles with tx_valid held, then normal again.  The pins are driven before and after, and not
during — while the pipeline's own `o_oe` (the state's `io.oOe`) stays high underneath. -/
private def demoIn (k : Nat) : In :=
  ⟨if 40 ≤ k ∧ k < 48 then 1 else 0, true, 0xA5, true, false, false⟩

private def demoRun : Nat → Nat → FsTx.St → List (Bool × Bool)
  | 0, _, _ => []
  | n + 1, k, s => ((step 0 s (demoIn k)).2.oe, s.io.oOe) :: demoRun n (k + 1) (step 0 s (demoIn k)).1

example : ((demoRun 52 0 {}).drop 36).take 16 =
    [(true, true), (true, true), (true, true), (true, true),
     (false, true), (false, true), (false, true), (false, true), (false, true), (false, true), (false, true), (false, true),
     (true, true), (true, true), (true, true), (true, true)] := by decide +kernel

end LunaVerif.FsPhy
