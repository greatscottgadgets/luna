import LunaVerif.Model.Usb2.DataGenerator
/-!
# C03 — USB2 transmitted data packets are correctly framed with a valid CRC16

"For any payload stream and any PHY acceptance (tx_ready) pattern, each transmitted packet is the
DATA PID selected by the requested toggle, followed by the payload bytes in order, followed by the
standard USB CRC16 of the payload (low byte first); a request marked 'last' without 'first'
produces a zero-length packet.  Every payload byte offered to the transmitter is sent exactly once."

Quantifier: all payload byte sequences, all PID selections, all `tx_ready` stall patterns, both
wirings of the CRC generator that the model has (as in `USBDevice` and the class's own `standalone=True`:
`Config` is universally quantified).

Presentation.  The generator runs in closed loop (`closed`) with an explicit well-behaved stream
producer `prodIn`: it offers the bytes `q` still to be sent with `valid`, `first` on the first byte,
`last` on the last one, keeps the byte until `stream.ready` takes it, and is silent afterwards.  The
`tx_ready` schedule is an arbitrary `List Bool`.  What happens is read off as events in cycle order:
`tx b` — the PHY accepted byte `b` (`tx.valid ∧ tx.ready`), `took b` — the generator consumed
payload byte `b` from the stream (`stream.ready ∧ stream.valid`).

The main statement is prefix-exact for EVERY schedule: after `n` accepting cycles exactly the
first `n` of the groups `[tx PID], [tx b₀, took b₀], …, [tx crc_lo], [tx crc_hi]` have happened,
and nothing else — so no byte is duplicated, skipped or reordered whatever the stall pattern, and
a schedule that never accepts transmits nothing.
-/
namespace LunaVerif.DataGenerator
open LunaVerif.DataCrc LunaVerif.Crc

inductive Ev
  | tx (b : Nat)     -- byte accepted by the PHY
  | took (b : Nat)   -- payload byte consumed from the stream
deriving Repr, DecidableEq

/-- **Producer assumption**: inputs of a well-behaved stream producer that still has to send `q`
(`junk` is whatever it drives on `payload` when it offers nothing). -/
def prodIn (d junk : Nat) (q : List Nat) (isFirst ready : Bool) : In :=
  match q with
  | [] => ⟨d, false, false, false, junk, ready⟩
  | b :: rest => ⟨d, true, isFirst, rest.isEmpty, b, ready⟩

def cycleEvents (o : Out) (i : In) : List Ev :=
  (if o.txValid && i.ready then [.tx o.txData] else []) ++
  (if o.streamReady && i.valid then [.took i.payload] else [])

def consumes (c : Config) (s : State) (i : In) : Bool := (step c s i).2.streamReady && i.valid

def closed (c : Config) (d junk : Nat) : State → List Nat → Bool → List Bool → List Ev
  | _, _, _, [] => []
  | s, q, f, r :: rs =>
    cycleEvents (step c s (prodIn d junk q f r)).2 (prodIn d junk q f r) ++
      closed c d junk (step c s (prodIn d junk q f r)).1
        (if consumes c s (prodIn d junk q f r) then q.tail else q)
        (if consumes c s (prodIn d junk q f r) then false else f) rs

def crcGroups (p : List Nat) : List (List Ev) := [[.tx (usb2Crc16 p % 256)], [.tx (usb2Crc16 p / 256)]]
def payloadGroups (q : List Nat) : List (List Ev) := q.map (fun b => [.tx b, .took b])

def expected (d : Nat) (p : List Nat) : List (List Ev) :=
  [.tx (dataPidByte d)] :: (payloadGroups p ++ crcGroups p)

def firstGroups (n : Nat) (gs : List (List Ev)) : List Ev := (gs.take n).flatten

/-! ## Phases (each for every stall pattern) -/

theorem closed_cons (c : Config) (d junk : Nat) (s : State) (q : List Nat) (f r : Bool) (rs : List Bool) :
    closed c d junk s q f (r :: rs) =
      cycleEvents (step c s (prodIn d junk q f r)).2 (prodIn d junk q f r) ++
        closed c d junk (step c s (prodIn d junk q f r)).1
          (if consumes c s (prodIn d junk q f r) then q.tail else q)
          (if consumes c s (prodIn d junk q f r) then false else f) rs := rfl

theorem firstGroups_zero (gs : List (List Ev)) : firstGroups 0 gs = [] := rfl
theorem firstGroups_succ (n : Nat) (g : List Ev) (gs : List (List Ev)) :
    firstGroups (n + 1) (g :: gs) = g ++ firstGroups n gs := by simp [firstGroups]
theorem firstGroups_nil (n : Nat) : firstGroups n [] = [] := by simp [firstGroups]

theorem done_quiet (c : Config) (d junk : Nat) (rs : List Bool) (s : State) (f : Bool) (hs : s.fsm = .idle) :
    closed c d junk s [] f rs = [] := by
  induction rs generalizing s f with
  | nil => rfl
  | cons r rs ih =>
    have h1 : (step c s (prodIn d junk [] f r)).1.fsm = .idle := by simp [step, fsmStep, prodIn, hs]
    have he : cycleEvents (step c s (prodIn d junk [] f r)).2 (prodIn d junk [] f r) = [] := by
      simp [cycleEvents, step, fsmStep, prodIn, hs]
    have hc : consumes c s (prodIn d junk [] f r) = false := by simp [consumes, prodIn]
    rw [closed_cons, he, hc]
    simpa using ih _ _ h1

/-- The shape of every sending phase, the induction over the schedule done once: cycles with `tx_ready` low keep
`P` and cause nothing (`hstall`); the accepting cycle causes the group `g` and hands over to the next phase (`hacc`). -/
theorem phase (c : Config) (d junk : Nat) (q q' : List Nat) (f f' : Bool) (P : State → Prop) (g : List Ev)
    (gs : List (List Ev))
    (hstall : ∀ s, P s → P (step c s (prodIn d junk q f false)).1 ∧
      cycleEvents (step c s (prodIn d junk q f false)).2 (prodIn d junk q f false) = [] ∧
      consumes c s (prodIn d junk q f false) = false)
    (hacc : ∀ s, P s → cycleEvents (step c s (prodIn d junk q f true)).2 (prodIn d junk q f true) = g ∧
      (if consumes c s (prodIn d junk q f true) then q.tail else q) = q' ∧
      (if consumes c s (prodIn d junk q f true) then false else f) = f' ∧
      ∀ rs, closed c d junk (step c s (prodIn d junk q f true)).1 q' f' rs = firstGroups (rs.count true) gs)
    (rs : List Bool) (s : State) (hs : P s) :
    closed c d junk s q f rs = firstGroups (rs.count true) (g :: gs) := by
  induction rs generalizing s with
  | nil => rfl
  | cons r rs ih =>
    cases r with
    | false =>
      obtain ⟨h1, he, hc⟩ := hstall s hs
      rw [closed_cons, he, hc]
      simpa using ih _ h1
    | true =>
      obtain ⟨he, hq, hf, hnext⟩ := hacc s hs
      rw [closed_cons, he, hq, hf, hnext, List.count_cons_self, firstGroups_succ]

theorem crc_second (c : Config) (d junk h : Nat) (rs : List Bool) (s : State) (f : Bool)
    (hs : s.fsm = .sendCrcSecond) (hr : s.remainingCrc = h) :
    closed c d junk s [] f rs = firstGroups (rs.count true) [[.tx h]] := by
  refine phase c d junk [] [] f f (fun s => s.fsm = .sendCrcSecond ∧ s.remainingCrc = h) [.tx h] [] ?_ ?_ rs s ⟨hs, hr⟩
  · intro s ⟨hs, hr⟩
    exact ⟨by simp [step, fsmStep, prodIn, hs, hr], by simp [cycleEvents, prodIn], by simp [consumes, prodIn]⟩
  · intro s ⟨hs, hr⟩
    refine ⟨by simp [cycleEvents, step, fsmStep, prodIn, hs, hr], by simp [consumes, prodIn],
      by simp [consumes, prodIn], fun rs => ?_⟩
    rw [firstGroups_nil]
    exact done_quiet c d junk rs _ f (by simp [step, fsmStep, prodIn, hs])

theorem crc_first (c : Config) (d junk : Nat) (p : List Nat) (rs : List Bool) (s : State) (f : Bool)
    (hs : s.fsm = .sendCrcFirst) (hcrc : s.crc = usb2Crc16Reg p) :
    closed c d junk s [] f rs = firstGroups (rs.count true) (crcGroups p) := by
  refine phase c d junk [] [] f f (fun s => s.fsm = .sendCrcFirst ∧ s.crc = usb2Crc16Reg p) _ _ ?_ ?_ rs s ⟨hs, hcrc⟩
  · intro s ⟨hs, hcrc⟩
    refine ⟨⟨by simp [step, fsmStep, prodIn, hs], ?_⟩, by simp [cycleEvents, prodIn], by simp [consumes, prodIn]⟩
    cases hcfg : c.standalone <;> simp [step, fsmStep, prodIn, hs, hcrc, DataCrc.next, hcfg]
  · intro s ⟨hs, hcrc⟩
    exact ⟨by simp [cycleEvents, step, fsmStep, prodIn, hs, hcrc, output_reg], by simp [consumes, prodIn],
      by simp [consumes, prodIn], fun rs => crc_second c d junk _ rs _ f (by simp [step, fsmStep, prodIn, hs])
        (by simp [step, fsmStep, prodIn, hs, hcrc, output_reg])⟩

theorem payload_phase (c : Config) (d junk : Nat) (rs : List Bool) (s : State) (pre q : List Nat) (f : Bool)
    (hq : q ≠ []) (hs : s.fsm = .sendPayload) (hcrc : s.crc = usb2Crc16Reg pre) :
    closed c d junk s q f rs = firstGroups (rs.count true) (payloadGroups q ++ crcGroups (pre ++ q)) := by
  induction q generalizing pre s f rs with
  | nil => exact absurd rfl hq
  | cons b rest ih =>
    refine phase c d junk (b :: rest) rest f false (fun s => s.fsm = .sendPayload ∧ s.crc = usb2Crc16Reg pre)
      [.tx b, .took b] _ ?_ ?_ rs s ⟨hs, hcrc⟩
    · intro s ⟨hs, hcrc⟩
      refine ⟨⟨by simp [step, fsmStep, prodIn, hs], ?_⟩, by simp [cycleEvents, step, fsmStep, prodIn, hs],
        by simp [consumes, step, fsmStep, prodIn, hs]⟩
      cases hcfg : c.standalone <;> simp [step, fsmStep, prodIn, hs, hcrc, DataCrc.next, hcfg]
    · intro s ⟨hs, hcrc⟩
      have hc : consumes c s (prodIn d junk (b :: rest) f true) = true := by
        simp [consumes, step, fsmStep, prodIn, hs]
      have h2 : (step c s (prodIn d junk (b :: rest) f true)).1.crc = usb2Crc16Reg (pre ++ [b]) := by
        rw [reg_snoc]
        cases hcfg : c.standalone <;> simp [step, fsmStep, prodIn, hs, hcrc, DataCrc.next, hcfg]
      refine ⟨by simp [cycleEvents, step, fsmStep, prodIn, hs], by rw [hc]; rfl, by rw [hc]; rfl, fun rs => ?_⟩
      match rest with
      | [] =>
        have := crc_first c d junk (pre ++ [b]) rs _ false (by simp [step, fsmStep, prodIn, hs]) h2
        simpa [payloadGroups] using this
      | b2 :: rest2 =>
        have := ih rs _ (pre ++ [b]) false (by simp) (by simp [step, fsmStep, prodIn, hs]) h2
        simpa [payloadGroups] using this

/-- SEND_PID: stalls keep the CRC unit cleared; the accepted PID byte starts the payload phase with a
fresh CRC, or, for a zero-length packet (`is_zlp`, nothing offered), goes straight to the CRC. -/
theorem pid_phase (c : Config) (d junk P : Nat) (rs : List Bool) (s : State) (q : List Nat) (f : Bool)
    (hs : s.fsm = .sendPid) (hp : s.currentPid = P) (hz : s.isZlp = q.isEmpty) :
    closed c d junk s q f rs = firstGroups (rs.count true) ([.tx P] :: (payloadGroups q ++ crcGroups q)) := by
  refine phase c d junk q q f f (fun s => s.fsm = .sendPid ∧ s.currentPid = P ∧ s.isZlp = q.isEmpty) _ _ ?_ ?_ rs s
    ⟨hs, hp, hz⟩
  · intro s ⟨hs, hp, hz⟩
    cases q <;> simp [consumes, cycleEvents, step, fsmStep, prodIn, hs, hp, hz]
  · intro s ⟨hs, hp, hz⟩
    have hc : consumes c s (prodIn d junk q f true) = false := by
      cases q <;> simp [consumes, step, fsmStep, prodIn, hs]
    have h2 : (step c s (prodIn d junk q f true)).1.crc = usb2Crc16Reg [] := by
      cases q <;> simp [step, fsmStep, prodIn, hs, DataCrc.next, reg_nil]
    refine ⟨by cases q <;> simp [cycleEvents, step, fsmStep, prodIn, hs, hp], by rw [hc]; rfl, by rw [hc]; rfl,
      fun rs => ?_⟩
    match q, hz with
    | [], hz => exact crc_first c d junk [] rs _ f (by simp [step, fsmStep, prodIn, hs, hz]) h2
    | b :: rest, hz =>
      have := payload_phase c d junk rs _ [] (b :: rest) f (by simp) (by simp [step, fsmStep, prodIn, hs, hz]) h2
      simpa using this

/-- **C03, all schedules, prefix-exact.**  From IDLE (all other registers and the CRC unit in any
state), a producer offering the non-empty payload `p` with data PID selector `d`, under ANY
`tx_ready` schedule `r0 :: rs` (`r0` is the cycle in which the request is noticed; nothing is on the
bus yet): after `n = number of accepting cycles in rs` exactly the first `n` groups of
`[tx PID], [tx b, took b]…, [tx crc_lo], [tx crc_hi]` have happened, in order, nothing else. -/
theorem tx_events_exact (c : Config) (d junk : Nat) (p : List Nat) (hp : p ≠ []) (s : State)
    (hs : s.fsm = .idle) (r0 : Bool) (rs : List Bool) :
    closed c d junk s p true (r0 :: rs) = firstGroups (rs.count true) (expected d p) := by
  match p, hp with
  | b :: rest, _ =>
    have hc : consumes c s (prodIn d junk (b :: rest) true r0) = false := by
      simp [consumes, step, fsmStep, prodIn, hs]
    have h1 : (step c s (prodIn d junk (b :: rest) true r0)).1.fsm = .sendPid := by
      simp [step, fsmStep, prodIn, hs]
    have h2 : (step c s (prodIn d junk (b :: rest) true r0)).1.currentPid = dataPidByte d := by
      simp [step, fsmStep, prodIn, hs]
    have h3 : (step c s (prodIn d junk (b :: rest) true r0)).1.isZlp = false := by
      simp [step, fsmStep, prodIn, hs]
    have he : cycleEvents (step c s (prodIn d junk (b :: rest) true r0)).2 (prodIn d junk (b :: rest) true r0)
        = [] := by simp [cycleEvents, step, fsmStep, prodIn, hs]
    rw [closed_cons, he, hc]
    simp only [Bool.false_eq_true, if_false, List.nil_append]
    rw [pid_phase c d junk _ rs _ (b :: rest) true h1 h2 h3]; rfl

def txBytes : List Ev → List Nat
  | [] => []
  | .tx b :: es => b :: txBytes es
  | _ :: es => txBytes es
def tookBytes : List Ev → List Nat
  | [] => []
  | .took b :: es => b :: tookBytes es
  | _ :: es => tookBytes es

theorem txBytes_append (a b : List Ev) : txBytes (a ++ b) = txBytes a ++ txBytes b := by
  induction a with
  | nil => rfl
  | cons e a ih => cases e <;> simp [txBytes, ih]
theorem tookBytes_append (a b : List Ev) : tookBytes (a ++ b) = tookBytes a ++ tookBytes b := by
  induction a with
  | nil => rfl
  | cons e a ih => cases e <;> simp [tookBytes, ih]

theorem txBytes_payload (q : List Nat) (rest : List Ev) :
    txBytes ((payloadGroups q).flatten ++ rest) = q ++ txBytes rest := by
  induction q with
  | nil => rfl
  | cons b q ih => simp [payloadGroups, txBytes] at ih ⊢; exact ih
theorem tookBytes_payload (q : List Nat) (rest : List Ev) :
    tookBytes ((payloadGroups q).flatten ++ rest) = q ++ tookBytes rest := by
  induction q with
  | nil => rfl
  | cons b q ih => simp [payloadGroups, tookBytes] at ih ⊢; exact ih

theorem firstGroups_all (n : Nat) (gs : List (List Ev)) (h : gs.length ≤ n) : firstGroups n gs = gs.flatten := by
  simp [firstGroups, List.take_of_length_le h]

/-- For every non-empty payload, data PID and `tx_ready` schedule that accepts the
whole packet (arbitrary stalls anywhere), the bytes accepted on UTMI are exactly
`[PID] ++ payload ++ [CRC16 low, CRC16 high]` — and nothing more, however long the schedule goes on. -/
theorem tx_packet_exact (c : Config) (d junk : Nat) (p : List Nat) (hp : p ≠ []) (s : State)
    (hs : s.fsm = .idle) (r0 : Bool) (rs : List Bool) (hacc : p.length + 3 ≤ rs.count true) :
    txBytes (closed c d junk s p true (r0 :: rs))
      = dataPidByte d :: (p ++ [usb2Crc16 p % 256, usb2Crc16 p / 256]) := by
  rw [tx_events_exact c d junk p hp s hs, firstGroups_all _ _ (by simp [expected, payloadGroups, crcGroups]; omega)]
  simp only [expected, List.flatten_cons, List.flatten_append, txBytes_append]
  have := txBytes_payload p []
  simp only [List.append_nil] at this
  rw [this]; simp [txBytes, crcGroups]

/-- Under a schedule that accepts the whole packet (`hacc`: PID, payload and both CRC bytes) the bytes taken from the
stream are the payload, each once, in order; under a shorter one a prefix of it (`tx_events_exact`). -/
theorem each_payload_byte_once (c : Config) (d junk : Nat) (p : List Nat) (hp : p ≠ []) (s : State)
    (hs : s.fsm = .idle) (r0 : Bool) (rs : List Bool) (hacc : p.length + 3 ≤ rs.count true) :
    tookBytes (closed c d junk s p true (r0 :: rs)) = p := by
  rw [tx_events_exact c d junk p hp s hs, firstGroups_all _ _ (by simp [expected, payloadGroups, crcGroups]; omega)]
  simp only [expected, List.flatten_cons, List.flatten_append, tookBytes_append]
  have := tookBytes_payload p []
  simp only [List.append_nil] at this
  rw [this]; simp [tookBytes, crcGroups]

/-- A request `valid ∧ last ∧ ¬first` seen in IDLE (one cycle), producer silent afterwards. -/
def zlpRequest (d junk : Nat) (r0 : Bool) : In := ⟨d, true, false, true, junk, r0⟩

/-- Such a request produces `[PID, CRC16([]) low, high]` (prefix-exact
for every schedule) and consumes nothing from the stream. -/
theorem zlp_on_last_without_first (c : Config) (d junk : Nat) (s : State) (hs : s.fsm = .idle) (r0 : Bool)
    (rs : List Bool) :
    (step c s (zlpRequest d junk r0)).2.txValid = false ∧
    closed c d junk (step c s (zlpRequest d junk r0)).1 [] false rs
      = firstGroups (rs.count true) [[.tx (dataPidByte d)], [.tx (usb2Crc16 [] % 256)], [.tx (usb2Crc16 [] / 256)]] := by
  have h1 : (step c s (zlpRequest d junk r0)).1.fsm = .sendPid := by simp [step, fsmStep, zlpRequest, hs]
  have h2 : (step c s (zlpRequest d junk r0)).1.currentPid = dataPidByte d := by
    simp [step, fsmStep, zlpRequest, hs]
  have h3 : (step c s (zlpRequest d junk r0)).1.isZlp = true := by simp [step, fsmStep, zlpRequest, hs]
  exact ⟨by simp [step, fsmStep, zlpRequest, hs], pid_phase c d junk _ rs _ [] false h1 h2 h3⟩

/-- However long the PHY stalls in SEND_CRC_FIRST (`n` cycles without
`tx_ready`), when the first CRC byte is finally accepted the generator is in SEND_CRC_SECOND with
`remaining_crc` = the HIGH byte of the payload's CRC16 — although, in the device wiring, the CRC unit itself
has just absorbed the low CRC byte (standalone: `stream.payload`). -/
theorem crc_capture_stall_safe (c : Config) (p : List Nat) (n : Nat) (s : State) (ins : List In)
    (hs : s.fsm = .sendCrcFirst) (hcrc : s.crc = usb2Crc16Reg p) (hn : ins.length = n)
    (hstall : ∀ i ∈ ins, i.ready = false) (iacc : In) (hacc : iacc.ready = true) :
    let s' := ins.foldl (fun st i => (step c st i).1) s
    (step c s' iacc).1.fsm = .sendCrcSecond ∧ (step c s' iacc).1.remainingCrc = usb2Crc16 p / 256 ∧
      (step c s' iacc).2.txData = usb2Crc16 p % 256 := by
  induction ins generalizing s n with
  | nil => simp [step, fsmStep, hs, hcrc, hacc, output_reg]
  | cons i is ih =>
    have hr : i.ready = false := hstall i (by simp)
    have h1 : (step c s i).1.fsm = .sendCrcFirst := by simp [step, fsmStep, hs, hr]
    have h2 : (step c s i).1.crc = usb2Crc16Reg p := by
      cases hcfg : c.standalone <;> simp [step, fsmStep, hs, hr, hcrc, DataCrc.next, hcfg]
    exact ih is.length _ h1 h2 rfl (fun j hj => hstall j (by simp [hj]))

/-! ## Non-vacuity: concrete schedules evaluated on the model -/

example : txBytes (closed ⟨false⟩ 1 0 init [0x11, 0x22, 0x33] true
      [true, false, false, true, true, false, true, false, false, false, true, false, true, true, false, true, true])
    = [0x4B, 0x11, 0x22, 0x33, usb2Crc16 [0x11, 0x22, 0x33] % 256, usb2Crc16 [0x11, 0x22, 0x33] / 256] := by
  decide +kernel
example : usb2Crc16 [] = 0 := by decide +kernel
example : closed ⟨false⟩ 0 0 (step ⟨false⟩ init (zlpRequest 0 0 true)).1 [] false [false, true, false, true, true, true]
    = [.tx 0xC3, .tx 0, .tx 0] := by decide +kernel

end LunaVerif.DataGenerator
