import LunaVerif.Model.Periph.HyperRam
/-!
# C53 — HyperRAM transactions use the correct command and never contend the bus

"Each transaction drives the 48-bit command-address word (read/write, memory/register space, burst
type, address) on DQ during the command phase, keeps chip select asserted until the transaction
ends, waits the latency count before memory data, and drives DQ/RWDS only during command and write
phases, never while the memory drives them."

All statements are over the model of the `HyperRAMInterface` core, for every value of every input
in every cycle (addresses, operation types, `final_word` timing, memory `rwds.i`/`dq.i` behaviour).
-/
namespace LunaVerif.HyperRam

/-- HyperBus command-address bits, 16 per clock: `CA[47]` R/W# (1 = read), `CA[46]` address space
(1 = register), `CA[45]` burst type (1 = linear), `CA[44:16]` = A[31:3], `CA[15:3]` reserved = 0,
`CA[2:0]` = A[2:0]. -/
def caSpec (addr : Nat) (read reg linear : Bool) : Nat × Nat × Nat :=
  (b2n read * 2 ^ 15 + b2n reg * 2 ^ 14 + b2n linear * 2 ^ 13 + addr / 2 ^ 19,
   addr / 8 % 2 ^ 16,
   addr % 8)

theorem b2n_le (b : Bool) : b2n b ≤ 1 := by cases b <;> decide

/-- The arithmetic of `Cat(addr[0:3], Const(0,13), addr[3:32], multipage, register, read)`. -/
theorem ca_slices (s : State) (ha : s.curAddr < 2 ^ 32) :
    (ca s / 2 ^ 32 % 2 ^ 16, ca s / 2 ^ 16 % 2 ^ 16, ca s % 2 ^ 16) =
      caSpec s.curAddr s.isRead s.isRegister s.isMultipage := by
  have hl : s.curAddr % 8 < 8 := by omega
  have hm : s.curAddr / 8 % 65536 < 65536 := by omega
  have hh : s.curAddr / 524288 < 8192 := by omega
  have e2 : s.curAddr / 8 % 536870912 = 65536 * (s.curAddr / 524288) + s.curAddr / 8 % 65536 := by omega
  have f1 := b2n_le s.isMultipage
  have f2 := b2n_le s.isRegister
  have f3 := b2n_le s.isRead
  unfold ca caSpec
  simp only [Nat.reducePow, e2]
  generalize s.curAddr % 8 = l at *
  generalize s.curAddr / 8 % 65536 = m at *
  generalize s.curAddr / 524288 = h at *
  generalize b2n s.isMultipage = x1 at *
  generalize b2n s.isRegister = x2 at *
  generalize b2n s.isRead = x3 at *
  clear e2 ha
  refine Prod.ext ?_ (Prod.ext ?_ ?_) <;> simp only <;> omega

def SameCmd (s s' : State) : Prop :=
  s'.curAddr = s.curAddr ∧ s'.isRead = s.isRead ∧ s'.isRegister = s.isRegister ∧ s'.isMultipage = s.isMultipage

theorem ca_congr (s s' : State) (h : SameCmd s s') : ca s' = ca s := by
  obtain ⟨a, b, c, d⟩ := h
  simp [ca, a, b, c, d]

theorem idle_accepts (s : State) (i : In) (hs : s.fsm = .idle) (hstart : i.startTransfer = true) :
    (step s i).1.fsm = .latchRwds ∧ (step s i).1.curAddr = i.address % 2 ^ 32 ∧
    (step s i).1.isRead = !i.performWrite ∧ (step s i).1.isRegister = i.registerSpace ∧
    (step s i).1.isMultipage = !i.singlePage := by
  simp [step, hs, hstart]

theorem latch_step (s : State) (i : In) (hs : s.fsm = .latchRwds) :
    (step s i).1.fsm = .shiftCommand0 ∧ SameCmd s (step s i).1 := by
  simp [step, hs, SameCmd]

theorem sc0_step (s : State) (i : In) (hs : s.fsm = .shiftCommand0) :
    (step s i).1.fsm = .shiftCommand1 ∧ SameCmd s (step s i).1 ∧
    (step s i).1.dqE = true ∧ (step s i).1.dqO = ca s / 2 ^ 32 % 2 ^ 16 := by
  simp [step, hs, SameCmd]

theorem sc1_step (s : State) (i : In) (hs : s.fsm = .shiftCommand1) :
    (step s i).1.fsm = .shiftCommand2 ∧ SameCmd s (step s i).1 ∧
    (step s i).1.dqE = true ∧ (step s i).1.dqO = ca s / 2 ^ 16 % 2 ^ 16 := by
  simp [step, hs, SameCmd]

theorem sc2_step (s : State) (i : In) (hs : s.fsm = .shiftCommand2) :
    (step s i).1.dqE = true ∧ (step s i).1.dqO = ca s % 2 ^ 16 := by
  unfold step
  simp only [hs]
  split <;> simp

/-- **Command word.**  A request accepted in IDLE (cycle 0) puts, for every 32-bit address and
operation type, the three command-address words on `dq.o` with `dq.e = 1` in cycles 3, 4, 5 —
whatever the inputs do in cycles 1…4. -/
theorem ca_word_layout (s : State) (i0 i1 i2 i3 i4 : In)
    (hs : s.fsm = .idle) (hstart : i0.startTransfer = true) (ha : i0.address < 2 ^ 32) :
    let spec := caSpec i0.address (!i0.performWrite) i0.registerSpace (!i0.singlePage)
    let s3 := stateAfter s [i0, i1, i2]
    let s4 := stateAfter s [i0, i1, i2, i3]
    let s5 := stateAfter s [i0, i1, i2, i3, i4]
    (s3.dqE = true ∧ s3.dqO = spec.1) ∧ (s4.dqE = true ∧ s4.dqO = spec.2.1) ∧
    (s5.dqE = true ∧ s5.dqO = spec.2.2) := by
  have hmod : i0.address % 2 ^ 32 = i0.address := Nat.mod_eq_of_lt ha
  obtain ⟨f1, a1, r1, g1, m1⟩ := idle_accepts s i0 hs hstart
  generalize hs1 : (step s i0).1 = s1 at *
  obtain ⟨f2, c2⟩ := latch_step s1 i1 f1
  generalize hs2 : (step s1 i1).1 = s2 at *
  obtain ⟨f3, c3, e3, o3⟩ := sc0_step s2 i2 f2
  generalize hs3 : (step s2 i2).1 = s3 at *
  obtain ⟨f4, c4, e4, o4⟩ := sc1_step s3 i3 f3
  generalize hs4 : (step s3 i3).1 = s4 at *
  obtain ⟨e5, o5⟩ := sc2_step s4 i4 f4
  have k2 : ca s2 = ca s1 := ca_congr _ _ c2
  have k3 : ca s3 = ca s1 := (ca_congr _ _ c3).trans k2
  have k4 : ca s4 = ca s1 := (ca_congr _ _ c4).trans k3
  have hsl := ca_slices s1 (by rw [a1, hmod]; exact ha)
  rw [a1, hmod, r1, g1, m1] at hsl
  simp only [stateAfter, hs1, hs2, hs3, hs4]
  rw [← hsl]
  refine ⟨⟨e3, ?_⟩, ⟨e4, ?_⟩, ⟨e5, ?_⟩⟩
  · rw [o3, k2]
  · rw [o4, k3]
  · rw [o5, k4]

theorem stateAfter_of_step {P : State → Prop} (hstep : ∀ s i, P (step s i).1) (h : List In) :
    ∀ s, P s → P (stateAfter s h) := by
  induction h with
  | nil => intro s hs; exact hs
  | cons i is ih => intro s _; exact ih _ (hstep s i)

theorem stateAfter_append (s : State) (a b : List In) :
    stateAfter s (a ++ b) = stateAfter (stateAfter s a) b := by
  induction a generalizing s with
  | nil => rfl
  | cons x xs ih => simp [stateAfter, ih]

def CsInv (s : State) : Prop := s.fsm ≠ .idle → s.cs = true

theorem csInv_step (s : State) (i : In) : CsInv (step s i).1 := by
  unfold CsInv step
  cases s.fsm <;> simp <;> (try split) <;> (try split) <;> simp

/-- **Chip select held.**  After any input history from reset, whenever the FSM is inside a
transaction (any state but IDLE, including the RECOVERY cycle that ends it) `phy.cs` is asserted. -/
theorem cs_held_until_end (h : List In) : CsInv (stateAfter init h) :=
  stateAfter_of_step csInv_step h init (by simp [CsInv, init])

/-- … and it is only ever deasserted by the RECOVERY state or by IDLE without a request. -/
theorem cs_dropped_only_at_end (s : State) (i : In) (h : (step s i).1.cs = false) :
    s.fsm = .recovery ∨ (s.fsm = .idle ∧ i.startTransfer = false) := by
  unfold step at h
  cases hf : s.fsm <;> simp [hf] at h ⊢ <;> (try split at h) <;> (try split at h) <;> simp_all

theorem strobes_only_in_data_states (s : State) (i : In) :
    ((step s i).2.readReady = true → s.fsm = .readData) ∧
    ((step s i).2.writeReady = true ↔ s.fsm = .writeData) := by
  unfold step
  cases s.fsm <;> simp <;> (try split) <;> (try split) <;> simp

/-- The last command word starts the latency count (except for register writes, which have none). -/
theorem command_sets_latency (s : State) (i : In) (hf : s.fsm = .shiftCommand2) :
    (s.isRegister = true ∧ s.isRead = false → (step s i).1.fsm = .writeData) ∧
    (¬ (s.isRegister = true ∧ s.isRead = false) →
      (step s i).1.fsm = .handleLatency ∧ (step s i).1.latency = HIGH_LATENCY_CLOCKS - 2 ∧
      (step s i).1.isRead = s.isRead) := by
  unfold step
  cases s.isRegister <;> cases s.isRead <;> simp [hf]

theorem latency_holds (h : List In) :
    ∀ (s : State), s.fsm = .handleLatency → h.length ≤ s.latency → s.latency < 16 →
      (stateAfter s h).fsm = .handleLatency ∧ (stateAfter s h).latency = s.latency - h.length ∧
      (stateAfter s h).isRead = s.isRead := by
  induction h with
  | nil => intro s hf _ _; simp [stateAfter, hf]
  | cons i is ih =>
    intro s hf hl hlt
    simp only [List.length_cons] at hl
    have hne : (s.latency == 0) = false := by simp; omega
    have h1 : (step s i).1.fsm = .handleLatency ∧ (step s i).1.latency = s.latency - 1 ∧
        (step s i).1.isRead = s.isRead := by
      unfold step
      simp [hf, hne]
      omega
    obtain ⟨a, b, c⟩ := ih (step s i).1 h1.1 (by omega) (by omega)
    simp only [stateAfter, List.length_cons]
    refine ⟨a, ?_, ?_⟩
    · rw [b, h1.2.1]; omega
    · rw [c, h1.2.2]

/-- **Latency.**  From HANDLE_LATENCY with `n` clocks remaining the FSM stays in HANDLE_LATENCY
for exactly `n + 1` cycles — no data strobe is possible there (`strobes_only_in_data_states`) —
and then enters READ_DATA (read) or WRITE_DATA (write), whatever the inputs are.  With
`command_sets_latency` (`n = HIGH_LATENCY_CLOCKS - 2 = 12`) the first data cycle of every memory
access and register read is 13 cycles after the last command word, i.e. 18 cycles after the
request. -/
theorem latency_before_data (s : State) (h : List In) (x : In)
    (hf : s.fsm = .handleLatency) (hlt : s.latency < 16) (hl : h.length = s.latency) :
    (∀ k, k ≤ s.latency → (stateAfter s (h.take k)).fsm = .handleLatency) ∧
    (stateAfter s (h ++ [x])).fsm = (if s.isRead then .readData else .writeData) := by
  constructor
  · intro k hk
    exact (latency_holds (h.take k) s hf (by simp; omega) hlt).1
  · obtain ⟨a, b, c⟩ := latency_holds h s hf (by omega) hlt
    rw [stateAfter_append]
    simp only [stateAfter]
    have hz : (stateAfter s h).latency = 0 := by rw [b]; omega
    unfold step
    simp [a, hz, c]

/-- **Drive enables.**  `dq.e` is raised exactly by the three command states and by WRITE_DATA;
`rwds.e` exactly by WRITE_DATA of a memory (non-register) write, and `rwds.o` is then 0 (no byte
masked). -/
theorem drive_only_in_command_and_write (s : State) (i : In) :
    ((step s i).1.dqE = true ↔
      (s.fsm = .shiftCommand0 ∨ s.fsm = .shiftCommand1 ∨ s.fsm = .shiftCommand2 ∨ s.fsm = .writeData)) ∧
    ((step s i).1.rwdsE = true ↔ (s.fsm = .writeData ∧ s.isRegister = false)) ∧
    ((step s i).1.rwdsE = true → (step s i).1.rwdsO = 0) := by
  unfold step
  cases s.fsm <;> simp <;> (try split) <;> (try split) <;> simp

/-- The memory drives RWDS while the command is latched/shifted and during the latency, and both
RWDS and DQ while data is read. -/
def NoContention (s : State) : Prop :=
  (s.fsm = .readData → s.dqE = false ∧ s.rwdsE = false) ∧
  ((s.fsm = .latchRwds ∨ s.fsm = .shiftCommand0 ∨ s.fsm = .shiftCommand1 ∨ s.fsm = .shiftCommand2 ∨
    s.fsm = .handleLatency) → s.rwdsE = false)

theorem noContention_step (s : State) (i : In) : NoContention (step s i).1 := by
  unfold NoContention step
  cases s.fsm <;> simp <;> (try split) <;> (try split) <;> simp

/-- **No contention.**  After any input history from reset: in READ_DATA neither DQ nor RWDS is
driven by the interface; from LATCH_RWDS to the end of the latency RWDS is not driven. -/
theorem never_drives_while_memory_drives (h : List In) : NoContention (stateAfter init h) :=
  stateAfter_of_step noContention_step h init (by simp [NoContention, init])

/-! ## non-vacuity: the register write of the repository's own test (address 0x00BBCCDD) -/

def reqIn : In := ⟨0x00BBCCDD, true, true, false, true, true, 0xBEEF, 0, 1⟩
example : (stateAfter init [reqIn, reqIn, reqIn]).dqO = 0x6017 := by decide +kernel
example : (stateAfter init [reqIn, reqIn, reqIn, reqIn]).dqO = 0x799B := by decide +kernel
example : (stateAfter init [reqIn, reqIn, reqIn, reqIn, reqIn]).dqO = 0x0005 := by decide +kernel
example : caSpec 0x00BBCCDD false true true = (0x6017, 0x799B, 0x0005) := by decide +kernel
example : (stateAfter init [reqIn, reqIn, reqIn, reqIn, reqIn, reqIn]).dqO = 0xBEEF := by decide +kernel
/-- a memory read reaches READ_DATA 18 cycles after the request -/
def rdIn : In := ⟨0x1234, false, false, false, true, false, 0, 0, 0⟩
example : (stateAfter init (List.replicate 18 rdIn)).fsm = .readData := by decide +kernel
example : (stateAfter init (List.replicate 17 rdIn)).fsm = .handleLatency := by decide +kernel

end LunaVerif.HyperRam
