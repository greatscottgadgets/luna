import LunaVerif.Props.C25RxUsbDrift
/-!
# C25 (receive direction, end to end, under CLOCK DRIFT) — a bit-stuffing violation is reported while in progress

`stuff_error_seen_by_usb_drift`: same environment as `rx_delivers_to_usb_drift`, a packet whose bit stream after SYNC is
`pre ++ 1111111 ++ post` (anything before and after) as any `trackable` cell stream (`trackable_of_drift`: cell lengths 3,
4, 5 with the slips further apart than the longest run of the -- illegal -- packet): at one of the `usb` edges at which
`o_pkt_in_progress` (= `rx_active`) is high, `o_receive_error` (= `rx_error`) is high.  Proof: the error is latched from
the seventh 1 on and held over the end of the packet and the idle line (`bad_run`, `eop_run`, `idle_bits`); the flags
FIFO is empty and settled when the end flag is written (the start flag was written ≥ 7 strobes ≥ 21 cycles earlier) and has
left `o_pkt_in_progress` high; the end flag is not seen before three more `usb` edges, so the first edge from then on shows
the error while in progress (`err_seen_core`).  Whatever the payload FIFO does in such a packet does not matter.
-/
namespace LunaVerif.FsRxCdc
open LunaVerif.FsRx LunaVerif.FsCodec

-- `hpp`, `hmp` describe the payload FIFO of the start state `idleCdc` as in `rx_delivers_to_usb_drift`; they are not used: of
-- that FIFO only the number of samples matters
set_option linter.unusedVariables false in
/-- **a bit-stuffing violation is reported while the packet is in progress, under clock drift** (see the module comment) -/
theorem stuff_error_seen_by_usb_drift (φ c0 : Nat) (hφ : φ < 4) (hc0 : c0 < 4) (pre post : List Bool)
    (cells : List Cell) (m : Nat)
    (hs : cells.map (·.1) =
      (nrzi true (syncBits ++ (pre ++ List.replicate 7 true ++ post))).map lvl ++ [.SE0, .SE0])
    (ht : trackable (packetCells cells (m + 4)) = true)
    (c : Nat) (e : Bool) (hc : c ≤ 6) (pp pf : Nat) (hpp : pp < 8) (hpf : pf < 8) (memp memf : List Nat)
    (hmp : memp.length = 4) (hmf : memf.length = 4) (k : Nat) :
    EvU.err ∈ evsU (runCdc φ (idleCdc c e pp memp pf memf c0) (rxInputD k cells (m + 4))).2 := by
  obtain ⟨a0c, prefx, l, h0, hev, _, hl, hbits, houts⟩ :=
    run_packetD_outs c e hc k (pre ++ List.replicate 7 true ++ post) (m + 4) cells hs ht
  obtain ⟨qp, qf⟩ := quiet_writes prefx hev
  obtain ⟨os1, os2⟩ := outs_vstreams l hl ⟨0, a0c, srInit, e⟩ true
  -- the blocks up to the last data bit (`lSD`), and those of the EOP and the idle line (`lT`)
  rw [packetBits, ← List.append_assoc] at hbits
  obtain ⟨lSD, lT, rfl, hSD, hT⟩ := List.map_eq_append_iff.mp hbits
  have hlSD : ∀ p ∈ lSD, 3 ≤ p.1 := fun p hp => hl p (List.mem_append_left _ hp)
  have hlT : ∀ p ∈ lT, 3 ≤ p.1 := fun p hp => hl p (List.mem_append_right _ hp)
  -- bit level: the error is latched when the data end and held over the end of the packet and the idle line
  obtain ⟨n3, sr3, hn3, hrun⟩ := bad_run pre post
  have hrunSD : bitRun ⟨0, a0c, srInit, e⟩ (lSD.map (·.2)) = ⟨6, n3, sr3, true⟩ := by
    rw [hSD, bitRun_append, (sync_run a0c h0 e).1, hrun]
  obtain ⟨⟨c1, hc1, q1⟩, _, q3⟩ := eop_run n3 sr3
    (!lastLvl true (nrzi true (syncBits ++ (pre ++ List.replicate 7 true ++ post)))) true hn3
  obtain ⟨_, _, i3⟩ := idle_bits (m + 4) 1 c1 true (by omega) hc1
  have htrue : ∀ p ∈ bitSEs ⟨6, n3, sr3, true⟩ (lT.map (·.2)), p = (false, true) := by
    rw [hT, bitSEs_append, q1]
    intro p hp
    rcases List.mem_append.mp hp with hp | hp
    · exact q3 p hp
    · exact i3 p hp
  have hk4 : 4 ≤ lsum lT := by
    have h1 := lsum_ge lT hlT
    have h2 : lT.length = (lT.map (·.2)).length := by simp
    rw [hT] at h2
    simp at h2
    omega
  -- the three streams, cut at the cycle in which the end flag is written
  have hflgS : (FsRx.run (idleSt c e) (rxInputD k cells (m + 4))).2.map flgW =
      (List.replicate prefx.length none ++ flatV 0 (blkF ⟨0, a0c, srInit, e⟩ lSD)) ++
        flatV 0 (blkF ⟨6, n3, sr3, true⟩ lT) := by
    rw [houts, List.map_append, qf, os2, blkF_append, hrunSD, flatV_append]
    simp only [List.append_assoc]
  have hF1l : (List.replicate prefx.length none ++ flatV 0 (blkF ⟨0, a0c, srInit, e⟩ lSD)).length =
      prefx.length + lsum lSD := by
    rw [List.length_append, List.length_replicate, flatV_length 0 _ (lens_of_fst _ _ (blkF_fst _ _) hlSD),
      lenSum_of_fst _ _ (blkF_fst _ _)]
  have hErr : errSamples φ c0 (FsRx.run (idleSt c e) (rxInputD k cells (m + 4))).2 =
      smpB φ c0 ((prefx.map (·.rxErr) ++ (bitSEsD ⟨0, a0c, srInit, e⟩ lSD).map (·.2)) ++
        List.replicate (lsum lT) true) := by
    rw [errSamples_smpB, houts, List.map_append, outs_verrs _ hl, bitSEsD_append, hrunSD,
      List.map_append, bitSEsD_const true _ hlT _ htrue]
    simp only [List.append_assoc]
  obtain ⟨_, sp2⟩ := cdc_split φ (rxInputD k cells (m + 4)) (idleCdc c e pp memp pf memf c0) hc0
  simp only [idleCdc] at sp2 ⊢
  rw [sp2, hflgS, hErr]
  refine err_seen_core φ hφ _ _ _ _ _ ?_ ?_ ?_ hk4 ?_ ?_ _ c0 pf memf hc0 hpf hmf
  · rw [sparse_quiet]
    refine sparse_flatV 0 (Or.inl rfl) _ 6 _ (lens_of_fst _ _ (blkF_fst _ _) hlSD) ?_ (Or.inr (by omega))
    rw [blkF_snd, hSD, sync_data_flgs _ a0c h0 e, sparse_quiet]
    simp only [Sparse, Bool.and_eq_true, decide_eq_true_eq]
    -- the end flag comes at least seven strobes after the start flag
    have h7 : 7 ≤ (pre ++ List.replicate 7 true ++ post).length := by simp; omega
    exact ⟨by omega, sparse_nones 6 _ 0 (by omega)⟩
  · rw [ipFinalO_nones_left, ipFinalO_flatV, blkF_snd, hSD, sync_data_flgs _ a0c h0 e, ipFinalO_nones_left]
    simp only [ipFinalO, ipFinalO_nones]
    decide
  · rw [hF1l, List.length_append, List.length_map, List.length_map, bitSEsD_length _ hlSD]
  · rw [flatV_length 0 _ (lens_of_fst _ _ (blkF_fst _ _) hlT), lenSum_of_fst _ _ (blkF_fst _ _)]
  · rw [hF1l, houts, List.map_append, qp, os1, List.length_append, List.length_replicate,
      flatV_length 2 _ (lens_of_fst _ _ (blkP_fst _ _) hl), lenSum_of_fst _ _ (blkP_fst _ _), lsum_append]
    omega

/-- the same with the envelope spelt out: at most `L - 1` consecutive 1s in the (illegal) packet, cell lengths 3, 4, 5 with
two cells of length ≠ 4 at least `M ≥ L + 1` cells apart, skew at J↔K transitions only -/
theorem stuff_error_seen_by_usb_drift_env (L M : Nat) (hL : 2 ≤ L) (hLM : L + 1 ≤ M)
    (φ c0 : Nat) (hφ : φ < 4) (hc0 : c0 < 4) (pre post : List Bool) (cells : List Cell) (m : Nat)
    (hs : cells.map (·.1) =
      (nrzi true (syncBits ++ (pre ++ List.replicate 7 true ++ post))).map lvl ++ [.SE0, .SE0])
    (hr : runOKL L 0 (syncBits ++ (pre ++ List.replicate 7 true ++ post)) = true)
    (hd : driftOk M M (cells.map (·.2.1)) = true) (hk : skewOk .J cells = true)
    (c : Nat) (e : Bool) (hc : c ≤ 6) (pp pf : Nat) (hpp : pp < 8) (hpf : pf < 8) (memp memf : List Nat)
    (hmp : memp.length = 4) (hmf : memf.length = 4) (k : Nat) :
    EvU.err ∈ evsU (runCdc φ (idleCdc c e pp memp pf memf c0) (rxInputD k cells (m + 4))).2 :=
  stuff_error_seen_by_usb_drift φ c0 hφ hc0 pre post cells m hs
    (trackable_of_drift L M hL hLM _ (m + 4) cells hs hr hd hk) c e hc pp pf hpp hpf memp memf hmp hmf k

/-- non-vacuity: seven 1s on a drifting line (a 5 and a 3), from reset, `usb` phase 2: the error is seen -/
example : EvU.err ∈ evsU (runCdc 2 {} (jn 15 ++ rxInputD 1 sevenCells 4)).2 ∧
    trackable (packetCells sevenCells 4) = true := by decide +kernel

end LunaVerif.FsRxCdc
