import LunaVerif.Model.Ulpi.Spec
/-!
# C22 — ULPI receive translation yields exactly the PHY's packet bytes

"For any behaviour of a ULPI PHY, the UTMI-side receive stream reports exactly the data bytes the
PHY presented with NXT while DIR was high after a receive start, in order and each once; RxCmd bytes
and register-read responses never appear as data, RxActive follows the PHY's RxCmd and DIR, and
line state/VBUS flags equal the most recent RxCmd."

The PHY's own account of a DIR/NXT/DATA history is `RxSpec` (`Model/Ulpi/Spec.lean`, core Lean so
that the driver can evaluate it on every stimulus): which cycles carry packet data, what RxActive
is, which RxCmd was the last.  **`LegalUlpiPhy h`** (ULPI 1.1 §3.8.2.4) demands of a history:

1. a data byte (NXT high, DIR high for more than one cycle) only while the PHY's RxActive is high;
2. not in the cycle directly after the RxCmd that raised RxActive (≥ 1 non-NXT cycle after a start
   by RxCmd; a start by DIR∧NXT needs no gap);
3. an RxCmd raises RxActive only if the previous RxCmd had RxActive low (after a packet ended by DIR
   falling the next one starts with DIR∧NXT, or an RxCmd with RxActive low precedes it);
4. an RxCmd lowers RxActive only if the previous RxCmd had RxActive high (a start by DIR∧NXT is
   followed by the RxCmd announcing RxActive before the one that ends the packet);
5. NXT is low in the cycle in which DIR falls.

Clause 2 is what the gateware's one-cycle strobe latency needs (the last `example` shows a byte lost
without it), clauses 3 and 4 what its edge detector on the `rx_active` bit of `last_rx_command` needs,
clause 5 what `rx_valid = nxt & rx_active`, which does not look at DIR, needs.
A history element is `(dir, nxt, data)` plus `regop`, true when the data lines carry register-read
data (`UTMITranslator` never reads: `utmi_never_reads`).
-/
namespace LunaVerif.Ulpi

/-- Run the receive registers over a history; a byte is *reported* after a cycle iff `rx_valid` is
set by that cycle's clock edge (it is visible to the UTMI side in the following cycle). -/
def Rx.run : Rx → List (PhyIn × Bool) → Rx × List Nat
  | r, [] => (r, [])
  | r, (p, ro) :: h =>
    let r1 := r.step p ro
    let (r2, bs) := Rx.run r1 h
    (r2, if r1.rxValid then r1.rxData :: bs else bs)

/-- The value `rx_active` takes at the next clock edge if DIR stays high: pending strobes applied. -/
def Rx.eff (r : Rx) : Bool := if r.rxStop then false else if r.rxStart then true else r.rxActive

/-- The receive registers against the PHY's account: `past_dir` and `last_rx_command` are the account's; `rx_active` with the
pending strobe applied is RxActive; with DIR low a cycle ago no strobe is pending and `rx_active` is low; RxActive that
the previous cycle's RxCmd did not raise has reached `rx_active` (a data byte is legal only then, and is reported);
`just` only with RxActive. -/
def RxInv (r : Rx) (s : RxSpec) : Prop :=
  r.pastDir = s.prevDir ∧ r.last = s.last ∧ r.eff = s.act ∧
  (s.prevDir = false → r.rxStart = false ∧ r.rxStop = false ∧ r.rxActive = false ∧ s.just = false) ∧
  (s.act = true → s.just = false → r.rxActive = true) ∧
  (s.just = true → s.act = true)

theorem rxInv_init : RxInv {} {} := by simp [RxInv, Rx.eff]

theorem Rx.step_high (r : Rx) (p : PhyIn) (ro : Bool) (hd : p.dir = true) (hp : r.pastDir = true) :
    r.step p ro =
      { pastDir := true
        last := if !p.nxt && !ro then p.data else r.last
        rxStart := !p.nxt && !ro && !rxActiveBit r.last && rxActiveBit p.data
        rxStop := !p.nxt && !ro && rxActiveBit r.last && !rxActiveBit p.data
        rxActive := r.eff
        rxData := p.data
        rxValid := p.nxt && r.rxActive } := by
  simp only [Rx.step, Rx.eff, hd, hp, Bool.and_self, Bool.true_and, Bool.not_true, Bool.false_and, Bool.false_or]

theorem legal_mono (s : RxSpec) (p : PhyIn) (ro : Bool) (h : (s.step p ro).1.legal = true) :
    s.legal = true := by
  cases hl : s.legal
  · -- every arm of `RxSpec.step` passes `legal = false` on
    cases hd : p.dir
    · simp [RxSpec.step, hd, hl] at h
    · cases hp : s.prevDir
      · simp [RxSpec.step, hd, hp, hl] at h
      · cases hn : p.nxt
        · cases hr : ro
          · cases hb : rxActiveBit p.data <;> cases ha : s.act <;> simp [RxSpec.step, hd, hp, hn, hr, hb, ha, hl] at h
          · simp [RxSpec.step, hd, hp, hn, hr, hl] at h
        · cases ha : s.act <;> cases hj : s.just <;> simp [RxSpec.step, hd, hp, hn, ha, hj, hl] at h
  · rfl

theorem legal_mono_run (s : RxSpec) (h : List (PhyIn × Bool)) (hl : (RxSpec.run s h).1.legal = true) :
    s.legal = true := by
  induction h generalizing s with
  | nil => simpa [RxSpec.run] using hl
  | cons x xs ih =>
    obtain ⟨p, ro⟩ := x
    simp only [RxSpec.run] at hl
    exact legal_mono s p ro (ih _ hl)

theorem rx_step (r : Rx) (s : RxSpec) (p : PhyIn) (ro : Bool) (hi : RxInv r s)
    (hl : (s.step p ro).1.legal = true) :
    RxInv (r.step p ro) (s.step p ro).1 ∧
    (if (r.step p ro).rxValid then some (r.step p ro).rxData else none) = (s.step p ro).2 := by
  have hl0 := legal_mono s p ro hl
  obtain ⟨h1, h2, h3, h4, h5, h6⟩ := hi
  cases hd : p.dir
  · -- DIR low: NXT is low when DIR falls, so no byte can be reported
    have hv : (p.nxt && r.rxActive) = false := by
      cases hp : s.prevDir
      · rw [(h4 hp).2.2.1, Bool.and_false]
      · simp [RxSpec.step, hd, hp] at hl; rw [hl.2]; rfl
    simp [RxSpec.step, Rx.step, RxInv, Rx.eff, hd, hv, h2]
  · cases hp : s.prevDir
    · obtain ⟨e1, e2, e3, -⟩ := h4 hp
      simp [RxSpec.step, Rx.step, RxInv, Rx.eff, hd, hp, h1, h2, e1, e2, e3]
    · rw [Rx.step_high r p ro hd (h1.trans hp), h3]
      cases hn : p.nxt
      · cases hr : ro
        · -- an RxCmd: the edge detector on bit 4 sets the strobe that `eff` anticipates
          cases hb : rxActiveBit p.data <;> cases ha : s.act <;> cases hc : rxActiveBit s.last <;>
            simp [RxSpec.step, RxInv, Rx.eff, hd, hp, hn, hr, hl0, hb, ha, hc, h2] at hl ⊢
        · simp [RxSpec.step, RxInv, Rx.eff, hd, hp, hn, h2]
      · -- a data byte: legal only while RxActive is up and not straight after its RxCmd
        cases ha : s.act <;> cases hj : s.just <;> simp [RxSpec.step, hd, hp, hn, ha, hj] at hl
        simp [RxSpec.step, RxInv, Rx.eff, hd, hp, hn, ha, hj, h2, h5 ha hj]

/-- **ulpi_rx_bytes_exact** (generalised over the starting state for the induction). -/
theorem rx_run_eq (r : Rx) (s : RxSpec) (h : List (PhyIn × Bool)) (hi : RxInv r s)
    (hl : (RxSpec.run s h).1.legal = true) :
    (Rx.run r h).2 = (RxSpec.run s h).2 ∧ RxInv (Rx.run r h).1 (RxSpec.run s h).1 := by
  induction h generalizing r s with
  | nil => simpa [Rx.run, RxSpec.run] using hi
  | cons x xs ih =>
    obtain ⟨p, ro⟩ := x
    simp only [RxSpec.run] at hl
    have hl1 : (s.step p ro).1.legal = true := legal_mono_run _ xs hl
    obtain ⟨hi', he⟩ := rx_step r s p ro hi hl1
    obtain ⟨ih1, ih2⟩ := ih (r.step p ro) (s.step p ro).1 hi' hl
    simp only [Rx.run, RxSpec.run]
    refine ⟨?_, ih2⟩
    rw [← he, ih1]
    split <;> rfl

/-- **ulpi_rx_bytes_exact.**  For every history of a legal ULPI PHY the bytes the gateware reports
with `rx_valid` are exactly the data bytes the PHY presented, in order, each once; RxCmds and
register-read data never appear (they are not data bytes of the PHY's account). -/
theorem ulpi_rx_bytes_exact (h : List (PhyIn × Bool)) (hl : LegalUlpiPhy h = true) :
    (Rx.run {} h).2 = (RxSpec.run {} h).2 :=
  (rx_run_eq {} {} h rxInv_init hl).1

/-- **rx_active_follows.**  After every legal history `rx_active`, with the pending one-cycle
start/stop strobe applied, equals the PHY's RxActive (set by DIR∧NXT or an RxCmd with bit 4,
cleared by an RxCmd without bit 4 or by DIR low); it is low whenever DIR was low in the last cycle;
and it is high whenever the PHY may present data. -/
theorem rx_active_follows (h : List (PhyIn × Bool)) (hl : LegalUlpiPhy h = true) :
    (Rx.run {} h).1.eff = (RxSpec.run {} h).1.act ∧
    ((RxSpec.run {} h).1.prevDir = false → (Rx.run {} h).1.rxActive = false) ∧
    ((RxSpec.run {} h).1.act = true → (RxSpec.run {} h).1.just = false → (Rx.run {} h).1.rxActive = true) := by
  obtain ⟨_, _, h3, h4, h5, _⟩ := (rx_run_eq {} {} h rxInv_init hl).2
  exact ⟨h3, fun hd => (h4 hd).2.2.1, h5⟩

/-- With no strobe pending (the last cycle carried no RxCmd edge) `rx_active` *is* RxActive. -/
theorem rx_active_settled (h : List (PhyIn × Bool)) (hl : LegalUlpiPhy h = true)
    (h1 : (Rx.run {} h).1.rxStart = false) (h2 : (Rx.run {} h).1.rxStop = false) :
    (Rx.run {} h).1.rxActive = (RxSpec.run {} h).1.act := by
  have := (rx_active_follows h hl).1
  simpa [Rx.eff, h1, h2] using this

/-- The account's `prevDir` and `last` in closed form: the most recent RxCmd is the data of the last cycle with DIR high
for more than one cycle, NXT low and no register-read data -- whether the history is legal or not. -/
theorem RxSpec.step_status (s : RxSpec) (p : PhyIn) (ro : Bool) :
    (s.step p ro).1.prevDir = p.dir ∧
    (s.step p ro).1.last = if s.prevDir && p.dir && !p.nxt && !ro then p.data else s.last := by
  unfold RxSpec.step
  cases p.dir <;> cases s.prevDir <;> cases p.nxt <;> cases ro <;> simp <;> (repeat' split) <;> simp

theorem status_step (r : Rx) (s : RxSpec) (p : PhyIn) (ro : Bool)
    (h1 : r.pastDir = s.prevDir) (h2 : r.last = s.last) :
    (r.step p ro).pastDir = (s.step p ro).1.prevDir ∧ (r.step p ro).last = (s.step p ro).1.last := by
  obtain ⟨e1, e2⟩ := s.step_status p ro
  rw [e1, e2, ← h1, ← h2]
  exact ⟨rfl, rfl⟩

theorem status_run (r : Rx) (s : RxSpec) (h : List (PhyIn × Bool))
    (h1 : r.pastDir = s.prevDir) (h2 : r.last = s.last) :
    (Rx.run r h).1.pastDir = (RxSpec.run s h).1.prevDir ∧ (Rx.run r h).1.last = (RxSpec.run s h).1.last := by
  induction h generalizing r s with
  | nil => exact ⟨h1, h2⟩
  | cons x xs ih =>
    obtain ⟨p, ro⟩ := x
    obtain ⟨a, b⟩ := status_step r s p ro h1 h2
    simpa [Rx.run, RxSpec.run] using ih _ _ a b

/-- **status_equals_last_rxcmd.**  For *every* history (legal or not): `last_rx_command` — of which
line_state, vbus_valid, session_valid, session_end, rx_error, host_disconnect and id_digital are
bit fields — is the most recent RxCmd of the PHY's account: the data of the last cycle with DIR
high for more than one cycle, NXT low, and no register-read data on the lines. -/
theorem status_equals_last_rxcmd (h : List (PhyIn × Bool)) :
    (Rx.run {} h).1.last = (RxSpec.run {} h).1.last :=
  (status_run {} {} h rfl rfl).2

/-! ### The composite never reads registers, so nothing is ever masked there -/

def WState.isRead : WState → Bool
  | .startRead | .sendReadAddress | .readTurnaround | .readComplete => true
  | _ => false

theorem window_no_read (w : Window) (i : WindowIn) (hr : i.readReq = false) (hw : w.st.isRead = false) :
    (w.step i).st.isRead = false := by
  obtain ⟨st, a, b, c, d, e, f, g⟩ := w
  cases st <;> simp [WState.isRead] at hw <;> simp [Window.step, hr] <;> (repeat' split) <;> simp [WState.isRead]

theorem utmi_never_reads (cfg : Config) (s : Utmi) (i : UtmiIn) (hw : s.win.st.isRead = false) :
    (s.step cfg i).1.win.st.isRead = false ∧ (s.step cfg i).1.rx = s.rx.step i.phy false := by
  constructor
  · exact window_no_read _ _ rfl hw
  · have : s.win.readDataPhase = false := by
      cases hs : s.win.st <;> simp_all [Window.readDataPhase, WState.isRead]
    simp [Utmi.step, this]

theorem utmi_rx_is_rx (cfg : Config) (s : Utmi) (h : List UtmiIn) (hw : s.win.st.isRead = false) :
    (Utmi.run cfg s h).rx = (Rx.run s.rx (h.map fun i => (i.phy, false))).1 := by
  induction h generalizing s with
  | nil => rfl
  | cons i is ih =>
    obtain ⟨a, b⟩ := utmi_never_reads cfg s i hw
    simp only [Utmi.run, List.map, Rx.run]
    rw [ih _ a, b]

/-- The receive registers of the whole translator, from reset, for every history of PHY, UTMI and
control inputs, are those of `Rx.run` — so the theorems about `Rx.run` above speak about `UTMITranslator`. -/
theorem utmi_rx_from_reset (cfg : Config) (h : List UtmiIn) :
    (Utmi.run cfg (Utmi.init cfg) h).rx = (Rx.run {} (h.map fun i => (i.phy, false))).1 :=
  utmi_rx_is_rx cfg _ h rfl

/-! ### Non-vacuity; necessity of clause 2 -/

/-- A legal history: DIR∧NXT start, RxCmd(RxActive), two data bytes around a mid-packet RxCmd, end by
RxCmd, a line-state RxCmd, a second packet started by RxCmd (one idle cycle), ended by DIR. -/
def exampleHistory : List (PhyIn × Bool) :=
  [(⟨false, false, 0⟩, false), (⟨true, true, 0x77⟩, false), (⟨true, false, 0x1D⟩, false),
   (⟨true, true, 0xA5⟩, false), (⟨true, false, 0x1E⟩, false), (⟨true, true, 0x5A⟩, false),
   (⟨true, false, 0x0C⟩, false), (⟨true, false, 0x0D⟩, false), (⟨true, false, 0x1D⟩, false),
   (⟨true, false, 0x1D⟩, false), (⟨true, true, 0x42⟩, false), (⟨false, false, 0⟩, false)]

example : LegalUlpiPhy exampleHistory = true := by decide
example : (RxSpec.run {} exampleHistory).2 = [0xA5, 0x5A, 0x42] := by decide
example : (Rx.run {} exampleHistory).2 = [0xA5, 0x5A, 0x42] := by decide

/-- Without clause 2 a byte is lost: data directly after the RxCmd that raised RxActive. -/
example : (Rx.run {} [(⟨true, false, 0⟩, false), (⟨true, false, 0x10⟩, false), (⟨true, true, 0x99⟩, false)]).2 = []
    ∧ LegalUlpiPhy [(⟨true, false, 0⟩, false), (⟨true, false, 0x10⟩, false), (⟨true, true, 0x99⟩, false)] = false := by
  decide

end LunaVerif.Ulpi
