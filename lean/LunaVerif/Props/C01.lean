import LunaVerif.Model.Usb2.TokenDetector
import LunaVerif.Core.UtmiTrack
/-!
# C01 — USB2 tokens are reported iff well-formed and addressed to the device

"A token event (IN, OUT, SETUP, PING) is reported exactly when the host sent a complete 3-byte token
whose PID check nibble is valid, whose CRC5 matches the standard USB CRC5, and whose address equals
the device's current address; its endpoint and PID are reported unchanged.  A start-of-frame updates
the frame number iff it is a well-formed SOF, regardless of address.  Truncated, over-long, corrupted
or foreign-address tokens never produce an event."

Quantified over all UTMI receive histories (rx_active/rx_valid timing, any byte values, any packet
lengths, aborted packets) and all 7-bit device addresses.

The received packets of a raw history are defined by the tracker of `Core/UtmiTrack.lean` (bytes
between `rx_active` rising and falling).  `tokenOf` is the packet-level specification; `report`
says what a completed packet does to the interface registers; `specRun` is the cycle-by-cycle
specification: the registers seen in a cycle are those after every packet completed in an earlier
cycle, the two strobes being high only in the cycle directly after the completion.
-/
namespace LunaVerif.TokenDetector
open LunaVerif.Utmi

inductive TokenEvent
  | token (pid addr ep : Nat)
  | sof (frame : Nat)
deriving Repr, DecidableEq

/-- Upper nibble = complement of the PID nibble (USB 2.0 §8.3.1). -/
def checkNibbleOk (p : Nat) : Bool := p / 16 == 15 - p % 16

/-- Packet-level specification (USB 2.0 §8.4.1/8.4.3): PID byte, then 11 payload bits (LSB first)
and the 5-bit CRC.  PIDs: OUT 1, IN 9, SETUP 13, PING 4; SOF 5. -/
def tokenOf (bytes : List Nat) : Option TokenEvent :=
  match bytes with
  | [p, a, b] =>
    let d := a + 256 * (b % 8)
    if checkNibbleOk p && (b / 8 == Crc.usb2Crc5 d) then
      if p % 16 == 5 then some (.sof d)
      else if p % 16 == 1 || p % 16 == 9 || p % 16 == 13 || p % 16 == 4 then
        some (.token (p % 16) (d % 128) (d / 128))
      else none
    else none
  | _ => none

def clearStrobes (r : Regs) : Regs := { r with newToken := false, newFrame := false }

def report (cfg : Config) (addr : Nat) (r : Regs) : Option TokenEvent → Regs
  | some (.sof n) => { clearStrobes r with frame := n, newFrame := true }
  | some (.token pid a ep) =>
    if !cfg.filterByAddress || a == addr then
      { clearStrobes r with pid := pid, address := a, endpoint := ep, newToken := true }
    else { clearStrobes r with pid := 0 }    -- quirk: a foreign token clears the reported PID
  | none => clearStrobes r

def specNextRegs (cfg : Config) (cur : Track) (r : Regs) (i : In) : Regs :=
  match trackDone cur i.rx with
  | some pkt => report cfg i.address r (tokenOf pkt)
  | none => clearStrobes r

def specRun (cfg : Config) : Track → Regs → List In → List Regs
  | _, _, [] => []
  | cur, r, i :: is => r :: specRun cfg (trackNext cur i.rx) (specNextRegs cfg cur r i) is

/-! ## Bridging lemmas between the code (its bit-slice tests, the TOKEN_COMPLETE cycle) and the specification -/

theorem isTokenPid_spec : ∀ p, p < 256 → isTokenPid p =
    (checkNibbleOk p && (p % 16 == 5 || p % 16 == 1 || p % 16 == 9 || p % 16 == 13 || p % 16 == 4)) := by
  decide +kernel

theorem crcOk_spec (a b : Nat) (ha : a < 256) (hb : b < 256) :
    crcOk a b = (b / 8 == Crc.usb2Crc5 (a + 256 * (b % 8))) := by
  unfold crcOk
  rw [Nat.mod_eq_of_lt ha, Nat.mod_eq_of_lt (show b / 8 < 32 by omega)]

theorem tokenOf_three (p a b : Nat) (hp : p < 256) (ha : a < 256) (hb : b < 256) :
    tokenOf [p, a, b] =
      if isTokenPid p && crcOk a b then
        (if p % 16 == 5 then some (.sof (a + 256 * (b % 8)))
         else some (.token (p % 16) ((a + 256 * (b % 8)) % 128) ((a + 256 * (b % 8)) / 128)))
      else none := by
  rw [isTokenPid_spec p hp, crcOk_spec a b ha hb]
  simp only [tokenOf, Bool.or_assoc]
  generalize checkNibbleOk p = ck
  generalize (b / 8 == Crc.usb2Crc5 (a + 256 * (b % 8))) = cr
  generalize (p % 16 == 5) = s5
  generalize (p % 16 == 1 || (p % 16 == 9 || (p % 16 == 13 || p % 16 == 4))) = tk
  cases ck <;> cases cr <;> cases s5 <;> cases tk <;> rfl

theorem tokStep_complete (cfg : Config) (s : State) (i : In) (hi : i.rx.active = false) (hf : s.fsm = .tokenComplete) :
    (tokStep cfg s i).1.fsm = .idle ∧
    (tokStep cfg s i).1.regs = report cfg i.address s.regs
      (if s.currentPid == 5 then some (.sof s.tokenData)
       else some (.token s.currentPid (s.tokenData % 128) (s.tokenData / 128))) := by
  cases hs : s.currentPid == 5 <;> cases hfl : cfg.filterByAddress <;>
    simp [tokStep, hf, hi, sofPid, hs, hfl, report, clearStrobes]
  by_cases ha : s.tokenData % 128 = i.address <;> simp [ha]

/-! ## Refinement invariant: FSM state as a function of the packet received so far -/

def Inv (s : State) (cur : Track) : Prop :=
  match cur with
  | none => s.fsm = .idle
  | some [] => s.fsm = .readPid
  | some [p] => p < 256 ∧
      if isTokenPid p then s.fsm = .readToken0 ∧ s.currentPid = p % 16 else s.fsm = .irrelevant
  | some [p, a] => p < 256 ∧ a < 256 ∧
      if isTokenPid p then s.fsm = .readToken1 ∧ s.currentPid = p % 16 ∧ s.tokenData = a
      else s.fsm = .irrelevant
  | some [p, a, b] => p < 256 ∧ a < 256 ∧ b < 256 ∧
      if isTokenPid p && crcOk a b then
        s.fsm = .tokenComplete ∧ s.currentPid = p % 16 ∧ s.tokenData = a + 256 * (b % 8)
      else s.fsm = .irrelevant
  | some (_ :: _ :: _ :: _ :: _) => s.fsm = .irrelevant

theorem inv_init : Inv init none := rfl

theorem step_inv (cfg : Config) (s : State) (cur : Track) (i : In) (hd : i.rx.data < 256)
    (h : Inv s cur) :
    Inv (tokStep cfg s i).1 (trackNext cur i.rx) ∧
    (tokStep cfg s i).1.regs = specNextRegs cfg cur s.regs i := by
  obtain ⟨⟨active, valid, data⟩, addr⟩ := i
  simp only at hd
  match cur, h with
  | none, hf =>
    simp only [Inv] at hf
    cases active <;>
      simp [Inv, tokStep, hf, trackNext, trackDone, specNextRegs, clearStrobes]
  | some [], hf =>
    simp only [Inv] at hf
    cases active <;> cases valid <;>
      simp [Inv, tokStep, hf, trackNext, trackDone, specNextRegs, clearStrobes, tokenOf, report, hd]
    cases hv : isTokenPid data <;> simp
  | some [p], hf =>
    simp only [Inv] at hf
    obtain ⟨hp, hf⟩ := hf
    cases hv : isTokenPid p
    · simp [hv] at hf
      cases active <;> cases valid <;>
        simp [Inv, tokStep, hf, trackNext, trackDone, specNextRegs, clearStrobes, tokenOf, report, hd, hp, hv]
    · simp [hv] at hf
      obtain ⟨hf, hc⟩ := hf
      cases active <;> cases valid <;>
        simp [Inv, tokStep, hf, hc, trackNext, trackDone, specNextRegs, clearStrobes, tokenOf, report, hd, hp, hv,
          Nat.mod_eq_of_lt hd]
  | some [p, a], hf =>
    simp only [Inv] at hf
    obtain ⟨hp, ha, hf⟩ := hf
    cases hv : isTokenPid p
    · simp [hv] at hf
      cases active <;> cases valid <;>
        simp [Inv, tokStep, hf, trackNext, trackDone, specNextRegs, clearStrobes, tokenOf, report, hd, hp, ha, hv]
    · simp [hv] at hf
      obtain ⟨hf, hc, ht⟩ := hf
      cases active <;> cases valid <;>
        simp [Inv, tokStep, hf, hc, ht, trackNext, trackDone, specNextRegs, clearStrobes, tokenOf, report, hd, hp, ha,
          hv, Nat.mod_eq_of_lt ha]
      cases hcrc : crcOk a data <;> simp
  | some [p, a, b], hf =>
    simp only [Inv] at hf
    obtain ⟨hp, ha, hb, hf⟩ := hf
    have h3 := tokenOf_three p a b hp ha hb
    cases hv : (isTokenPid p && crcOk a b)
    · simp [hv] at hf
      rw [hv] at h3
      simp only [Bool.false_eq_true, if_false] at h3
      have hv2 := hv
      simp at hv2
      cases active <;> cases valid <;>
        simp [Inv, tokStep, hf, trackNext, trackDone, specNextRegs, clearStrobes, h3, report, hp, ha, hb] <;>
        exact hv2
    · simp [hv] at hf
      rw [hv] at h3
      simp only [if_true] at h3
      obtain ⟨hf, hc, ht⟩ := hf
      have hv2 := hv
      simp at hv2
      cases active
      · obtain ⟨e1, e2⟩ := tokStep_complete cfg s ⟨⟨false, valid, data⟩, addr⟩ rfl hf
        rw [hc, ht, ← h3] at e2
        exact ⟨e1, e2⟩
      · cases valid <;>
          simp [Inv, tokStep, hf, hc, ht, trackNext, trackDone, specNextRegs, clearStrobes, hp, ha, hb, hv2]
  | some (b1 :: b2 :: b3 :: b4 :: rest), hf =>
    simp only [Inv] at hf
    cases active <;> cases valid <;>
      simp [Inv, tokStep, hf, trackNext, trackDone, specNextRegs, clearStrobes, tokenOf, report]

theorem token_events_exact_from (cfg : Config) (s : State) (cur : Track) (h : Inv s cur)
    (hist : List In) (hd : ∀ i ∈ hist, i.rx.data < 256) :
    tokRun cfg s hist = specRun cfg cur s.regs hist := by
  induction hist generalizing s cur with
  | nil => rfl
  | cons i is ih =>
    have hs := step_inv cfg s cur i (hd i (by simp)) h
    simp only [tokRun, specRun]
    congr 1
    rw [← hs.2]
    exact ih _ _ hs.1 (fun x hx => hd x (by simp [hx]))

/-- **C01, cycle level.**  For both `filter_by_address` settings, every receive history (8-bit
data) and every schedule of the address input, the interface registers (pid, address, endpoint,
frame, new_token, new_frame) are in every cycle exactly those the specification prescribes: each
completed packet is judged by `tokenOf` and reported — one strobe, in the cycle after `rx_active`
fell — iff it is a well-formed token (with the filter: for the address present at that moment) or a
well-formed SOF. -/
theorem token_events_exact (cfg : Config) (hist : List In) (hd : ∀ i ∈ hist, i.rx.data < 256) :
    tokRun cfg init hist = specRun cfg none initRegs hist :=
  token_events_exact_from cfg init none inv_init hist hd

/-! ## Corollaries about what is and is not an event -/

/-- Truncated (0, 1, 2 bytes — including `rx_active` dropping mid-token) and over-long packets are
never events. -/
theorem no_event_unless_three_bytes (bytes : List Nat) (h : bytes.length ≠ 3) : tokenOf bytes = none := by
  match bytes, h with
  | [], _ => rfl
  | [_], _ => rfl
  | [_, _], _ => rfl
  | [_, _, _], h => simp at h
  | _ :: _ :: _ :: _ :: _, _ => rfl

theorem no_event_on_corruption (p a b : Nat)
    (h : checkNibbleOk p = false ∨ (b / 8 == Crc.usb2Crc5 (a + 256 * (b % 8))) = false) :
    tokenOf [p, a, b] = none := by
  simp only [tokenOf]
  rcases h with h | h <;> simp [h]

theorem no_event_other_pid (p a b : Nat)
    (h : p % 16 ≠ 5 ∧ p % 16 ≠ 1 ∧ p % 16 ≠ 9 ∧ p % 16 ≠ 13 ∧ p % 16 ≠ 4) :
    tokenOf [p, a, b] = none := by
  simp only [tokenOf]
  split <;> simp [h]

/-- An event carries the packet's own PID, address and endpoint / frame bits. -/
theorem event_fields (p a b : Nat) (ev : TokenEvent) (h : tokenOf [p, a, b] = some ev) :
    ev = .sof (a + 256 * (b % 8)) ∧ p % 16 = 5 ∨
    ev = .token (p % 16) ((a + 256 * (b % 8)) % 128) ((a + 256 * (b % 8)) / 128) ∧
      (p % 16 = 1 ∨ p % 16 = 9 ∨ p % 16 = 13 ∨ p % 16 = 4) := by
  simp only [tokenOf] at h
  split at h
  · split at h
    · rename_i h5; simp at h5; left; exact ⟨by simpa using h.symm, h5⟩
    · split at h
      · rename_i hk; simp at hk; right; exact ⟨by simpa using h.symm, by omega⟩
      · simp at h
  · simp at h

/-- `pid` is not in the list: a foreign token clears it (the quirk in `report`). -/
theorem no_event_foreign_address (cfg : Config) (hf : cfg.filterByAddress = true) (addr : Nat) (r : Regs)
    (pid a ep : Nat) (ha : a ≠ addr) :
    let r' := report cfg addr r (some (.token pid a ep))
    r'.newToken = false ∧ r'.newFrame = false ∧ r'.address = r.address ∧ r'.endpoint = r.endpoint ∧
    r'.frame = r.frame := by
  simp [report, hf, ha, clearStrobes]

theorem event_own_address (cfg : Config) (addr : Nat) (r : Regs) (pid a ep : Nat)
    (h : cfg.filterByAddress = false ∨ a = addr) :
    report cfg addr r (some (.token pid a ep)) =
      { r with pid := pid, address := a, endpoint := ep, newToken := true, newFrame := false } := by
  rcases h with h | h <;> simp [report, h, clearStrobes]

theorem sof_ignores_address (cfg : Config) (addr : Nat) (r : Regs) (n : Nat) :
    report cfg addr r (some (.sof n)) = { r with frame := n, newFrame := true, newToken := false } := by
  simp [report, clearStrobes]

theorem no_event_keeps_registers (cfg : Config) (addr : Nat) (r : Regs) :
    report cfg addr r none = { r with newToken := false, newFrame := false } := rfl

/-- When `rx_active` falls the tracker is back at the idle line and what was received so far (`bs`, whatever it is:
this is every packet end, an aborted packet included) is judged as a packet of its own.  The statement is about the
tracker; that the detector's FSM is in IDLE whenever the tracker is at the idle line is `Inv` / `step_inv`. -/
theorem aborted_packet_resets (bs : List Nat) (c : RxCycle) (h : c.active = false) :
    trackNext (some bs) c = none ∧ trackDone (some bs) c = some bs := by
  simp [trackNext, trackDone, h]

/-! ## Packet-level form -/

def eventOf (r : Regs) : Option TokenEvent :=
  if r.newToken then some (.token r.pid r.address r.endpoint)
  else if r.newFrame then some (.sof r.frame) else none

def visible (cfg : Config) (addr : Nat) : Option TokenEvent → Option TokenEvent
  | some (.token pid a ep) => if !cfg.filterByAddress || a == addr then some (.token pid a ep) else none
  | e => e

theorem eventOf_report (cfg : Config) (addr : Nat) (r : Regs) (e : Option TokenEvent) :
    eventOf (report cfg addr r e) = visible cfg addr e := by
  match e with
  | none => simp [report, clearStrobes, eventOf, visible]
  | some (.sof n) => simp [report, clearStrobes, eventOf, visible]
  | some (.token pid a ep) =>
    simp only [report, visible]
    split <;> simp [clearStrobes, eventOf]

/-- `x` is one cycle beyond the history: the registers show a packet's report in the cycle after it completes. -/
theorem specRun_filterMap {β : Type} (cfg : Config) (f : Regs → Option β) (h : Option TokenEvent → Option β)
    (hclear : ∀ r, f (clearStrobes r) = none) (cur : Track) (r : Regs) (hist : List In) (x : In)
    (hreport : ∀ i ∈ hist, ∀ r e, f (report cfg i.address r e) = h e) :
    (specRun cfg cur r (hist ++ [x])).filterMap f
      = (f r).toList ++ (packetsOf cur (hist.map (·.rx))).filterMap (fun p => h (tokenOf p)) := by
  induction hist generalizing cur r with
  | nil =>
    simp only [List.nil_append, specRun, List.filterMap_cons, List.filterMap_nil, List.map_nil, packetsOf,
      List.append_nil]
    cases f r <;> rfl
  | cons i is ih =>
    simp only [List.cons_append, specRun, List.filterMap_cons, List.map_cons, packetsOf,
      ih _ _ (fun j hj => hreport j (by simp [hj]))]
    cases hdn : trackDone cur i.rx with
    | none =>
      rw [show f (specNextRegs cfg cur r i) = none by simp only [specNextRegs, hdn, hclear]]
      cases f r <;> simp
    | some p =>
      rw [show f (specNextRegs cfg cur r i) = h (tokenOf p) by
        simp only [specNextRegs, hdn, hreport i (by simp)]]
      cases f r <;> cases hp : h (tokenOf p) <;> simp [hp]

theorem specRun_events (cfg : Config) (addr : Nat) (cur : Track) (r : Regs) (hist : List In) (x : In)
    (ha : ∀ i ∈ hist, i.address = addr) :
    (specRun cfg cur r (hist ++ [x])).filterMap eventOf
      = (eventOf r).toList ++
        (packetsOf cur (hist.map (·.rx))).filterMap (fun p => visible cfg addr (tokenOf p)) :=
  specRun_filterMap cfg eventOf (visible cfg addr) (fun r => by simp [clearStrobes, eventOf]) cur r hist x
    (fun i hi r e => by rw [ha i hi, eventOf_report])

/-- **C01, packet level.**  With a fixed device address, the sequence of events raised during a
history (observed one cycle beyond its end) is exactly the sequence of well-formed, visible tokens
and SOFs among the received packets, in order, each once. -/
theorem token_events_eq_packets (cfg : Config) (addr : Nat) (hist : List In) (x : In)
    (hd : ∀ i ∈ hist ++ [x], i.rx.data < 256) (ha : ∀ i ∈ hist, i.address = addr) :
    (tokRun cfg init (hist ++ [x])).filterMap eventOf
      = (packetsOf none (hist.map (·.rx))).filterMap (fun p => visible cfg addr (tokenOf p)) := by
  rw [token_events_exact cfg _ hd, specRun_events cfg addr none initRegs hist x ha]
  rfl

theorem heldAddress_rx (cs : List RxCycle) (addr : Nat) : (cs.map (fun c => (⟨c, addr⟩ : In))).map (·.rx) = cs := by
  rw [List.map_map]; exact List.map_id cs

theorem heldAddress_data (cs : List RxCycle) (addr : Nat) (x : In) (hd : ∀ c ∈ cs, c.data < 256)
    (hx : x.rx.data < 256) : ∀ i ∈ cs.map (fun c => (⟨c, addr⟩ : In)) ++ [x], i.rx.data < 256 := by
  intro i hi
  simp only [List.mem_append, List.mem_map, List.mem_singleton] at hi
  rcases hi with ⟨c, hc, rfl⟩ | rfl
  · exact hd c hc
  · exact hx

/-- The same for any list of well-formed rendered packets with arbitrary byte timing. -/
theorem token_events_rendered (cfg : Config) (addr : Nat) (ps : List RxPacket) (hw : ∀ p ∈ ps, p.wf)
    (x : In) (hd : ∀ c ∈ renderAll ps, c.data < 256) (hx : x.rx.data < 256) :
    (tokRun cfg init ((renderAll ps).map (fun c => ⟨c, addr⟩) ++ [x])).filterMap eventOf
      = ps.filterMap (fun p => visible cfg addr (tokenOf p.bytes)) := by
  rw [token_events_eq_packets cfg addr _ x (heldAddress_data _ addr x hd hx), heldAddress_rx,
    (packetsOf_renderAll ps hw).1, List.filterMap_map]
  · rfl
  · intro i hi
    obtain ⟨c, _, rfl⟩ := List.mem_map.1 hi
    rfl

/-! ## Non-vacuity -/

/-- SETUP to address 0x3A endpoint 2 (bytes 2D 3A 99), received by a device
at that address with a wait cycle in the middle; then an OUT token for address 0 (ignored), a
truncated token, and SOF 0x2AD. -/
example :
    (tokRun ⟨true, ⟨false, false⟩⟩ init
      (([waitC 0, byteC 0x2D, byteC 0x3A, waitC 9, byteC 0x99, idleC 0]
        ++ [waitC 0, byteC 0xE1, byteC 0x00, byteC 0x10, idleC 0]
        ++ [waitC 0, byteC 0x2D, byteC 0x3A, idleC 0]
        ++ [waitC 0, byteC 0xA5, byteC 0xAD, byteC 0xCA, idleC 0, idleC 0]).map (fun c => ⟨c, 0x3A⟩))).filterMap eventOf
    = [.token 13 0x3A 2, .sof 0x2AD] := by decide +kernel

end LunaVerif.TokenDetector
