import LunaVerif.Model.Usb3.RawPacketTransmitter
/-!
# C36 — Header and data packets are transmitted with correct framing and CRCs

"Each transmitted header packet is SHP-SHP-SHP-EPF, three header words, and a fourth word with the
header CRC16, sequence number and a link-control CRC5; a data header is followed by SDP-SDP-SDP-EPF,
the payload bytes in order, the CRC32 of the payload placed immediately after its last byte, and END
symbols padding to the word boundary followed by END-END-END-EPF (or an EDB abort when the packet is
marked delayed).  Receiving such a stream with the link-layer receivers yields the same header and
payload with good CRCs."

What holds of the end of a data packet, here and in the gateware, is not the order of that sentence: END END END EPF
stands directly after the four CRC bytes, and the padding to the word boundary is data symbols of value 0 after EPF
(`crc32_immediately_after_last_byte`, `dppSyms` in `Lemmas/C36Frame.lean`).

FULL STATEMENT: `tx_emits_frame` in `Lemmas/C36Frame.lean` (this file holds the one-step facts and
the special cases over explicit input lists): for every header, every payload presented on `data_sink` under the
stream contract `obeys`, and every `source.ready` pattern, the words transferred between `generate`
and `done` are `frame hdr payload` (a functional definition, symbol level for the payload part), `done`
is raised exactly when the frame is complete, and the stream is consumed exactly once.  The round trip
`rx_of_tx` (header receiver model of C37, data receiver model of C40 over `frame hdr payload`) is in
`Lemmas/C36RoundTrip.lean`.
HERE: a stalled cycle changes nothing (`stall_invariant`, `stall_cycle_invisible`); the header part for
every header (`header_words`); the abort (`delayed_aborts_with_edb`); zero-length and one-word payloads
(`tx_emits_frame_partial`); payloads of two or more words with the PHY always ready
(`payload_words_in_order`, `dpp_frame_all_lengths`); the symbol-level content of the three closing
words (`crc32_immediately_after_last_byte`).
-/
namespace LunaVerif.RawPacketTransmitter

/-- DWORD 3 of the specification: CRC-16 of DWORD 0..2, link control word, its CRC-5. -/
def specDw3 (dw0 dw1 dw2 lcw : Nat) : Nat := crc16Of [dw0, dw1, dw2] + 2 ^ 16 * lcw + 2 ^ 27 * crc5Of lcw

def headerFrame (dw0 dw1 dw2 lcw : Nat) : List (Nat × Nat) :=
  [(HPSTART, 0xF), (dw0, 0), (dw1, 0), (dw2, 0), (specDw3 dw0 dw1 dw2 lcw, 0)]

/-- A cycle in which the PHY is not ready (`source.ready` low) changes nothing outside IDLE: the word on the bus is a
function of the state, so it is held. -/
theorem stall_invariant (s : State) (hs : s.fsm ≠ .idle) (i : In) (hr : i.ready = false) :
    (step s i).1 = s ∧ (step s i).2.valid = true ∧ (step s i).2.done = false ∧
      (step s i).2.sinkReady = false := by
  obtain ⟨f, a, b, c, l, pw, pv, z, c16, c32⟩ := s
  cases f <;> simp_all [step]

theorem stall_cycle_invisible (s : State) (hs : s.fsm ≠ .idle) (i : In) (hr : i.ready = false)
    (h : List In) :
    emitted (run s (i :: h)) = emitted (run s h) ∧ final s (i :: h) = final s h := by
  have ⟨h1, _, _, _⟩ := stall_invariant s hs i hr
  simp [run, final, emitted, h1, hr]

/-- **Header words.**  For every start state in IDLE, every header (dw0, dw1, dw2, link control word)
present at `generate`, whatever the inputs are afterwards (with the PHY ready): the first five
words transferred are SHP SHP SHP EPF, the three header words unaltered, and DWORD 3 = CRC-16 of
those three words | link control word | CRC-5 of the link control word.  A non-data header ends
there with `done`, back in IDLE. -/
theorem header_words (s : State) (hs : s.fsm = .idle) (g i1 i2 i3 i4 i5 : In)
    (hg : g.generate = true) (h1 : i1.ready = true) (h2 : i2.ready = true) (h3 : i3.ready = true)
    (h4 : i4.ready = true) (h5 : i5.ready = true)
    (hw : g.dw0 < 2 ^ 32 ∧ g.dw1 < 2 ^ 32 ∧ g.dw2 < 2 ^ 32 ∧ g.lcw < 2 ^ 11) :
    emitted (run s [g, i1, i2, i3, i4, i5]) = headerFrame g.dw0 g.dw1 g.dw2 g.lcw ∧
    (g.dw0 % 16 ≠ 8 → (final s [g, i1, i2, i3, i4, i5]).fsm = .idle ∧
        ((run s [g, i1, i2, i3, i4, i5]).map (·.2.done)) = [false, false, false, false, false, true]) ∧
    (g.dw0 % 16 = 8 → (final s [g, i1, i2, i3, i4, i5]).fsm = .startDpp ∧
        (final s [g, i1, i2, i3, i4, i5]).lcw = g.lcw ∧
        (final s [g, i1, i2, i3, i4, i5]).isZlp = (i5.sinkValid % 16 == 0) ∧
        (final s [g, i1, i2, i3, i4, i5]).crc32In = []) := by
  obtain ⟨w0, w1, w2, w3⟩ := hw
  have m0 : g.dw0 % 2 ^ 32 = g.dw0 := Nat.mod_eq_of_lt w0
  have m1 : g.dw1 % 2 ^ 32 = g.dw1 := Nat.mod_eq_of_lt w1
  have m2 : g.dw2 % 2 ^ 32 = g.dw2 := Nat.mod_eq_of_lt w2
  have m3 : g.lcw % 2 ^ 11 = g.lcw := Nat.mod_eq_of_lt w3
  refine ⟨?_, ?_, ?_⟩
  · simp [run, step, emitted, hs, hg, h1, h2, h3, h4, h5, m0, m1, m2, m3, headerFrame, specDw3, dw3Word]
  · intro hnd
    simp [run, final, step, hs, hg, h1, h2, h3, h4, h5, m0, m1, m2, m3, hnd]
  · intro hd
    simp [final, step, hs, hg, h1, h2, h3, h4, h5, m0, m1, m2, m3, hd]

/-- **Abort.**  From START_DPP with a header marked delayed: DPPSTART, then EDB EDB EDB EPF, `done`,
back to IDLE; no payload word is taken from the stream. -/
theorem delayed_aborts_with_edb (s : State) (hs : s.fsm = .startDpp) (hd : s.lcw / 2 ^ 9 % 2 = 1)
    (i1 i2 : In) (h1 : i1.ready = true) (h2 : i2.ready = true) :
    emitted (run s [i1, i2]) = [(DPPSTART, 0xF), (DPPABORT, 0xF)] ∧
    (run s [i1, i2]).map (·.2.done) = [false, true] ∧
    (run s [i1, i2]).map (·.2.sinkReady) = [false, false] ∧ (final s [i1, i2]).fsm = .idle := by
  simp [run, final, step, emitted, hs, h1, h2, hd]

/-- The three closing words as a symbol (byte, is-K) stream. -/
def tailSyms (pv pw crc : Nat) : List (Nat × Bool) :=
  let w1 := lastWordData pv pw crc
  let w2 := crcWord pv crc
  let w3 := finishWord pv
  let syms (d c : Nat) : List (Nat × Bool) :=
    [(d % 256, c % 2 == 1), (d / 256 % 256, c / 2 % 2 == 1), (d / 65536 % 256, c / 4 % 2 == 1),
     (d / 16777216 % 256, c / 8 % 2 == 1)]
  syms w1 0 ++ syms w2.1 w2.2 ++ syms w3.1 w3.2

def dsym (b : Nat) : Nat × Bool := (b, false)
def ksym (b : Nat) : Nat × Bool := (b, true)

/-- **CRC placement, every payload length.**  Whatever the last payload word `pw` (with `k` = 1..4
valid bytes) and the CRC-32 `crc` of the whole payload are: the words sent in SEND_LAST_WORD,
SEND_CRC and FINISH_DPP are, symbol by symbol, the `k` payload bytes, immediately the four CRC bytes
(low byte first), END END END EPF as control symbols, and zero data symbols up to the word boundary. -/
theorem crc32_immediately_after_last_byte (pw crc : Nat) (_hp : pw < 2 ^ 32) (hc : crc < 2 ^ 32) :
    let crcSyms := (wordBytes crc).map dsym
    let endSyms := [ksym 0xFD, ksym 0xFD, ksym 0xFD, ksym 0xF7]
    tailSyms 15 pw crc = (wordBytes pw).map dsym ++ crcSyms ++ endSyms ∧
    tailSyms 7 pw crc = ((wordBytes pw).take 3).map dsym ++ crcSyms ++ endSyms ++ [dsym 0] ∧
    tailSyms 3 pw crc = ((wordBytes pw).take 2).map dsym ++ crcSyms ++ endSyms ++ [dsym 0, dsym 0] ∧
    tailSyms 1 pw crc = ((wordBytes pw).take 1).map dsym ++ crcSyms ++ endSyms ++ [dsym 0, dsym 0, dsym 0] := by
  simp [tailSyms, lastWordData, crcWord, finishWord, wordBytes, dsym, ksym, END, DPPEND]
  omega

/-- **Zero-length and one-word payloads.**  From START_DPP (header not delayed), PHY ready:
* zero-length (`isZlp`): DPPSTART, the CRC-32 of the empty payload, END END END EPF;
* a payload of one word `d` with valid mask `m` ∈ {1, 3, 7, 15} flagged `last`: DPPSTART, then the
  three closing words for (`m`, `d`, CRC-32 of exactly the `lanes m` bytes of `d`) — whose symbol
  content is given by `crc32_immediately_after_last_byte`; exactly one word is accepted from the
  payload stream; `done` on the last word; back to IDLE. -/
theorem tx_emits_frame_partial (s : State) (hs : s.fsm = .startDpp) (hnd : s.lcw / 2 ^ 9 % 2 = 0)
    (hfresh : s.crc32In = []) (i1 i2 i3 i4 : In)
    (h1 : i1.ready = true) (h2 : i2.ready = true) (h3 : i3.ready = true) (h4 : i4.ready = true) :
    (s.isZlp = true →
      emitted (run s [i1, i2, i3]) = [(DPPSTART, 0xF), (crc32Of [], 0), (DPPEND, 0xF)] ∧
      (run s [i1, i2, i3]).map (·.2.done) = [false, false, true] ∧ (final s [i1, i2, i3]).fsm = .idle) ∧
    (s.isZlp = false → i1.sinkLast = true → i1.sinkData < 2 ^ 32 → i1.sinkValid < 16 →
      let crc := crc32Of ((wordBytes i1.sinkData).take (lanes i1.sinkValid))
      emitted (run s [i1, i2, i3, i4]) =
        [(DPPSTART, 0xF), (lastWordData i1.sinkValid i1.sinkData crc, 0), crcWord i1.sinkValid crc,
         finishWord i1.sinkValid] ∧
      (run s [i1, i2, i3, i4]).map (·.2.sinkReady) = [true, false, false, false] ∧
      (run s [i1, i2, i3, i4]).map (·.2.done) = [false, false, false, true] ∧
      (final s [i1, i2, i3, i4]).fsm = .idle) := by
  have hnd' : ¬ (s.lcw / 2 ^ 9 % 2 = 1) := by omega
  refine ⟨?_, ?_⟩
  · intro hz
    simp [run, final, step, emitted, hs, hz, hfresh, h1, h2, h3, hnd', crcWord, finishWord]
  · intro hz hl hdat hv
    have md : i1.sinkData % 2 ^ 32 = i1.sinkData := Nat.mod_eq_of_lt hdat
    have mv : i1.sinkValid % 16 = i1.sinkValid := Nat.mod_eq_of_lt hv
    simp [run, final, step, emitted, hs, hz, hfresh, h1, h2, h3, h4, hnd', hl, md, mv, absorb]

/-- A payload-stream word presented with the PHY ready (the header inputs are irrelevant outside IDLE). -/
def sinkIn (valid data : Nat) (last : Bool) : In := ⟨0, 0, 0, 0, false, true, valid, data, last⟩

def midIns (mid : List Nat) : List In := mid.map fun w => sinkIn 15 w false

/-- **Payload words in order, every length.**  In SEND_PAYLOAD with a word in the pipeline register (`s.pipeWord`): for
every list `mid` of further full words and a final word `d` with valid mask `m` flagged `last` (PHY ready),
the words transferred are that word followed by `mid`, unchanged and in order (ctrl 0), one stream word is
accepted per cycle, and the transmitter arrives in SEND_LAST_WORD holding `d`/`m` with the CRC-32 unit
having absorbed exactly the bytes of `mid` and the `lanes m` valid bytes of `d`. -/
theorem payload_words_in_order (mid : List Nat) (s : State) (hs : s.fsm = .payload)
    (hm : ∀ w ∈ mid, w < 2 ^ 32) (m d : Nat) (hd : d < 2 ^ 32) (hmk : m < 16) :
    emitted (run s (midIns mid ++ [sinkIn m d true])) = (s.pipeWord :: mid).map (fun w => (w, 0)) ∧
    (run s (midIns mid ++ [sinkIn m d true])).map (·.2.sinkReady) = List.replicate (mid.length + 1) true ∧
    (run s (midIns mid ++ [sinkIn m d true])).map (·.2.done) = List.replicate (mid.length + 1) false ∧
    final s (midIns mid ++ [sinkIn m d true]) =
      { s with fsm := .lastWord, pipeWord := d, pipeValid := m,
               crc32In := s.crc32In ++ mid.flatMap wordBytes ++ (wordBytes d).take (lanes m) } := by
  induction mid generalizing s with
  | nil =>
    have md : d % 2 ^ 32 = d := Nat.mod_eq_of_lt hd
    have mv : m % 16 = m := Nat.mod_eq_of_lt hmk
    simp [midIns, run, final, step, emitted, sinkIn, absorb, hs, md, mv]
  | cons w ws ih =>
    have hw : w < 2 ^ 32 := hm w List.mem_cons_self
    have mw : w % 2 ^ 32 = w := Nat.mod_eq_of_lt hw
    have hstep : step s (sinkIn 15 w false) =
        ({ s with pipeWord := w, pipeValid := 15, crc32In := s.crc32In ++ wordBytes w },
         ⟨true, s.pipeWord, 0, false, true⟩) := by
      simp [step, sinkIn, absorb, hs, mw, lanes, wordBytes]
    have ih' := ih { s with pipeWord := w, pipeValid := 15, crc32In := s.crc32In ++ wordBytes w } hs
      (fun x hx => hm x (List.mem_cons_of_mem _ hx))
    simp only [midIns, List.map_cons, List.cons_append, run, final, hstep] at ih' ⊢
    obtain ⟨e1, e2, e3, e4⟩ := ih'
    refine ⟨?_, ?_, ?_, ?_⟩
    · simp [emitted] at e1 ⊢
      simpa [sinkIn, emitted] using e1
    · simp [List.replicate_succ] at e2 ⊢; exact e2
    · simp [List.replicate_succ] at e3 ⊢; exact e3
    · rw [e4]; simp [List.append_assoc]

theorem run_append (s : State) (h₁ h₂ : List In) : run s (h₁ ++ h₂) = run s h₁ ++ run (final s h₁) h₂ := by
  induction h₁ generalizing s with
  | nil => rfl
  | cons i is ih => simp [run, final, ih]

theorem final_append (s : State) (h₁ h₂ : List In) : final s (h₁ ++ h₂) = final (final s h₁) h₂ := by
  induction h₁ generalizing s with
  | nil => rfl
  | cons i is ih => simp [final, ih]

theorem emitted_append (a b : List (In × Out)) : emitted (a ++ b) = emitted a ++ emitted b := by
  simp [emitted]

/-- **Data packet payload of two or more words, every length and trailing-byte count.**  From START_DPP
(header not delayed, not a ZLP, CRC unit freshly cleared), PHY ready, the stream presenting the full
words `w0`, `mid…` and the final word `d` with valid mask `m` flagged `last`: the words transferred are
DPPSTART, the payload words unchanged and in order, then the three closing words built from `d`, `m`
and the CRC-32 of exactly the payload bytes (their symbol content: `crc32_immediately_after_last_byte`);
back in IDLE. -/
theorem dpp_frame_all_lengths (s : State) (hs : s.fsm = .startDpp) (hnd : s.lcw / 2 ^ 9 % 2 = 0)
    (hz : s.isZlp = false) (hfresh : s.crc32In = []) (w0 : Nat) (mid : List Nat) (m d : Nat)
    (hw0 : w0 < 2 ^ 32) (hm : ∀ w ∈ mid, w < 2 ^ 32) (hd : d < 2 ^ 32) (hmk : m < 16) (t1 t2 t3 : In)
    (r1 : t1.ready = true) (r2 : t2.ready = true) (r3 : t3.ready = true) :
    let ins := sinkIn 15 w0 false :: ((midIns mid ++ [sinkIn m d true]) ++ [t1, t2, t3])
    let crc := crc32Of (wordBytes w0 ++ mid.flatMap wordBytes ++ (wordBytes d).take (lanes m))
    emitted (run s ins) = [(DPPSTART, 0xF)] ++ (w0 :: mid).map (fun w => (w, 0)) ++
        [(lastWordData m d crc, 0), crcWord m crc, finishWord m] ∧
    (final s ins).fsm = .idle := by
  have hnd' : ¬ (s.lcw / 2 ^ 9 % 2 = 1) := by omega
  have mw : w0 % 2 ^ 32 = w0 := Nat.mod_eq_of_lt hw0
  let s1 : State := { s with fsm := .payload, pipeWord := w0, pipeValid := 15, crc32In := wordBytes w0 }
  have hfirst : step s (sinkIn 15 w0 false) = (s1, ⟨true, DPPSTART, 0xF, false, true⟩) := by
    simp [step, sinkIn, hs, hz, hfresh, hnd', absorb, mw, lanes, wordBytes, s1]
  obtain ⟨e1, _, _, e4⟩ := payload_words_in_order mid s1 rfl hm m d hd hmk
  intro ins crc
  simp only [ins, run, final, hfirst]
  rw [run_append s1 _ [t1, t2, t3], final_append s1 _ [t1, t2, t3], e4]
  constructor
  · rw [← List.cons_append, emitted_append, ← List.singleton_append, emitted_append, e1]
    simp [emitted, sinkIn, run, step, r1, r2, r3, crc, s1, List.append_assoc]
  · simp [final, step, r1, r2, r3]

end LunaVerif.RawPacketTransmitter
