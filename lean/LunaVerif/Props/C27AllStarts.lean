import LunaVerif.Lemmas.C27AllStartsArith
/-!
# C27 — the generator and the serializer for EVERY value of the `start_position` port

`emits_all_starts` describes, for every value the `start_position` port can carry (in fact for every natural
number), what the generator emits AS CODED, by forward simulation against the player `SpecA` of the words `xferA`.
`Props/C27.lean` reads `emits_slice` (a request names a start position within the data, in words) off it.  The
corollaries make visible where "emits exactly the requested slice" holds and where it does not:

* `sp < words` (`within_data_is_slice`): exactly the slice of `emits_slice`.
* `sp ≥ len(data)` (bytes; `beyond_len_emits_last_word`, for `max_length > 0`): the clamp — ONE word, the LAST word of
  the constant, `last` set, `first` NOT set, valid bits `min(max_length, bytes in the last word)`; the requested
  slice `data[sp·wb ..]` is empty (`beyond_data_not_the_slice`).
* `words ≤ sp < len(data)` (multi-byte words only; the port is sized by the BYTE length, the clamp compares with
  the BYTE length, the position register is sized by the WORD count): not clamped, truncated to the position
  width; if the truncated value is again `≥ words` the generator walks through `posMod - e` out-of-range ROM
  addresses (all-zero words in the simulator), wraps to 0 and plays the constant from its beginning, the whole
  limited to `max_length` (`unclamped_beyond_words`, for `sp < posMod`); `first` is flagged only if the truncation
  did not change the value (`first_iff`).
-/
namespace LunaVerif.StreamGen

inductive SpecA
  | idle (m : Nat)
  | play (sp M k : Nat)
  | done (m : Nat)
deriving DecidableEq, Repr

def specOutA (c : Config) : SpecA → Out
  | .idle m => ⟨0, 0, false, false, false, outLen c m⟩
  | .play sp M k =>
    let x := xferA c sp M k
    ⟨x.valid, x.payload, x.first, x.last, false, outLen c M⟩
  | .done m => ⟨0, 0, false, false, true, outLen c m⟩

def specNextA (c : Config) : SpecA → In → SpecA
  | .idle _, i => if i.start = true ∧ 0 < i.maxLength then .play i.startPosition i.maxLength 0 else .idle i.maxLength
  | .play sp M k, i => if i.ready then (if k + 1 = nXfersA c sp M then .done M else .play sp M (k + 1)) else .play sp M k
  | .done m, _ => .idle m

def specRunA (c : Config) : SpecA → List In → List Out
  | _, [] => []
  | q, x :: xs => specOutA c q :: specRunA c (specNextA c q x) xs

/-- Environment WITHOUT any restriction on the requested start position: `max_length` fits its port;
`start_position` is held while the emission is in progress (`first` is computed from the live input). -/
def EnvA (c : Config) : SpecA → In → Prop
  | .idle _, i => i.maxLength < 2 ^ c.mlw
  | .play sp _ _, i => i.startPosition = sp
  | .done _, _ => True

def EnvRunA (c : Config) : SpecA → List In → Prop
  | _, [] => True
  | q, x :: xs => EnvA c q x ∧ EnvRunA c (specNextA c q x) xs

def RA (c : Config) (σ : State) : SpecA → Prop
  | .idle m => σ.fsm = .idle ∧ σ.maxLen = m
  | .done m => σ.fsm = .done ∧ σ.maxLen = m
  | .play sp M k =>
    σ.fsm = .streaming ∧ σ.pos = posA c (effStart c sp) k ∧ σ.bytesSent = k * c.wb ∧ σ.maxLen = M ∧
    σ.romData = romRead c (posA c (effStart c sp) k) ∧ k < nXfersA c sp M ∧ M < 2 ^ c.mlw

theorem wordA (c : Config) (hc : c.Valid) (sp M k : Nat) (hk : k < nXfersA c sp M) (hM : M < 2 ^ c.mlw) :
    let p := posA c (effStart c sp) k
    onLast c p (k * c.wb) M = (xferA c sp M k).last ∧
    validMask c p (k * c.wb) M = (xferA c sp M k).valid ∧
    romRead c p = (xferA c sp M k).payload ∧
    (p == sp) = (xferA c sp M k).first ∧
    (k + 1 < nXfersA c sp M →
      (p + 1) % posMod c = posA c (effStart c sp) (k + 1) ∧ (k * c.wb + c.wb) % 2 ^ c.mlw = (k + 1) * c.wb) := by
  intro p
  obtain ⟨hA, hD⟩ := availA_eq c hc (effStart c sp)
  obtain ⟨hl1, hl⟩ := lastWordBytes_le c hc
  obtain ⟨s1, s2, s3, s4, s5⟩ := slice_arith c.wb (wordsA c (effStart c sp)) (lastWordBytes c) M k (budgetA c sp M)
    hl1 hl hD (by rw [budgetA, hA]) ((lt_nXfersA_iff c hc sp M k).mp hk)
  obtain ⟨p1, p2, p3, p4, p5, p6⟩ := posA_facts c hc _ k (effStart_lt c hc sp) s1
  have hN := lt_nXfersA_iff c hc sp M (k + 1)
  refine ⟨?_, ?_, ?_, ?_, ?_⟩
  · show _ = (k + 1 == nXfersA c sp M)
    rw [onLast_eq, Bool.beq_eq_decide_eq, decide_eq_decide, p1, s3, ← hN]; omega
  · rw [validMask_gen c hc _ _ _ s2]
    simp only [xferA, p, p1]
    rw [s4]
  · simp only [xferA]
    by_cases hkl : k < lead c (effStart c sp)
    · rw [if_pos hkl]; exact romRead_oob c _ (p2 hkl)
    · obtain ⟨g1, g2⟩ := p3 hkl
      rw [if_neg hkl, romRead_eq c _ g1, g2]
  · rw [Bool.eq_iff_iff]
    simp only [xferA, Bool.and_eq_true, beq_iff_eq]
    constructor
    · intro h
      by_cases hse : sp = effStart c sp
      · exact ⟨p5.mp (by omega), hse⟩
      · exfalso
        have hn := mt (effStart_eq_iff c hc sp).mpr hse
        by_cases h' : c.data.length ≤ sp
        · -- clamped: e = words - 1 < words, so the position is within the words, below the byte length
          have he : effStart c sp = nWords c - 1 := if_pos h'
          have hW1 := nWords_pos c hc
          have hlead : lead c (effStart c sp) = 0 := by rw [he, lead, if_pos (by omega)]
          have := (p3 (by omega)).1
          have := nWords_le_len c hc
          omega
        · omega
    · rintro ⟨h0, hse⟩
      have := p5.mpr h0
      omega
  · intro h
    obtain ⟨g1, g2⟩ := s5 (hN.mp h)
    rw [Nat.add_mul, Nat.one_mul] at g1 ⊢
    exact ⟨p6 g2, Nat.mod_eq_of_lt (by omega)⟩

theorem posA_zero (c : Config) (hc : c.Valid) (sp : Nat) : posA c (effStart c sp) 0 = effStart c sp := by
  obtain ⟨_, _, _, _, h, _⟩ := posA_facts c hc _ 0 (effStart_lt c hc sp) (availA_eq c hc _).2
  exact h.mpr rfl

theorem nXfersA_pos (c : Config) (hc : c.Valid) (sp M : Nat) (hM : 0 < M) : 0 < nXfersA c sp M := by
  have hA := (availA_eq c hc (effStart c sp)).1
  have := lastWordBytes_le c hc
  rw [lt_nXfersA_iff c hc, Nat.zero_mul, budgetA]
  omega

theorem step_simA (c : Config) (hc : c.Valid) (σ : State) (q : SpecA) (i : In) (hR : RA c σ q) (hE : EnvA c q i) :
    (step c σ i).2 = specOutA c q ∧ RA c (step c σ i).1 (specNextA c q i) := by
  obtain ⟨f, pos, bs, ml, rd⟩ := σ
  cases q with
  | idle m =>
    obtain ⟨hf, hm⟩ := hR
    simp only at hf hm; subst hf hm
    have hml : i.maxLength < 2 ^ c.mlw := hE
    refine ⟨by simp [step, specOutA, outLen_eq], ?_⟩
    have hes : (if i.startPosition ≥ c.data.length then nWords c - 1
        else i.startPosition % 2 ^ rangeWidth (nWords c)) = effStart c i.startPosition := rfl
    by_cases hgo : i.start = true ∧ 0 < i.maxLength
    · simp only [step, hes, specNextA, hgo, and_self, if_true, RA, decide_true, Bool.and_self,
        posA_zero c hc, Nat.zero_mul, true_and]
      exact ⟨nXfersA_pos c hc _ _ hgo.2, hml⟩
    · have : (i.start && decide (i.maxLength > 0)) = false := by
        cases hst : i.start <;> simp_all
      simp [step, specNextA, hgo, this, RA]
  | done m =>
    obtain ⟨hf, hm⟩ := hR
    simp only at hf hm; subst hf hm
    refine ⟨by simp [step, specOutA, outLen_eq], by simp [step, specNextA, RA]⟩
  | play sp M k =>
    obtain ⟨hf, hp, hb, hm, hr, hk, hM⟩ := hR
    simp only at hf hp hb hm hr; subst hf hp hb hr; subst hm
    have hE : i.startPosition = sp := hE
    obtain ⟨w1, w2, w3, w4, w5⟩ := wordA c hc sp ml k hk hM
    refine ⟨by simp only [step, specOutA, w1, w2, w3, hE, w4, outLen_eq], ?_⟩
    by_cases hrd : i.ready = true
    · by_cases hl : k + 1 = nXfersA c sp ml
      · have w1' := w1.trans (beq_iff_eq.mpr hl)
        simp [step, specNextA, w1', hrd, hl, RA]
      · have w1' := w1.trans (beq_eq_false_iff_ne.mpr hl)
        have hk1 : k + 1 < nXfersA c sp ml := by omega
        obtain ⟨e2, e3⟩ := w5 hk1
        rw [posMod] at e2
        simp only [step, specNextA, w1', hrd, hl, Bool.not_false, Bool.and_true,
          Bool.and_false, Bool.false_eq_true, if_true, if_false, e2, e3, RA, true_and]
        exact ⟨hk1, hM⟩
    · have hrd' : i.ready = false := by simpa using hrd
      simp only [step, specNextA, hrd', Bool.false_and, Bool.false_eq_true, if_false, RA, true_and]
      exact ⟨hk, hM⟩

theorem run_simA (c : Config) (hc : c.Valid) (σ : State) (q : SpecA) (hR : RA c σ q) (hist : List In)
    (hE : EnvRunA c q hist) : run c σ hist = specRunA c q hist := by
  induction hist generalizing σ q with
  | nil => rfl
  | cons x xs ih =>
    obtain ⟨h1, h2⟩ := step_simA c hc σ q x hR hE.1
    simp only [run, specRunA]
    rw [h1, ih _ _ h2 hE.2]

/-- **emits_all_starts** (main theorem, no hypothesis on the VALUE of the start position): for every valid
configuration and every input history satisfying `EnvRunA` — in idle cycles `max_length` fits its port, and during an
emission the `start_position` port is HELD at the requested value — that is any sequence of requests with ANY value
on the `start_position` port (within the data, beyond the last word, beyond the byte length, wider than the position
register), any max_length the port can carry, any ready pattern: the ports of the generator are, cycle by cycle, those
of the player of the words `xferA c sp M k`, `k < nXfersA c sp M`. -/
theorem emits_all_starts (c : Config) (hc : c.Valid) (hist : List In) (hE : EnvRunA c (.idle 0) hist) :
    run c (init c) hist = specRunA c (.idle 0) hist :=
  run_simA c hc _ _ (by simp [RA, init]) hist hE

/-! ## What the words are, by region of the `start_position` value -/

/-- **within_data_is_slice**: for a start position within the data (in words) the emission is exactly the slice
of `emits_slice`: same number of words, same words. -/
theorem within_data_is_slice (c : Config) (hc : c.Valid) (sp M : Nat) (hs : sp < nWords c) :
    nXfersA c sp M = nXfers c sp M ∧ budgetA c sp M = budget c sp M ∧ ∀ k, xferA c sp M k = xfer c sp M k := by
  have he := effStart_of_lt c sp (Nat.lt_of_lt_of_le hs (nWords_le_len c hc))
    (Nat.lt_of_lt_of_le hs (nWords_le_posMod c))
  have hB : budgetA c sp M = budget c sp M := by simp [budgetA, budget, availA, lead, base, he, hs]
  have hN : nXfersA c sp M = nXfers c sp M := by simp [nXfersA, nXfers, hB]
  refine ⟨hN, hB, fun k => ?_⟩
  simp [xferA, xfer, he, lead, base, hs, hB, hN]

/-- **beyond_len_emits_last_word** (the clamp): a `start_position` at or beyond the BYTE length (and a non-zero
`max_length`: with 0 nothing is emitted) makes the generator emit exactly ONE word — the LAST word of the constant — with `last` set and `first` NOT set; with
per-byte valid bits it marks `min(max_length, bytes in the last word)` bytes. -/
theorem beyond_len_emits_last_word (c : Config) (hc : c.Valid) (sp M : Nat) (hs : c.data.length ≤ sp) (hM : 0 < M) :
    nXfersA c sp M = 1 ∧
    xferA c sp M 0 = ⟨wordOf c.big ((c.data.drop ((nWords c - 1) * c.wb)).take c.wb),
      if c.vw = 1 then 1 else ones (min M (lastWordBytes c)), false, true⟩ := by
  obtain ⟨hsplit, hW1⟩ := lastWord_split c hc
  have hWl := nWords_le_len c hc
  have hl := lastWordBytes_le c hc
  have he : effStart c sp = nWords c - 1 := by simp [effStart, hs]
  have heW : nWords c - 1 < nWords c := by omega
  have hB : budgetA c sp M = min M (lastWordBytes c) := by
    simp only [budgetA, he, availA, lead, base, if_pos heW]
    omega
  have hN : nXfersA c sp M = 1 := by
    have h0 := nXfersA_pos c hc sp M hM
    have h1 := lt_nXfersA_iff c hc sp M 1
    rw [hB] at h1
    omega
  refine ⟨hN, ?_⟩
  have hne : (sp == nWords c - 1) = false := beq_eq_false_iff_ne.mpr (by omega)
  have hmin : min c.wb (min M (lastWordBytes c)) = min M (lastWordBytes c) := by omega
  simp [xferA, he, lead, base, heW, hB, hN, hne, hmin]

/-- **beyond_data_not_the_slice**: for every start position beyond the last word (`sp ≥ words`) the requested slice
`data[sp·wb ..]` is empty, yet a request with a non-zero length limit makes the generator emit at least one
word: "emits exactly the requested slice" does NOT extend beyond the data — the generator clamps (or wraps). -/
theorem beyond_data_not_the_slice (c : Config) (hc : c.Valid) (sp M : Nat) (hs : nWords c ≤ sp) (hM : 0 < M) :
    xfers c sp M = [] ∧ xfersA c sp M ≠ [] := by
  have hpos := nXfersA_pos c hc sp M hM
  have h0 : nXfers c sp M = 0 := by
    have h1 := lt_nXfers_iff c hc sp M 0
    have h2 := lt_nWords_iff c hc sp
    rw [budget] at h1
    omega
  constructor
  · simp [xfers, h0]
  · intro h
    have : (xfersA c sp M).length = nXfersA c sp M := by simp [xfersA]
    rw [h] at this
    simp at this; omega

/-- **first_iff**: `first` is flagged on word 0, and only if the port value survived clamp and truncation
(`sp < len(data)` and `sp < posMod`); a clamped or truncated start position never shows `first`. -/
theorem first_iff (c : Config) (hc : c.Valid) (sp M k : Nat) :
    (xferA c sp M k).first = true ↔ k = 0 ∧ sp < c.data.length ∧ sp < posMod c := by
  simp only [xferA, Bool.and_eq_true, beq_iff_eq]
  rw [effStart_eq_iff c hc]

/-- **unclamped_beyond_words**: a start position beyond the last word that is below the byte length and fits the
position register (multi-byte words only) is NOT clamped: the generator emits `posMod - sp` all-zero words
(out-of-range ROM addresses), then the constant from its beginning, the whole limited to `max_length`. -/
theorem unclamped_beyond_words (c : Config) (sp M k : Nat) (h1 : nWords c ≤ sp) (h2 : sp < c.data.length)
    (h3 : sp < posMod c) :
    budgetA c sp M = min M ((posMod c - sp) * c.wb + c.data.length) ∧
    xferA c sp M k = ⟨if k < posMod c - sp then 0
        else wordOf c.big ((c.data.drop ((k - (posMod c - sp)) * c.wb)).take c.wb),
      if c.vw = 1 then 1 else ones (min c.wb (budgetA c sp M - k * c.wb)), k == 0, k + 1 == nXfersA c sp M⟩ := by
  have he := effStart_of_lt c sp h2 h3
  have hn : ¬ sp < nWords c := by omega
  constructor
  · simp [budgetA, availA, lead, base, he, hn]
  · simp [xferA, lead, base, he, hn]

/-- **first_last_flags_all**: for every start-position value, `last` is on the final word `N-1` only, and `first`
on word 0 only (and only for an unclamped, untruncated start position). -/
theorem first_last_flags_all (c : Config) (hc : c.Valid) (sp M k : Nat) :
    ((xferA c sp M k).first = true ↔ k = 0 ∧ sp < c.data.length ∧ sp < posMod c) ∧
    (xferA c sp M k).last = (k + 1 == nXfersA c sp M) :=
  ⟨first_iff c hc sp M k, rfl⟩

/-- **valid_mask_partial_word_all**: for every start-position value, every word before the final one has all `wb`
valid bits set, the final word exactly the remaining `1..wb` bytes of `budgetA = min(max_length, bytes playable)`. -/
theorem valid_mask_partial_word_all (c : Config) (hc : c.Valid) (hv : c.vw ≠ 1) (sp M k : Nat)
    (hk : k < nXfersA c sp M) :
    (k + 1 < nXfersA c sp M → (xferA c sp M k).valid = ones c.wb) ∧
    (k + 1 = nXfersA c sp M → (xferA c sp M k).valid = ones (budgetA c sp M - k * c.wb) ∧
      1 ≤ budgetA c sp M - k * c.wb ∧ budgetA c sp M - k * c.wb ≤ c.wb ∧
      k * c.wb + (budgetA c sp M - k * c.wb) = budgetA c sp M) := by
  simp only [xferA, hv, if_false]
  exact partial_word c.wb _ k _ (lt_nXfersA_iff c hc sp M) hk

/-- **done_once_all**: `done` is high exactly in the player's `done` phase, which lasts one cycle, is entered only by
taking the final word of an emission, and is followed by idle — for every start-position value. -/
theorem done_once_all (c : Config) (q : SpecA) (i : In) :
    ((specOutA c q).done = true ↔ ∃ m, q = .done m) ∧
    (∀ m, q = .done m → specNextA c q i = .idle m) ∧
    (∀ m, specNextA c q i = .done m ↔ ∃ sp k, q = .play sp m k ∧ i.ready = true ∧ k + 1 = nXfersA c sp m) := by
  refine ⟨?_, ?_, ?_⟩
  · cases q <;> simp [specOutA]
  · rintro m rfl; rfl
  · intro m
    cases q with
    | idle m' => simp only [specNextA]; split <;> simp
    | done m' => simp [specNextA]
    | play s M k =>
      constructor
      · intro h
        simp only [specNextA] at h
        by_cases hr : i.ready = true
        · by_cases hl : k + 1 = nXfersA c s M
          · simp [hr, hl] at h; subst h; exact ⟨s, k, rfl, hr, hl⟩
          · simp [hr, hl] at h
        · simp [hr] at h
      · rintro ⟨s', k', hq, hr, hl⟩
        injection hq with h1 h2 h3
        subst h1 h2 h3
        simp [specNextA, hr, hl]

/-! ## StreamSerializer for every `start_position` value

`self.start_position` is `Signal(range(data_length))`, as wide as the position register (no truncation); the clamp
`start_position >= data_length → data_length - 1` is reachable when `data_length` is not a power of two. -/

/-- the internal `start_position` of the serializer -/
def serEff (c : SerConfig) (sp : Nat) : Nat := if sp ≥ c.n then c.n - 1 else sp

def serCountA (c : SerConfig) (sp M : Nat) : Nat := min M (c.n - serEff c sp)

inductive SerSpecA
  | idle
  | play (sp M k : Nat)
  | done
deriving DecidableEq, Repr

def serSpecOutA (c : SerConfig) : SerSpecA → SerIn → SerOut
  | .idle, _ => ⟨false, 0, false, false, false⟩
  | .play sp M k, i =>
    ⟨true, (match i.data[serEff c sp + k]? with | some v => v | none => i.data.getLastD 0),
     k == 0 && decide (sp < c.n), k + 1 == serCountA c sp M, false⟩
  | .done, _ => ⟨false, 0, false, false, true⟩

def serSpecNextA (c : SerConfig) : SerSpecA → SerIn → SerSpecA
  | .idle, i => if i.start = true ∧ 0 < serLimit c i then .play i.startPosition (serLimit c i) 0 else .idle
  | .play sp M k, i => if i.ready then (if k + 1 = serCountA c sp M then .done else .play sp M (k + 1)) else .play sp M k
  | .done, _ => .idle

def serSpecRunA (c : SerConfig) : SerSpecA → List SerIn → List SerOut
  | _, [] => []
  | q, x :: xs => serSpecOutA c q x :: serSpecRunA c (serSpecNextA c q x) xs

/-- Environment of the serializer WITHOUT a restriction on the requested start position. -/
def SerEnvA (c : SerConfig) : SerSpecA → SerIn → Prop
  | .idle, i => i.maxLength < 2 ^ c.mlw
  | .play sp M _, i => i.startPosition = sp ∧ serLimit c i = M
  | .done, _ => True

def SerEnvRunA (c : SerConfig) : SerSpecA → List SerIn → Prop
  | _, [] => True
  | q, x :: xs => SerEnvA c q x ∧ SerEnvRunA c (serSpecNextA c q x) xs

def SerRA (c : SerConfig) (σ : SerState) : SerSpecA → Prop
  | .idle => σ.fsm = .idle
  | .done => σ.fsm = .done
  | .play sp M k => σ.fsm = .streaming ∧ σ.pos = serEff c sp + k ∧ σ.bytesSent = k ∧ k < serCountA c sp M ∧
      M < 2 ^ serCountWidth c

theorem serEff_cases (c : SerConfig) (sp : Nat) :
    (sp < c.n ∧ serEff c sp = sp) ∨ (c.n ≤ sp ∧ serEff c sp = c.n - 1) := by
  unfold serEff
  by_cases h : sp ≥ c.n
  · exact Or.inr ⟨h, if_pos h⟩
  · exact Or.inl ⟨Nat.lt_of_not_le h, if_neg h⟩

/-- About variables (`hs` is `serEff_cases`, `hN` unfolds `serCountA`) so that `omega` decides it. -/
theorem ser_word (n s sp M N k : Nat) (hs : sp < n ∧ s = sp ∨ n ≤ sp ∧ s = n - 1) (hN : N = min M (n - s))
    (hk : k < N) :
    ((s + k = n - 1 ∨ M ≥ 1 ∧ k = M - 1) ↔ k + 1 = N) ∧ (s + k = sp ↔ k = 0 ∧ sp < n) ∧
    (k + 1 ≠ N → s + k + 1 < n ∧ k + 1 < M ∧ k + 1 < N) := by
  omega

theorem ser_step_simA (c : SerConfig) (hn : 1 ≤ c.n) (σ : SerState) (q : SerSpecA) (i : SerIn)
    (hR : SerRA c σ q) (hE : SerEnvA c q i) :
    (serStep c σ i).2 = serSpecOutA c q i ∧ SerRA c (serStep c σ i).1 (serSpecNextA c q i) := by
  obtain ⟨f, pos, bs⟩ := σ
  cases q with
  | idle =>
    have hf : f = .idle := hR
    subst hf
    have hml : i.maxLength < 2 ^ c.mlw := hE
    refine ⟨by simp [serStep, serSpecOutA], ?_⟩
    have hlim : (if c.mlw != 0 then i.maxLength else c.n) = serLimit c i := rfl
    have hes : (if i.startPosition ≥ c.n then c.n - 1 else i.startPosition) = serEff c i.startPosition := rfl
    by_cases hgo : i.start = true ∧ 0 < serLimit c i
    · have he := serEff_cases c i.startPosition
      simp only [serStep, hlim, hes, serSpecNextA, hgo, and_self, if_true, SerRA,
        decide_true, Bool.and_self, Nat.add_zero, true_and]
      refine ⟨?_, serLimit_lt c i hml⟩
      unfold serCountA; omega
    · have : (i.start && decide (serLimit c i > 0)) = false := by
        cases hst : i.start <;> simp_all
      simp only [serStep, hlim, serSpecNextA, hgo, this, if_false, SerRA, Bool.false_eq_true]
  | done =>
    have hf : f = .done := hR
    subst hf
    exact ⟨by simp [serStep, serSpecOutA], by simp [serStep, serSpecNextA, SerRA]⟩
  | play sp M k =>
    obtain ⟨hf, hp, hb, hk, hM⟩ := hR
    simp only at hf hp hb
    have hb' := hb.symm
    subst hf hp hb'
    obtain ⟨hsp, hlimM⟩ := hE
    have hlim : (if c.mlw != 0 then i.maxLength else c.n) = M := hlimM
    have hs := serEff_cases c sp
    have hN : serCountA c sp M = min M (c.n - serEff c sp) := rfl
    generalize hse : serEff c sp = s at *
    generalize hNe : serCountA c sp M = N at *
    obtain ⟨w1, w2, w3⟩ := ser_word c.n s sp M N k hs hN hk
    have hlast : ((s + k == c.n - 1) || (decide (M ≥ 1) && (k == M - 1))) = (k + 1 == N) := by
      rw [Bool.eq_iff_iff]
      simpa only [Bool.or_eq_true, Bool.and_eq_true, beq_iff_eq, decide_eq_true_eq] using w1
    have hfirst : (s + k == sp) = (k == 0 && decide (sp < c.n)) := by
      rw [Bool.eq_iff_iff]
      simpa only [Bool.and_eq_true, beq_iff_eq, decide_eq_true_eq] using w2
    constructor
    · simp only [serStep, hlim, hlast, serSpecOutA, hsp, hfirst, hse, hNe]
      rfl
    · by_cases hrd : i.ready = true
      · by_cases hl : k + 1 = N
        · simp only [serStep, hlim, hlast, serSpecNextA, hrd, hl, hNe, beq_self_eq_true, Bool.and_self,
            if_true, SerRA]
        · obtain ⟨g1, g2, g3⟩ := w3 hl
          have e2 : (s + k + 1) % 2 ^ rangeWidth c.n = s + (k + 1) :=
            Nat.mod_eq_of_lt (Nat.lt_of_lt_of_le g1 (le_two_pow_rangeWidth c.n))
          have e3 : (k + 1) % 2 ^ serCountWidth c = k + 1 := Nat.mod_eq_of_lt (Nat.lt_trans g2 hM)
          have hl' : (k + 1 == N) = false := beq_eq_false_iff_ne.mpr hl
          simp only [serStep, hlim, hlast, serSpecNextA, hrd, hl, hl', hse, hNe, Bool.not_false, Bool.and_true,
            Bool.and_false, Bool.false_eq_true, if_true, if_false, e2, e3, SerRA, true_and]
          exact ⟨g3, hM⟩
      · have hrd' : i.ready = false := by simpa using hrd
        simp only [serStep, serSpecNextA, hrd', Bool.false_and, Bool.false_eq_true, if_false, SerRA, hse, hNe, true_and]
        exact ⟨hk, hM⟩

theorem ser_run_simA (c : SerConfig) (hn : 1 ≤ c.n) (σ : SerState) (q : SerSpecA) (hR : SerRA c σ q)
    (hist : List SerIn) (hE : SerEnvRunA c q hist) : serRun c σ hist = serSpecRunA c q hist := by
  induction hist generalizing σ q with
  | nil => rfl
  | cons x xs ih =>
    obtain ⟨h1, h2⟩ := ser_step_simA c hn σ q x hR hE.1
    simp only [serRun, serSpecRunA]
    rw [h1, ih _ _ h2 hE.2]

/-- **serializer_emits_all_starts**: the serializer for every array length `n ≥ 1` and ANY value on the
`start_position` port, for the histories of `SerEnvRunA` (in idle cycles `max_length` fits its port; during an emission
BOTH `start_position` and the live length limit `serLimit` are held at their values of the request): with `e = sp` for `sp < n` and `e = n - 1` otherwise (the clamp), the ports are those of the
player of `data[e], data[e+1], …` (`min(max_length, n - e)` words), `last` on the final one, `first` on the first one
ONLY for `sp < n`, then one cycle of `done`.  For `sp ≥ n` that is the single word `data[n-1]` without `first` —
not the (empty) requested slice. -/
theorem serializer_emits_all_starts (c : SerConfig) (hn : 1 ≤ c.n) (hist : List SerIn)
    (hE : SerEnvRunA c .idle hist) : serRun c serInit hist = serSpecRunA c .idle hist :=
  ser_run_simA c hn _ _ (by simp [SerRA, serInit]) hist hE

/-- within the array the serializer's general player is the one of `serializer_emits_slice` -/
theorem ser_within_is_slice (c : SerConfig) (sp M k : Nat) (hs : sp < c.n) (i : SerIn) :
    serCountA c sp M = serCount c sp M ∧ serSpecOutA c (.play sp M k) i = serSpecOut c (.play sp M k) i := by
  have he : serEff c sp = sp := by simp [serEff]; omega
  have hc : serCountA c sp M = serCount c sp M := by simp [serCountA, serCount, he]
  exact ⟨hc, by simp [serSpecOutA, serSpecOut, he, hc, hs]; rfl⟩

/-- beyond the array: one word, the last element, never `first` -/
theorem ser_beyond_emits_last (c : SerConfig) (hn : 1 ≤ c.n) (sp M : Nat) (hs : c.n ≤ sp) (hM : 0 < M) (i : SerIn) :
    serCountA c sp M = 1 ∧ serCount c sp M = 0 ∧
    serSpecOutA c (.play sp M 0) i =
      ⟨true, (match i.data[c.n - 1]? with | some v => v | none => i.data.getLastD 0), false, true, false⟩ := by
  have he : serEff c sp = c.n - 1 := by simp [serEff, hs]
  have hc : serCountA c sp M = 1 := by simp [serCountA, he]; omega
  have hn' : ¬ sp < c.n := by omega
  exact ⟨hc, by simp [serCount]; omega, by simp [serSpecOutA, he, hc, hn']⟩

/-! ## Non-vacuity and the concrete shapes (17 bytes in 32-bit words: 5 words, 3-bit position, 5-bit port) -/

def c17 : Config := ⟨[1, 2, 3, 4, 5, 6, 7, 8, 9, 10, 11, 12, 13, 14, 15, 16, 17], 4, false, 8, 4⟩

-- within the data: the slice
example : xfersA c17 3 200 = [⟨0x100f0e0d, 0xF, true, false⟩, ⟨0x11, 0x1, false, true⟩] := by decide
-- beyond the last word, below the byte length, fits the position register: 3 zero words, then the whole constant
example : (xfersA c17 5 200).map (fun x => (x.payload, x.valid, x.first, x.last)) =
    [(0, 0xF, true, false), (0, 0xF, false, false), (0, 0xF, false, false), (0x04030201, 0xF, false, false),
     (0x08070605, 0xF, false, false), (0x0c0b0a09, 0xF, false, false), (0x100f0e0d, 0xF, false, false),
     (0x11, 0x1, false, true)] := by decide
-- ... limited to max_length, which counts the zero words too
example : (xfersA c17 6 10).map (fun x => (x.payload, x.valid, x.first, x.last)) =
    [(0, 0xF, true, false), (0, 0xF, false, false), (0x04030201, 0x3, false, true)] := by decide
-- truncated: 16 = 0b10000 -> 0: the constant from its beginning (here `max_length` = 6: its first six bytes), `first` never flagged
example : (xfersA c17 16 6).map (fun x => (x.payload, x.valid, x.first, x.last)) =
    [(0x04030201, 0xF, false, false), (0x08070605, 0x3, false, true)] := by decide
-- clamped (>= 17): the last word only, no `first`
example : xfersA c17 17 200 = [⟨0x11, 0x1, false, true⟩] ∧ xfersA c17 31 200 = [⟨0x11, 0x1, false, true⟩] := by decide
-- byte stream of 5 bytes, start_position 6 (3-bit port): the last byte, not the empty slice
example : (run ⟨[1, 2, 3, 4, 5], 1, false, 8, 1⟩ (init ⟨[1, 2, 3, 4, 5], 1, false, 8, 1⟩)
    [⟨true, 6, 3, false⟩, ⟨false, 6, 0, false⟩, ⟨false, 6, 0, true⟩, ⟨false, 6, 0, true⟩, ⟨false, 0, 0, true⟩]).map
      (fun o => (o.valid, o.payload, o.first, o.last, o.done)) =
    [(0, 0, false, false, false), (1, 5, false, true, false), (1, 5, false, true, false),
     (0, 0, false, false, true), (0, 0, false, false, false)] := by decide
example : EnvRunA ⟨[1, 2, 3, 4, 5], 1, false, 8, 1⟩ (.idle 0)
    [⟨true, 6, 3, false⟩, ⟨false, 6, 0, false⟩, ⟨false, 6, 0, true⟩, ⟨false, 6, 0, true⟩, ⟨false, 0, 0, true⟩] := by
  have h : nXfersA ⟨[1, 2, 3, 4, 5], 1, false, 8, 1⟩ 6 3 = 1 := by decide
  simp [EnvRunA, EnvA, specNextA, h]

-- serializer, n = 3 (2-bit port), start_position 3: data[2] only, `first` not flagged; the history satisfies SerEnvRunA
example : (serRun ⟨3, 4⟩ serInit
    [⟨true, 3, 2, false, [7, 8, 9]⟩, ⟨false, 3, 2, false, [7, 8, 9]⟩, ⟨false, 3, 2, true, [7, 8, 9]⟩,
     ⟨false, 3, 2, true, [7, 8, 9]⟩]).map (fun o => (o.valid, o.payload, o.first, o.last, o.done)) =
    [(false, 0, false, false, false), (true, 9, false, true, false), (true, 9, false, true, false),
     (false, 0, false, false, true)] := by decide
example : SerEnvRunA ⟨3, 4⟩ .idle
    [⟨true, 3, 2, false, [7, 8, 9]⟩, ⟨false, 3, 2, false, [7, 8, 9]⟩, ⟨false, 3, 2, true, [7, 8, 9]⟩,
     ⟨false, 3, 2, true, [7, 8, 9]⟩] := by
  simp [SerEnvRunA, SerEnvA, serSpecNextA, serLimit, serCountA, serEff]

end LunaVerif.StreamGen
