import LunaVerif.Props.C16
import LunaVerif.Lemmas.C16Host
import LunaVerif.Props.C13Stream
/-!
# C16 — `iso_out_whole_packets_only` over raw receive histories
-/
namespace LunaVerif.IsoStreamOut
open LunaVerif
open LunaVerif.StreamOutEndpoint (dec body marks Entry)

theorem entry_eq (b : Nat) (l f : Bool) : entry b l f = StreamOutEndpoint.entry b l f := rfl

def runState (c : Config) : State → List In → State
  | s, [] => s
  | s, i :: is => runState c (step c s i).1 is

def runOuts (c : Config) : State → List In → List Out
  | _, [] => []
  | s, i :: is => (step c s i).2 :: runOuts c (step c s i).1 is

/-- consumer-side transfers `(payload, first, last)` -/
def transfers (ins : List In) (outs : List Out) : List Entry :=
  (ins.zip outs).filterMap (fun (i, o) => if i.ready && o.valid then some (o.data, o.first, o.last) else none)

theorem transfers_nil : transfers [] [] = [] := rfl

theorem transfers_cons (i : In) (o : Out) (is : List In) (os : List Out) :
    transfers (i :: is) (o :: os)
      = (if i.ready && o.valid then [(o.data, o.first, o.last)] else []) ++ transfers is os := by
  simp only [transfers, List.zip_cons_cons, List.filterMap_cons]
  split <;> simp_all

theorem transfer_now {c : Config} {s : State} {q : TxnFifo.Queue Nat} (i : In) (hrel : TxnFifo.Rel c.depth s.fifo q) :
    transfers [i] [(step c s i).2] = (q.taken i.ready).map dec := by
  show transfers [i] [outOf s] = _
  rw [← TxnFifo.rel_taken hrel, transfers_cons]
  show (if i.ready && !TxnFifo.empty s.fifo then [dec s.fifo.rdata] else []) ++ [] = _
  cases (i.ready && !TxnFifo.empty s.fifo) <;> rfl

/-! ## The specification -/

/-- the first byte of a packet is presented to the glue logic in this cycle -/
def IPhase.firstNow : IPhase → Bool
  | .rx _ _ sent (some _) _ => sent.isEmpty
  | .finByte _ _ sent _ _ => sent.isEmpty
  | _ => false

/-- the packet completed in this cycle, as the consumer is to see it: every byte, `first` on the first and
`last` on the final one — if it is CRC-valid, addressed to the endpoint, and `max_packet_size` entries were
free when its first byte arrived (`fits`) -/
def IPhase.emit (c : Config) (fits : Bool) : IPhase → List Entry
  | .finStrobe ep io bytes ok => if ok && targets c ep io && fits then marks true true bytes else []
  | _ => []

/-- the whole packets a history delivers; `fits` is re-decided at every packet's first byte from
`space_available ≥ max_packet_size` -/
def isoExpected (c : Config) : IPhase → Bool → State → List In → List Entry
  | _, _, _, [] => []
  | p, fits, s, i :: is =>
    match p.step c i with
    | none => []
    | some p' =>
      p.emit c fits ++
        isoExpected c p' (if p.firstNow then decide (c.mps ≤ TxnFifo.space c.depth s.fifo) else fits) (step c s i).1 is

/-! ## The invariant -/

/-- what the running packet has left in the uncommitted part of the queue; until the packet's first byte has been
handled `packet_fits` is still the previous packet's, hence the guard on the room clause -/
def PktInv (c : Config) (s : State) (q : TxnFifo.Queue Nat) (ep : Nat) (io : Bool) (sent : List Nat) : Prop :=
  q.W = (if (targets c ep io && s.packetFits) = true then body true sent else []) ∧
  (sent ≠ [] → (targets c ep io && s.packetFits) = true → q.held + (c.mps - sent.length) ≤ c.depth)

structure IInv (c : Config) (p : IPhase) (s : State) (del acc : List Entry) : Prop where
  det : DetRel p s.det
  q   : ∃ q, TxnFifo.Rel c.depth s.fifo q ∧ del ++ q.C.map dec = acc ∧
    (match p with
     | .idle => q.W = []
     | .rx ep io sent now _ => sent.length + now.toList.length + 1 ≤ c.mps ∧ PktInv c s q ep io sent
     | .finByte ep io sent _ _ => sent.length + 1 ≤ c.mps ∧ PktInv c s q ep io sent
     | .finStrobe ep io bytes _ =>
        q.W.map dec = if (targets c ep io && s.packetFits) = true then marks true true bytes else [])

theorem iinv_init (c : Config) : IInv c .idle init [] [] :=
  ⟨detRel_init, TxnFifo.Queue.nil, TxnFifo.rel_init c.depth 0, rfl, rfl⟩

theorem fits_step {c : Config} {p : IPhase} {s : State} (i : In) (h : View p s.det.out) :
    (step c s i).1.packetFits =
      if p.firstNow then decide (c.mps ≤ TxnFifo.space c.depth s.fifo) else s.packetFits := by
  cases p with
  | idle => obtain ⟨hn, -⟩ := h; simp [step, hn, IPhase.firstNow]
  | rx ep io sent now buf =>
    obtain ⟨-, -, h⟩ := h
    cases now with
    | none => simp only at h; simp [step, h, IPhase.firstNow]
    | some x => obtain ⟨hn, hv, -, hf, -⟩ := h; simp [step, hn, hv, hf, IPhase.firstNow]
  | finByte ep io sent x ok => obtain ⟨-, -, hn, hv, -, hf, -⟩ := h; simp [step, hn, hv, hf, IPhase.firstNow]
  | finStrobe ep io bytes ok => obtain ⟨hn, -⟩ := h; simp [step, hn, IPhase.firstNow]

theorem del_step {c : Config} {s : State} {q : TxnFifo.Queue Nat} {del acc : List Entry} (i : In)
    (hrel : TxnFifo.Rel c.depth s.fifo q) (hdel : del ++ q.C.map dec = acc) (Cadd : List Nat) (C' : List Nat)
    (h : q.taken i.ready ++ C' = q.C ++ Cadd) :
    (del ++ transfers [i] [(step c s i).2]) ++ C'.map dec = acc ++ Cadd.map dec := by
  rw [transfer_now i hrel, List.append_assoc,
    ← List.map_append, h, List.map_append, ← List.append_assoc, hdel]

theorem hold_step {c : Config} {s : State} {q : TxnFifo.Queue Nat} {del acc : List Entry} (i : In)
    (hrel : TxnFifo.Rel c.depth s.fifo q) (hdel : del ++ q.C.map dec = acc)
    (hn : s.det.out.next = false) (hco : s.det.out.completeOut = false) (hio : s.det.out.invalidOut = false) :
    (del ++ transfers [i] [(step c s i).2]) ++ (q.step c.depth (fifoIn c s i)).C.map dec = acc ∧
    (q.step c.depth (fifoIn c s i)).W = q.W ∧ (q.step c.depth (fifoIn c s i)).held ≤ q.held := by
  have hw : (fifoIn c s i).wen = false := by simp [fifoIn, hn]
  have hc : (fifoIn c s i).wcommit = false := by simp [fifoIn, hco]
  have hd : (fifoIn c s i).wdiscard = false := by simp [fifoIn, hio]
  obtain ⟨h1, h2⟩ := q.step_apply c.depth (fifoIn c s i) rfl (by simp [hw])
  have h3 := TxnFifo.Queue.held_step_le c.depth q (fifoIn c s i)
  simp only [TxnFifo.Queue.commits, hw, hc, hd, Bool.false_and, Bool.false_eq_true, if_false, List.append_nil,
    show (fifoIn c s i).ren = i.ready from rfl, Nat.add_zero] at h1 h2 h3
  exact ⟨by simpa using del_step i hrel hdel [] _ (by simpa using h2), h1, h3⟩

/-- a cycle in which the detector presents byte `x` of a packet (`sent` = the bytes before it) -/
theorem byte_step {c : Config} {s : State} {q : TxnFifo.Queue Nat} {del acc : List Entry} (i : In)
    {ep : Nat} {io : Bool} {sent : List Nat} {x : Nat} {l : Bool}
    (hrel : TxnFifo.Rel c.depth s.fifo q) (hdel : del ++ q.C.map dec = acc)
    (hn : s.det.out.next = true) (hv : s.det.out.valid = true) (hpl : s.det.out.payload = x)
    (hf : s.det.out.first = sent.isEmpty) (hl : s.det.out.last = l)
    (hco : s.det.out.completeOut = false) (hio : s.det.out.invalidOut = false)
    (hst : stable ep io i = true) (hp : PktInv c s q ep io sent) (hb : sent.length + 1 ≤ c.mps) :
    (del ++ transfers [i] [(step c s i).2]) ++ (q.step c.depth (fifoIn c s i)).C.map dec = acc ∧
    (q.step c.depth (fifoIn c s i)).W =
      (if (targets c ep io && (step c s i).1.packetFits) = true
        then body true sent ++ [StreamOutEndpoint.entry x l (true && sent.isEmpty)] else []) ∧
    ((targets c ep io && (step c s i).1.packetFits) = true →
      (q.step c.depth (fifoIn c s i)).held + (c.mps - (sent.length + 1)) ≤ c.depth) := by
  obtain ⟨hep, hio'⟩ := stable_inv hst
  obtain ⟨hW, hR⟩ := hp
  have hspace := TxnFifo.rel_space hrel
  have hlen := hrel.hlen
  have hc : (fifoIn c s i).wcommit = false := by simp [fifoIn, hco]
  have hd : (fifoIn c s i).wdiscard = false := by simp [fifoIn, hio]
  have hF : (step c s i).1.packetFits = if sent.isEmpty then decide (c.mps ≤ c.depth - q.held) else s.packetFits := by
    simp [step, hn, hv, hf, hspace]
  have hwen : (fifoIn c s i).wen = (targets c ep io && (step c s i).1.packetFits) := by
    rw [hF]; simp [fifoIn, hn, hv, hf, targets, hep, hio', hspace]
  have hwd : (fifoIn c s i).wdata = StreamOutEndpoint.entry x l (true && sent.isEmpty) := by
    simp [fifoIn, hpl, hl, hf, entry_eq]
  -- `F`, what `packet_fits` holds after this cycle, is the accept decision for this byte: the first byte decides, the others inherit
  generalize (step c s i).1.packetFits = F at hF hwen ⊢
  have hroom : (targets c ep io && F) = true → q.held + (c.mps - sent.length) ≤ c.depth := by
    intro h
    cases hs : sent with
    | nil => simp_all; omega
    | cons b bs => exact hs ▸ hR (by simp [hs]) (by simp_all)
  obtain ⟨h1, h2⟩ := q.step_apply c.depth (fifoIn c s i) rfl (by rw [hwen]; intro h; have := hroom h; omega)
  have h3 := TxnFifo.Queue.held_step_le c.depth q (fifoIn c s i)
  simp only [TxnFifo.Queue.commits, hc, hd, hwen, hwd, Bool.false_and, Bool.false_eq_true, if_false, List.append_nil,
    show (fifoIn c s i).ren = i.ready from rfl] at h1 h2 h3
  have hW' : (q.step c.depth (fifoIn c s i)).W =
      (if (targets c ep io && F) = true then body true sent ++ [StreamOutEndpoint.entry x l (true && sent.isEmpty)] else []) := by
    rw [h1, hW]
    cases hs : sent with
    | nil => simp [body]
    | cons b bs => simp only [hs, List.isEmpty_cons, Bool.false_eq_true, if_false] at hF; rw [hF]; split <;> simp
  refine ⟨by simpa using del_step i hrel hdel [] _ (by simpa using h2), hW', fun h => ?_⟩
  have := hroom h
  simp only [h, if_true] at h3
  omega

theorem iinv_step {c : Config} {p p' : IPhase} {s : State} {del acc : List Entry} {i : In}
    (hmps : 1 ≤ c.mps) (h : IInv c p s del acc) (hs : p.step c i = some p') :
    IInv c p' (step c s i).1 (del ++ transfers [i] [(step c s i).2]) (acc ++ p.emit c s.packetFits) := by
  obtain ⟨hdet, q, hrel, hdel, hp⟩ := h
  have hview := hdet.1
  have hrel' := TxnFifo.rel_step hrel (iso_fifo_inputs_legal c s i (view_not_both hview))
  refine ⟨detRel_step hdet hs, q.step c.depth (fifoIn c s i), hrel', ?_⟩
  cases p with
  | idle =>
    obtain ⟨hn, hco, hio⟩ := hview
    obtain ⟨hd, hW, -⟩ := hold_step i hrel hdel hn hco hio
    rw [show q.W = [] from hp] at hW
    refine ⟨by simpa [IPhase.emit] using hd, ?_⟩
    rcases step_idle_inv hs with ⟨_, _, _, rfl⟩ | ⟨_, rfl⟩
    · exact ⟨by simpa using hmps, by simp [hW, body], nofun⟩
    · exact hW
  | rx ep io sent now buf =>
    obtain ⟨hco, hio, hvn⟩ := hview
    obtain ⟨hlb, hpk⟩ := hp
    obtain ⟨hst, h3⟩ := step_rx_inv hs
    simp only [IPhase.emit, List.append_nil]
    have key : (del ++ transfers [i] [(step c s i).2]) ++ (q.step c.depth (fifoIn c s i)).C.map dec = acc ∧
        PktInv c (step c s i).1 (q.step c.depth (fifoIn c s i)) ep io (sent ++ now.toList) := by
      cases now with
      | none =>
        have hpf : (step c s i).1.packetFits = s.packetFits := fits_step i hdet.1
        obtain ⟨hd, hW, hH⟩ := hold_step i hrel hdel hvn hco hio
        exact ⟨hd, by simpa [hW, hpf] using hpk.1, fun h1 h2 => by
          have := hpk.2 (by simpa using h1) (hpf ▸ h2); simp only [Option.toList, List.append_nil]; omega⟩
      | some x =>
        obtain ⟨hn, hv, hpl, hf, hl⟩ := hvn
        simp only [Option.toList, List.length_singleton] at hlb
        obtain ⟨hd, hW, hR⟩ := byte_step i hrel hdel hn hv hpl hf hl hco hio hst hpk (by omega)
        exact ⟨hd, by rw [hW, Option.toList, StreamOutEndpoint.body_snoc], fun _ h => by simpa using hR h⟩
    refine ⟨key.1, ?_⟩
    rcases h3 with ⟨_, _, hm, rfl⟩ | ⟨_, _, _, rfl⟩ | ⟨_, _, _, rfl⟩
    · exact ⟨by simpa using hm, key.2⟩
    · exact ⟨by simpa using hlb, key.2⟩
    · exact ⟨by simpa using hlb, key.2⟩
  | finByte ep io sent x ok =>
    obtain ⟨hco, hio, hn, hv, hpl, hf, hl⟩ := hview
    obtain ⟨hlb, hpk⟩ := hp
    obtain ⟨hst, _, rfl⟩ := step_finByte_inv hs
    obtain ⟨hd, hW, -⟩ := byte_step i hrel hdel hn hv hpl hf hl hco hio hst hpk hlb
    simp only [IPhase.emit, List.append_nil]
    refine ⟨hd, ?_⟩
    rw [hW]; split
    · exact StreamOutEndpoint.marks_body ..
    · rfl
  | finStrobe ep io bytes ok =>
    obtain ⟨hn, hco, hio⟩ := hview
    simp only at hp
    obtain ⟨hst, _, rfl⟩ := step_finStrobe_inv hs
    obtain ⟨hep, hio'⟩ := stable_inv hst
    have hw : (fifoIn c s i).wen = false := by simp [fifoIn, hn]
    obtain ⟨h1, h2⟩ := q.step_apply c.depth (fifoIn c s i) rfl (by simp [hw])
    have hc : (fifoIn c s i).wcommit = (targets c ep io && ok) := by simp [fifoIn, hco, targets, hep, hio']
    have hd : (fifoIn c s i).wdiscard = (targets c ep io && !ok) := by simp [fifoIn, hio, targets, hep, hio']
    simp only [TxnFifo.Queue.commits, hw, hc, hd, Bool.false_eq_true, if_false, List.append_nil,
      show (fifoIn c s i).ren = i.ready from rfl] at h1 h2
    simp only [IPhase.emit]
    -- a CRC-valid packet for the endpoint is committed: what the consumer gains is `W`; any other is discarded or left no `W`
    cases hT : targets c ep io <;> cases ok <;>
      simp only [hT, Bool.true_and, Bool.false_and, Bool.and_true, Bool.and_false, Bool.not_true, Bool.not_false,
        Bool.false_eq_true, if_true, if_false, List.map_eq_nil_iff] at h1 h2 hp ⊢
    · exact ⟨by simpa [hp] using del_step i hrel hdel [] _ (by simpa [hp] using h2), by simp [h1, hp]⟩
    · exact ⟨by simpa [hp] using del_step i hrel hdel [] _ (by simpa [hp] using h2), by simp [h1, hp]⟩
    · exact ⟨by simpa using del_step i hrel hdel [] _ (by simpa using h2), h1⟩
    · exact ⟨by simpa [hp] using del_step i hrel hdel q.W _ h2, h1⟩

theorem iinv_run {c : Config} (hmps : 1 ≤ c.mps) (ins : List In) :
    ∀ {p pf : IPhase} {s : State} {del acc : List Entry}, IInv c p s del acc →
      IPhase.run c p ins = some pf →
      IInv c pf (runState c s ins) (del ++ transfers ins (runOuts c s ins))
        (acc ++ isoExpected c p s.packetFits s ins) := by
  induction ins with
  | nil =>
    intro p pf s del acc h hr
    obtain rfl : p = pf := Option.some.inj hr
    simpa [runState, runOuts, transfers_nil, isoExpected] using h
  | cons i is ih =>
    intro p pf s del acc h hr
    simp only [IPhase.run] at hr
    cases hs : p.step c i with
    | none => simp [hs] at hr
    | some p' =>
      simp only [hs] at hr
      have hinv := ih (iinv_step hmps h hs) hr
      have ht : transfers (i :: is) (runOuts c s (i :: is))
          = transfers [i] [(step c s i).2] ++ transfers is (runOuts c (step c s i).1 is) := by
        simp only [runOuts, transfers_cons, transfers_nil, List.append_nil]
      rw [ht, ← List.append_assoc]
      simpa only [runState, isoExpected, hs, List.append_assoc, fits_step i h.det.1] using hinv

/-! ## The theorems -/

/-- **iso_out_whole_packets_only** (over raw receive histories).  For every endpoint number,
`max_packet_size ≥ 1`, buffer size and every `LegalRx` history — any packet sizes up to the maximum, wait
cycles, zero-length packets, CRC-corrupted packets, packets for other endpoints or non-OUT tokens, any
consumer `ready` pattern — the transfers handed to the consumer, followed by the committed entries still in
the FIFO (C18's queue relation), are exactly `isoExpected`: the concatenation, in order, of the *complete*
payloads (`first` on the first byte, `last` on the final byte) of those CRC-valid packets addressed to the
endpoint that found `max_packet_size` free entries at their first byte.  A packet is present as a whole or
absent as a whole. -/
theorem iso_out_whole_packets_only (c : Config) (hmps : 1 ≤ c.mps) (ins : List In) (hl : LegalRx c ins = true) :
    ∃ q : TxnFifo.Queue Nat, TxnFifo.Rel c.depth (runState c init ins).fifo q ∧
      transfers ins (runOuts c init ins) ++ q.C.map dec = isoExpected c .idle false init ins := by
  simp only [LegalRx] at hl
  cases hr : IPhase.run c .idle ins with
  | none => simp [hr] at hl
  | some pf =>
    obtain ⟨_, q, hrel, hdel, _⟩ := iinv_run hmps ins (iinv_init c) hr
    exact ⟨q, hrel, by simpa [show init.packetFits = false from rfl] using hdel⟩

theorem iso_out_prefix (c : Config) (hmps : 1 ≤ c.mps) (ins : List In) (hl : LegalRx c ins = true) :
    transfers ins (runOuts c init ins) <+: isoExpected c .idle false init ins := by
  obtain ⟨q, _, h⟩ := iso_out_whole_packets_only c hmps ins hl
  exact ⟨_, h⟩

/-- once `stream.valid` is low the consumer has received exactly the whole packets -/
theorem iso_out_complete_when_drained (c : Config) (hmps : 1 ≤ c.mps) (ins : List In) (hl : LegalRx c ins = true)
    (hd : TxnFifo.empty (runState c init ins).fifo = true) :
    transfers ins (runOuts c init ins) = isoExpected c .idle false init ins := by
  obtain ⟨q, hrel, h⟩ := iso_out_whole_packets_only c hmps ins hl
  rw [TxnFifo.rel_empty hrel] at hd
  have : q.C = [] := by simpa using hd
  simpa [this] using h

/-! ### Non-vacuity -/

def idleIn (ep : Nat) (io ready : Bool) : In := ⟨⟨false, false, 0, false, false⟩, ep, io, ready⟩

/-- one data packet as the receiver presents it (dense), `ok` = CRC valid, then three idle cycles -/
def packet (ep : Nat) (io ready : Bool) (payload : List Nat) (ok : Bool) : List In :=
  [idleIn ep io ready] ++
  payload.map (fun b => { idleIn ep io ready with rx := ⟨true, true, b, false, false⟩ }) ++
  [{ idleIn ep io ready with rx := ⟨true, false, 0, false, false⟩ },
   { idleIn ep io ready with rx := ⟨false, false, 0, ok, !ok⟩ }] ++ List.replicate 3 (idleIn ep io ready)

/-- mps 4, buffer 7, consumer stalled: the first packet is taken whole; the second (2 bytes) finds only 3 free
entries and is dropped whole; a corrupted packet, a packet for another endpoint and a zero-length packet
contribute nothing; after draining, a third packet is taken. -/
example :
    let c : Config := ⟨3, 4, 7⟩
    let ins := packet 3 true false [1, 2, 3, 4] true ++ packet 3 true false [5, 6] true ++
      packet 3 true false [7] false ++ packet 5 true false [8] true ++ packet 3 true false [] true ++
      List.replicate 6 (idleIn 3 true true) ++ packet 3 true true [9, 10] true ++ List.replicate 4 (idleIn 3 true true)
    LegalRx c ins = true ∧
    isoExpected c .idle false init ins
      = [(1, true, false), (2, false, false), (3, false, false), (4, false, true), (9, true, false), (10, false, true)] ∧
    transfers ins (runOuts c init ins) = isoExpected c .idle false init ins := by decide +kernel

end LunaVerif.IsoStreamOut
