import LunaVerif.Model.Usb2.IsoStreamOut
import LunaVerif.Props.C18
/-!
# C16 — Isochronous OUT endpoints deliver only whole, CRC-valid packets   (glue over the queue; end to end: `Props/C16Stream.lean`)

"The output stream consists of complete payloads of CRC-valid packets addressed to the endpoint, each
marked first on its first byte and last on its final byte, in order; when buffer space runs out a
packet is dropped as a whole rather than truncated, and corrupted packets contribute nothing."

The model (`Model/Usb2/IsoStreamOut.lean`) is the *repaired* endpoint (accept decision taken on the
first byte of a packet and latched); it is co-simulated cycle by cycle against the gateware.

Proved here, for every depth, max packet size, fill level and consumer behaviour.  The first item is about the model's
`fifoIn`; the second about C18's queue alone; the third about `glueRun`, a description of the glue over that queue written
in this file (`glueIn`, `glueFits`: the model's `fifoIn` / `packet_fits` for a targeted endpoint without completion
strobe, spelled again).  Nothing in the file ties `glueIn` / `glueFits` to `IsoStreamOut.fifoIn` / `step`; the end-to-end
theorem of `Props/C16Stream.lean` is proved on `step` directly and uses neither `glueRun` nor the second and third item:

* `iso_fifo_inputs_legal` — the glue always drives the FIFO inside C18's precondition (given that the boundary
  detector does not raise `complete_out` and `invalid_out` together);
* `queue_accepts_burst` — if `k` writes are requested while at least `k` entries are free at the start,
  none is refused, whatever the reader reads and finalises in between (`Plain`: no commit/discard on the write side, no
  read discard — the endpoint's glue never asserts one);
* `iso_out_whole_packets_only_partial` — the uncommitted part of the queue after the byte cycles of one
  packet (≤ max_packet_size bytes, any wait cycles, any consumer behaviour) is either *all* of the
  packet's entries, with their first/last marks (when `max_packet_size` entries were free at its first
  byte), or *nothing*: never a proper prefix.  (`glueRun` has no completion strobe; what the strobe then does to that
  part, and what the consumer is handed, is `iso_out_whole_packets_only` of `Props/C16Stream.lean`.)

Full statement — proved end to end over raw cycle-level receive histories in `Props/C16Stream.lean`
(`iso_out_whole_packets_only`, with `Lemmas/C16Host.lean` for the detector by phase and C18's `Rel`/`rel_step`
for the FIFO):
  `iso_out_whole_packets_only` : consumer transfers, followed by the committed entries still in the FIFO, =
  concatenation, in order, of the marked payloads of the CRC-valid packets addressed to the endpoint whose first
  byte found `max_packet_size` free entries.
-/
namespace LunaVerif.IsoStreamOut
open LunaVerif LunaVerif.TxnFifo

theorem iso_fifo_inputs_legal (c : Config) (s : State) (i : In)
    (hdet : ¬(s.det.out.completeOut = true ∧ s.det.out.invalidOut = true)) :
    Legal (fifoIn c s i) := by
  simp only [Legal, fifoIn]
  grind

/-! ## The queue never refuses a burst that fits -/

def Plain (i : TxnFifo.In α) : Prop := i.wcommit = false ∧ i.wdiscard = false ∧ i.rdiscard = false

def runQ (depth : Nat) : Queue α → List (TxnFifo.In α) → Queue α
  | q, [] => q
  | q, i :: is => runQ depth (q.step depth i) is

def writesOf (is : List (TxnFifo.In α)) : List α := (is.filter (·.wen)).map (·.wdata)

theorem plain_step (depth : Nat) (q : Queue α) (i : TxnFifo.In α) (hp : Plain i)
    (hroom : i.wen = true → q.held < depth) :
    (q.step depth i).W = q.W ++ (if i.wen then [i.wdata] else []) ∧
    (q.step depth i).held ≤ q.held + (if i.wen then 1 else 0) := by
  obtain ⟨h1, h2, -⟩ := hp
  refine ⟨?_, Queue.held_step_le depth q i⟩
  simp only [Queue.step_W, Queue.pushed_of_room depth q i hroom, h1, h2, Bool.false_eq_true, if_false]

theorem queue_accepts_burst (depth : Nat) (q : Queue α) (is : List (TxnFifo.In α))
    (hp : ∀ i ∈ is, Plain i) (hroom : q.held + (writesOf is).length ≤ depth) :
    (runQ depth q is).W = q.W ++ writesOf is ∧ (runQ depth q is).held ≤ q.held + (writesOf is).length := by
  induction is generalizing q with
  | nil => simp [runQ, writesOf]
  | cons i is ih =>
    have hpi := hp i (by simp)
    have hlen : (writesOf (i :: is)).length = (if i.wen then 1 else 0) + (writesOf is).length := by
      cases h : i.wen <;> simp [writesOf, h] <;> omega
    have hr : i.wen = true → q.held < depth := by
      intro h; rw [hlen, h] at hroom; simp at hroom; omega
    obtain ⟨hW, hH⟩ := plain_step depth q i hpi hr
    have := ih (q.step depth i) (fun j hj => hp j (by simp [hj])) (by rw [hlen] at hroom; omega)
    simp only [runQ]
    refine ⟨?_, ?_⟩
    · rw [this.1, hW]; cases h : i.wen <;> simp [writesOf, h]
    · rw [hlen]; omega

/-! ## The glue over the queue: one packet -/

/-- one cycle of a packet as the glue sees it: a byte of the processed stream (payload, first, last) or
a wait cycle, and what the consumer does -/
structure Cyc where
  byte  : Option (Nat × Bool × Bool)
  ready : Bool

/-- the glue over the queue, while the endpoint is targeted and no completion strobe is present: the model's `fifoIn`
(with `glueFits` for its `packet_fits`) written out again; no lemma relates the two -/
def glueIn (mps depth : Nat) (q : Queue Nat) (fits : Bool) (cy : Cyc) : TxnFifo.In Nat :=
  match cy.byte with
  | none => ⟨0, false, false, false, cy.ready, true, false⟩
  | some (p, f, l) =>
    let accept := if f then decide (mps ≤ depth - q.held) else fits
    ⟨entry p l f, accept, false, false, cy.ready, true, false⟩

def glueFits (mps depth : Nat) (q : Queue Nat) (fits : Bool) (cy : Cyc) : Bool :=
  match cy.byte with
  | some (_, true, _) => decide (mps ≤ depth - q.held)
  | _ => fits

def glueRun (mps depth : Nat) : Queue Nat × Bool → List Cyc → Queue Nat × Bool
  | s, [] => s
  | (q, fits), cy :: cs =>
    glueRun mps depth (q.step depth (glueIn mps depth q fits cy), glueFits mps depth q fits cy) cs

def entriesOf (cs : List Cyc) : List Nat :=
  cs.filterMap (fun cy => cy.byte.map (fun (p, f, l) => entry p l f))

def NoFirst (cs : List Cyc) : Prop := ∀ cy ∈ cs, ∀ p f l, cy.byte = some (p, f, l) → f = false

theorem glue_rest (mps depth : Nat) (q : Queue Nat) (fits : Bool) (cs : List Cyc) (hnf : NoFirst cs)
    (hroom : fits = true → q.held + (entriesOf cs).length ≤ depth) :
    (glueRun mps depth (q, fits) cs).1.W = q.W ++ (if fits then entriesOf cs else []) := by
  induction cs generalizing q with
  | nil => cases fits <;> simp [glueRun, entriesOf]
  | cons cy cs ih =>
    have hnf' : NoFirst cs := fun c hc => hnf c (by simp [hc])
    obtain ⟨byte, ready⟩ := cy
    cases byte with
    | none =>
      have hp : Plain (glueIn mps depth q fits ⟨none, ready⟩) := by simp [glueIn, Plain]
      obtain ⟨hW, hH⟩ := plain_step depth q _ hp (by simp [glueIn])
      have := ih (q.step depth (glueIn mps depth q fits ⟨none, ready⟩)) hnf'
        (by intro h; have := hroom h; simp [entriesOf, glueIn] at this hH ⊢; omega)
      simp only [glueRun, glueFits]
      rw [this, hW]; simp [glueIn, entriesOf]
    | some b =>
      obtain ⟨p, f, l⟩ := b
      have hf : f = false := hnf ⟨some (p, f, l), ready⟩ (by simp) p f l rfl
      subst hf
      have hp : Plain (glueIn mps depth q fits ⟨some (p, false, l), ready⟩) := by simp [glueIn, Plain]
      have hlen : (entriesOf (⟨some (p, false, l), ready⟩ :: cs)).length = 1 + (entriesOf cs).length := by
        simp [entriesOf]; omega
      obtain ⟨hW, hH⟩ := plain_step depth q _ hp
        (by intro h; simp [glueIn] at h; have := hroom h; rw [hlen] at this; omega)
      have hw : (glueIn mps depth q fits ⟨some (p, false, l), ready⟩).wen = fits := by simp [glueIn]
      have := ih (q.step depth (glueIn mps depth q fits ⟨some (p, false, l), ready⟩)) hnf'
        (by intro h; subst h; have := hroom rfl; rw [hlen] at this; rw [hw] at hH; simp at hH; omega)
      simp only [glueRun, glueFits]
      rw [this, hW]
      cases fits <;> simp [glueIn, entriesOf]

/-- **C16 (partial)**: a packet is written as a whole or not at all.  From any queue state with at most `depth`
entries, for the cycles of one packet starting at its first byte (marked first), with at most `mps` bytes, any wait
cycles and any consumer behaviour: the uncommitted part grows by *all* entries of the packet if `mps` entries were
free at the first byte, and by *nothing* otherwise. -/
theorem iso_out_whole_packets_only_partial (mps depth : Nat) (q : Queue Nat) (fits0 : Bool)
    (p : Nat) (l ready : Bool) (rest : List Cyc) (hq : q.held ≤ depth) (hnf : NoFirst rest)
    (hsize : 1 + (entriesOf rest).length ≤ mps) :
    (glueRun mps depth (q, fits0) (⟨some (p, true, l), ready⟩ :: rest)).1.W
      = q.W ++ (if mps ≤ depth - q.held then entriesOf (⟨some (p, true, l), ready⟩ :: rest) else []) := by
  have hp : Plain (glueIn mps depth q fits0 ⟨some (p, true, l), ready⟩) := by simp [glueIn, Plain]
  obtain ⟨hW, hH⟩ := plain_step depth q _ hp (by intro h; simp [glueIn] at h; omega)
  have hw : (glueIn mps depth q fits0 ⟨some (p, true, l), ready⟩).wen = decide (mps ≤ depth - q.held) := by
    simp [glueIn]
  simp only [glueRun, glueFits]
  rw [glue_rest mps depth _ _ rest hnf
    (by intro h; simp at h; rw [hw] at hH; simp [h] at hH; omega), hW]
  by_cases h : mps ≤ depth - q.held <;> simp [glueIn, entriesOf, h]

/-- Non-vacuity / the F9 witness on the repaired glue: depth 8, mps 4, five entries resident, so 3 free (the 2-byte
packet would fit, but the rule asks for `mps = 4` free entries at the first byte) → the packet is dropped whole; with four
free entries it is written whole. -/
example : (glueRun 4 8 (⟨[], [1, 2, 3, 4, 9], []⟩, false)
    [⟨some (5, true, false), false⟩, ⟨none, true⟩, ⟨some (6, false, true), false⟩]).1.W = [] := by decide
example : (glueRun 4 8 (⟨[], [1, 2, 3, 4], []⟩, false)
    [⟨some (5, true, false), false⟩, ⟨none, false⟩, ⟨some (6, false, true), false⟩]).1.W
      = [entry 5 false true, entry 6 true false] := by decide

end LunaVerif.IsoStreamOut
