import LunaVerif.Model.Usb3.SSSetupDecoder
/-!
# C48 — SuperSpeed control requests are decoded and answered exactly

"The SuperSpeed setup decoder reports a request iff a good data packet with the setup flag carries
exactly eight bytes, with fields equal to those bytes; GET_DESCRIPTOR answers with the first
min(wLength, length) bytes of the requested descriptor and the matching length field, and unknown
descriptors are STALLed."

Part 1 (setup decoder; part 2, the descriptor data, is Props/C48Desc.lean, part 3, that the response finishes and
its framing, Props/C48Live.lean).  The *specification* is a reference tracker `Spec` that simply collects the
payload bytes of the packet in flight (with the setup flag seen at its first word and whether its
last word has been seen) and, at the packet's verdict strobe, reports the bytes iff the verdict is
good, the flag was set, the packet ended and it carried exactly eight bytes.  The theorems say that
for every cycle history that is a well-formed word stream (`envOK`), the decoder's `received`
strobes and output fields are exactly the tracker's reports, little-endian decoded.
-/
namespace LunaVerif.SSSetup

/-- number of bytes selected by a byte-prefix valid mask -/
def cnt (m : Nat) : Nat :=
  if m = 15 then 4 else if m = 7 then 3 else if m = 3 then 2 else if m = 1 then 1 else 0

/-- the first `k` bytes of a little-endian 32-bit word -/
def wordBytes (data k : Nat) : List Nat :=
  [data % 256, data / 256 % 256, data / 65536 % 256, data / 16777216 % 256].take k

/-- Reference tracker: the packet in flight. -/
structure Spec where
  inPkt : Bool          -- a packet has started and has not yet received its verdict
  flag  : Bool          -- header setup flag at its first word
  bytes : List Nat      -- payload bytes so far
  ended : Bool          -- its last word has been seen
deriving Repr

def Spec.init : Spec := ⟨false, false, [], false⟩

/-- One cycle of the tracker; the report (if any) is the list of payload bytes. -/
def specStep (q : Spec) (i : In) : Spec × Option (List Nat) :=
  if i.valid ≠ 0 then
    if q.inPkt then
      ({ q with bytes := q.bytes ++ wordBytes i.data (cnt i.valid), ended := i.last }, none)
    else (⟨true, i.setup, wordBytes i.data (cnt i.valid), i.last⟩, none)
  else if (i.good || i.bad) && q.inPkt then
    (Spec.init,
      if i.good && q.flag && q.ended && q.bytes.length == 8 then some q.bytes else none)
  else (q, none)

/-- Environment: what a well-formed word stream looks like in one cycle, given the packet in
flight.  Only word cycles are constrained: no verdict strobe in a word cycle; every word but the
last has all four bytes valid, a partial word is a byte prefix; `first` exactly on the first word of
a packet; no word after the last one until the verdict. -/
def envOK (q : Spec) (i : In) : Bool :=
  if i.valid ≠ 0 then
    !i.good && !i.bad &&
    (i.valid == 15 || ((i.valid == 1 || i.valid == 3 || i.valid == 7) && i.last)) &&
    (if q.inPkt then !i.first && !q.ended else i.first)
  else true

def envRun : Spec → List In → Bool
  | _, [] => true
  | q, i :: h => envOK q i && envRun (specStep q i).1 h

def specReports : Spec → List In → List (Option (List Nat))
  | _, [] => []
  | q, i :: h => (specStep q i).2 :: specReports (specStep q i).1 h

/-- Little-endian decoding of eight setup bytes into the request fields (USB 2.0 §9.3). -/
def decode (b : List Nat) : Fields :=
  { recipient := b.getD 0 0 % 32
    type      := b.getD 0 0 / 32 % 4
    isIn      := b.getD 0 0 / 128 % 2
    request   := b.getD 1 0
    value     := b.getD 2 0 + 256 * b.getD 3 0
    index     := b.getD 4 0 + 256 * b.getD 5 0
    length    := b.getD 6 0 + 256 * b.getD 7 0 }

/-- What the decoder shows on its (registered) outputs in the cycle after an input. -/
def report (s : State) : Option Fields :=
  if (out s).received then some (out s).fields else none

def modelReports : State → List In → List (Option Fields)
  | _, [] => []
  | s, i :: h => report (next s i) :: modelReports (next s i) h

/-- What the decoder's state says of the packet in flight, state by state: WAIT_FOR_FIRST goes with no packet or with one
the decoder ignores (no setup flag, a short first word, more than eight bytes); PARSE_SECOND holds the first word of a
flagged packet of 4..7 bytes; WAIT_FOR_VALID holds both words of a flagged, ended packet of eight bytes. -/
def R (q : Spec) (s : State) : Prop :=
  (q.inPkt = true → 1 ≤ q.bytes.length ∧ (q.ended = false → q.bytes.length % 4 = 0)) ∧
  match s.fsm with
  | .waitFirst => q.inPkt = true → q.flag = true →
      q.bytes.length < 4 ∨ 8 < q.bytes.length ∨ (q.bytes.length = 8 ∧ q.ended = false)
  | .parseSecond => q.inPkt = true ∧ q.flag = true ∧ 4 ≤ q.bytes.length ∧ q.bytes.length < 8 ∧
      q.bytes.take 4 = wordBytes s.w0 4
  | .waitValid => q.inPkt = true ∧ q.flag = true ∧ q.ended = true ∧ q.bytes = wordBytes s.w0 4 ++ wordBytes s.w1 4

theorem R_init : R Spec.init init := ⟨nofun, nofun⟩

theorem wordBytes_length (d k : Nat) (hk : k ≤ 4) : (wordBytes d k).length = k := by
  simp [wordBytes]; omega

theorem decode_words (a b : Nat) : fieldsOf a b = decode (wordBytes a 4 ++ wordBytes b 4) := by
  simp only [fieldsOf, decode, wordBytes, List.take, List.cons_append, List.nil_append,
    List.getD_cons_zero, List.getD_cons_succ, Fields.mk.injEq]
  refine ⟨?_, ?_, ?_, ?_, ?_, ?_, ?_⟩
  all_goals (first | trivial | omega)

theorem cnt_cases (v : Nat) (l : Bool)
    (h : (v == 15 || ((v == 1 || v == 3 || v == 7) && l)) = true) :
    (v = 15 ∧ cnt v = 4) ∨ (v ≠ 15 ∧ 1 ≤ cnt v ∧ cnt v < 4 ∧ l = true) := by
  simp at h
  rcases h with h | ⟨(h | h) | h, hl⟩ <;> subst h <;> simp [cnt, *]

/-- A cycle without a word: a verdict strobe ends the packet in flight, reported iff the decoder holds both words of a
good, flagged, ended packet of eight bytes; otherwise neither side moves.  No assumption on the environment is needed. -/
theorem sim_quiet (q : Spec) (s : State) (i : In) (hR : R q s) (hv : i.valid = 0) :
    R (specStep q i).1 (next s i) ∧ report (next s i) = ((specStep q i).2).map decode := by
  obtain ⟨hq, hs⟩ := hR
  obtain ⟨fsm, w0, w1, o0, o1, rc⟩ := s
  have hav : (i.valid == 15) = false := by simp [hv]
  simp only [specStep, hv, ne_eq, not_true_eq_false, if_false]
  cases fsm <;> simp only at hs
  · -- WAIT_FOR_FIRST: nothing stored, nothing reported
    have hnx : next ⟨.waitFirst, w0, w1, o0, o1, rc⟩ i = ⟨.waitFirst, w0, w1, o0, o1, false⟩ := by simp [next, hav]
    rw [hnx]
    split
    · rename_i hgb
      simp only [Bool.and_eq_true] at hgb
      have hno : (i.good && q.flag && q.ended && q.bytes.length == 8) = false := by
        cases hfl : q.flag
        · simp
        · rcases hs hgb.2 hfl with h | h | ⟨_, h⟩
          · have : (q.bytes.length == 8) = false := by simp; omega
            simp [this]
          · have : (q.bytes.length == 8) = false := by simp; omega
            simp [this]
          · simp [h]
      rw [hno]
      exact ⟨⟨nofun, nofun⟩, rfl⟩
    · exact ⟨⟨hq, hs⟩, rfl⟩
  · -- PARSE_SECOND: leave on either strobe (the repair), nothing reported
    obtain ⟨hin, hfl, h4, h8, hw0⟩ := hs
    simp only [hin, Bool.and_true]
    cases hgb : (i.good || i.bad)
    · have hgb' : (i.bad || i.good) = false := by rw [Bool.or_comm]; exact hgb
      have hnx : next ⟨.parseSecond, w0, w1, o0, o1, rc⟩ i = ⟨.parseSecond, w0, w1, o0, o1, false⟩ := by
        simp [next, hav, hgb']
      rw [hnx]
      exact ⟨⟨hq, hin, hfl, h4, h8, hw0⟩, rfl⟩
    · have hgb' : (i.bad || i.good) = true := by rw [Bool.or_comm]; exact hgb
      have hnx : next ⟨.parseSecond, w0, w1, o0, o1, rc⟩ i = ⟨.waitFirst, w0, w1, o0, o1, false⟩ := by
        simp [next, hav, hgb']
      have : (q.bytes.length == 8) = false := by simp; omega
      rw [hnx]
      simp only [if_true, this, Bool.and_false]
      exact ⟨⟨nofun, nofun⟩, rfl⟩
  · -- WAIT_FOR_VALID: report iff good
    obtain ⟨hin, hfl, hend, hb⟩ := hs
    have hl8 : q.bytes.length = 8 := by rw [hb]; simp [wordBytes]
    simp only [hin, Bool.and_true, hfl, hend, hl8, beq_self_eq_true]
    cases hg : i.good
    · cases hbad : i.bad
      · have hnx : next ⟨.waitValid, w0, w1, o0, o1, rc⟩ i = ⟨.waitValid, w0, w1, o0, o1, false⟩ := by
          simp [next, hg, hbad]
        rw [hnx]
        exact ⟨⟨hq, hin, hfl, hend, hb⟩, rfl⟩
      · have hnx : next ⟨.waitValid, w0, w1, o0, o1, rc⟩ i = ⟨.waitFirst, w0, w1, o0, o1, false⟩ := by
          simp [next, hg, hbad]
        rw [hnx]
        exact ⟨⟨nofun, nofun⟩, rfl⟩
    · have hnx : next ⟨.waitValid, w0, w1, o0, o1, rc⟩ i = ⟨.waitFirst, w0, w1, w0, w1, true⟩ := by
        cases i.bad <;> simp [next, hg]
      rw [hnx]
      refine ⟨⟨nofun, nofun⟩, ?_⟩
      simp only [Bool.true_or, if_true, Option.map_some, hb, ← decode_words]
      rfl

/-- A word of a well-formed stream: the first word of a packet is captured iff it is full and carries the setup flag; a
second word takes a flagged four-byte packet to WAIT_FOR_VALID (full and last), keeps it in PARSE_SECOND (partial, hence
last) or drops it (full, not last); every other word leaves an ignored packet ignored.  Nothing is reported. -/
theorem sim_word (q : Spec) (s : State) (i : In) (hR : R q s) (hv : i.valid ≠ 0) (he : envOK q i = true) :
    R (specStep q i).1 (next s i) ∧ report (next s i) = ((specStep q i).2).map decode := by
  obtain ⟨hq, hs⟩ := hR
  obtain ⟨fsm, w0, w1, o0, o1, rc⟩ := s
  simp only [envOK, ne_eq, hv, not_false_eq_true, if_true, Bool.and_eq_true, Bool.not_eq_true'] at he
  obtain ⟨⟨⟨hg, hb⟩, hmask⟩, hfl⟩ := he
  have hc := cnt_cases i.valid i.last hmask
  have hlen : (wordBytes i.data (cnt i.valid)).length = cnt i.valid :=
    wordBytes_length _ _ (by rcases hc with ⟨_, h⟩ | ⟨_, _, h, _⟩ <;> omega)
  have hgb : (i.bad || i.good) = false := by simp [hg, hb]
  simp only [specStep, ne_eq, hv, not_false_eq_true, if_true]
  cases hin : q.inPkt
  · -- the first word of a packet: the decoder is in WAIT_FOR_FIRST and takes a full first word with the setup flag
    simp only [hin, Bool.false_eq_true, if_false] at hfl ⊢
    cases fsm <;> simp only [hin, Bool.false_eq_true, false_and] at hs
    by_cases htake : i.valid = 15 ∧ i.setup = true
    · have hnx : next ⟨.waitFirst, w0, w1, o0, o1, rc⟩ i = ⟨.parseSecond, i.data, w1, o0, o1, false⟩ := by
        simp [next, htake.1, htake.2, hfl]
      have h4 : cnt i.valid = 4 := by rcases hc with ⟨_, h⟩ | ⟨h, _⟩; exact h; exact absurd htake.1 h
      rw [hnx]
      refine ⟨⟨fun _ => ⟨by simp only [hlen]; omega, fun _ => by simp only [hlen]; omega⟩, rfl, htake.2, ?_, ?_, ?_⟩, rfl⟩
      · simp only [hlen]; omega
      · simp only [hlen]; omega
      · simp only [h4]; simp [wordBytes]
    · have hnx : next ⟨.waitFirst, w0, w1, o0, o1, rc⟩ i = ⟨.waitFirst, w0, w1, o0, o1, false⟩ := by
        have : (i.valid == 15 && i.first && i.setup) = false := by cases hs' : i.setup <;> simp_all
        simp [next, this]
      rw [hnx]
      refine ⟨⟨fun _ => ⟨by simp only [hlen]; rcases hc with ⟨_, h⟩ | ⟨_, h, _⟩ <;> omega, fun hl => ?_⟩,
        fun _ hset => ?_⟩, rfl⟩
      · simp only [hlen] at hl ⊢
        rcases hc with ⟨_, h4⟩ | ⟨_, _, _, hl'⟩
        · omega
        · rw [hl'] at hl; cases hl
      · simp only [hlen]
        rcases hc with ⟨h15, _⟩ | ⟨_, _, h4, _⟩
        · exact absurd ⟨h15, hset⟩ htake
        · exact Or.inl h4
  · -- a further word of the packet in flight
    simp only [hin, if_true, Bool.and_eq_true, Bool.not_eq_true'] at hfl ⊢
    obtain ⟨hnf, hne⟩ := hfl
    obtain ⟨hpos, hmod⟩ := hq hin
    have hm4 := hmod hne
    have hq' : (true = true → 1 ≤ (q.bytes ++ wordBytes i.data (cnt i.valid)).length ∧
        (i.last = false → (q.bytes ++ wordBytes i.data (cnt i.valid)).length % 4 = 0)) := by
      intro _
      simp only [List.length_append, hlen]
      refine ⟨by omega, fun hl => ?_⟩
      rcases hc with ⟨_, h4⟩ | ⟨_, _, _, hl'⟩
      · omega
      · rw [hl'] at hl; cases hl
    cases fsm <;> simp only [hin] at hs
    · -- the packet is being ignored: it stays ignored (its length, a multiple of four, is 8 or more or it has no flag)
      have hnx : next ⟨.waitFirst, w0, w1, o0, o1, rc⟩ i = ⟨.waitFirst, w0, w1, o0, o1, false⟩ := by
        simp [next, hnf]
      rw [hnx]
      refine ⟨⟨hq', fun _ hset => ?_⟩, rfl⟩
      simp only [List.length_append, hlen]
      have := hs trivial hset
      rcases hc with ⟨_, h4⟩ | ⟨_, h1, _, _⟩ <;> omega
    · -- second word
      obtain ⟨_, hset, h4, h8, hw0⟩ := hs
      have hl : q.bytes.length = 4 := by omega
      have ht : (q.bytes ++ wordBytes i.data (cnt i.valid)).take 4 = wordBytes w0 4 := by
        rw [List.take_append_of_le_length (by omega)]; exact hw0
      rcases hc with ⟨h15, hc4⟩ | ⟨hn15, hc1, hc4, hlast⟩
      · cases hlast : i.last
        · -- a full word that is not the last: not a setup packet
          have hnx : next ⟨.parseSecond, w0, w1, o0, o1, rc⟩ i = ⟨.waitFirst, w0, w1, o0, o1, false⟩ := by
            simp [next, h15, hlast, hgb]
          rw [hnx]
          refine ⟨⟨hlast ▸ hq', fun _ _ => ?_⟩, rfl⟩
          simp only [List.length_append, hlen]
          exact Or.inr (Or.inr ⟨by omega, trivial⟩)
        · have hnx : next ⟨.parseSecond, w0, w1, o0, o1, rc⟩ i = ⟨.waitValid, w0, i.data, o0, o1, false⟩ := by
            simp [next, h15, hlast, hgb]
          rw [hnx]
          refine ⟨⟨hlast ▸ hq', rfl, hset, rfl, ?_⟩, rfl⟩
          show q.bytes ++ wordBytes i.data (cnt i.valid) = wordBytes w0 4 ++ wordBytes i.data 4
          rw [hc4, ← hw0, List.take_of_length_le (Nat.le_of_eq hl)]
      · have hne15 : (i.valid == 15) = false := by simp [hn15]
        have hnx : next ⟨.parseSecond, w0, w1, o0, o1, rc⟩ i = ⟨.parseSecond, w0, w1, o0, o1, false⟩ := by
          simp [next, hne15, hgb]
        rw [hnx]
        refine ⟨⟨hq', rfl, hset, ?_, ?_, ht⟩, rfl⟩ <;> simp only [List.length_append, hlen] <;> omega
    · -- the packet has ended: the environment sends no further word
      rw [hs.2.2.1] at hne; cases hne

theorem step_sim (q : Spec) (s : State) (i : In) (hR : R q s) (he : envOK q i = true) :
    R (specStep q i).1 (next s i) ∧ report (next s i) = ((specStep q i).2).map decode := by
  by_cases hv : i.valid = 0
  · exact sim_quiet q s i hR hv
  · exact sim_word q s i hR hv he

theorem run_sim (q : Spec) (s : State) (h : List In) (hR : R q s) (he : envRun q h = true) :
    modelReports s h = (specReports q h).map (Option.map decode) := by
  induction h generalizing q s with
  | nil => rfl
  | cons i h ih =>
    simp only [envRun, Bool.and_eq_true] at he
    obtain ⟨hs, hrep⟩ := step_sim q s i hR he.1
    simp only [modelReports, specReports, List.map_cons]
    rw [hrep, ih _ _ hs he.2]

/-- **C48 (setup, fields)**: for every well-formed history from reset, in every cycle the decoder's
registered outputs show a request exactly when the tracker reports one, and the fields are the
little-endian decoding of that packet's eight payload bytes. -/
theorem ss_setup_fields_exact (h : List In) (he : envRun Spec.init h = true) :
    modelReports init h = (specReports Spec.init h).map (Option.map decode) :=
  run_sim _ _ h R_init he

/-- **C48 (setup, iff)**: `received` is strobed in the cycle after an input iff that input is a good
verdict for a packet that had the setup flag, has ended, and carried exactly eight bytes. -/
theorem ss_setup_reported_iff (h : List In) (he : envRun Spec.init h = true) :
    (modelReports init h).map Option.isSome = (specReports Spec.init h).map Option.isSome := by
  rw [ss_setup_fields_exact h he, List.map_map]
  congr 1; funext o; cases o <;> rfl

/-- the tracker reports only good, flagged, ended packets of exactly eight bytes (spec sanity) -/
theorem spec_report_iff (q : Spec) (i : In) (b : List Nat) :
    (specStep q i).2 = some b ↔
      (i.valid = 0 ∧ i.good = true ∧ q.inPkt = true ∧ q.flag = true ∧ q.ended = true
        ∧ q.bytes.length = 8 ∧ b = q.bytes) := by
  unfold specStep
  by_cases hv : i.valid = 0
  · by_cases hs : ((i.good || i.bad) && q.inPkt) = true
    · simp only [hv, ne_eq, not_true_eq_false, if_false, hs, if_true]
      by_cases hc : (i.good && q.flag && q.ended && q.bytes.length == 8) = true
      · simp only [hc, if_true]; simp at hc hs
        constructor
        · intro h; cases h; simp_all
        · intro h; simp_all
      · simp only [hc]; simp at hc hs
        constructor
        · intro h; cases h
        · intro h; simp_all
    · simp only [hv, ne_eq, not_true_eq_false, if_false, hs]
      simp at hs
      constructor
      · intro h; cases h
      · intro h; simp_all
  · simp only [ne_eq, hv, not_false_eq_true, if_true]
    split <;> simp

/- Non-vacuity: an 8-byte good SETUP (GET_DESCRIPTOR device, wLength 18) after a 4-byte setup packet (the
history on which the unrepaired gateware loses the request), followed by a bad one. -/
def demo : List In :=
  [ ⟨15, true, true, 0x11223344, false, false, true⟩, ⟨0, false, false, 0, true, false, true⟩,
    ⟨15, true, false, 0x01000680, false, false, true⟩, ⟨0, false, false, 7, false, false, true⟩,
    ⟨15, false, true, 0x00120000, false, false, true⟩, ⟨0, false, true, 0, true, false, true⟩,
    ⟨15, true, false, 0x01000680, false, false, true⟩, ⟨15, false, true, 0x00120000, false, false, true⟩,
    ⟨0, false, false, 0, false, true, true⟩, ⟨0, false, false, 0, false, false, false⟩ ]

example : envRun Spec.init demo = true := by decide +kernel
example : modelReports init demo =
    [none, none, none, none, none, some ⟨0, 0, 1, 6, 0x0100, 0, 18⟩, none, none, none, none] := by decide +kernel

end LunaVerif.SSSetup
