import LunaVerif.Props.C25RxUsbDriftErr
import LunaVerif.Props.C25RxUsb
/-!
# C25 (receive direction, end to end) — a bit-stuffing violation is reported while the packet is in progress

`stuff_error_seen_by_usb`: same environment as `rx_delivers_to_usb` (every `usb` clock phase, every sampling phase, any
idle state incl. FIFO pointers), a packet whose bit stream after SYNC is `pre ++ 1111111 ++ post` for arbitrary bit lists
`pre`, `post` (correctly stuffed or not): at one of the `usb` clock edges at which `o_pkt_in_progress` (= `rx_active`) is
high, `o_receive_error` (= `rx_error`) is high.  Nominal rate is four clean samples in every bit cell
(`rx_drift_nominal`, `trackable_nominal`): an instance of `stuff_error_seen_by_usb_drift`.
-/
namespace LunaVerif.FsRxCdc
open LunaVerif.FsRx LunaVerif.FsCodec

/-- **a bit-stuffing violation is reported while the packet is in progress**: for a packet whose bit stream after SYNC
contains seven consecutive 1s anywhere, the 12 MHz side sees `o_receive_error` high at one of its clock edges at which
`o_pkt_in_progress` is high (same environment as `rx_delivers_to_usb`). -/
theorem stuff_error_seen_by_usb (φ c0 : Nat) (hφ : φ < 4) (hc0 : c0 < 4) (pre post : List Bool)
    (c : Nat) (e : Bool) (hc : c ≤ 6) (pp pf : Nat) (hpp : pp < 8) (hpf : pf < 8) (memp memf : List Nat)
    (hmp : memp.length = 4) (hmf : memf.length = 4) (k m : Nat) :
    EvU.err ∈ evsU (runCdc φ (idleCdc c e pp memp pf memf c0) (rxInput k
      ((nrzi true (syncBits ++ (pre ++ List.replicate 7 true ++ post))).map lvl ++ [.SE0, .SE0, .J]) (m + 4))).2 := by
  have hW : (nrzi true (syncBits ++ (pre ++ List.replicate 7 true ++ post))).map lvl ++ [Sym.SE0, .SE0, .J] =
      ((nrzi true (syncBits ++ (pre ++ List.replicate 7 true ++ post))).map lvl ++ [.SE0, .SE0]) ++ [.J] := by simp
  rw [hW, ← rx_drift_nominal]
  exact stuff_error_seen_by_usb_drift φ c0 hφ hc0 pre post _ m (map_nominal_fst _)
    (trackable_nominal _ (by simp) (m + 4)) c e hc pp pf hpp hpf memp memf hmp hmf k

end LunaVerif.FsRxCdc
