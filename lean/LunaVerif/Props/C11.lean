import LunaVerif.Model.Usb2.InTransferManager
/-!
# C11 — Bulk/interrupt IN endpoints deliver the stream exactly once, in order

"For any input byte stream with transfer boundaries and flush requests, any timing of IN tokens and
any pattern of lost or missing host ACKs, the data the host accepts (taking each DATA0/DATA1-toggled
packet once) is exactly the input stream in order. Packets never exceed the max packet size, every
transfer ends with a short packet or a zero-length packet, a retried packet repeats the same PID and
payload, and an IN token finding no data is NAKed."

This file holds the structural invariant and the packet-level statements, for all `mps ≥ 1` and
unbounded histories:

* `inv_reachable` — the structural invariant `Inv` (buffer memories keep their size, both fill
  counts stay ≤ mps, the read buffer is empty in WAIT_FOR_DATA, and in SEND_PACKET the byte on the
  packet stream is `read_buffer[send_position]` with `send_position < read_fill_count`: the
  registered-read latency is covered by the pre-fetch of byte 0) for every history without `discard`;
* `packet_len_le_mps`, `nak_when_no_packet`, `retry_repeats_pid_and_payload` (one step and whole
  un-ACKed segments), `pid_flips_only_with_new_packet`;
* `send_packet_streams_buffer` — a whole SEND_PACKET phase hands over exactly
  `read_buffer[send_position ..]`.

The two history-level statements of the property are proved on top of these, by ghost-state induction,
in separate modules (all audited by the C11 check):

* `Lemmas/C11Host.lean` — specification: the observer of the interface trace (host view with DATA0/DATA1
  de-duplication, producer log), the abstraction map `pending`, the boundary checker `endsOk`, the
  environments `LegalInEnv` / `LegalZlpEnv`;
* `Lemmas/C11Refine.lean` — `in_exactly_once`:
  `hostAccepted tr ++ pending (state) (host toggle) = producerAccepted tr` at every cycle of every history
  with `discard = reset_sequence = 0`;
* `Lemmas/C11Ends.lean` — `transfer_ends_short_or_zlp` (additionally `generate_zlps = 1`);
  `Lemmas/C11EndsSpec.lean` — the checker's verdict unfolded into ∀-statements.
-/
namespace LunaVerif.InXfer

structure Inv (c : Config) (s : State) : Prop where
  wlen  : s.w.mem.length = c.mps
  rlen  : s.r.mem.length = c.mps
  wfill : s.w.fill ≤ c.mps
  rfill : s.r.fill ≤ c.mps
  idle  : s.fsm = .waitData → s.r.fill = 0
  send  : s.fsm = .sendPacket → s.sendPos < s.r.fill ∧ s.r.mem[s.sendPos]? = some s.r.rdata

/-! ## `step` as one equation per FSM state

The step lemmas here and in `C11Refine` / `C11Ends` rewrite with the arm's equation and follow its `if`s. -/

theorem step_waitData {c : Config} {s : State} (i : In) (h : s.fsm = .waitData) :
    step c s i =
      (if packetReady c s i then
        { s with fsm := .waitSend, toggle := !s.toggle, pid := if i.resetSeq then i.startData1 else !s.pid,
                 w := { rNext c s i with ended := false }, r := wNext c s i }
       else { s with pid := if i.resetSeq then !i.startData1 else s.pid, w := wNext c s i, r := rNext c s i },
       ⟨inReady c s, false, s.first, false, s.r.rdata, s.pid, inTok i, s.toggle⟩) := by
  simp only [step, h]
  split <;> rfl

theorem step_waitSend {c : Config} {s : State} (i : In) (h : s.fsm = .waitSend) :
    step c s i =
      (if i.discard then
        { s with pid := !s.pid, w := wNext c s i, r := rNext c s i, sendPos := 0, fsm := .waitData }
       else if i.resetSeq then { s with pid := i.startData1, w := wNext c s i, r := rNext c s i, sendPos := 0 }
       else if inTok i then
        if s.r.fill != 0 then
          { s with w := wNext c s i, r := rNext c s i, sendPos := 0, fsm := .sendPacket, first := true }
        else { s with w := wNext c s i, r := { rNext c s i with ended := false }, sendPos := 0, fsm := .waitAck }
       else { s with w := wNext c s i, r := rNext c s i, sendPos := 0 },
       let zlp := !i.discard && !i.resetSeq && inTok i && s.r.fill == 0
       ⟨inReady c s, zlp, s.first, zlp, s.r.rdata, s.pid, false, s.toggle⟩) := by
  simp only [step, h]
  repeat' split
  all_goals simp_all

theorem step_sendPacket {c : Config} {s : State} (i : In) (h : s.fsm = .sendPacket) :
    step c s i =
      (if i.txReady then
        { s with pid := if i.resetSeq then !i.startData1 else s.pid, w := wNext c s i, r := rNext c s i,
                 sendPos := (s.sendPos + 1) % 2 ^ bitsFor c.mps, first := false,
                 fsm := if s.sendPos + 1 == s.r.fill then .waitAck else .sendPacket }
       else { s with pid := if i.resetSeq then !i.startData1 else s.pid, w := wNext c s i, r := rNext c s i },
       ⟨inReady c s, true, s.first, s.sendPos + 1 == s.r.fill, s.r.rdata, s.pid, false, s.toggle⟩) := by
  simp only [step, h]
  split <;> rfl

/-- WAIT_FOR_ACK before the `new_token` override. -/
def ackNext (c : Config) (s : State) (i : In) : State :=
  let base : State :=
    { s with pid := if i.resetSeq then !i.startData1 else s.pid, w := wNext c s i, r := rNext c s i }
  if i.discard then { base with fsm := .waitData }
  else if ackTaken i then
    if i.genZlps && s.r.fill == c.mps && s.r.ended then
      { base with r := { rNext c s i with fill := 0 }, pid := !s.pid, fsm := .waitSend }
    else if !inReady c s || packetReady c s i then
      { base with fsm := .waitSend, toggle := !s.toggle, pid := !s.pid,
                  w := { rNext c s i with fill := 0, ended := false }, r := wNext c s i }
    else { base with r := { rNext c s i with fill := 0 }, fsm := .waitData }
  else base

theorem step_waitAck {c : Config} {s : State} (i : In) (h : s.fsm = .waitAck) :
    step c s i =
      (if i.newToken && !i.discard then { ackNext c s i with fsm := .waitSend } else ackNext c s i,
       ⟨inReady c s, false, s.first, false, s.r.rdata, s.pid, false, s.toggle⟩) := by
  simp only [step, h, ackNext]

/-! ## The structural invariant `Inv` is kept by every cycle without `discard` -/

def BufOk (c : Config) (b : Buf) : Prop := b.mem.length = c.mps ∧ b.fill ≤ c.mps

theorem Inv.wok {c : Config} {s : State} (h : Inv c s) : BufOk c s.w := ⟨h.wlen, h.wfill⟩
theorem Inv.rok {c : Config} {s : State} (h : Inv c s) : BufOk c s.r := ⟨h.rlen, h.rfill⟩

theorem Inv.of {c : Config} {s : State} (hw : BufOk c s.w) (hr : BufOk c s.r)
    (idle : s.fsm = .waitData → s.r.fill = 0)
    (send : s.fsm = .sendPacket → s.sendPos < s.r.fill ∧ s.r.mem[s.sendPos]? = some s.r.rdata) : Inv c s :=
  ⟨hw.1, hr.1, hw.2, hr.2, idle, send⟩

theorem BufOk.clear {c : Config} {b : Buf} (h : BufOk c b) : BufOk c { b with fill := 0 } :=
  ⟨h.1, Nat.zero_le _⟩

theorem le_pow_clog2 (n : Nat) : n ≤ 2 ^ clog2 n := by
  unfold clog2
  split
  · omega
  · have := @Nat.lt_log2_self (n - 1)
    omega

theorem readMem_eq (c : Config) (mem : List Nat) (a : Nat) (hl : mem.length = c.mps) (ha : a < c.mps) :
    mem[a]? = some (readMem c mem a) := by
  have h2 := le_pow_clog2 c.mps
  unfold readMem
  rw [Nat.mod_eq_of_lt (by omega)]
  simp [List.getD, List.getElem?_eq_getElem (by omega : a < mem.length)]

/-- `send_position` (`Signal(range(mps + 1))`) does not wrap below `mps`. -/
theorem succ_mod_bitsFor {n mps : Nat} (h : n < mps) : (n + 1) % 2 ^ bitsFor mps = n + 1 := by
  have := @Nat.lt_log2_self mps
  unfold bitsFor
  exact Nat.mod_eq_of_lt (by omega)

theorem inv_init (c : Config) : Inv c (init c) := by
  constructor <;> simp [init, emptyBuf]

theorem wNext_len (c : Config) (s : State) (i : In) : (wNext c s i).mem.length = s.w.mem.length := by
  unfold wNext; simp only; split <;> simp

theorem wNext_fill_le (c : Config) (s : State) (i : In) (h : s.w.fill ≤ c.mps) :
    (wNext c s i).fill ≤ c.mps := by
  unfold wNext; simp only
  split
  · omega
  · split
    · rename_i hw
      simp [wen, inReady] at hw
      omega
    · exact h

theorem wNext_ok {c : Config} {s : State} (i : In) (h : BufOk c s.w) : BufOk c (wNext c s i) :=
  ⟨(wNext_len c s i).trans h.1, wNext_fill_le c s i h.2⟩

theorem rNext_mem (c : Config) (s : State) (i : In) : (rNext c s i).mem = s.r.mem := rfl
theorem rNext_fill (c : Config) (s : State) (i : In) (hd : i.discard = false) :
    (rNext c s i).fill = s.r.fill := by simp [rNext, hd]

theorem rNext_fill_le (c : Config) (s : State) (i : In) : (rNext c s i).fill ≤ s.r.fill := by
  unfold rNext; simp only; split <;> omega

theorem rNext_ok {c : Config} {s : State} (i : In) (h : BufOk c s.r) : BufOk c (rNext c s i) :=
  ⟨h.1, Nat.le_trans (rNext_fill_le c s i) h.2⟩

/-- The `send` clause of `Inv` for the next state: the read port was addressed by what becomes `send_position`,
so its data register holds that byte. -/
theorem rNext_send {c : Config} {s : State} (i : In) (hd : i.discard = false) (h : BufOk c s.r) {p : Nat}
    (ha : rAddr s i = p) (hp : p < s.r.fill) :
    p < (rNext c s i).fill ∧ (rNext c s i).mem[p]? = some (rNext c s i).rdata := by
  subst ha
  exact ⟨(rNext_fill c s i hd).symm ▸ hp, readMem_eq c s.r.mem _ h.1 (Nat.lt_of_lt_of_le hp h.2)⟩

theorem inv_step_waitData {c : Config} {s : State} (i : In) (h : Inv c s) (hfs : s.fsm = .waitData) :
    Inv c (step c s i).1 := by
  have hw := wNext_ok i h.wok
  have hr := rNext_ok i h.rok
  rw [step_waitData i hfs]
  dsimp only
  split
  · exact Inv.of hr hw nofun nofun
  · exact Inv.of hw hr (fun _ => Nat.le_zero.mp (h.idle hfs ▸ rNext_fill_le c s i))
      (fun hf => absurd (hfs.symm.trans hf) nofun)

/-- The pre-fetch: WAIT_TO_SEND reads address 0 throughout, so SEND_PACKET starts on byte 0. -/
theorem inv_step_waitSend {c : Config} {s : State} (i : In) (hd : i.discard = false) (h : Inv c s)
    (hfs : s.fsm = .waitSend) : Inv c (step c s i).1 := by
  have hw := wNext_ok i h.wok
  have hr := rNext_ok i h.rok
  have hstay : ∀ pid, Inv c { s with pid := pid, w := wNext c s i, r := rNext c s i, sendPos := 0 } := fun _ =>
    Inv.of hw hr (fun hf => absurd (hfs.symm.trans hf) nofun) (fun hf => absurd (hfs.symm.trans hf) nofun)
  rw [step_waitSend i hfs]
  simp only [hd, Bool.false_eq_true, if_false]
  split
  · exact hstay _
  · split
    · split
      · rename_i hne
        exact Inv.of hw hr nofun fun _ =>
          rNext_send i hd h.rok (by simp only [rAddr, hfs]) (Nat.pos_of_ne_zero (by simpa using hne))
      · exact Inv.of hw hr nofun nofun
    · exact hstay _

theorem inv_step_sendPacket {c : Config} {s : State} (i : In) (hd : i.discard = false) (h : Inv c s)
    (hfs : s.fsm = .sendPacket) : Inv c (step c s i).1 := by
  have hw := wNext_ok i h.wok
  have hr := rNext_ok i h.rok
  obtain ⟨hlt, -⟩ := h.send hfs
  have hrf := h.rfill
  rw [step_sendPacket i hfs, succ_mod_bitsFor (Nat.lt_of_lt_of_le hlt hrf)]
  dsimp only
  split
  · rename_i hrdy
    by_cases hl : s.sendPos + 1 = s.r.fill
    · exact Inv.of hw hr (by simp [hl]) (by simp [hl])
    · exact Inv.of hw hr (by simp [hl]) fun _ =>
        rNext_send (p := s.sendPos + 1) i hd h.rok (by simp only [rAddr, hfs, hrdy, if_true]) (by omega)
  · rename_i hrdy
    exact Inv.of hw hr (fun hf => absurd (hfs.symm.trans hf) nofun) fun _ =>
      rNext_send i hd h.rok (by simp only [rAddr, hfs, hrdy, Bool.false_eq_true, if_false]) hlt

theorem inv_ackNext {c : Config} {s : State} (i : In) (hd : i.discard = false) (h : Inv c s)
    (hfs : s.fsm = .waitAck) : Inv c (ackNext c s i) ∧ (ackNext c s i).fsm ≠ .sendPacket := by
  have hw := wNext_ok i h.wok
  have hr := rNext_ok i h.rok
  simp only [ackNext, hd, Bool.false_eq_true, if_false]
  split
  · split
    · exact ⟨Inv.of hw hr.clear nofun nofun, nofun⟩
    · split
      · exact ⟨Inv.of hr.clear hw nofun nofun, nofun⟩
      · exact ⟨Inv.of hw hr.clear (fun _ => rfl) nofun, nofun⟩
  · exact ⟨Inv.of hw hr (fun hf => absurd (hfs.symm.trans hf) nofun) (fun hf => absurd (hfs.symm.trans hf) nofun),
      fun hf => absurd (hfs.symm.trans hf) nofun⟩

theorem Inv.to_waitSend {c : Config} {s : State} (h : Inv c s) : Inv c { s with fsm := .waitSend } :=
  ⟨h.wlen, h.rlen, h.wfill, h.rfill, nofun, nofun⟩

theorem inv_step (c : Config) (s : State) (i : In) (hd : i.discard = false)
    (h : Inv c s) : Inv c (step c s i).1 := by
  cases hfs : s.fsm with
  | waitData => exact inv_step_waitData i h hfs
  | waitSend => exact inv_step_waitSend i hd h hfs
  | sendPacket => exact inv_step_sendPacket i hd h hfs
  | waitAck =>
    rw [step_waitAck i hfs]
    dsimp only
    split
    · exact (inv_ackNext i hd h hfs).1.to_waitSend
    · exact (inv_ackNext i hd h hfs).1

def NoDiscard (ins : List In) : Prop := ∀ i ∈ ins, i.discard = false

theorem inv_reachable (c : Config) (ins : List In) (hnd : NoDiscard ins) (s : State) (h : Inv c s) :
    Inv c (runState c s ins) := by
  induction ins generalizing s with
  | nil => exact h
  | cons i is ih =>
    exact ih (fun j hj => hnd j (by simp [hj])) _ (inv_step c s i (hnd i (by simp)) h)

/-! ## The packet-level statements -/

/-- **Packets never exceed the max packet size.**  In every reachable state of a history without
`discard`, while a packet is on the stream the number of bytes already handed over
(`send_position`) is below the packet's length `read_fill_count ≤ mps`, and `last` is raised exactly
on byte number `read_fill_count`; a ZLP (the only other `valid` cycle) carries no byte. -/
theorem packet_len_le_mps (c : Config) (ins : List In) (hnd : NoDiscard ins) (i : In) :
    let s := runState c (init c) ins
    ((step c s i).2.valid = true →
      (s.fsm = .sendPacket ∧ s.sendPos + 1 ≤ s.r.fill ∧ s.r.fill ≤ c.mps ∧
        ((step c s i).2.last = true ↔ s.sendPos + 1 = s.r.fill)) ∨
      (s.fsm = .waitSend ∧ s.r.fill = 0 ∧ (step c s i).2.last = true)) := by
  intro s hv
  have hinv : Inv c s := inv_reachable c ins hnd _ (inv_init c)
  cases hfs : s.fsm with
  | waitData => rw [step_waitData i hfs] at hv; exact absurd hv nofun
  | waitSend =>
    rw [step_waitSend i hfs] at hv ⊢
    have hf : (s.r.fill == 0) = true := (Bool.and_eq_true _ _ ▸ hv).2
    exact Or.inr ⟨rfl, beq_iff_eq.mp hf, hv⟩
  | sendPacket =>
    rw [step_sendPacket i hfs]
    exact Or.inl ⟨rfl, (hinv.send hfs).1, hinv.rfill, beq_iff_eq⟩
  | waitAck => rw [step_waitAck i hfs] at hv; exact absurd hv nofun

/-- **An IN token finding no data is NAKed.**  `handshakes_out.nak` is raised exactly for an IN token
that arrives in WAIT_FOR_DATA; no data is offered in that cycle; and (invariant) in WAIT_FOR_DATA no
packet is staged: the read buffer is empty. -/
theorem nak_when_no_packet (c : Config) (ins : List In) (hnd : NoDiscard ins) (i : In) :
    let s := runState c (init c) ins
    (step c s i).2.nak = (decide (s.fsm = .waitData) && inTok i) ∧
    ((step c s i).2.nak = true → (step c s i).2.valid = false) ∧
    (s.fsm = .waitData → s.r.fill = 0) := by
  intro s
  have hinv : Inv c s := inv_reachable c ins hnd _ (inv_init c)
  refine ⟨?_, ?_, hinv.idle⟩ <;> cases hfs : s.fsm
  · rw [step_waitData i hfs]; rfl
  · rw [step_waitSend i hfs]; rfl
  · rw [step_sendPacket i hfs]; rfl
  · rw [step_waitAck i hfs]; rfl
  · rw [step_waitData i hfs]; exact fun _ => rfl
  · rw [step_waitSend i hfs]; exact nofun
  · rw [step_sendPacket i hfs]; exact nofun
  · rw [step_waitAck i hfs]; exact nofun

/-- One cycle, any state holding a packet: unless the packet is acknowledged (`ack & active & is_in`
in WAIT_FOR_ACK), discarded, or the PID sequence is reset, the read buffer (contents and length), the
PID and the buffer roles are unchanged and the FSM does not fall back to WAIT_FOR_DATA — whatever the
producer, `flush`, tokens and stray handshakes do. -/
theorem read_buffer_frozen (c : Config) (s : State) (i : In)
    (hd : i.discard = false) (hr : i.resetSeq = false) (hst : s.fsm ≠ .waitData)
    (hack : ¬ (s.fsm = .waitAck ∧ ackTaken i = true)) :
    (step c s i).1.r.mem = s.r.mem ∧ (step c s i).1.r.fill = s.r.fill ∧
    (step c s i).1.pid = s.pid ∧ (step c s i).1.toggle = s.toggle ∧
    (step c s i).1.fsm ≠ .waitData := by
  have hf := rNext_fill c s i hd
  cases hfs : s.fsm with
  | waitData => exact absurd hfs hst
  | waitSend =>
    rw [step_waitSend i hfs]
    simp only [hd, hr, Bool.false_eq_true, if_false]
    split
    · split
      · exact ⟨rfl, hf, rfl, rfl, nofun⟩
      · exact ⟨rfl, hf, rfl, rfl, nofun⟩
    · exact ⟨rfl, hf, rfl, rfl, hst⟩
  | sendPacket =>
    rw [step_sendPacket i hfs]
    simp only [hr, Bool.false_eq_true, if_false]
    split
    · exact ⟨rfl, hf, rfl, rfl, by dsimp only; split <;> exact nofun⟩
    · exact ⟨rfl, hf, rfl, rfl, hst⟩
  | waitAck =>
    have ha : ackTaken i = false := Bool.eq_false_iff.mpr fun h => hack ⟨hfs, h⟩
    rw [step_waitAck i hfs]
    simp only [ackNext, hd, hr, ha, Bool.false_eq_true, if_false]
    split
    · exact ⟨rfl, hf, rfl, rfl, nofun⟩
    · exact ⟨rfl, hf, rfl, rfl, hst⟩

/-- A run segment in which the staged packet is never acknowledged, discarded or reset. -/
def Unacked (c : Config) : State → List In → Prop
  | _, [] => True
  | s, i :: is =>
    i.discard = false ∧ i.resetSeq = false ∧ ¬ (s.fsm = .waitAck ∧ ackTaken i = true) ∧
    Unacked c (step c s i).1 is

/-- **A retried packet repeats the same PID and payload.**  From any state holding a packet, over
any number of cycles in which it is not acknowledged (lost ACK, time-out, new tokens, repeated IN
requests, concurrent filling of the other buffer, flush …), the packet's bytes, its length and its
PID stay what they were — every retransmission reads the same buffer under the same PID
(`send_packet_streams_buffer` says the transmission is that buffer). -/
theorem retry_repeats_pid_and_payload (c : Config) (s : State) (ins : List In)
    (hst : s.fsm ≠ .waitData) (hu : Unacked c s ins) :
    (runState c s ins).r.mem = s.r.mem ∧ (runState c s ins).r.fill = s.r.fill ∧
    (runState c s ins).pid = s.pid ∧ (runState c s ins).fsm ≠ .waitData := by
  induction ins generalizing s with
  | nil => exact ⟨rfl, rfl, rfl, hst⟩
  | cons i is ih =>
    obtain ⟨hd, hr, ha, hrest⟩ := hu
    obtain ⟨h1, h2, h3, _, h5⟩ := read_buffer_frozen c s i hd hr hst ha
    obtain ⟨g1, g2, g3, g4⟩ := ih (step c s i).1 h5 hrest
    exact ⟨g1.trans h1, g2.trans h2, g3.trans h3, g4⟩

/-- In a cycle without `discard` and without `reset_sequence` the PID changes only when a new packet is staged: a
packet becoming ready in WAIT_FOR_DATA, or an accepted ACK in WAIT_FOR_ACK (next buffer or the follow-up ZLP).
(`discard` in WAIT_TO_SEND flips it back, `reset_sequence` loads it in every state.) -/
theorem pid_flips_only_with_new_packet (c : Config) (s : State) (i : In)
    (hd : i.discard = false) (hr : i.resetSeq = false) (hp : (step c s i).1.pid ≠ s.pid) :
    (s.fsm = .waitData ∧ packetReady c s i = true) ∨ (s.fsm = .waitAck ∧ ackTaken i = true) := by
  by_cases h1 : s.fsm = .waitData
  · cases h2 : packetReady c s i
    · rw [step_waitData i h1] at hp
      simp only [h2, hr, Bool.false_eq_true, if_false] at hp
      exact absurd rfl hp
    · exact Or.inl ⟨h1, rfl⟩
  · by_cases h3 : s.fsm = .waitAck ∧ ackTaken i = true
    · exact Or.inr h3
    · exact absurd (read_buffer_frozen c s i hd hr h1 h3).2.2.1 hp

/-- Bytes handed over (`valid & ready`) while the FSM stays in SEND_PACKET, and the state in which
that phase ends (or the history runs out). -/
def sendPhase (c : Config) : State → List In → List Nat × State
  | s, [] => ([], s)
  | s, i :: is =>
    if s.fsm = .sendPacket then
      ((if i.txReady then [(step c s i).2.payload] else []) ++ (sendPhase c (step c s i).1 is).1,
       (sendPhase c (step c s i).1 is).2)
    else ([], s)

def remaining (s : State) : List Nat :=
  if s.fsm = .sendPacket then (s.r.mem.take s.r.fill).drop s.sendPos else []

theorem drop_take_cons (mem : List Nat) (fill pos v : Nat) (h1 : pos < fill) (h2 : fill ≤ mem.length)
    (hv : mem[pos]? = some v) :
    (mem.take fill).drop pos = v :: (mem.take fill).drop (pos + 1) := by
  have hlen : pos < (mem.take fill).length := by simp; omega
  rw [List.drop_eq_getElem_cons hlen]
  congr 1
  rw [List.getElem_take]
  have := List.getElem?_eq_getElem (l := mem) (i := pos) (by omega)
  rw [this] at hv
  exact Option.some.inj hv

theorem remaining_step {c : Config} {s : State} (i : In) (hd : i.discard = false) (h : Inv c s)
    (hfs : s.fsm = .sendPacket) :
    (if i.txReady then [(step c s i).2.payload] else []) ++ remaining (step c s i).1 = remaining s ∧
    ((step c s i).1.fsm ≠ .sendPacket → (step c s i).1.fsm = .waitAck) := by
  obtain ⟨hlt, hrd⟩ := h.send hfs
  have hcons := drop_take_cons s.r.mem s.r.fill s.sendPos s.r.rdata hlt (h.rlen ▸ h.rfill) hrd
  have hf := rNext_fill c s i hd
  rw [step_sendPacket i hfs]
  cases hrdy : i.txReady
  · exact ⟨by simp [remaining, hfs, rNext_mem, hf], fun hne => absurd hfs hne⟩
  · rw [succ_mod_bitsFor (Nat.lt_of_lt_of_le hlt h.rfill)]
    by_cases hl : s.sendPos + 1 = s.r.fill
    · have : (s.r.mem.take s.r.fill).drop (s.sendPos + 1) = [] :=
        List.drop_eq_nil_of_le (by simp; omega)
      simp only [beq_iff_eq, hl, if_true]
      exact ⟨by simp [remaining, hfs, hcons, this], fun _ => trivial⟩
    · simp only [beq_iff_eq, hl, if_false]
      exact ⟨by simp [remaining, hfs, hcons, rNext_mem, hf], fun hne => absurd rfl hne⟩

/-- **The transmission is the buffer.**  From any invariant state in SEND_PACKET, for every `ready`
schedule (and whatever else happens on the other ports, `discard` excepted), the bytes handed over
until the phase ends, followed by what is still to be sent, are exactly
`read_buffer[send_position .. read_fill_count)`; when the phase has ended the FSM is in WAIT_FOR_ACK
and nothing remains.  SEND_PACKET is entered from WAIT_TO_SEND with `send_position = 0` (`step_waitSend`); a
transmission from there is `read_buffer[0 .. read_fill_count)`. -/
theorem send_packet_streams_buffer (c : Config) (s : State) (ins : List In) (hnd : NoDiscard ins)
    (h : Inv c s) (hfs : s.fsm = .sendPacket) :
    (sendPhase c s ins).1 ++ remaining (sendPhase c s ins).2 = remaining s ∧
    ((sendPhase c s ins).2.fsm ≠ .sendPacket → (sendPhase c s ins).2.fsm = .waitAck) := by
  induction ins generalizing s with
  | nil => simp [sendPhase, hfs]
  | cons i is ih =>
    have hd := hnd i (by simp)
    obtain ⟨hrem, hend⟩ := remaining_step i hd h hfs
    simp only [sendPhase, hfs, if_true]
    by_cases hs' : (step c s i).1.fsm = .sendPacket
    · obtain ⟨ih1, ih2⟩ := ih (step c s i).1 (fun j hj => hnd j (by simp [hj])) (inv_step c s i hd h) hs'
      exact ⟨by rw [List.append_assoc, ih1, hrem], ih2⟩
    · have hph : sendPhase c (step c s i).1 is = ([], (step c s i).1) := by
        cases is <;> simp [sendPhase, hs']
      rw [hph]
      exact ⟨by simpa using hrem, fun _ => hend hs'⟩

/-! ## Non-vacuity: mps = 2; bytes 5,6 fill a packet; IN token; the ACK is lost; retry; ACK -/

def exI (rfr nt ack v : Bool) (p : Nat) (rdy : Bool) : In :=
  ⟨true, true, rfr, nt, ack, v, p, false, false, false, true, false, false, rdy⟩

def exHist : List In :=
  [exI false false false true 5 true, exI false false false true 6 true,   -- producer: 5, 6
   exI false true false false 0 true, exI true false false false 0 true,   -- IN token
   exI false false false false 0 true, exI false false false false 0 true, -- bytes go out
   exI false true false false 0 true, exI true false false false 0 true,   -- no ACK: token again
   exI false false false false 0 true, exI false false false false 0 true, -- same bytes, same PID
   exI false false true false 0 true, exI true false false false 0 true]   -- ACK; next IN is NAKed

example : NoDiscard exHist := by unfold NoDiscard; decide
example : (trace ⟨2⟩ (init ⟨2⟩) exHist).map
      (fun io => (io.2.valid, if io.2.valid then io.2.payload else 0, io.2.pid, io.2.nak)) =
    [(false, 0, true, false), (false, 0, true, false), (false, 0, false, false), (false, 0, false, false),
     (true, 5, false, false), (true, 6, false, false), (false, 0, false, false), (false, 0, false, false),
     (true, 5, false, false), (true, 6, false, false), (false, 0, false, false), (false, 0, false, true)] := by
  decide

end LunaVerif.InXfer
