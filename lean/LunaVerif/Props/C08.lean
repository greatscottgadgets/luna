import LunaVerif.Lemmas.DeviceSteps
/-!
# C08 — Address and configuration change only when their request completes

"SET_ADDRESS and SET_CONFIGURATION take effect exactly once, only after the host has acknowledged the
status stage of that same request, with the value carried in the request (address = low 7 bits of wValue);
until then the device keeps responding at its old address. A bus reset returns the device to address 0 and
configuration 0, and handshakes belonging to other endpoints' transactions never trigger these changes."

The theorems are about the event-level model `Device.step` (Model/Device/Control.lean, tied to the real
`USBDevice` event by event on every run) and hold for ALL host histories satisfying `LegalHost`, of any
length, by an invariant proved by induction over the history (`inv_reachable`).  `final c init h` is the
device state after the history `h` from reset.
-/
namespace LunaVerif.Device

/-- The last event of the history `h` was the status-stage IN token (endpoint 0, at the device's then
address) of the standard request `req` that is still the latched SETUP packet, and the device answered it
with a zero-length DATA packet. -/
def StatusZlpJustSent (c : DevConfig) (h : List Stim) (req : Nat) : Prop :=
  ∃ h₀ t, h = h₀ ++ [t] ∧
    t.ev = .token PID_IN (final c init h₀).address 0 ∧
    (final c init h).stage = .statusIn ∧
    (∃ pid, (step c (final c init h₀) t).2 = .data pid []) ∧
    (final c init h).setup = (final c init h₀).setup ∧
    (final c init h).setup.type = TYPE_STANDARD ∧ (final c init h).setup.request = req

/-- Core of both register theorems, one step from a state satisfying the model's invariant: a DATA answer after which the
token detector shows an IN token for endpoint 0, the latched request is standard and the standard handler is in a
register-write state is the status-stage ZLP of that request. -/
theorem regwrite_data_answer (c : DevConfig) (s : DevState) (t : Stim) (i : Inv s)
    (hd : (step c s t).1.gRespData = true) (hep : (step c s t).1.tokEp = 0) (hpid : (step c s t).1.tokPid = PID_IN)
    (hty : (step c s t).1.setup.type = TYPE_STANDARD) (hh : IsRegWrite (step c s t).1.hstate) :
    t.ev = .token PID_IN s.address 0 ∧ (step c s t).1.stage = .statusIn ∧ (∃ pid, (step c s t).2 = .data pid []) ∧
    (step c s t).1.setup = s.setup ∧
    (step c s t).1.setup.request =
      if (step c s t).1.hstate = .setAddress then REQ_SET_ADDRESS else REQ_SET_CONFIGURATION := by
  obtain ⟨ht, hr, hc⟩ := data_answer_is_to_in_token c s t hd hep hpid
  have hsu : (step c s t).1.setup = s.setup := by
    rw [step_setup, hc, (onToken_ctl c s PID_IN 0).setup]; rfl
  have hreq := (inv_step c s t i).handler hty
  rw [hsu] at hty
  rw [step_hstate, hc] at hh hreq ⊢
  have hdata : (onToken c s PID_IN 0).2.isData = true := by
    rw [← hr, ← step_gRespData]; exact hd
  obtain ⟨hst, hz, _⟩ := onToken_regwrite c s hty hh hdata
  refine ⟨ht, by rw [step_stage, hc]; exact hst, ⟨_, by rw [hr]; exact hz⟩, hsu, ?_⟩
  rcases hh with hh | hh <;> rw [hh] at hreq ⊢ <;> rcases hreq with hreq | hreq
  · cases hreq
  · simpa using dispatch_setAddress _ hreq.symm
  · cases hreq
  · simpa using dispatch_setConfiguration _ hreq.symm

theorem ack_in_regwrite_state_answers_status_zlp (c : DevConfig) (h : List Stim) (x : Stim) (pid : Nat)
    (hx : x.ev = .handshake pid)
    (legal : LegalHost c (h ++ [x]) = true)
    (reach : AckReachesHandler (final c init h) pid)
    (hh : IsRegWrite (final c init h).hstate) :
    StatusZlpJustSent c h (if (final c init h).hstate = .setAddress then REQ_SET_ADDRESS else REQ_SET_CONFIGURATION) := by
  obtain ⟨_, lx⟩ := legal_snoc legal
  obtain ⟨_, hep, hpid, hty⟩ := reach
  -- a legal host handshake follows a DATA packet of the device (the token detector still shows our IN token)
  have hd : (final c init h).gRespData = true := by
    unfold legalEvent at lx
    rw [hx] at lx
    simp only [Bool.and_eq_true, Bool.or_eq_true, beq_iff_eq] at lx
    rcases lx.2.2 with g | g
    · exact g
    · rw [hpid] at g; exact absurd g (by decide)
  rcases list_nil_or_snoc h with rfl | ⟨h₀, t, rfl⟩
  · simp [final, init] at hd
  · rw [final_snoc] at hd hep hpid hty hh ⊢
    obtain ⟨a, b, e, f, g⟩ := regwrite_data_answer c _ t (inv_reachable c h₀) hd hep hpid hty hh
    refine ⟨h₀, t, rfl, a, ?_, e, ?_, ?_, ?_⟩ <;> rw [final_snoc]
    · exact b
    · exact f
    · exact hty
    · exact g

/-- "until then the device keeps responding at its old address": from ANY state, no event other than a bus
reset or a host handshake changes the address or the configuration (and tokens are matched against that register:
`token_for_other_address_is_ignored`). -/
theorem old_address_until_commit (c : DevConfig) (s : DevState) (x : Stim)
    (h₁ : x.ev ≠ .busReset) (h₂ : ∀ pid, x.ev ≠ .handshake pid) :
    (step c s x).1.address = s.address ∧ (step c s x).1.config = s.config := by
  rw [step_address, step_config]
  cases hx : x.ev with
  | busReset => exact absurd hx h₁
  | handshake pid => exact absurd hx (h₂ pid)
  | token pid addr ep =>
    unfold core; simp only []
    split
    · exact onToken_regs c s pid ep
    · exact ⟨rfl, rfl⟩
  | data pid p ok => exact onData_regs c s p ok
  | _ => exact ⟨rfl, rfl⟩

/-- **C08 (address).** In any `LegalHost` history the device address differs between two consecutive
events only at a bus reset (new address 0), or at the host's ACK of the status-stage ZLP of a standard
SET_ADDRESS request, whose `wValue[6:0]` is the new address. -/
theorem address_changes_only_on_status_ack (c : DevConfig) (h : List Stim) (x : Stim)
    (legal : LegalHost c (h ++ [x]) = true)
    (changed : (final c init (h ++ [x])).address ≠ (final c init h).address) :
    (x.ev = .busReset ∧ (final c init (h ++ [x])).address = 0) ∨
    (x.ev = .handshake PID_ACK ∧ StatusZlpJustSent c h REQ_SET_ADDRESS ∧
      (final c init (h ++ [x])).address = (final c init h).setup.value % 128) := by
  rw [final_snoc] at changed ⊢
  by_cases hb : x.ev = .busReset
  · exact Or.inl ⟨hb, by rw [step_address, hb]; rfl⟩
  · by_cases hk : ∃ pid, x.ev = .handshake pid
    · obtain ⟨pid, hx⟩ := hk
      right
      rw [step_address, hx] at changed ⊢
      obtain ⟨reach, hs, hv⟩ := onHandshake_address _ pid changed
      have hp : pid = PID_ACK := reach.1
      subst hp
      have := ack_in_regwrite_state_answers_status_zlp c h x _ hx legal reach (Or.inl hs)
      rw [if_pos hs] at this
      exact ⟨rfl, this, hv⟩
    · exact absurd (old_address_until_commit c _ x hb (fun pid g => hk ⟨pid, g⟩)).1 changed

/-- **C08 (configuration).** Same statement for the configuration register and SET_CONFIGURATION
(`wValue[7:0]`). -/
theorem configuration_changes_only_on_status_ack (c : DevConfig) (h : List Stim) (x : Stim)
    (legal : LegalHost c (h ++ [x]) = true)
    (changed : (final c init (h ++ [x])).config ≠ (final c init h).config) :
    (x.ev = .busReset ∧ (final c init (h ++ [x])).config = 0) ∨
    (x.ev = .handshake PID_ACK ∧ StatusZlpJustSent c h REQ_SET_CONFIGURATION ∧
      (final c init (h ++ [x])).config = (final c init h).setup.value % 256) := by
  rw [final_snoc] at changed ⊢
  by_cases hb : x.ev = .busReset
  · exact Or.inl ⟨hb, by rw [step_config, hb]; rfl⟩
  · by_cases hk : ∃ pid, x.ev = .handshake pid
    · obtain ⟨pid, hx⟩ := hk
      right
      rw [step_config, hx] at changed ⊢
      obtain ⟨reach, hs, hv⟩ := onHandshake_config _ pid changed
      have hp : pid = PID_ACK := reach.1
      subst hp
      have := ack_in_regwrite_state_answers_status_zlp c h x _ hx legal reach (Or.inr hs)
      rw [if_neg (by rw [hs]; simp)] at this
      exact ⟨rfl, this, hv⟩
    · exact absurd (old_address_until_commit c _ x hb (fun pid g => hk ⟨pid, g⟩)).2 changed

theorem onSetupData_setup (s : DevState) (p : List Nat) :
    (onSetupData s p).1.setup = parseSetup p ∧ (onSetupData s p).2 = .hs PID_ACK := by
  unfold onSetupData; dsimp only; split <;> exact ⟨rfl, rfl⟩

/-- "of that same request": the latched SETUP packet only changes by a well-formed 8-byte data packet that arrives while
the setup decoder waits for one and the token detector still shows the SETUP token (`sdWait`, `tokPid = PID_SETUP`: a
packet with a bad CRC or another length in between changes neither), and it then is that packet (which the device ACKs). -/
theorem setup_latched_only_by_setup_transaction (c : DevConfig) (s : DevState) (x : Stim)
    (changed : (step c s x).1.setup ≠ s.setup) :
    ∃ pid p, x.ev = .data pid p true ∧ s.sdWait = true ∧ s.tokPid = PID_SETUP ∧ p.length = 8 ∧
      (step c s x).1.setup = parseSetup p ∧ (core c s x.ev).2 = .hs PID_ACK := by
  rw [step_setup] at changed ⊢
  cases hx : x.ev with
  | data pid p ok =>
    rw [hx] at changed
    exact onData_elim (P := fun r => r.1.setup ≠ s.setup → ∃ pid' p', HostEvent.data pid p ok = .data pid' p' true ∧
        s.sdWait = true ∧ s.tokPid = PID_SETUP ∧ p'.length = 8 ∧ r.1.setup = parseSetup p' ∧ r.2 = .hs PID_ACK)
      c s p ok (fun h => absurd rfl h) (fun hok w h8 g _ => ⟨pid, p, by rw [hok], w, g, h8, onSetupData_setup s p⟩)
      (fun _ h => absurd rfl h) (fun _ _ _ _ _ h => absurd (sameCtl_request c s .status).setup h) changed
  | token pid addr ep =>
    rw [hx] at changed
    unfold core at changed
    simp only [] at changed
    split at changed
    · exact absurd (onToken_ctl c s pid ep).setup changed
    · exact absurd rfl changed
  | handshake pid =>
    rw [hx] at changed
    by_cases g : AckReachesHandler s pid
    · obtain ⟨b, h⟩ := onHandshake_reach_eq s pid g
      unfold core at changed
      simp only [h] at changed
      exact absurd (stdAck_keeps s).2.2.2.1 changed
    · unfold core at changed
      simp only [onHandshake_noreach s pid g] at changed
      exact absurd rfl changed
  | _ => rw [hx] at changed; exact absurd rfl changed

/-- Tokens are matched against the address register: a token for any other address is ignored by the
control endpoint (no answer; only the token detector's PID is cleared), a token for it is processed. -/
theorem token_for_other_address_is_ignored (c : DevConfig) (s : DevState) (pid addr ep : Nat)
    (h : addr ≠ s.address) :
    core c s (.token pid addr ep) = ({ s with tokPid := 0 }, .none) := by
  unfold core; simp only [if_neg h]

theorem token_for_own_address_is_processed (c : DevConfig) (s : DevState) (pid ep : Nat) :
    core c s (.token pid s.address ep) = onToken c s pid ep := by
  unfold core; simp only [if_true]

/-- "handshakes belonging to other endpoints' transactions never trigger these changes": a host handshake
that arrives while the most recent token is not an IN for endpoint 0 of this device (e.g. the ACK answering
a bulk IN packet of endpoint 1, or a packet of another device) leaves the whole control state unchanged —
neither register is written, the handler does not move, no descriptor position advances. -/
theorem foreign_ack_does_not_commit (c : DevConfig) (s : DevState) (pid : Nat)
    (h : s.tokEp ≠ 0 ∨ s.tokPid ≠ PID_IN) :
    (core c s (.handshake pid)).1 = s := by
  unfold core
  simp only []
  apply onHandshake_noreach
  unfold AckReachesHandler
  rcases h with h | h
  · exact fun g => h g.2.1
  · exact fun g => h g.2.2.1

/-- "exactly once": the commit returns the handler to IDLE, and in IDLE no handshake writes a register. -/
theorem commit_returns_to_idle (s : DevState) (pid : Nat)
    (changed : (onHandshake s pid).address ≠ s.address ∨ (onHandshake s pid).config ≠ s.config) :
    (onHandshake s pid).hstate = .idle := by
  have key : AckReachesHandler s pid ∧ IsRegWrite s.hstate := by
    rcases changed with h | h
    · have := onHandshake_address s pid h; exact ⟨this.1, Or.inl this.2.1⟩
    · have := onHandshake_config s pid h; exact ⟨this.1, Or.inr this.2.1⟩
  obtain ⟨g, hs⟩ := key
  obtain ⟨b, h⟩ := onHandshake_reach_eq s pid g
  rw [h]
  show (stdAck s).hstate = .idle
  unfold stdAck
  rcases hs with hs | hs <;> rw [hs] <;> rfl

theorem idle_handler_ignores_handshakes (s : DevState) (pid : Nat) (h : s.hstate = .idle) :
    (onHandshake s pid).address = s.address ∧ (onHandshake s pid).config = s.config := by
  by_cases g : AckReachesHandler s pid
  · rw [(onHandshake_reach s pid g).1, (onHandshake_reach s pid g).2, stdAck_address, stdAck_config]
    simp [h]
  · rw [onHandshake_noreach s pid g]; exact ⟨rfl, rfl⟩

/-- "A bus reset returns the device to address 0 and configuration 0" (from any state). -/
theorem bus_reset_clears (c : DevConfig) (s : DevState) (f : Resp) :
    (step c s ⟨.busReset, f⟩).1.address = 0 ∧ (step c s ⟨.busReset, f⟩).1.config = 0 := ⟨rfl, rfl⟩

/-- The commit does happen: the ACK of the status stage writes `wValue[6:0]` / `wValue[7:0]`. -/
theorem status_ack_commits (s : DevState) (g : AckReachesHandler s PID_ACK) :
    (s.hstate = .setAddress → (onHandshake s PID_ACK).address = s.setup.value % 128) ∧
    (s.hstate = .setConfiguration → (onHandshake s PID_ACK).config = s.setup.value % 256) := by
  rw [(onHandshake_reach s _ g).1, (onHandshake_reach s _ g).2, stdAck_address, stdAck_config]
  exact ⟨fun h => by simp [h], fun h => by simp [h]⟩

/-! ### Non-vacuity: concrete histories -/

def setupTransaction (addr : Nat) (bytes : List Nat) : List Stim :=
  [⟨.token PID_SETUP addr 0, .none⟩, ⟨.data PID_DATA0 bytes true, .none⟩]

/-- An enumeration fragment: SET_ADDRESS 5 (status IN, ACK), then SET_CONFIGURATION 1 at the new address. -/
def enumerationFragment : List Stim :=
  setupTransaction 0 [0x00, 5, 5, 0, 0, 0, 0, 0] ++
  [⟨.token PID_IN 0 0, .none⟩, ⟨.handshake PID_ACK, .none⟩] ++
  setupTransaction 5 [0x00, 9, 1, 0, 0, 0, 0, 0] ++
  [⟨.token PID_IN 5 0, .none⟩, ⟨.handshake PID_ACK, .none⟩]

example : LegalHost {} enumerationFragment = true := by decide
example : (final {} init enumerationFragment).address = 5 ∧ (final {} init enumerationFragment).config = 1 := by decide
example : (run {} init enumerationFragment).map (·.2) =
    [.none, .hs PID_ACK, .data PID_DATA1 [], .none, .none, .hs PID_ACK, .data PID_DATA1 [], .none] := by decide

/-- The F3 scenario: between SET_ADDRESS and its status stage the host reads a bulk packet from endpoint 1
and ACKs it.  Legal; the address stays 0 through that ACK and is committed by the status-stage ACK. -/
def interleavedBulkIn : List Stim :=
  setupTransaction 0 [0x00, 5, 5, 0, 0, 0, 0, 0] ++
  [⟨.token PID_IN 0 1, .data PID_DATA0 [1, 2, 3]⟩, ⟨.handshake PID_ACK, .none⟩]

example : LegalHost {} (interleavedBulkIn ++ [⟨.token PID_IN 0 0, .none⟩, ⟨.handshake PID_ACK, .none⟩]) = true := by decide
example : (final {} init interleavedBulkIn).address = 0 := by decide
example : (final {} init (interleavedBulkIn ++ [⟨.token PID_IN 0 0, .none⟩, ⟨.handshake PID_ACK, .none⟩])).address = 5 := by
  decide

end LunaVerif.Device
