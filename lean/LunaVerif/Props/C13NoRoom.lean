import LunaVerif.Props.C13Foreign
/-!
# C13 — "cannot take a whole packet", the converse arithmetic half

`ack_when_space` (Props/C13Space.lean): if the packet fits into the space available when the token has arrived, it
is ACKed whatever the consumer does.  Here the converse for a consumer that does not read while the packet is
received: if the packet is LONGER than the space available at the token, some byte of it meets a full FIFO, and
— carrying the expected data toggle — the packet is NAKed, not ACKed (`nak_when_no_room`).  What a lost byte entails
cycle by cycle (`overflow` set and kept until the next token, the packet discarded at its strobe) are the one-cycle lemmas
of Props/C13.lean (`lost_byte_sets_overflow`, `overflow_sticky`, `overflowed_packet_discarded`); they are not composed
here.
-/
namespace LunaVerif.StreamOutEndpoint
open LunaVerif

theorem used_step_eq {c : Config} {p : Phase} {s : State} {w : WState} {del : List Entry} (i : In)
    (hsim : Sim c p s w del) (hrc : s.fifo.rr = s.fifo.cr)
    (hco : s.det.out.completeOut = false) (hio : s.det.out.invalidOut = false) :
    used c (step c s i).1 = used c s + (if (comb c s i).writeEn = true then 1 else 0) := by
  obtain ⟨q, hrel, h0, h1⟩ := used_step i hsim
  rw [h0, h1]
  -- nothing is finalised (`R = []`), nothing erased (no strobe), and the entry pushed is the byte written
  have hst := q.held_step c.depth (fifoIn c s i)
  have hwd : (fifoIn c s i).wdiscard = false := by simp [fifoIn, comb, hco, hio]
  have hw : ((fifoIn c s i).wen && !(q.held == c.depth)) = (comb c s i).writeEn := by
    simp only [fifoIn, comb, TxnFifo.rel_full hrel]
    cases (q.held == c.depth) <;> simp
  simp only [TxnFifo.Queue.finals, TxnFifo.Queue.erased, TxnFifo.Queue.pushed, TxnFifo.rel_R_nil hrel hrc, hw, hwd,
    ite_self, Bool.false_eq_true, if_false, List.length_nil, Nat.add_zero] at hst
  rw [hst]
  cases (comb c s i).writeEn <;> rfl

theorem used_le_depth (c : Config) (s : State) : used c s ≤ c.depth := by
  simp only [used]; omega

theorem toggle_step (c : Config) (s : State) (i : In) (hx : i.rxReady = false) (hc : i.clearHalt = false) :
    (step c s i).1.expectedToggle = s.expectedToggle := by
  simp [step, comb, hx, hc]

theorem toggle_run (c : Config) (ins : List In) (h : ∀ j ∈ ins, j.rxReady = false ∧ j.clearHalt = false) :
    ∀ s : State, (runState c s ins).expectedToggle = s.expectedToggle := by
  induction ins with
  | nil => intro s; rfl
  | cons i is ih =>
    intro s
    obtain ⟨hx, hc⟩ := h i (by simp)
    rw [runState, ih (fun j hj => h j (by simp [hj])), toggle_step c s i hx hc]

/-- Bookkeeping of a packet for the endpoint while the consumer does not read: if the packet (once it has started)
carries the expected toggle `tg`, the FIFO holds the `H0` entries of the token cycle plus the bytes handled so far;
after the strobe: they fitted. -/
def RoomInv (c : Config) (H0 : Nat) (tg : Bool) (p : Phase) (s : State) : Prop :=
  s.expectedToggle = tg ∧ s.fifo.rr = s.fifo.cr ∧
  ((∀ x, p.pid = some x → x = tn tg) →
    if p.passing then used c s = H0 + p.handled else p = .idle ∨ H0 + p.handled ≤ c.depth)

theorem byte_lost_or_written {c : Config} {s : State} {m : In} {t : Tok} {pid : Nat}
    (htok : Tok.of m = t) (hpid : m.pidToggle = pid) (ht : t.targets c = true) (hp : pid = tn s.expectedToggle)
    (hn : s.det.out.next = true) (hv : s.det.out.valid = true) :
    (comb c s m).dataIsLost = TxnFifo.full c.depth s.fifo ∧
    (comb c s m).writeEn = !TxnFifo.full c.depth s.fifo := by
  rw [comb_eq, combG_tok htok hpid]
  simp [okayP, ht, hp, hn, hv, State.regs]

theorem not_full_used {c : Config} {p : Phase} {s : State} {w : WState} {del : List Entry}
    (hsim : Sim c p s w del) (h : TxnFifo.full c.depth s.fifo = false) : used c s + 1 ≤ c.depth := by
  obtain ⟨q, hrel, _, _⟩ := hsim.fifo
  rw [used_eq_held hrel]
  rw [TxnFifo.rel_full hrel] at h
  have := hrel.hlen
  have : q.held ≠ c.depth := by simpa using h
  omega

theorem no_room_step {c : Config} {H0 : Nat} {tg : Bool} {p p1 : Phase} {s : State} {w : WState} {del : List Entry}
    {m : In} {t : Tok} (hsim : Sim c p s w del) (hinv : RoomInv c H0 tg p s) (hs : p.step c m = some p1)
    (htk : p.token = some t) (ht : t.targets c = true) (hn : m.tokNew = false) (hr : m.ready = false)
    (hx : m.rxReady = false) (hc : m.clearHalt = false) :
    (comb c s m).dataIsLost = true ∨ RoomInv c H0 tg p1 (step c s m).1 := by
  obtain ⟨htg, hrc, hu⟩ := hinv
  have htg' : (step c s m).1.expectedToggle = tg := by rw [toggle_step c s m hx hc, htg]
  have hrc' := rr_eq_cr_step c s m hr
  have hle' := used_le_depth c (step c s m).1
  obtain ⟨hnx, hvl, hq⟩ := hsim.det.view.next
  rcases handled_step hs hn with rfl | ⟨hh', hpp, hpid⟩
  · exact .inr ⟨htg', hrc', fun _ => .inl rfl⟩
  · by_cases hP : ∀ x, p1.pid = some x → x = tn tg
    case neg => exact .inr ⟨htg', hrc', fun h => absurd h hP⟩
    have hu := hu fun x hx => hP x (hpid x hx)
    cases hp : p.passing
    · -- after the strobe nothing is presented and nothing counted any more
      have hp1 : p1.passing = false := by
        cases h : p1.passing
        · rfl
        · rw [hpp h] at hp; cases hp
      have hnow : p.now = none := by
        cases h : p.now
        · rfl
        · rw [(now_some h).1] at hp; cases hp
      rw [hp] at hu
      refine .inr ⟨htg', hrc', fun _ => ?_⟩
      rw [hp1, hh', hnow]
      rcases hu with rfl | hu
      · cases htk
      · exact .inr hu
    · obtain ⟨hco, hio⟩ := hq hp
      have hue := used_step_eq m hsim hrc hco hio
      rw [hp, if_pos rfl] at hu
      have hfin : (comb c s m).dataIsLost = true ∨ used c (step c s m).1 = H0 + p1.handled := by
        cases hnow : p.now with
        | none =>
          rw [hnow] at hnx
          rw [no_write_of_no_next (c := c) m hnx] at hue
          right; rw [hh', hnow]; simpa [hu] using hue
        | some x =>
          rw [hnow] at hnx hvl
          obtain ⟨pid, hpd⟩ := (now_some hnow).2
          obtain ⟨hl, hw⟩ := byte_lost_or_written (token_step hs htk hn).1 (pid_stable hs hpd) ht
            (by rw [htg]; exact hP pid (hpid pid hpd)) hnx (hvl rfl)
          cases hf : TxnFifo.full c.depth s.fifo
          · right
            rw [hw, hf] at hue
            rw [hh', hnow, hue, hu]
            simp only [Bool.not_false, if_true, Option.toList_some, List.length_singleton]; omega
          · left; rw [hl, hf]
      rcases hfin with hl | hfin
      · exact .inl hl
      · refine .inr ⟨htg', hrc', fun _ => ?_⟩
        split
        · exact hfin
        · right; omega

/-- the cycles of the packet: no token strobe, the consumer does not read, no response request yet, no
ClearFeature(HALT) -/
def stalled (j : In) : Bool := !j.tokNew && !j.ready && !j.rxReady && !j.clearHalt

theorem stalled_inv {j : In} (h : stalled j = true) :
    j.tokNew = false ∧ j.ready = false ∧ j.rxReady = false ∧ j.clearHalt = false := by
  simp only [stalled, Bool.and_eq_true, Bool.not_eq_true'] at h
  exact ⟨h.1.1.1, h.1.1.2, h.1.2, h.2⟩

theorem no_room_run {c : Config} (hmps : 1 ≤ c.mps) {H0 : Nat} {tg : Bool} {t : Tok} (ht : t.targets c = true)
    (mid : List In) : ∀ {p pk : Phase} {s : State} {w : WState} {del : List Entry}, Sim c p s w del →
      RoomInv c H0 tg p s → p.token = some t → Phase.run c p mid = some pk → pk ≠ .idle →
      (∀ j ∈ mid, stalled j = true) →
      anyLost c s mid = true ∨
        ((∃ w' del', Sim c pk (runState c s mid) w' del') ∧ RoomInv c H0 tg pk (runState c s mid) ∧
          pk.token = some t) := by
  induction mid with
  | nil =>
    intro p pk s w del hsim hinv htk hrun _ _
    simp only [Phase.run, Option.some.injEq] at hrun; subst hrun
    exact Or.inr ⟨⟨w, del, hsim⟩, hinv, htk⟩
  | cons m ms ih =>
    intro p pk s w del hsim hinv htk hrun hpk hall
    obtain ⟨hn, hr, hx, hc⟩ := stalled_inv (hall m (by simp))
    have hall' : ∀ j ∈ ms, stalled j = true := fun j hj => hall j (by simp [hj])
    obtain ⟨p1, hs, hrun⟩ := Phase.run_cons hrun
    rcases (token_step hs htk hn).2 with rfl | htk1
    · exact absurd (run_idle_stays (fun j hj => (stalled_inv (hall' j hj)).1) hrun) hpk
    · rcases no_room_step hsim hinv hs htk ht hn hr hx hc with hl | hinv1
      · left; simp [anyLost, hl]
      · rcases ih (sim_step hmps hsim hs) hinv1 htk1 hrun hpk hall' with h | h
        · left; simp [anyLost, h]
        · right; simpa only [runState] using h

/-- **nak_when_no_room** (the converse of `ack_when_space` for a consumer that does not read meanwhile).  In the
setting of `nak_iff_cannot_take` — `pre` any accepted history ending with a token, `mid` the cycles of the data packet
up to the response request `i` for a packet addressed to the endpoint — if the consumer's last read is finalised when
the token has arrived (`committed_read_pointer = current_read_pointer`, as after any cycle without `stream.ready`:
`rr_eq_cr_step`), every cycle of `mid` is `stalled` (the consumer does not read while the packet is received; also no
token strobe, no response request and no ClearFeature(HALT) for the endpoint — which the acceptor would still allow
while the phase is `.tok t`), the packet carries the expected data toggle and is LONGER than `space_available` at the
token, then some byte of it meets a full FIFO and the response is NAK, not ACK. -/
theorem nak_when_no_room (c : Config) (hmps : 1 ≤ c.mps) (pre mid : List In) (i : In) (t : Tok) (pk p' : Phase)
    (pid : Nat) (bytes : List Nat)
    (h1 : Phase.run c .idle pre = some (.tok t)) (h2 : Phase.run c (.tok t) mid = some pk)
    (hq : ∀ j ∈ mid, stalled j = true) (h3 : pk.step c i = some p')
    (h4 : pk.answered c i = some (pid, bytes))
    (hfin : (runState c init pre).fifo.rr = (runState c init pre).fifo.cr)
    (htg : pid = tn (runState c init pre).expectedToggle)
    (hroom : TxnFifo.space c.depth (runState c init pre).fifo < bytes.length) :
    anyLost c (runState c init pre) (mid ++ [i]) = true ∧
    (outOf c (runState c (runState c init pre) mid) i).nak = true ∧
    (outOf c (runState c (runState c init pre) mid) i).ack = false := by
  have hnt : ∀ j ∈ mid, j.tokNew = false := fun j hj => (stalled_inv (hq j hj)).1
  obtain ⟨w0, _, hsim0, _⟩ := sim_after hmps h1
  obtain ⟨hnak, hack⟩ := nak_iff_cannot_take c hmps pre mid i t pk p' pid bytes h1 h2 hnt h3 h4
  generalize runState c init pre = s0 at *
  generalize hsd : runState c s0 mid = s at *
  obtain ⟨q0, hrel0, _, _⟩ := hsim0.fifo
  have hbig : c.depth < used c s0 + bytes.length := by
    have := used_add_space hrel0
    omega
  have hpk : pk ≠ .idle := by
    intro h; rw [h] at h4; simp [Phase.answered] at h4
  have hfu := answered_forUs h4
  obtain ⟨htk, _⟩ := token_run mid h2 rfl hnt hpk
  have ht : t.targets c = true := by rw [← forUs_of_token (c := c) htk]; exact hfu
  have htog : s.expectedToggle = s0.expectedToggle :=
    hsd ▸ toggle_run c mid (fun j hj => ⟨(stalled_inv (hq j hj)).2.2.1, (stalled_inv (hq j hj)).2.2.2⟩) s0
  have hlost : anyLost c s0 (mid ++ [i]) = true := by
    rw [anyLost_append, hsd]
    rcases no_room_run hmps (H0 := used c s0) (tg := s0.expectedToggle) ht mid hsim0 ⟨rfl, hfin, fun _ => rfl⟩ rfl h2 hpk
        hq with h | ⟨⟨w, del, hsim⟩, ⟨_, _, hu⟩, _⟩
    · simp [h]
    · rw [hsd] at hsim hu
      obtain ⟨hpd, hlen⟩ := answered_handled h4
      have hu := hu fun x hx => (Option.some.inj (hpd.symm.trans hx)) ▸ htg
      have := used_le_depth c s
      cases hnow : pk.now with
      | none =>
        rw [hnow] at hlen
        split at hu
        · simp only [Option.toList_none, List.length_nil] at hlen; omega
        · rcases hu with rfl | hu
          · exact absurd rfl hpk
          · simp only [Option.toList_none, List.length_nil] at hlen; omega
      | some x =>
        obtain ⟨hnx, hvl, _⟩ := hsim.det.view.next
        rw [hnow] at hnx hvl hlen
        rw [(now_some hnow).1, if_pos rfl] at hu
        obtain ⟨hl, _⟩ := byte_lost_or_written (token_step h3 htk (answered_tokNew h3 h4)).1 (pid_stable h3 hpd)
          ht (by rw [htog]; exact htg) hnx (hvl rfl)
        cases hf : TxnFifo.full c.depth s.fifo
        · have := not_full_used hsim hf
          simp only [Option.toList_some, List.length_singleton] at hlen
          omega
        · simp [anyLost, hl, hf]
  have hboth : pid = tn s.expectedToggle ∧ anyLost c s0 (mid ++ [i]) = true := ⟨by rw [htog]; exact htg, hlost⟩
  refine ⟨hlost, hnak.mpr hboth, ?_⟩
  cases hk : (outOf c s i).ack
  · rfl
  · exact absurd hboth (hack.mp hk)

/-! ### Non-vacuity: mps 4, buffer 7, a stalled consumer; after one accepted 4-byte packet 3 entries are free, the
next 4-byte packet does not fit -/
example :
    let c : Config := ⟨2, 4, 7⟩
    let idl := idleIn 2 1 false
    let pre := outPacket 2 0 false [11, 12, 13, 14] 10 ++ [{ idl with tokNew := true }]
    let mid := [idl] ++ [21, 22, 23, 24].map (fun b => { idl with rx := ⟨true, true, b, false, false⟩ }) ++
      [{ idl with rx := ⟨true, false, 0, false, false⟩ }, { idl with rx := ⟨false, false, 0, true, false⟩ }] ++
      List.replicate 9 idl
    let i := { idl with rxReady := true }
    Phase.run c .idle pre = some (.tok ⟨2, true, false⟩) ∧
    Phase.run c (.tok ⟨2, true, false⟩) mid = some (.finWait ⟨2, true, false⟩ 1 [21, 22, 23, 24]) ∧
    mid.all stalled = true ∧
    (Phase.finWait ⟨2, true, false⟩ 1 [21, 22, 23, 24]).step c i = some .idle ∧
    (Phase.finWait ⟨2, true, false⟩ 1 [21, 22, 23, 24]).answered c i = some (1, [21, 22, 23, 24]) ∧
    (runState c init pre).fifo.rr = (runState c init pre).fifo.cr ∧
    1 = tn (runState c init pre).expectedToggle ∧
    TxnFifo.space c.depth (runState c init pre).fifo = 3 := by decide +kernel

end LunaVerif.StreamOutEndpoint
