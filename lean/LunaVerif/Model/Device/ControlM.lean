import LunaVerif.Model.Device.Control
/-!
# The event-level device model for EVERY control `max_packet_size`

`Device.core` (Model/Device/Control.lean) advances `start_position` by the literal 64 on the host ACK of a
GET_DESCRIPTOR data packet (`Device.stdAck`) and marks the data stage as over after a packet shorter than 64 bytes
(`Device.onHandshake`, ghost `gDataDone`).  The gateware (`StandardRequestHandler`:
`next_start_position = start_position + self._max_packet_size`) advances by the configured size.

`coreM` / `stepM` / `finalM` / `runM` = `Device.core` / `step` / `final` / `run` with `stdAckM c.maxPacket` /
`onHandshakeM c.maxPacket` for the event "host handshake"; every other event is `Device.core` itself.  For
`c.maxPacket = 64` it IS the model of Control.lean (Lemmas/DeviceStepsM.lean: `coreM_eq_core`, `stepM_eq_step`,
`finalM_eq_final`; Lemmas/C07MpsLegal.lean: `legalEventM_64`, `LegalHostM_64`).

This file is core Lean only (no Mathlib): it is linked into the compiled driver `drv_dev` (Driver/Dev.lean), which
steps with `stepM` and reports `legalEventM`, so the event-level co-simulation of the whole `USBDevice` runs the model
of the `…_mps` theorems at control max packet sizes 8 / 16 / 32 / 64.  (The definitions were moved here unchanged from
Lemmas/C07Mps.lean and Lemmas/C07MpsLegal.lean, which import this file.)
-/
namespace LunaVerif.Device

/-- `Device.stdAck` with the GET_DESCRIPTOR advance `start_position += max_packet_size` (11-bit register). -/
def stdAckM (mps : Nat) (s : DevState) : DevState :=
  match s.hstate with
  | .clearFeature => toIdle s
  | .setAddress => toIdle { s with address := s.setup.value % 128 }
  | .setConfiguration => toIdle { s with config := s.setup.value % 256 }
  | .getDescriptor =>
      if s.expectingAck then
        { s with startPos := (s.startPos + mps) % 2048, txPid := !s.txPid, expectingAck := false }
      else s
  | _ => s

/-- `Device.onHandshake` with `stdAckM`; the ghost `gDataDone` (the host has ACKed a short packet: the data stage is
over) compares with `max_packet_size`. -/
def onHandshakeM (mps : Nat) (s : DevState) (pid : Nat) : DevState :=
  if pid = PID_ACK ∧ s.tokEp = 0 ∧ s.tokPid = PID_IN ∧ s.setup.type = TYPE_STANDARD then
    let s' := stdAckM mps s
    if s.hstate = .getDescriptor ∧ s.expectingAck ∧ s.gRespLen < mps then { s' with gDataDone := true } else s'
  else s

/-- `Device.core` with the host handshake handled by `onHandshakeM c.maxPacket`. -/
def coreM (c : DevConfig) (s : DevState) (e : HostEvent) : DevState × Resp :=
  match e with
  | .handshake pid => (onHandshakeM c.maxPacket s pid, .none)
  | _ => core c s e

/-- `Device.step` over `coreM`. -/
def stepM (c : DevConfig) (s : DevState) (x : Stim) : DevState × Resp :=
  let r := coreM c s x.ev
  let resp := if r.2.isNone ∧ r.1.tokEp ≠ 0 then x.foreign else r.2
  ({ r.1 with gRespData := resp.isData, gRespLen := resp.dataLen, gPrevTok := tokenPidOf x.ev }, resp)

def finalM (c : DevConfig) : DevState → List Stim → DevState
  | s, [] => s
  | s, x :: xs => finalM c (stepM c s x).1 xs

/-- The responses (control endpoint merged with the other endpoints) along a history. -/
def respsM (c : DevConfig) : DevState → List Stim → List Resp
  | _, [] => []
  | s, x :: xs => (stepM c s x).2 :: respsM c (stepM c s x).1 xs

/-- States after each event, and the responses (`Device.run` over `stepM`). -/
def runM (c : DevConfig) : DevState → List Stim → List (DevState × Resp)
  | _, [] => []
  | s, x :: xs => stepM c s x :: runM c (stepM c s x).1 xs

/-! ### LegalHost over `stepM` -/

def legalEventM (c : DevConfig) (s : DevState) (x : Stim) : Bool :=
  let s' := (stepM c s x).1
  -- the other endpoints only answer tokens/data of transactions addressed to them
  (x.foreign.isNone || (s'.tokEp != 0 && s'.tokPid != 0 &&
      (match x.ev with | .token .. => true | .data .. => true | _ => false))) &&
  (match x.ev with
   | .token pid addr ep =>
       isTokenPid pid && decide (addr < 128) && decide (ep < 16) &&
       (pid != PID_SETUP || ep == 0) &&
       -- no further data-stage IN after the host has ACKed a short packet
       !(pid == PID_IN && addr == s.address && ep == 0 && s.stage == .dataIn && s.gDataDone)
   | .data pid payload _ =>
       isDataPid pid &&
       (s.gPrevTok == PID_OUT || s.gPrevTok == PID_SETUP || (s.gPrevTok == PID_IN && s.tokPid == 0)) &&
       (s.gPrevTok != PID_SETUP || pid == PID_DATA0) && payload.all (· < 256)
   | .handshake pid => isHsPid pid && (s.gRespData || s.tokPid == 0)
   | _ => true)

def legalFromM (c : DevConfig) : DevState → List Stim → Bool
  | _, [] => true
  | s, x :: xs => legalEventM c s x && legalFromM c (stepM c s x).1 xs

/-- `LegalHost` over the event-level model with the `start_position` advance by `max_packet_size`. -/
def LegalHostM (c : DevConfig) (h : List Stim) : Bool := legalFromM c init h

end LunaVerif.Device
