import LunaVerif.Model.Usb2.ControlCyc
import LunaVerif.Model.Periph.StreamGenerator
import LunaVerif.Model.Usb2.DescriptorBlock
/-
CLOSED-LOOP composition of the cycle-level control-endpoint model (Model/Usb2/ControlCyc.lean) with the model of its
`StreamSerializer(data_length=2, domain="usb", stream_type=USBInStreamInterface, max_length_width=2)` "transmitter"
(Model/Periph/StreamGenerator.lean, C27), wired as in `StandardRequestHandler.elaborate` /
`handle_simple_data_request` (usb/request/standard.py, usb/request/control.py):

    transmitter.start      = data_requested   (in GET_STATUS / GET_CONFIGURATION under `setup.type == STANDARD`, else 0)
    transmitter.max_length = 2 / 1            (…, else 0)
    Cat(transmitter.data[0:length]) = 0 / active_config   (data[1] is never driven in GET_CONFIGURATION: 0)
    transmitter.stream.ready = tx.ready       (`stream.attach(tx)`, …, else 0)
    transmitter.start_position is never driven (0)
    tx.valid / first / last / payload = transmitter.stream.*   (…)

The four transmitter inputs of `CycIn` (`tValid`, `tFirst`, `tLast`, `tPayload`) are no longer inputs: `sysStep`
overwrites them with the serializer model's outputs of the same cycle.  The wires towards the serializer do not depend
on the serializer's outputs (Lemmas/C07Wires.lean `wires_indep`), so there is no combinational loop.

Core Lean only (linked into lean/Driver/C07Cyc.lean, which co-simulates the serializer model against the real
transmitter inside the real handler in every cycle).
-/
namespace LunaVerif.CtrlCyc
open LunaVerif.StreamGen

/-- The transmitter instance of the standard request handler. -/
def txCfg : SerConfig := ⟨2, 2⟩

structure SysState where
  cs  : CycState := {}
  ser : SerState := serInit
deriving Repr, DecidableEq

def sysInit : SysState := {}

/-- The handler's wires towards the transmitter. -/
def serInOf (o : HOut) : SerIn := ⟨o.tStart, 0, o.tMaxLen, o.tReady, [o.tData0, 0]⟩

/-- The transmitter's stream outputs as the handler sees them. -/
def withT (i : CycIn) (so : SerOut) : CycIn :=
  { i with tValid := so.valid, tFirst := so.first, tLast := so.last, tPayload := so.payload }

/-- What the serializer does in this cycle, given the control endpoint's state and the cycle's inputs. -/
def serCycle (c : Cfg) (s : SysState) (i : CycIn) : SerState × SerOut :=
  serStep txCfg s.ser (serInOf (step c s.cs i).2.h)

/-- One clock cycle of the closed loop. -/
def sysStep (c : Cfg) (s : SysState) (i : CycIn) : SysState × CycOut :=
  let r := serCycle c s i
  let x := step c s.cs (withT i r.2)
  ({ cs := x.1, ser := r.1 }, x.2)

def sysRun (c : Cfg) : SysState → List CycIn → List (SysState × CycOut)
  | _, [] => []
  | s, i :: is => sysStep c s i :: sysRun c (sysStep c s i).1 is

def sysFinal (c : Cfg) : SysState → List CycIn → SysState
  | s, [] => s
  | s, i :: is => sysFinal c (sysStep c s i).1 is

/-! ### … and with the model of `GetDescriptorHandlerBlock` (Model/Usb2/DescriptorBlock.lean, C09)

    get_descriptor_handler.value / length = setup.value / setup.length            (always)
    get_descriptor_handler.start_position = the handler's `start_position` register
    get_descriptor_handler.start          = data_requested   (in GET_DESCRIPTOR under `setup.type == STANDARD`, else 0)
    get_descriptor_handler.tx.ready       = tx.ready         (`tx.attach(tx)`, …, else 0)
    tx.valid / first / last / payload, handshakes_out.stall = get_descriptor_handler.tx.*, .stall   (…)

The five descriptor-handler inputs of `CycIn` are overwritten with the block handler model's outputs of the same cycle.
-/

structure Sys2State where
  cs  : CycState := {}
  ser : SerState := serInit
  blk : Desc.Block.State := Desc.Block.init

def sys2Init : Sys2State := {}

/-- The wires towards the descriptor handler. -/
def blkInOf (cs : CycState) (i : CycIn) (o : HOut) : Desc.Block.In :=
  ⟨i.su.value, i.su.length, cs.h.startPos, o.dStart, o.dReady⟩

/-- The descriptor handler's outputs as the standard handler sees them. -/
def withD (i : CycIn) (b : Desc.Beat) : CycIn :=
  { i with dValid := b.valid, dFirst := b.first, dLast := b.last, dPayload := b.payload, dStall := b.stall }

/-- What the block descriptor handler does in this cycle. -/
def blkCycle (c : Cfg) (bc : Desc.Block.Config) (cs : CycState) (blk : Desc.Block.State) (i : CycIn) :
    Desc.Block.State × Desc.Beat :=
  Desc.Block.step bc blk (blkInOf cs i (step c cs i).2.h)

/-- One clock cycle of the closed loop with both streamers. -/
def sys2Step (c : Cfg) (bc : Desc.Block.Config) (s : Sys2State) (i : CycIn) : Sys2State × CycOut :=
  let rb := blkCycle c bc s.cs s.blk i
  let rs := serCycle c ⟨s.cs, s.ser⟩ i
  let x := step c s.cs (withD (withT i rs.2) rb.2)
  ({ cs := x.1, ser := rs.1, blk := rb.1 }, x.2)

def sys2Run (c : Cfg) (bc : Desc.Block.Config) : Sys2State → List CycIn → List (Sys2State × CycOut)
  | _, [] => []
  | s, i :: is => sys2Step c bc s i :: sys2Run c bc (sys2Step c bc s i).1 is

def sys2Final (c : Cfg) (bc : Desc.Block.Config) : Sys2State → List CycIn → Sys2State
  | s, [] => s
  | s, i :: is => sys2Final c bc (sys2Step c bc s i).1 is

end LunaVerif.CtrlCyc
