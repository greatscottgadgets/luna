/-
XOR algebras: the machinery that lets a statement about an XOR network be checked on its
*coefficient table* and then hold for all 2^n inputs.

* `XorAlg α` is a type with `zero` and `xor`.  The bit-serial CRC / LFSR (`serialStep`, `serial`,
  `keystream`) and the meaning of a translator-generated table (`net`) are written once, for every
  `XorAlg`, in *linear form*: they never branch on a value of `α` (only on the polynomial / table,
  which are literals).
* `Bool` is an instance (the real thing).  `Sym` — coefficient vectors over the input variables, with
  pointwise xor — is the symbolic instance.
* Any function built this way commutes with every homomorphism of XOR algebras
  (`map_serialStep`, `map_serial`, `map_keystream`, `map_net`), in particular with evaluation
  `eval ρ : Sym → Bool` under an assignment `ρ` (`evalHom`).  So an equation between two such
  functions that holds on the symbolic unit vectors `symIn` (a finite table, closed by
  `decide +kernel`) holds for every Boolean input (`transfer_*`).

Core Lean only (models import this file and are linked into native drivers).
-/
import LunaVerif.Core.Crc

namespace LunaVerif.XorAlg

class XorAlg (α : Type) where
  zero : α
  xor : α → α → α

open XorAlg

instance : XorAlg Bool := ⟨false, fun a b => a != b⟩

/-! ## The generic (linear-form) definitions -/
section generic
variable {α : Type} [XorAlg α]

/-- One step of the serial CRC register (index 0 = LSB): feedback = MSB xor data bit; shift towards
the MSB; xor the feedback into the positions named by the polynomial (LSB first, top term
omitted).  At `α = Bool` this is literally `Crc.serialStep`. -/
def serialStep (poly : List Bool) (reg : List α) (d : α) : List α :=
  let fb := xor (reg.getLastD zero) d
  let shifted := zero :: reg.dropLast
  List.zipWith (fun p s => if p then xor s fb else s) poly shifted

def serial (poly : List Bool) (init : List α) (bits : List α) : List α :=
  bits.foldl (serialStep poly) init

/-- The check field bits in transmission order: complemented register, MSB first.  `one` is the
constant-true element. -/
def fieldBits (one : α) (reg : List α) : List α := reg.reverse.map (xor one)

/-- A free-running LFSR is the serial CRC register fed with zeros; its output bit is the MSB before
each advance.  `keystream poly k reg` = the next `k` output bits. -/
def keystream (poly : List Bool) : Nat → List α → List α
  | 0, _ => []
  | k + 1, reg => reg.getLastD zero :: keystream poly k (serialStep poly reg zero)

/-- Register after `k` advances of the free-running LFSR. -/
def advance (poly : List Bool) (k : Nat) (reg : List α) : List α :=
  serial poly reg (List.replicate k zero)

/-- Meaning of one row of a generated table: xor of the selected inputs, complemented when the
flag is set. -/
def row (one : α) (inp : List α) (r : List Nat × Bool) : α :=
  r.1.foldl (fun acc i => xor acc (inp.getD i zero)) (if r.2 then one else zero)

/-- Meaning of a generated table: one output bit per row. -/
def net (one : α) (inp : List α) (t : List (List Nat × Bool)) : List α := t.map (row one inp)

end generic

/-- A table is well formed for `n` inputs when every index it mentions exists (so `getD`'s default
in `row` is never used). -/
def wellFormed (n : Nat) (t : List (List Nat × Bool)) : Bool := t.all (fun r => r.1.all (· < n))

/-! ## Homomorphisms -/

structure IsHom {α β : Type} [XorAlg α] [XorAlg β] (h : α → β) : Prop where
  zero : h zero = zero
  xor : ∀ a b, h (xor a b) = xor (h a) (h b)

section hom
variable {α β : Type} [XorAlg α] [XorAlg β] {h : α → β}

theorem map_getLastD (hh : IsHom h) (l : List α) : (l.map h).getLastD zero = h (l.getLastD zero) := by
  rw [List.getLastD_eq_getLast?, List.getLastD_eq_getLast?, List.getLast?_map]
  cases l.getLast? <;> simp [hh.zero]

theorem map_serialStep (hh : IsHom h) (poly : List Bool) (reg : List α) (d : α) :
    (serialStep poly reg d).map h = serialStep poly (reg.map h) (h d) := by
  simp only [serialStep, map_getLastD hh, ← hh.xor]
  rw [List.map_zipWith]
  have : (zero : β) :: (reg.map h).dropLast = ((zero : α) :: reg.dropLast).map h := by
    simp [hh.zero, List.map_dropLast]
  rw [this, List.zipWith_map_right]
  congr 1
  funext p s
  cases p <;> simp [hh.xor]

theorem map_serial (hh : IsHom h) (poly : List Bool) (init bits : List α) :
    (serial poly init bits).map h = serial poly (init.map h) (bits.map h) := by
  induction bits generalizing init with
  | nil => rfl
  | cons b bs ih => simp only [serial, List.foldl_cons, List.map_cons] at *
                    rw [ih, map_serialStep hh]

theorem map_fieldBits (hh : IsHom h) (one : α) (reg : List α) :
    (fieldBits one reg).map h = fieldBits (h one) (reg.map h) := by
  simp [fieldBits, List.map_reverse, hh.xor, Function.comp_def]

theorem map_keystream (hh : IsHom h) (poly : List Bool) (k : Nat) (reg : List α) :
    (keystream poly k reg).map h = keystream poly k (reg.map h) := by
  induction k generalizing reg with
  | zero => rfl
  | succ k ih => simp only [keystream, List.map_cons, ih, map_serialStep hh, map_getLastD hh, hh.zero]

theorem map_advance (hh : IsHom h) (poly : List Bool) (k : Nat) (reg : List α) :
    (advance poly k reg).map h = advance poly k (reg.map h) := by
  simp [advance, map_serial hh, hh.zero]

theorem map_row (hh : IsHom h) (one : α) (inp : List α) (r : List Nat × Bool) :
    h (row one inp r) = row (h one) (inp.map h) r := by
  obtain ⟨idx, inv⟩ := r
  simp only [row]
  have start : h (if inv then one else zero) = (if inv then h one else zero) := by
    cases inv <;> simp [hh.zero]
  rw [← start]
  generalize (if inv then one else zero) = acc
  induction idx generalizing acc with
  | nil => rfl
  | cons i is ih =>
    simp only [List.foldl_cons]
    rw [ih, hh.xor]
    congr 3
    simp only [List.getD_eq_getElem?_getD, List.getElem?_map]
    cases inp[i]? <;> simp [hh.zero]

theorem map_net (hh : IsHom h) (one : α) (inp : List α) (t : List (List Nat × Bool)) :
    (net one inp t).map h = net (h one) (inp.map h) t := by
  simp [net, map_row hh, Function.comp_def]

end hom

/-! ## The symbolic instance -/

/-- Coefficient vector over any number of variables, packed into a natural number: bit `i` is the
coefficient of variable `i`.  (Packed so that the kernel evaluates `xor` with its built-in
`Nat.xor`; with lists of `Bool` the table checks below take minutes instead of a second.) -/
structure Sym where
  m : Nat
deriving DecidableEq, Repr

instance : XorAlg Sym := ⟨⟨0⟩, fun a b => ⟨a.m ^^^ b.m⟩⟩

/-- Value of a coefficient vector under the assignment `ρ` (variable `i` ↦ `ρ[i]`). -/
def evalN : List Bool → Nat → Bool
  | [], _ => false
  | r :: rs, m => ((r && m.testBit 0) != evalN rs (m >>> 1))

def eval (ρ : List Bool) (s : Sym) : Bool := evalN ρ s.m

theorem evalN_zero (ρ : List Bool) : evalN ρ 0 = false := by
  induction ρ with
  | nil => rfl
  | cons r rs ih => simp [evalN, ih]

theorem evalN_xor (ρ : List Bool) (a b : Nat) : evalN ρ (a ^^^ b) = (evalN ρ a != evalN ρ b) := by
  induction ρ generalizing a b with
  | nil => rfl
  | cons r rs ih =>
    simp only [evalN, Nat.shiftRight_xor_distrib, ih, Nat.testBit_xor]
    cases r <;> cases a.testBit 0 <;> cases b.testBit 0 <;> simp

/-- Evaluation is a homomorphism `Sym → Bool` — the once-and-for-all fact (`eval_hom`). -/
theorem evalHom (ρ : List Bool) : IsHom (eval ρ) where
  zero := evalN_zero ρ
  xor a b := evalN_xor ρ a.m b.m

/-- The `n` unit vectors `1, 2, 4, …`. -/
def unitsN : Nat → List Nat
  | 0 => []
  | n + 1 => 1 :: (unitsN n).map (2 * ·)

theorem evalN_double (r : Bool) (rs : List Bool) (x : Nat) : evalN (r :: rs) (2 * x) = evalN rs x := by
  simp only [evalN]
  have h0 : (2 * x).testBit 0 = false := by simp [Nat.testBit_zero]
  have h1 : (2 * x) >>> 1 = x := by simp [Nat.shiftRight_succ]
  simp [h0, h1]

theorem map_evalN_unitsN (ρ : List Bool) : (unitsN ρ.length).map (evalN ρ) = ρ := by
  induction ρ with
  | nil => rfl
  | cons r rs ih =>
    simp only [List.length_cons, unitsN, List.map_cons, List.map_map]
    congr 1
    · simp [evalN, evalN_zero]
    · have : (evalN (r :: rs) ∘ fun x => 2 * x) = evalN rs := by
        funext x; exact evalN_double r rs x
      rw [this, ih]

/-- Symbolic inputs: variable 0 is the constant `true`, variables `1 … n` are the inputs. -/
def symOne : Sym := ⟨1⟩
def symIn (n : Nat) : List Sym := ((unitsN n).map (2 * ·)).map (fun c => ⟨c⟩)

theorem eval_symOne (ρ : List Bool) : eval (true :: ρ) symOne = true := by
  simp [eval, symOne, evalN, evalN_zero]

theorem eval_symIn (ρ : List Bool) : (symIn ρ.length).map (eval (true :: ρ)) = ρ := by
  have h := map_evalN_unitsN (true :: ρ)
  simp only [List.length_cons, unitsN, List.map_cons, List.cons.injEq] at h
  simp only [symIn, List.map_map]
  simpa [Function.comp_def, eval] using h.2

/-! ## Transfer: a symbolic table equation holds for all Boolean inputs -/

/-- Generic transfer principle.  `f` and `g` are the two sides instantiated at `Sym` and at `Bool`,
each with the naturality fact that evaluation commutes with it (supplied by the `map_*` lemmas). -/
theorem transfer {n : Nat} (ρ : List Bool) (hρ : ρ.length = n)
    (fS gS : Sym → List (Sym) → List (Sym))
    (fB gB : Bool → List Bool → List Bool)
    (hf : ∀ o i, (fS o i).map (eval (true :: ρ)) = fB (eval (true :: ρ) o) (i.map (eval (true :: ρ))))
    (hg : ∀ o i, (gS o i).map (eval (true :: ρ)) = gB (eval (true :: ρ) o) (i.map (eval (true :: ρ))))
    (table : fS symOne (symIn n) = gS symOne (symIn n)) :
    fB true ρ = gB true ρ := by
  subst hρ
  have := congrArg (List.map (eval (true :: ρ))) table
  rwa [hf, hg, eval_symOne, eval_symIn] at this

/-- next-state networks: table `t` over inputs (register `k` bits ++ data) equals the serial CRC. -/
theorem transfer_step {n : Nat} (t : List (List Nat × Bool)) (poly : List Bool) (k : Nat)
    (table : net symOne (symIn n) t = serial poly ((symIn n).take k) ((symIn n).drop k))
    (ρ : List Bool) (hρ : ρ.length = n) :
    net true ρ t = serial poly (ρ.take k) (ρ.drop k) :=
  transfer ρ hρ (fun o i => net o i t) (fun _ i => serial poly (i.take k) (i.drop k))
    (fun o i => net o i t) (fun _ i => serial poly (i.take k) (i.drop k))
    (fun o i => map_net (evalHom _) o i t)
    (fun _ i => by rw [map_serial (evalHom _), List.map_take, List.map_drop])
    table

/-- whole-field networks (CRC5): table `t` over the message bits equals the complemented,
MSB-first register of the serial CRC started at all ones. -/
theorem transfer_field {n : Nat} (t : List (List Nat × Bool)) (poly : List Bool) (w : Nat)
    (table : net symOne (symIn n) t
              = fieldBits symOne (serial poly (List.replicate w symOne) (symIn n)))
    (ρ : List Bool) (hρ : ρ.length = n) :
    net true ρ t = fieldBits true (serial poly (List.replicate w true) ρ) :=
  transfer ρ hρ (fun o i => net o i t) (fun o i => fieldBits o (serial poly (List.replicate w o) i))
    (fun o i => net o i t) (fun o i => fieldBits o (serial poly (List.replicate w o) i))
    (fun o i => map_net (evalHom _) o i t)
    (fun o i => by rw [map_fieldBits (evalHom _), map_serial (evalHom _), List.map_replicate])
    table

/-- LFSR advance networks: table `t` over the register equals `k` serial advances. -/
theorem transfer_advance {n : Nat} (t : List (List Nat × Bool)) (poly : List Bool) (k : Nat)
    (table : net symOne (symIn n) t = advance poly k (symIn n))
    (ρ : List Bool) (hρ : ρ.length = n) :
    net true ρ t = advance poly k ρ :=
  transfer ρ hρ (fun o i => net o i t) (fun _ i => advance poly k i)
    (fun o i => net o i t) (fun _ i => advance poly k i)
    (fun o i => map_net (evalHom _) o i t)
    (fun _ i => map_advance (evalHom _) poly k i)
    table

/-- LFSR output networks: table `t` over the register equals the next `k` keystream bits. -/
theorem transfer_keystream {n : Nat} (t : List (List Nat × Bool)) (poly : List Bool) (k : Nat)
    (table : net symOne (symIn n) t = keystream poly k (symIn n))
    (ρ : List Bool) (hρ : ρ.length = n) :
    net true ρ t = keystream poly k ρ :=
  transfer ρ hρ (fun o i => net o i t) (fun _ i => keystream poly k i)
    (fun o i => net o i t) (fun _ i => keystream poly k i)
    (fun o i => map_net (evalHom _) o i t)
    (fun _ i => map_keystream (evalHom _) poly k i)
    table

/-! ## Connection with the reference definitions of `Core/Crc.lean` -/

theorem serialStep_bool (poly reg : List Bool) (d : Bool) :
    serialStep poly reg d = Crc.serialStep poly reg d := rfl

theorem serial_bool (poly init bits : List Bool) :
    serial poly init bits = Crc.serial poly init bits := rfl

theorem fieldBits_bool (reg : List Bool) : fieldBits true reg = reg.reverse.map (!·) := by
  simp [fieldBits, XorAlg.xor]

theorem length_serialStep {α : Type} [XorAlg α] (poly : List Bool) (reg : List α) (d : α)
    (h : reg.length = poly.length) (hp : 0 < poly.length) : (serialStep poly reg d).length = poly.length := by
  simp only [serialStep, List.length_zipWith, List.length_cons, List.length_dropLast]
  omega

theorem length_serial {α : Type} [XorAlg α] (poly : List Bool) (reg bits : List α)
    (h : reg.length = poly.length) (hp : 0 < poly.length) : (serial poly reg bits).length = poly.length := by
  induction bits generalizing reg with
  | nil => exact h
  | cons b bs ih => exact ih _ (length_serialStep poly reg b h hp)

theorem serial_append {α : Type} [XorAlg α] (poly : List Bool) (reg a b : List α) :
    serial poly reg (a ++ b) = serial poly (serial poly reg a) b := by
  simp [serial, List.foldl_append]

end LunaVerif.XorAlg
