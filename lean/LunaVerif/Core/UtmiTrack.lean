import LunaVerif.Core.Utmi
/-
Beside `Core/Utmi.lean` (C01, C02, C04, C06, C21): the *meaning* of "the packets received in a UTMI history", as a
small tracker over raw cycles, so that detector theorems can be stated for every raw history (no rendering
needed) and then transported to rendered packet lists by `packetsOf_renderAll`; and the facts about `render`
that the packet inductions of C02 and C06 share.

`Track` = the bytes of the packet in progress (`none` = line idle).  A packet starts in the cycle
`rx_active` is first seen high (that cycle carries no byte in a legal history), collects one byte
per `rx_valid` cycle, and completes in the first cycle with `rx_active` low.

Core Lean only.
-/
namespace LunaVerif.Utmi

abbrev Track := Option (List Nat)

def trackNext (cur : Track) (c : RxCycle) : Track :=
  match cur with
  | none => if c.active then some [] else none
  | some bs => if !c.active then none else if c.valid then some (bs ++ [c.data]) else some bs

/-- The packet (list of bytes) that completes in this cycle, if any. -/
def trackDone (cur : Track) (c : RxCycle) : Option (List Nat) :=
  match cur with
  | some bs => if !c.active then some bs else none
  | none => none

/-- Tracker state after the cycles `past` (most recent first), from an idle line. -/
def trackAfter : List RxCycle → Track
  | [] => none
  | c :: past => trackNext (trackAfter past) c

/-- All packets completed during a history (oldest first), starting from tracker state `cur`. -/
def packetsOf : Track → List RxCycle → List (List Nat)
  | _, [] => []
  | cur, c :: cs =>
    match trackDone cur c with
    | some p => p :: packetsOf (trackNext cur c) cs
    | none => packetsOf (trackNext cur c) cs

/-- Tracker state at the end of a history. -/
def trackEnd : Track → List RxCycle → Track
  | cur, [] => cur
  | cur, c :: cs => trackEnd (trackNext cur c) cs

theorem packetsOf_append (cur : Track) (a b : List RxCycle) :
    packetsOf cur (a ++ b) = packetsOf cur a ++ packetsOf (trackEnd cur a) b := by
  induction a generalizing cur with
  | nil => rfl
  | cons c cs ih =>
    simp only [List.cons_append, packetsOf, trackEnd]
    cases trackDone cur c <;> simp [ih]

theorem trackEnd_append (cur : Track) (a b : List RxCycle) :
    trackEnd cur (a ++ b) = trackEnd (trackEnd cur a) b := by
  induction a generalizing cur with
  | nil => rfl
  | cons c cs ih => simp only [List.cons_append, trackEnd, ih]

/-! ### Rendered packets -/

/-- a well-formed packet has a first lead-in cycle and a first idle cycle -/
theorem RxPacket.wf.cons {p : RxPacket} (h : p.wf) : ∃ d ds g gs, p.lead = d :: ds ∧ p.gap = g :: gs := by
  obtain ⟨lead, slots, gap⟩ := p
  match lead, gap, h with
  | d :: ds, g :: gs, _ => exact ⟨d, ds, g, gs, rfl, rfl⟩

theorem mem_waits (ws : List Nat) : ∀ i ∈ ws.map waitC, ∃ d, i = waitC d :=
  fun _ hi => (List.mem_map.1 hi).imp fun _ h => h.2.symm

theorem mem_idles (gs : List Nat) : ∀ i ∈ gs.map idleC, ∃ g, i = idleC g :=
  fun _ hi => (List.mem_map.1 hi).imp fun _ h => h.2.symm

theorem renderSlots_append (a b : List (Nat × List Nat)) :
    renderSlots (a ++ b) = renderSlots a ++ renderSlots b := by
  induction a with
  | nil => rfl
  | cons x xs ih => obtain ⟨y, ws⟩ := x; simp [renderSlots, ih]

theorem renderSlots_cons_append (b : Nat) (ws : List Nat) (rest : List (Nat × List Nat)) (t : List RxCycle) :
    renderSlots ((b, ws) :: rest) ++ t = byteC b :: (ws.map waitC ++ (renderSlots rest ++ t)) := by
  simp [renderSlots]

theorem renderSlots_active (sl : List (Nat × List Nat)) : ∀ i ∈ renderSlots sl, i.active = true := by
  induction sl with
  | nil => simp [renderSlots]
  | cons x rest ih =>
    obtain ⟨b, ws⟩ := x
    intro i hi
    simp only [renderSlots, List.mem_cons, List.mem_append, List.mem_map] at hi
    rcases hi with rfl | ⟨d, _, rfl⟩ | hi
    · rfl
    · rfl
    · exact ih i hi

/-- `rx_active` is high from the first lead-in cycle to the last byte slot -/
theorem slots_active (w : List Nat) (rest : List (Nat × List Nat)) :
    ∀ i ∈ w.map waitC ++ renderSlots rest, i.active = true := by
  intro i hi
  rcases List.mem_append.1 hi with h | h
  · obtain ⟨x, _, rfl⟩ := List.mem_map.1 h; rfl
  · exact renderSlots_active rest i h

theorem packetsOf_waits (bs : List Nat) (ws : List Nat) :
    packetsOf (some bs) (ws.map waitC) = [] ∧ trackEnd (some bs) (ws.map waitC) = some bs := by
  induction ws with
  | nil => exact ⟨rfl, rfl⟩
  | cons w ws ih => simpa [packetsOf, trackEnd, trackDone, trackNext, waitC] using ih

theorem packetsOf_slots (bs : List Nat) (slots : List (Nat × List Nat)) :
    packetsOf (some bs) (renderSlots slots) = [] ∧
    trackEnd (some bs) (renderSlots slots) = some (bs ++ slots.map (·.1)) := by
  induction slots generalizing bs with
  | nil => simp [renderSlots, packetsOf, trackEnd]
  | cons s rest ih =>
    obtain ⟨b, ws⟩ := s
    have hw := packetsOf_waits (bs ++ [b]) ws
    have hr := ih (bs ++ [b])
    simp only [renderSlots, packetsOf, trackEnd, trackDone, trackNext, byteC, Bool.not_true,
      Bool.false_eq_true, if_false, if_true, packetsOf_append, trackEnd_append, hw.1, hw.2, hr.1,
      hr.2, List.map_cons, List.append_assoc, List.singleton_append, List.nil_append, and_self]

theorem packetsOf_idles (g : List Nat) :
    packetsOf none (g.map idleC) = [] ∧ trackEnd none (g.map idleC) = none := by
  induction g with
  | nil => exact ⟨rfl, rfl⟩
  | cons w ws ih => simpa [packetsOf, trackEnd, trackDone, trackNext, idleC] using ih

/-- A well-formed rendered packet is seen by the tracker as exactly one packet with its bytes, and
leaves the line idle. -/
theorem packetsOf_render (p : RxPacket) (h : p.wf) :
    packetsOf none (render p) = [p.bytes] ∧ trackEnd none (render p) = none := by
  obtain ⟨lead, slots, gap⟩ := p
  obtain ⟨l, ls, g, gs, rfl, rfl⟩ := h.cons
  have h1 := packetsOf_waits [] ls
  have h2 := packetsOf_slots [] slots
  have h3 := packetsOf_idles gs
  simp only [render, List.map_cons, List.cons_append, packetsOf, trackEnd, trackDone, trackNext,
    waitC, if_true, packetsOf_append, trackEnd_append]
  simp only [h1.1, h1.2, h2.1, h2.2, List.nil_append, idleC, Bool.not_false, if_true]
  simp [h3.1, h3.2, RxPacket.bytes]

theorem packetsOf_renderAll (ps : List RxPacket) (h : ∀ p ∈ ps, p.wf) :
    packetsOf none (renderAll ps) = ps.map (·.bytes) ∧ trackEnd none (renderAll ps) = none := by
  induction ps with
  | nil => exact ⟨rfl, rfl⟩
  | cons p ps ih =>
    have hp := packetsOf_render p (h p (by simp))
    have hr := ih (fun q hq => h q (by simp [hq]))
    simp only [renderAll, List.flatMap_cons] at hr ⊢
    rw [packetsOf_append, trackEnd_append, hp.1, hp.2, hr.1, hr.2]
    simp

end LunaVerif.Utmi
