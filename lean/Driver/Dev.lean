import LunaVerif.Core.Proto
import LunaVerif.Model.Device.ControlM
open LunaVerif LunaVerif.Proto LunaVerif.Device

/-!
Line-protocol driver of the event-level device model (shared by C07, C08, C10 and later device-level
properties; encoding = harness/common/devharness.py `encode_event`).

config line : `# maxPacket posBits nExtra (rtype request)* nDesc (type index len byte*)*`
input line  : `fKind fPid fLen  evKind …`     (foreign response first: 0 none / 1 handshake / 2 data)
              evKind 0 token pid addr ep | 1 sof frame | 2 data pid crcOk len byte* | 3 handshake pid
                     4 malformed len byte* | 5 quiet | 6 busReset | 7 produce ep last len byte*
                     8 consume ep n | 9 setSignal ep v
output line : `legal address configuration rKind rPid rLen byte*`
              (`legal` = the event satisfies `legalEventM` in the state before it)

The model stepped is `Device.stepM` (Model/Device/ControlM.lean): `Device.step` with the GET_DESCRIPTOR advance
`start_position += maxPacket` (the `#` line's first integer = the control endpoint's max_packet_size of the case) and
the LegalHost ghost "short packet" compared with `maxPacket`.  For `maxPacket = 64` it IS `Device.step` /
`Device.legalEvent` (Lemmas/DeviceStepsM.lean `stepM_eq_step`, Lemmas/C07MpsLegal.lean `legalEventM_64`).
-/

def parseDescs : Nat → List Nat → List (Nat × Nat × List Nat)
  | 0, _ => []
  | n + 1, t :: i :: len :: rest => (t, i, rest.take len) :: parseDescs n (rest.drop len)
  | _, _ => []

def parseExtra : Nat → List Nat → List ExtraHandler × List Nat
  | 0, rest => ([], rest)
  | n + 1, t :: r :: rest => let (hs, rest') := parseExtra n rest; (⟨t, r⟩ :: hs, rest')
  | _, rest => ([], rest)

def parseConfig (xs : List Nat) : DevConfig :=
  match xs with
  | mp :: pb :: nx :: rest =>
    let (ex, rest') := parseExtra nx rest
    match rest' with
    | nd :: ds => { descriptors := parseDescs nd ds, maxPacket := mp, posBits := pb, extra := ex }
    | [] => { maxPacket := mp, posBits := pb, extra := ex }
  | _ => {}

def parseEvent (xs : List Nat) : HostEvent :=
  match xs with
  | 0 :: pid :: addr :: ep :: _ => .token pid addr ep
  | 1 :: f :: _ => .sof f
  | 2 :: pid :: ok :: len :: bytes => .data pid (bytes.take len) (n2b ok)
  | 3 :: pid :: _ => .handshake pid
  | 4 :: len :: bytes => .malformed (bytes.take len)
  | 5 :: _ => .quiet
  | 6 :: _ => .busReset
  | 7 :: ep :: last :: len :: bytes => .produce ep (bytes.take len) (n2b last)
  | 8 :: ep :: n :: _ => .consume ep n
  | 9 :: ep :: v :: _ => .setSignal ep v
  | _ => .quiet

def parseStim (xs : List Nat) : Stim :=
  match xs with
  | fk :: fp :: fl :: rest =>
    let f : Resp := if fk = 1 then .hs fp else if fk = 2 then .data fp (List.replicate fl 0) else .none
    { ev := parseEvent rest, foreign := f }
  | _ => { ev := .quiet }

def encodeResp : Resp → List Nat
  | .none => [0, 0, 0]
  | .hs p => [1, p, 0]
  | .data p b => [2, p, b.length] ++ b

def main : IO Unit :=
  runDriver (σ := DevConfig × DevState)
    (fun cfg => (parseConfig cfg, init))
    (fun (c, s) row =>
      let x := parseStim row
      let legal := legalEventM c s x
      let (s', r) := stepM c s x
      ((c, s'), [b2n legal, s'.address, s'.config] ++ encodeResp r))
